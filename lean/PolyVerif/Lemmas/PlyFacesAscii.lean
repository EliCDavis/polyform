/-
  C08 — the reader's ASCII loops over the REFERENCE text encoding (`PlySpec.specBody`, format ascii).  Face lines: the
  loop is `PlyFaces.faceLoop` as in the binary case, only the reading of one list differs (`goA_list`, `goA_lists`);
  indices are integers (no float-text law needed), `texcoord` is parsed at 64 bits and comes back exactly under
  `GoFloatText.parse64_showF`.  Vertex lines: under the named law bundles `GoFloatText` and `SpecIntText` (what
  `strconv.ParseFloat(·, 32)` does to the decimal text of a 32-bit integer).  Core Lean only.
-/
import PolyVerif.Lemmas.PlyAscii
import PolyVerif.Lemmas.PlyFaces

namespace PolyVerif
namespace PlyFacesAscii
open Ply PlySpec PlyLemmas PlyCompose PlyHeader PlyAscii PlyFaces PlyFacesTex

variable {α : Type}

/-- the tokens of one face line -/
def faceToksRef (c : Coding α) (fe : SpecFaceElem α) (fc : SpecFace α) : List Bytes :=
  (fe.lists.map (faceListAscii c fc)).flatten

/-- the face lines of the reference text encoding -/
def faceLines (c : Coding α) (fe : SpecFaceElem α) (faces : List (SpecFace α)) : List Bytes :=
  faces.map (fun fc => intercalate sp (faceToksRef c fe fc))

theorem parseInt32_showNat (n : Nat) (hn : n < 2 ^ 31) : parseInt32 (showNat n) = some (n : Int) := by
  rw [← showInt_nat]; exact parseInt32_showInt n hn

theorem mapM_parseInt32 (vs : List Nat) (h : ∀ v ∈ vs, v < 2 ^ 31) :
    (vs.map showNat).mapM parseInt32 = some (vs.map (fun v => ((v : Nat) : Int))) := by
  rw [List.mapM_map]; exact ListM.mapM_pure fun v hv => parseInt32_showNat v (h v hv)

theorem mapM_parseF64 (c : Coding α) (uv : List α) (h : ∀ v ∈ uv, c.parseF64 (c.showF v) = some v) :
    (uv.map c.showF).mapM c.parseF64 = some uv := by
  rw [List.mapM_map]
  exact (ListM.mapM_pure h).trans (congrArg some (List.map_id uv))

section
variable (c : Coding α) (fs : FaceScan) (fc : SpecFace α)

/-- ASCII face-property loop, one step: an index list of more than 4 entries is an ERROR -/
theorem goA_idx_long (i : Nat) (hi : fs.idxProp = some i)
    (p : Bytes × SType × SType) (vs : List Nat) (hn : vs.length < 2 ^ 31) (h4 : 4 < vs.length)
    (tl : List ((Bytes × SType × SType) × Nat)) (points : Int) (bufs : FaceBufs α) (rest : List Bytes) :
    readFaceAscii.go c fs ((p, i) :: tl) points bufs (showNat vs.length :: (vs.map showNat ++ rest)) = .error .err := by
  have hc := parseInt32_showNat vs.length hn
  simp [readFaceAscii.go, hc, hi, h4]

/-- ASCII face-property loop, one step: a list the reader does not look at -/
theorem goA_skip (i : Nat) (hi : fs.idxProp ≠ some i) (hti : fs.texProp ≠ some i)
    (p : Bytes × SType × SType) (xs : List Int) (hn : xs.length < 2 ^ 31)
    (tl : List ((Bytes × SType × SType) × Nat)) (points : Int) (bufs : FaceBufs α) (rest : List Bytes) :
    readFaceAscii.go c fs ((p, i) :: tl) points bufs (showNat xs.length :: (xs.map showInt ++ rest))
      = readFaceAscii.go c fs tl points bufs rest := by
  have hc := parseInt32_showNat xs.length hn
  have hneg : ¬ (((xs.length : Nat) : Int) < 0) := by omega
  simp [readFaceAscii.go, hc, hi, hti]
  rw [if_neg hneg, if_neg (by omega)]

/-- list `x` of face `fc`, declared at position `i`, is one the ASCII reader takes: located by the scan, short enough
for its buffer, 31-bit vertex numbers, texture coordinates whose text parses back -/
structure ListOKA (x : ListDecl) (i : Nat) : Prop where
  found : Found fs x i
  len : listLen fc x.kind < 2 ^ 31
  idx : x.kind = 0 → fc.verts.length ≤ 4 ∧ ∀ v ∈ fc.verts, v < 2 ^ 31
  tex : x.kind = 1 → fc.uv.length ≤ 8 ∧ ∀ v ∈ fc.uv, c.parseF64 (c.showF v) = some v

/-- one step, whatever the kind and position of the list: the same effect as in the binary loop (`listEffect`), the
texture coordinates coming back as stored -/
theorem goA_list (x : ListDecl) (i : Nat) (h : ListOKA c fs fc x i)
    (tl : List ((Bytes × SType × SType) × Nat)) (st : Int × FaceBufs α) (rest : List Bytes) :
    readFaceAscii.go c fs ((x.prop, i) :: tl) st.1 st.2 (faceListAscii c fc x ++ rest)
      = readFaceAscii.go c fs tl (listEffect fc.verts fc.uv st x.kind).1 (listEffect fc.verts fc.uv st x.kind).2 rest := by
  obtain ⟨k, name, ct, it, al⟩ := x
  obtain ⟨⟨hi, ht⟩, hn, hidx, htex⟩ := h
  simp only [ListDecl.kind] at hi ht hn hidx htex
  rcases k with _ | _ | k
  · obtain ⟨h4, hv⟩ := hidx rfl
    have hc := parseInt32_showNat fc.verts.length (by omega)
    have hneg : ¬ (((fc.verts.length : Nat) : Int) < 0) := by omega
    have hT : fs.texProp ≠ some i := fun h => by simpa using ht.mp h
    simp [faceListAscii, listEffect, readFaceAscii.go, hc, hi.mpr rfl, hT, mapM_parseInt32 fc.verts hv, h4,
      show ¬ (4 < fc.verts.length) by omega]
    rw [if_neg hneg, if_neg (by omega)]
  · obtain ⟨h8, hp⟩ := htex rfl
    have hc := parseInt32_showNat fc.uv.length (by omega)
    have hneg : ¬ (((fc.uv.length : Nat) : Int) < 0) := by omega
    have hI : fs.idxProp ≠ some i := fun h => by simpa using hi.mp h
    simp [faceListAscii, listEffect, readFaceAscii.go, hc, hI, ht.mpr rfl, mapM_parseF64 c fc.uv hp, h8,
      show ¬ (8 < fc.uv.length) by omega]
    rw [if_neg hneg, if_neg (by omega)]
  · simp only [faceListAscii, List.cons_append, listEffect]
    exact goA_skip c fs i (fun h => by simpa using hi.mp h) (fun h => by simpa using ht.mp h) _ fc.extra hn tl _ _ rest

/-- THE ASCII PROPERTY LOOP over any run of list declarations the scan has located, from position `k` on -/
theorem goA_lists :
    ∀ (ls : List ListDecl) (k : Nat), (∀ p ∈ ls.zipIdx k, ListOKA c fs fc p.1 p.2) →
      ∀ (st : Int × FaceBufs α) (rest : List Bytes),
        readFaceAscii.go c fs ((ls.map ListDecl.prop).zipIdx k) st.1 st.2 ((ls.map (faceListAscii c fc)).flatten ++ rest)
          = .ok (listsEffect fc.verts fc.uv (ls.map ListDecl.kind) st)
  | [], _, _, _, _ => rfl
  | x :: ls, k, h, st, rest => by
    simp only [List.map_cons, List.zipIdx_cons, List.flatten_cons, List.append_assoc, listsEffect, List.foldl_cons]
    rw [goA_list c fs fc x k (h (x, k) (by simp [List.zipIdx_cons]))]
    exact goA_lists ls (k + 1) (fun p hp => h p (by simp [List.zipIdx_cons, hp])) _ rest

/-- … and with an index list of more than 4 entries among them (no `texcoord`) the loop fails (`Int`: "can't fit …", an
error here, not ignored as in binary) -/
theorem goA_lists_long (h4 : 4 < fc.verts.length) :
    ∀ (ls : List ListDecl) (k : Nat), (∀ p ∈ ls.zipIdx k, Found fs p.1 p.2 ∧ listLen fc p.1.kind < 2 ^ 31 ∧ p.1.kind ≠ 1) →
      (∃ x ∈ ls, x.kind = 0) → ∀ (points : Int) (bufs : FaceBufs α) (rest : List Bytes),
        readFaceAscii.go c fs ((ls.map ListDecl.prop).zipIdx k) points bufs ((ls.map (faceListAscii c fc)).flatten ++ rest)
          = .error .err
  | [], _, _, h0, _, _, _ => by simp at h0
  | (k', name, ct, it, al) :: ls, k, h, h0, points, bufs, rest => by
    obtain ⟨⟨hi, ht⟩, hn, h1⟩ := h ((k', name, ct, it, al), k) (by simp [List.zipIdx_cons])
    simp only [ListDecl.kind] at hi ht hn h1
    simp only [List.map_cons, List.zipIdx_cons, List.flatten_cons, List.append_assoc]
    rcases k' with _ | _ | k'
    · simp only [faceListAscii, List.cons_append]
      exact goA_idx_long c fs k (hi.mpr rfl) _ fc.verts hn h4 _ points bufs _
    · exact absurd rfl h1
    · simp only [faceListAscii, List.cons_append]
      rw [goA_skip c fs k (fun h => by simpa using hi.mp h) (fun h => by simpa using ht.mp h) _ fc.extra hn]
      refine goA_lists_long h4 ls (k + 1) (fun p hp => h p (by simp [List.zipIdx_cons, hp])) ?_ points bufs rest
      obtain ⟨x, hx, hx0⟩ := h0
      rcases List.mem_cons.mp hx with rfl | hx
      · simp at hx0
      · exact ⟨x, hx, hx0⟩

end

section
variable (c : Coding α) (fe : SpecFaceElem α)

/-- ONE FACE LINE of the reference encoding (≤ 4 indices, ≤ 8 texture coordinates) under the reader's property loop -/
theorem readFaceAscii_ref (fc : SpecFace α) (hok : FaceEncOK fe fc)
    (h4 : fc.verts.length ≤ 4) (htex : fe.tex.isSome → fc.uv.length ≤ 8 ∧ ∀ v ∈ fc.uv, c.parseF64 (c.showF v) = some v)
    (bufs : FaceBufs α) :
    readFaceAscii c (lpOf fe) (findFaceProps (lpOf fe)) bufs (faceToksRef c fe fc)
      = .ok ((fc.verts.length : Nat), afterFace fe.tex.isSome fc.verts fc.uv bufs) := by
  have := goA_lists c (findFaceProps (lpOf fe)) fc fe.lists 0 (fun p hp => ?_) (-1, bufs) []
  · rwa [List.append_nil, listsEffect_lists fe fc.verts fc.uv h4 (fun h => (htex h).1)] at this
  have hf := found_lists fe p hp
  have := hok.extra
  rcases mem_lists fe p.1 (List.fst_mem_of_mem_zipIdx hp) with hx | ⟨tt, htt, hx⟩ | hx <;> rw [hx] at hf ⊢
  · exact ⟨hf, hok.cnt, fun _ => ⟨h4, hok.vert⟩, fun h => by simp [ListDecl.kind] at h⟩
  · have h := htex (by simp [htt])
    exact ⟨hf, by simp only [listLen]; omega, fun h => by simp [ListDecl.kind] at h, fun _ => h⟩
  · exact ⟨hf, by simp only [listLen]; omega, fun h => by simp [ListDecl.kind] at h, fun h => by simp [ListDecl.kind] at h⟩

/-- an index list with more than 4 entries is an ERROR in ASCII -/
theorem readFaceAscii_ref_long (htex : fe.tex = none) (fc : SpecFace α)
    (hok : FaceEncOK fe fc) (h4 : 4 < fc.verts.length) (bufs : FaceBufs α) :
    readFaceAscii c (lpOf fe) (findFaceProps (lpOf fe)) bufs (faceToksRef c fe fc) = .error .err := by
  have := goA_lists_long c (findFaceProps (lpOf fe)) fc h4 fe.lists 0 ?_ ?_ (-1) bufs []
  · rwa [List.append_nil] at this
  · intro p hp
    have hf := found_lists fe p hp
    have := hok.extra
    rcases mem_lists fe p.1 (List.fst_mem_of_mem_zipIdx hp) with hx | ⟨tt, htt, hx⟩ | hx
    · rw [hx] at hf ⊢; exact ⟨hf, hok.cnt, by simp⟩
    · rw [htex] at htt; cases htt
    · rw [hx] at hf ⊢; exact ⟨hf, by simp only [listLen]; omega, by simp⟩
  · obtain ⟨short, ct, it, al, tex, tf, ex, faces⟩ := fe
    rcases ex with _ | _ | _ <;> cases tf <;> rcases tex with _ | ⟨tct, tit⟩ <;> simp [SpecFaceElem.lists]

theorem lists_ne : fe.lists ≠ [] := by
  obtain ⟨short, ct, it, al, tex, tf, ex, faces⟩ := fe
  rcases ex with _ | _ | _ <;> cases tf <;> cases tex <;> simp [SpecFaceElem.lists]

/-- the tokens of a face line are tokens, given that the texts of its texture coordinates (if it has any) are -/
theorem faceToksRef_tok (fc : SpecFace α)
    (ht : fe.tex.isSome → ∀ v ∈ fc.uv, Tok (c.showF v)) :
    faceToksRef c fe fc ≠ [] ∧ ∀ t ∈ faceToksRef c fe fc, Tok t := by
  have hx : ∀ x ∈ fe.lists, faceListAscii c fc x ≠ [] ∧ ∀ t ∈ faceListAscii c fc x, Tok t := by
    intro x hx
    rcases mem_lists fe x hx with rfl | ⟨tt, htt, rfl⟩ | rfl <;> refine ⟨by simp [faceListAscii], ?_⟩ <;> intro t ht' <;>
      simp only [faceListAscii, List.mem_cons, List.mem_map] at ht' <;> rcases ht' with rfl | ⟨v, hv, rfl⟩
    · exact showNat_tok _
    · exact showNat_tok _
    · exact showNat_tok _
    · exact ht (by simp [htt]) v hv
    · exact showNat_tok _
    · exact showInt_tok_int _
  constructor
  · intro h0
    simp only [faceToksRef, List.flatten_eq_nil_iff, List.mem_map] at h0
    cases hl : fe.lists with
    | nil => exact lists_ne fe hl
    | cons x xs =>
      have hm : x ∈ fe.lists := by rw [hl]; simp
      exact (hx x hm).1 (h0 _ ⟨x, hm, rfl⟩)
  · intro t ht'
    simp only [faceToksRef, List.mem_flatten, List.mem_map] at ht'
    obtain ⟨l, ⟨x, hm, rfl⟩, htl⟩ := ht'
    exact (hx x hm).2 t htl

end

theorem faceLines_pline_of_tok (c : Coding α) (fe : SpecFaceElem α) (faces : List (SpecFace α))
    (ht : fe.tex.isSome → ∀ v, Tok (c.showF v)) : ∀ l ∈ faceLines c fe faces, PLine l := by
  intro l hl
  simp only [faceLines, List.mem_map] at hl
  obtain ⟨fc, _, rfl⟩ := hl
  obtain ⟨hne, htk⟩ := faceToksRef_tok c fe fc (fun h v _ => ht h v)
  exact (token_line _ hne htk).1

theorem faceLines_pline (c : Coding α) (fe : SpecFaceElem α) (htex : fe.tex = none) (faces : List (SpecFace α)) :
    ∀ l ∈ faceLines c fe faces, PLine l :=
  faceLines_pline_of_tok c fe faces (fun h => by simp [htex] at h)

/-- one face line off the non-empty lines that remain -/
def lineStep (c : Coding α) (props : List (Bytes × SType × SType)) (fs : FaceScan) (b : FaceBufs α) :
    List Bytes → R (Int × FaceBufs α × List Bytes)
  | [] => .error .err
  | l :: ls => do
    let (points, b') ← readFaceAscii c props fs b (fields l)
    pure (points, b', ls)

theorem readFacesAscii_eq (c : Coding α) (props : List (Bytes × SType × SType)) (fs : FaceScan) :
    ∀ (n : Nat) (b : FaceBufs α) (ls : List Bytes),
      readFacesAscii c props fs n b ls = faceLoop (lineStep c props fs) fs.texProp.isSome n b ls
  | 0, _, _ => rfl
  | _ + 1, _, [] => rfl
  | n + 1, b, l :: ls => by
    simp only [readFacesAscii, faceLoop, lineStep, readFacesAscii_eq c props fs n]
    cases readFaceAscii c props fs b (fields l) <;> rfl

/-- the texts of the texture coordinates are tokens that parse back, when the face element has any -/
def TexText (c : Coding α) (fe : SpecFaceElem α) : Prop :=
  fe.tex.isSome → ∀ v, Tok (c.showF v) ∧ c.parseF64 (c.showF v) = some v

section
variable (c : Coding α) (fe : SpecFaceElem α)

theorem foldr_faceLines (s : List Bytes) : ∀ (faces : List (SpecFace α)),
    faces.foldr (fun fc s => intercalate sp (faceToksRef c fe fc) :: s) s = faceLines c fe faces ++ s
  | [] => rfl
  | fc :: faces => by simp [faceLines, foldr_faceLines s faces]

theorem lineStep_ref (hT : TexText c fe) (fc : SpecFace α) (b : FaceBufs α)
    (s : List Bytes) :
    lineStep c (lpOf fe) (findFaceProps (lpOf fe)) b (intercalate sp (faceToksRef c fe fc) :: s) = (do
      let (points, b') ← readFaceAscii c (lpOf fe) (findFaceProps (lpOf fe)) b (faceToksRef c fe fc)
      pure (points, b', s)) := by
  obtain ⟨hne, htk⟩ := faceToksRef_tok c fe fc (fun h v _ => (hT h v).1)
  simp only [lineStep, (token_line _ hne htk).2]

theorem lineStep_fan (hT : TexText c fe) (fc : SpecFace α) (h : FanFace fe fc) :
    ReadsFan (lineStep c (lpOf fe) (findFaceProps (lpOf fe))) fe.tex.isSome
      (fun fc s => intercalate sp (faceToksRef c fe fc) :: s) SpecFace.uv fc := by
  obtain ⟨hok, htq, huv⟩ := h
  have h4 : fc.verts.length ≤ 4 := by rcases htq with h | h <;> omega
  refine ⟨htq, huv, fun b s => ?_⟩
  rw [lineStep_ref c fe hT, readFaceAscii_ref c fe fc hok h4 (fun h => ⟨by have := huv h; omega, fun v _ => (hT h v).2⟩)]
  rfl

end

/-- NAMED LAW (hypothesis of the ASCII theorems, next to `GoFloatText`): `strconv.ParseFloat(s, 32)` accepts the decimal
text of every 32-bit integer; `imgZ i` is whatever it returns (for Go: the float32 nearest to `i`, NOT `i` itself
beyond 2²⁴ — known finding ascii-float32-precision) -/
structure SpecIntText (c : Coding α) where
  /-- the integers the law speaks about (for Go: −2³¹ ≤ i < 2³¹, the values of a PLY `int`) -/
  inRangeZ : Int → Prop
  imgZ : Int → α
  parse32_showInt : ∀ i : Int, inRangeZ i → c.parseF (showInt i) = some (imgZ i)

/-- what the ASCII reader makes of one datum's text (before the 8-bit normalisation of the reader that claims it) -/
def datumParsed (c : Coding α) (L : GoFloatText c) (Z : SpecIntText c) : Datum α → α
  | .u8 b => c.ofInt b.toNat
  | .i32 i => Z.imgZ i
  | .f32 x => L.imgF x
  | .f64 x => L.imgF x

/-- the datum is inside what the law bundle speaks about -/
def Datum.InRange (c : Coding α) (L : GoFloatText c) (Z : SpecIntText c) : Datum α → Prop
  | .u8 _ => True
  | .i32 i => Z.inRangeZ i
  | .f32 x => L.inRange x
  | .f64 x => L.inRange x

/-- what the located ASCII readers produce for one record -/
def rowOfS (c : Coding α) (L : GoFloatText c) (Z : SpecIntText c) (bl : List (Built × List Nat)) (r : List (Datum α)) :
    List (List α) :=
  bl.map (fun p => p.2.filterMap (fun i => (r[i]?).map (fun d =>
    if p.1.ty = some .uchar then c.norm8 p.1.names.length (datumParsed c L Z d) else datumParsed c L Z d)))

section
variable (c : Coding α) (L : GoFloatText c) (Z : SpecIntText c)

theorem datum_ascii_tok (L : GoFloatText c) (d : Datum α) : Tok (Datum.ascii c d) := by
  cases d with
  | u8 b => exact showNat_tok _
  | i32 i => exact showInt_tok_int i
  | f32 x => exact L.tokF x
  | f64 x => exact L.tokF x

theorem datum_ascii_parse (d : Datum α)
    (hr : Datum.InRange c L Z d) : c.parseF (Datum.ascii c d) = some (datumParsed c L Z d) := by
  cases d with
  | u8 b => exact L.parse32_showU8 b.toNat b.toNat_lt
  | i32 i => exact Z.parse32_showInt i hr
  | f32 x => exact L.parse32_showF x hr
  | f64 x => exact L.parse32_showF x hr

theorem readAscii_spec (tys : List SType) (r : List (Datum α))
    (hty : r.map Datum.ty = tys) (hr : ∀ d ∈ r, Datum.InRange c L Z d) (b : Built) (idxs : List Nat)
    (hl : LocatedA tys b idxs) :
    b.readAscii c (r.map (Datum.ascii c)) = .ok (idxs.filterMap (fun i => (r[i]?).map (fun d =>
      if b.ty = some .uchar then c.norm8 b.names.length (datumParsed c L Z d) else datumParsed c L Z d))) := by
  have hlen : r.length = tys.length := by rw [← hty]; simp
  refine readAscii_of_cols c b idxs hl.offs _ _ (fun i hi => ?_)
  obtain ⟨hit, _⟩ := hl.inr i hi
  have hir : i < r.length := by omega
  exact ⟨datumParsed c L Z r[i], by
    simp [colRead, List.getElem?_eq_getElem hir, datum_ascii_parse c L Z _ (hr _ (List.getElem_mem hir))],
    by simp [List.getElem?_eq_getElem hir]⟩

/-- the vertex lines of the reference text encoding -/
def vertLines (verts : List (List (Datum α))) : List Bytes :=
  verts.map (fun r => intercalate sp (r.map (Datum.ascii c)))

/-- a vertex line is a clean line that splits back into the texts of its data -/
theorem vertLine_fields (L : GoFloatText c) (r : List (Datum α)) (hne : r ≠ []) :
    PLine (intercalate sp (r.map (Datum.ascii c))) ∧ fields (intercalate sp (r.map (Datum.ascii c))) = r.map (Datum.ascii c) :=
  token_line _ (by simpa using hne) fun t ht => by
    obtain ⟨d, _, rfl⟩ := List.mem_map.mp ht
    exact datum_ascii_tok c L d

theorem vertLines_pline (L : GoFloatText c) (verts : List (List (Datum α))) (hne : ∀ r ∈ verts, r ≠ []) :
    ∀ l ∈ vertLines c verts, PLine l := by
  intro l hl
  obtain ⟨r, hr, rfl⟩ := List.mem_map.mp hl
  exact (vertLine_fields c L r (hne r hr)).1

/-- THE ASCII VERTEX BLOCK of the reference encoding under the reader's vertex loop: any order / type mix of the
properties, any located readers -/
theorem spec_vertex_block_ascii (tys : List SType) (htys : tys ≠ [])
    (bl : List (Built × List Nat)) (hbl : ∀ p ∈ bl, LocatedA tys p.1 p.2)
    (verts : List (List (Datum α))) (rest : List Bytes) (hty : ∀ r ∈ verts, r.map Datum.ty = tys)
    (hrg : ∀ r ∈ verts, ∀ d ∈ r, Datum.InRange c L Z d) :
    readVertsAscii c tys.length (bl.map (·.1)) verts.length (vertLines c verts ++ rest)
      = .ok (verts.map (rowOfS c L Z bl), rest) := by
  refine readVertsAscii_block c _ _ (rowOfS c L Z bl) verts _ rest (All2.of_map _ _ (fun r hr => ?_))
  have hlen : r.length = tys.length := by rw [← hty r hr]; simp
  rw [(vertLine_fields c L r (fun h0 => htys (by rw [← hty r hr, h0]; rfl))).2]
  exact ⟨by simp [hlen], mapM_readers _ _ bl fun p hp => readAscii_spec c L Z tys r (hty r hr) (hrg r hr) p.1 p.2 (hbl p hp)⟩

end

end PlyFacesAscii

namespace PlyFacesTexAscii
open Ply PlySpec PlyFaces

variable {α : Type}

/-- per-corner texture coordinates the file denotes (exactly `meaning`'s) -/
def texUVA (faces : List (SpecFace α)) : List (List α) := (faces.map (fun fc => fanUV fc.uv)).flatten

theorem fanUVs_uv (faces : List (SpecFace α)) : fanUVs true SpecFace.uv faces = texUVA faces := by
  simp [fanUVs, texUVA]

end PlyFacesTexAscii
end PolyVerif
