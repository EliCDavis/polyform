/-
  From the arrays the reader collected to `RoundTrips`, for every encoding: the columns the built readers accumulate,
  `UpdateMesh`, the unweld when per-corner texture coordinates were read.  The binary round trip at the parsed-header
  interface is the first instance (`readback_bin`); the ASCII one is in `PlyAscii`.  Core Lean only.
-/
import PolyVerif.Lemmas.PlyCompose
import PolyVerif.Lemmas.PlyNames
namespace PolyVerif
namespace PlyCompose
open Ply PlyLemmas PlyHeader
variable {α : Type}

theorem gather_range (β : Type) (data : List β) :
    gather data ((List.range data.length).map Int.ofNat) = .ok data := by
  have key : ∀ (k : Nat) (pre suf : List β), data = pre ++ suf → k = pre.length →
      gather data (((List.range' k suf.length)).map Int.ofNat) = .ok suf := by
    intro k pre suf
    induction suf generalizing k pre with
    | nil => intro _ _; simp [gather, pure, Except.pure]
    | cons x suf ih =>
      intro hd hk
      have hi := ih (k + 1) (pre ++ [x]) (by simp [hd]) (by simp [hk])
      simp only [gather] at hi ⊢
      simp only [List.length_cons, List.range'_succ, List.map_cons, List.mapM_cons]
      have hlook : data.toArray[(Int.ofNat k).toNat]? = some x := by
        simp [hd, hk]
      have hneg : ¬ (Int.ofNat k < 0) := by simp
      simp only [hneg, if_false, hlook, hi, bind, Except.bind, pure, Except.pure]
  have := key 0 [] data rfl rfl
  simpa [List.range_eq_range'] using this

/-- `meshops.Unweld` when every attribute array can be indexed by every index: every corner becomes its own vertex -/
theorem unweld_ok (m : MeshVal α) (g : Attr α → List (List α))
    (hg : ∀ a ∈ m.attrs, gather a.data m.indices = .ok (g a)) :
    unweld m = .ok { m with indices := (List.range m.indices.length).map Int.ofNat,
                            attrs := m.attrs.map (fun a => ⟨a.dim, a.name, g a⟩) } := by
  have : m.attrs.mapM (fun a => do
      let d ← gather a.data m.indices
      pure (⟨a.dim, a.name, d⟩ : Attr α)) = .ok (m.attrs.map (fun a => ⟨a.dim, a.name, g a⟩)) := by
    apply ListM.mapM_pure
    intro a ha
    simp [hg a ha, bind, Except.bind, pure, Except.pure]
  simp only [unweld]
  rw [this]
  rfl

theorem find_map_data (attrs : List (Attr α)) (g : Attr α → List (List α)) (d : Nat) (n : Bytes) :
    (attrs.map (fun a => (⟨a.dim, a.name, g a⟩ : Attr α))).find? (fun a => decide (a.dim = d ∧ a.name = n))
      = (attrs.find? (fun a => decide (a.dim = d ∧ a.name = n))).map (fun a => ⟨a.dim, a.name, g a⟩) := by
  induction attrs with
  | nil => rfl
  | cons a as ih =>
    simp only [List.map_cons, List.find?_cons]
    by_cases h : a.dim = d ∧ a.name = n
    · simp [h]
    · simp only [h, decide_false, Bool.false_eq_true, if_false]
      exact ih


theorem set_attrs_len (m : MeshVal α) (d : Nat) (n : Bytes) (data : List (List α)) (k : Nat)
    (hm : ∀ a ∈ m.attrs, a.data.length = k) (hd : data.length = k) :
    ∀ a ∈ (m.set d n data).attrs, a.data.length = k := by
  intro a ha
  simp only [MeshVal.set] at ha
  split at ha
  · exact hm a (List.mem_filter.mp ha).1
  · simp only [List.mem_append, List.mem_cons, List.not_mem_nil, or_false] at ha
    rcases ha with ha | rfl
    · exact hm a (List.mem_filter.mp ha).1
    · exact hd

/-- every attribute array of the assembled mesh has one entry per vertex record -/
theorem applyColumns_len (base : MeshVal α) (built : List Built) (rows : List (List (List α)))
    (hb : ∀ a ∈ base.attrs, a.data.length = rows.length) :
    ∀ a ∈ (applyColumns base built rows).attrs, a.data.length = rows.length := by
  rw [applyColumns_eq]
  exact foldl_inv (fun m => ∀ a ∈ m.attrs, a.data.length = rows.length) _ _ base
    (fun m x _ h => set_attrs_len m _ _ _ _ h (List.length_map _)) hb

theorem gather_eq_mapM (β : Type) (data : List β) (idx : List Int) : gather data idx = idx.mapM (atIdx data) := by
  simp only [gather]
  congr 1
  funext i
  simp only [atIdx, List.getElem?_toArray]

theorem mapM_append_ok {ι β : Type} (f : ι → R β) : ∀ (xs ys : List ι) (out : List β), (xs ++ ys).mapM f = .ok out →
    ∃ o1 o2, xs.mapM f = .ok o1 ∧ ys.mapM f = .ok o2 ∧ out = o1 ++ o2 := by
  intro xs
  induction xs with
  | nil => intro ys out h; exact ⟨[], out, rfl, h, rfl⟩
  | cons x xs ih =>
    intro ys out h
    obtain ⟨y, out', rfl, hx, hrest⟩ := mapM_ok_cons f x (xs ++ ys) out h
    obtain ⟨o1, o2, h1, h2, rfl⟩ := ih ys out' hrest
    refine ⟨y :: o1, o2, ?_, h2, rfl⟩
    rw [List.mapM_cons, hx, h1]; rfl

theorem gather_length {β : Type} (data : List β) (idx : List Int) (out : List β) (h : gather data idx = .ok out) :
    out.length = idx.length := by
  rw [gather_eq_mapM] at h
  exact (mapM_ok_forall₂ _ _ _ h).length_eq

def unweldedOf (m : MeshVal α) (g : Attr α → List (List α)) : MeshVal α :=
  { m with indices := (List.range m.indices.length).map Int.ofNat,
           attrs := m.attrs.map (fun a => ⟨a.dim, a.name, g a⟩) }

theorem applyColumns_topo (base : MeshVal α) (built : List Built) (rows : List (List (List α))) :
    (applyColumns base built rows).topo = base.topo ∧ (applyColumns base built rows).indices = base.indices := by
  rw [applyColumns_eq]; exact foldl_col_topo rows _ base

theorem assemble_uv (built : List Built) (n : Nat) (rows : List (List (List α))) (idx : List Int) (uvs : List (List α))
    (hpos : 0 < uvs.length) (hlen : uvs.length = idx.length) (g : Attr α → List (List α))
    (hg : ∀ a ∈ (applyColumns (⟨.triangle, idx, [], none⟩ : MeshVal α) built rows).attrs, gather a.data idx = .ok (g a)) :
    assemble built n rows (some (idx, uvs))
      = .ok ((unweldedOf (applyColumns (⟨.triangle, idx, [], none⟩ : MeshVal α) built rows) g).set 2 texCoordAttr uvs) := by
  have hi := (applyColumns_topo (⟨.triangle, idx, [], none⟩ : MeshVal α) built rows).2
  have hun := unweld_ok (applyColumns (⟨.triangle, idx, [], none⟩ : MeshVal α) built rows) g (by
    intro a ha; rw [hi]; exact hg a ha)
  have hc : 0 < uvs.length ∧ uvs.length = idx.length := ⟨hpos, hlen⟩
  simp only [assemble]
  rw [if_pos hc]
  simp only [hun, bind, Except.bind, pure, Except.pure, unweldedOf]

theorem gather_mem {β : Type} (data : List β) (idx : List Int) (out : List β) (h : gather data idx = .ok out) :
    ∀ x ∈ out, x ∈ data := by
  rw [gather_eq_mapM] at h
  exact (mapM_ok_forall₂ _ _ _ h).forall_right (fun i y hiy => atIdx_mem data i y hiy)

section
variable (c : Coding α) (m : MeshVal α)

/-- the per-corner UV list the reader collects from the written faces is, corner by corner in index-buffer order, the
source corner's texture coordinate -/
theorem faceUVA_flatten (hwf : m.WF = true) (tex : Attr α)
    (htex : m.find 2 texCoordAttr = some tex) (tris : List (Int × Int × Int)) (fs : List (WFace α))
    (hc : chunk3 m.indices = some tris) (hfs : faceRecords m tris = .ok fs) (orig : List (List α))
    (ho : gather tex.data m.indices = .ok orig) :
    (fs.map faceUVA).flatten = orig := by
  obtain ⟨hmem, hdim⟩ := find_mem m _ _ tex htex
  have hitem : ∀ x ∈ tex.data, x.length = 2 := fun x hx => by rw [WF_items m hwf tex hmem x hx, hdim]
  rw [chunk3_flatten _ _ hc, gather_eq_mapM] at ho
  simp only [faceRecords, htex] at hfs
  have hall := mapM_ok_forall₂ _ tris fs hfs
  clear hfs hc
  induction hall generalizing orig with
  | nil => simp [pure, Except.pure] at ho; subst ho; rfl
  | @cons t f ts fs' hxy _ ih =>
    obtain ⟨p1, p2, p3, ha, hb, hcc, rfl⟩ := faceRecord_inv tex.data t f hxy
    simp only [List.map_cons, List.flatten_cons] at ho
    obtain ⟨o1, o2, h1, h2, rfl⟩ := mapM_append_ok _ _ _ _ ho
    simp [List.mapM_cons, ha, hb, hcc, bind, Except.bind, pure, Except.pure] at h1
    subst h1
    have l1 := hitem p1 (atIdx_mem _ _ _ ha)
    have l2 := hitem p2 (atIdx_mem _ _ _ hb)
    have l3 := hitem p3 (atIdx_mem _ _ _ hcc)
    rw [List.map_cons, List.flatten_cons, ih o2 h2]
    match p1, l1, p2, l2, p3, l3 with
    | [x1, y1], _, [x2, y2], _, [x3, y3], _ => simp [faceUVA]

theorem faceUVA_nil (fs : List (WFace α)) (h : ∀ f ∈ fs, UvOk false f) : (fs.map faceUVA).flatten = [] := by
  induction fs with
  | nil => rfl
  | cons f fs ih =>
    have hf := h f (by simp)
    have : faceUVA f = [] := by
      cases huv : f.uv with
      | none => simp [faceUVA, huv]
      | some uv => simp [UvOk, huv] at hf
    simp [this, ih (fun g hg => h g (by simp [hg]))]

/-- the binary reader's per-corner UV list is the ASCII one seen through float32 -/
theorem faceUV_flatten_eq (fs : List (WFace α)) :
    (fs.map (faceUV c)).flatten = ((fs.map faceUVA).flatten).map (List.map (fun v => c.unf32 (c.f32 v))) := by
  rw [List.map_flatten, List.map_map]
  congr 2
  funext f
  exact faceUV_eq_map c f

theorem attrLen_pos (hwf : m.WF = true) (hemp : m.indices ≠ []) : 0 < m.attrLen := by
  obtain ⟨i0, hi0⟩ := List.exists_mem_of_ne_nil _ hemp
  have := WF_idx m hwf i0 hi0
  omega

end

/-- what the vertex stage must deliver for a recognised writer `w` (mesh with at least one corner): the assembled mesh
carries under `w`'s key the attribute array mapped by `G w`, and `quant` of the format is `G w` -/
def Delivers [BEq α] (c : Coding α) (cfg : WriterCfg) (m : MeshVal α) (built : List Built) (rows : List (List (List α)))
    (G : WProp → α → α) : Prop :=
  ∀ (base : MeshVal α) (w : WProp), w ∈ selectWriters cfg m → comesBack w = true →
    ∃ a orig, m.find w.dim w.attr = some a ∧
      (applyColumns base built rows).find w.dim w.attr = some ⟨w.dim, w.attr, a.data.map (List.map (G w))⟩ ∧
      gather a.data m.indices = .ok orig ∧
      orig.mapM (fun comps => comps.mapM (quant c cfg.format w.dim w.ty)) = some (orig.map (List.map (G w)))

/-- welded result (point clouds, triangle meshes without per-corner UVs) -/
theorem roundTrips_welded [BEq α] [LawfulBEq α] (c : Coding α) (cfg : WriterCfg) (m : MeshVal α)
    (hnotex : ¬ (m.topo = .triangle ∧ hasTexCoord m = true)) (built : List Built) (rows : List (List (List α)))
    (G : WProp → α → α) (hdel : m.indices ≠ [] → Delivers c cfg m built rows G) :
    RoundTrips c cfg m (applyColumns ⟨m.topo, m.indices, [], none⟩ built rows) = true := by
  have ht := applyColumns_topo (⟨m.topo, m.indices, [], none⟩ : MeshVal α) built rows
  simp only [RoundTrips, Bool.and_eq_true, List.all_eq_true, decide_eq_true_eq, ht.1, primCount, ht.2, true_and]
  refine ⟨?_, by simp [hnotex]⟩
  intro w hw
  simp only [List.mem_filter, Bool.and_eq_true] at hw
  obtain ⟨hws, hcb, _⟩ := hw
  by_cases hemp : m.indices = []
  · have hb0 := ht.2
    simp only at hb0
    rw [hemp] at hb0
    simp [cornerVals, hb0, hemp]
  · obtain ⟨a, orig, ha, hfindb, ho, hmm⟩ := hdel hemp ⟨m.topo, m.indices, [], none⟩ w hws hcb
    obtain ⟨hc1, hc2⟩ := cornerVals_mapped m _ ht.2 w.dim w.attr a ha (List.map (G w)) hfindb orig ho
    simp [hc1, hc2, hmm]

/-- unwelded result (triangle meshes WITH per-corner UVs): `uvs` is the per-corner list the face stage collected -/
theorem roundTrips_unwelded [BEq α] [LawfulBEq α] (c : Coding α) (cfg : WriterCfg) (m : MeshVal α) (hwf : m.WF = true)
    (htri : m.topo = .triangle) (htc : hasTexCoord m = true) (built : List Built) (rows : List (List (List α)))
    (hrowsl : rows.length = m.attrLen) (G : WProp → α → α) (hdel : m.indices ≠ [] → Delivers c cfg m built rows G)
    (tex : Attr α) (htex : m.find 2 texCoordAttr = some tex) (origUV uvs : List (List α))
    (hoUV : gather tex.data m.indices = .ok origUV)
    (hmmuv : origUV.mapM (fun comps => comps.mapM (quantUV c cfg.format)) = some uvs)
    (huvl : uvs.length = m.indices.length) :
    ∃ back, assemble built m.attrLen rows (some (m.indices, uvs)) = .ok back ∧ RoundTrips c cfg m back = true := by
  by_cases hemp : m.indices = []
  · have hu0 : uvs = [] := by cases uvs <;> simp_all
    have ht := applyColumns_topo (⟨.triangle, ([] : List Int), [], none⟩ : MeshVal α) built rows
    refine ⟨applyColumns ⟨.triangle, [], [], none⟩ built rows, by simp [assemble, hu0, hemp, pure, Except.pure], ?_⟩
    simp only [RoundTrips, Bool.and_eq_true, List.all_eq_true, decide_eq_true_eq, ht.1, htri, primCount, ht.2, hemp,
      true_and]
    refine ⟨?_, ?_⟩
    · intro w _
      simp [cornerVals, ht.2, hemp]
    · simp [cornerVals, ht.2, hemp, htc]
  · have hmne : m.indices.isEmpty = false := by cases hm : m.indices <;> simp_all
    have ht := applyColumns_topo (⟨.triangle, m.indices, [], none⟩ : MeshVal α) built rows
    have hmlen := applyColumns_len (⟨.triangle, m.indices, [], none⟩ : MeshVal α) built rows (by simp)
    let g : Attr α → List (List α) := fun a => ((gather a.data m.indices).toOption).getD []
    have hg : ∀ a ∈ (applyColumns (⟨.triangle, m.indices, [], none⟩ : MeshVal α) built rows).attrs,
        gather a.data m.indices = .ok (g a) := by
      intro a ha
      have hl := hmlen a ha
      obtain ⟨out, hout⟩ := gather_ok a.data m.indices (fun i hi => by
        have := WF_idx m hwf i hi; exact ⟨this.1, by omega⟩)
      simp [g, hout, Except.toOption]
    have hupos : 0 < uvs.length := by
      rw [huvl]; cases hm : m.indices with
      | nil => exact absurd hm hemp
      | cons x xs => simp
    have hune : uvs ≠ [] := by intro h0; rw [h0] at hupos; simp at hupos
    refine ⟨_, assemble_uv built m.attrLen rows m.indices uvs hupos huvl g hg, ?_⟩
    have hdel' := hdel hemp
    generalize hmesh : applyColumns (⟨.triangle, m.indices, [], none⟩ : MeshVal α) built rows = mesh at *
    generalize hback : (unweldedOf mesh g).set 2 texCoordAttr uvs = back
    have hbt : back.topo = .triangle ∧ back.indices = (List.range m.indices.length).map Int.ofNat := by
      rw [← hback]
      have := set_topo (unweldedOf mesh g) 2 texCoordAttr uvs
      rw [this.1, this.2]
      exact ⟨ht.1, by simp [unweldedOf, ht.2]⟩
    have hbne : back.indices.isEmpty = false := by
      rw [hbt.2]; cases hm : m.indices <;> simp_all
    simp only [RoundTrips, Bool.and_eq_true, List.all_eq_true, decide_eq_true_eq, hbt.1, htri, primCount, hbt.2,
      List.length_map, List.length_range, true_and]
    refine ⟨?_, ?_⟩
    · intro w hw
      simp only [List.mem_filter, Bool.and_eq_true, Bool.not_eq_true', decide_eq_true_eq] at hw
      obtain ⟨hws, hcb, hnt⟩ := hw
      have hkey : ((2 : Nat), texCoordAttr) ≠ (w.dim, w.attr) := by
        intro he
        have h1 : w.dim = 2 := (Prod.mk.inj he).1.symm
        have h2 : w.attr = texCoordAttr := (Prod.mk.inj he).2.symm
        simp [htri, h1, h2] at hnt
      obtain ⟨a, orig, ha, hfindm, ho, hmm⟩ := hdel' ⟨.triangle, m.indices, [], none⟩ w hws hcb
      rw [hmesh] at hfindm
      have horl : orig.length = m.indices.length := gather_length _ _ _ ho
      have hfb : back.find w.dim w.attr = some ⟨w.dim, w.attr, orig.map (List.map (G w))⟩ := by
        rw [← hback, set_find_ne _ _ _ _ _ _ hkey]
        simp only [MeshVal.find, unweldedOf] at hfindm ⊢
        rw [find_map_data, hfindm]
        simp only [Option.map_some, g, gather_map, ho, Except.map, Except.toOption, Option.getD_some]
      have hgb : gather (orig.map (List.map (G w))) back.indices = .ok (orig.map (List.map (G w))) := by
        rw [hbt.2, ← horl]
        have := gather_range _ (orig.map (List.map (G w)))
        simpa using this
      simp [cornerVals, hmne, hbne, ha, ho, hfb, hgb, Except.toOption, hmm]
    · have hfbt : back.find 2 texCoordAttr = some ⟨2, texCoordAttr, uvs⟩ := by
        rw [← hback]; exact set_find_eq _ _ _ _ hune
      have hgbt : gather uvs back.indices = .ok uvs := by
        rw [hbt.2, ← huvl]
        exact gather_range _ uvs
      simp [htc, cornerVals, hmne, hbne, htex, hoUV, hfbt, hgbt, Except.toOption, hmmuv]


/-- `Delivers` from the claim stage: every recognised writer has its reader (`demanded`, the field `ClaimOK` and `ClaimOKA`
share), the column that reader accumulates is the attribute's array mapped by `G w`, and `quant` is `G w` on the array -/
theorem delivers [BEq α] (c : Coding α) (cfg : WriterCfg) (m : MeshVal α) (hwf : m.WF = true)
    (bl : List (Built × List Nat)) (recs : List (List α))
    (hrecs : (List.range m.attrLen).mapM (vertexRecord m (selectWriters cfg m)) = .ok recs)
    (row : List α → List (List α)) (G : WProp → α → α)
    (hdem : ∀ w ∈ selectWriters cfg m, comesBack w = true →
      ∃ j, ∃ hj : j < bl.length, bl[j].1.attr = w.attr ∧ bl[j].1.names = w.names ∧
        ∀ j' (hj' : j' < bl.length), j < j' → Built.key bl[j'].1 ≠ Built.key bl[j].1)
    (hcol : ∀ w ∈ selectWriters cfg m, comesBack w = true → ∀ a, m.find w.dim w.attr = some a →
      (∀ comps ∈ a.data, ∀ x ∈ comps, quant c cfg.format w.dim w.ty x = some (G w x)) ∧
      ∀ j (hj : j < bl.length), bl[j].1.names = w.names →
        recs.map (fun vals => (row vals).getD j []) = a.data.map (List.map (G w)))
    (hemp : m.indices ≠ []) :
    Delivers c cfg m (bl.map (·.1)) (recs.map row) G := by
  intro base w hws hcb
  obtain ⟨hrl, -, hrec⟩ := vertexRecords_shape m hwf _ recs hrecs
  have hpos := attrLen_pos m hwf hemp
  -- the attribute exists: the writer emitted it for vertex 0
  obtain ⟨comps, hwv, -, -⟩ := writer_slot m hwf 0 _ _ (hrec 0 (by omega)) w hws
  obtain ⟨a, ha⟩ : ∃ a, m.find w.dim w.attr = some a := by
    simp only [writerValues] at hwv
    cases hfa : m.find w.dim w.attr with
    | none => simp [hfa] at hwv
    | some a => exact ⟨a, rfl⟩
  have hal : a.data.length = m.attrLen := WF_len m hwf a (find_mem m _ _ a ha).1
  obtain ⟨j, hj, hattr, hnames, hlastj⟩ := hdem w hws hcb
  obtain ⟨hq, hcolj⟩ := hcol w hws hcb a ha
  have hj' : j < (bl.map (·.1)).length := by simpa using hj
  have hfindb := applyColumns_find base (bl.map (·.1)) (recs.map row) j hj'
    (fun j' hj'' hlt => by simpa using hlastj j' (by simpa using hj'') hlt)
    (by intro h0; have := congrArg List.length h0; rw [List.length_map, hrl, List.length_nil] at this; omega)
  have hkd : ((bl.map (fun (x : Built × List Nat) => x.1))[j]'hj').names.length = w.dim := by simp [hnames, WProp.dim]
  have hka : ((bl.map (fun (x : Built × List Nat) => x.1))[j]'hj').attr = w.attr := by simp [hattr]
  rw [hkd, hka] at hfindb
  simp only [List.map_map, Function.comp_def] at hfindb
  rw [hcolj j hj hnames] at hfindb
  obtain ⟨orig, ho⟩ := gather_ok a.data m.indices (fun i hi => by
    have := WF_idx m hwf i hi
    exact ⟨this.1, by omega⟩)
  refine ⟨a, orig, ha, hfindb, ho, ?_⟩
  apply ListM.mapM_pure
  intro comps hc
  exact ListM.mapM_pure (hq comps (gather_mem _ _ _ ho comps hc))

/-- the tail shared by all encodings: once `readBody` is known to be the mesh assembly of the right rows, of the mesh's own
index buffer and — for a triangle mesh — of per-corner UVs that are the images `g` of the source corners' coordinates,
with `quantUV = g`, the result satisfies `RoundTrips` -/
theorem readback_of_arrays [BEq α] [LawfulBEq α] (c : Coding α) (cfg : WriterCfg) (m : MeshVal α) (hwf : m.WF = true)
    (hpoint : m.topo = .point → m.indices = (List.range m.attrLen).map Int.ofNat)
    (built : List Built) (rows : List (List (List α))) (hrowsl : rows.length = m.attrLen)
    (G : WProp → α → α) (hdel : m.indices ≠ [] → Delivers c cfg m built rows G)
    (r : R (MeshVal α)) (hpt : m.topo ≠ .triangle → r = assemble built m.attrLen rows none)
    (g : α → α) (hg : ∀ v, quantUV c cfg.format v = some (g v))
    (htr : m.topo = .triangle → ∃ uvs, r = assemble built m.attrLen rows (some (m.indices, uvs)) ∧
      (hasTexCoord m = false → uvs = []) ∧
      ∀ tex origUV, m.find 2 texCoordAttr = some tex → gather tex.data m.indices = .ok origUV →
        uvs = origUV.map (List.map g)) :
    ∃ back, r = .ok back ∧ RoundTrips c cfg m back = true := by
  by_cases ht : m.topo = .triangle
  · obtain ⟨uvs, hr, hnil, huvs⟩ := htr ht
    by_cases htc : hasTexCoord m = true
    · obtain ⟨tex, htex⟩ : ∃ tex, m.find 2 texCoordAttr = some tex := by
        simp only [hasTexCoord, MeshVal.has] at htc
        exact Option.isSome_iff_exists.mp htc
      have hlenT : tex.data.length = m.attrLen := WF_len m hwf tex (find_mem m _ _ tex htex).1
      obtain ⟨origUV, hoUV⟩ := gather_ok tex.data m.indices (fun i hi => by
        have := WF_idx m hwf i hi; exact ⟨this.1, by omega⟩)
      obtain rfl := huvs tex origUV htex hoUV
      rw [hr]
      exact roundTrips_unwelded c cfg m hwf ht htc built rows hrowsl G hdel tex htex origUV _ hoUV
        (ListM.mapM_pure fun comps _ => ListM.mapM_pure fun x _ => hg x)
        (by rw [List.length_map]; exact gather_length _ _ _ hoUV)
    · obtain rfl := hnil (by simpa using htc)
      exact ⟨applyColumns ⟨m.topo, m.indices, [], none⟩ built rows, by rw [hr]; simp [assemble, ht, pure, Except.pure],
        roundTrips_welded c cfg m (by simp [htc]) built rows G hdel⟩
  · have hp : m.topo = .point := by cases hm : m.topo <;> simp_all
    exact ⟨applyColumns ⟨m.topo, m.indices, [], none⟩ built rows,
      by rw [hpt ht]; simp [assemble, hp, hpoint hp, pure, Except.pure],
      roundTrips_welded c cfg m (by simp [ht]) built rows G hdel⟩

theorem quantUV_bin (c : Coding α) (f : Format) (hf : f ≠ .ascii) (v : α) : quantUV c f v = some (c.unf32 (c.f32 v)) := by
  cases f <;> simp_all [quantUV]

theorem delivers_bin [BEq α] (c : Coding α) (cfg : WriterCfg) (m : MeshVal α) (body : Bytes)
    (hf : cfg.format ≠ .ascii) (hwf : m.WF = true) (h : writeBody c cfg m = .ok body)
    (bl : List (Built × List Nat)) (hcl : ClaimOK cfg m bl) (recs : List (List α))
    (hrecs : (List.range m.attrLen).mapM (vertexRecord m (selectWriters cfg m)) = .ok recs)
    (hemp : m.indices ≠ []) :
    Delivers c cfg m (bl.map (·.1)) (recs.map (rowOfW c (writerTypes (selectWriters cfg m)) bl))
      (fun w => quantBin c w.dim w.ty) := by
  have hnd := (names_of_writeBody_ok c cfg m body h).2
  obtain ⟨recs', vbytes, fs, W⟩ := written c cfg m body hwf h
  obtain rfl : recs' = recs := Except.ok.inj (W.recs_ok.symm.trans hrecs)
  have hrl := W.len
  have hpos := attrLen_pos m hwf hemp
  have henc0 := (W.enc_bin hf).get 0 (by omega) (by rw [(W.enc_bin hf).length_eq]; omega)
  refine delivers c cfg m hwf bl recs' hrecs _ _ hcl.demanded ?_ hemp
  intro w hws hcb a ha
  -- the written type is implemented, so `quant` is `quantBin`
  obtain ⟨v', bs, himpl⟩ := written_type_implemented c cfg.format.endian m hwf _ _ _ 0 (W.rec_at 0 (by omega)) henc0 w hws
    (comesBack_names_ne w hcb)
  refine ⟨fun _ _ x _ => quant_bin_some c cfg.format hf w.dim w.ty x v' bs himpl, fun j hj hnames => ?_⟩
  have hln := hcl.located _ (List.getElem_mem hj)
  simp only [rowOfW_eq]
  exact column_of_writer m hwf _ hnd recs' hrecs w hws a ha bl j hj hnames hln.len hln.named _ _ (fun _ _ _ _ => rfl)

/-- the composed round trip, binary encodings, at the parsed-header interface: point clouds, welded triangle meshes, and
triangle meshes with per-corner texture coordinates (the reader unwelds: every corner becomes its own vertex carrying the
welded source vertex' data, and attaches the float32 images of the corners' UVs) -/
theorem readback_bin [BEq α] [LawfulBEq α] (c : Coding α) (cfg : WriterCfg) (m : MeshVal α) (body : Bytes)
    (hf : cfg.format ≠ .ascii) (hwf : m.WF = true) (h : writeBody c cfg m = .ok body)
    (hpoint : m.topo = .point → m.indices = (List.range m.attrLen).map Int.ofNat)
    (hsize : m.attrLen ≤ 2 ^ 31) (bl : List (Built × List Nat)) (hcl : ClaimOK cfg m bl) :
    ∃ back, readBody c defaultReader (writeHeader cfg m) body = .ok back ∧ RoundTrips c cfg m back = true := by
  have hloc : ∀ p ∈ bl, Located (writerTypes (selectWriters cfg m)) p.1 p.2 := by
    intro p hp
    have := (hcl.located p hp).loc
    rwa [headerProps_types] at this
  obtain ⟨recs, hrecs, hpt, htr⟩ := readBody_writeBody_arrays c cfg m body hf hwf h bl hcl.built hloc
  -- applied in two steps: elaborating the whole application at once is slow
  have key := readback_of_arrays c cfg m hwf hpoint (bl.map (·.1)) (recs.map (rowOfW c (writerTypes (selectWriters cfg m)) bl))
    (by simpa using (vertexRecords_shape m hwf _ recs hrecs).1) (fun w => quantBin c w.dim w.ty)
    (delivers_bin c cfg m body hf hwf h bl hcl recs hrecs)
  refine key _ hpt (fun v => c.unf32 (c.f32 v)) (quantUV_bin c cfg.format hf) ?_
  intro ht
  obtain ⟨tris, fs, hc, hfs, hread⟩ := htr ht
  obtain ⟨hidx, huv⟩ := faceRecords_shape m hwf tris fs hfs
  rw [faces_indices m hwf hsize tris fs hc hidx, faceUV_flatten_eq] at hread
  refine ⟨_, hread, fun hT => ?_, fun tex origUV htex ho => ?_⟩
  · rw [hT] at huv
    rw [faceUVA_nil fs huv]; rfl
  · rw [faceUVA_flatten m hwf tex htex tris fs hc hfs origUV ho]

end PlyCompose
end PolyVerif
