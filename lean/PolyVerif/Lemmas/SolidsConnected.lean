/-
  C18 — FACE connectedness ("the surface is ONE component"): every triangle of the list is reached from every other one
  by crossing shared edges.  General theorem: if every used vertex has ONE umbrella (`UmbrellaCycle`) and every used vertex
  is reached from one root vertex along edges, then the dual graph (triangles, adjacent when they traverse a common edge
  in opposite directions) is connected.  Also: soundness of the executable `Connected` check (`connectedB`), transport
  along vertex maps / triangle reversal, and the form "modulo a merge map" on the RAW index triangles.
-/
import PolyVerif.Lemmas.SolidsTopo2
import Mathlib.Logic.Relation
namespace PolyVerif.Solids
open Relation

section
variable {β : Type}

/-- two triangles of the list traverse a common edge in opposite directions -/
def FaceAdj (ts : List (β × β × β)) (t t' : β × β × β) : Prop :=
  t ∈ ts ∧ t' ∈ ts ∧ ∃ a b, (a, b) ∈ triEdges t ∧ (b, a) ∈ triEdges t'

/-- **face-connected**: any triangle is reached from any other by crossing shared edges (one component) -/
def FaceConnected (ts : List (β × β × β)) : Prop :=
  ∀ t ∈ ts, ∀ t' ∈ ts, ReflTransGen (FaceAdj ts) t t'

theorem faceAdj_symm (ts : List (β × β × β)) {t t' : β × β × β} (h : FaceAdj ts t t') : FaceAdj ts t' t := by
  obtain ⟨h1, h2, a, b, h3, h4⟩ := h
  exact ⟨h2, h1, b, a, h4, h3⟩

theorem faceConn_symm (ts : List (β × β × β)) {a b : β × β × β} (h : ReflTransGen (FaceAdj ts) a b) :
    ReflTransGen (FaceAdj ts) b a := by
  induction h with
  | refl => exact ReflTransGen.refl
  | tail _ hbc ih => exact ReflTransGen.head (faceAdj_symm ts hbc) ih

/-- `t`, rotated so that `v` comes first, is `(v, b, c)` -/
def HasRot (t : β × β × β) (v b c : β) : Prop := t = (v, b, c) ∨ t = (c, v, b) ∨ t = (b, c, v)

def IsCorner (v : β) (t : β × β × β) : Prop := v = t.1 ∨ v = t.2.1 ∨ v = t.2.2

theorem linkEdge_iff_rot {ts : List (β × β × β)} {v b c : β} :
    LinkEdge ts v b c ↔ ∃ t ∈ ts, HasRot t v b c := by
  unfold LinkEdge HasRot
  constructor
  · rintro (h | h | h)
    · exact ⟨_, h, Or.inl rfl⟩
    · exact ⟨_, h, Or.inr (Or.inl rfl)⟩
    · exact ⟨_, h, Or.inr (Or.inr rfl)⟩
  · rintro ⟨t, ht, rfl | rfl | rfl⟩
    · exact Or.inl ht
    · exact Or.inr (Or.inl ht)
    · exact Or.inr (Or.inr ht)

theorem isCorner_rot {t : β × β × β} {v : β} (h : IsCorner v t) : ∃ b c, HasRot t v b c := by
  obtain ⟨a, b, c⟩ := t
  rcases h with rfl | rfl | rfl
  · exact ⟨b, c, Or.inl rfl⟩
  · exact ⟨c, a, Or.inr (Or.inl rfl)⟩
  · exact ⟨a, b, Or.inr (Or.inr rfl)⟩

/-- consecutive triangles of an umbrella share the spoke between them -/
theorem faceAdj_of_rot {ts : List (β × β × β)} {t t' : β × β × β} {v x y z : β} (ht : t ∈ ts) (ht' : t' ∈ ts)
    (h : HasRot t v x y) (h' : HasRot t' v y z) : FaceAdj ts t t' := by
  refine ⟨ht, ht', y, v, ?_, ?_⟩
  · rcases h with rfl | rfl | rfl <;> simp [triEdges]
  · rcases h' with rfl | rfl | rfl <;> simp [triEdges]

theorem mem_cornersOf {ts : List (β × β × β)} {v : β} : v ∈ cornersOf ts ↔ ∃ t ∈ ts, IsCorner v t := by
  simp only [cornersOf, List.mem_flatMap, List.mem_cons, List.not_mem_nil, or_false, IsCorner]

/-- every directed edge lies in a triangle that has both its ends as corners -/
theorem edge_tri {ts : List (β × β × β)} {a b : β} (h : (a, b) ∈ edges ts) :
    ∃ t ∈ ts, IsCorner a t ∧ IsCorner b t := by
  simp only [edges, List.mem_flatMap] at h
  obtain ⟨t, ht, he⟩ := h
  refine ⟨t, ht, ?_⟩
  obtain ⟨p, q, r⟩ := t
  simp only [triEdges, List.mem_cons, Prod.mk.injEq, List.not_mem_nil, or_false] at he
  unfold IsCorner
  rcases he with ⟨rfl, rfl⟩ | ⟨rfl, rfl⟩ | ⟨rfl, rfl⟩ <;> simp

/-- **the triangles around a vertex with one umbrella are face-connected** (walk round the link cycle) -/
theorem umbrella_faceConn {ts : List (β × β × β)} {v : β} (hU : UmbrellaCycle ts v) {t t' : β × β × β}
    (ht : t ∈ ts) (ht' : t' ∈ ts) (hc : IsCorner v t) (hc' : IsCorner v t') :
    ReflTransGen (FaceAdj ts) t t' := by
  obtain ⟨cyc, h3, -, hlink⟩ := hU
  -- `At s k`: `s` is a triangle of the list sitting on the `k`-th link edge
  let At : (β × β × β) → Nat → Prop := fun s k =>
    s ∈ ts ∧ ∃ x y, cyc[k]? = some x ∧ cyc[(k + 1) % cyc.length]? = some y ∧ HasRot s v x y
  have exAt : ∀ k, k < cyc.length → ∃ s, At s k := by
    intro k hk
    have hm : (k + 1) % cyc.length < cyc.length := Nat.mod_lt _ (by omega)
    have hp : (cyc[k], cyc[(k + 1) % cyc.length]) ∈ cyclicPairs cyc :=
      mem_cyclicPairs.2 ⟨k, hk, List.getElem?_eq_getElem hk, List.getElem?_eq_getElem hm⟩
    obtain ⟨s, hs, hr⟩ := linkEdge_iff_rot.1 ((hlink _ _).2 hp)
    exact ⟨s, hs, _, _, List.getElem?_eq_getElem hk, List.getElem?_eq_getElem hm, hr⟩
  have atOf : ∀ s, s ∈ ts → IsCorner v s → ∃ k, k < cyc.length ∧ At s k := by
    intro s hs hcs
    obtain ⟨b, c, hr⟩ := isCorner_rot hcs
    have hl : LinkEdge ts v b c := linkEdge_iff_rot.2 ⟨s, hs, hr⟩
    obtain ⟨k, hk, h1, h2⟩ := mem_cyclicPairs.1 ((hlink _ _).1 hl)
    exact ⟨k, hk, hs, b, c, h1, h2, hr⟩
  have step : ∀ s s' k, At s k → At s' ((k + 1) % cyc.length) → FaceAdj ts s s' := by
    rintro s s' k ⟨hs, x, y, -, hy, hr⟩ ⟨hs', y', z, hy', -, hr'⟩
    have : y = y' := by rw [hy] at hy'; exact Option.some.inj hy'
    subst this
    exact faceAdj_of_rot hs hs' hr hr'
  have walk : ∀ m s s' k, At s k → At s' ((k + m + 1) % cyc.length) → ReflTransGen (FaceAdj ts) s s' := by
    intro m
    induction m with
    | zero => intro s s' k h h'; exact ReflTransGen.single (step s s' k h h')
    | succ m ih =>
      intro s s' k h h'
      have hm : (k + m + 1) % cyc.length < cyc.length := Nat.mod_lt _ (by omega)
      obtain ⟨s'', hs''⟩ := exAt _ hm
      refine ReflTransGen.tail (ih s s'' k h hs'') (step s'' s' _ hs'' ?_)
      have e : ((k + m + 1) % cyc.length + 1) % cyc.length = (k + (m + 1) + 1) % cyc.length := by
        rw [Nat.mod_add_mod, show k + m + 1 + 1 = k + (m + 1) + 1 by omega]
      rw [e]; exact h'
  obtain ⟨k, hk, hAt⟩ := atOf t ht hc
  obtain ⟨j, hj, hAt'⟩ := atOf t' ht' hc'
  refine walk (j + cyc.length - k - 1) t t' k hAt ?_
  have e : (k + (j + cyc.length - k - 1) + 1) % cyc.length = j := by
    rw [show k + (j + cyc.length - k - 1) + 1 = j + cyc.length by omega, Nat.add_mod_right, Nat.mod_eq_of_lt hj]
  rw [e]; exact hAt'

/-- **one umbrella per vertex + every vertex reached from a root along edges ⟹ face-connected** -/
theorem faceConnected_of_umbrellas_reach (ts : List (β × β × β)) (v0 : β)
    (hU : ∀ v ∈ cornersOf ts, UmbrellaCycle ts v)
    (hR : ∀ v ∈ cornersOf ts, ReflTransGen (Adj ts) v0 v) : FaceConnected ts := by
  -- along a vertex path: triangles at the start are connected to triangles at the end
  have path : ∀ a b, ReflTransGen (Adj ts) a b → ∀ t1 ∈ ts, ∀ t2 ∈ ts, IsCorner a t1 → IsCorner b t2 →
      ReflTransGen (FaceAdj ts) t1 t2 := by
    intro a b hab
    induction hab with
    | refl =>
      intro t1 h1 t2 h2 c1 c2
      exact umbrella_faceConn (hU a (mem_cornersOf.2 ⟨t1, h1, c1⟩)) h1 h2 c1 c2
    | @tail b c _ hbc ih =>
      intro t1 h1 t2 h2 c1 c2
      obtain ⟨t3, h3, cb, cc⟩ := edge_tri hbc
      exact (ih t1 h1 t3 h3 c1 cb).trans
        (umbrella_faceConn (hU c (mem_cornersOf.2 ⟨t3, h3, cc⟩)) h3 h2 cc c2)
  intro t ht t' ht'
  have ct : IsCorner t.1 t := Or.inl rfl
  have ct' : IsCorner t'.1 t' := Or.inl rfl
  have r := hR t.1 (mem_cornersOf.2 ⟨t, ht, ct⟩)
  have r' := hR t'.1 (mem_cornersOf.2 ⟨t', ht', ct'⟩)
  -- a triangle at the root
  have hT0 : ∃ T0 ∈ ts, IsCorner v0 T0 := by
    rcases ReflTransGen.cases_head r with h | ⟨c, hc, -⟩
    · exact ⟨t, ht, h ▸ ct⟩
    · obtain ⟨T0, h0, c0, -⟩ := edge_tri hc
      exact ⟨T0, h0, c0⟩
  obtain ⟨T0, h0, c0⟩ := hT0
  exact (faceConn_symm ts (path _ _ r T0 h0 t ht c0 ct)).trans (path _ _ r' T0 h0 t' ht' c0 ct')

/-- a vertex map keeps face-connectedness (shared edges stay shared) -/
theorem FaceConnected.map {γ : Type} (f : β → γ) {ts : List (β × β × β)} (h : FaceConnected ts) :
    FaceConnected (ts.map (tm f)) := by
  intro t ht t' ht'
  obtain ⟨s, hs, rfl⟩ := List.mem_map.1 ht
  obtain ⟨s', hs', rfl⟩ := List.mem_map.1 ht'
  refine ReflTransGen.lift (tm f) ?_ _ _ (h s hs s' hs')
  rintro u u' ⟨hu, hu', a, b, h1, h2⟩
  refine ⟨List.mem_map.2 ⟨u, hu, rfl⟩, List.mem_map.2 ⟨u', hu', rfl⟩, f a, f b, ?_, ?_⟩
  · simp only [triEdges, tm, List.mem_cons, Prod.mk.injEq, List.not_mem_nil, or_false] at h1 ⊢
    rcases h1 with ⟨rfl, rfl⟩ | ⟨rfl, rfl⟩ | ⟨rfl, rfl⟩ <;> simp
  · simp only [triEdges, tm, List.mem_cons, Prod.mk.injEq, List.not_mem_nil, or_false] at h2 ⊢
    rcases h2 with ⟨rfl, rfl⟩ | ⟨rfl, rfl⟩ | ⟨rfl, rfl⟩ <;> simp

theorem FaceConnected.flip {ts : List (β × β × β)} (h : FaceConnected ts) : FaceConnected (ts.map flipT) := by
  intro t ht t' ht'
  obtain ⟨s, hs, rfl⟩ := List.mem_map.1 ht
  obtain ⟨s', hs', rfl⟩ := List.mem_map.1 ht'
  refine ReflTransGen.lift flipT ?_ _ _ (h s hs s' hs')
  rintro u u' ⟨hu, hu', a, b, h1, h2⟩
  refine ⟨List.mem_map.2 ⟨u, hu, rfl⟩, List.mem_map.2 ⟨u', hu', rfl⟩, b, a, ?_, ?_⟩
  · simp only [triEdges, flipT, List.mem_cons, Prod.mk.injEq, List.not_mem_nil, or_false] at h1 ⊢
    rcases h1 with ⟨rfl, rfl⟩ | ⟨rfl, rfl⟩ | ⟨rfl, rfl⟩ <;> simp
  · simp only [triEdges, flipT, List.mem_cons, Prod.mk.injEq, List.not_mem_nil, or_false] at h2 ⊢
    rcases h2 with ⟨rfl, rfl⟩ | ⟨rfl, rfl⟩ | ⟨rfl, rfl⟩ <;> simp

/-! ### modulo a merge map, on the RAW triangles -/

/-- two raw triangles share, once their corners are merged by `pt`, an edge traversed in opposite directions -/
def FaceAdjMod {α : Type} (pt : α → β) (ts : List (α × α × α)) (t t' : α × α × α) : Prop :=
  t ∈ ts ∧ t' ∈ ts ∧ ∃ e ∈ triEdges t, ∃ e' ∈ triEdges t', pt e.1 = pt e'.2 ∧ pt e.2 = pt e'.1

/-- face-connected once coincident vertices are merged: statement about the raw index triangles -/
def FaceConnectedMod {α : Type} (pt : α → β) (ts : List (α × α × α)) : Prop :=
  ∀ t ∈ ts, ∀ t' ∈ ts, ReflTransGen (FaceAdjMod pt ts) t t'

theorem mem_triEdges_tm {α : Type} (f : α → β) (s : α × α × α) {a b : β} (h : (a, b) ∈ triEdges (tm f s)) :
    ∃ e ∈ triEdges s, f e.1 = a ∧ f e.2 = b := by
  obtain ⟨p, q, r⟩ := s
  simp only [triEdges, tm, List.mem_cons, Prod.mk.injEq, List.not_mem_nil, or_false] at h
  rcases h with ⟨rfl, rfl⟩ | ⟨rfl, rfl⟩ | ⟨rfl, rfl⟩
  · exact ⟨(p, q), by simp [triEdges], rfl, rfl⟩
  · exact ⟨(q, r), by simp [triEdges], rfl, rfl⟩
  · exact ⟨(r, p), by simp [triEdges], rfl, rfl⟩

/-- a list whose directed edges are pairwise distinct has pairwise distinct triangles -/
theorem nodup_of_edges_nodup {ts : List (β × β × β)} (h : (edges ts).Nodup) : ts.Nodup := by
  unfold edges at h
  rw [List.nodup_flatMap] at h
  refine h.2.imp ?_
  intro a b hd hab
  subst hab
  exact hd (a := (a.1, a.2.1)) (by simp [triEdges]) (by simp [triEdges])

/-- from the merged triangle list back to the raw triangles (no two raw triangles have the same merged image, because
    the merged list is `Closed`) -/
theorem FaceConnectedMod.of_map {α : Type} (pt : α → β) {ts : List (α × α × α)}
    (hcl : Closed (ts.map (tm pt))) (h : FaceConnected (ts.map (tm pt))) : FaceConnectedMod pt ts := by
  intro t ht t' ht'
  have key : ∀ u, ReflTransGen (FaceAdj (ts.map (tm pt))) (tm pt t) u → ∀ s ∈ ts, tm pt s = u →
      ReflTransGen (FaceAdjMod pt ts) t s := by
    intro u hu
    induction hu with
    | refl =>
      intro s hs e
      rw [List.inj_on_of_nodup_map (nodup_of_edges_nodup hcl.1) hs ht e]
    | @tail u' u _ hstep ih =>
      intro s hs e
      obtain ⟨hu', -, a, b, h1, h2⟩ := hstep
      obtain ⟨s', hs', e'⟩ := List.mem_map.1 hu'
      subst e
      rw [← e'] at h1
      obtain ⟨e1, he1, ha, hb⟩ := mem_triEdges_tm pt s' h1
      obtain ⟨e2, he2, hb', ha'⟩ := mem_triEdges_tm pt s h2
      refine ReflTransGen.tail (ih s' hs' e') ⟨hs', hs, e1, he1, e2, he2, ?_, ?_⟩
      · rw [ha, ha']
      · rw [hb, hb']
  exact key _ (h _ (List.mem_map.2 ⟨t, ht, rfl⟩) _ (List.mem_map.2 ⟨t', ht', rfl⟩)) t' ht' rfl
end

/-! ### soundness of the executable `Connected` check -/

section
variable {β : Type} [DecidableEq β]

theorem reachStep_sound (E : β → β → Prop) (v0 : β) :
    ∀ (es : List (β × β)) (acc : List β), (∀ e ∈ es, E e.1 e.2) → (∀ x ∈ acc, ReflTransGen E v0 x) →
      ∀ x ∈ es.foldl (fun acc e => if e.1 ∈ acc ∧ e.2 ∉ acc then e.2 :: acc else acc) acc, ReflTransGen E v0 x := by
  intro es
  induction es with
  | nil => intro acc _ h; simpa using h
  | cons e es ih =>
    intro acc hE h
    rw [List.foldl_cons]
    refine ih _ (fun e' he' => hE e' (List.mem_cons_of_mem _ he')) ?_
    split
    · rename_i hc
      intro x hx
      rcases List.mem_cons.1 hx with rfl | hx
      · exact ReflTransGen.tail (h _ hc.1) (hE e List.mem_cons_self)
      · exact h x hx
    · exact h

theorem reachIter_sound (es : List (β × β)) (v0 : β) :
    ∀ (n : Nat) (r : List β), (∀ x ∈ r, ReflTransGen (fun a b => (a, b) ∈ es) v0 x) →
      ∀ x ∈ reachIter es n r, ReflTransGen (fun a b => (a, b) ∈ es) v0 x := by
  intro n
  induction n with
  | zero => intro r h; simpa [reachIter] using h
  | succ n ih =>
    intro r h
    rw [reachIter]
    exact ih _ (reachStep_sound _ v0 es r (fun e he => he) h)

/-- **soundness of the executable connectedness check**: whenever `connectedB` accepts, every used vertex is reached
    from the first corner along directed edges -/
theorem connected_sound (ts : List (β × β × β)) (h : Connected ts) (v0 : β) (h0 : (cornersOf ts).head? = some v0) :
    ∀ v ∈ cornersOf ts, ReflTransGen (Adj ts) v0 v := by
  unfold Connected connectedB at h
  simp only [h0, List.all_eq_true, decide_eq_true_eq] at h
  intro v hv
  refine reachIter_sound (edges ts) v0 _ [v0] ?_ v (h v hv)
  intro x hx
  rw [List.mem_singleton.1 hx]

/-- what the oracle `c18.holds.manifold` evaluates implies face-connectedness -/
theorem faceConnected_of_checks (ts : List (β × β × β)) (hv : VertexManifold ts) (hc : Connected ts) :
    FaceConnected ts := by
  cases h0 : (cornersOf ts).head? with
  | none =>
    intro t ht
    have : t.1 ∈ cornersOf ts := mem_cornersOf.2 ⟨t, ht, Or.inl rfl⟩
    rw [List.head?_eq_none_iff.1 h0] at this
    simp at this
  | some v0 =>
    exact faceConnected_of_umbrellas_reach ts v0 (vertexManifold_sound ts hv) (connected_sound ts hc v0 h0)
end

/-! ### the logical sphere and the logical capped cylinder -/

theorem sphereL_corner_valid {R C : Nat} (hR : 2 ≤ R) (hC : 3 ≤ C) {p : LP} (hp : p ∈ cornersOf (sphereL R C)) :
    UvValid R C p := by
  obtain ⟨t, ht, hc⟩ := mem_cornersOf.1 hp
  obtain ⟨v1, v2, v3⟩ := sphereL_tri_valid hR hC ht
  rcases hc with rfl | rfl | rfl
  exacts [v1, v2, v3]

theorem sphereL_faceConnected {R C : Nat} (hR : 2 ≤ R) (hC : 3 ≤ C) : FaceConnected (sphereL R C) :=
  faceConnected_of_umbrellas_reach _ (0, 0)
    (fun p hp => sphereL_umbrella hR hC p (sphereL_corner_valid hR hC hp))
    (fun p hp => sphereL_reach hR hC p (sphereL_corner_valid hR hC hp))

theorem cylL_corner_valid {S : Nat} (hS : 3 ≤ S) {p : LP} (hp : p ∈ cornersOf (cylL S)) : UvValid 3 S p := by
  obtain ⟨t, ht, hc⟩ := mem_cornersOf.1 hp
  obtain ⟨v1, v2, v3⟩ := cylL_tri_valid hS ht
  rcases hc with rfl | rfl | rfl
  exacts [v1, v2, v3]

theorem cylL_faceConnected {S : Nat} (hS : 3 ≤ S) : FaceConnected (cylL S) :=
  faceConnected_of_umbrellas_reach _ (0, 0)
    (fun p hp => cylL_umbrella hS p (cylL_corner_valid hS hp))
    (fun p hp => cylL_reach hS p (cylL_corner_valid hS hp))

end PolyVerif.Solids
