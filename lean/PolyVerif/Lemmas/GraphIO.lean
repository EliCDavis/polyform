/-
  Lemmas about the saved-graph model (core Lean only): what a successful editing operation did (the relation `Step`, which
  every proof about `step` goes through, and `step_sound`), that it keeps the graph well-formed (`Step.wf`, `step_wf`), and
  the pieces of decode ∘ encode: one node (`decodeNode_encode`, giving `n.norm`), the node list, the producers, the header.
  They are put together in Props/C12 (`decode_encode`).
-/
import PolyVerif.Lemmas.DepOrder

namespace PolyVerif
namespace GraphIO

variable {V J : Type} {E : Env V J} {g : Graph V} {cmp : Name → Name → Bool}

/-! ### well-formedness when the graph changes but keeps ids and types -/

/-- every node of `g` still has a node of its id and type in `g'` -/
def Keeps (g g' : Graph V) : Prop := ∀ s ∈ g.nodes, ∃ s' ∈ g'.nodes, s'.id = s.id ∧ s'.ty = s.ty

theorem Keeps.of_subset {g g' : Graph V} (h : ∀ s ∈ g.nodes, s ∈ g'.nodes) : Keeps g g' :=
  fun s hs => ⟨s, h s hs, rfl, rfl⟩

theorem RefOK.mono {g g' : Graph V} {t : VTy} {r : Ref} (h : Keeps g g') :
    RefOK E g t r → RefOK E g' t r := by
  rintro ⟨hp, s, hs, hid, Ts, hT, ho⟩
  obtain ⟨s', hs', hid', hty'⟩ := h s hs
  exact ⟨hp, s', hs', hid'.trans hid, Ts, hty' ▸ hT, ho⟩

theorem NodeWF.mono {g g' : Graph V} {n : Node V} (h : Keeps g g') :
    NodeWF E g n → NodeWF E g' n := by
  rintro ⟨hid, T, hT, hs, ha, hp⟩
  exact ⟨hid, T, hT, fun p r hr => (hs p r hr).imp fun _ ht => ⟨ht.1, ht.2.mono h⟩,
    fun p r hr => (ha p r hr).imp fun _ ht => ⟨ht.1, ht.2.mono h⟩, hp⟩

theorem WF.of_keeps {g g' : Graph V} (hk : Keeps g g') (hnd : (g'.nodes.map (·.id)).Nodup)
    (hn : ∀ n ∈ g'.nodes, NodeWF E g n) (hpn : (g'.prods.map (·.1)).Nodup)
    (hp : ∀ kv ∈ g'.prods, RefOK E g artTy kv.2) : WF E g' :=
  ⟨hnd, fun n h => (hn n h).mono hk, hpn, fun kv h => (hp kv h).mono hk⟩

theorem NodeWF.at {n : Node V} (hn : NodeWF E g n) {T : NodeType}
    (hT : E.types n.ty = some T) :
    (∀ p r, n.scal p = some r → ∃ t, portTy T.scal p = some t ∧ RefOK E g t r) ∧
    (∀ p r, r ∈ n.arrs p → ∃ t, portTy T.arrs p = some t ∧ RefOK E g t r) ∧
    (match T.param, n.par with
     | some k, some p => ParamOK E n.ty k p
     | none, none => True
     | _, _ => False) := by
  obtain ⟨_, T', hT', h⟩ := hn
  obtain rfl : T' = T := Option.some.inj (hT'.symm.trans hT)
  exact h

theorem NodeWF.scal_ok {n : Node V} (hn : NodeWF E g n) {T : NodeType} (hT : E.types n.ty = some T) {p : Name} {r : Ref}
    (h : n.scal p = some r) : ∃ t, portTy T.scal p = some t ∧ RefOK E g t r :=
  (hn.at hT).1 p r h

theorem NodeWF.arrs_ok {n : Node V} (hn : NodeWF E g n) {T : NodeType} (hT : E.types n.ty = some T) {p : Name} {r : Ref}
    (h : r ∈ n.arrs p) : ∃ t, portTy T.arrs p = some t ∧ RefOK E g t r :=
  (hn.at hT).2.1 p r h

theorem find_some {id : Id} {n : Node V} (h : g.find id = some n) : n ∈ g.nodes ∧ n.id = id :=
  ⟨List.mem_of_find?_eq_some h, by simpa using List.find?_some h⟩

theorem pairwise_ne_of_mem {α} {R : α → α → Prop} (hsym : ∀ a b, R a b → R b a) {l : List α} (hp : l.Pairwise R)
    {a b : α} (ha : a ∈ l) (hb : b ∈ l) (hab : a ≠ b) : R a b := by
  induction l with
  | nil => cases ha
  | cons x xs ih =>
    obtain ⟨hx, hxs⟩ := List.pairwise_cons.mp hp
    rcases List.mem_cons.mp ha with rfl | ha' <;> rcases List.mem_cons.mp hb with rfl | hb'
    · exact absurd rfl hab
    · exact hx b hb'
    · exact hsym _ _ (hx a ha')
    · exact ih hxs ha' hb'

theorem ids_inj {l : List (Node V)} (h : (l.map (·.id)).Nodup) {a b : Node V} (ha : a ∈ l) (hb : b ∈ l)
    (hab : a.id = b.id) : a = b :=
  Classical.byContradiction fun hne =>
    pairwise_ne_of_mem (fun _ _ h e => h e.symm) (List.pairwise_map.mp h) ha hb hne hab

theorem find_of_mem {l : List (Node V)} (hnd : (l.map (·.id)).Nodup) {s : Node V} (hs : s ∈ l) :
    l.find? (fun n => n.id = s.id) = some s := by
  cases h : l.find? (fun n => n.id = s.id) with
  | none => simpa using List.find?_eq_none.mp h s hs
  | some m => rw [ids_inj hnd (List.mem_of_find?_eq_some h) hs (by simpa using List.find?_some h)]

/-! ### `setNode` -/

theorem setNode_ids (g : Graph V) (n : Node V) : (g.setNode n).nodes.map (·.id) = g.nodes.map (·.id) := by
  simp only [Graph.setNode, List.map_map]
  apply List.map_congr_left
  intro m _
  simp only [Function.comp]
  split <;> simp_all

theorem mem_setNode {n m : Node V} (h : m ∈ (g.setNode n).nodes) :
    m = n ∨ (m ∈ g.nodes ∧ m.id ≠ n.id) := by
  simp only [Graph.setNode, List.mem_map] at h
  obtain ⟨m0, hm0, rfl⟩ := h
  split
  · exact Or.inl rfl
  · rename_i hne; exact Or.inr ⟨hm0, hne⟩

theorem setNode_keeps {d n : Node V} (hnd : (g.nodes.map (·.id)).Nodup)
    (hd : d ∈ g.nodes) (hid : n.id = d.id) (hty : n.ty = d.ty) : Keeps g (g.setNode n) := by
  intro s hs
  by_cases h : s.id = n.id
  · obtain rfl : s = d := ids_inj hnd hs hd (h.trans hid)
    exact ⟨n, List.mem_map.mpr ⟨s, hs, by simp [h]⟩, h.symm, hty⟩
  · exact ⟨s, List.mem_map.mpr ⟨s, hs, by simp [h]⟩, rfl, rfl⟩

theorem find_setNode {d n : Node V} (hnd : (g.nodes.map (·.id)).Nodup) (hd : d ∈ g.nodes)
    (hid : n.id = d.id) : (g.setNode n).find d.id = some n :=
  hid ▸ find_of_mem (s := n) (by rw [setNode_ids]; exact hnd) (List.mem_map.mpr ⟨d, hd, if_pos hid.symm⟩)

theorem WF.setNode {d n : Node V} (hw : WF E g) (hd : d ∈ g.nodes)
    (hid : n.id = d.id) (hty : n.ty = d.ty) (hn : NodeWF E g n) : WF E (g.setNode n) :=
  WF.of_keeps (setNode_keeps hw.nodup hd hid hty) (by rw [setNode_ids]; exact hw.nodup)
    (fun m hm => (mem_setNode hm).elim (· ▸ hn) fun h => hw.nodes m h.1) hw.prodsNodup hw.prods

/-! ### one port, or the parameter record, of a node changes -/

theorem NodeWF.setArr {n : Node V} (hn : NodeWF E g n) {p : Name} {l : List Ref}
    (hl : ∀ T, E.types n.ty = some T → ∀ r ∈ l, ∃ t, portTy T.arrs p = some t ∧ RefOK E g t r) :
    NodeWF E g { n with arrs := upd n.arrs p l } := by
  obtain ⟨hid, T, hT, hs, ha, hp⟩ := hn
  refine ⟨hid, T, hT, hs, fun q r hr => ?_, hp⟩
  simp only [upd] at hr
  split at hr
  · rename_i hq; exact hq ▸ hl T hT r hr
  · exact ha q r hr

theorem NodeWF.setScal {n : Node V} (hn : NodeWF E g n) {p : Name} {o : Option Ref}
    (ho : ∀ T, E.types n.ty = some T → ∀ r, o = some r → ∃ t, portTy T.scal p = some t ∧ RefOK E g t r) :
    NodeWF E g { n with scal := upd n.scal p o } := by
  obtain ⟨hid, T, hT, hs, ha, hp⟩ := hn
  refine ⟨hid, T, hT, fun q r hr => ?_, ha, hp⟩
  simp only [upd] at hr
  split at hr
  · rename_i hq; exact hq ▸ ho T hT r hr
  · exact hs q r hr

theorem NodeWF.setPar {n : Node V} {p p' : Param V} (hn : NodeWF E g n)
    (hp : n.par = some p) (h : ∀ k, ParamOK E n.ty k p → ParamOK E n.ty k p') :
    NodeWF E g { n with par := some p' } := by
  obtain ⟨hid, T, hT, hs, ha, hpar⟩ := hn
  refine ⟨hid, T, hT, hs, ha, ?_⟩
  rw [hp] at hpar
  cases hk : T.param <;> simp only [hk] at hpar ⊢
  exact h _ hpar

/-! ### fresh ids; association lists (`aset`, `aget`, `adel`); `portTy` -/

theorem nodeIdOf_ne_empty (k : Nat) : nodeIdOf k ≠ "" := by
  intro h
  have := congrArg String.length h
  simp [nodeIdOf, String.length_append] at this

theorem firstFree_fresh {ids : List Id} {fuel k : Nat} {id : Id} (h : firstFree ids fuel k = some id) :
    id ∉ ids ∧ id ≠ "" := by
  induction fuel generalizing k with
  | zero => cases h
  | succ f ih =>
    unfold firstFree at h
    split at h
    · exact ih h
    · cases h
      exact ⟨by assumption, nodeIdOf_ne_empty k⟩

theorem mem_aset {β} {l : List (String × β)} {k : String} {v : β} {kv : String × β} (h : kv ∈ aset l k v) :
    kv = (k, v) ∨ kv ∈ l := by
  induction l with
  | nil => simpa [aset] using h
  | cons x xs ih =>
    unfold aset at h
    split at h <;> simp only [List.mem_cons] at h ⊢
    · exact h.imp_right Or.inr
    · rcases h with h | h
      · exact .inr (.inl h)
      · exact (ih h).imp_right Or.inr

theorem aset_nodup {β} {l : List (String × β)} (k : String) (v : β) (h : (l.map (·.1)).Nodup) :
    ((aset l k v).map (·.1)).Nodup := by
  induction l with
  | nil => simp [aset]
  | cons x xs ih =>
    simp only [List.map_cons, List.nodup_cons] at h
    unfold aset
    split
    · rename_i hk; subst hk; simpa using h
    · rename_i hk
      simp only [List.map_cons, List.nodup_cons]
      refine ⟨fun hmem => ?_, ih h.2⟩
      obtain ⟨kv, hkv, e⟩ := List.mem_map.mp hmem
      rcases mem_aset hkv with rfl | h'
      · exact hk e.symm
      · exact h.1 (List.mem_map.mpr ⟨kv, h', e⟩)

theorem aget_aset_self {β : Type} (l : List (String × β)) (k : String) (v : β) : aget (aset l k v) k = some v := by
  induction l with
  | nil => simp [aset, aget]
  | cons x xs ih => unfold aset; split <;> simp_all [aget]

theorem aget_aset_ne {β : Type} (l : List (String × β)) {k k' : String} (v : β) (h : k' ≠ k) :
    aget (aset l k v) k' = aget l k' := by
  induction l with
  | nil => simp [aset, aget, Ne.symm h]
  | cons x xs ih => unfold aset; split <;> simp_all [aget, Ne.symm h]

theorem aget_adel_ne {β : Type} (l : List (String × β)) {k k' : String} (h : k' ≠ k) :
    aget (adel l k) k' = aget l k' := by
  induction l with
  | nil => rfl
  | cons x xs ih =>
    simp only [adel, List.filter_cons] at ih ⊢
    split <;> simp_all [aget, Ne.symm h]

theorem portTy_mem {l : List (Name × VTy)} {p : Name} {t : VTy} (h : portTy l p = some t) : (p, t) ∈ l := by
  induction l with
  | nil => cases h
  | cons x xs ih =>
    obtain ⟨q, t'⟩ := x
    unfold portTy at h
    split at h
    · rename_i hq; cases h; subst hq; exact List.mem_cons_self
    · exact List.mem_cons_of_mem _ (ih h)

theorem portTy_mem_keys {l : List (Name × VTy)} {p : Name} {t : VTy} (h : portTy l p = some t) : p ∈ l.map (·.1) :=
  List.mem_map.mpr ⟨(p, t), portTy_mem h, rfl⟩

/-! ### what a successful editing operation did -/

theorem setInputConnect_inv {T : NodeType} {n n' : Node V} {input : Name} {r : Ref} {t : VTy}
    (h : setInputConnect T n input r t = .ok n') :
    T.param = none ∧
    ((∃ p rest, splitFirst input = some (p, rest) ∧ portTy T.arrs p = some t ∧
        n' = { n with arrs := upd n.arrs p (n.arrs p ++ [r]) }) ∨
     (splitFirst input = none ∧ portTy T.scal input = some t ∧ n' = { n with scal := upd n.scal input (some r) })) := by
  unfold setInputConnect at h
  cases hpar : T.param <;> simp only [hpar, reduceCtorEq] at h
  refine ⟨rfl, ?_⟩
  cases hsp : splitFirst input with
  | some pr =>
    simp only [hsp] at h
    cases hpt : portTy T.arrs pr.1 <;> simp only [hpt, reduceCtorEq] at h
    split at h <;> cases h
    rename_i ht
    exact Or.inl ⟨pr.1, pr.2, rfl, ht ▸ hpt, rfl⟩
  | none =>
    simp only [hsp] at h
    cases hpt : portTy T.scal input <;> simp only [hpt, reduceCtorEq] at h
    split at h <;> cases h
    rename_i ht
    exact Or.inr ⟨rfl, ht ▸ rfl, rfl⟩

theorem setInputDisconnect_inv {T : NodeType} {n n' : Node V} {input : Name}
    (h : setInputDisconnect T n input = .ok n') :
    T.param = none ∧
    ((∃ p rest k, splitFirst input = some (p, rest) ∧ atoi rest = some k ∧ p ∈ T.arrs.map (·.1) ∧
        k.toNat < (n.arrs p).length ∧ n' = { n with arrs := upd n.arrs p ((n.arrs p).eraseIdx k.toNat) }) ∨
     (splitFirst input = none ∧ (∃ t, portTy T.scal input = some t) ∧ n' = { n with scal := upd n.scal input none }) ∨
     (splitFirst input = none ∧ portTy T.scal input = none ∧ input ∈ T.arrs.map (·.1) ∧
        n' = { n with arrs := upd n.arrs input [] })) := by
  unfold setInputDisconnect at h
  cases hpar : T.param <;> simp only [hpar, reduceCtorEq] at h
  refine ⟨rfl, ?_⟩
  cases hsp : splitFirst input with
  | some pr =>
    simp only [hsp] at h
    cases hk : atoi pr.2 <;> simp only [hk, reduceCtorEq] at h
    cases hpt : portTy T.arrs pr.1 <;> simp only [hpt, reduceCtorEq] at h
    split at h <;> cases h
    rename_i hb
    exact Or.inl ⟨pr.1, pr.2, _, rfl, hk, portTy_mem_keys hpt, hb.2, rfl⟩
  | none =>
    simp only [hsp] at h
    cases hps : portTy T.scal input with
    | some t' =>
      simp only [hps] at h
      cases h
      exact Or.inr (Or.inl ⟨rfl, ⟨t', rfl⟩, rfl⟩)
    | none =>
      cases hpa : portTy T.arrs input <;> simp only [hps, hpa, reduceCtorEq] at h
      cases h
      exact Or.inr (Or.inr ⟨rfl, rfl, portTy_mem_keys hpa, rfl⟩)

/-- What is known of `step E g op = .ok g'`: one constructor per path through `step`, with the guards passed on the way.
    Weaker than `step` where no proof needs more: the id of a created node is any fresh one, the new metadata any at all. -/
inductive Step (E : Env V J) (g : Graph V) : Op J → Graph V → Prop
  | create {ty : TyName} {T : NodeType} {id : Id} : E.types ty = some T → id ∉ g.ids → id ≠ "" →
      Step E g (.create ty) { g with nodes := g.nodes ++ [emptyNode id ty (freshParam E ty T)] }
  | connectArr {src dst : Id} {ip p rest : Name} {d s : Node V} {Td Ts : NodeType} :
      g.find dst = some d → g.find src = some s → E.types d.ty = some Td → E.types s.ty = some Ts → Td.param = none →
      splitFirst ip = some (p, rest) → portTy Td.arrs p = some Ts.out →
      Step E g (.connect src "Out" dst ip) (g.setNode { d with arrs := upd d.arrs p (d.arrs p ++ [⟨src, "Out"⟩]) })
  | connectScal {src dst : Id} {ip : Name} {d s : Node V} {Td Ts : NodeType} :
      g.find dst = some d → g.find src = some s → E.types d.ty = some Td → E.types s.ty = some Ts → Td.param = none →
      splitFirst ip = none → portTy Td.scal ip = some Ts.out →
      Step E g (.connect src "Out" dst ip) (g.setNode { d with scal := upd d.scal ip (some ⟨src, "Out"⟩) })
  | removeAt {dst : Id} {ip p rest : Name} {k : Int} {d : Node V} {Td : NodeType} :
      g.find dst = some d → E.types d.ty = some Td → Td.param = none → splitFirst ip = some (p, rest) →
      atoi rest = some k → p ∈ Td.arrs.map (·.1) → k.toNat < (d.arrs p).length →
      Step E g (.disconnect dst ip) (g.setNode { d with arrs := upd d.arrs p ((d.arrs p).eraseIdx k.toNat) })
  | unsetScal {dst : Id} {ip : Name} {d : Node V} {Td : NodeType} {t : VTy} :
      g.find dst = some d → E.types d.ty = some Td → Td.param = none → splitFirst ip = none →
      portTy Td.scal ip = some t → Step E g (.disconnect dst ip) (g.setNode { d with scal := upd d.scal ip none })
  | clearArr {dst : Id} {ip : Name} {d : Node V} {Td : NodeType} :
      g.find dst = some d → E.types d.ty = some Td → Td.param = none → splitFirst ip = none →
      portTy Td.scal ip = none → ip ∈ Td.arrs.map (·.1) →
      Step E g (.disconnect dst ip) (g.setNode { d with arrs := upd d.arrs ip [] })
  | setValue {id : Id} {j : J} {n : Node V} {p : Param V} {v : V} :
      g.find id = some n → n.par = some p → E.fromJ n.ty j = some v →
      Step E g (.setValue id j) (g.setNode { n with par := some { p with cur := some v } })
  | setName {id : Id} {s : String} {n : Node V} {p : Param V} : g.find id = some n → n.par = some p →
      Step E g (.setName id s) (g.setNode { n with par := some { p with name := s } })
  | setDesc {id : Id} {s : String} {n : Node V} {p : Param V} : g.find id = some n → n.par = some p →
      Step E g (.setDesc id s) (g.setNode { n with par := some { p with desc := s } })
  | setProducer {id : Id} {file : String} {n : Node V} {T : NodeType} :
      g.find id = some n → E.types n.ty = some T → T.out = artTy →
      Step E g (.setProducer id file)
        { g with prods := aset (g.prods.filter (fun kv => kv.2.node ≠ id)) file ⟨id, "Out"⟩ }
  | metaSet {path : List String} {v : Meta} (m : List (String × Meta)) : Step E g (.metaSet path v) { g with md := m }
  | metaDel {path : List String} (m : List (String × Meta)) : Step E g (.metaDel path) { g with md := m }
  | delete {id : Id} : g.dependedOn E id = false →
      Step E g (.delete id) { g with nodes := g.nodes.filter (fun n => n.id ≠ id),
                                     prods := g.prods.filter (fun kv => kv.2.node ≠ id) }

theorem step_sound {g g' : Graph V} {op : Op J} (h : step E g op = .ok g') : Step E g op g' := by
  cases op with
  | create ty =>
    simp only [step] at h
    cases hT : E.types ty <;> simp only [hT, reduceCtorEq] at h
    cases hf : firstFree g.ids (g.nodes.length + 1) g.nodes.length <;> simp only [hf, reduceCtorEq] at h
    cases h
    exact .create hT (firstFree_fresh hf).1 (firstFree_fresh hf).2
  | connect src sp dst ip =>
    simp only [step] at h
    cases hd : g.find dst <;> simp only [hd, reduceCtorEq] at h
    cases hs : g.find src <;> simp only [hs, reduceCtorEq] at h
    rename_i d s
    cases hTd : E.types d.ty <;> simp only [hTd, reduceCtorEq] at h
    cases hTs : E.types s.ty <;> simp only [hTs, reduceCtorEq] at h
    split at h <;> try cases h
    rename_i Td Ts hport
    subst hport
    cases hc : setInputConnect Td d ip ⟨src, "Out"⟩ Ts.out <;> simp only [hc, bind, Except.bind, reduceCtorEq] at h
    cases h
    obtain ⟨hpar, ⟨p, rest, hsp, hpt, rfl⟩ | ⟨hsp, hpt, rfl⟩⟩ := setInputConnect_inv hc
    · exact .connectArr hd hs hTd hTs hpar hsp hpt
    · exact .connectScal hd hs hTd hTs hpar hsp hpt
  | disconnect dst ip =>
    simp only [step] at h
    cases hd : g.find dst <;> simp only [hd, reduceCtorEq] at h
    rename_i d
    cases hTd : E.types d.ty <;> simp only [hTd, reduceCtorEq] at h
    rename_i Td
    cases hc : setInputDisconnect Td d ip <;> simp only [hc, bind, Except.bind, reduceCtorEq] at h
    cases h
    obtain ⟨hpar, ⟨p, rest, k, hsp, hk, hpm, hlen, rfl⟩ | ⟨hsp, ⟨t, hpt⟩, rfl⟩ | ⟨hsp, hps, hpm, rfl⟩⟩ :=
      setInputDisconnect_inv hc
    · exact .removeAt hd hTd hpar hsp hk hpm hlen
    · exact .unsetScal hd hTd hpar hsp hpt
    · exact .clearArr hd hTd hpar hsp hps hpm
  | setValue id j =>
    simp only [step] at h
    cases hn : g.find id <;> simp only [hn, reduceCtorEq] at h
    rename_i n
    cases hp : n.par <;> simp only [hp, reduceCtorEq] at h
    cases hv : E.fromJ n.ty j <;> simp only [hv, reduceCtorEq] at h
    cases h
    exact .setValue hn hp hv
  | setName id s =>
    simp only [step] at h
    cases hn : g.find id <;> simp only [hn, reduceCtorEq] at h
    rename_i n
    cases hp : n.par <;> simp only [hp, reduceCtorEq] at h
    cases h
    exact .setName hn hp
  | setDesc id s =>
    simp only [step] at h
    cases hn : g.find id <;> simp only [hn, reduceCtorEq] at h
    rename_i n
    cases hp : n.par <;> simp only [hp, reduceCtorEq] at h
    cases h
    exact .setDesc hn hp
  | setProducer id file =>
    simp only [step] at h
    cases hn : g.find id <;> simp only [hn, reduceCtorEq] at h
    rename_i n
    cases hT : E.types n.ty <;> simp only [hT, reduceCtorEq] at h
    split at h <;> cases h
    exact .setProducer hn hT ‹_›
  | metaSet path v =>
    simp only [step] at h
    cases hm : GraphIO.metaSet path v g.md <;> simp only [hm, bind, Except.bind, reduceCtorEq] at h
    cases h; exact .metaSet _
  | metaDel path =>
    simp only [step] at h
    cases hm : GraphIO.metaDel path g.md <;> simp only [hm, bind, Except.bind, reduceCtorEq] at h
    cases h; exact .metaDel _
  | delete id =>
    simp only [step] at h
    split at h <;> cases h
    rename_i hdep
    exact .delete (by simpa using hdep)

/-! ### each editing operation keeps the graph well-formed -/

theorem WF.sameNodes {g g' : Graph V} (hw : WF E g) (hn : g'.nodes = g.nodes)
    (hpn : (g'.prods.map (·.1)).Nodup) (hp : ∀ kv ∈ g'.prods, RefOK E g artTy kv.2) : WF E g' :=
  WF.of_keeps (.of_subset fun _ hs => hn ▸ hs) (hn ▸ hw.nodup) (fun m hm => hw.nodes m (hn ▸ hm)) hpn hp

/-- node `d` of a well-formed graph is replaced by `d` with one port changed -/
theorem WF.setArr (hw : WF E g) {dst : Id} {d : Node V} (hd : g.find dst = some d) {p : Name} {l : List Ref}
    (hl : ∀ T, E.types d.ty = some T → ∀ r ∈ l, ∃ t, portTy T.arrs p = some t ∧ RefOK E g t r) :
    WF E (g.setNode { d with arrs := upd d.arrs p l }) :=
  hw.setNode (find_some hd).1 rfl rfl ((hw.nodes d (find_some hd).1).setArr hl)

theorem WF.setScal (hw : WF E g) {dst : Id} {d : Node V} (hd : g.find dst = some d) {p : Name} {o : Option Ref}
    (ho : ∀ T, E.types d.ty = some T → ∀ r, o = some r → ∃ t, portTy T.scal p = some t ∧ RefOK E g t r) :
    WF E (g.setNode { d with scal := upd d.scal p o }) :=
  hw.setNode (find_some hd).1 rfl rfl ((hw.nodes d (find_some hd).1).setScal ho)

theorem WF.setPar (hw : WF E g) {id : Id} {n : Node V} (hn : g.find id = some n) {p p' : Param V}
    (hp : n.par = some p) (h : ∀ k, ParamOK E n.ty k p → ParamOK E n.ty k p') :
    WF E (g.setNode { n with par := some p' }) :=
  hw.setNode (find_some hn).1 rfl rfl ((hw.nodes n (find_some hn).1).setPar hp h)

theorem Step.wf (hE : EnvOK E) {g g' : Graph V} {op : Op J} (hw : WF E g) (h : Step E g op g') : WF E g' := by
  have src_ok : ∀ {src : Id} {s : Node V} {Ts : NodeType}, g.find src = some s → E.types s.ty = some Ts →
      RefOK E g Ts.out ⟨src, "Out"⟩ :=
    fun hs hTs => ⟨rfl, _, (find_some hs).1, (find_some hs).2, _, hTs, rfl⟩
  cases h with
  | @create ty T id hT hfresh hne =>
    refine WF.of_keeps (.of_subset fun _ hs => List.mem_append_left _ hs) ?_ ?_ hw.prodsNodup hw.prods
    · rw [List.map_append, List.nodup_append]
      exact ⟨hw.nodup, by simp, fun a ha b hb hab => hfresh (by simp at hb; rwa [hab, hb] at ha)⟩
    · intro n hn
      rcases List.mem_append.mp hn with hn | hn
      · exact hw.nodes n hn
      · obtain rfl := List.mem_singleton.mp hn
        refine ⟨hne, T, hT, fun p r hr => (by cases hr), fun p r hr => (List.not_mem_nil hr).elim, ?_⟩
        show match T.param, freshParam E ty T with | some k, some p => ParamOK E ty k p | none, none => True | _, _ => False
        unfold freshParam
        cases hk : T.param with
        | none => trivial
        | some k => exact ⟨fun v hv => (by cases hv), hE.dfltLaw ty, fun hkv => hE.valueDflt ty T hT (hkv ▸ hk), fun _ => rfl⟩
  | connectArr hd hs hTd hTs _ _ hpt =>
    refine hw.setArr hd fun T hT r hr => ?_
    obtain rfl := Option.some.inj (hTd.symm.trans hT)
    rcases List.mem_append.mp hr with h1 | h1
    · exact (hw.nodes _ (find_some hd).1).arrs_ok hTd h1
    · exact ⟨_, hpt, List.mem_singleton.mp h1 ▸ src_ok hs hTs⟩
  | connectScal hd hs hTd hTs _ _ hpt =>
    refine hw.setScal hd fun T hT r hr => ?_
    obtain rfl := Option.some.inj (hTd.symm.trans hT)
    exact ⟨_, hpt, Option.some.inj hr ▸ src_ok hs hTs⟩
  | removeAt hd =>
    exact hw.setArr hd fun T hT r hr => (hw.nodes _ (find_some hd).1).arrs_ok hT (List.mem_of_mem_eraseIdx hr)
  | unsetScal hd => exact hw.setScal hd fun T hT r hr => by cases hr
  | clearArr hd => exact hw.setArr hd fun T hT r hr => by cases hr
  | setValue hn hp hv =>
    refine hw.setPar hn hp ?_
    rintro k ⟨-, h2, h3, h4⟩
    exact ⟨fun v' hv' => Option.some.inj hv' ▸ hE.law _ _ _ hv, h2, h3, h4⟩
  | setName hn hp => exact hw.setPar hn hp fun _ hk => hk
  | setDesc hn hp => exact hw.setPar hn hp fun _ hk => hk
  | setProducer hn hT hout =>
    refine hw.sameNodes rfl (aset_nodup _ _ ((List.filter_sublist.map _).nodup hw.prodsNodup)) fun kv hkv => ?_
    rcases mem_aset hkv with rfl | hkv'
    · exact ⟨rfl, _, (find_some hn).1, (find_some hn).2, _, hT, hout⟩
    · exact hw.prods kv (List.mem_filter.mp hkv').1
  | metaSet m => exact hw.sameNodes rfl hw.prodsNodup hw.prods
  | metaDel m => exact hw.sameNodes rfl hw.prodsNodup hw.prods
  | @delete id hdep =>
    -- a reference that resolves in `g` and does not point to `id` resolves after the deletion
    have keepRef : ∀ {t r}, r.node ≠ id → RefOK E g t r →
        RefOK E { g with nodes := g.nodes.filter (fun n => n.id ≠ id), prods := g.prods.filter (fun kv => kv.2.node ≠ id) } t r := by
      rintro t r hne ⟨hp, s, hs, hsid, rest⟩
      exact ⟨hp, s, List.mem_filter.mpr ⟨hs, by simpa [hsid] using hne⟩, hsid, rest⟩
    refine ⟨(List.filter_sublist.map _).nodup hw.nodup, fun n hn => ?_, (List.filter_sublist.map _).nodup hw.prodsNodup,
      fun kv hkv => keepRef (by simpa using (List.mem_filter.mp hkv).2) (hw.prods kv (List.mem_filter.mp hkv).1)⟩
    have hn' := (List.mem_filter.mp hn).1
    obtain ⟨hid, T, hT, hs, ha, hp⟩ := hw.nodes n hn'
    -- nothing references `id`
    have nodep : ∀ r ∈ n.refs T, r.node ≠ id := fun r hr hrid => by
      simp only [Graph.dependedOn, List.any_eq_false] at hdep
      have := hdep n hn'
      simp only [hT, List.any_eq_true, decide_eq_true_eq] at this
      exact this ⟨r, hr, hrid⟩
    refine ⟨hid, T, hT, fun p r hr => ?_, fun p r hr => ?_, hp⟩
    · obtain ⟨t, ht, hok⟩ := hs p r hr
      exact ⟨t, ht, keepRef (nodep r (List.mem_append_left _ (List.mem_filterMap.mpr ⟨(p, t), portTy_mem ht, hr⟩))) hok⟩
    · obtain ⟨t, ht, hok⟩ := ha p r hr
      exact ⟨t, ht, keepRef (nodep r (List.mem_append_right _ (List.mem_flatMap.mpr ⟨(p, t), portTy_mem ht, hr⟩))) hok⟩

theorem step_wf (hE : EnvOK E) {g g' : Graph V} {op : Op J} (hw : WF E g)
    (h : step E g op = .ok g') : WF E g' :=
  (step_sound h).wf hE hw

theorem init_wf (h : Hdr) : WF E (Graph.init h : Graph V) :=
  ⟨List.nodup_nil, fun _ hn => (List.not_mem_nil hn).elim, List.nodup_nil, fun _ hkv => (List.not_mem_nil hkv).elim⟩

theorem run_wf (hE : EnvOK E) (ops : List (Op J)) (hw : WF E g) : WF E (run E g ops) := by
  induction ops generalizing g with
  | nil => exact hw
  | cons op ops ih =>
    refine ih ?_
    unfold stepTotal
    split
    · rename_i g' hs; exact step_wf hE hw hs
    · exact hw

/-! ### `sortBy` returns the one sorted permutation -/

theorem insertBy_perm {α} (lt : α → α → Bool) (a : α) (l : List α) : (insertBy lt a l).Perm (a :: l) := by
  induction l with
  | nil => exact List.Perm.refl _
  | cons b bs ih =>
    unfold insertBy
    split
    · exact ((List.Perm.cons b ih).trans (List.Perm.swap a b bs))
    · exact List.Perm.refl _

theorem sortBy_perm {α} (lt : α → α → Bool) (l : List α) : (sortBy lt l).Perm l := by
  induction l with
  | nil => exact List.Perm.refl _
  | cons a as ih => exact (insertBy_perm lt a _).trans (List.Perm.cons a ih)

theorem StrictTotalOn.sub {α} {lt : α → α → Bool} {l l' : List α} (h : StrictTotalOn lt l) (hs : ∀ a ∈ l', a ∈ l) :
    StrictTotalOn lt l' :=
  ⟨fun a ha b hb => h.asymm a (hs a ha) b (hs b hb),
   fun a ha b hb c hc => h.trans a (hs a ha) b (hs b hb) c (hs c hc),
   fun a ha b hb => h.total a (hs a ha) b (hs b hb)⟩

theorem insertBy_pairwise {α} {lt : α → α → Bool} {a : α} {l : List α} (hS : StrictTotalOn lt (a :: l))
    (ha : a ∉ l) (hp : l.Pairwise (fun x y => lt x y = true)) :
    (insertBy lt a l).Pairwise (fun x y => lt x y = true) := by
  induction l with
  | nil => simp [insertBy]
  | cons b bs ih =>
    obtain ⟨hb, hbs⟩ := List.pairwise_cons.mp hp
    have ma : a ∈ a :: b :: bs := List.mem_cons_self
    have mb : b ∈ a :: b :: bs := List.mem_cons_of_mem _ List.mem_cons_self
    unfold insertBy
    split
    · rename_i hlt
      refine List.pairwise_cons.mpr ⟨fun c hc => ?_,
        ih (hS.sub fun x hx => ?_) (fun h => ha (List.mem_cons_of_mem _ h)) hbs⟩
      · rcases List.mem_cons.mp ((insertBy_perm lt a bs).mem_iff.mp hc) with rfl | hc'
        · exact hlt
        · exact hb c hc'
      · rcases List.mem_cons.mp hx with rfl | hx
        · exact ma
        · exact List.mem_cons_of_mem _ (List.mem_cons_of_mem _ hx)
    · rename_i hlt
      have hab : lt a b = true := (hS.total a ma b mb fun h => ha (h ▸ List.mem_cons_self)).resolve_right hlt
      refine List.pairwise_cons.mpr ⟨fun c hc => ?_, hp⟩
      rcases List.mem_cons.mp hc with rfl | hc'
      · exact hab
      · exact hS.trans a ma b mb c (List.mem_cons_of_mem _ (List.mem_cons_of_mem _ hc')) hab (hb c hc')

theorem sortBy_pairwise {α} {lt : α → α → Bool} {l : List α} (hS : StrictTotalOn lt l) (hn : l.Nodup) :
    (sortBy lt l).Pairwise (fun x y => lt x y = true) := by
  induction l with
  | nil => simp [sortBy]
  | cons a as ih =>
    obtain ⟨ha, has⟩ := List.nodup_cons.mp hn
    unfold sortBy
    apply insertBy_pairwise
    · exact hS.sub (fun x hx => by
        rcases List.mem_cons.mp hx with rfl | hx
        · exact List.mem_cons_self
        · exact List.mem_cons_of_mem _ ((sortBy_perm lt as).mem_iff.mp hx))
    · exact fun h => ha ((sortBy_perm lt as).mem_iff.mp h)
    · exact ih (hS.sub (fun x hx => List.mem_cons_of_mem _ hx)) has

/-- sort.Slice is only trusted to return SOME sorted permutation: under a strict total order there is only one -/
theorem sorted_unique_aux {α} {lt : α → α → Bool} {l l' : List α} (hS : StrictTotalOn lt l) (hn : l.Nodup)
    (hperm : l'.Perm l) (hsorted : l'.Pairwise (fun x y => lt x y = true)) : l' = sortBy lt l := by
  apply List.Perm.eq_of_pairwise (le := fun x y => lt x y = true) _ hsorted (sortBy_pairwise hS hn)
    (hperm.trans (sortBy_perm lt l).symm)
  intro a b ha hb hab hba
  exact (hS.asymm a (hperm.mem_iff.mp ha) b ((sortBy_perm lt l).mem_iff.mp hb) hab hba).elim

/-! ### dependency names: `indexed`, `depsOf` -/

theorem splitFirst_arrName {p : Name} (i : Nat) (h : '.' ∉ p) : splitFirst (arrName p i) = some (p, natDigits i) :=
  splitFirst_dot _ h

/-- the dependency is an element of array port `P` (what SetInput looks at: the part before the first dot) -/
def isArrOf (P : Name) (d : Dep) : Bool :=
  match splitFirst d.name with
  | some (p, _) => p = P
  | none => false

theorem indexed_map_ref (p : Name) (k : Nat) (rs : List Ref) : (indexed p k rs).map (·.ref) = rs := by
  induction rs generalizing k with
  | nil => rfl
  | cons r rs ih => simp [indexed, ih]

theorem mem_indexed {p : Name} {k : Nat} {rs : List Ref} {d : Dep} (h : d ∈ indexed p k rs) :
    ∃ i, k ≤ i ∧ i < k + rs.length ∧ d.name = arrName p i ∧ d.ref ∈ rs := by
  induction rs generalizing k with
  | nil => cases h
  | cons r rs ih =>
    rcases List.mem_cons.mp h with rfl | h'
    · exact ⟨k, Nat.le_refl _, by simp, rfl, List.mem_cons_self⟩
    · obtain ⟨i, h1, h2, h3, h4⟩ := ih h'
      exact ⟨i, by omega, by simp only [List.length_cons]; omega, h3, List.mem_cons_of_mem _ h4⟩

theorem indexed_pairwise {R : Dep → Dep → Prop} {p : Name} {k : Nat} {rs : List Ref}
    (h : ∀ a b i j, k ≤ i → i < j → j < k + rs.length → a.name = arrName p i → b.name = arrName p j → R a b) :
    (indexed p k rs).Pairwise R := by
  induction rs generalizing k with
  | nil => exact List.Pairwise.nil
  | cons r rs ih =>
    refine List.pairwise_cons.mpr ⟨fun d hd => ?_, ih fun a b i j hi hij hj => h a b i j (by omega) hij (by simp only [List.length_cons]; omega)⟩
    obtain ⟨i, h1, h2, h3, _⟩ := mem_indexed hd
    exact h _ d k i (Nat.le_refl _) (by omega) (by simp only [List.length_cons]; omega) rfl h3

theorem indexed_filter {p P : Name} (hp : '.' ∉ p) (k : Nat) (rs : List Ref) :
    (indexed p k rs).filter (isArrOf P) = if p = P then indexed p k rs else [] := by
  have key : ∀ d ∈ indexed p k rs, isArrOf P d = decide (p = P) := fun d hd => by
    obtain ⟨i, _, _, h3, _⟩ := mem_indexed hd
    simp [isArrOf, h3, splitFirst_arrName i hp]
  split
  · exact List.filter_eq_self.mpr fun d hd => by simp [key d hd, *]
  · exact List.filter_eq_nil_iff.mpr fun d hd => by simp [key d hd, *]

theorem arrs_filter_aux (arrs : List (Name × VTy)) (f : Name → List Ref) (hnd : (arrs.map (·.1)).Nodup)
    (hdot : ∀ p ∈ arrs.map (·.1), '.' ∉ p) (P : Name) :
    (arrs.flatMap (fun p => indexed p.1 0 (f p.1))).filter (isArrOf P) =
      if P ∈ arrs.map (·.1) then indexed P 0 (f P) else [] := by
  induction arrs with
  | nil => simp
  | cons x xs ih =>
    simp only [List.map_cons, List.nodup_cons] at hnd
    simp only [List.flatMap_cons, List.filter_append, List.map_cons, List.mem_cons,
      indexed_filter (hdot x.1 (by simp)), ih hnd.2 fun p hp => hdot p (List.mem_cons_of_mem _ hp)]
    by_cases hqP : x.1 = P
    · subst hqP; simp [hnd.1]
    · simp only [hqP, if_false, List.nil_append, show ¬ P = x.1 from fun e => hqP e.symm, false_or]

theorem mem_scalDeps {T : NodeType} {n : Node V} {d : Dep}
    (h : d ∈ T.scal.filterMap (fun p => (n.scal p.1).map (fun r => (⟨p.1, r⟩ : Dep)))) :
    d.name ∈ T.scal.map (·.1) ∧ n.scal d.name = some d.ref := by
  obtain ⟨⟨p, t⟩, hp, hd⟩ := List.mem_filterMap.mp h
  cases hr : n.scal p with
  | none => simp [hr] at hd
  | some r =>
    simp only [hr, Option.map_some, Option.some.injEq] at hd
    subst hd
    exact ⟨List.mem_map.mpr ⟨(p, t), hp, rfl⟩, hr⟩

theorem mem_arrDeps {T : NodeType} {n : Node V} {d : Dep}
    (h : d ∈ T.arrs.flatMap (fun p => indexed p.1 0 (n.arrs p.1))) :
    ∃ p ∈ T.arrs.map (·.1), ∃ i, i < (n.arrs p).length ∧ d.name = arrName p i ∧ d.ref ∈ n.arrs p := by
  obtain ⟨⟨p, t⟩, hp, hd⟩ := List.mem_flatMap.mp h
  obtain ⟨i, _, h2, h3, h4⟩ := mem_indexed hd
  exact ⟨p, List.mem_map.mpr ⟨(p, t), hp, rfl⟩, i, by simpa using h2, h3, h4⟩

theorem arrName_ne_port {p q : Name} (hp : '.' ∉ p) (hq : '.' ∉ q) (hne : p ≠ q) (i j : Nat) :
    arrName p i ≠ arrName q j := by
  intro e
  have := congrArg splitFirst e
  rw [splitFirst_arrName i hp, splitFirst_arrName j hq] at this
  simp at this
  exact hne this.1

theorem depsOf_filter (hE : EnvOK E) {ty : TyName} {T : NodeType} (hT : E.types ty = some T)
    (n : Node V) (P : Name) :
    (depsOf T n).filter (isArrOf P) = if P ∈ T.arrs.map (·.1) then indexed P 0 (n.arrs P) else [] := by
  unfold depsOf
  rw [List.filter_append, arrs_filter_aux T.arrs n.arrs (hE.arrNodup ty T hT) (hE.arrNoDot ty T hT) P]
  have : (T.scal.filterMap (fun p => (n.scal p.1).map (fun r => (⟨p.1, r⟩ : Dep)))).filter (isArrOf P) = [] := by
    apply List.filter_eq_nil_iff.mpr
    intro d hd
    have := hE.scalNoDot ty T hT d.name (mem_scalDeps hd).1
    simp [isArrOf, splitFirst_noDot this]
  rw [this, List.nil_append]

theorem mem_depsOf (hE : EnvOK E) {ty : TyName} {T : NodeType} (hT : E.types ty = some T)
    {n : Node V}
    {d : Dep} (h : d ∈ depsOf T n) :
    (splitFirst d.name = none ∧ d.name ∈ T.scal.map (·.1) ∧ n.scal d.name = some d.ref) ∨
    (∃ p ∈ T.arrs.map (·.1), ∃ i, splitFirst d.name = some (p, natDigits i) ∧ i < (n.arrs p).length ∧
      d.name = arrName p i ∧ d.ref ∈ n.arrs p) := by
  rcases List.mem_append.mp h with h | h
  · obtain ⟨h1, h2⟩ := mem_scalDeps h
    exact Or.inl ⟨splitFirst_noDot (hE.scalNoDot ty T hT _ h1), h1, h2⟩
  · obtain ⟨p, hp, i, hi, hname, href⟩ := mem_arrDeps h
    exact Or.inr ⟨p, hp, i, hname ▸ splitFirst_arrName i (hE.arrNoDot ty T hT p hp), hi, hname, href⟩

theorem depsOf_names_distinct (hE : EnvOK E) {ty : TyName} {T : NodeType} (hT : E.types ty = some T)
    (n : Node V) : (depsOf T n).Pairwise (fun a b => a.name ≠ b.name) := by
  unfold depsOf
  refine List.pairwise_append.mpr ⟨?_, ?_, fun a ha b hb e => ?_⟩
  · refine List.pairwise_filterMap.mpr ((List.pairwise_map.mp (hE.scalNodup ty T hT)).imp ?_)
    intro a b hab x hx y hy
    obtain ⟨_, _, rfl⟩ := Option.map_eq_some_iff.mp hx
    obtain ⟨_, _, rfl⟩ := Option.map_eq_some_iff.mp hy
    exact hab
  · refine List.pairwise_flatMap.mpr ⟨fun a _ => ?_, (List.pairwise_map.mp (hE.arrNodup ty T hT)).imp_of_mem ?_⟩
    · exact indexed_pairwise fun x y i j _ hij _ hx hy e => by rw [hx, hy] at e; have := arrName_inj e; omega
    · intro a b ha hb hab x hx y hy
      obtain ⟨i, _, _, hi, _⟩ := mem_indexed hx
      obtain ⟨j, _, _, hj, _⟩ := mem_indexed hy
      rw [hi, hj]
      exact arrName_ne_port (hE.arrNoDot ty T hT _ (List.mem_map.mpr ⟨a, ha, rfl⟩))
        (hE.arrNoDot ty T hT _ (List.mem_map.mpr ⟨b, hb, rfl⟩)) hab i j
  · have h1 := hE.scalNoDot ty T hT a.name (mem_scalDeps ha).1
    obtain ⟨p, hp, i, _, hname, _⟩ := mem_arrDeps hb
    have h2 := splitFirst_arrName i (hE.arrNoDot ty T hT p hp)
    rw [← hname, ← e, splitFirst_noDot h1] at h2
    cases h2

theorem depsOf_strict (hE : EnvOK E) {ty : TyName} {T : NodeType} (hT : E.types ty = some T)
    {n : Node V} (hc : CmpOK cmp T n) :
    StrictTotalOn (fun a b : Dep => cmp a.name b.name) (depsOf T n) ∧ (depsOf T n).Nodup := by
  have hd := depsOf_names_distinct hE hT n
  have mem : ∀ a ∈ depsOf T n, a.name ∈ (depsOf T n).map (·.name) := fun a ha => List.mem_map.mpr ⟨a, ha, rfl⟩
  refine ⟨⟨?_, ?_, ?_⟩, ?_⟩
  · intro a ha b hb; exact hc.strict.asymm _ (mem a ha) _ (mem b hb)
  · intro a ha b hb c hcm; exact hc.strict.trans _ (mem a ha) _ (mem b hb) _ (mem c hcm)
  · intro a ha b hb hab
    exact hc.strict.total _ (mem a ha) _ (mem b hb)
      (pairwise_ne_of_mem (fun _ _ h => fun e => h e.symm) hd ha hb hab)
  · exact hd.imp (fun {a b} h (e : a = b) => h (congrArg Dep.name e))

/-! ### the sorted dependency list, seen through SetInput -/

theorem sorted_filter_arr (hE : EnvOK E) {ty : TyName} {T : NodeType} (hT : E.types ty = some T)
    {n : Node V} (hc : CmpOK cmp T n) {P : Name} (hP : P ∈ T.arrs.map (·.1)) :
    ((sortBy (fun a b : Dep => cmp a.name b.name) (depsOf T n)).filter (isArrOf P)).map (·.ref) = n.arrs P := by
  obtain ⟨hS, hN⟩ := depsOf_strict hE hT hc
  have hperm := (sortBy_perm (fun a b : Dep => cmp a.name b.name) (depsOf T n)).filter (isArrOf P)
  rw [depsOf_filter hE hT n P, if_pos hP] at hperm
  have hsorted := (sortBy_pairwise hS hN).filter (isArrOf P)
  have hidx : (indexed P 0 (n.arrs P)).Pairwise (fun a b => cmp a.name b.name = true) :=
    indexed_pairwise fun a b i j _ hij hj ha hb => by rw [ha, hb]; exact hc.arrOrder P hP i j hij (by simpa using hj)
  have : (sortBy (fun a b : Dep => cmp a.name b.name) (depsOf T n)).filter (isArrOf P) = indexed P 0 (n.arrs P) := by
    apply List.Perm.eq_of_pairwise (le := fun a b : Dep => cmp a.name b.name = true) _ hsorted hidx hperm
    intro a b ha hb hab hba
    have ha' : a ∈ depsOf T n := (sortBy_perm _ _).mem_iff.mp (List.mem_filter.mp ha).1
    have hb' : b ∈ depsOf T n := (sortBy_perm _ _).mem_iff.mp (List.mem_filter.mp (hperm.mem_iff.mpr hb)).1
    exact (hS.asymm a ha' b hb' hab hba).elim
  rw [this, indexed_map_ref]

theorem sorted_filter_arr_none (hE : EnvOK E) {ty : TyName} {T : NodeType} (hT : E.types ty = some T)
    {n : Node V} {P : Name} (hP : P ∉ T.arrs.map (·.1)) :
    (sortBy (fun a b : Dep => cmp a.name b.name) (depsOf T n)).filter (isArrOf P) = [] := by
  have hperm := (sortBy_perm (fun a b : Dep => cmp a.name b.name) (depsOf T n)).filter (isArrOf P)
  rw [depsOf_filter hE hT n P, if_neg hP] at hperm
  exact List.Perm.eq_nil hperm

/-- the scalar field `q` after replaying `L` on a node whose field held `acc` -/
def scalOf : List Dep → Option Ref → Name → Option Ref
  | [], acc, _ => acc
  | d :: ds, acc, q => scalOf ds (if splitFirst d.name = none ∧ d.name = q then some d.ref else acc) q

theorem scalOf_absent {L : List Dep} {acc : Option Ref} {q : Name}
    (h : ∀ d ∈ L, ¬ (splitFirst d.name = none ∧ d.name = q)) : scalOf L acc q = acc := by
  induction L generalizing acc with
  | nil => rfl
  | cons d ds ih =>
    simp only [scalOf, if_neg (h d List.mem_cons_self)]
    exact ih (fun d' hd' => h d' (List.mem_cons_of_mem _ hd'))

theorem scalOf_present {L : List Dep} {acc : Option Ref} {q : Name} {r : Ref}
    (hd : L.Pairwise (fun a b => a.name ≠ b.name)) (hm : (⟨q, r⟩ : Dep) ∈ L) (hq : splitFirst q = none) :
    scalOf L acc q = some r := by
  induction L generalizing acc with
  | nil => cases hm
  | cons d ds ih =>
    obtain ⟨hx, hxs⟩ := List.pairwise_cons.mp hd
    rcases List.mem_cons.mp hm with rfl | hm'
    · simp only [scalOf, hq, and_self, if_true]
      apply scalOf_absent
      intro d' hd' hcontra
      exact hx d' hd' hcontra.2.symm
    · simp only [scalOf]
      exact ih hxs hm'

/-- every dependency entry names an existing node with an `Out` of the type the target field expects -/
def DepValid (E : Env V J) (ns : List (NodeS J)) (T : NodeType) (d : Dep) : Prop :=
  d.ref.port = "Out" ∧ ∃ sty Ts, tyOfId ns d.ref.node = some sty ∧ E.types sty = some Ts ∧
    ((∃ p rest, splitFirst d.name = some (p, rest) ∧ portTy T.arrs p = some Ts.out) ∨
     (splitFirst d.name = none ∧ portTy T.scal d.name = some Ts.out))

/-- `n'` is `n` after the SetInput calls of `L`: array fields grow by the entries addressed to them, in order; a scalar
    field holds what `scalOf` says; nothing else changes -/
structure Replayed (n : Node V) (L : List Dep) (n' : Node V) : Prop where
  id : n'.id = n.id
  ty : n'.ty = n.ty
  par : n'.par = n.par
  arrs : ∀ P, n'.arrs P = n.arrs P ++ (L.filter (isArrOf P)).map (·.ref)
  scal : ∀ q, n'.scal q = scalOf L (n.scal q) q

theorem replay_ok {ns : List (NodeS J)} {T : NodeType} (hTp : T.param = none)
    (L : List Dep) (n : Node V) (hv : ∀ d ∈ L, DepValid E ns T d) :
    ∃ n', replay E ns T n L = .ok n' ∧ Replayed n L n' := by
  induction L generalizing n with
  | nil => exact ⟨n, rfl, rfl, rfl, rfl, by simp, by simp [scalOf]⟩
  | cons d ds ih =>
    obtain ⟨hport, sty, Ts, hty, hTs, hcase⟩ := hv d List.mem_cons_self
    have hv' : ∀ d' ∈ ds, DepValid E ns T d' := fun d' hd' => hv d' (List.mem_cons_of_mem _ hd')
    rcases hcase with ⟨p, rest, hsplit, hpt⟩ | ⟨hsplit, hpt⟩
    · obtain ⟨n', h1, h⟩ := ih { n with arrs := upd n.arrs p (n.arrs p ++ [d.ref]) } hv'
      refine ⟨n', ?_, h.id, h.ty, h.par, fun P => ?_, fun q => ?_⟩
      · simp only [replay, hty, hTs, hport, if_true, setInputConnect, hTp, hsplit, hpt]
        exact h1
      · rw [h.arrs P]
        by_cases hP : P = p
        · subst hP
          simp [upd, isArrOf, hsplit]
        · have : ¬ p = P := fun e => hP e.symm
          simp [upd, hP, isArrOf, hsplit, this]
      · rw [h.scal q]
        simp [scalOf, hsplit]
    · obtain ⟨n', h1, h⟩ := ih { n with scal := upd n.scal d.name (some d.ref) } hv'
      refine ⟨n', ?_, h.id, h.ty, h.par, fun P => ?_, fun q => ?_⟩
      · simp only [replay, hty, hTs, hport, if_true, setInputConnect, hTp, hsplit, hpt]
        exact h1
      · rw [h.arrs P]
        simp [isArrOf, hsplit]
      · rw [h.scal q]
        by_cases hq : q = d.name
        · subst hq; simp [scalOf, hsplit, upd]
        · have : ¬ d.name = q := fun e => hq e.symm
          simp [scalOf, hsplit, upd, hq, this]

/-! ### one node: decode (encode n) -/

theorem encodeNode_id (E : Env V J) (cmp : Name → Name → Bool) (n : Node V) : (encodeNode E cmp n).id = n.id := by
  unfold encodeNode; split <;> rfl

theorem encodeNode_ty (E : Env V J) (cmp : Name → Name → Bool) (n : Node V) : (encodeNode E cmp n).ty = n.ty := by
  unfold encodeNode; split <;> rfl

theorem tyOfId_encode (E : Env V J) (cmp : Name → Name → Bool) {l : List (Node V)} (hnd : (l.map (·.id)).Nodup)
    {s : Node V} (hs : s ∈ l) : tyOfId (l.map (encodeNode E cmp)) s.id = some s.ty := by
  unfold tyOfId
  rw [List.find?_map]
  have : ((fun n : NodeS J => decide (n.id = s.id)) ∘ encodeNode E cmp) = (fun n : Node V => decide (n.id = s.id)) := by
    funext n; simp [Function.comp, encodeNode_id]
  rw [this, find_of_mem hnd hs]
  simp [encodeNode_ty]

theorem refOK_tyOfId (cmp : Name → Name → Bool) (hw : WF E g) {t : VTy} {r : Ref}
    (h : RefOK E g t r) : r.port = "Out" ∧ ∃ sty Ts, tyOfId (g.nodes.map (encodeNode E cmp)) r.node = some sty ∧
      E.types sty = some Ts ∧ Ts.out = t := by
  obtain ⟨hp, s, hs, hid, Ts, hT, ho⟩ := h
  exact ⟨hp, s.ty, Ts, hid ▸ tyOfId_encode E cmp hw.nodup hs, hT, ho⟩

theorem Param.norm_value (p : Param V) : p.norm.value = p.value := by
  obtain ⟨_, _, c, d, _⟩ := p
  cases c <;> cases d <;> rfl

theorem ParamOK.cur_law {ty : TyName} {k : PKind} {p : Param V} (h : ParamOK E ty k p) {v : V} (hv : p.cur = some v) :
    E.fromJ ty (E.toJ v) = some v := h.1 v hv
theorem ParamOK.dflt_law {ty : TyName} {k : PKind} {p : Param V} (h : ParamOK E ty k p) {v : V} (hv : p.dflt = some v) :
    E.fromJ ty (E.toJ v) = some v := h.2.1 v hv
theorem ParamOK.value_has_dflt {ty : TyName} {k : PKind} {p : Param V} (h : ParamOK E ty k p) (hk : k = .value) : p.dflt.isSome := h.2.2.1 hk
theorem ParamOK.file_dflt {ty : TyName} {k : PKind} {p : Param V} (h : ParamOK E ty k p) (hk : k = .file) : p.dflt = E.dflt ty := h.2.2.2 hk

theorem ParamOK.value_law {ty : TyName} {k : PKind} {p : Param V} (h : ParamOK E ty k p) {v : V}
    (hv : p.value = some v) : E.fromJ ty (E.toJ v) = some v := by
  unfold Param.value at hv
  cases hc : p.cur with
  | some c => rw [hc] at hv; exact h.cur_law (hc.trans hv)
  | none => rw [hc] at hv; exact h.dflt_law hv

theorem decodeParam_encode {ty : TyName} {k : PKind} {p : Param V} (hp : ParamOK E ty k p)
    {later : List J} (hl : k = .file → p.value.isSome → later = []) :
    decodeParam E ty k later (encodeParam E k p) = .ok p.norm := by
  cases k with
  | value =>
    obtain ⟨dv, hdf⟩ := Option.isSome_iff_exists.mp (hp.value_has_dflt rfl)
    obtain ⟨v, hv⟩ : ∃ v, p.value = some v := by unfold Param.value; cases p.cur <;> simp [hdf]
    simp [decodeParam, encodeParam, hv, hdf, hp.value_law hv, hp.dflt_law hdf, Param.norm]
  | file =>
    have hdflt := hp.file_dflt rfl
    cases hv : p.value with
    | none => simp [decodeParam, encodeParam, hv, Param.norm, hdflt]
    | some v =>
      simp [decodeParam, encodeParam, hv, hl rfl (by simp [hv]), readToEnd, hp.value_law hv, Param.norm, hdflt]

theorem Node.ext' {a b : Node V} (h1 : a.id = b.id) (h2 : a.ty = b.ty) (h3 : a.scal = b.scal) (h4 : a.arrs = b.arrs)
    (h5 : a.par = b.par) : a = b := by
  cases a; cases b; simp_all

theorem decodeNode_encode (hE : EnvOK E) (hw : WF E g)
    {n : Node V} (hn : n ∈ g.nodes) (hc : ∀ T, E.types n.ty = some T → CmpOK cmp T n)
    {later : List J} (hl : (Node.payload E n).isSome → later = []) :
    decodeNode E (g.nodes.map (encodeNode E cmp)) later (encodeNode E cmp n) = .ok n.norm := by
  obtain ⟨hid, T, hT, hs, ha, hp⟩ := hw.nodes n hn
  unfold decodeNode
  rw [encodeNode_id, if_neg hid, encodeNode_ty, hT]
  cases hk : T.param with
  | none =>
    rw [hk] at hp
    cases hpar : n.par <;> simp only [hpar] at hp
    have hdeps : (encodeNode E cmp n).deps = sortBy (fun a b : Dep => cmp a.name b.name) (depsOf T n) := by
      simp [encodeNode, hT, hk]
    have hperm := sortBy_perm (fun a b : Dep => cmp a.name b.name) (depsOf T n)
    -- every entry of the sorted dependency list is replayable
    have hvalid : ∀ d ∈ sortBy (fun a b : Dep => cmp a.name b.name) (depsOf T n),
        DepValid E (g.nodes.map (encodeNode E cmp)) T d := by
      intro d hd
      rcases mem_depsOf hE hT (hperm.mem_iff.mp hd) with ⟨hsp, _, hconn⟩ | ⟨p, _, i, hsp, _, _, hconn⟩
      · obtain ⟨t, ht, hok⟩ := hs _ _ hconn
        obtain ⟨hport, sty, Ts, h1, h2, h3⟩ := refOK_tyOfId cmp hw hok
        exact ⟨hport, sty, Ts, h1, h2, Or.inr ⟨hsp, h3 ▸ ht⟩⟩
      · obtain ⟨t, ht, hok⟩ := ha _ _ hconn
        obtain ⟨hport, sty, Ts, h1, h2, h3⟩ := refOK_tyOfId cmp hw hok
        exact ⟨hport, sty, Ts, h1, h2, Or.inl ⟨p, _, hsp, h3 ▸ ht⟩⟩
    obtain ⟨n', h1, hr⟩ := replay_ok hk _ (emptyNode n.id n.ty (freshParam E n.ty T)) hvalid
    have hn' : n' = n := by
      refine Node.ext' hr.id hr.ty (funext fun q => ?_) (funext fun P => ?_)
        (by rw [hr.par, hpar]; simp [emptyNode, freshParam, hk])
      · rw [hr.scal q]
        cases hq : n.scal q with
        | some r =>
          obtain ⟨t, ht, _⟩ := hs q r hq
          refine scalOf_present (hperm.pairwise_iff (fun {a b} h e => h e.symm) |>.mpr (depsOf_names_distinct hE hT n))
            (hperm.mem_iff.mpr ?_) (splitFirst_noDot (hE.scalNoDot _ T hT q (portTy_mem_keys ht)))
          exact List.mem_append_left _ (List.mem_filterMap.mpr ⟨(q, t), portTy_mem ht, by simp [hq]⟩)
        | none =>
          refine scalOf_absent fun d hd hcontra => ?_
          rcases mem_depsOf hE hT (hperm.mem_iff.mp hd) with ⟨_, _, hconn⟩ | ⟨p, _, i, hsp, _⟩
          · rw [hcontra.2, hq] at hconn; cases hconn
          · rw [hcontra.1] at hsp; cases hsp
      · rw [hr.arrs P]
        by_cases hP : P ∈ T.arrs.map (·.1)
        · exact sorted_filter_arr hE hT (hc T hT) hP
        · rw [sorted_filter_arr_none hE hT hP]
          cases hnp : n.arrs P with
          | nil => rfl
          | cons r rs =>
            obtain ⟨t, ht, _⟩ := ha P r (by simp [hnp])
            exact absurd (portTy_mem_keys ht) hP
    simp only [hk, hdeps, h1, hn', bind, Except.bind]
    exact congrArg Except.ok (Node.ext' rfl rfl rfl rfl (by simp [Node.norm, hpar]))
  | some k =>
    rw [hk] at hp
    cases hpar : n.par <;> simp only [hpar] at hp
    rename_i p
    obtain ⟨hs0, ha0⟩ := hE.paramNoPorts _ T hT (by simp [hk])
    have hdeps : (encodeNode E cmp n).deps = [] := by simp [encodeNode, hT, hk]
    have hdata : (encodeNode E cmp n).data = some (encodeParam E k p) := by simp [encodeNode, hT, hk, hpar]
    have hlater : k = .file → p.value.isSome → later = [] := fun hkf hv =>
      hl (by simp [Node.payload, hT, hk, hkf, hpar, hv])
    simp only [hk, hdeps, hdata, replay, bind, Except.bind, decodeParam_encode hp hlater]
    refine congrArg Except.ok (Node.ext' rfl rfl (funext fun q => ?_) (funext fun q => ?_) (by simp [Node.norm, hpar]))
    · cases hq : n.scal q with
      | none => exact hq.symm
      | some r => obtain ⟨t, ht, _⟩ := hs q r hq; simp [hs0, portTy] at ht
    · cases hq : n.arrs q with
      | nil => exact hq.symm
      | cons r rs => obtain ⟨t, ht, _⟩ := ha q r (by simp [hq]); simp [ha0, portTy] at ht

/-! ### all nodes, producers, header -/

theorem filePayload_encode (E : Env V J) (cmp : Name → Name → Bool) (n : Node V) :
    filePayload E (encodeNode E cmp n) = (Node.payload E n).map E.toJ := by
  unfold filePayload Node.payload
  rw [encodeNode_ty]
  cases hT : E.types n.ty with
  | none => rfl
  | some T =>
    simp only
    cases hk : T.param with
    | none => simp
    | some k =>
      cases hp : n.par with
      | none => cases k <;> simp [encodeNode, hT, hk, hp]
      | some p => cases k <;> simp [encodeNode, hT, hk, hp, encodeParam]

theorem filePayloads_encode (ns : List (Node V)) :
    (ns.map (encodeNode E cmp)).filterMap (filePayload E) = (ns.filterMap (Node.payload E)).map E.toJ := by
  induction ns with
  | nil => rfl
  | cons m ms ih =>
    simp only [List.map_cons, List.filterMap_cons, filePayload_encode]
    cases Node.payload E m <;> simpa using ih

theorem decodeNodes_encode (hE : EnvOK E) (hw : WF E g)
    (hc : ∀ n ∈ g.nodes, ∀ T, E.types n.ty = some T → CmpOK cmp T n)
    (rest : List (Node V)) (hsub : ∀ n ∈ rest, n ∈ g.nodes) (hlast : (rest.filterMap (Node.payload E)).length ≤ 1) :
    decodeNodes E (g.nodes.map (encodeNode E cmp)) (rest.map (encodeNode E cmp)) = .ok (rest.map Node.norm) := by
  induction rest with
  | nil => rfl
  | cons n ns ih =>
    have hn := hsub n List.mem_cons_self
    have hlater : (Node.payload E n).isSome → (ns.map (encodeNode E cmp)).filterMap (filePayload E) = [] := by
      intro hsome
      rw [filePayloads_encode]
      cases hp : Node.payload E n with
      | none => simp [hp] at hsome
      | some v =>
        simp only [List.filterMap_cons, hp, List.length_cons] at hlast
        have : (ns.filterMap (Node.payload E)).length = 0 := by omega
        rw [List.length_eq_zero_iff.mp this]
        rfl
    have hrest : (ns.filterMap (Node.payload E)).length ≤ 1 := by
      simp only [List.filterMap_cons] at hlast
      split at hlast
      · exact hlast
      · simp only [List.length_cons] at hlast; omega
    simp only [List.map_cons, decodeNodes]
    rw [decodeNode_encode hE hw hn (hc n hn) hlater, ih (fun m hm => hsub m (List.mem_cons_of_mem _ hm)) hrest]

theorem decodeProds_encode (hw : WF E g)
    (ps : List (String × Ref)) (hsub : ∀ kv ∈ ps, RefOK E g artTy kv.2) :
    decodeProds E (g.nodes.map (encodeNode E cmp)) ps = .ok ps := by
  induction ps with
  | nil => rfl
  | cons kv rest ih =>
    obtain ⟨hport, sty, Ts, h1, h2, h3⟩ := refOK_tyOfId cmp hw (hsub kv List.mem_cons_self)
    simp only [decodeProds, decodeProd, h1, h2, hport, h3, and_self, if_true]
    rw [ih (fun kv' h => hsub kv' (List.mem_cons_of_mem _ h))]

theorem applyHdr_empty (h : Hdr) : applyHdr Hdr.empty h = h := by
  cases h with
  | mk n v d a w =>
    simp only [applyHdr, Hdr.empty]
    congr 1
    · split <;> simp_all
    · split <;> simp_all
    · split <;> simp_all
    · cases w <;> rfl

theorem encodeNode_norm (E : Env V J) (cmp : Name → Name → Bool) (n : Node V) :
    encodeNode E cmp n.norm = encodeNode E cmp n := by
  unfold encodeNode Node.norm
  simp only
  cases hT : E.types n.ty with
  | none => rfl
  | some T =>
    simp only
    congr 1
    cases hk : T.param with
    | none => rfl
    | some k =>
      cases hp : n.par with
      | none => rfl
      | some p =>
        simp only [Option.map_some]
        congr 1
        cases k <;> simp [encodeParam, Param.norm_value] <;> simp [Param.norm]

end GraphIO
end PolyVerif
