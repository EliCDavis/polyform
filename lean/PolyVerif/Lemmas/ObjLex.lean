/-
  C05 — `strings.Fields` applied to a printed face line gives back the keyword and the three corner
  tokens (`PolyVerif/Model/ObjLex.lean`).  Core Lean only.
-/
import PolyVerif.Model.ObjLex
import PolyVerif.Lemmas.ObjText

set_option linter.unusedSimpArgs false

namespace PolyVerif
namespace ObjTextL
open Obj ObjText

def NoBlank (l : List Char) : Prop := ∀ c ∈ l, ObjText.isSpace c = false

theorem fieldsGo_tok_aux : ∀ (tok : List Char), NoBlank tok → ∀ (r cur : List Char) (acc : List (List Char)),
    fieldsGo (tok ++ r) cur acc = fieldsGo r (tok.reverse ++ cur) acc
  | [], _, r, cur, acc => rfl
  | c :: tok, h, r, cur, acc => by
    have hc : ObjText.isSpace c = false := h c (by simp)
    have ih := fieldsGo_tok_aux tok (fun x hx => h x (by simp [hx])) r (c :: cur) acc
    simp only [List.cons_append, fieldsGo, hc, Bool.false_eq_true, ↓reduceIte, ih, List.reverse_cons, List.append_assoc,
      List.singleton_append, List.nil_append]

/-- three blank-free, non-empty tokens after the keyword -/
theorem fieldsL_face_aux (A B C : List Char) (hA : NoBlank A) (hB : NoBlank B) (hC : NoBlank C)
    (nA : A ≠ []) (nB : B ≠ []) (nC : C ≠ []) :
    fieldsL ('f' :: ' ' :: (A ++ ' ' :: (B ++ ' ' :: C))) = [['f'], A, B, C] := by
  have hf : ObjText.isSpace 'f' = false := by decide
  have hs : ObjText.isSpace ' ' = true := by decide
  have eA : A.reverse.isEmpty = false := by cases A <;> simp_all
  have eB : B.reverse.isEmpty = false := by cases B <;> simp_all
  have eC : C.reverse.isEmpty = false := by cases C <;> simp_all
  unfold fieldsL
  simp only [fieldsGo, hf, hs, Bool.false_eq_true, ↓reduceIte, List.isEmpty_cons, List.isEmpty_nil, List.reverse_cons,
    List.reverse_nil, List.nil_append]
  rw [fieldsGo_tok_aux A hA]
  simp only [fieldsGo, hs, ↓reduceIte, List.append_nil, eA, Bool.false_eq_true, List.reverse_reverse]
  rw [fieldsGo_tok_aux B hB]
  simp only [fieldsGo, hs, ↓reduceIte, List.append_nil, eB, Bool.false_eq_true, List.reverse_reverse]
  have := fieldsGo_tok_aux C hC [] [] [B, A, ['f']]
  rw [List.append_nil] at this
  rw [this]
  simp [fieldsGo, eC]

theorem fields_printFace_aux (a b c : Corner) :
    fields (printFace a b c) = ["f", showCorner a, showCorner b, showCorner c] := by
  obtain ⟨a1, a2⟩ := showCornerL_chars a
  obtain ⟨b1, b2⟩ := showCornerL_chars b
  obtain ⟨c1, c2⟩ := showCornerL_chars c
  simp only [fields, printFace, String.toList_ofList, printFaceL]
  rw [fieldsL_face_aux _ _ _ a1 b1 c1 a2 b2 c2]
  rfl

end ObjTextL
end PolyVerif
