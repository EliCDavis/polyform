/-
  IEEE 754 binary32 over ℝ and the specification encoder `B32.roundMag` / `B32.q32spec` (Model/Binary32.lean, the
  definition the C07 driver runs for `c07.q32spec` against Go's `float32(x)`).  The value of a finite pattern is an
  integer over 2^150: the instance `(P, c) = (2^23, 2^150)` of Lemmas/FloatFormat.lean below the sign bit (`num_eq`,
  `ulpExp_eq`, `val_eq`; `num_mask` removes the sign bit), from which one-ulp steps and monotonicity are read off, as
  for binary16 in Lemmas/Half.lean.  The encoder is followed in ℕ as far as parity matters: the bracket
  `num h0 · d ≤ Y < (num h0 + ulp) · d` with the nearest/ties-to-even choice (`Bracket`), overflow to the infinity
  pattern from the threshold on.  `Bracket.nearest` hands the bracket to the format's rounding theory, which gives the
  half-ulp and relative 2^-24 error and idempotence on every finite pattern.
-/
import PolyVerif.Model.Binary32
import PolyVerif.Lemmas.FloatFormat

set_option exponentiation.threshold 300

namespace PolyVerif
namespace B32

/-! ### the independent specification: IEEE 754-2008 §3.4, binary32 (w = 8, t = 23, p = 24, bias = 127, emin = −126) -/

namespace Ieee
inductive Value where
  | finite (x : ℝ)
  | inf (negative : Bool)
  | nan

/-- §3.4 a)–e) on the fields of a 32-bit pattern: sign = bit 31, biased exponent = bits 30–23, trailing
    significand = bits 22–0 -/
noncomputable def binary32 (b : BitVec 32) : Value :=
  let S := b.msb
  let Ex := (b.extractLsb' 23 8).toNat
  let T := (b.extractLsb' 0 23).toNat
  if Ex = 255 then (if T ≠ 0 then .nan else .inf S)
  else if 1 ≤ Ex then .finite ((-1) ^ S.toNat * (2 : ℝ) ^ ((Ex : ℤ) - 127) * (1 + (2 : ℝ) ^ (-23 : ℤ) * T))
  else .finite ((-1) ^ S.toNat * (2 : ℝ) ^ (-126 : ℤ) * (0 + (2 : ℝ) ^ (-23 : ℤ) * T))
end Ieee

/-! ### finite magnitudes as integers over 2^150 -/

theorem expOf_lt (h : Nat) (hh : h < 2147483648) : expOf h = h / 8388608 := by unfold expOf; omega

/-- exponent of the unit in the last place (over 2^150): `max e 1` -/
def ulpExp (h : Nat) : Nat := max (expOf h) 1

/-- below the sign bit the fixed definitions are the format `(P, c) = (2^23, 2^150)` of Lemmas/FloatFormat.lean -/
theorem num_eq (h : Nat) (hh : h < 2147483648) : num h = FloatFormat.num 8388608 h := by
  unfold num manOf; rw [expOf_lt h hh]; rfl

theorem ulpExp_eq (h : Nat) (hh : h < 2147483648) : ulpExp h = FloatFormat.ulpExp 8388608 h := by
  unfold ulpExp; rw [expOf_lt h hh]; rfl

/-- consecutive non-negative patterns differ by exactly one unit in the last place of the lower one (the pattern
    after 0x7f7fffff, the infinity pattern, carries the would-be next value 2^128) -/
theorem num_succ (h : Nat) (hh : h + 1 < 2147483648) : num (h + 1) = num h + 2 ^ ulpExp h := by
  rw [num_eq _ hh, num_eq h (by omega), ulpExp_eq h (by omega)]; exact FloatFormat.num_succ (by norm_num) h

theorem num_strictMono {a b : Nat} (hab : a < b) (hb : b < 2147483648) : num a < num b := by
  rw [num_eq a (by omega), num_eq b hb]; exact FloatFormat.num_strictMono (by norm_num) hab

theorem num_mono {a b : Nat} (hab : a ≤ b) (hb : b < 2147483648) : num a ≤ num b := by
  rw [num_eq a (by omega), num_eq b hb]; exact (FloatFormat.num_strictMono (by norm_num)).monotone hab

theorem num_injective {a b : Nat} (ha : a < 2147483648) (hb : b < 2147483648) (h : num a = num b) : a = b := by
  rw [num_eq a ha, num_eq b hb] at h; exact (FloatFormat.num_strictMono (by norm_num)).injective h

/-- the magnitude does not see the sign bit -/
theorem num_mask (h : Nat) : num (h % 2147483648) = num h := by
  unfold num expOf manOf
  rw [Nat.mod_mod_of_dvd h (by norm_num : 8388608 ∣ 2147483648), Nat.mod_mul_right_div_self h 8388608 256, Nat.mod_mod]

/-- every finite magnitude has a 24-bit significand: `num h = s·2^k`, `s < 2^24`, `1 ≤ k ≤ 254` -/
theorem num_dyadic (h : Nat) (he : expOf h ≠ 255) :
    ∃ s k : Nat, s < 2 ^ 24 ∧ 1 ≤ k ∧ k ≤ 254 ∧ num h = s * 2 ^ k := by
  have hlt : h % 2147483648 < 2147483648 := Nat.mod_lt _ (by norm_num)
  obtain ⟨s, hs, -, e⟩ := FloatFormat.num_sig (P := 8388608) (by norm_num) (h % 2147483648)
  rw [← num_eq _ hlt, num_mask, ← ulpExp_eq _ hlt] at e
  exact ⟨s, _, hs, le_max_right _ _, by unfold ulpExp expOf at *; omega, e⟩

/-- the pattern with unit exponent `e` and integer significand `q` (hidden bit included; `q < 2^23` only in the
    subnormal range `e = 1`) -/
theorem pat_of (e q : Nat) (he1 : 1 ≤ e) (he2 : e ≤ 254) (hq : q < 16777216) (hs : e = 1 ∨ 8388608 ≤ q) :
    (e - 1) * 8388608 + q < infPat ∧ num ((e - 1) * 8388608 + q) = q * 2 ^ e ∧
      ulpExp ((e - 1) * 8388608 + q) = e := by
  unfold infPat ulpExp num
  by_cases hq2 : q < 8388608
  · have : e = 1 := by omega
    subst this
    have a : expOf ((1 - 1) * 8388608 + q) = 0 := by unfold expOf; omega
    have b : manOf ((1 - 1) * 8388608 + q) = q := by unfold manOf; omega
    rw [a, b, if_pos rfl]
    exact ⟨by omega, by ring, rfl⟩
  · have a : expOf ((e - 1) * 8388608 + q) = e := by unfold expOf; omega
    have b : manOf ((e - 1) * 8388608 + q) = q - 8388608 := by unfold manOf; omega
    rw [a, b, if_neg (by omega), Nat.max_eq_left he1]
    have hc : 8388608 + (q - 8388608) = q := by omega
    rw [hc]
    exact ⟨by omega, rfl, rfl⟩

/-- magnitude of a non-negative pattern (for 0x7f800000: the would-be next value 2^128) -/
noncomputable def val (h : Nat) : ℝ := (num h : ℝ) / 2 ^ 150

theorem val_nonneg (h : Nat) : 0 ≤ val h := by unfold val; positivity

theorem val_eq (h : Nat) (hh : h < 2147483648) : val h = FloatFormat.val 8388608 (2 ^ 150) h := by
  unfold val; rw [num_eq h hh]; rfl

theorem val_mono {a b : Nat} (hab : a ≤ b) (hb : b < 2147483648) : val a ≤ val b := by
  unfold val; gcongr; exact num_mono hab hb

theorem val_strictMono {a b : Nat} (hab : a < b) (hb : b < 2147483648) : val a < val b := by
  unfold val; gcongr; exact num_strictMono hab hb

theorem val_succ (h : Nat) (hh : h + 1 < 2147483648) : val (h + 1) = val h + 2 ^ ulpExp h / 2 ^ 150 := by
  unfold val; rw [num_succ h hh]; push_cast; ring

/-- above the subnormal range the unit exponent `log2 fl − 23` leaves a 24-bit significand with the hidden bit set -/
theorem log2_unit (fl : Nat) (h : 16777216 ≤ fl) :
    8388608 ≤ fl / 2 ^ (Nat.log2 fl - 23) ∧ fl / 2 ^ (Nat.log2 fl - 23) < 16777216 := by
  have hne : fl ≠ 0 := by omega
  have hlo : 2 ^ Nat.log2 fl ≤ fl := Nat.log2_self_le hne
  have hhi : fl < 2 ^ (Nat.log2 fl + 1) := Nat.lt_log2_self
  have hL : 24 ≤ Nat.log2 fl := (Nat.le_log2 hne).mpr h
  have hsplit : 2 ^ Nat.log2 fl = 8388608 * 2 ^ (Nat.log2 fl - 23) := by
    rw [show (8388608 : ℕ) = 2 ^ 23 by norm_num, ← pow_add]; congr 1; omega
  have hp : 0 < 2 ^ (Nat.log2 fl - 23) := Nat.pow_pos (by norm_num)
  rw [pow_succ, hsplit] at hhi
  exact ⟨by rw [Nat.le_div_iff_mul_le hp]; omega, by rw [Nat.div_lt_iff_lt_mul hp]; omega⟩

/-- the choice of the unit exponent: for `fl = ⌊y⌋ < 2^278` the integer significand `⌊fl / 2^e⌋` has 24 bits, with
    the hidden bit set above the subnormal range -/
theorem unit_exp (fl : Nat) (hfl : fl < 2 ^ 278) :
    let e := if fl < 16777216 then 1 else Nat.log2 fl - 23
    1 ≤ e ∧ e ≤ 254 ∧ fl / 2 ^ e < 16777216 ∧ (e = 1 ∨ 8388608 ≤ fl / 2 ^ e) := by
  intro e
  by_cases hs : fl < 16777216
  · rw [show e = 1 from if_pos hs]
    exact ⟨le_refl _, by norm_num, by omega, Or.inl rfl⟩
  · have hne : fl ≠ 0 := by omega
    have hL : 24 ≤ Nat.log2 fl := (Nat.le_log2 hne).mpr (by omega)
    have hU : Nat.log2 fl < 278 := (Nat.log2_lt hne).mpr hfl
    obtain ⟨h1, h2⟩ := log2_unit fl (by omega)
    rw [show e = Nat.log2 fl - 23 from if_neg hs]
    exact ⟨by omega, by omega, h2, Or.inr h1⟩

/-- what `pick` computes for `y = Y/d` when the integer significand `⌊y/2^e⌋` has 24 bits -/
structure Bracket (Y d R : Nat) (e h0 : Nat) : Prop where
  e1 : 1 ≤ e
  e2 : e ≤ 254
  fin : h0 < infPat
  ulp : ulpExp h0 = e
  /-- `val h0 ≤ x`, as integers: `num h0 · d ≤ Y` -/
  lo : num h0 * d ≤ Y
  /-- `x < val h0 + ulp` -/
  hi : Y < (num h0 + 2 ^ e) * d
  /-- the choice: below the midpoint the lower pattern, above it the upper, at it the even one -/
  choice : (R = h0 ∧ 2 * (Y - num h0 * d) ≤ 2 ^ e * d ∧ (2 * (Y - num h0 * d) = 2 ^ e * d → h0 % 2 = 0)) ∨
           (R = h0 + 1 ∧ 2 ^ e * d ≤ 2 * (Y - num h0 * d) ∧ (2 * (Y - num h0 * d) = 2 ^ e * d → h0 % 2 = 1))

/-- the nearest/ties-to-even choice between `h0` and `h0 + 1`, for quotient part `Dq`, remainder `r`, unit `D` -/
theorem pick_core (Y Dq D r h0 : Nat) (hdm : Dq + r = Y) (hml : r < D) :
    Dq ≤ Y ∧ Y < Dq + D ∧
    ∀ R, R = (if 2 * r < D then h0 else if D < 2 * r then h0 + 1 else if h0 % 2 = 0 then h0 else h0 + 1) →
      (R = h0 ∧ 2 * (Y - Dq) ≤ D ∧ (2 * (Y - Dq) = D → h0 % 2 = 0)) ∨
      (R = h0 + 1 ∧ D ≤ 2 * (Y - Dq) ∧ (2 * (Y - Dq) = D → h0 % 2 = 1)) := by
  refine ⟨by omega, by omega, ?_⟩
  rintro R rfl
  split_ifs with c1 c2 c3
  · left; exact ⟨rfl, by omega, fun h => by omega⟩
  · right; exact ⟨rfl, by omega, fun h => by omega⟩
  · left; exact ⟨rfl, by omega, fun _ => c3⟩
  · right; exact ⟨rfl, by omega, fun _ => by omega⟩

theorem pick_bracket (Y d e : Nat) (hd : 0 < d) (he1 : 1 ≤ e) (he2 : e ≤ 254)
    (hq : Y / (d * 2 ^ e) < 16777216) (hs : e = 1 ∨ 8388608 ≤ Y / (d * 2 ^ e)) :
    Bracket Y d (pick Y d e) e ((e - 1) * 8388608 + Y / (d * 2 ^ e)) := by
  have hD : 0 < d * 2 ^ e := Nat.mul_pos hd (Nat.pow_pos (by norm_num))
  obtain ⟨hfinp, hnum, hulp⟩ := pat_of e (Y / (d * 2 ^ e)) he1 he2 hq hs
  have e1 : num ((e - 1) * 8388608 + Y / (d * 2 ^ e)) * d = d * 2 ^ e * (Y / (d * 2 ^ e)) := by rw [hnum]; ring
  have e2 : (num ((e - 1) * 8388608 + Y / (d * 2 ^ e)) + 2 ^ e) * d =
      d * 2 ^ e * (Y / (d * 2 ^ e)) + d * 2 ^ e := by rw [hnum]; ring
  obtain ⟨c1, c2, c3⟩ := pick_core Y (d * 2 ^ e * (Y / (d * 2 ^ e))) (d * 2 ^ e) (Y % (d * 2 ^ e))
    ((e - 1) * 8388608 + Y / (d * 2 ^ e)) (Nat.div_add_mod Y (d * 2 ^ e)) (Nat.mod_lt Y hD)
  refine ⟨he1, he2, hfinp, hulp, by rw [e1]; exact c1, by rw [e2]; exact c2, ?_⟩
  rw [e1, Nat.mul_comm (2 ^ e) d]
  -- the candidate is `h0` or `h0 + 1 ≤ infPat`: the cap of `pick` does not bite
  have := c3 _ rfl
  rwa [show pick Y d e = _ from Nat.min_eq_left (by rcases this with ⟨h, _⟩ | ⟨h, _⟩ <;> rw [h] <;> omega)]

theorem roundMag_bracket (n d : Nat) (hd : 0 < d) (hfin : n * 2 ^ 150 / d < 2 ^ 278) :
    ∃ e h0, Bracket (n * 2 ^ 150) d (roundMag n d) e h0 := by
  obtain ⟨he1, he2, hq, hs⟩ := unit_exp (n * 2 ^ 150 / d) hfin
  rw [Nat.div_div_eq_div_mul] at hq hs
  exact ⟨_, _, pick_bracket _ d _ hd he1 he2 hq hs⟩

/-! ### consequences over ℝ for `x = n/d` -/

/-- what `pick` found is a nearest neighbour of `n/d` in the sense of Lemmas/FloatFormat.lean: `val h0`, `n/d` and
    `val (h0 + 1)` over the common denominator `2^150 · d` -/
theorem Bracket.nearest {n d R e h0 : Nat} (hd : 0 < d) (hB : Bracket (n * 2 ^ 150) d R e h0) :
    FloatFormat.Nearest 8388608 (2 ^ 150) ((n : ℝ) / d) h0 R := by
  have hdR : (d : ℝ) ≠ 0 := Nat.cast_ne_zero.mpr hd.ne'
  have hfin := hB.fin
  unfold infPat at hfin
  have ch := hB.choice
  have lo := hB.lo
  refine FloatFormat.Nearest.of_nat (k := 2 ^ 150 * d) (A := num h0 * d) (Y := n * 2 ^ 150)
    (B := (num h0 + 2 ^ e) * d) (by positivity)
    (by rw [← val_eq h0 (by omega), Nat.cast_mul, mul_div_mul_right _ _ hdR]; rfl)
    (by rw [← val_eq _ (by omega), val, num_succ h0 (by omega), hB.ulp, Nat.cast_mul, mul_div_mul_right _ _ hdR])
    (by rw [Nat.cast_mul, Nat.cast_pow, Nat.cast_ofNat, mul_comm (n : ℝ), mul_div_mul_left _ _ (by positivity)])
    lo hB.hi ?_
  rw [Nat.add_mul]
  generalize num h0 * d = A at *
  rcases ch with ⟨eR, c, _⟩ | ⟨eR, c, _⟩
  · exact Or.inl ⟨eR, by omega⟩
  · exact Or.inr ⟨eR, by omega⟩

theorem Bracket.result_lt {Y d R e h0 : Nat} (hB : Bracket Y d R e h0) : R < 2147483648 := by
  have hfin := hB.fin
  unfold infPat at hfin
  rcases hB.choice with ⟨e, _⟩ | ⟨e, _⟩ <;> omega

theorem bracket_real {n d R e h0 : Nat} (hd : 0 < d) (hB : Bracket (n * 2 ^ 150) d R e h0) :
    val h0 ≤ (n : ℝ) / d ∧ (n : ℝ) / d < val h0 + 2 ^ e / 2 ^ 150 ∧ |val R - (n : ℝ) / d| ≤ 2 ^ e / 2 ^ 151 := by
  have hN := hB.nearest hd
  have hfin := hB.fin
  unfold infPat at hfin
  have := hN.half_ulp (by norm_num)
  rw [← ulpExp_eq h0 (by omega), hB.ulp, ← val_eq R hB.result_lt, div_div, ← pow_succ] at this
  refine ⟨?_, ?_, this⟩
  · rw [val_eq h0 (by omega)]; exact hN.lo
  · rw [← hB.ulp, ← val_succ h0 (by omega), val_eq _ (by omega)]; exact hN.hi

/-! ### closed values, overflow, idempotence, relative error -/

theorem num_zero : num 0 = 0 := by decide
theorem num_minNormal : num 8388608 = 2 ^ 24 := by decide
theorem num_maxFinite : num 2139095039 = (2 ^ 24 - 1) * 2 ^ 254 := by decide
theorem num_infPat : num infPat = 2 ^ 278 := by decide
theorem ulpExp_maxFinite : ulpExp 2139095039 = 254 := by unfold ulpExp expOf; norm_num

/-- the overflow threshold `max finite + half ulp = (2^25 − 1)·2^103`, over 2^150 -/
def thrNum : Nat := (2 ^ 25 - 1) * 2 ^ 253
/-- largest finite value over 2^150, and half its unit in the last place -/
def maxNum : Nat := (2 ^ 24 - 1) * 2 ^ 254
def halfTop : Nat := 2 ^ 253
theorem thr_eq : thrNum = maxNum + halfTop := by decide
theorem pow254 : 2 ^ 254 = 2 * halfTop := by decide
theorem maxNum_le_thr : maxNum ≤ thrNum := by decide
theorem thr_le : thrNum ≤ 2 ^ 278 := by decide

theorem roundMag_bracket_of_lt (n d : Nat) (hd : 0 < d) (hx : n * 2 ^ 150 < thrNum * d) :
    ∃ e h0, Bracket (n * 2 ^ 150) d (roundMag n d) e h0 :=
  roundMag_bracket n d hd (by
    rw [Nat.div_lt_iff_lt_mul hd]; exact lt_of_lt_of_le hx (Nat.mul_le_mul_right d thr_le))

/-- at the top pattern: rounding up happens exactly from the threshold on -/
theorem top_core (Y d R : Nat) (hB : Bracket Y d R 254 2139095039) :
    (Y < thrNum * d → R = 2139095039) ∧ (thrNum * d ≤ Y → R = 2139095040) := by
  have hlo := hB.lo
  have hch := hB.choice
  rw [show num 2139095039 = maxNum from num_maxFinite] at hlo hch
  rw [pow254] at hch
  have e1 : thrNum * d = maxNum * d + halfTop * d := by rw [thr_eq, Nat.add_mul]
  have e2 : 2 * halfTop * d = 2 * (halfTop * d) := Nat.mul_assoc _ _ _
  rw [e1]; rw [e2] at hch
  generalize maxNum * d = A at *
  generalize halfTop * d = B at *
  constructor
  · intro hx
    rcases hch with ⟨eR, _, _⟩ | ⟨_, c, _⟩
    · exact eR
    · omega
  · intro hx
    rcases hch with ⟨_, c, ct⟩ | ⟨eR, _, _⟩
    · have : 2 * (Y - A) = 2 * B := by omega
      have := ct this
      omega
    · exact eR

/-- IDEMPOTENCE: a finite binary32 value is reproduced exactly -/
theorem roundMag_num (b : Nat) (hb : b < infPat) : roundMag (num b) (2 ^ 150) = b := by
  have hp : 0 < 2 ^ 150 := Nat.pow_pos (by norm_num)
  have hlt : num b < 2 ^ 278 := by
    rw [← num_infPat]; exact num_strictMono hb (by unfold infPat; norm_num)
  obtain ⟨e, h0, hB⟩ := roundMag_bracket (num b) (2 ^ 150) hp (by rw [Nat.mul_div_cancel _ hp]; exact hlt)
  have hN := hB.nearest hp
  unfold infPat at hb
  rw [show ((num b : ℕ) : ℝ) / ((2 ^ 150 : ℕ) : ℝ) = FloatFormat.val 8388608 (2 ^ 150) b by
    rw [← val_eq b (by omega), val, Nat.cast_pow, Nat.cast_ofNat]] at hN
  exact hN.exact (by norm_num) (by positivity)

theorem pick_big (Y d e : Nat) (hE : 255 ≤ e) (hq : 8388608 ≤ Y / (d * 2 ^ e)) : pick Y d e = infPat := by
  unfold pick
  simp only []
  apply Nat.min_eq_right
  unfold infPat
  have := Nat.mul_le_mul_right 8388608 (show 254 ≤ e - 1 by omega)
  split_ifs <;> omega

theorem roundMag_finite (n d : Nat) (hd : 0 < d) (hx : n * 2 ^ 150 < thrNum * d) : roundMag n d < infPat := by
  obtain ⟨e, h0, hB⟩ := roundMag_bracket_of_lt n d hd hx
  have hfin := hB.fin
  rcases hB.choice with ⟨eR, _, _⟩ | ⟨eR, c, _⟩
  · rw [eR]; exact hfin
  · by_cases h0e : h0 = 2139095039
    · subst h0e
      have hu : e = 254 := by rw [← hB.ulp]; exact ulpExp_maxFinite
      subst hu
      rw [(top_core _ d _ hB).1 hx]; unfold infPat; norm_num
    · rw [eR]; unfold infPat at *; omega

/-- OVERFLOW: at and above `max finite + half ulp` (the tie goes to the even pattern, which is the infinity's) the
    result is the infinity pattern -/
theorem roundMag_overflow (n d : Nat) (hd : 0 < d) (hx : thrNum * d ≤ n * 2 ^ 150) : roundMag n d = infPat := by
  by_cases hfl : n * 2 ^ 150 / d < 2 ^ 278
  · obtain ⟨e, h0, hB⟩ := roundMag_bracket n d hd hfl
    have hfin := hB.fin
    have h0e : h0 = 2139095039 := by
      by_contra hne
      unfold infPat at hfin
      have hs := num_succ h0 (by omega)
      rw [hB.ulp] at hs
      have hm := num_mono (show h0 + 1 ≤ 2139095039 by omega) (by norm_num)
      rw [show num 2139095039 = maxNum from num_maxFinite] at hm
      have hi := hB.hi
      rw [← hs] at hi
      have h1 := Nat.mul_le_mul_right d hm
      have h2 : maxNum * d ≤ thrNum * d := Nat.mul_le_mul_right d maxNum_le_thr
      exact absurd (lt_of_lt_of_le hi (le_trans h1 h2)) (not_lt.mpr hx)
    subst h0e
    have hu : e = 254 := by rw [← hB.ulp]; exact ulpExp_maxFinite
    subst hu
    exact (top_core _ d _ hB).2 hx
  · -- beyond 2^128: the pattern below is already past the infinity pattern
    have hge : 2 ^ 278 ≤ n * 2 ^ 150 / d := by omega
    generalize hfl' : n * 2 ^ 150 / d = fl at *
    have h278 : (16777216 : ℕ) ≤ 2 ^ 278 := by norm_num
    have hL : 278 ≤ Nat.log2 fl := (Nat.le_log2 (by omega)).mpr hge
    have hns : ¬ fl < 16777216 := by omega
    have hq := (log2_unit fl (by omega)).1
    have hq2 : 8388608 ≤ n * 2 ^ 150 / (d * 2 ^ (Nat.log2 fl - 23)) := by
      rw [← Nat.div_div_eq_div_mul, hfl']; exact hq
    unfold roundMag
    simp only [hfl', if_neg hns]
    exact pick_big _ _ _ (by omega) hq2

/-- NORMAL RANGE `2^24/2^150 = 2^−126 ≤ n/d`: relative error `2^−24` -/
theorem bracket_relative {n d R e h0 : Nat} (hd : 0 < d) (hB : Bracket (n * 2 ^ 150) d R e h0)
    (hn : 2 ^ 24 * d ≤ n * 2 ^ 150) : |val R - (n : ℝ) / d| ≤ (n : ℝ) / d / 2 ^ 24 := by
  have hnorm : FloatFormat.val 8388608 (2 ^ 150) 8388608 ≤ (n : ℝ) / d := by
    rw [← val_eq _ (by norm_num), val, num_minNormal, div_le_div_iff₀ (by positivity) (Nat.cast_pos.mpr hd)]
    exact_mod_cast hn
  rw [val_eq R hB.result_lt]
  exact le_trans ((hB.nearest hd).relative (by norm_num) (by positivity) hnorm) (le_of_eq (by norm_num))

end B32
end PolyVerif
