/-
  C07 — the two normal expressions of formats/stl, regenerated from source (`Gen/StlNormals.lean`, engine F
  mode c07.normals), reasoned about over ℝ: what "normalised mean of the corner normals" and "geometric
  normal" mean for the very expressions in write.go / read.go.
-/
import PolyVerif.Gen.StlNormals
import PolyVerif.Lemmas.Triple
import Mathlib.Tactic

namespace PolyVerif.StlN
open PolyVerif PolyVerif.Gen.StlNormals

abbrev R3 := V3 ℝ

def zero3 : R3 := ⟨0, 0, 0⟩

theorem length_sq_aux (S : R3) : S.Length * S.Length = S.LengthSquared := V3.length_mul_self S

/-- … and to a positive multiple of itself -/
theorem normalized_pos_multiple {S : R3} (h : S ≠ zero3) : ∃ k : ℝ, 0 < k ∧ S.Normalized = S.Scale k :=
  ⟨1 / S.Length, one_div_pos.mpr (V3.length_pos h), V3.normalized_eq_scale S⟩

/-! ### write.go: `v1.Add(v2).Add(v3).DivByConstant(3).Normalized()` -/

/-- the sum of the three corner normals -/
noncomputable def sum3 (a b c : R3) : R3 := (a.Add b).Add c

theorem mean_ne_zero_aux {a b c : R3} (h : sum3 a b c ≠ zero3) : (sum3 a b c).DivByConstant ((3 : ℕ) : ℝ) ≠ zero3 := by
  rw [V3.divByConstant_eq_scale]
  exact fun e => h (V3.scale_eq_zero.mp e |>.resolve_right (by norm_num))

/-- **The facet normal WriteMesh computes is the normalised mean of the corner normals.**  For the source
    expression itself (regenerated): whenever the three corner normals do not cancel, the result has length 1
    and is a positive multiple of their sum (hence of their mean) — the unit vector in the direction of the mean. -/
theorem avgNormal_unit_mean (a b c : R3) (h : sum3 a b c ≠ zero3) :
    (avgNormal a b c).Length = 1 ∧ ∃ k : ℝ, 0 < k ∧ avgNormal a b c = (sum3 a b c).Scale k := by
  have hm := mean_ne_zero_aux h
  have hdef : avgNormal a b c = ((sum3 a b c).DivByConstant ((3 : ℕ) : ℝ)).Normalized := rfl
  refine ⟨by rw [hdef]; exact V3.normalized_length hm, ?_⟩
  obtain ⟨k, hk, e⟩ := normalized_pos_multiple hm
  refine ⟨k / 3, by positivity, ?_⟩
  rw [hdef, e]
  ext <;> simp [V3.Scale, V3.DivByConstant] <;> ring

/-- it is also the normalised SUM (dividing by 3 first changes nothing over ℝ) -/
theorem avgNormal_eq_normalized_sum (a b c : R3) (h : sum3 a b c ≠ zero3) :
    avgNormal a b c = (sum3 a b c).Normalized := by
  obtain ⟨hl, k, hk, e⟩ := avgNormal_unit_mean a b c h
  have hp := V3.length_pos h
  have hk' : k = 1 / (sum3 a b c).Length := by
    rw [e, V3.length_scale _ hk.le] at hl
    field_simp; linarith
  rw [e, hk', V3.normalized_eq_scale]

/-- when the corner normals cancel, the expression divides 0 by 0 in every component.  Over ℝ (Mathlib's
    convention `x / 0 = 0`) that is the zero vector; **the Go code computes IEEE 0/0 = NaN** in each component
    (correspondence content: the stream feeds cancelling and all-zero normals; `Lemmas.Stl`'s
    `nan_normal_kept` says what ReadMesh then does with the NaN words). -/
theorem avgNormal_cancelling_real_convention (a b c : R3) (h : sum3 a b c = zero3) : avgNormal a b c = zero3 := by
  have hdef : avgNormal a b c = ((sum3 a b c).DivByConstant ((3 : ℕ) : ℝ)).Normalized := rfl
  rw [hdef, h]
  ext <;> simp [zero3, V3.Normalized, V3.DivByConstant]

/-! ### read.go: `v2.Sub(v1).Cross(v3.Sub(v1)).Normalized()` -/

/-- the (unnormalised) geometric normal of the triangle `a b c` in its winding order -/
noncomputable def cross3 (a b c : R3) : R3 := (b.Sub a).Cross (c.Sub a)

/-- **The fallback normal ReadMesh computes is the geometric normal.**  For the source expression itself
    (regenerated): for a non-degenerate triangle the result has length 1, is orthogonal to both edges
    `b − a` and `c − a`, and is right-handed with respect to the winding — a positive multiple of
    `(b − a) × (c − a)`, so its component along that cross product is positive. -/
theorem flatNormal_geometric (a b c : R3) (h : cross3 a b c ≠ zero3) :
    (flatNormal a b c).Length = 1 ∧ (flatNormal a b c).Dot (b.Sub a) = 0 ∧ (flatNormal a b c).Dot (c.Sub a) = 0 ∧
    (∃ k : ℝ, 0 < k ∧ flatNormal a b c = (cross3 a b c).Scale k) ∧ 0 < (flatNormal a b c).Dot (cross3 a b c) := by
  have hdef : flatNormal a b c = (cross3 a b c).Normalized := rfl
  obtain ⟨k, hk, e⟩ := normalized_pos_multiple h
  refine ⟨by rw [hdef]; exact V3.normalized_length h, ?_, ?_, ⟨k, hk, by rw [hdef, e]⟩, ?_⟩
  · rw [hdef, e, V3.scale_dot, cross3, V3.cross_dot_left, mul_zero]
  · rw [hdef, e, V3.scale_dot, cross3, V3.cross_dot_right, mul_zero]
  · rw [hdef, e, V3.scale_dot]
    exact mul_pos hk (V3.dot_self_pos_of_ne h)

/-- reversing the winding flips the geometric normal -/
theorem flatNormal_winding (a b c : R3) : cross3 a c b = (cross3 a b c).Scale (-1) := V3.cross_swap _ _

end PolyVerif.StlN
