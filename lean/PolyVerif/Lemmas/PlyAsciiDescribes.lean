/-
  C04 — "the header describes the body", ASCII encoding: a count over the lines of what `writeBody` prints
  (`PlyAscii.written_ascii_lines`; core Lean only).  Only the token part of the law bundle `GoFloatText` is used (printed
  numbers are single words).
-/
import PolyVerif.Lemmas.PlyAscii

namespace PolyVerif
namespace PlyAscii
open Ply PlyLemmas PlyHeader PlyCompose

variable {α : Type}

section
variable (c : Coding α)

theorem faceToks_length (f : WFace α) (hasTex : Bool) (huv : UvOk hasTex f) :
    (faceToks c f).length = if hasTex then 11 else 4 := by
  obtain ⟨idx, uv⟩ := f
  cases uv with
  | none => simp only [UvOk] at huv; simp [faceToks, huv]
  | some uv => simp only [UvOk] at huv; simp [faceToks, huv.1, huv.2]

theorem header_describes_ascii (L : GoFloatText c) (cfg : WriterCfg) (m : MeshVal α) (body : Bytes)
    (hf : cfg.format = .ascii) (hwf : m.WF = true) (h : writeBody c cfg m = .ok body) :
    asciiBodyDescribed body (writerTypes (selectWriters cfg m)).length m.attrLen
      (if m.topo = .triangle then triCount m else 0) (if hasTexCoord m then 11 else 4) = true := by
  obtain ⟨recs, vbytes, vlines, fs, W, hfs, hlines, hv0, hv1⟩ := written_ascii_lines c L cfg m body hf hwf h
  have hvn : vlines.length = (if (writerTypes (selectWriters cfg m)).length = 0 then 0 else m.attrLen) := by
    by_cases hne : writerTypes (selectWriters cfg m) = []
    · simp [hv0 hne, hne]
    · have : (writerTypes (selectWriters cfg m)).length ≠ 0 := fun h0 => hne (List.length_eq_zero_iff.mp h0)
      simp [(hv1 hne).length_eq, W.len, this]
  have hl := hlines (fun l => !l.isEmpty) (by intro l hl; cases l <;> simp_all)
  simp only [asciiBodyDescribed, hl, Bool.and_eq_true, decide_eq_true_eq,
    List.all_eq_true, List.take_left' hvn, List.drop_left' hvn]
  refine ⟨⟨by simp [hvn, W.count], fun l hl => ?_⟩, fun l hl => ?_⟩
  · by_cases hne : writerTypes (selectWriters cfg m) = []
    · rw [hv0 hne] at hl; simp at hl
    · exact (hv1 hne).forall_right (fun _ _ h => h.len) l hl
  · obtain ⟨f, hf', rfl⟩ := List.mem_map.mp hl
    rw [hfs f hf', faceToks_length c f _ (W.uv f hf')]

end

end PlyAscii
end PolyVerif
