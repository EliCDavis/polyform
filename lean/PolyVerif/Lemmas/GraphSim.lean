/-
  C12 ↔ C11: the editing operations of the saved-graph model, executed on the runtime graph of the evaluation model.
  Core Lean only (plus C11's lemma files).  Used by Props/C12Artifacts (`edit_simulation`).

  Runtime reading of the editing operations (what the Go objects do):
  * create        — a new node object; it exists from now on, unwired and never processed.  In C11's total-map graph
                    the slot of the k-th created node holds that fresh node FROM THE START (an object nobody references
                    and nobody has read is unobservable), so `create` is no C11 call at all: it only gives the new id
                    the next slot.  Slots are never reused (ids are: `Node-k` may be handed out again after a delete).
  * connect       — `SetInput(port, out)`: C11 `setInput` / `arrayAdd` on the slots of the two nodes
  * disconnect    — `SetInput(port, nil)`: C11 `setInput … none`, `arrayRemove`, or (plain array name: the whole slice
                    is zeroed) `arrayRemove … 0` as often as the array is long
  * set value     — C11 `setParam`
  * delete (of a node nothing depends on) — the object is dropped from the id table; the runtime graph does not
                    change, the id loses its slot.  No renumbering is needed because slots are not list positions.
  * set name / description / producer, metadata — no runtime effect
  * read id       — C11 `read` of the node's slot (any node, any time: caches, versions and flags evolve freely)
-/
import PolyVerif.Lemmas.GraphEval

namespace PolyVerif
namespace C12
open GraphIO

variable {V J W : Type}

/-- an event of an editing session: an editing operation, or somebody reading a node's output -/
inductive Ev (J : Type) where
  | edit (op : Op J)
  | read (id : Id)

/-- the edited graph together with the slot table of the runtime -/
structure Sim (V : Type) where
  g : Graph V
  slots : List (Id × Nat)
  next : Nat

def Sim.σ (s : Sim V) (id : Id) : Nat := (aget s.slots id).getD 0

def Sim.init (h : Hdr) : Sim V := { g := Graph.init h, slots := [], next := 0 }

def portIdx (l : List (Name × VTy)) (p : Name) : Nat := l.findIdx (fun q => q.1 = p)

/-- the C11 calls a SUCCESSFUL editing operation makes (`g'` = the edited graph after it) -/
def rtOps (P : Procs V W) (E : Env V J) (s : Sim V) (g' : Graph V) : Op J → List (Nodes.Op W)
  | .connect src _ dst inPort =>
    match s.g.find dst with
    | some d =>
      match E.types d.ty with
      | some T =>
        match splitFirst inPort with
        | some (p, _) => [.arrayAdd (s.σ dst) (portIdx T.arrs p) (s.σ src)]
        | none => [.setInput (s.σ dst) (portIdx T.scal inPort) (some (s.σ src))]
      | none => []
    | none => []
  | .disconnect dst inPort =>
    match s.g.find dst with
    | some d =>
      match E.types d.ty with
      | some T =>
        match splitFirst inPort with
        | some (p, rest) =>
          match atoi rest with
          | some k => [.arrayRemove (s.σ dst) (portIdx T.arrs p) k.toNat]
          | none => []
        | none =>
          match portTy T.scal inPort with
          | some _ => [.setInput (s.σ dst) (portIdx T.scal inPort) none]
          | none => List.replicate (d.arrs inPort).length (.arrayRemove (s.σ dst) (portIdx T.arrs inPort) 0)
      | none => []
    | none => []
  | .setValue id _ =>
    match g'.find id with
    | some n' => [.setParam (s.σ id) (P.paramVal n'.ty (n'.par.bind Param.value))]
    | none => []
  | _ => []

def newSlots (s : Sim V) (g' : Graph V) : Op J → List (Id × Nat) × Nat
  | .create _ =>
    match g'.nodes.getLast? with
    | some n => (aset s.slots n.id s.next, s.next + 1)
    | none => (s.slots, s.next)
  | .delete id => (adel s.slots id, s.next)
  | _ => (s.slots, s.next)

/-- one event: the new edited graph / slot table and the C11 calls made.  A failing editing operation (Go panics
    before it mutates anything) and a read of an unknown id make no call. -/
def simStep (P : Procs V W) (E : Env V J) (s : Sim V) : Ev J → Sim V × List (Nodes.Op W)
  | .edit op =>
    match step E s.g op with
    | .error _ => (s, [])
    | .ok g' => ({ g := g', slots := (newSlots s g' op).1, next := (newSlots s g' op).2 }, rtOps P E s g' op)
  | .read id => if (s.g.find id).isSome then (s, [.read (s.σ id)]) else (s, [])

def simRun (P : Procs V W) (E : Env V J) : Sim V → List (Ev J) → Sim V × List (Nodes.Op W)
  | s, [] => (s, [])
  | s, ev :: evs =>
    let r := simStep P E s ev
    let r2 := simRun P E r.1 evs
    (r2.1, r.2 ++ r2.2)

/-- the types of the nodes the rest of the session creates, in order -/
def createdTys (P : Procs V W) (E : Env V J) : Sim V → List (Ev J) → List TyName
  | _, [] => []
  | s, ev :: evs =>
    (match ev with
     | .edit (.create ty) => if (simStep P E s ev).1.next = s.next + 1 then [ty] else []
     | _ => []) ++ createdTys P E (simStep P E s ev).1 evs

/-- a node object of type `ty` right after its creation -/
def freshRt (P : Procs V W) (E : Env V J) (ty : TyName) : Nodes.Node W :=
  absNode P E (fun _ => 0) (emptyNode "" ty (match E.types ty with | some T => freshParam E ty T | none => none))

/-- the runtime graph before the session: slot `k` already holds the k-th node that will be created -/
def preGraph (P : Procs V W) (E : Env V J) (tys : List TyName) : Nodes.Graph W := fun k =>
  match tys[k]? with
  | some ty => freshRt P E ty
  | none => .param P.idle 0

section
variable {P : Procs V W} {E : Env V J} {F : Nat} {s : Sim V} {G : Nodes.Graph W} {tys : List TyName}

/-! ### lists: the entry of one port is modified -/

theorem listModify_map_key {β : Type} (l : List (Name × VTy)) (φ : Name → β) (h : β → Option β) {p : Name}
    (hp : p ∈ l.map (·.1)) (hnd : (l.map (·.1)).Nodup) :
    Nodes.listModify h (l.map (fun q => φ q.1)) (portIdx l p) =
      (h (φ p)).map (fun b => l.map (fun q => if q.1 = p then b else φ q.1)) := by
  induction l with
  | nil => cases hp
  | cons x xs ih =>
    simp only [List.map_cons, List.nodup_cons] at hnd
    by_cases hx : x.1 = p
    · subst hx
      have hrest : ∀ b, xs.map (fun q => if q.1 = x.1 then b else φ q.1) = xs.map (fun q => φ q.1) := fun b =>
        List.map_congr_left fun q hq => if_neg fun (e : q.1 = x.1) => hnd.1 (List.mem_map.mpr ⟨q, hq, e⟩)
      simp [portIdx, List.findIdx_cons, Nodes.listModify, hrest]
    · have := ih ((List.mem_cons.mp hp).resolve_left (Ne.symm hx)) hnd.2
      simp only [portIdx] at this
      simp [portIdx, List.findIdx_cons, hx, Nodes.listModify, this, Function.comp_def]

theorem listSet_eq_listModify {α : Type} (l : List α) (i : Nat) (v : α) :
    Nodes.listSet l i v = Nodes.listModify (fun _ => some v) l i := by
  induction l generalizing i with
  | nil => rfl
  | cons x xs ih => cases i <;> simp [Nodes.listSet, Nodes.listModify, ih]

theorem removeAt_map {α β : Type} (f : α → β) (l : List α) (k : Nat) (hk : k < l.length) :
    Nodes.removeAt (l.map f) k = some ((l.eraseIdx k).map f) := by
  induction l generalizing k with
  | nil => simp at hk
  | cons a as ih =>
    cases k with
    | zero => simp [Nodes.removeAt]
    | succ k => simp [Nodes.removeAt, ih k (by simpa using hk)]

/-! ### the invariant of the simulation, and how one runtime node is replaced -/

structure SimInv (P : Procs V W) (E : Env V J) (s : Sim V) (G : Nodes.Graph W) (tys : List TyName) : Prop where
  wf : WF E s.g
  holds : Holds P E s.σ G s.g
  slot : ∀ n ∈ s.g.nodes, ∃ k, aget s.slots n.id = some k ∧ k < s.next
  inj : ∀ n ∈ s.g.nodes, ∀ m ∈ s.g.nodes, s.σ n.id = s.σ m.id → n.id = m.id
  pre : ∀ j, looseEq (G (s.next + j)) (match tys[j]? with | some ty => freshRt P E ty | none => .param P.idle 0)

theorem SimInv.σ_lt
    (h : SimInv P E s G tys) {n : GraphIO.Node V} (hn : n ∈ s.g.nodes) : s.σ n.id < s.next := by
  obtain ⟨k, hk, hlt⟩ := h.slot n hn
  simp [Sim.σ, hk, hlt]

/-- an editing operation that replaces node `d` by `n'` (same id, same type) and whose C11 calls change slot `σ d` only -/
theorem simInv_local {G G' : Nodes.Graph W}
    (hI : SimInv P E s G tys) {d n' : GraphIO.Node V} (hd : d ∈ s.g.nodes) (hid : n'.id = d.id)
    (hwf' : WF E (s.g.setNode n')) (hother : ∀ k, k ≠ s.σ d.id → looseEq (G' k) (G k))
    (hat : looseEq (G' (s.σ d.id)) (absNode P E s.σ n')) :
    SimInv P E { s with g := s.g.setNode n' } G' tys := by
  have hmem : ∀ m ∈ (s.g.setNode n').nodes, ∃ m0 ∈ s.g.nodes, m0.id = m.id := by
    intro m hm
    rcases mem_setNode hm with rfl | ⟨hm', _⟩
    · exact ⟨d, hd, hid.symm⟩
    · exact ⟨m, hm', rfl⟩
  refine ⟨hwf', ?_, ?_, ?_, ?_⟩
  · intro m hm
    rcases mem_setNode hm with rfl | ⟨hm', hne⟩
    · show looseEq (G' (s.σ m.id)) _
      rw [hid]; exact hat
    · have : s.σ m.id ≠ s.σ d.id := fun e => hne ((hI.inj m hm' d hd e).trans hid.symm)
      exact (hother _ this).trans (hI.holds m hm')
  · intro m hm
    obtain ⟨m0, hm0, e⟩ := hmem m hm
    rw [← e]; exact hI.slot m0 hm0
  · intro a ha b hb e
    obtain ⟨a0, ha0, ea⟩ := hmem a ha
    obtain ⟨b0, hb0, eb⟩ := hmem b hb
    rw [← ea, ← eb]
    apply hI.inj a0 ha0 b0 hb0
    show s.σ a0.id = s.σ b0.id
    rw [ea, eb]; exact e
  · intro j
    have : s.next + j ≠ s.σ d.id := by have := hI.σ_lt hd; omega
    exact (hother _ this).trans (hI.pre j)

theorem set_other {i k : Nat} (X : Nodes.Node W) (h : k ≠ i) : looseEq ((G.set i X) k) (G k) := by
  rw [Nodes.Graph.set_ne G X h]; exact looseEq.refl _

theorem set_self (i : Nat) (X : Nodes.Node W) : (G.set i X) i = X := by simp [Nodes.Graph.set]

/-- the runtime node of struct-typed `d` is replaced by one that has the static content of the edited `d` -/
theorem simInv_struct
    (hI : SimInv P E s G tys) {d : GraphIO.Node V} (hd : d ∈ s.g.nodes) {T : NodeType} (hT : E.types d.ty = some T)
    (hp : T.param = none) {sc : Name → Option Ref} {ar : Name → List Ref}
    (hwf' : WF E (s.g.setNode { d with scal := sc, arrs := ar })) {t : Nodes.SNode W}
    (h1 : t.fn = (fun sc ar vals => P.proc d.ty (shapeS sc) (shapeA ar) vals))
    (h2 : t.next = (fun sc ar es => P.next d.ty (shapeS sc) (shapeA ar) es))
    (h3 : t.scalars = T.scal.map (fun q => (sc q.1).map (fun r => s.σ r.node)))
    (h4 : t.arrays = T.arrs.map (fun q => (ar q.1).map (fun r => s.σ r.node))) :
    SimInv P E { s with g := s.g.setNode { d with scal := sc, arrs := ar } } (G.set (s.σ d.id) (.struct t)) tys := by
  refine simInv_local (n' := { d with scal := sc, arrs := ar }) hI hd rfl hwf' (fun k hk => set_other _ hk) ?_
  simp only [set_self, absNode, hT, hp, looseEq]
  exact ⟨h1, h2, h3, h4⟩

theorem run_single (G : Nodes.Graph W) (op : Nodes.Op W) : (Nodes.run F G [op]).1 = (Nodes.step F G op).1 := rfl

theorem run_nil (G : Nodes.Graph W) : (Nodes.run F G []).1 = G := rfl

theorem run_state_append (G : Nodes.Graph W) (a b : List (Nodes.Op W)) :
    (Nodes.run F G (a ++ b)).1 = (Nodes.run F (Nodes.run F G a).1 b).1 := by
  induction a generalizing G with
  | nil => rfl
  | cons x xs ih => simp only [List.cons_append, Nodes.run]; exact ih _

/-! ### one port of a struct node changes -/

theorem sim_setScal (hE : EnvOK E)
    (hI : SimInv P E s G tys) {d : GraphIO.Node V} (hd : d ∈ s.g.nodes) {T : NodeType}
    (hT : E.types d.ty = some T) (hp : T.param = none) {ip : Name} (hpm : ip ∈ T.scal.map (·.1)) (o : Option Ref)
    (hwf' : WF E (s.g.setNode { d with scal := upd d.scal ip o })) :
    SimInv P E { s with g := s.g.setNode { d with scal := upd d.scal ip o } }
      (Nodes.run F G [.setInput (s.σ d.id) (portIdx T.scal ip) (o.map fun r => s.σ r.node)]).1 tys := by
  obtain ⟨t, hG, h1, h2, h3, h4⟩ := holds_struct hI.holds hd hT hp
  have hls := listModify_map_key T.scal (fun x => (d.scal x).map (fun r => s.σ r.node))
    (fun _ => some (o.map fun r => s.σ r.node)) hpm (hE.scalNodup _ T hT)
  simp only [run_single, Nodes.step, Nodes.step?, hG, h3, listSet_eq_listModify, hls, Option.map_some, Option.getD_some]
  refine simInv_struct hI hd hT hp hwf' h1 h2 (List.map_congr_left fun q _ => ?_) h4
  simp only [upd]; split <;> rfl

/-- `op` modifies array port `p` of the runtime node by `f`, which turns the references of `d.arrs p` into those of `l` -/
theorem sim_modArr (hE : EnvOK E)
    (hI : SimInv P E s G tys) {d : GraphIO.Node V} (hd : d ∈ s.g.nodes) {T : NodeType}
    (hT : E.types d.ty = some T) (hp : T.param = none) {p : Name} (hpm : p ∈ T.arrs.map (·.1)) {l : List Ref}
    (hwf' : WF E (s.g.setNode { d with arrs := upd d.arrs p l })) {f : List Nat → Option (List Nat)}
    (hf : f ((d.arrs p).map fun r => s.σ r.node) = some (l.map fun r => s.σ r.node)) {op : Nodes.Op W}
    (hop : ∀ t, G (s.σ d.id) = .struct t → Nodes.step? F G op =
      (Nodes.listModify f t.arrays (portIdx T.arrs p)).map fun ar =>
        (G.set (s.σ d.id) (.struct { t with arrays := ar, flag := true }), [])) :
    SimInv P E { s with g := s.g.setNode { d with arrs := upd d.arrs p l } } (Nodes.run F G [op]).1 tys := by
  obtain ⟨t, hG, h1, h2, h3, h4⟩ := holds_struct hI.holds hd hT hp
  have hlm := listModify_map_key T.arrs (fun x => (d.arrs x).map (fun r => s.σ r.node)) f hpm (hE.arrNodup _ T hT)
  simp only [run_single, Nodes.step, hop t hG, h4, hlm, hf, Option.map_some, Option.getD_some]
  refine simInv_struct hI hd hT hp hwf' h1 h2 h3 (List.map_congr_left fun q _ => ?_)
  simp only [upd]; split <;> rfl

theorem set_set (i : Nat) (X Y : Nodes.Node W) : (G.set i X).set i Y = G.set i Y := by
  funext k; simp only [Nodes.Graph.set]; split <;> rfl

theorem set_same (i : Nat) : G.set i (G i) = G := by
  funext k; simp only [Nodes.Graph.set]; split
  · rename_i h; rw [h]
  · rfl

/-- zeroing an array field: `arrayRemove … 0` as often as the array is long -/
theorem clear_loop (l : List (Name × VTy)) (ψ : Name → List Nat) {p : Name} (hp : p ∈ l.map (·.1))
    (hnd : (l.map (·.1)).Nodup) (i : Nat) (a : List Nat) (G : Nodes.Graph W) (t : Nodes.SNode W)
    (hG : G i = .struct t) (ha : t.arrays = l.map (fun q => if q.1 = p then a else ψ q.1)) :
    ∃ t', (Nodes.run F G (List.replicate a.length (.arrayRemove i (portIdx l p) 0))).1 = G.set i (.struct t') ∧
      t'.fn = t.fn ∧ t'.next = t.next ∧ t'.scalars = t.scalars ∧
      t'.arrays = l.map (fun q => if q.1 = p then [] else ψ q.1) := by
  induction a generalizing G t with
  | nil => exact ⟨t, by simp [run_nil, ← hG, set_same], rfl, rfl, rfl, ha⟩
  | cons x xs ih =>
    have hlm := listModify_map_key l (fun y => if y = p then x :: xs else ψ y) (fun b => Nodes.removeAt b 0) hp hnd
    have hstep : (Nodes.step F G (.arrayRemove i (portIdx l p) 0)).1 =
        G.set i (.struct { t with arrays := l.map (fun q => if q.1 = p then xs else ψ q.1), flag := true }) := by
      simp only [Nodes.step, Nodes.step?, hG, ha, hlm, if_true, Nodes.removeAt, Option.map_some, Option.getD_some]
      congr 3
      apply List.map_congr_left
      intro q _
      by_cases hq : q.1 = p <;> simp [hq]
    obtain ⟨t', h1, h2, h3, h4, h5⟩ := ih (G.set i (.struct { t with arrays := l.map (fun q => if q.1 = p then xs else ψ q.1), flag := true }))
      { t with arrays := l.map (fun q => if q.1 = p then xs else ψ q.1), flag := true } (set_self _ _) rfl
    refine ⟨t', ?_, h2, h3, h4, h5⟩
    simp only [List.length_cons, List.replicate_succ, Nodes.run]
    rw [hstep]
    show (Nodes.run F _ _).1 = _
    rw [h1, set_set]

theorem sim_clearArr (hE : EnvOK E)
    (hI : SimInv P E s G tys) {d : GraphIO.Node V} (hd : d ∈ s.g.nodes) {T : NodeType}
    (hT : E.types d.ty = some T) (hp : T.param = none) {p : Name} (hpm : p ∈ T.arrs.map (·.1))
    (hwf' : WF E (s.g.setNode { d with arrs := upd d.arrs p [] })) :
    SimInv P E { s with g := s.g.setNode { d with arrs := upd d.arrs p [] } }
      (Nodes.run F G (List.replicate (d.arrs p).length (.arrayRemove (s.σ d.id) (portIdx T.arrs p) 0))).1 tys := by
  obtain ⟨t, hG, h1, h2, h3, h4⟩ := holds_struct hI.holds hd hT hp
  have ha : t.arrays = T.arrs.map (fun q => if q.1 = p then (d.arrs p).map (fun r => s.σ r.node)
      else (d.arrs q.1).map (fun r => s.σ r.node)) :=
    h4.trans (List.map_congr_left fun q _ => by split <;> simp_all)
  obtain ⟨t', hrun, e1, e2, e3, e4⟩ := clear_loop (F := F) T.arrs (fun y => (d.arrs y).map (fun r => s.σ r.node)) hpm
    (hE.arrNodup _ T hT) (s.σ d.id) ((d.arrs p).map (fun r => s.σ r.node)) G t hG ha
  rw [List.length_map] at hrun
  rw [hrun]
  refine simInv_struct hI hd hT hp hwf' (e1.trans h1) (e2.trans h2) (e3.trans h3) (e4.trans (List.map_congr_left fun q _ => ?_))
  simp only [upd]; split <;> rfl

/-! ### parameter record, create, delete, read -/

theorem sim_param
    (hI : SimInv P E s G tys) {n : GraphIO.Node V} (hn : n ∈ s.g.nodes) {p p' : Param V} (hp : n.par = some p)
    (hwf' : WF E (s.g.setNode { n with par := some p' })) (ops : List (Nodes.Op W))
    (hops : ops = [] ∧ p'.value = p.value ∨ ops = [.setParam (s.σ n.id) (P.paramVal n.ty p'.value)]) :
    SimInv P E { s with g := s.g.setNode { n with par := some p' } } (Nodes.run F G ops).1 tys := by
  obtain ⟨_, T, hT, _, _, hm⟩ := hI.wf.nodes n hn
  cases hk : T.param <;> simp only [hk, hp] at hm
  obtain ⟨v, hG⟩ := holds_param hI.holds hn hT hk
  rcases hops with ⟨rfl, hv⟩ | rfl
  · refine simInv_local (n' := { n with par := some p' }) hI hn rfl hwf' (fun k _ => looseEq.refl _) ?_
    simp [run_nil, hG, absNode, hT, hk, looseEq, hp, hv]
  · have hstep : (Nodes.step F G (.setParam (s.σ n.id) (P.paramVal n.ty p'.value))).1 =
        G.set (s.σ n.id) (.param (P.paramVal n.ty p'.value) (v + 1)) := by
      simp [Nodes.step, Nodes.step?, hG]
    rw [run_single, hstep]
    refine simInv_local (n' := { n with par := some p' }) hI hn rfl hwf' (fun k hk => set_other _ hk) ?_
    simp [absNode, hT, hk, looseEq]

theorem simInv_sameNodes
    (hI : SimInv P E s G tys) {g' : Graph V} (hn : g'.nodes = s.g.nodes) (hwf' : WF E g') :
    SimInv P E { s with g := g' } G tys :=
  ⟨hwf', fun n h => hI.holds n (hn ▸ h), fun n h => hI.slot n (hn ▸ h),
   fun a ha b hb => hI.inj a (hn ▸ ha) b (hn ▸ hb), hI.pre⟩

/-- create: the new id takes the next slot, whose runtime node is the fresh node of the created type -/
theorem sim_create {s s' : Sim V} {ty : TyName}
    (hI : SimInv P E s G (ty :: tys)) {T : NodeType} {id : Id} (hT : E.types ty = some T)
    (hfresh : id ∉ s.g.ids) (hg : s'.g.nodes = s.g.nodes ++ [emptyNode id ty (freshParam E ty T)])
    (hsl : s'.slots = aset s.slots id s.next) (hnx : s'.next = s.next + 1) (hwf' : WF E s'.g) :
    SimInv P E s' G tys := by
  have hne : ∀ n ∈ s.g.nodes, n.id ≠ id := fun n hn e => hfresh (e ▸ List.mem_map.mpr ⟨n, hn, rfl⟩)
  have hσold : ∀ n ∈ s.g.nodes, s'.σ n.id = s.σ n.id := fun n hn => by simp [Sim.σ, hsl, aget_aset_ne _ _ (hne n hn)]
  have hσnew : s'.σ id = s.next := by simp [Sim.σ, hsl, aget_aset_self]
  have hmem : ∀ n ∈ s'.g.nodes, n ∈ s.g.nodes ∨ n = emptyNode id ty (freshParam E ty T) := fun n hn => by
    simpa [hg] using hn
  refine ⟨hwf', fun n hn => ?_, fun n hn => ?_, fun a ha b hb e => ?_, fun j => ?_⟩
  · rcases hmem n hn with hn' | rfl
    · exact hI.holds.transfer hn' (hI.wf.nodes n hn') hσold (hσold n hn')
    · show looseEq (G (s'.σ id)) _
      rw [hσnew]
      have := hI.pre 0
      simp only [Nat.add_zero, List.getElem?_cons_zero] at this
      refine this.trans ?_
      have : freshRt P E ty = absNode P E s'.σ (emptyNode id ty (freshParam E ty T)) := by
        simp only [freshRt, absNode, emptyNode, hT]
        cases T.param <;> simp
      rw [this]
      exact looseEq.refl _
  · rw [hsl, hnx]
    rcases hmem n hn with hn' | rfl
    · obtain ⟨k, hk, hlt⟩ := hI.slot n hn'
      exact ⟨k, by rw [aget_aset_ne _ _ (hne n hn')]; exact hk, by omega⟩
    · exact ⟨s.next, aget_aset_self _ _ _, by omega⟩
  · have key : ∀ a ∈ s.g.nodes, s'.σ a.id ≠ s'.σ id := fun a ha => by
      rw [hσold a ha, hσnew]; have := hI.σ_lt ha; omega
    rcases hmem a ha with ha' | rfl <;> rcases hmem b hb with hb' | rfl
    · rw [hσold a ha', hσold b hb'] at e
      exact hI.inj a ha' b hb' e
    · exact absurd e (key a ha')
    · exact absurd e.symm (key b hb')
    · rfl
  · have := hI.pre (j + 1)
    simp only [List.getElem?_cons_succ] at this
    rw [hnx, show s.next + 1 + j = s.next + (j + 1) by omega]
    exact this

/-- delete: the id loses its slot, the runtime graph stays -/
theorem sim_delete {s s' : Sim V}
    (hI : SimInv P E s G tys) {id : Id} (hg : s'.g.nodes = s.g.nodes.filter (fun n => n.id ≠ id))
    (hsl : s'.slots = adel s.slots id) (hnx : s'.next = s.next) (hwf' : WF E s'.g) : SimInv P E s' G tys := by
  have hmem : ∀ n ∈ s'.g.nodes, n ∈ s.g.nodes ∧ n.id ≠ id := fun n hn => by simpa [hg] using hn
  have hσ : ∀ n ∈ s'.g.nodes, s'.σ n.id = s.σ n.id := fun n hn => by simp [Sim.σ, hsl, aget_adel_ne _ (hmem n hn).2]
  refine ⟨hwf', fun n hn => ?_, fun n hn => ?_, fun a ha b hb e => ?_, hnx ▸ hI.pre⟩
  · exact hI.holds.transfer (hmem n hn).1 (hwf'.nodes n hn) hσ (hσ n hn)
  · obtain ⟨k, hk, hlt⟩ := hI.slot n (hmem n hn).1
    exact ⟨k, by rw [hsl, aget_adel_ne _ (hmem n hn).2]; exact hk, hnx ▸ hlt⟩
  · rw [hσ a ha, hσ b hb] at e
    exact hI.inj a (hmem a ha).1 b (hmem b hb).1 e

theorem sim_read
    (hI : SimInv P E s G tys) (i : Nat) : SimInv P E s (Nodes.run F G [.read i]).1 tys := by
  rw [run_single, Nodes.step_read]
  have hs := Nodes.Eval_static F G i
  exact ⟨hI.wf, fun n hn => (looseEq.of_static (hs _)).trans (hI.holds n hn), hI.slot, hI.inj,
    fun j => (looseEq.of_static (hs _)).trans (hI.pre j)⟩

/-! ### one event, a whole session -/

theorem sim_event (hE : EnvOK E)
    (ev : Ev J) (evs : List (Ev J)) (hI : SimInv P E s G (createdTys P E s (ev :: evs))) :
    SimInv P E (simStep P E s ev).1 (Nodes.run F G (simStep P E s ev).2).1 (createdTys P E (simStep P E s ev).1 evs) := by
  unfold createdTys at hI
  cases ev with
  | read id =>
    by_cases hf : (s.g.find id).isSome
    · have h2 : simStep P E s (.read id) = (s, [.read (s.σ id)]) := by simp [simStep, hf]
      rw [h2] at hI ⊢; exact sim_read hI _
    · have h2 : simStep P E s (.read id) = (s, []) := by simp [simStep, hf]
      rw [h2] at hI ⊢; exact hI
  | edit op =>
    cases hstep : step E s.g op with
    | error e =>
      have hs : simStep P E s (.edit op) = (s, []) := by simp [simStep, hstep]
      rw [hs] at hI ⊢
      cases op <;> simpa [run_nil] using hI
    | ok g' =>
      have hs : simStep P E s (.edit op) =
          ({ g := g', slots := (newSlots s g' op).1, next := (newSlots s g' op).2 }, rtOps P E s g' op) := by
        simp [simStep, hstep]
      have hwf' := step_wf hE hI.wf hstep
      rw [hs] at hI ⊢
      cases step_sound hstep with
      | @create ty T id hT hfresh =>
        -- a successful create always takes the next slot
        have hns : newSlots s { s.g with nodes := s.g.nodes ++ [emptyNode id ty (freshParam E ty T)] } (.create ty : Op J) =
            (aset s.slots id s.next, s.next + 1) := by
          simp [newSlots, emptyNode]
        simp only [hns, if_true] at hI ⊢
        exact sim_create hI hT hfresh rfl rfl rfl hwf'
      | @connectArr src _ _ _ _ _ _ _ _ hd _ hTd _ hpar hsp hpt =>
        obtain ⟨hdm, rfl⟩ := find_some hd
        simp only [rtOps, hd, hTd, hsp]
        exact sim_modArr (f := fun a => some (a ++ [s.σ src])) hE hI hdm hTd hpar (portTy_mem_keys hpt) hwf' (by simp)
          fun _ ht => by simp only [Nodes.step?, ht]
      | connectScal hd _ hTd _ hpar hsp hpt =>
        obtain ⟨hdm, rfl⟩ := find_some hd
        simp only [rtOps, hd, hTd, hsp]
        exact sim_setScal hE hI hdm hTd hpar (portTy_mem_keys hpt) (some _) hwf'
      | @removeAt _ _ _ _ k _ _ hd hTd hpar hsp hk hpm hlen =>
        obtain ⟨hdm, rfl⟩ := find_some hd
        simp only [rtOps, hd, hTd, hsp, hk]
        exact sim_modArr (f := fun a => Nodes.removeAt a k.toNat) hE hI hdm hTd hpar hpm hwf' (removeAt_map _ _ _ hlen)
          fun _ ht => by simp only [Nodes.step?, ht]
      | unsetScal hd hTd hpar hsp hpt =>
        obtain ⟨hdm, rfl⟩ := find_some hd
        simp only [rtOps, hd, hTd, hsp, hpt]
        exact sim_setScal hE hI hdm hTd hpar (portTy_mem_keys hpt) none hwf'
      | clearArr hd hTd hpar hsp hps hpm =>
        obtain ⟨hdm, rfl⟩ := find_some hd
        simp only [rtOps, hd, hTd, hsp, hps]
        exact sim_clearArr hE hI hdm hTd hpar hpm hwf'
      | @setValue _ _ n p v hn hp =>
        obtain ⟨hnm, rfl⟩ := find_some hn
        simp only [rtOps, find_setNode (n := { n with par := some { p with cur := some v } }) hI.wf.nodup hnm rfl]
        exact sim_param hI hnm hp hwf' _ (Or.inr rfl)
      | setName hn hp => exact sim_param hI (find_some hn).1 hp hwf' [] (Or.inl ⟨rfl, rfl⟩)
      | setDesc hn hp => exact sim_param hI (find_some hn).1 hp hwf' [] (Or.inl ⟨rfl, rfl⟩)
      | setProducer => exact simInv_sameNodes hI rfl hwf'
      | metaSet => exact simInv_sameNodes hI rfl hwf'
      | metaDel => exact simInv_sameNodes hI rfl hwf'
      | delete => exact sim_delete hI rfl rfl rfl hwf'

theorem sim_run (hE : EnvOK E) (evs : List (Ev J))
    (hI : SimInv P E s G (createdTys P E s evs)) :
    SimInv P E (simRun P E s evs).1 (Nodes.run F G (simRun P E s evs).2).1 [] := by
  induction evs generalizing s G with
  | nil => exact hI
  | cons ev evs ih =>
    simp only [simRun]
    rw [run_state_append]
    exact ih (sim_event hE ev evs hI)

end

/-! ### the runtime before the session -/

/-- before the session: nothing is wired, nothing has been processed -/
theorem preGraph_fresh (P : Procs V W) (E : Env V J) (tys : List TyName) :
    ∀ k s, preGraph P E tys k = .struct s → s.deps = [] ∧ s.remembered = none := by
  intro k s hs
  simp only [preGraph] at hs
  cases htk : tys[k]? <;> simp only [htk, reduceCtorEq] at hs
  obtain ⟨T, -, -, hd, hr⟩ := absNode_struct hs
  exact ⟨by rw [hd]; simp [Node.refs, emptyNode, List.filterMap_eq_nil_iff, List.flatMap_eq_nil_iff], hr⟩

/-- nothing is wired before the session, so every bounded ranking ranks the initial graph -/
theorem preGraph_ranked (P : Procs V W) (E : Env V J) (tys : List TyName) {F : Nat} (rank : Nat → Nat)
    (hr : ∀ i, rank i < F) : Nodes.Ranked rank F (preGraph P E tys) := by
  refine ⟨hr, ?_⟩
  intro i s hs d hd
  rw [(preGraph_fresh P E tys i s hs).1] at hd
  cases hd

theorem preGraph_init (P : Procs V W) (E : Env V J) (tys : List TyName) {F : Nat} (hF : 0 < F) :
    Nodes.Init F (preGraph P E tys) :=
  ⟨⟨fun _ => 0, preGraph_ranked P E tys _ fun _ => hF⟩, fun i s hs => (preGraph_fresh P E tys i s hs).2⟩

theorem simInv_init (P : Procs V W) (E : Env V J) (h : Hdr) (tys : List TyName) :
    SimInv P E (Sim.init h) (preGraph P E tys) tys :=
  ⟨init_wf h, fun n hn => by simp [Sim.init, Graph.init] at hn, fun n hn => by simp [Sim.init, Graph.init] at hn,
   fun a ha => by simp [Sim.init, Graph.init] at ha,
   fun j => by simp only [Sim.init, Nat.zero_add, preGraph]; exact looseEq.refl _⟩

end C12
end PolyVerif
