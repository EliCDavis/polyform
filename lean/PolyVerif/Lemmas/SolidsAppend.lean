/-
  C18: the step-by-step in-place loop `for i := lo; i < len(t); i++ { t[i] += k }` of `Model/AppendIR.lean` adds `k` to
  exactly the entries from `lo` on.
-/
import PolyVerif.Model.AppendIR
import Mathlib.Tactic
namespace PolyVerif.AppendIR

theorem addLoop_spec (k : Nat) : ∀ (fuel i : Nat) (t : List Nat),
    (addLoop k fuel i t).length = t.length ∧
    ∀ j, (addLoop k fuel i t)[j]? = if i ≤ j ∧ j < i + fuel then t[j]?.map (· + k) else t[j]? := by
  intro fuel
  induction fuel with
  | zero => intro i t; simp [addLoop]
  | succ n ih =>
    intro i t
    unfold addLoop
    by_cases hi : i < t.length
    · rw [if_pos hi]
      obtain ⟨hl, hj⟩ := ih (i + 1) (t.set i (t.getD i 0 + k))
      refine ⟨by rw [hl, List.length_set], fun j => ?_⟩
      rw [hj j, List.getElem?_set]
      by_cases hji : i = j
      · subst hji
        have : ¬ (i + 1 ≤ i ∧ i < i + 1 + n) := by omega
        rw [if_neg this, if_pos rfl, if_pos hi, if_pos (by omega)]
        simp [List.getD_eq_getElem?_getD, List.getElem?_eq_getElem hi]
      · rw [if_neg hji]
        by_cases hc : i + 1 ≤ j ∧ j < i + 1 + n
        · rw [if_pos hc, if_pos (by omega)]
        · rw [if_neg hc, if_neg (by omega)]
    · rw [if_neg hi]
      refine ⟨rfl, fun j => ?_⟩
      by_cases hc : i ≤ j ∧ j < i + (n + 1)
      · rw [if_pos hc, List.getElem?_eq_none (by omega)]; rfl
      · rw [if_neg hc]

/-- the loop started at `len a` on `a ++ b` shifts exactly the `b` part -/
theorem addLoop_append (k : Nat) (a b : List Nat) :
    addLoop k (a ++ b).length a.length (a ++ b) = a ++ b.map (· + k) := by
  obtain ⟨hl, hj⟩ := addLoop_spec k (a ++ b).length a.length (a ++ b)
  apply List.ext_getElem?
  intro j
  rw [hj j]
  by_cases hja : j < a.length
  · rw [if_neg (by omega), List.getElem?_append_left hja, List.getElem?_append_left hja]
  · rw [List.getElem?_append_right (by omega), List.getElem?_append_right (by omega), List.getElem?_map]
    by_cases hc : a.length ≤ j ∧ j < a.length + (a ++ b).length
    · rw [if_pos hc]
    · rw [if_neg hc]
      have : b.length ≤ j - a.length := by simp only [List.length_append] at hc; omega
      rw [List.getElem?_eq_none this]; rfl

end PolyVerif.AppendIR
