/-
  C10 — the job / result channel protocol (Model/ParChan.lean).  What every single step keeps (conservation of jobs, the number
  of workers, the collector's account, the results channel as a FIFO) is proved of `Step` alone; the order of shutting down
  (`Shut`) is the one fact that needs the configuration before the step.  `Inv` carries both along `Reach`; from it: every job
  processed exactly once when the collector is done, the producer never blocked, and no reachable state stuck — for both
  modes.  Core Lean only.
-/
import PolyVerif.Model.ParChan

namespace PolyVerif.Par.Chan

variable {J R : Type}

@[simp] theorem held_append (a b : List (W J)) : held (a ++ b) = held a ++ held b := by simp [held]
@[simp] theorem held_idle (ws : List (W J)) : held (W.idle :: ws) = held ws := by simp [held]
@[simp] theorem held_exited (ws : List (W J)) : held (W.exited :: ws) = held ws := by simp [held]
@[simp] theorem held_busy (j : J) (ws : List (W J)) : held (W.busy j :: ws) = j :: held ws := by simp [held]
@[simp] theorem exitedCount_append (a b : List (W J)) : exitedCount (a ++ b) = exitedCount a + exitedCount b := by
  simp [exitedCount]
@[simp] theorem exitedCount_idle (ws : List (W J)) : exitedCount (W.idle :: ws) = exitedCount ws := by simp [exitedCount]
@[simp] theorem exitedCount_busy (j : J) (ws : List (W J)) : exitedCount (W.busy j :: ws) = exitedCount ws := by
  simp [exitedCount]
@[simp] theorem exitedCount_exited (ws : List (W J)) : exitedCount (W.exited :: ws) = exitedCount ws + 1 := by
  simp [exitedCount]

@[simp] theorem held_replicate_idle : ∀ n, held (List.replicate n (W.idle : W J)) = []
  | 0 => rfl
  | n + 1 => by simp [List.replicate_succ, held_replicate_idle n]

@[simp] theorem exitedCount_replicate_idle : ∀ n, exitedCount (List.replicate n (W.idle : W J)) = 0
  | 0 => rfl
  | n + 1 => by simp [List.replicate_succ, exitedCount_replicate_idle n]

theorem exitedCount_le (ws : List (W J)) : exitedCount ws ≤ ws.length := List.countP_le_length

theorem held_of_all_exited : ∀ (ws : List (W J)), exitedCount ws = ws.length → held ws = []
  | [], _ => rfl
  | W.idle :: ws, h => by have := exitedCount_le ws; simp at h; omega
  | W.busy j :: ws, h => by have := exitedCount_le ws; simp at h; omega
  | W.exited :: ws, h => by simp at h; simpa using held_of_all_exited ws h

/-- the messages the workers have sent so far, in order: one result per finished job, or one `done` per worker that has left -/
def sent (mode : Mode) (f : J → R) (c : Cfg J R) : List (Msg R) :=
  match mode with
  | .perJob => c.processed.map fun j => Msg.res (f j)
  | .perWorker => List.replicate (exitedCount c.workers) Msg.done

@[simp] theorem sent_perJob (f : J → R) (c : Cfg J R) : sent .perJob f c = c.processed.map fun j => Msg.res (f j) := rfl
@[simp] theorem sent_perWorker (f : J → R) (c : Cfg J R) :
    sent .perWorker f c = List.replicate (exitedCount c.workers) Msg.done := rfl

/-- the number of messages the workers send in a complete run, which is what the collector has to wait for -/
def total (mode : Mode) (jobs : List J) (n : Nat) : Nat :=
  match mode with
  | .perJob => jobs.length
  | .perWorker => n

@[simp] theorem total_perJob (jobs : List J) (n : Nat) : total .perJob jobs n = jobs.length := rfl
@[simp] theorem total_perWorker (jobs : List J) (n : Nat) : total .perWorker jobs n = n := rfl

/-! ### laws of the step relation: what ANY step does, whatever the configuration it starts from -/

section
variable {mode : Mode} {jobsCap resCap : Nat} {f : J → R} {c c' : Cfg J R}

/-- conservation: a step moves one job to the next place (`toSend`, the jobs channel, a worker, `processed`), or none -/
theorem Step.conserve [DecidableEq J] (st : Step mode jobsCap resCap f c c') (x : J) :
    c'.processed.count x + (held c'.workers).count x + c'.jobsQ.count x + c'.toSend.count x =
      c.processed.count x + (held c.workers).count x + c.jobsQ.count x + c.toSend.count x := by
  cases st with
  | send hs _ | handoff hs _ hw | recv hs hw | finishSend _ hw _ | finishQuiet _ hw =>
    simp only [*, held_append, held_idle, held_busy, List.count_cons, List.count_append, List.count_nil]
    omega
  | exitQuiet _ hw _ _ | exitSend _ hw _ _ _ => simp only [hw, held_append, held_idle, held_exited]
  | close | collect => rfl

theorem Step.workers_length (st : Step mode jobsCap resCap f c c') : c'.workers.length = c.workers.length := by
  cases st with
  | handoff _ _ hw | recv _ hw | finishSend _ hw _ | finishQuiet _ hw | exitQuiet _ hw _ _ | exitSend _ hw _ _ _ =>
    simp only [hw, List.length_append, List.length_cons]
  | _ => rfl

theorem Step.collector (st : Step mode jobsCap resCap f c c') :
    c'.toCollect + c'.collected.length = c.toCollect + c.collected.length := by
  cases st with
  | collect _ hk => simp only [hk, List.length_append, List.length_cons, List.length_nil]; omega
  | _ => rfl

/-- the results channel is FIFO and loses nothing: what the collector holds, followed by what is still queued, is what the
    workers have sent -/
theorem Step.msgs (st : Step mode jobsCap resCap f c c') (h : c.collected ++ c.resQ = sent mode f c) :
    c'.collected ++ c'.resQ = sent mode f c' := by
  cases st with
  | send | close => exact h
  | handoff _ _ hw | recv _ hw =>
    cases mode with
    | perJob => exact h
    | perWorker => simpa only [sent_perWorker, hw, exitedCount_append, exitedCount_idle, exitedCount_busy] using h
  | finishSend hm hw _ =>
    subst hm
    simp only [sent_perJob, List.map_append, List.map_cons, List.map_nil, ← List.append_assoc, h]
  | finishQuiet hm hw =>
    subst hm
    simpa only [sent_perWorker, hw, exitedCount_append, exitedCount_idle, exitedCount_busy] using h
  | exitQuiet hm _ _ _ => subst hm; exact h
  | exitSend hm hw _ _ _ =>
    subst hm
    simp only [sent_perWorker, hw, exitedCount_append, exitedCount_idle, exitedCount_exited] at h ⊢
    rw [← List.append_assoc, h, ← Nat.add_assoc, List.replicate_succ']
  | collect hr _ =>
    refine Eq.trans ?_ (h.trans rfl)
    simp only [hr, List.append_assoc, List.cons_append, List.nil_append]

end

/-! ### shutting down: the one fact about a step that needs to know where it starts -/

/-- the producer closes the jobs channel after its last send; a worker leaves only when the channel is drained and closed -/
structure Shut (c : Cfg J R) : Prop where
  closed_sent : c.closed = true → c.toSend = []
  exited_drained : 0 < exitedCount c.workers → c.jobsQ = [] ∧ c.closed = true

theorem Shut.init (jobs : List J) (n expect : Nat) : Shut (init jobs n expect : Cfg J R) :=
  ⟨(fun h => nomatch h), fun h => by simp [Chan.init] at h⟩

theorem Shut.step {mode : Mode} {jobsCap resCap : Nat} {f : J → R} {c c' : Cfg J R}
    (h : Shut c) (st : Step mode jobsCap resCap f c c') : Shut c' := by
  -- a job still to send: the channel is open, so no worker has left
  have open_ : ∀ {j t}, c.toSend = j :: t → c.closed = false ∧ exitedCount c.workers = 0 := fun hs =>
    have hc : c.closed = false := Bool.eq_false_iff.2 fun hc => by simpa [hs] using h.closed_sent hc
    ⟨hc, Nat.eq_zero_of_not_pos fun he => by simpa [hc] using (h.exited_drained he).2⟩
  cases st with
  | send hs _ => exact ⟨fun hc => by simp [(open_ hs).1] at hc, fun he => by simp [(open_ hs).2] at he⟩
  | handoff hs _ hw =>
    refine ⟨fun hc => by simp [(open_ hs).1] at hc, fun he => ?_⟩
    have := (open_ hs).2
    simp [hw] at this he
    omega
  | close hs _ => exact ⟨fun _ => hs, fun he => ⟨(h.exited_drained he).1, rfl⟩⟩
  | recv hq hw =>
    refine ⟨h.closed_sent, fun he => ?_⟩
    have := h.exited_drained (by simpa [hw] using he)
    simp [hq] at this
  | finishSend _ hw _ | finishQuiet _ hw => exact ⟨h.closed_sent, fun he => h.exited_drained (by simpa [hw] using he)⟩
  | exitQuiet _ _ hq hc | exitSend _ _ hq hc _ => exact ⟨h.closed_sent, fun _ => ⟨hq, hc⟩⟩
  | collect => exact ⟨h.closed_sent, h.exited_drained⟩

/-- the laws of `Step` summed up along an execution from `init jobs n expect`, and `Shut` -/
structure Inv [DecidableEq J] (mode : Mode) (f : J → R) (jobs : List J) (n expect : Nat) (c : Cfg J R) : Prop where
  /-- conservation: every job is in exactly one place -/
  cnt : ∀ x, jobs.count x = c.processed.count x + (held c.workers).count x + c.jobsQ.count x + c.toSend.count x
  wlen : c.workers.length = n
  col : c.toCollect + c.collected.length = expect
  msgs : c.collected ++ c.resQ = sent mode f c
  shut : Shut c

section
variable [DecidableEq J] {mode : Mode} {jobsCap resCap : Nat} {f : J → R} {jobs : List J} {n expect : Nat} {c : Cfg J R}

theorem inv_init (mode : Mode) (f : J → R) (jobs : List J) (n expect : Nat) : Inv mode f jobs n expect (init jobs n expect) :=
  ⟨fun x => by simp [init], by simp [init], rfl, by cases mode <;> simp [init], Shut.init jobs n expect⟩

theorem inv_step {c' : Cfg J R}
    (h : Inv mode f jobs n expect c) (st : Step mode jobsCap resCap f c c') : Inv mode f jobs n expect c' :=
  ⟨fun x => (h.cnt x).trans (st.conserve x).symm, st.workers_length.trans h.wlen, st.collector.trans h.col, st.msgs h.msgs,
    h.shut.step st⟩

theorem inv_reach (hr : Reach mode jobsCap resCap f (init jobs n expect) c) : Inv mode f jobs n expect c := by
  induction hr with
  | refl => exact inv_init mode f jobs n expect
  | tail _ st ih => exact inv_step ih st

theorem Inv.perm (h : Inv mode f jobs n expect c) : jobs.Perm (c.processed ++ held c.workers ++ c.jobsQ ++ c.toSend) := by
  rw [List.perm_iff_count]
  intro x
  simp only [List.count_append]
  exact h.cnt x

theorem Inv.jobs_length (h : Inv mode f jobs n expect c) :
    jobs.length = c.processed.length + (held c.workers).length + c.jobsQ.length + c.toSend.length := by
  simpa only [List.length_append] using h.perm.length_eq

theorem Inv.msgs_length (h : Inv mode f jobs n expect c) : c.collected.length + c.resQ.length = (sent mode f c).length := by
  simpa only [List.length_append] using congrArg List.length h.msgs

/-- once every worker has left its loop nothing is left anywhere: the jobs channel is drained and closed, so nothing is
    left to send, and no worker holds a job -/
theorem Inv.quiescent (h : Inv mode f jobs n expect c) (hn : 0 < n) (hall : exitedCount c.workers = n) :
    c.processed.Perm jobs ∧ held c.workers = [] ∧ c.jobsQ = [] ∧ c.toSend = [] := by
  have e2 := held_of_all_exited c.workers (hall.trans h.wlen.symm)
  have hd := h.shut.exited_drained (hall ▸ hn)
  have e4 := h.shut.closed_sent hd.2
  have hp := h.perm
  rw [e2, hd.1, e4] at hp
  exact ⟨(by simpa only [List.append_nil] using hp.symm), e2, hd.1, e4⟩

/-- at any moment of any execution no job has been processed twice and none was invented -/
theorem processed_sub (hr : Reach mode jobsCap resCap f (init jobs n expect) c) : ∀ x, c.processed.count x ≤ jobs.count x := by
  intro x; have := (inv_reach hr).cnt x; omega

end

/-- with the jobs channel as large as the job list (the source: `make(chan …, numJobs)`), the producer's `jobs <- j` never blocks,
    whatever the workers and the collector are doing -/
theorem producer_never_blocks [DecidableEq J] {mode : Mode} {jobsCap resCap : Nat} {f : J → R} {jobs : List J} {n expect : Nat}
    {c : Cfg J R} (hcap : jobs.length ≤ jobsCap) (hr : Reach mode jobsCap resCap f (init jobs n expect) c)
    {j : J} {t : List J} (hs : c.toSend = j :: t) : c.jobsQ.length < jobsCap := by
  have hl := (inv_reach hr).jobs_length
  simp only [hs, List.length_cons] at hl
  omega

theorem workers_cases : ∀ (ws : List (W J)),
    (∃ j ws1 ws2, ws = ws1 ++ W.busy j :: ws2) ∨ (∃ ws1 ws2, ws = ws1 ++ W.idle :: ws2) ∨ exitedCount ws = ws.length
  | [] => Or.inr (Or.inr rfl)
  | W.busy j :: ws => Or.inl ⟨j, [], ws, rfl⟩
  | W.idle :: ws => Or.inr (Or.inl ⟨[], ws, rfl⟩)
  | W.exited :: ws => by
    rcases workers_cases ws with ⟨j, a, b, rfl⟩ | ⟨a, b, rfl⟩ | h
    · exact Or.inl ⟨j, W.exited :: a, b, rfl⟩
    · exact Or.inr (Or.inl ⟨W.exited :: a, b, rfl⟩)
    · exact Or.inr (Or.inr (by simp [h]))

section
variable {mode : Mode} {jobsCap resCap : Nat} {f : J → R} {c : Cfg J R} {a b : List (W J)}

/-- a worker waiting in `range jobs` can take a job, or the producer can hand one over or close the channel — unless the
    channel is already drained and closed -/
theorem idle_step (hw : c.workers = a ++ W.idle :: b) :
    (∃ c', Step mode jobsCap resCap f c c') ∨ (c.jobsQ = [] ∧ c.closed = true) := by
  cases hjq : c.jobsQ with
  | cons j q => exact Or.inl ⟨_, Step.recv hjq hw⟩
  | nil =>
    cases hts : c.toSend with
    | cons j t => exact Or.inl ⟨_, Step.handoff hts hjq hw⟩
    | nil =>
      cases hcl : c.closed with
      | false => exact Or.inl ⟨_, Step.close hts hcl⟩
      | true => exact Or.inr ⟨rfl, rfl⟩

/-- a worker that holds a job can finish it (result-per-job: if the results channel has room) -/
theorem can_finish {j : J} (hw : c.workers = a ++ W.busy j :: b) (hroom : c.resQ.length < resCap) :
    ∃ c', Step mode jobsCap resCap f c c' := by
  cases mode with
  | perJob => exact ⟨_, Step.finishSend rfl hw hroom⟩
  | perWorker => exact ⟨_, Step.finishQuiet rfl hw⟩

/-- a worker waiting on the drained, closed jobs channel can leave (completion-per-worker: if the results channel has room) -/
theorem can_exit (hw : c.workers = a ++ W.idle :: b) (hq : c.jobsQ = []) (hcl : c.closed = true)
    (hroom : c.resQ.length < resCap) : ∃ c', Step mode jobsCap resCap f c c' := by
  cases mode with
  | perJob => exact ⟨_, Step.exitQuiet rfl hw hq hcl⟩
  | perWorker => exact ⟨_, Step.exitSend rfl hw hq hcl hroom⟩

end

section
variable [DecidableEq J] {mode : Mode} {jobsCap resCap : Nat} {f : J → R} {jobs : List J} {n : Nat} {c : Cfg J R}

/-- result-per-job protocol, collector loop bound = number of jobs sent: whenever (on whatever schedule, with whatever number
    of workers and channel capacities) the collector has finished its loop, every job has been processed exactly once, the
    collector holds exactly one result per job — in the order the jobs completed — and nothing is left anywhere -/
theorem perJob_complete (hr : Reach Mode.perJob jobsCap resCap f (init jobs n jobs.length) c) (hdone : c.toCollect = 0) :
    c.processed.Perm jobs ∧ c.collected = c.processed.map (fun j => Msg.res (f j)) ∧
    c.resQ = [] ∧ held c.workers = [] ∧ c.jobsQ = [] ∧ c.toSend = [] := by
  have h := inv_reach hr
  have hl := h.jobs_length
  have hm := h.msgs_length
  have hc := h.col
  simp only [sent_perJob, List.length_map, hdone] at hm hc
  -- all jobs are collected, so every list between `toSend` and `collected` has length 0
  have e1 : c.resQ = [] := List.eq_nil_of_length_eq_zero (by omega)
  have e2 : held c.workers = [] := List.eq_nil_of_length_eq_zero (by omega)
  have e3 : c.jobsQ = [] := List.eq_nil_of_length_eq_zero (by omega)
  have e4 : c.toSend = [] := List.eq_nil_of_length_eq_zero (by omega)
  have hp := h.perm
  have hres := h.msgs
  rw [e2, e3, e4] at hp
  rw [e1] at hres
  simp only [List.append_nil] at hp hres
  exact ⟨hp.symm, hres, e1, e2, e3, e4⟩

/-- completion-per-worker protocol, collector loop bound = number of workers: whenever the collector has finished its loop,
    every worker has left its `range jobs` loop and every job has been processed exactly once -/
theorem perWorker_complete (hn : 0 < n) (hr : Reach Mode.perWorker jobsCap resCap f (init jobs n n) c) (hdone : c.toCollect = 0) :
    c.processed.Perm jobs ∧ exitedCount c.workers = n ∧ held c.workers = [] ∧ c.jobsQ = [] ∧ c.toSend = [] := by
  have h := inv_reach hr
  have hm := h.msgs_length
  have hc := h.col
  have hle := h.wlen ▸ exitedCount_le c.workers
  simp only [sent_perWorker, List.length_replicate, hdone] at hm hc
  have hall : exitedCount c.workers = n := by omega
  exact ⟨(h.quiescent hn hall).1, hall, (h.quiescent hn hall).2⟩

/-- deadlock freedom of both protocols: the collector waits for as many messages as the workers send in all (`total`), there
    is a worker, and the results channel has room for one message if any is expected.  As long as the collector has not
    finished, some step is enabled — no reachable state is stuck: the collector's if a message is waiting, else a busy worker's,
    else an idle worker's or the producer's; and all workers cannot have left, since then every message has been sent and
    collected. -/
theorem progress (hn : 0 < n) (hcap : 0 < total mode jobs n → 0 < resCap)
    (hr : Reach mode jobsCap resCap f (init jobs n (total mode jobs n)) c) (hgo : 0 < c.toCollect) :
    ∃ c', Step mode jobsCap resCap f c c' := by
  have h := inv_reach hr
  have hm := h.msgs_length
  have hc := h.col
  obtain ⟨k, hk⟩ : ∃ k, c.toCollect = k + 1 := ⟨c.toCollect - 1, by omega⟩
  cases hq : c.resQ with
  | cons m q => exact ⟨_, Step.collect hq hk⟩
  | nil =>
    have hroom : c.resQ.length < resCap := by rw [hq]; exact hcap (by omega)
    rcases workers_cases c.workers with ⟨j, a, b, hw⟩ | ⟨a, b, hw⟩ | hall
    · exact can_finish hw hroom
    · rcases idle_step hw with hstep | ⟨hjq, hcl⟩
      · exact hstep
      · exact can_exit hw hjq hcl hroom
    · exfalso
      rw [h.wlen] at hall
      have : (sent mode f c).length = total mode jobs n := by
        cases mode with
        | perJob => simpa using (h.quiescent hn hall).1.length_eq
        | perWorker => simpa using hall
      simp only [hq, List.length_nil] at hm
      omega

end

end PolyVerif.Par.Chan
