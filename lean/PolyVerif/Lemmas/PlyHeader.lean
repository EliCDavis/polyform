/-
  The PLY header TEXT layer: lemmas about `Ply.Header.render` (the writer's header printing) under `Ply.parseHeader`
  (the model of `ply.ReadHeader`: byte-wise line reading, CR dropping, `strings.Fields`, `strconv.ParseInt`, the type
  alias table); then the same for the header text the reference encoder of C08 prints (`PlySpec.specHeader`: alias
  spellings, comment / obj_info lines anywhere, LF or CRLF).  Both printers emit a list of PARSED lines (`HL`: keyword and
  arguments joined by single blanks); `step_HL` turns the parser's step on the text of a line into `HL.act` on the line, so what
  a header parses to is computed by `run` on the list, and `parse_lines` / `cut_lines` hold for any such list.  Core Lean only.
-/
import PolyVerif.Model.Ply
import PolyVerif.Lemmas.Ply
import PolyVerif.Model.PlySpec
import PolyVerif.Lemmas.ExactReader

namespace PolyVerif
namespace PlyHeader
open Ply PlyLemmas

/-- a header token: non-empty, no white space (hence no CR / LF) -/
def Tok (t : Bytes) : Prop := t ≠ [] ∧ ∀ b ∈ t, isSpace b = false

theorem fieldsAux_tok (t : Bytes) (ht : ∀ b ∈ t, isSpace b = false) : ∀ (rest cur : Bytes),
    fieldsAux (t ++ rest) cur = fieldsAux rest (t.reverse ++ cur) := by
  induction t with
  | nil => intro rest cur; rfl
  | cons b t ih =>
    intro rest cur
    have hb := ht b (by simp)
    simp only [List.cons_append, fieldsAux, hb, Bool.false_eq_true, if_false]
    rw [ih (fun x hx => ht x (by simp [hx]))]
    simp

/-- a token followed by a blank -/
theorem fields_tok_sp (t : Bytes) (ht : Tok t) (rest : Bytes) :
    fieldsAux (t ++ 32 :: rest) [] = t :: fieldsAux rest [] := by
  rw [fieldsAux_tok t ht.2]
  have hne : (t.reverse ++ []).isEmpty = false := by
    cases t with
    | nil => exact absurd rfl ht.1
    | cons b t => simp
  simp only [fieldsAux]
  have : isSpace 32 = true := by decide +kernel
  simp [this, hne, ht.1]

/-- the last token of a line -/
theorem fields_tok_end (t : Bytes) (ht : Tok t) : fieldsAux t [] = [t] := by
  have := fieldsAux_tok t ht.2 [] []
  simp only [List.append_nil] at this
  rw [this]
  cases t with
  | nil => exact absurd rfl ht.1
  | cons b t => simp [fieldsAux]

theorem tok_no_nl (t : Bytes) (ht : Tok t) : ∀ b ∈ t, b ≠ 10 ∧ b ≠ 13 := by
  intro b hb
  have := ht.2 b hb
  constructor <;> (intro h; subst h; revert this; decide)

theorem tok_not_blank (t : Bytes) (ht : Tok t) (rest : Bytes) : isBlank (t ++ rest) = false := by
  cases t with
  | nil => exact absurd rfl ht.1
  | cons b t => simp [isBlank, ht.2 b (by simp)]

theorem parseDigits_append : ∀ (xs ys : Bytes) (a : Nat),
    parseDigits (xs ++ ys) a = (parseDigits xs a).bind (parseDigits ys) := by
  intro xs
  induction xs with
  | nil => intro ys a; rfl
  | cons b xs ih =>
    intro ys a
    simp only [List.cons_append, parseDigits]
    split
    · exact ih ys _
    · rfl

theorem digit_byte (d : Nat) (hd : d < 10) :
    (48 : UInt8) ≤ UInt8.ofNat (48 + d) ∧ UInt8.ofNat (48 + d) ≤ 57 ∧ (UInt8.ofNat (48 + d)).toNat - 48 = d ∧
      isSpace (UInt8.ofNat (48 + d)) = false := by
  have : ∀ d : Fin 10, (48 : UInt8) ≤ UInt8.ofNat (48 + d.val) ∧ UInt8.ofNat (48 + d.val) ≤ 57 ∧
      (UInt8.ofNat (48 + d.val)).toNat - 48 = d.val ∧ isSpace (UInt8.ofNat (48 + d.val)) = false := by decide +kernel
  exact this ⟨d, hd⟩

/-- the digits `digitsAux` puts in front of the accumulator: they parse back to the number, and they are a token -/
theorem digitsAux_spec : ∀ (fuel n : Nat) (acc : Bytes), n < fuel →
    ∃ ds, digitsAux fuel n acc = ds ++ acc ∧ ds ≠ [] ∧ (∀ b ∈ ds, isSpace b = false) ∧
      ∀ a, parseDigits ds a = some (a * 10 ^ ds.length + n) := by
  intro fuel
  induction fuel with
  | zero => intro n acc h; omega
  | succ fuel ih =>
    intro n acc hn
    obtain ⟨h1, h2, h3, h4⟩ := digit_byte (n % 10) (Nat.mod_lt _ (by omega))
    simp only [digitsAux]
    generalize hdg : UInt8.ofNat (48 + n % 10) = dg at h1 h2 h3 h4 ⊢
    by_cases hz : n / 10 = 0
    · refine ⟨[dg], by simp [hz], by simp, by simpa using h4, ?_⟩
      intro a
      have hn10 : n % 10 = n := by omega
      simp only [parseDigits, h1, h2, and_self, if_true, h3, hn10, List.length_cons, List.length_nil]
      try simp
    · obtain ⟨ds, hds, hne, hsp, hp⟩ := ih (n / 10) (dg :: acc) (by omega)
      refine ⟨ds ++ [dg], by simp [hz, hds], by simp, ?_, ?_⟩
      · intro b hb
        simp at hb
        rcases hb with hb | rfl
        · exact hsp b hb
        · exact h4
      · intro a
        rw [parseDigits_append, hp]
        simp only [Option.bind_some, parseDigits, h1, h2, h3, and_self, if_true, List.length_append, List.length_cons,
          List.length_nil]
        congr 1
        have := Nat.div_add_mod n 10
        rw [Nat.pow_succ]
        have e1 : (a * 10 ^ ds.length + n / 10) * 10 = a * (10 ^ ds.length * 10) + (n / 10) * 10 := by
          rw [Nat.add_mul, Nat.mul_assoc]
        omega

theorem showNat_spec (n : Nat) : ∃ ds, showNat n = ds ∧ Tok ds ∧ parseDigits ds 0 = some n := by
  obtain ⟨ds, hds, hne, hsp, hp⟩ := digitsAux_spec (n + 1) n [] (by omega)
  refine ⟨ds, by simp [showNat, hds], ⟨hne, hsp⟩, by simpa using hp 0⟩

theorem showNat_tok (n : Nat) : Tok (showNat n) := by
  obtain ⟨ds, h, ht, _⟩ := showNat_spec n; rw [h]; exact ht

theorem showNat_head (n : Nat) : ∀ b, (showNat n).head? = some b → 48 ≤ b ∧ b ≤ 57 := by
  obtain ⟨ds, hds, _, _, hp⟩ := digitsAux_spec (n + 1) n [] (by omega)
  intro b hb
  have hs : showNat n = ds := by simp [showNat, hds]
  rw [hs] at hb
  cases ds with
  | nil => simp at hb
  | cons x xs =>
    simp at hb; subst hb
    have := hp 0
    simp only [parseDigits] at this
    split at this
    · assumption
    · simp at this

/-- `strconv.ParseInt(strconv.AppendInt(n), 10, bits) = n` for a natural number in range -/
theorem parseIntBits_showInt (bits n : Nat) (hn : (n : Int) < 2 ^ (bits - 1)) :
    parseIntBits bits (showInt (n : Int)) = some (n : Int) := by
  obtain ⟨ds, hds, ht, hp⟩ := showNat_spec n
  have hnn : ¬ ((n : Int) < 0) := by omega
  have hh := showNat_head n
  rw [hds] at hh
  simp only [showInt, hnn, if_false, Int.natAbs_natCast, hds, parseIntBits]
  cases ds with
  | nil => exact absurd rfl ht.1
  | cons b bs =>
    have hb := hh b rfl
    have h45 : b ≠ 45 := by intro h; subst h; revert hb; decide +kernel
    have h43 : b ≠ 43 := by intro h; subst h; revert hb; decide +kernel
    split
    · rename_i r heq; simp at heq; exact absurd heq.1 h45
    · rename_i r heq; simp at heq; exact absurd heq.1 h43
    · rename_i r
      have hlo : -(2 ^ (bits - 1) : Int) ≤ (n : Int) := by
        have : (0 : Int) < 2 ^ (bits - 1) := Int.pow_pos (by decide +kernel)
        omega
      simp only [List.isEmpty_cons, Bool.false_eq_true, if_false, hp, hlo, hn, and_self, if_true]

/-- the element counts the writer prints -/
theorem parseInt64_showInt (n : Nat) (hn : n < 2 ^ 63) : parseInt64 (showInt (n : Int)) = some (n : Int) :=
  parseIntBits_showInt 64 n (by have : (n : Int) < 2 ^ 63 := by exact_mod_cast hn
                                simpa using this)

theorem nm_comment : nm "comment" = [99, 111, 109, 109, 101, 110, 116] := by decide +kernel
theorem nm_comment_sp : nm "comment " = [99, 111, 109, 109, 101, 110, 116, 32] := by decide +kernel
theorem nm_element : nm "element" = [101, 108, 101, 109, 101, 110, 116] := by decide +kernel
theorem nm_element_sp : nm "element " = [101, 108, 101, 109, 101, 110, 116, 32] := by decide +kernel
theorem nm_property : nm "property" = [112, 114, 111, 112, 101, 114, 116, 121] := by decide +kernel
theorem nm_property_sp : nm "property " = [112, 114, 111, 112, 101, 114, 116, 121, 32] := by decide +kernel
theorem nm_property_list_sp : nm "property list " = [112, 114, 111, 112, 101, 114, 116, 121, 32, 108, 105, 115, 116, 32] := by decide +kernel
theorem nm_list : nm "list" = [108, 105, 115, 116] := by decide +kernel
theorem nm_end_header : nm "end_header" = [101, 110, 100, 95, 104, 101, 97, 100, 101, 114] := by decide +kernel

theorem tok_lit_comment : Tok [99, 111, 109, 109, 101, 110, 116] := by refine ⟨by simp, by decide +kernel⟩

section
open PlySpec

theorem joinWords_one (x : Bytes) : joinWords [x] = x := rfl

theorem joinWords_cons2 (x y : Bytes) (r : List Bytes) : joinWords (x :: y :: r) = x ++ 32 :: joinWords (y :: r) := by
  simp [joinWords, intercalate]

/-- `strings.Fields` of a keyword followed by anything -/
theorem fields_kw (k : Bytes) (hk : Tok k) (a : Bytes) (as : List Bytes) :
    fields (joinWords (k :: a :: as)) = k :: fieldsAux (joinWords (a :: as)) [] := by
  rw [joinWords_cons2, fields, fields_tok_sp k hk]

/-- `strings.Fields` undoes `joinWords` on tokens -/
theorem fieldsAux_join : ∀ (ws : List Bytes), (∀ w ∈ ws, Tok w) → fieldsAux (joinWords ws) [] = ws
  | [], _ => rfl
  | [x], h => by simpa [joinWords, intercalate] using fields_tok_end x (h x (by simp))
  | x :: y :: r, h => by
    rw [joinWords_cons2, fields_tok_sp x (h x (by simp)), fieldsAux_join (y :: r) (fun w hw => h w (by simp [hw]))]

theorem format_line (f : Format) : f.line = joinWords [nm "format", formatWord f, nm "1.0"] := by
  cases f <;> decide +kernel

end

theorem trimLeft_of_head (c : Bytes) (h : ∀ b, c.head? = some b → isSpace b = false) : trimLeft c = c := by
  cases c with
  | nil => rfl
  | cons b c => simp [trimLeft, h b rfl]

/-- comment text the writer can print and the parser gives back unchanged: no CR / LF, no leading / trailing blank -/
def CommentOK (c : Bytes) : Prop := (∀ b ∈ c, b ≠ 10 ∧ b ≠ 13) ∧ trimSpace c = c

section
variable (s : HState)

/-- comment line with any text: the parser stores the trimmed text -/
theorem step_comment_any (hs : s.phase = .body) (c : Bytes) :
    headerStep s (nm "comment " ++ c) = .ok (.inl { s with comments := trimSpace c :: s.comments }) := by
  have hf : fields (nm "comment " ++ c) = nm "comment" :: fieldsAux c [] := by
    rw [nm_comment_sp, nm_comment]
    have := fields_tok_sp _ tok_lit_comment c
    simpa [fields] using this
  have htrim : trimSpace (32 :: c) = trimSpace c := by
    simp [trimSpace, trimLeft, show isSpace 32 = true by decide]
  simp only [headerStep, hs, hf]
  rw [nm_comment_sp, nm_end_header, nm_comment]
  simp [isBlank, isSpace, indexOf, List.isPrefixOf, htrim]

theorem step_magic : headerStep .init (nm "ply") = .ok (.inl { HState.init with phase := .format }) := by
  simp [headerStep, HState.init]

theorem step_format (hs : s.phase = .format) (f : Format) :
    headerStep s f.line = .ok (.inl { s with phase := .body, format := f }) := by
  have htok : ∀ w ∈ [nm "format", PlySpec.formatWord f, nm "1.0"], Tok w := by
    intro w hw
    simp only [List.mem_cons, List.not_mem_nil, or_false] at hw
    rcases hw with rfl | rfl | rfl
    · exact ⟨by decide +kernel, by decide +kernel⟩
    · cases f <;> exact ⟨by decide +kernel, by decide +kernel⟩
    · exact ⟨by decide +kernel, by decide +kernel⟩
  have hf : fields f.line = [nm "format", PlySpec.formatWord f, nm "1.0"] := by
    rw [format_line, fields, fieldsAux_join _ htok]
  have hb : isBlank f.line = false := by
    rw [format_line, joinWords_cons2]; exact tok_not_blank _ (htok _ (by simp)) _
  have n1 : nm "binary_little_endian" ≠ nm "ascii" := by decide +kernel
  have n2 : nm "binary_big_endian" ≠ nm "ascii" := by decide +kernel
  have n3 : nm "binary_big_endian" ≠ nm "binary_little_endian" := by decide +kernel
  simp only [headerStep, hs, hb, hf, Bool.false_eq_true, if_false]
  cases f <;> simp [PlySpec.formatWord, n1, n2, n3]

theorem step_end (hs : s.phase = .body) : headerStep s (nm "end_header") = .ok (.inr s.header) := by
  have : isBlank (nm "end_header") = false := by decide +kernel
  simp [headerStep, hs, this]

end

/-- names the writer may print as element / property names -/
def NameOK (n : Bytes) : Prop := Tok n


/-- a type spelling the parser maps to `t` -/
def Spells (tn : Bytes) (t : SType) : Prop := parseSType tn = .ok t ∧ lower tn ≠ nm "list" ∧ Tok tn

open PlySpec in
theorem spells_typeName (t : SType) (al : Bool) : Spells (typeName t al) t := by
  cases t <;> cases al <;> exact ⟨by decide +kernel, by decide +kernel, ⟨by decide +kernel, by decide +kernel⟩⟩

open PlySpec in
theorem parseSType_name (t : SType) : Spells t.name t := by
  have : t.name = typeName t false := by cases t <;> rfl
  rw [this]; exact spells_typeName t false


section
variable (s : HState)

theorem headerLoop_step (bs line rest : Bytes) (h : readLine bs = some (line, rest)) :
    headerLoop s bs = (match headerStep s line with
      | .error e => .error e
      | .ok (.inr hdr) => .ok (hdr, rest)
      | .ok (.inl s') => headerLoop s' rest) := by
  rw [headerLoop]
  split
  · rename_i h'; rw [h] at h'; simp at h'
  · rename_i line' rest' h'
    rw [h] at h'
    simp at h'
    obtain ⟨rfl, rfl⟩ := h'
    rfl

theorem headerLoop_eof (bs : Bytes) (h : readLine bs = none) : headerLoop s bs = .error .err := by
  rw [headerLoop]
  split
  · rfl
  · rename_i h'; rw [h] at h'; simp at h'

end

def flatLines (ls : List Bytes) : Bytes := (ls.map (· ++ [10])).flatten

/-- the header lines before `end_header`, all accepted -/
def steps : HState → List Bytes → Option HState
  | s, [] => some s
  | s, l :: ls =>
    match headerStep s l with
    | .ok (.inl s') => steps s' ls
    | _ => none

def LineOK (l : Bytes) : Prop := ∀ b ∈ l, b ≠ 10 ∧ b ≠ 13

open PlySpec in
/-- lines ended by LF or CRLF -/
def flatLinesE (crlf : Bool) (ls : List Bytes) : Bytes := (ls.map (· ++ eol crlf)).flatten

theorem steps_cons {s s' : HState} {l : Bytes} {ls : List Bytes} (h : steps s (l :: ls) = some s') :
    ∃ s1, headerStep s l = .ok (.inl s1) ∧ steps s1 ls = some s' := by
  simp only [steps] at h
  split at h
  · next s1 hst => exact ⟨s1, hst, h⟩
  · cases h

theorem flatLinesE_false (ls : List Bytes) : flatLinesE false ls = flatLines ls := by
  simp [flatLinesE, flatLines, PlySpec.eol]

def PropOK : PProp → Prop
  | .scalar n _ => Tok n
  | .list n _ _ => Tok n ∧ lower n = n

structure ElemOK (e : Element) : Prop where
  name : Tok e.name
  lowered : lower e.name = e.name
  nonneg : 0 ≤ e.count
  small : e.count < 2 ^ 63
  props : ∀ p ∈ e.props, PropOK p

/-- headers `Header.Write` prints such that `ReadHeader` gives back exactly the same header: no obj_info (the parser
drops those lines), comments without CR / LF and without leading / trailing blanks, element and property names that are
non-empty and free of white space, element names and list-property names in lower case (the parser lowers them), counts
in `0 … 2⁶³−1` -/
structure HeaderOK (h : Header) : Prop where
  noObjInfo : h.objInfo = []
  comments : ∀ c ∈ h.comments, CommentOK c
  elements : ∀ e ∈ h.elements, ElemOK e


theorem flatLines_append (a b : List Bytes) : flatLines (a ++ b) = flatLines a ++ flatLines b := by
  simp [flatLines]

theorem flatLines_cons (l : Bytes) (ls : List Bytes) : flatLines (l :: ls) = l ++ 10 :: flatLines ls := by
  simp [flatLines]


theorem lineOK_append (a b : Bytes) (ha : LineOK a) (hb : LineOK b) : LineOK (a ++ b) := by
  intro x hx; simp at hx; rcases hx with h | h
  · exact ha x h
  · exact hb x h

theorem lineOK_lit (l : Bytes) (h : l.all (fun b => b != 10 && b != 13) = true) : LineOK l := by
  intro b hb
  simp only [List.all_eq_true, Bool.and_eq_true, bne_iff_ne] at h
  exact h b hb

theorem showInt_nat (n : Nat) : showInt (n : Int) = showNat n := by
  simp [showInt, show ¬ ((n : Int) < 0) by omega]


theorem readLine_none (q : Bytes) (h : ∀ b ∈ q, b ≠ 10) : readLine q = none := by
  induction q with
  | nil => rfl
  | cons b q ih =>
    have hb := h b (by simp)
    simp [readLine, hb, ih (fun x hx => h x (by simp [hx]))]

open PlySpec

variable {α : Type}

def _root_.PolyVerif.PlySpec.HItem.text : HItem → Bytes
  | .comment t => t
  | .objInfo t => t


/-- the comments `ReadHeader` collects: the comment texts, trimmed, in file order (obj_info lines are dropped) -/
def specComments (f : SpecFile α) : List Bytes :=
  (f.pre ++ f.mid ++ f.post).filterMap (fun i => match i with | .comment t => some (trimSpace t) | .objInfo _ => none)

def specProps (f : SpecFile α) : List (Bytes × SType) := f.vprops.map (fun p => (p.name, p.ty))

/-- the header `ReadHeader` returns for `specHeader f` -/
def specHdr (f : SpecFile α) : Header :=
  { format := f.format
    elements :=
      [⟨nm "vertex", f.verts.length, f.vprops.map (fun p => .scalar p.name p.ty)⟩] ++
      (match f.face with
       | none => []
       | some fe => [⟨nm "face", fe.faces.length, fe.lists.map (fun x => .list x.2.1 x.2.2.1 x.2.2.2.1)⟩])
    comments := specComments f }


theorem flatLinesE_append (crlf : Bool) (a b : List Bytes) :
    flatLinesE crlf (a ++ b) = flatLinesE crlf a ++ flatLinesE crlf b := by simp [flatLinesE]

theorem flatLinesE_cons (crlf : Bool) (l : Bytes) (ls : List Bytes) :
    flatLinesE crlf (l :: ls) = l ++ eol crlf ++ flatLinesE crlf ls := by simp [flatLinesE]

/-- guards of the header text layer for reference-encoded files: property names are tokens, comment / obj_info texts
hold no CR / LF, counts fit int64 -/
structure SpecHeaderOK (f : SpecFile α) : Prop where
  names : ∀ p ∈ f.vprops, Tok p.name
  items : ∀ i ∈ f.pre ++ f.mid ++ f.post, LineOK i.text
  nverts : f.verts.length < 2 ^ 63
  nfaces : ∀ fe, f.face = some fe → fe.faces.length < 2 ^ 63

def itemComments (its : List HItem) : List Bytes :=
  its.filterMap (fun i => match i with | .comment t => some (trimSpace t) | .objInfo _ => none)

theorem specComments_eq (f : SpecFile α) : specComments f = itemComments (f.pre ++ f.mid ++ f.post) := rfl


def faceListNames : List Bytes := [nm "vertex_index", nm "vertex_indices", nm "texcoord", nm "flags"]

theorem lists_names_mem (fe : SpecFaceElem α) : fe.lists.all (fun x => faceListNames.contains x.2.1) = true := by
  obtain ⟨short, ct, it, ia, tex, tf, ex, faces⟩ := fe
  cases short <;> cases tex <;> cases tf <;> cases ex <;> (try rename_i b; cases b) <;>
    simp [SpecFaceElem.lists, faceListNames] <;> decide

theorem lists_names_ok (fe : SpecFaceElem α) : ∀ x ∈ fe.lists, Tok x.2.1 ∧ lower x.2.1 = x.2.1 := by
  have hall : ∀ n ∈ faceListNames, Tok n ∧ lower n = n := by
    intro n hn
    simp only [faceListNames, List.mem_cons, List.not_mem_nil, or_false] at hn
    rcases hn with rfl | rfl | rfl | rfl <;> exact ⟨⟨by decide +kernel, by decide +kernel⟩, by decide +kernel⟩
  intro x hx
  have := List.all_eq_true.mp (lists_names_mem fe) x hx
  exact hall _ (by simpa using this)


/-! ### words joined by one blank -/

theorem lineOK_join : ∀ (ws : List Bytes), (∀ w ∈ ws, LineOK w) → LineOK (joinWords ws)
  | [], _ => by intro b hb; simp [joinWords, intercalate] at hb
  | [x], h => by simpa [joinWords, intercalate] using h x (by simp)
  | x :: y :: r, h => by
    rw [joinWords_cons2]
    exact lineOK_append _ _ (h x (by simp)) (lineOK_append [32] _ (lineOK_lit _ (by decide))
      (lineOK_join (y :: r) (fun w hw => h w (by simp [hw]))))

theorem lineOK_tok (t : Bytes) (ht : Tok t) : LineOK t := tok_no_nl t ht

/-! ### parsed header lines -/

/-- a line of the header body (between the format line and `end_header`) as the parser understands it.  `tn`, `cn` are the
type SPELLINGS printed (canonical or alias); the parser keeps only the type they denote. -/
inductive HL
  | comment (text : Bytes)
  | objInfo (text : Bytes)
  | element (name : Bytes) (count : Nat)
  | scalar (tn : Bytes) (t : SType) (n : Bytes)
  | list (cn tn : Bytes) (ct it : SType) (n : Bytes)

def HL.kw : HL → Bytes
  | .comment _ => nm "comment" | .objInfo _ => nm "obj_info" | .element _ _ => nm "element"
  | .scalar _ _ _ => nm "property" | .list _ _ _ _ _ => nm "property"

/-- what follows the keyword: free text for `comment` / `obj_info`, tokens otherwise -/
def HL.args : HL → List Bytes
  | .comment t => [t] | .objInfo t => [t]
  | .element name n => [name, showNat n]
  | .scalar tn _ n => [tn, n]
  | .list cn tn _ _ n => [nm "list", cn, tn, n]

def HL.text (l : HL) : Bytes := joinWords (l.kw :: l.args)

/-- the property a `property` line declares -/
def HL.prop : HL → Option PProp
  | .scalar _ t n => some (.scalar n t)
  | .list _ _ ct it n => some (.list n ct it)
  | _ => none

/-- the line is printed so that the parser reads back what it says -/
def HL.OK : HL → Prop
  | .comment t => LineOK t
  | .objInfo t => LineOK t
  | .element name n => Tok name ∧ lower name = name ∧ n < 2 ^ 63
  | .scalar tn t n => Spells tn t ∧ Tok n
  | .list cn tn ct it n => Spells cn ct ∧ Spells tn it ∧ Tok n ∧ lower n = n

def addProp (s : HState) (p : PProp) : Option HState :=
  match s.elements with
  | [] => none
  | e :: es => some { s with elements := { e with props := e.props ++ [p] } :: es }

/-- the parser's step on a parsed line; `none`: a property before any element (Go: index out of range) -/
def HL.act (s : HState) : HL → Option HState
  | .comment t => some { s with comments := trimSpace t :: s.comments }
  | .objInfo _ => some s
  | .element name n => some { s with elements := ⟨name, n, []⟩ :: s.elements }
  | .scalar _ t n => addProp s (.scalar n t)
  | .list _ _ ct it n => addProp s (.list n ct it)

theorem kw_tok (l : HL) : Tok l.kw := by
  cases l <;> simp only [HL.kw] <;> exact ⟨by decide +kernel, by decide +kernel⟩

theorem kw_ne_end (l : HL) : l.kw ≠ nm "end_header" := by cases l <;> simp only [HL.kw] <;> decide +kernel

theorem args_cons (l : HL) : ∃ a as, l.args = a :: as := by cases l <;> exact ⟨_, _, rfl⟩

/-- tokens after the keyword, for the lines that consist of tokens -/
theorem args_tok (l : HL) (hok : l.OK) (hp : ∀ t, l ≠ .comment t ∧ l ≠ .objInfo t) : ∀ w ∈ l.args, Tok w := by
  cases l with
  | comment t => exact absurd rfl (hp t).1
  | objInfo t => exact absurd rfl (hp t).2
  | element name n => intro w hw; simp only [HL.args, List.mem_cons, List.not_mem_nil, or_false] at hw
                      rcases hw with rfl | rfl; exact hok.1; exact showNat_tok n
  | scalar tn t n => intro w hw; simp only [HL.args, List.mem_cons, List.not_mem_nil, or_false] at hw
                     rcases hw with rfl | rfl; exact hok.1.2.2; exact hok.2
  | list cn tn ct it n =>
    intro w hw; simp only [HL.args, List.mem_cons, List.not_mem_nil, or_false] at hw
    rcases hw with rfl | rfl | rfl | rfl
    · exact ⟨by decide +kernel, by decide +kernel⟩
    · exact hok.1.2.2
    · exact hok.2.1.2.2
    · exact hok.2.2.1

theorem lineOK_HL (l : HL) (hok : l.OK) : LineOK l.text := by
  apply lineOK_join
  intro w hw
  rcases List.mem_cons.mp hw with rfl | hw
  · exact lineOK_tok _ (kw_tok l)
  · cases l with
    | comment t => simp only [HL.args, List.mem_singleton] at hw; subst hw; exact hok
    | objInfo t => simp only [HL.args, List.mem_singleton] at hw; subst hw; exact hok
    | element name n => exact lineOK_tok _ (args_tok _ hok (by simp) w hw)
    | scalar tn t n => exact lineOK_tok _ (args_tok _ hok (by simp) w hw)
    | list cn tn ct it n => exact lineOK_tok _ (args_tok _ hok (by simp) w hw)

/-- the first word of the line is its keyword; so the line is neither blank nor `end_header` -/
theorem fields_HL (l : HL) : fields l.text = l.kw :: fieldsAux (joinWords l.args) [] := by
  obtain ⟨a, as, h⟩ := args_cons l
  rw [HL.text, h, fields_kw _ (kw_tok l)]

theorem text_not_blank (l : HL) : isBlank l.text = false := by
  obtain ⟨a, as, h⟩ := args_cons l
  rw [HL.text, h, joinWords_cons2]; exact tok_not_blank _ (kw_tok l) _

theorem text_ne_end (l : HL) : l.text ≠ nm "end_header" := by
  intro h
  have := fields_HL l
  rw [h] at this
  have h2 : fields (nm "end_header") = [nm "end_header"] := by decide +kernel
  rw [h2] at this
  exact kw_ne_end l (List.cons.inj this).1.symm

/-- THE step lemma: in the body phase the parser's step on the text of a line is the abstract step on the line -/
theorem step_HL (s : HState) (hs : s.phase = .body) (l : HL) (hok : l.OK) :
    headerStep s l.text = (match l.act s with | some s' => .ok (.inl s') | none => .error .panic) := by
  have hb := text_not_blank l
  have he := text_ne_end l
  have hf := fields_HL l
  have h1 : nm "property" ≠ nm "comment" := by decide +kernel
  have h2 : nm "property" ≠ nm "element" := by decide +kernel
  cases l with
  | comment t =>
    have := step_comment_any s hs t
    simpa [HL.text, HL.kw, HL.args, HL.act, joinWords, intercalate, nm_comment_sp, nm_comment] using this
  | objInfo t =>
    have h1 : nm "obj_info" ≠ nm "comment" := by decide +kernel
    have h2 : nm "obj_info" ≠ nm "element" := by decide +kernel
    have h3 : nm "obj_info" ≠ nm "property" := by decide +kernel
    simp only [headerStep, hs, hb, he, hf, Bool.false_eq_true, if_false]
    simp [HL.kw, HL.act, h1, h2, h3]
  | element name n =>
    rw [fieldsAux_join _ (args_tok _ hok (by simp))] at hf
    have h1 : nm "element" ≠ nm "comment" := by decide +kernel
    have hp := parseInt64_showInt n hok.2.2
    rw [showInt_nat] at hp
    simp only [headerStep, hs, hb, he, hf, Bool.false_eq_true, if_false]
    simp [HL.kw, HL.args, HL.act, h1, hp, hok.2.1, hs]
  | scalar tn t n =>
    rw [fieldsAux_join _ (args_tok _ hok (by simp))] at hf
    obtain ⟨⟨hp, hlist, -⟩, -⟩ := hok
    simp only [headerStep, hs, hb, he, hf, Bool.false_eq_true, if_false]
    cases hel : s.elements <;>
      simp [HL.kw, HL.args, HL.act, addProp, h1, h2, parseProperty, hlist, hp, hel, hs, bind, Except.bind, pure, Except.pure]
  | list cn tn ct it n =>
    rw [fieldsAux_join _ (args_tok _ hok (by simp))] at hf
    have h3 : lower (nm "list") = nm "list" := by decide +kernel
    obtain ⟨⟨hp1, -, -⟩, ⟨hp2, -, -⟩, -, hl⟩ := hok
    simp only [headerStep, hs, hb, he, hf, Bool.false_eq_true, if_false]
    cases hel : s.elements <;>
      simp [HL.kw, HL.args, HL.act, addProp, h1, h2, h3, parseProperty, hp1, hp2, hl, hel, hs, bind, Except.bind, pure, Except.pure]

/-! ### the parser on parsed lines -/

def run : HState → List HL → Option HState
  | s, [] => some s
  | s, l :: ls => (l.act s).bind (fun s' => run s' ls)

theorem act_phase (s s' : HState) (l : HL) (h : l.act s = some s') : s'.phase = s.phase := by
  cases l <;> simp only [HL.act, addProp, Option.some.injEq] at h
  case scalar | list => split at h <;> simp only [Option.some.injEq, reduceCtorEq] at h <;> subst h <;> rfl
  all_goals subst h; rfl

/-- on the text of well-printed lines the header loop's steps ARE the abstract parser -/
theorem steps_HL : ∀ (ls : List HL) (s : HState), s.phase = .body → (∀ l ∈ ls, l.OK) →
    steps s (ls.map HL.text) = run s ls
  | [], _, _, _ => rfl
  | l :: ls, s, hs, hok => by
    simp only [List.map_cons, steps, run, step_HL s hs l (hok l (by simp))]
    cases h : l.act s with
    | none => rfl
    | some s' => exact steps_HL ls s' ((act_phase s s' l h).trans hs) (fun l' hl' => hok l' (by simp [hl']))

theorem run_append : ∀ (a b : List HL) (s : HState), run s (a ++ b) = (run s a).bind (fun s' => run s' b)
  | [], _, _ => rfl
  | l :: a, b, s => by
    simp only [List.cons_append, run]
    cases l.act s with
    | none => rfl
    | some s' => exact run_append a b s'

def ofItem : HItem → HL
  | .comment t => .comment t
  | .objInfo t => .objInfo t

/-- comment / obj_info lines: the comments are collected, trimmed -/
theorem run_items : ∀ (its : List HItem) (s : HState),
    run s (its.map ofItem) = some { s with comments := (itemComments its).reverse ++ s.comments }
  | [], _ => rfl
  | .comment t :: its, s => by
    simp only [List.map_cons, ofItem, run, HL.act, Option.bind_some, run_items its]; simp [itemComments]
  | .objInfo t :: its, s => by
    simp only [List.map_cons, ofItem, run, HL.act, Option.bind_some, run_items its]; simp [itemComments]

theorem act_prop (s : HState) (l : HL) (p : PProp) (h : l.prop = some p) : l.act s = addProp s p := by
  cases l <;> simp only [HL.prop, Option.some.injEq, reduceCtorEq] at h <;> subst h <;> rfl

/-- lines that each declare one property: the open element receives them in order -/
theorem run_props {β : Type} (g : β → HL) (p : β → PProp) (hg : ∀ x, (g x).prop = some (p x)) :
    ∀ (xs : List β) (s : HState) (e : Element) (es : List Element), s.elements = e :: es →
      run s (xs.map g) = some { s with elements := { e with props := e.props ++ xs.map p } :: es }
  | [], s, e, es, he => by simp [run, ← he]
  | x :: xs, s, e, es, he => by
    simp only [List.map_cons, run, act_prop s _ _ (hg x), addProp, he, Option.bind_some]
    rw [run_props g p hg xs _ { e with props := e.props ++ [p x] } es rfl]
    simp

/-- an `element` line and its `property` lines -/
theorem run_element {β : Type} (g : β → HL) (p : β → PProp) (hg : ∀ x, (g x).prop = some (p x))
    (name : Bytes) (n : Nat) (xs : List β) (s : HState) :
    run s (.element name n :: xs.map g) = some { s with elements := ⟨name, n, xs.map p⟩ :: s.elements } := by
  simp only [run, HL.act, Option.bind_some]
  rw [run_props g p hg xs _ ⟨name, n, []⟩ s.elements rfl]
  simp

/-! ### a whole header -/

def headLines (f : Format) (ls : List HL) : List Bytes := [nm "ply", f.line] ++ ls.map HL.text

theorem steps_headLines (f : Format) (ls : List HL) (hok : ∀ l ∈ ls, l.OK) :
    steps .init (headLines f ls) = run ⟨.body, f, [], []⟩ ls := by
  simp only [headLines, List.cons_append, List.nil_append, steps, step_magic,
    step_format _ (rfl : ({ HState.init with phase := HPhase.format } : HState).phase = .format) f]
  exact steps_HL ls _ rfl hok

theorem headLines_ok (f : Format) (ls : List HL) (hok : ∀ l ∈ ls, l.OK) : ∀ l ∈ headLines f ls, LineOK l := by
  intro l hl
  simp only [headLines, List.mem_append, List.mem_cons, List.not_mem_nil, or_false, List.mem_map] at hl
  rcases hl with (rfl | rfl) | ⟨x, hx, rfl⟩
  · exact lineOK_lit _ (by decide +kernel)
  · cases f <;> exact lineOK_lit _ (by decide +kernel)
  · exact lineOK_HL x (hok x hx)

open Readers (Exact) in
/-- a line and its line end, LF or CRLF -/
theorem readLine_exact (crlf : Bool) (l : Bytes) (hl : LineOK l) :
    Exact .anywhere readLine (l ++ eol crlf) (fun rest => some (l, rest)) none := by
  refine .of_take (fun rest => ?_) (fun t ht => readLine_none _ fun b hb h10 => ?_)
  · cases crlf
    · simpa [eol] using readLine_lf l rest hl
    · simpa [eol] using readLine_crlf l rest hl
  · -- the line feed is the last byte, and a cut loses it
    subst h10
    have e : l ++ eol crlf = (l ++ if crlf then [13] else []) ++ [10] := by cases crlf <;> simp [eol]
    rw [e] at ht hb
    rw [List.length_append, List.length_singleton] at ht
    rw [List.take_append_of_le_length (Nat.le_of_lt_succ ht)] at hb
    rcases List.mem_append.mp (List.mem_of_mem_take hb) with h | h
    · exact (hl 10 h).1 rfl
    · cases crlf <;> simp at h

open Readers (Exact) in
/-- the line loop of `ReadHeader` reads accepted lines and `end_header` exactly: the header and the rest after them,
an error on every strict prefix -/
theorem headerLoop_exact (crlf : Bool) : ∀ (ls : List Bytes) (s s' : HState), (∀ l ∈ ls, LineOK l) →
    steps s ls = some s' → s'.phase = .body →
    Exact .anywhere (headerLoop s) (flatLinesE crlf (ls ++ [nm "end_header"])) (fun rest => .ok (s'.header, rest))
      (.error .err) := by
  intro ls
  induction ls with
  | nil =>
    intro s s' _ h hph
    obtain rfl : s = s' := by simpa [steps] using h
    have hE := readLine_exact crlf (nm "end_header") (lineOK_lit _ (by decide +kernel))
    rw [show flatLinesE crlf ([] ++ [nm "end_header"]) = nm "end_header" ++ eol crlf by simp [flatLinesE]]
    exact ⟨fun rest => by rw [headerLoop_step s _ _ _ (hE.full rest), step_end s hph],
      fun d hd => headerLoop_eof s d (hE.cut d hd)⟩
  | cons l ls ih =>
    intro s s' hok h hph
    obtain ⟨s1, hst, h1⟩ := steps_cons h
    have hL := readLine_exact crlf l (hok l List.mem_cons_self)
    have hq := ih s1 s' (fun x hx => hok x (List.mem_cons_of_mem _ hx)) h1 hph
    rw [List.cons_append, flatLinesE_cons]
    exact .append (fun rest => by rw [headerLoop_step s _ _ _ (hL.full _), hst]; exact hq.full rest)
      (fun d hd => headerLoop_eof s d (hL.cut d hd))
      (fun d hd => by rw [headerLoop_step s _ _ _ (hL.full _), hst]; exact hq.cut d hd)

theorem run_phase : ∀ (ls : List HL) (s0 s : HState), run s0 ls = some s → s.phase = s0.phase := by
  intro ls
  induction ls with
  | nil => intro s0 s h; simp only [run, Option.some.injEq] at h; rw [h]
  | cons l ls ih =>
    intro s0 s h
    simp only [run] at h
    cases ha : l.act s0 with
    | none => simp [ha] at h
    | some s1 => rw [ha] at h; exact (ih s1 s h).trans (act_phase s0 s1 l ha)

open Readers (Exact) in
/-- `ReadHeader` on `ply`, the format line, well-printed lines and `end_header` (LF or CRLF) -/
theorem parse_exact (crlf : Bool) (f : Format) (ls : List HL) (hok : ∀ l ∈ ls, l.OK) (s : HState)
    (hr : run ⟨.body, f, [], []⟩ ls = some s) :
    Exact .anywhere parseHeader (flatLinesE crlf (headLines f ls ++ [nm "end_header"]))
      (fun body => .ok (s.header, body)) (.error .err) :=
  headerLoop_exact crlf _ .init s (headLines_ok f ls hok) ((steps_headLines f ls hok).trans hr)
    (run_phase ls _ s hr)

/-- followed by anything: the header the abstract parser builds from the lines, and exactly the rest -/
theorem parse_lines (crlf : Bool) (f : Format) (ls : List HL) (hok : ∀ l ∈ ls, l.OK) (s : HState)
    (hr : run ⟨.body, f, [], []⟩ ls = some s) (body : Bytes) :
    parseHeader (flatLinesE crlf (headLines f ls ++ [nm "end_header"]) ++ body) = .ok (s.header, body) :=
  (parse_exact crlf f ls hok s hr).full body

/-- every strict prefix of such a header is rejected with an error -/
theorem cut_lines (f : Format) (ls : List HL) (hok : ∀ l ∈ ls, l.OK) (s : HState)
    (hr : run ⟨.body, f, [], []⟩ ls = some s) (p t : Bytes)
    (hpt : p ++ t = flatLines (headLines f ls ++ [nm "end_header"])) (ht : t ≠ []) : parseHeader p = .error .err :=
  (parse_exact false f ls hok s hr).cut_of_append (by rw [flatLinesE_false]; exact hpt) ht

/-! ### the reference encoder's header (C08) -/

def vpropHL (p : SpecProp) : HL := .scalar (typeName p.ty p.alias) p.ty p.name

def listHL (x : Nat × Bytes × SType × SType × Bool) : HL :=
  .list (typeName x.2.2.1 false) (typeName x.2.2.2.1 x.2.2.2.2) x.2.2.1 x.2.2.2.1 x.2.1

def faceHL (f : SpecFile α) : List HL :=
  match f.face with
  | none => []
  | some fe => .element (nm "face") fe.faces.length :: fe.lists.map listHL

def sl (f : SpecFile α) : List HL :=
  f.pre.map ofItem ++ (.element (nm "vertex") f.verts.length :: f.vprops.map vpropHL) ++ f.mid.map ofItem ++
    faceHL f ++ f.post.map ofItem

theorem text_item (i : HItem) : (ofItem i).text = joinWords i.words := by cases i <;> rfl
theorem text_element (name : Bytes) (n : Nat) : (HL.element name n).text = joinWords [nm "element", name, showNat n] := rfl
theorem text_vprop (p : SpecProp) : (vpropHL p).text = joinWords [nm "property", typeName p.ty p.alias, p.name] := rfl
theorem text_list (x : Nat × Bytes × SType × SType × Bool) :
    (listHL x).text = joinWords [nm "property", nm "list", typeName x.2.2.1 false, typeName x.2.2.2.1 x.2.2.2.2, x.2.1] := rfl

theorem flat_hline {β : Type} (crlf : Bool) (g : β → HL) (w : β → List Bytes) (hw : ∀ x, (g x).text = joinWords (w x))
    (xs : List β) : (xs.map (fun x => hline crlf (w x))).flatten = flatLinesE crlf ((xs.map g).map HL.text) := by
  simp [flatLinesE, hline, List.map_map, Function.comp_def, hw]

/-- `specHeader` prints exactly these lines (it is written with `hline` / `joinWords` already) -/
theorem specHeader_eq (f : SpecFile α) :
    specHeader f = flatLinesE f.crlf (headLines f.format (sl f) ++ [nm "end_header"]) := by
  have hfmt := format_line f.format
  have h1 : ∀ ws, hline f.crlf ws = joinWords ws ++ eol f.crlf := fun _ => rfl
  have hl : (fun (x : Nat × Bytes × SType × SType × Bool) => match x with
      | (_, n, ct, it, al) => hline f.crlf [nm "property", nm "list", typeName ct false, typeName it al, n])
      = fun x => hline f.crlf [nm "property", nm "list", typeName x.2.2.1 false, typeName x.2.2.2.1 x.2.2.2.2, x.2.1] := rfl
  cases hf : f.face <;>
  · simp only [specHeader, hf, hl, flat_hline f.crlf ofItem _ text_item, flat_hline f.crlf vpropHL _ text_vprop,
      flat_hline f.crlf listHL _ text_list]
    simp only [h1, headLines, sl, faceHL, hf, List.map_append, List.map_cons, flatLinesE_append,
      flatLinesE_cons, hfmt, text_element, joinWords_one, List.append_assoc, List.cons_append, List.nil_append,
      List.append_nil, show flatLinesE f.crlf [] = [] from rfl]

theorem sl_ok (f : SpecFile α) (hok : SpecHeaderOK f) : ∀ l ∈ sl f, l.OK := by
  have hitem : ∀ i ∈ f.pre ++ f.mid ++ f.post, (ofItem i).OK := by
    intro i hi; have := hok.items i hi; cases i <;> exact this
  have hvert : Tok (nm "vertex") ∧ lower (nm "vertex") = nm "vertex" := ⟨⟨by decide +kernel, by decide +kernel⟩, by decide +kernel⟩
  have hface : Tok (nm "face") ∧ lower (nm "face") = nm "face" := ⟨⟨by decide +kernel, by decide +kernel⟩, by decide +kernel⟩
  intro l hl
  simp only [sl, List.mem_append, List.mem_cons, List.mem_map] at hl
  rcases hl with (((⟨i, hi, rfl⟩ | rfl | ⟨p, hp, rfl⟩) | ⟨i, hi, rfl⟩) | hl) | ⟨i, hi, rfl⟩
  · exact hitem i (by simp [hi])
  · exact ⟨hvert.1, hvert.2, hok.nverts⟩
  · exact ⟨spells_typeName _ _, hok.names p hp⟩
  · exact hitem i (by simp [hi])
  · cases hf : f.face with
    | none => simp [faceHL, hf] at hl
    | some fe =>
      simp only [faceHL, hf, List.mem_cons, List.mem_map] at hl
      rcases hl with rfl | ⟨x, hx, rfl⟩
      · exact ⟨hface.1, hface.2, hok.nfaces fe hf⟩
      · exact ⟨spells_typeName _ _, spells_typeName _ _, lists_names_ok fe x hx⟩
  · exact hitem i (by simp [hi])

theorem run_sl (f : SpecFile α) : (run ⟨.body, f.format, [], []⟩ (sl f)).map HState.header = some (specHdr f) := by
  have hface : ∀ s : HState, run s (faceHL f) = some { s with elements := (match f.face with
      | none => []
      | some fe => [⟨nm "face", fe.faces.length, fe.lists.map (fun x => .list x.2.1 x.2.2.1 x.2.2.2.1)⟩]) ++ s.elements } := by
    intro s
    cases hf : f.face with
    | none => simp [faceHL, hf, run]
    | some fe =>
      simp only [faceHL, hf]
      rw [run_element listHL (fun x => .list x.2.1 x.2.2.1 x.2.2.2.1) (fun _ => rfl)]
      simp
  simp only [sl, run_append, run_items, Option.bind_some, hface, Option.map_some,
    run_element vpropHL (fun p => .scalar p.name p.ty) (fun _ => rfl), HState.header, specHdr, specComments_eq]
  cases f.face <;> simp [itemComments, List.filterMap_append, List.reverse_append]

/-- `ReadHeader` on the reference encoder's header text (alias spellings, comment / obj_info lines anywhere, LF or CRLF),
followed by anything: the header `specHdr f`, and exactly the rest -/
theorem parse_specHeader (f : SpecFile α) (hok : SpecHeaderOK f) (body : Bytes) :
    parseHeader (specHeader f ++ body) = .ok (specHdr f, body) := by
  obtain ⟨s, hr, hs⟩ := Option.map_eq_some_iff.mp (run_sl f)
  rw [specHeader_eq, parse_lines f.crlf f.format (sl f) (sl_ok f hok) s hr body, hs]

/-! ### the writer's header (C04) -/

def propHL : PProp → HL
  | .scalar n t => .scalar t.name t n
  | .list n c t => .list c.name t.name c t n

def elemHL (e : Element) : List HL := .element e.name e.count.toNat :: e.props.map propHL

def hl (h : Header) : List HL := h.comments.map .comment ++ (h.elements.map elemHL).flatten

theorem text_prop (p : PProp) : p.render = (propHL p).text ++ [10] := by
  cases p <;> simp [PProp.render, propHL, HL.text, HL.kw, HL.args, joinWords, intercalate, nl, sp, nm_property,
    nm_property_sp, nm_property_list_sp, nm_list]

theorem elem_render (e : Element) (h0 : 0 ≤ e.count) : e.render = flatLines ((elemHL e).map HL.text) := by
  have hc : showInt e.count = showNat e.count.toNat := by
    rw [← showInt_nat]; congr 1; omega
  have : (e.props.map PProp.render).flatten = flatLines ((e.props.map propHL).map HL.text) := by
    rw [funext text_prop]; simp [flatLines, List.map_map, Function.comp_def]
  simp only [Element.render, elemHL, List.map_cons, flatLines_cons, this, hc, text_element]
  simp [joinWords, intercalate, nl, sp, nm_element, nm_element_sp]

theorem render_eq (h : Header) (ho : h.objInfo = []) (h0 : ∀ e ∈ h.elements, 0 ≤ e.count) :
    h.render = flatLines (headLines h.format (hl h) ++ [nm "end_header"]) := by
  have hc : (h.comments.map (fun c => nm "comment " ++ c ++ nl)).flatten
      = flatLines ((h.comments.map HL.comment).map HL.text) := by
    simp [flatLines, nl, List.map_map, Function.comp_def, HL.text, HL.kw, HL.args, joinWords, intercalate, nm_comment,
      nm_comment_sp]
  have he : ∀ es : List Element, (∀ e ∈ es, 0 ≤ e.count) →
      (es.map Element.render).flatten = flatLines (((es.map elemHL).flatten).map HL.text) := by
    intro es
    induction es with
    | nil => intro _; rfl
    | cons e es ih =>
      intro h0
      simp only [List.map_cons, List.flatten_cons, List.map_append, flatLines_append,
        elem_render e (h0 e (by simp)), ih (fun e' he' => h0 e' (by simp [he']))]
  simp only [Header.render, ho, List.map_nil, List.flatten_nil, List.append_nil, hc, he _ h0, headLines, hl, List.map_append,
    flatLines_append, flatLines_cons]
  simp [flatLines, nl, List.append_assoc]

theorem hl_ok (h : Header) (hok : HeaderOK h) : ∀ l ∈ hl h, l.OK := by
  intro l hl'
  simp only [hl, List.mem_append, List.mem_map, List.mem_flatten] at hl'
  rcases hl' with ⟨c, hc, rfl⟩ | ⟨ls, ⟨e, he, rfl⟩, hl'⟩
  · exact (hok.comments c hc).1
  · have heo := hok.elements e he
    simp only [elemHL, List.mem_cons, List.mem_map] at hl'
    rcases hl' with rfl | ⟨p, hp, rfl⟩
    · exact ⟨heo.name, heo.lowered, by have := heo.small; have := heo.nonneg; omega⟩
    · have hpo := heo.props p hp
      cases p with
      | scalar n t => exact ⟨parseSType_name t, hpo⟩
      | list n ct it => exact ⟨parseSType_name ct, parseSType_name it, hpo⟩

theorem run_hl (h : Header) (hok : HeaderOK h) :
    run ⟨.body, h.format, [], []⟩ (hl h) = some ⟨.body, h.format, h.elements.reverse, h.comments.reverse⟩ := by
  have hcs : h.comments.map HL.comment = (h.comments.map HItem.comment).map ofItem := by simp [ofItem, Function.comp_def]
  have hic : itemComments (h.comments.map HItem.comment) = h.comments := by
    have : ∀ (cs : List Bytes), (∀ c ∈ cs, CommentOK c) → itemComments (cs.map HItem.comment) = cs := by
      intro cs
      induction cs with
      | nil => intro _; rfl
      | cons c cs ih =>
        intro h
        simp only [List.map_cons, itemComments, List.filterMap_cons, (h c (by simp)).2] at ih ⊢
        rw [ih (fun c' hc' => h c' (by simp [hc']))]
    exact this _ hok.comments
  have hels : ∀ (es : List Element) (s : HState), (∀ e ∈ es, 0 ≤ e.count) →
      run s ((es.map elemHL).flatten) = some { s with elements := es.reverse ++ s.elements } := by
    intro es
    induction es with
    | nil => intro s _; rfl
    | cons e es ih =>
      intro s h0
      have hp : ∀ p : PProp, (propHL p).prop = some p := by intro p; cases p <;> rfl
      have hc : ((e.count.toNat : Nat) : Int) = e.count := by have := h0 e (by simp); omega
      simp only [List.map_cons, List.flatten_cons, run_append, elemHL, run_element propHL id hp, Option.bind_some,
        ih _ (fun e' he' => h0 e' (by simp [he'])), List.map_id, hc]
      simp
  rw [hl, run_append, hcs, run_items, Option.bind_some, hels _ _ (fun e he => (hok.elements e he).nonneg), hic]
  simp

open Readers (Exact) in
/-- the writer's header is read exactly: followed by anything it comes back unchanged with the rest, and every strict
prefix of it is rejected -/
theorem render_exact (h : Header) (hok : HeaderOK h) :
    Exact .anywhere parseHeader h.render (fun body => .ok (h, body)) (.error .err) := by
  have := parse_exact false h.format (hl h) (hl_ok h hok) _ (run_hl h hok)
  rw [flatLinesE_false, ← render_eq h hok.noObjInfo (fun e he => (hok.elements e he).nonneg)] at this
  cases h
  have := hok.noObjInfo
  simp_all [HState.header]

theorem parse_render (h : Header) (hok : HeaderOK h) (body : Bytes) :
    parseHeader (h.render ++ body) = .ok (h, body) :=
  (render_exact h hok).full body

theorem parse_cut (h : Header) (hok : HeaderOK h) (p t : Bytes) (hpt : p ++ t = h.render) (ht : t ≠ []) :
    parseHeader p = .error .err :=
  (render_exact h hok).cut_of_append hpt ht


end PlyHeader
end PolyVerif
