/-
  C10 — lemmas for the block-job model (Model/ParCanvas.lean): the cells touched by all jobs of one AddField call are
  pairwise distinct.  Core Lean only.
-/
import PolyVerif.Lemmas.Par

namespace PolyVerif.Par

theorem mem_intRange {lo hi x : Int} : x ∈ intRange lo hi ↔ lo ≤ x ∧ x < hi := by
  unfold intRange
  simp only [List.mem_map, List.mem_range]
  constructor
  · rintro ⟨k, hk, rfl⟩; omega
  · intro h; exact ⟨(x - lo).toNat, by omega, by omega⟩

theorem nodup_map_of_inj {A B : Type} {l : List A} {f : A → B} (hl : l.Nodup)
    (hinj : ∀ a ∈ l, ∀ a' ∈ l, f a = f a' → a = a') : (l.map f).Nodup := by
  unfold List.Nodup at *
  rw [List.pairwise_map]
  exact hl.imp_of_mem (fun ha hb hne h => hne (hinj _ ha _ hb h))

theorem nodup_intRange (lo hi : Int) : (intRange lo hi).Nodup := by
  unfold intRange
  exact nodup_map_of_inj List.nodup_range (fun a _ a' _ h => by omega)

theorem nodup_flatMap_of {A B : Type} {l : List A} {f : A → List B} (hl : l.Nodup) (hf : ∀ a ∈ l, (f a).Nodup)
    (hd : ∀ a ∈ l, ∀ a' ∈ l, a ≠ a' → ∀ x ∈ f a, ∀ y ∈ f a', x ≠ y) : (l.flatMap f).Nodup := by
  unfold List.Nodup at *
  rw [List.pairwise_flatMap]
  exact ⟨hf, hl.imp_of_mem (fun ha hb hne => hd _ ha _ hb hne)⟩

/-- a triple loop `for a in la, for b in lb, for c in lc: f a b c` over duplicate-free lists enumerates without repetition when
    `f` is injective on them -/
theorem nodup_product3 {A B C D : Type} {la : List A} {lb : List B} {lc : List C} (f : A → B → C → D)
    (ha : la.Nodup) (hb : lb.Nodup) (hc : lc.Nodup)
    (hinj : ∀ a ∈ la, ∀ b ∈ lb, ∀ c ∈ lc, ∀ a' ∈ la, ∀ b' ∈ lb, ∀ c' ∈ lc,
      f a b c = f a' b' c' → a = a' ∧ b = b' ∧ c = c') :
    (la.flatMap fun a => lb.flatMap fun b => lc.map fun c => f a b c).Nodup := by
  refine nodup_flatMap_of ha (fun a ha' => nodup_flatMap_of hb (fun b hb' => nodup_map_of_inj hc fun c hc' c' hc'' e =>
    (hinj a ha' b hb' c hc' a ha' b hb' c' hc'' e).2.2) fun b hb' b' hb'' hne p hp q hq e => ?_)
    fun a ha' a' ha'' hne p hp q hq e => ?_
  · obtain ⟨c, hc', rfl⟩ := List.mem_map.1 hp
    obtain ⟨c', hc'', rfl⟩ := List.mem_map.1 hq
    exact hne (hinj a ha' b hb' c hc' a ha' b' hb'' c' hc'' e).2.1
  · simp only [List.mem_flatMap, List.mem_map] at hp hq
    obtain ⟨b, hb', c, hc', rfl⟩ := hp
    obtain ⟨b', hb'', c', hc'', rfl⟩ := hq
    exact hne (hinj a ha' b hb' c hc' a' ha'' b' hb'' c' hc'' e).1

/-- what the disjointness proof needs from one axis -/
structure AxisOK (A : AxisFns) : Prop where
  chunks_nodup : ∀ lo hi, (A.chunks lo hi).Nodup
  loc_bound : ∀ c lo hi x, x ∈ A.range c lo hi → 0 ≤ A.loc x c ∧ A.loc x c < 100
  loc_inj : ∀ c x x', A.loc x c = A.loc x' c → x = x'

structure FieldOK (F : FieldFns) : Prop where
  X : AxisOK F.X
  Y : AxisOK F.Y
  Z : AxisOK F.Z
  index_inj : ∀ x y z x' y' z', 0 ≤ x ∧ x < 100 → 0 ≤ y ∧ y < 100 → 0 ≤ z ∧ z < 100 →
    0 ≤ x' ∧ x' < 100 → 0 ≤ y' ∧ y' < 100 → 0 ≤ z' ∧ z' < 100 →
    F.index x y z = F.index x' y' z' → x = x' ∧ y = y' ∧ z = z'

/-- an axis as the canvas code has it: the clamps form an `AxisPartition`, the worker loops over `[start, stop)`, the cell
    coordinate inside block `c` is `x - 100·c`, and the blocks enumerated are `chunkOf lo, chunkOf lo + 1, …, chunkOf hi` -/
theorem axisOK_std {chunkOf : Int → Int} {start stop : Int → Int → Int → Int} (hp : AxisPartition chunkOf start stop) :
    AxisOK ⟨start, stop, fun s _ => s, fun _ e => e, fun x c => x - c * 100,
      fun lo hi => (intRange 0 (chunkOf hi - chunkOf lo + 1)).map (chunkOf lo + ·)⟩ := by
  refine ⟨fun lo hi => nodup_map_of_inj (nodup_intRange _ _) (fun a _ a' _ e => by omega), fun c lo hi x hx => ?_,
    fun c x x' e => ?_⟩
  · simp only [AxisFns.range, mem_intRange] at hx
    exact hp.inBlock lo hi c x hx.1 hx.2
  · simp only at e; omega

theorem blocks_nodup {F : FieldFns} (h : FieldOK F) (d : Dom) : (F.blocks d).Nodup :=
  nodup_product3 (fun cx cy cz => (cx, cy, cz)) (h.X.chunks_nodup _ _) (h.Y.chunks_nodup _ _) (h.Z.chunks_nodup _ _)
    fun _ _ _ _ _ _ _ _ _ _ _ _ e => by simpa using e

theorem jobCells_fst (F : FieldFns) (d : Dom) (b : Block) : ∀ e ∈ F.jobCells d b, e.1.1 = b := by
  intro e he
  unfold FieldFns.jobCells at he
  simp only [List.mem_flatMap, List.mem_map] at he
  obtain ⟨_, _, _, _, _, _, rfl⟩ := he
  rfl

theorem jobCells_keys {F : FieldFns} (h : FieldOK F) (d : Dom) (b : Block) :
    ((F.jobCells d b).map (fun e => e.1)).Nodup := by
  unfold FieldFns.jobCells
  simp only [List.map_flatMap, List.map_map, Function.comp_def]
  refine nodup_product3 (fun z y x => ((b, F.index (F.X.loc x b.1) (F.Y.loc y b.2.1) (F.Z.loc z b.2.2)) : Cell))
    (nodup_intRange _ _) (nodup_intRange _ _) (nodup_intRange _ _) fun z hz y hy x hx z' hz' y' hy' x' hx' e => ?_
  have := h.index_inj _ _ _ _ _ _ (h.X.loc_bound _ _ _ _ hx) (h.Y.loc_bound _ _ _ _ hy) (h.Z.loc_bound _ _ _ _ hz)
    (h.X.loc_bound _ _ _ _ hx') (h.Y.loc_bound _ _ _ _ hy') (h.Z.loc_bound _ _ _ _ hz') (Prod.mk.inj e).2
  exact ⟨h.Z.loc_inj _ _ _ this.2.2, h.Y.loc_inj _ _ _ this.2.1, h.X.loc_inj _ _ _ this.1⟩

/-- all cells touched by one AddField call (all jobs) are pairwise different -/
theorem all_keys_nodup {α : Type} {F : FieldFns} (h : FieldOK F) (d : Dom) (g : Int → Int → Int → α → α) :
    ((((F.blocks d).map (F.jobLog d g)).flatten).map Prod.fst).Nodup := by
  rw [← List.flatMap_def, List.map_flatMap]
  apply nodup_flatMap_of (blocks_nodup h d)
  · intro b _
    unfold FieldFns.jobLog
    rw [List.map_map]
    exact jobCells_keys h d b
  · intro b _ b' _ hne k hk k' hk' e
    unfold FieldFns.jobLog at hk hk'
    simp only [List.mem_map] at hk hk'
    obtain ⟨_, ⟨c, hc, rfl⟩, rfl⟩ := hk
    obtain ⟨_, ⟨c', hc', rfl⟩, rfl⟩ := hk'
    have h1 := jobCells_fst F d b c hc
    have h2 := jobCells_fst F d b' c' hc'
    simp only at e
    exact hne (h1.symm.trans ((congrArg Prod.fst e).trans h2))

end PolyVerif.Par
