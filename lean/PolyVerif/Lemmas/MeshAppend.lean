/-
  C03 lemmas: `Append` concatenates corners, zero-filling attributes missing on one side; a fold of `Append`
  (`repeat.Mesh`) concatenates the corner lists of the appended meshes.
-/
import PolyVerif.Lemmas.MeshWF

namespace PolyVerif.Mesh
variable {α : Type}

namespace MeshVal

theorem mem_keys_iff {m : MeshVal α} {k : AttrKey} : k ∈ m.keys ↔ (m.attr? k).isSome := by
  constructor
  · intro hk
    obtain ⟨kd, hkd, rfl⟩ := List.mem_map.mp hk
    exact Attrs.find?_isSome_of_mem hkd
  · intro hs
    obtain ⟨d, hd⟩ := Option.isSome_iff_exists.mp hs
    exact List.mem_map.mpr ⟨_, Attrs.find?_mem hd, rfl⟩

variable {zero : Nat → α} {a b m : MeshVal α}

theorem append_attr? (h : append zero a b = some m) (k : AttrKey) :
    m.attr? k =
      match a.attr? k, b.attr? k with
      | some da, some db => some (da ++ db)
      | some da, none => some (da ++ List.replicate b.attrLen (zero k.width))
      | none, some db => some (List.replicate a.attrLen (zero k.width) ++ db)
      | none, none => none := by
  obtain ⟨_, rfl⟩ := append_eq h
  simp only [attr?, appendAttrs]
  rw [Attrs.find?_append, Attrs.find?_mapVals, Attrs.find?_mapVals, Attrs.find?_filter_absent]
  dsimp only
  cases a.attrs.find? k <;> cases b.attrs.find? k <;> rfl

theorem append_keys (h : append zero a b = some m) :
    ∀ k ∈ m.keys, k ∈ a.keys ∨ k ∈ b.keys := by
  intro k hk
  rw [mem_keys_iff, append_attr? h k] at hk
  rw [mem_keys_iff, mem_keys_iff]
  cases ha : a.attr? k <;> cases hb : b.attr? k <;> simp_all

/-- Append, for every key: the corner list (zeros where the attribute is absent) of the result is the
    concatenation of the two corner lists -/
theorem append_cornersOrZero (ha : WF a) (hb : WF b)
    (h : append zero a b = some m) (k : AttrKey) :
    cornersOrZero zero m k = cornersOrZero zero a k ++ cornersOrZero zero b k := by
  have hattr := append_attr? h k
  obtain ⟨_, rfl⟩ := append_eq h
  simp only [cornersOrZero, cornersOf]
  cases hda : a.attr? k with
  | some da =>
    have hla : da.length = a.attrLen := attr?_length ha hda
    have hl := map_getElem?_append_left (idx := a.indices) da
    cases hdb : b.attr? k with
    | some db =>
      simp only [hda, hdb] at hattr
      simp only [hattr, Option.map_some, List.map_append]
      rw [hl _ fun i hi => by rw [hla]; exact ha.2.1 i hi, ← hla, map_getElem?_append_right]
    | none =>
      simp only [hda, hdb] at hattr
      simp only [hattr, Option.map_some, Option.map_none, List.map_append]
      rw [hl _ fun i hi => by rw [hla]; exact ha.2.1 i hi, ← hla, map_getElem?_append_right,
        map_getElem?_replicate _ hb.2.1]
  | none =>
    cases hdb : b.attr? k with
    | some db =>
      simp only [hda, hdb] at hattr
      simp only [hattr, Option.map_some, Option.map_none, List.map_append]
      have hr := map_getElem?_append_right b.indices (List.replicate a.attrLen (zero k.width)) db
      rw [List.length_replicate] at hr
      rw [map_getElem?_append_left _ _ fun i hi => by rw [List.length_replicate]; exact ha.2.1 i hi,
        hr, map_getElem?_replicate _ ha.2.1]
    | none =>
      simp only [hda, hdb] at hattr
      simp only [hattr, Option.map_none, List.length_append, List.length_map]
      exact List.replicate_append_replicate.symm

theorem append_cornersOf (ha : WF a) (hb : WF b)
    (h : append zero a b = some m) (k : AttrKey) (hk : k ∈ a.keys ++ b.keys) :
    m.cornersOf k = some (cornersOrZero zero a k ++ cornersOrZero zero b k) := by
  rw [← append_cornersOrZero ha hb h k, cornersOrZero]
  have : (m.attr? k).isSome := by
    rw [List.mem_append, mem_keys_iff, mem_keys_iff] at hk
    rw [append_attr? h k]
    cases ha : a.attr? k <;> cases hb : b.attr? k <;> simp_all
  obtain ⟨d, hd⟩ := Option.isSome_iff_exists.mp this
  simp [cornersOf, hd]

theorem empty_cornersOrZero (zero : Nat → α) (t : Topology) (k : AttrKey) :
    cornersOrZero zero (MeshVal.empty t : MeshVal α) k = [] := by
  simp [cornersOrZero, cornersOf, MeshVal.empty, attr?, Attrs.find?]

theorem foldl_append_corners {zero : Nat → α} {β : Type} (f : β → Option (MeshVal α))
    (hf : ∀ x c, f x = some c → WF c) (k : AttrKey) : ∀ (l : List β) (acc r : MeshVal α), WF acc →
    l.foldl (fun acc x => acc.bind fun a => (f x).bind fun c => append zero a c) (some acc) = some r →
    cornersOrZero zero r k = cornersOrZero zero acc k ++
      l.flatMap fun x => match f x with | some c => cornersOrZero zero c k | none => []
  | [], acc, r, _, hr => by cases hr; simp
  | x :: l, acc, r, hacc, hr => by
    rw [List.foldl_cons] at hr
    cases hs : (some acc).bind fun a => (f x).bind fun c => append zero a c with
    | none => rw [hs, foldl_bind_none] at hr; cases hr
    | some acc' =>
      rw [hs] at hr
      obtain ⟨c, hc, ha⟩ := Option.bind_eq_some_iff.mp (by simpa using hs)
      rw [foldl_append_corners f hf k l acc' r (append_wf hacc (hf x c hc) ha) hr,
        append_cornersOrZero hacc (hf x c hc) ha k, List.flatMap_cons, hc, List.append_assoc]

end MeshVal
end PolyVerif.Mesh
