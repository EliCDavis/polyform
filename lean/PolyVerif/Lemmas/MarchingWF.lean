import PolyVerif.Model.Marching

namespace PolyVerif.March
open PolyVerif.Mesh PolyVerif.Mesh.MeshVal
variable {V K : Type} [DecidableEq K]

/-- the `LookupOrAdd` invariant -/
def Inv (w : Working V K) : Prop :=
  (∀ e ∈ w.lookup, e.2 < w.verts.length) ∧ (∀ i ∈ w.tris, i < w.verts.length) ∧ w.tris.length % 3 = 0

theorem lookupOrAdd_inv (key : V → K) {w : Working V K} (h : Inv w) (v : V) :
    Inv (lookupOrAdd key w v).1 ∧ (lookupOrAdd key w v).2 < (lookupOrAdd key w v).1.verts.length ∧
    w.verts.length ≤ (lookupOrAdd key w v).1.verts.length ∧ (lookupOrAdd key w v).1.tris = w.tris := by
  unfold lookupOrAdd
  split
  · rename_i e he
    exact ⟨h, h.1 e (List.mem_of_find?_eq_some he), Nat.le_refl _, rfl⟩
  · refine ⟨⟨?_, ?_, h.2.2⟩, by simp, by simp, rfl⟩
    · intro e he
      simp only [List.mem_append, List.mem_singleton] at he
      rcases he with he | rfl
      · have := h.1 e he; simp; omega
      · simp
    · intro i hi
      have := h.2.1 i hi; simp; omega

theorem addTri_inv (key : V → K) {w : Working V K} (h : Inv w) (t : V × V × V) : Inv (addTri key w t) := by
  unfold addTri
  obtain ⟨h1, a1, l1, t1⟩ := lookupOrAdd_inv key h t.1
  obtain ⟨h2, a2, l2, t2⟩ := lookupOrAdd_inv key h1 t.2.1
  obtain ⟨h3, a3, l3, t3⟩ := lookupOrAdd_inv key h2 t.2.2
  dsimp only
  refine ⟨h3.1, ?_, ?_⟩
  · intro i hi
    show i < (lookupOrAdd key (lookupOrAdd key (lookupOrAdd key w t.1).1 t.2.1).1 t.2.2).1.verts.length
    simp only [List.mem_append, List.mem_cons, List.not_mem_nil, or_false] at hi
    rcases hi with hi | rfl | rfl | rfl
    · exact h3.2.1 i hi
    · omega
    · omega
    · exact a3
  · have := h3.2.2
    simp only [List.length_append, List.length_cons, List.length_nil]; omega

theorem marchBlock_inv (key : V → K) (ts : List (V × V × V)) : Inv (marchBlock key ts) := by
  unfold marchBlock
  suffices hgen : ∀ (w : Working V K), Inv w → Inv (ts.foldl (addTri key) w) from
    hgen _ ⟨by simp, by simp, by simp⟩
  induction ts with
  | nil => intro w hw; exact hw
  | cons t ts ih => intro w hw; exact ih _ (addTri_inv key hw t)

theorem blockMesh_wf (key : V → K) (attr : AttrKey) (ts : List (V × V × V)) :
    WF (blockMesh attr (marchBlock key ts)) := by
  have h := marchBlock_inv key ts
  refine ⟨?_, ?_, ?_⟩
  · intro kd hk; simp only [blockMesh, List.mem_singleton] at hk; subst hk; simp [blockMesh, attrLen]
  · intro i hi; simpa [blockMesh, attrLen] using h.2.1 i hi
  · exact h.2.2

end PolyVerif.March
