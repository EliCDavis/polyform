/-
  For C16: what `tri_closest_in_box` (Props/C16.lean) needs — an accepted plane projection is a convex combination of
  the corners, hence in the triangle's box (`tri_proj_in_box`); a segment's closest point lies between its end points;
  the boxes of segments and triangles — and `TraverseIntersectingRay` with a callback that may shrink the range.
-/
import PolyVerif.Lemmas.Bvh
namespace PolyVerif.Tree
open C17 (Axis Axis.forall co co_add co_sub co_scale co_minVector co_maxVector aabb_mem newAABB_corners)

theorem nonneg_of_pairwise (α β γ : ℝ) (hab : 0 ≤ α * β) (hac : 0 ≤ α * γ) (hbc : 0 ≤ β * γ) (hs : 0 < α + β + γ) :
    0 ≤ α ∧ 0 ≤ β ∧ 0 ≤ γ := by
  refine ⟨?_, ?_, ?_⟩ <;> by_contra h <;> push Not at h <;> nlinarith

/-- Lagrange-type identity used three times: for x, y, z, t the corners minus `q` in cyclic roles -/
theorem cross_dot_identity (x1 x2 x3 y1 y2 y3 z1 z2 z3 t1 t2 t3 n1 n2 n3 : ℝ) :
    ((x2 * y3 - x3 * y2) * n1 + (x3 * y1 - x1 * y3) * n2 + (x1 * y2 - x2 * y1) * n3) *
    ((z2 * t3 - z3 * t2) * n1 + (z3 * t1 - z1 * t3) * n2 + (z1 * t2 - z2 * t1) * n3) =
    (n1 ^ 2 + n2 ^ 2 + n3 ^ 2) *
      ((x2 * y3 - x3 * y2) * (z2 * t3 - z3 * t2) + (x3 * y1 - x1 * y3) * (z3 * t1 - z1 * t3) + (x1 * y2 - x2 * y1) * (z1 * t2 - z2 * t1)) -
    -- (x×y)×n · (z×t)×n with (x×y)×n = (x·n) y − (y·n) x
    (((x1 * n1 + x2 * n2 + x3 * n3) * y1 - (y1 * n1 + y2 * n2 + y3 * n3) * x1) * ((z1 * n1 + z2 * n2 + z3 * n3) * t1 - (t1 * n1 + t2 * n2 + t3 * n3) * z1) +
     ((x1 * n1 + x2 * n2 + x3 * n3) * y2 - (y1 * n1 + y2 * n2 + y3 * n3) * x2) * ((z1 * n1 + z2 * n2 + z3 * n3) * t2 - (t1 * n1 + t2 * n2 + t3 * n3) * z2) +
     ((x1 * n1 + x2 * n2 + x3 * n3) * y3 - (y1 * n1 + y2 * n2 + y3 * n3) * x3) * ((z1 * n1 + z2 * n2 + z3 * n3) * t3 - (t1 * n1 + t2 * n2 + t3 * n3) * z3)) := by
  ring

/-- `((b×c)·n) a + ((c×a)·n) b + ((a×b)·n) c = (a·(b×c)) n`, for any `n` -/
theorem weights_combination (a1 a2 a3 b1 b2 b3 c1 c2 c3 n1 n2 n3 : ℝ) :
    ((b2 * c3 - b3 * c2) * n1 + (b3 * c1 - b1 * c3) * n2 + (b1 * c2 - b2 * c1) * n3) * a1 +
      ((c2 * a3 - c3 * a2) * n1 + (c3 * a1 - c1 * a3) * n2 + (c1 * a2 - c2 * a1) * n3) * b1 +
      ((a2 * b3 - a3 * b2) * n1 + (a3 * b1 - a1 * b3) * n2 + (a1 * b2 - a2 * b1) * n3) * c1 =
      (a1 * (b2 * c3 - b3 * c2) + a2 * (b3 * c1 - b1 * c3) + a3 * (b1 * c2 - b2 * c1)) * n1 ∧
    ((b2 * c3 - b3 * c2) * n1 + (b3 * c1 - b1 * c3) * n2 + (b1 * c2 - b2 * c1) * n3) * a2 +
      ((c2 * a3 - c3 * a2) * n1 + (c3 * a1 - c1 * a3) * n2 + (c1 * a2 - c2 * a1) * n3) * b2 +
      ((a2 * b3 - a3 * b2) * n1 + (a3 * b1 - a1 * b3) * n2 + (a1 * b2 - a2 * b1) * n3) * c2 =
      (a1 * (b2 * c3 - b3 * c2) + a2 * (b3 * c1 - b1 * c3) + a3 * (b1 * c2 - b2 * c1)) * n2 ∧
    ((b2 * c3 - b3 * c2) * n1 + (b3 * c1 - b1 * c3) * n2 + (b1 * c2 - b2 * c1) * n3) * a3 +
      ((c2 * a3 - c3 * a2) * n1 + (c3 * a1 - c1 * a3) * n2 + (c1 * a2 - c2 * a1) * n3) * b3 +
      ((a2 * b3 - a3 * b2) * n1 + (a3 * b1 - a1 * b3) * n2 + (a1 * b2 - a2 * b1) * n3) * c3 =
      (a1 * (b2 * c3 - b3 * c2) + a2 * (b3 * c1 - b1 * c3) + a3 * (b1 * c2 - b2 * c1)) * n3 := by
  refine ⟨?_, ?_, ?_⟩ <;> ring

/-- Relative coordinates (`a = A − q` etc.): if `q` is in the plane of the triangle (`a·n = 0` for the normal
    `n = (b−a)×(c−a) ≠ 0`) and the three normals `u = b×c`, `v = c×a`, `w = a×b` pairwise agree, then `q` is a convex
    combination of the corners: `α a + β b + γ c = 0` with `α, β, γ ≥ 0`, `α + β + γ > 0`. -/
theorem tri_inside_rel (a b c n : P3) (hn : n = (b.Sub a).Cross (c.Sub a)) (ha : a.Dot n = 0) (hS : 0 < n.LengthSquared)
    (huv : 0 ≤ (b.Cross c).Dot (c.Cross a)) (huw : 0 ≤ (b.Cross c).Dot (a.Cross b))
    (hvw : 0 ≤ (c.Cross a).Dot (a.Cross b)) :
    ∃ α β γ : ℝ, 0 ≤ α ∧ 0 ≤ β ∧ 0 ≤ γ ∧ 0 < α + β + γ ∧ ∀ k, α * co a k + β * co b k + γ * co c k = 0 := by
  obtain ⟨a1, a2, a3⟩ := a
  obtain ⟨b1, b2, b3⟩ := b
  obtain ⟨c1, c2, c3⟩ := c
  obtain ⟨n1, n2, n3⟩ := n
  simp only [V3.Sub, V3.Cross, V3.Dot, V3.LengthSquared, V3.mk.injEq, ← sq] at hn ha hS huv huw hvw ⊢
  obtain ⟨hn1, hn2, hn3⟩ := hn
  have hb : b1 * n1 + b2 * n2 + b3 * n3 = 0 := by
    have : b1 * n1 + b2 * n2 + b3 * n3 = a1 * n1 + a2 * n2 + a3 * n3 := by rw [hn1, hn2, hn3]; ring
    rw [this, ha]
  have hc : c1 * n1 + c2 * n2 + c3 * n3 = 0 := by
    have : c1 * n1 + c2 * n2 + c3 * n3 = a1 * n1 + a2 * n2 + a3 * n3 := by rw [hn1, hn2, hn3]; ring
    rw [this, ha]
  -- the weights: `α = (b×c)·n`, `β = (c×a)·n`, `γ = (a×b)·n`
  obtain ⟨α, hα⟩ : ∃ α, α = (b2 * c3 - b3 * c2) * n1 + (b3 * c1 - b1 * c3) * n2 + (b1 * c2 - b2 * c1) * n3 := ⟨_, rfl⟩
  obtain ⟨β, hβ⟩ : ∃ β, β = (c2 * a3 - c3 * a2) * n1 + (c3 * a1 - c1 * a3) * n2 + (c1 * a2 - c2 * a1) * n3 := ⟨_, rfl⟩
  obtain ⟨γ, hγ⟩ : ∃ γ, γ = (a2 * b3 - a3 * b2) * n1 + (a3 * b1 - a1 * b3) * n2 + (a1 * b2 - a2 * b1) * n3 := ⟨_, rfl⟩
  -- pairwise products: `(u·n)(v·n) = |n|² (u·v)`, the correction term vanishing because `a, b, c ⟂ n`
  have pab := cross_dot_identity b1 b2 b3 c1 c2 c3 c1 c2 c3 a1 a2 a3 n1 n2 n3
  have pac := cross_dot_identity b1 b2 b3 c1 c2 c3 a1 a2 a3 b1 b2 b3 n1 n2 n3
  have pbc := cross_dot_identity c1 c2 c3 a1 a2 a3 a1 a2 a3 b1 b2 b3 n1 n2 n3
  simp only [ha, hb, hc, ← hα, ← hβ, ← hγ, zero_mul, sub_zero, mul_zero, add_zero, sub_self] at pab pac pbc
  have sum : α + β + γ = n1 ^ 2 + n2 ^ 2 + n3 ^ 2 := by rw [hα, hβ, hγ, hn1, hn2, hn3]; ring
  have nn := nonneg_of_pairwise α β γ (pab ▸ mul_nonneg hS.le huv) (pac ▸ mul_nonneg hS.le huw)
    (pbc ▸ mul_nonneg hS.le hvw) (sum ▸ hS)
  -- the weighted sum of the corners is `(a·(b×c)) n`, and `a·(b×c) = a·n = 0`
  have hdet : a1 * (b2 * c3 - b3 * c2) + a2 * (b3 * c1 - b1 * c3) + a3 * (b1 * c2 - b2 * c1) = 0 := by
    rw [← ha, hn1, hn2, hn3]; ring
  obtain ⟨w1, w2, w3⟩ := weights_combination a1 a2 a3 b1 b2 b3 c1 c2 c3 n1 n2 n3
  simp only [hdet, zero_mul, ← hα, ← hβ, ← hγ] at w1 w2 w3
  exact ⟨α, β, γ, nn.1, nn.2.1, nn.2.2, sum ▸ hS, Axis.forall.mpr ⟨w1, w2, w3⟩⟩


theorem proj_in_plane (m a v : P3) (hm : m.Dot m = 1) :
    (a.Sub (v.Sub (m.Scale (m.Dot v - m.Dot a)))).Dot m = 0 := by
  simp only [V3.Dot, V3.Sub, V3.Scale] at hm ⊢
  linear_combination (m.x * v.x + m.y * v.y + m.z * v.z - (m.x * a.x + m.y * a.y + m.z * a.z)) * hm
open Gen.geometry

/-- `Line3D.ClosestPointOnLine` returns an end point or a point `a + (b-a)·t` with `0 ≤ t ≤ 1` -/
theorem closestPointOnLine_cases (a b v : P3) :
    (NewLine3D a b).ClosestPointOnLine v = b ∨ (NewLine3D a b).ClosestPointOnLine v = a ∨
    ∃ t : ℝ, 0 ≤ t ∧ t ≤ 1 ∧ (NewLine3D a b).ClosestPointOnLine v = a.Add ((b.Sub a).Scale t) := by
  simp only [Line3D.ClosestPointOnLine, NewLine3D, Nat.cast_one, Nat.cast_zero]
  generalize (V3.Sub v a).Dot (V3.Sub b a).Normalized / (V3.Sub b a).Length = t
  by_cases h1 : (1 : ℝ) ≤ t
  · left; simp [h1]
  · by_cases h0 : t ≤ 0
    · right; left; simp [h1, h0]
    · right; right
      exact ⟨t, le_of_lt (not_le.mp h0), le_of_lt (not_le.mp h1), by simp [h1, h0]⟩

theorem seg_cp_between (a b v : P3) (k : Axis) :
    min (co b k) (co a k) ≤ co ((NewLine3D a b).ClosestPointOnLine v) k ∧
    co ((NewLine3D a b).ClosestPointOnLine v) k ≤ max (co b k) (co a k) := by
  rcases closestPointOnLine_cases a b v with h | h | ⟨t, t0, t1, h⟩ <;> rw [h]
  · simp
  · simp
  · rw [co_add, co_scale, co_sub]; exact C17.between_of_param _ _ _ t0 t1

theorem seg_box_min (a b : P3) : (aabbFromPoints2 a b).Min = minVector b a := (newAABB_corners _ _).1
theorem seg_box_max (a b : P3) : (aabbFromPoints2 a b).Max = maxVector b a := (newAABB_corners _ _).2
theorem tri_box_min (a b c : P3) : (aabbFromPoints3 a b c).Min = minVector c (minVector b a) := (newAABB_corners _ _).1
theorem tri_box_max (a b c : P3) : (aabbFromPoints3 a b c).Max = maxVector c (maxVector b a) := (newAABB_corners _ _).2

theorem seg_box_mem (a b p : P3) : (aabbFromPoints2 a b).Contains p = true ↔
    ∀ k, min (co b k) (co a k) ≤ co p k ∧ co p k ≤ max (co b k) (co a k) := by
  simp only [aabb_mem, seg_box_min, seg_box_max, co_minVector, co_maxVector]

theorem tri_box_mem (a b c p : P3) : (aabbFromPoints3 a b c).Contains p = true ↔
    ∀ k, min (co c k) (min (co b k) (co a k)) ≤ co p k ∧ co p k ≤ max (co c k) (max (co b k) (co a k)) := by
  simp only [aabb_mem, tri_box_min, tri_box_max, co_minVector, co_maxVector]

/-- a coordinate between two of three numbers is between the least and the greatest of the three -/
theorem between3_of_between_ab (x y z r : ℝ) (h : min y x ≤ r ∧ r ≤ max y x) : min z (min y x) ≤ r ∧ r ≤ max z (max y x) :=
  ⟨le_trans (min_le_right _ _) h.1, le_trans h.2 (le_max_right _ _)⟩
theorem between3_of_between_bc (x y z r : ℝ) (h : min z y ≤ r ∧ r ≤ max z y) : min z (min y x) ≤ r ∧ r ≤ max z (max y x) :=
  ⟨le_trans (le_min (min_le_left _ _) (le_trans (min_le_right _ _) (min_le_left _ _))) h.1,
   le_trans h.2 (max_le (le_max_left _ _) (le_trans (le_max_left _ _) (le_max_right _ _)))⟩
theorem between3_of_between_ca (x y z r : ℝ) (h : min x z ≤ r ∧ r ≤ max x z) : min z (min y x) ≤ r ∧ r ≤ max z (max y x) :=
  ⟨le_trans (le_min (le_trans (min_le_right _ _) (min_le_right _ _)) (min_le_left _ _)) h.1,
   le_trans h.2 (max_le (le_trans (le_max_right _ _) (le_max_right _ _)) (le_max_left _ _))⟩

/-- the plane projection used by `scopedTri.ClosestPoint`, when `PointInSide` accepts it, is inside the box -/
theorem tri_proj_in_box (a b c v : P3)
    (hnd : 0 < ((b.Sub a).Cross (c.Sub a)).LengthSquared)
    (hin : triPointInSide a b c ((NewPlaneFromPoints a b c).ClosestPoint v) = true) :
    (aabbFromPoints3 a b c).Contains ((NewPlaneFromPoints a b c).ClosestPoint v) = true := by
  rw [tri_box_mem]
  generalize hq : (NewPlaneFromPoints a b c).ClosestPoint v = q at hin ⊢
  -- it lies in the plane: orthogonal to the unit normal, hence to the normal
  have hN : ((b.Sub a).Cross (c.Sub a)).Dot ((b.Sub a).Cross (c.Sub a)) ≠ 0 := ne_of_gt hnd
  have hplane : (a.Sub q).Dot ((b.Sub a).Cross (c.Sub a)) = 0 := by
    have h0 := proj_in_plane _ a v (V3.normalized_dot_self _ hN)
    rw [V3.dot_comm, V3.normalized_dot, div_eq_zero_iff] at h0
    rw [V3.dot_comm, ← hq]
    exact h0.resolve_right fun hL => hN (by rw [← V3.length_mul_self, hL, mul_zero])
  simp only [triPointInSide, Nat.cast_zero] at hin
  by_cases h1 : ((b.Sub q).Cross (c.Sub q)).Dot ((c.Sub q).Cross (a.Sub q)) < 0
  · simp [h1] at hin
  · simp only [h1, if_false, Bool.and_eq_true, decide_eq_true_eq] at hin
    obtain ⟨α, β, γ, ha, hb, hc, hs, e⟩ := tri_inside_rel (a.Sub q) (b.Sub q) (c.Sub q)
      ((b.Sub a).Cross (c.Sub a)) (by ext <;> simp only [V3.Cross, V3.Sub] <;> ring) hplane hnd
      (not_lt.mp h1) hin.1 hin.2
    exact fun k => C17.convex_between α β γ _ _ _ _ ha hb hc hs (by simpa only [co_sub] using e k)

section traverseMono
variable {B E K : Type} [Preorder K]

/-- `r ⊆ r'` for ranges `[min, max]` -/
def rsub (r r' : K × K) : Prop := r'.1 ≤ r.1 ∧ r.2 ≤ r'.2

theorem rsub_refl (r : K × K) : rsub r r := ⟨le_refl _, le_refl _⟩
theorem rsub_trans {a b c : K × K} (h1 : rsub a b) (h2 : rsub b c) : rsub a c :=
  ⟨le_trans h2.1 h1.1, le_trans h1.2 h2.2⟩

/-- a callback that records the element and may move the range, but only INTO the current range and never below `rstar` -/
def MonoCallback (sh : E → K × K → List E → K × K) (rstar : K × K) : Prop :=
  ∀ e rng acc, rsub rstar rng → rsub (sh e rng acc) rng ∧ rsub rstar (sh e rng acc)

theorem traverse_elems_mono (slabE : E → K → K → Bool) (sh : E → K × K → List E → K × K) (rstar r0 : K × K)
    (hsh : MonoCallback sh rstar) :
    ∀ (es : List E), (∀ e ∈ es, ∀ r r', rsub r r' → slabE e r.1 r.2 = true → slabE e r'.1 r'.2 = true) →
    ∀ (rng : K × K) (s : List E), rsub rstar rng → rsub rng r0 →
      let st := es.foldl (fun (st : (K × K) × List E) e =>
        if slabE e st.1.1 st.1.2 then (sh e st.1 st.2, e :: st.2) else st) (rng, s)
      rsub rstar st.1 ∧ rsub st.1 r0 ∧ (∀ e ∈ s, e ∈ st.2) ∧
      (∀ e ∈ st.2, e ∈ s ∨ (e ∈ es ∧ slabE e r0.1 r0.2 = true)) ∧
      (∀ e ∈ es, slabE e rstar.1 rstar.2 = true → e ∈ st.2) := by
  intro es
  induction es with
  | nil => intro _ rng s h1 h2; simp [h1, h2]
  | cons x xs ih =>
    intro hEr rng s h1 h2
    have hErx := hEr x (List.mem_cons_self ..)
    have ih := ih (fun e he => hEr e (List.mem_cons_of_mem _ he))
    simp only [List.foldl_cons]
    by_cases hx : slabE x rng.1 rng.2 = true
    · simp only [hx, if_true]
      obtain ⟨k1, k2⟩ := hsh x rng s h1
      obtain ⟨a1, a2, a3, a4, a5⟩ := ih (sh x rng s) (x :: s) k2 (rsub_trans k1 h2)
      refine ⟨a1, a2, fun e he => a3 e (List.mem_cons_of_mem _ he), ?_, ?_⟩
      · intro e he
        rcases a4 e he with h | ⟨h, h'⟩
        · rcases List.mem_cons.mp h with rfl | h
          · exact Or.inr ⟨List.mem_cons_self .., hErx _ _ h2 hx⟩
          · exact Or.inl h
        · exact Or.inr ⟨List.mem_cons_of_mem _ h, h'⟩
      · intro e he hacc
        rcases List.mem_cons.mp he with rfl | he
        · exact a3 _ (List.mem_cons_self ..)
        · exact a5 e he hacc
    · have hx' : slabE x rng.1 rng.2 = false := by simpa using hx
      simp only [hx', Bool.false_eq_true, if_false]
      obtain ⟨a1, a2, a3, a4, a5⟩ := ih rng s h1 h2
      refine ⟨a1, a2, a3, ?_, ?_⟩
      · intro e he
        rcases a4 e he with h | ⟨h, h'⟩
        · exact Or.inl h
        · exact Or.inr ⟨List.mem_cons_of_mem _ h, h'⟩
      · intro e he hacc
        rcases List.mem_cons.mp he with rfl | he
        · have := hErx _ _ h1 hacc
          rw [this] at hx'; cases hx'
        · exact a5 e he hacc

/-- `TraverseIntersectingRay` with a monotone callback (records the element; may shorten the range, never below `rstar`):
    it visits only elements the exhaustive scan accepts for the INITIAL range, and it visits every element the scan
    accepts for `rstar` — on any tree whose node tests are implied by the tests of the elements below (`Inv`). -/
theorem traverse_mono_sandwich (slabB : B → K → K → Bool) (slabE : E → K → K → Bool)
    (sh : E → K × K → List E → K × K) (rstar r0 : K × K) (hsh : MonoCallback sh rstar)
    (R : B → E → Prop) (hR : ∀ b e, R b e → ∀ r : K × K, slabE e r.1 r.2 = true → slabB b r.1 r.2 = true) :
    ∀ t : Oct B E, Inv R t →
      (∀ e ∈ t.allElems, ∀ r r', rsub r r' → slabE e r.1 r.2 = true → slabE e r'.1 r'.2 = true) →
      ∀ (rng : K × K) (s : List E), rsub rstar rng → rsub rng r0 →
      (∀ e ∈ s, e ∈ t.traverse slabB slabE (fun e r a => (sh e r a, e :: a)) rng s) ∧
      (∀ e ∈ t.traverse slabB slabE (fun e r a => (sh e r a, e :: a)) rng s,
          e ∈ s ∨ (e ∈ t.allElems ∧ slabE e r0.1 r0.2 = true)) ∧
      (∀ e ∈ t.allElems, slabE e rstar.1 rstar.2 = true →
          e ∈ t.traverse slabB slabE (fun e r a => (sh e r a, e :: a)) rng s) := by
  intro t
  induction t using Oct.induct' with
  | h b es cs ih =>
    intro hinv hEr rng s h1 h2
    have hroot := hinv.root
    have hch := hinv.children
    simp only [Oct.traverse]
    by_cases hb : slabB b rng.1 rng.2 = true
    · simp only [hb, Bool.not_true, Bool.false_eq_true, if_false]
      obtain ⟨a1, a2, a3, a4, a5⟩ := traverse_elems_mono slabE sh rstar r0 hsh es
        (fun e he => hEr e (by rw [Oct.allElems_node]; exact List.mem_append_left _ he)) rng s h1 h2
      generalize es.foldl (fun (st : (K × K) × List E) e =>
        if slabE e st.1.1 st.1.2 then (sh e st.1 st.2, e :: st.2) else st) (rng, s) = st at a1 a2 a3 a4 a5
      have key : ∀ (l : List (Oct B E)), (∀ c ∈ l, c ∈ cs) → ∀ s' : List E,
          (∀ e ∈ s', e ∈ l.foldl (fun s c => c.traverse slabB slabE (fun e r a => (sh e r a, e :: a)) st.1 s) s') ∧
          (∀ e ∈ l.foldl (fun s c => c.traverse slabB slabE (fun e r a => (sh e r a, e :: a)) st.1 s) s',
              e ∈ s' ∨ (e ∈ l.flatMap (fun c => c.allElems) ∧ slabE e r0.1 r0.2 = true)) ∧
          (∀ e ∈ l.flatMap (fun c => c.allElems), slabE e rstar.1 rstar.2 = true →
              e ∈ l.foldl (fun s c => c.traverse slabB slabE (fun e r a => (sh e r a, e :: a)) st.1 s) s') := by
        intro l
        induction l with
        | nil => intro _ s'; simp
        | cons c l ihl =>
          intro hl s'
          simp only [List.foldl_cons, List.flatMap_cons, List.mem_append]
          obtain ⟨c1, c2, c3⟩ := ih c (hl c (by simp)) (hch c (hl c (by simp)))
            (fun e he => hEr e (Oct.mem_allElems_of_child (hl c (by simp)) he)) st.1 s' a1 a2
          obtain ⟨d1, d2, d3⟩ := ihl (fun c' hc' => hl c' (by simp [hc']))
            (c.traverse slabB slabE (fun e r a => (sh e r a, e :: a)) st.1 s')
          refine ⟨fun e he => d1 e (c1 e he), ?_, ?_⟩
          · intro e he
            rcases d2 e he with h | ⟨h, h'⟩
            · rcases c2 e h with h | ⟨h, h'⟩
              · exact Or.inl h
              · exact Or.inr ⟨Or.inl h, h'⟩
            · exact Or.inr ⟨Or.inr h, h'⟩
          · rintro e (he | he) hacc
            · exact d1 e (c3 e he hacc)
            · exact d3 e he hacc
      obtain ⟨k1, k2, k3⟩ := key cs (fun c hc => hc) st.2
      refine ⟨fun e he => k1 e (a3 e he), ?_, ?_⟩
      · intro e he
        rw [Oct.allElems_node]
        rcases k2 e he with h | ⟨h, h'⟩
        · rcases a4 e h with h | ⟨h, h'⟩
          · exact Or.inl h
          · exact Or.inr ⟨List.mem_append_left _ h, h'⟩
        · exact Or.inr ⟨List.mem_append_right _ h, h'⟩
      · intro e he hacc
        rw [Oct.allElems_node] at he
        rcases List.mem_append.mp he with he | he
        · exact k1 e (a5 e he hacc)
        · exact k3 e he hacc
    · have hb' : slabB b rng.1 rng.2 = false := by simpa using hb
      simp only [hb', Bool.not_false, if_true]
      refine ⟨fun e he => he, fun e he => Or.inl he, ?_⟩
      intro e he hacc
      have := hR b e (hroot e he) rng (hEr e he rstar rng h1 hacc)
      rw [this] at hb'; cases hb'
end traverseMono

end PolyVerif.Tree
