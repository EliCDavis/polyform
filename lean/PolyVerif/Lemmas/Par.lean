/-
  C10 — half-open integer ranges, exactness of range partitions, schedules of store logs; block meshes merged by
  `Append` (`TMesh`) and the per-axis block partition of the marching canvas (`AxisPartition`).  Core Lean only.
-/
import PolyVerif.Model.ParCanvas

namespace PolyVerif.Par

theorem intRange_eq_nil {lo hi : Int} (h : hi ≤ lo) : intRange lo hi = [] := by
  unfold intRange
  have : (hi - lo).toNat = 0 := by omega
  simp [this]

theorem intRange_append {lo mid hi : Int} (h1 : lo ≤ mid) (h2 : mid ≤ hi) :
    intRange lo mid ++ intRange mid hi = intRange lo hi := by
  unfold intRange
  have : (hi - lo).toNat = (mid - lo).toNat + (hi - mid).toNat := by omega
  rw [this, List.range_add, List.map_append, List.map_map]
  congr 1
  apply List.map_congr_left
  intro k _
  simp only [Function.comp, Int.natCast_add]
  omega

theorem intRange_zero (n : Nat) : intRange 0 (n : Int) = (List.range n).map Int.ofNat := by
  unfold intRange
  simp

theorem flatten_chain (b : Nat → Int) (k : Nat) (hmono : ∀ j, j < k → b j ≤ b (j + 1)) :
    b 0 ≤ b k ∧ ((List.range k).map (fun j => intRange (b j) (b (j + 1)))).flatten = intRange (b 0) (b k) := by
  induction k with
  | zero => exact ⟨Int.le_refl _, by simp [intRange_eq_nil]⟩
  | succ k ih =>
    obtain ⟨hb, e⟩ := ih (fun j hj => hmono j (by omega))
    refine ⟨Int.le_trans hb (hmono k (by omega)), ?_⟩
    rw [List.range_succ, List.map_append, List.flatten_append, e]
    simp only [List.map_cons, List.map_nil, List.flatten_cons, List.flatten_nil, List.append_nil]
    exact intRange_append hb (hmono k (by omega))

theorem exact_of_bounds (P : PartSpec) (n size : Nat) (b : Nat → Int)
    (hw : P.workers n size = size) (h0 : b 0 = 0) (hn : b size = n)
    (hmono : ∀ j, j < size → b j ≤ b (j + 1))
    (hit : ∀ i : Nat, i < size → P.worker n size i = intRange (b i) (b (i + 1))) :
    Exact P n size := by
  unfold Exact PartSpec.visits
  rw [hw, intRange_zero, List.map_map]
  have : (List.range size).map (P.worker n size ∘ Int.ofNat) = (List.range size).map (fun j => intRange (b j) (b (j + 1))) := by
    apply List.map_congr_left
    intro i hi
    exact hit i (List.mem_range.mp hi)
  rw [this, (flatten_chain b size hmono).2, h0, hn, intRange_zero]

/-- the scheme shared by the seven methods: `w = n / size`, worker `i` gets `(w*i, w)`, the last one `(w*i, n - w*i)`,
    and loops `start ≤ j < start+size` calling back with `j` -/
structure IsStd (P : PartSpec) : Prop where
  workers : ∀ n size : Nat, P.workers n size = size
  goStart : ∀ n size i : Nat, i < size → P.goStart n size i = ((n / size : Nat) : Int) * i
  goSize : ∀ n size i : Nat, i < size →
    P.goSize n size i = if i + 1 = size then (n : Int) - ((n / size : Nat) : Int) * i else ((n / size : Nat) : Int)
  loopLo : ∀ s z, P.loopLo s z = s
  loopHi : ∀ s z, P.loopHi s z = s + z
  cbIndex : ∀ j, P.cbIndex j = j

theorem IsStd.worker_eq_iters {P : PartSpec} (h : IsStd P) (n size i : Int) : P.worker n size i = P.iters n size i := by
  unfold PartSpec.worker
  rw [List.map_congr_left (fun j _ => h.cbIndex j), List.map_id']

theorem exact_of_std {P : PartSpec} (h : IsStd P) (n size : Nat) (hs : 1 ≤ size) : Exact P n size := by
  have hle : (n / size) * (size - 1) ≤ n :=
    Nat.le_trans (Nat.mul_le_mul_left _ (Nat.sub_le _ _)) (Nat.div_mul_le_self n size)
  -- worker `i` visits `[b i, b (i+1))` with `b i = (n / size) * i` for `i < size` and `b size = n`
  refine exact_of_bounds P n size (fun j => if j < size then ((n / size : Nat) : Int) * j else n)
    (h.workers n size) ?_ ?_ ?_ ?_
  · simp; omega
  · simp
  · intro j hj
    simp only [hj, if_true]
    split
    · exact_mod_cast Nat.mul_le_mul_left _ (Nat.le_succ j)
    · have : j = size - 1 := by omega
      subst this
      exact_mod_cast hle
  · intro i hi
    rw [h.worker_eq_iters]
    unfold PartSpec.iters
    rw [h.loopLo, h.loopHi, h.goStart n size i hi, h.goSize n size i hi]
    simp only [hi, if_true]
    generalize ((n / size : Nat) : Int) = w
    by_cases hl : i + 1 = size
    · simp only [hl, if_true, Nat.lt_irrefl, if_false]
      congr 1; omega
    · have : i + 1 < size := by omega
      simp only [hl, this, if_true, if_false]
      congr 1
      rw [Int.natCast_add, Int.mul_add]; simp

theorem natdiv_fdiv (n s : Nat) : Int.fdiv (n : Int) (s : Int) = ((n / s : Nat) : Int) := by
  rw [Int.fdiv_eq_ediv_of_nonneg _ (by omega)]; simp

/-- the standard scheme as a term: what every regenerated `*ParallelWithPoolSize` spec unfolds to
    (`w` = the write index of a Modify method, `none` for a Scan) -/
def stdSpec (w : Option (Int → Int)) : PartSpec where
  workers := fun _ size => size
  goStart := fun n size i => Int.fdiv n size * i
  goSize := fun n size i => if i = size - 1 then n - Int.fdiv n size * i else Int.fdiv n size
  loopLo := fun start _ => start
  loopHi := fun start size => start + size
  cbIndex := fun i => i
  readIndex := fun i => i
  writeIndex := w

theorem isStd_stdSpec (w : Option (Int → Int)) : IsStd (stdSpec w) := by
  refine ⟨fun _ _ => rfl, fun n size i _ => ?_, fun n size i _ => ?_, fun _ _ => rfl, fun _ _ => rfl, fun _ => rfl⟩
  · simp only [stdSpec, natdiv_fdiv]
  · have : ((i : Int) = (size : Int) - 1) ↔ (i + 1 = size) := by omega
    simp only [stdSpec, natdiv_fdiv, this]

theorem flatten_perm_of_get {β : Type} : ∀ (logs : List (List β)) (k : Nat) (x : β) (rest : List β),
    logs[k]? = some (x :: rest) → logs.flatten.Perm (x :: (logs.set k rest).flatten)
  | [], k, x, rest, h => by simp at h
  | l :: ls, 0, x, rest, h => by
      simp at h; subst h; simp
  | l :: ls, k + 1, x, rest, h => by
      simp at h
      have ih := flatten_perm_of_get ls k x rest h
      simp only [List.flatten_cons, List.set_cons_succ]
      exact (List.Perm.append_left l ih).trans List.perm_middle

theorem Interleaving.perm {β : Type} {logs : List (List β)} {s : List β} (h : Interleaving logs s) :
    s.Perm logs.flatten := by
  induction h with
  | done hnil =>
    rename_i logs
    have : logs.flatten = [] := by
      simp only [List.flatten_eq_nil_iff]; exact hnil
    rw [this]
  | step k x rest hk _ ih =>
    exact ((List.Perm.cons x ih)).trans (flatten_perm_of_get _ k x rest hk).symm

/-- the sequential schedule (worker 0 to completion, then worker 1, …) is an interleaving -/
theorem Interleaving.flatten {β : Type} : ∀ (logs : List (List β)), Interleaving logs logs.flatten
  | [] => Interleaving.done (by simp)
  | [] :: ls => by
      have ih := Interleaving.flatten ls
      simp only [List.flatten_cons, List.nil_append]
      -- lift: an interleaving of ls is an interleaving of [] :: ls
      exact lift ih
  | (x :: l) :: ls => by
      have ih := Interleaving.flatten (l :: ls)
      exact Interleaving.step 0 x l (by simp) (by simpa using ih)
where
  lift {β : Type} {ls : List (List β)} {s : List β} (h : Interleaving ls s) : Interleaving ([] :: ls) s := by
    induction h with
    | done hnil => exact Interleaving.done (by simpa using hnil)
    | step k x rest hk _ ih => exact Interleaving.step (k + 1) x rest (by simpa using hk) (by simpa using ih)

/-! ### read-modify-write logs (`upd`, `runUpd`); plain stores (`write`, `run`) are the constant updates -/

section
variable {κ α : Type} [DecidableEq κ]

theorem upd_comm (m : κ → α) (a b : κ × (α → α)) (h : a.1 ≠ b.1) :
    upd (upd m a) b = upd (upd m b) a := by
  funext j
  unfold upd
  have hba : b.1 ≠ a.1 := fun e => h e.symm
  by_cases h1 : j = b.1 <;> by_cases h2 : j = a.1
  · exact absurd (h2.symm.trans h1) h
  · simp [h1, hba]
  · simp [h2, h]
  · simp [h1, h2]

theorem runUpd_perm {s t : List (κ × (α → α))} (hp : s.Perm t)
    (hn : (s.map Prod.fst).Nodup) (m : κ → α) : runUpd m s = runUpd m t := by
  have hk := List.pairwise_map.mp hn
  have key := List.Pairwise.forall_of_forall_of_flip (R := fun a b : κ × (α → α) => a.1 = b.1 → a = b)
    (fun _ _ _ => rfl) (hk.imp fun hne e => absurd e hne) (hk.imp fun hne e => absurd e.symm hne)
  refine hp.foldl_eq' (fun x hx y hy z => ?_) m
  by_cases h : x.1 = y.1
  · rw [key hx hy h]
  · exact upd_comm z x y h

theorem updates_irrelevant (logs : List (List (κ × (α → α))))
    (hd : (logs.flatten.map Prod.fst).Nodup) (m : κ → α) (s : List (κ × (α → α))) (hs : Interleaving logs s) :
    runUpd m s = runUpd m logs.flatten := by
  have hp := hs.perm
  exact runUpd_perm hp ((hp.map Prod.fst).nodup_iff.mpr hd) m

theorem runUpd_not_mem : ∀ (s : List (κ × (α → α))) (m : κ → α) (k : κ),
    k ∉ s.map Prod.fst → runUpd m s k = m k
  | [], _, _, _ => rfl
  | e :: t, m, k, h => by
    simp only [List.map_cons, List.mem_cons, not_or] at h
    show runUpd (upd m e) t k = m k
    rw [runUpd_not_mem t _ k h.2]
    simp [upd, h.1]

end

theorem runUpd_of_mem {κ α : Type} [DecidableEq κ] : ∀ (s : List (κ × (α → α))) (m : κ → α) (k : κ) (u : α → α),
    (s.map Prod.fst).Nodup → (k, u) ∈ s → runUpd m s k = u (m k)
  | [], _, _, _, _, h => by simp at h
  | e :: t, m, k, u, hn, h => by
    simp only [List.map_cons, List.nodup_cons] at hn
    show runUpd (upd m e) t k = u (m k)
    rcases List.mem_cons.mp h with rfl | h
    · rw [runUpd_not_mem t _ _ hn.1]; simp [upd]
    · rw [runUpd_of_mem t _ k u hn.2 h]
      have : k ≠ e.1 := fun hk => hn.1 (hk ▸ List.mem_map_of_mem (f := Prod.fst) h)
      simp [upd, this]

section
variable {α : Type}

/-- the store `a[i] = v` as the update `a[i] = (fun _ => v) a[i]` -/
def asUpd (e : Int × α) : Int × (α → α) := (e.1, fun _ => e.2)

theorem run_eq_runUpd (m : Int → α) (s : List (Int × α)) : run m s = runUpd m (s.map asUpd) := by
  unfold run runUpd
  rw [List.foldl_map]
  rfl

theorem keys_asUpd (s : List (Int × α)) : (s.map asUpd).map Prod.fst = s.map Prod.fst := by
  rw [List.map_map]; rfl

theorem write_comm (m : Int → α) (a b : Int × α) (h : a.1 ≠ b.1) :
    write (write m a) b = write (write m b) a :=
  upd_comm m (asUpd a) (asUpd b) h

theorem run_perm {s t : List (Int × α)} (hp : s.Perm t) (hn : (s.map Prod.fst).Nodup) (m : Int → α) :
    run m s = run m t := by
  rw [run_eq_runUpd, run_eq_runUpd]
  exact runUpd_perm (hp.map asUpd) (keys_asUpd s ▸ hn) m

theorem run_not_mem (s : List (Int × α)) (m : Int → α) (k : Int) (h : k ∉ s.map Prod.fst) : run m s k = m k := by
  rw [run_eq_runUpd]
  exact runUpd_not_mem _ m k (keys_asUpd s ▸ h)

theorem run_of_mem (s : List (Int × α)) (m : Int → α) (k : Int) (v : α)
    (hn : (s.map Prod.fst).Nodup) (h : (k, v) ∈ s) : run m s k = v := by
  rw [run_eq_runUpd]
  exact runUpd_of_mem _ m k _ (keys_asUpd s ▸ hn) (List.mem_map_of_mem (f := asUpd) h)

/-- **Schedule independence.**  If no two stores (of the same or of different workers) hit the same cell, every interleaving
    of the workers' logs leaves the memory in the same state — the state produced by running the workers one after the other. -/
theorem interleaving_irrelevant_gen (logs : List (List (Int × α))) (hd : (logs.flatten.map Prod.fst).Nodup)
    (m : Int → α) (s : List (Int × α)) (hs : Interleaving logs s) : run m s = run m logs.flatten := by
  have hp := hs.perm
  exact run_perm hp ((hp.map Prod.fst).nodup_iff.mpr hd) m

theorem seqEvents_keys_nodup (g : Int → α) (n : Nat) : ((seqEvents g n).map Prod.fst).Nodup := by
  unfold seqEvents
  rw [List.map_map]
  have : (Prod.fst ∘ fun (k : Nat) => ((k : Int), g (k : Int))) = fun (k : Nat) => (k : Int) := rfl
  rw [this]
  refine List.Pairwise.map _ ?_ (List.nodup_range (n := n))
  intro a b hab h
  exact hab (Int.ofNat.inj h)

theorem run_seqEvents (g : Int → α) (n : Nat) (m : Int → α) (k : Int) :
    run m (seqEvents g n) k = if 0 ≤ k ∧ k < n then g k else m k := by
  split
  · rename_i hk
    apply run_of_mem _ _ _ _ (seqEvents_keys_nodup g n)
    unfold seqEvents
    simp only [List.mem_map, List.mem_range]
    refine ⟨k.toNat, by omega, ?_⟩
    have : ((k.toNat : Nat) : Int) = k := by omega
    rw [this]
  · rename_i hk
    apply run_not_mem
    unfold seqEvents
    simp only [List.map_map, List.mem_map, List.mem_range, Function.comp]
    rintro ⟨a, ha, rfl⟩
    exact hk ⟨by omega, by omega⟩

section
variable {P : PartSpec} (h : IsStd P) (hr : ∀ j, P.readIndex j = j)
include h

/-- for the standard scheme the loop values of all workers, in worker order, are `0 … n-1`; so any event function `φ` mapped
    over them, worker after worker, gives the events of the sequential loop -/
theorem logs_flatten_of_std {β : Type} (φ : Int → β) (n size : Nat) (hs : 1 ≤ size) :
    ((intRange 0 (P.workers n size)).map (fun i => (P.iters n size i).map φ)).flatten
      = (List.range n).map (fun (k : Nat) => φ k) := by
  have hex : (P.visits n size).flatten = _ := exact_of_std h n size hs
  rw [PartSpec.visits, funext (h.worker_eq_iters n size)] at hex
  show ((intRange 0 (P.workers n size)).map (List.map φ ∘ P.iters n size)).flatten = _
  rw [← List.map_map, ← List.map_flatten, hex, List.map_map]
  rfl

include hr

/-- the stores of the workers of a standard Modify, taken worker after worker, are literally the stores of the
    sequential loop `for i, v := range data { modified[i] = f(i, v) }` -/
theorem storeLogs_flatten_of_std (w : Int → Int) (hw : ∀ j, w j = j) (f : Int → α → α) (data : Int → α) (n size : Nat)
    (hs : 1 ≤ size) :
    (P.storeLogs w f data n size).flatten = seqEvents (fun k => f k (data k)) n := by
  have : (fun j => (w j, f (P.cbIndex j) (data (P.readIndex j)))) = fun j => (j, f j (data j)) :=
    funext fun j => by rw [hw, hr, h.cbIndex]
  unfold PartSpec.storeLogs PartSpec.storeLog
  rw [this]
  exact logs_flatten_of_std h _ n size hs

theorem callLogs_flatten_of_std (data : Int → α) (n size : Nat) (hs : 1 ≤ size) :
    (P.callLogs data n size).flatten = seqEvents data n := by
  have : (fun j => (P.cbIndex j, data (P.readIndex j))) = fun j => (j, data j) :=
    funext fun j => by rw [hr, h.cbIndex]
  unfold PartSpec.callLogs PartSpec.callLog
  rw [this]
  exact logs_flatten_of_std h _ n size hs

/-- Modify, standard scheme: on EVERY schedule the final memory equals the memory after the sequential loop — cell `k < n`
    holds `f k (data k)`, no other cell is written -/
theorem modify_any_schedule (w : Int → Int) (hw : ∀ j, w j = j) (f : Int → α → α) (data : Int → α) (n size : Nat)
    (hs : 1 ≤ size) (m : Int → α) (s : List (Int × α)) (hsched : Interleaving (P.storeLogs w f data n size) s) :
    run m s = run m (seqEvents (fun k => f k (data k)) n) ∧
    ∀ k : Int, run m s k = if 0 ≤ k ∧ k < n then f k (data k) else m k := by
  have e := storeLogs_flatten_of_std h hr w hw f data n size hs
  have h1 : run m s = run m (seqEvents (fun k => f k (data k)) n) := by
    rw [interleaving_irrelevant_gen _ (by rw [e]; exact seqEvents_keys_nodup _ n) m s hsched, e]
  exact ⟨h1, fun k => by rw [h1, run_seqEvents]⟩

/-- Scan, standard scheme: on EVERY schedule the callback receives exactly the multiset of (index, value) pairs of the
    sequential scan -/
theorem scan_any_schedule (data : Int → α) (n size : Nat) (hs : 1 ≤ size)
    (s : List (Int × α)) (hsched : Interleaving (P.callLogs data n size) s) :
    s.Perm (seqEvents data n) := by
  have := hsched.perm
  rwa [callLogs_flatten_of_std h hr data n size hs] at this

end

end

namespace TMesh
variable {V : Type}

theorem wf_append {a b : TMesh V} (ha : a.WF) (hb : b.WF) : (a.append b).WF := by
  intro t ht
  simp only [append, List.mem_append, List.mem_map] at ht
  simp only [append, List.length_append]
  rcases ht with ht | ⟨u, hu, rfl⟩
  · have := ha t ht; omega
  · have := hb u hu; simp only [shift]; omega

theorem corners_append {a b : TMesh V} (ha : a.WF) : (a.append b).corners = a.corners ++ b.corners := by
  simp only [corners, append, List.map_append, List.map_map]
  congr 1
  · apply List.map_congr_left
    intro t ht
    have := ha t ht
    simp only [List.getElem?_append_left this.1, List.getElem?_append_left this.2.1, List.getElem?_append_left this.2.2]
  · apply List.map_congr_left
    intro t _
    simp [shift, List.getElem?_append_right]

theorem foldl_append_spec : ∀ (l : List (TMesh V)) (acc : TMesh V), acc.WF → (∀ m ∈ l, m.WF) →
    (l.foldl append acc).WF ∧ (l.foldl append acc).corners = acc.corners ++ (l.map corners).flatten
  | [], acc, hacc, _ => by simp [hacc]
  | m :: l, acc, hacc, hl => by
    have hm : m.WF := hl m (List.mem_cons_self)
    have := foldl_append_spec l (acc.append m) (wf_append hacc hm) (fun x hx => hl x (List.mem_cons_of_mem _ hx))
    simp only [List.foldl_cons, List.map_cons, List.flatten_cons]
    rw [this.2, corners_append hacc, List.append_assoc]
    exact ⟨this.1, rfl⟩

theorem corners_mergeAll (l : List (TMesh V)) (hl : ∀ m ∈ l, m.WF) :
    (mergeAll l).corners = (l.map corners).flatten := by
  have := (foldl_append_spec l empty (by intro t ht; simp [empty] at ht) hl).2
  simpa [mergeAll, corners, empty] using this

end TMesh

/-- per axis: the clamped block ranges `[start c, end c)` partition the padded domain `[lo, hi)`; blocks are `width` wide -/
structure AxisPartition (chunkOf : Int → Int) (start end_ : Int → Int → Int → Int) : Prop where
  /-- every sample of the padded domain lies in the clamped range of its own block, which is one of the enumerated blocks -/
  own : ∀ lo hi x, lo ≤ x → x < hi →
    chunkOf lo ≤ chunkOf x ∧ chunkOf x ≤ chunkOf hi ∧ start (chunkOf x) lo hi ≤ x ∧ x < end_ (chunkOf x) lo hi
  /-- a block's clamped range contains only samples of the padded domain that belong to that very block: ranges of
      different blocks are disjoint -/
  unique : ∀ lo hi c x, start c lo hi ≤ x → x < end_ c lo hi → c = chunkOf x ∧ lo ≤ x ∧ x < hi
  /-- …and their block-local coordinate is a valid cell coordinate -/
  inBlock : ∀ lo hi c x, start c lo hi ≤ x → x < end_ c lo hi → 0 ≤ x - c * 100 ∧ x - c * 100 < 100

/-- the clamps of the canvas code: blocks are 100 wide, `start = max(100c, lo)`, `stop = min(100c + 100, hi)` -/
theorem axisPartition_std {chunkOf : Int → Int} {start end_ : Int → Int → Int → Int}
    (hc : chunkOf = fun x => Int.fdiv x 100)
    (hs : start = fun c lo _ => if c * 100 < lo then lo else c * 100)
    (he : end_ = fun c _ hi => if c * 100 + 100 > hi then hi else c * 100 + 100) :
    AxisPartition chunkOf start end_ := by
  have hdiv : ∀ x : Int, Int.fdiv x 100 = x / 100 := fun x => Int.fdiv_eq_ediv_of_nonneg x (by decide)
  subst hc hs he
  constructor
  · intro lo hi x h1 h2
    simp only [hdiv]
    split <;> split <;> omega
  · intro lo hi c x
    simp only [hdiv]
    split <;> split <;> omega
  · intro lo hi c x
    split <;> split <;> omega

end PolyVerif.Par
