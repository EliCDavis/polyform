/-
  C10 — lemmas for the allocation model (Model/ParAlloc.lean).  Core Lean only.
-/
import PolyVerif.Model.ParAlloc
import PolyVerif.Lemmas.ParCanvas

namespace PolyVerif.Par

theorem slotOf_eq_idxOf (l : List Block) (b : Block) : slotOf l b = l.idxOf b := by
  induction l with
  | nil => rfl
  | cons x xs ih => simp only [slotOf, List.idxOf_cons, ih, cond_eq_ite, beq_iff_eq]

theorem slotOf_lt {l : List Block} {b : Block} (h : b ∈ l) : slotOf l b < l.length :=
  slotOf_eq_idxOf l b ▸ List.idxOf_lt_length_of_mem h

theorem slotOf_append_mem {l : List Block} (m : List Block) {b : Block} (h : b ∈ l) : slotOf (l ++ m) b = slotOf l b := by
  rw [slotOf_eq_idxOf, slotOf_eq_idxOf, List.idxOf_append, if_pos h]

theorem slotOf_append_new {l : List Block} {b : Block} (h : b ∉ l) : slotOf (l ++ [b]) b = l.length := by
  rw [slotOf_eq_idxOf, List.idxOf_append, if_neg h, List.idxOf_cons_self, Nat.zero_add]

theorem slotOf_inj {l : List Block} {a b : Block} (ha : a ∈ l) (hb : b ∈ l) (h : slotOf l a = slotOf l b) : a = b := by
  rw [slotOf_eq_idxOf, slotOf_eq_idxOf] at h
  rw [← List.getElem_idxOf (List.idxOf_lt_length_of_mem ha), ← List.getElem_idxOf (List.idxOf_lt_length_of_mem hb)]
  simp only [h]

theorem nodup_snoc {l : List Block} {b : Block} (h : l.Nodup) (hb : b ∉ l) : (l ++ [b]).Nodup := by
  rw [List.nodup_append]
  exact ⟨h, by simp, fun a ha c hc => by
    have : c = b := by simpa using hc
    subst this; intro e; exact hb (e ▸ ha)⟩

/-- whatever the events and their order: no block ever gets two slots, existing slots are never moved, and a block has a
    slot afterwards iff it had one before or some job allocated it -/
theorem run_slots {α : Type} (z : α) : ∀ (s : List (SEv α)) (σ : Store α), σ.slots.Nodup →
    (σ.run z s).slots.Nodup ∧ σ.slots <+: (σ.run z s).slots ∧
    ∀ b, b ∈ (σ.run z s).slots ↔ b ∈ σ.slots ∨ SEv.alloc b ∈ s
  | [], σ, h => ⟨h, List.prefix_refl _, fun b => by simp [Store.run]⟩
  | e :: s, σ, h => by
    have hstep : (σ.step z e).slots.Nodup ∧ σ.slots <+: (σ.step z e).slots ∧
        ∀ b, b ∈ (σ.step z e).slots ↔ b ∈ σ.slots ∨ SEv.alloc b = e := by
      cases e with
      | upd b k u => exact ⟨h, List.prefix_refl _, fun b' => by simp [Store.step]⟩
      | alloc b =>
        by_cases hb : b ∈ σ.slots
        · simp only [Store.step, if_pos hb]
          exact ⟨h, List.prefix_refl _, fun b' => ⟨Or.inl, fun h' => h'.elim id fun e => by cases e; exact hb⟩⟩
        · simp only [Store.step, if_neg hb]
          exact ⟨nodup_snoc h hb, List.prefix_append _ _, fun b' => by simp [eq_comm]⟩
    have ih := run_slots z s (σ.step z e) hstep.1
    refine ⟨ih.1, List.IsPrefix.trans hstep.2.1 ih.2.1, fun b => ?_⟩
    show b ∈ ((σ.step z e).run z s).slots ↔ _
    rw [ih.2.2 b, hstep.2.2 b, List.mem_cons, or_assoc]

/-! ### simulation: the slot-level execution, seen by block, is the block-keyed execution -/

/-- every `upd b` comes after an `alloc b` (`started` = blocks whose job has allocated already) -/
def WFfrom {α : Type} : List Block → List (SEv α) → Prop
  | _, [] => True
  | st, SEv.alloc b :: s => WFfrom (b :: st) s
  | st, SEv.upd b _ _ :: s => b ∈ st ∧ WFfrom st s

structure Inv {α : Type} (σ : Store α) (st : List Block) : Prop where
  nodup : σ.slots.Nodup
  started : ∀ b ∈ st, b ∈ σ.slots ∧ σ.cur b = slotOf σ.slots b

section
variable {α : Type} (z : α)

theorem step_alloc_sim (σ : Store α) (st : List Block) (b : Block) (h : Inv σ st) :
    Inv (σ.step z (SEv.alloc b)) (b :: st) ∧ (σ.step z (SEv.alloc b)).view z = σ.view z := by
  by_cases hb : b ∈ σ.slots
  · simp only [Store.step, if_pos hb]
    refine ⟨⟨h.nodup, ?_⟩, rfl⟩
    intro b' hb'
    by_cases e' : b' = b
    · subst e'; exact ⟨hb, by simp⟩
    · rcases List.mem_cons.mp hb' with h' | h'
      · exact absurd h' e'
      · exact ⟨(h.started b' h').1, by simp [e', (h.started b' h').2]⟩
  · simp only [Store.step, if_neg hb]
    refine ⟨⟨?_, ?_⟩, ?_⟩
    · exact nodup_snoc h.nodup hb
    · intro b' hb'
      by_cases e' : b' = b
      · subst e'; exact ⟨by simp, by simp [slotOf_append_new hb]⟩
      · rcases List.mem_cons.mp hb' with h' | h'
        · exact absurd h' e'
        · have := h.started b' h'
          exact ⟨List.mem_append_left _ this.1, by simp [e', this.2, slotOf_append_mem [b] this.1]⟩
    · funext c
      simp only [Store.view]
      by_cases hc : c.1 ∈ σ.slots
      · have hlt := slotOf_lt hc
        have hne : ¬ slotOf σ.slots c.1 = σ.slots.length := by omega
        simp [hc, slotOf_append_mem [b] hc, hne]
      · by_cases hcb : c.1 = b
        · simp [hcb, slotOf_append_new hb, hb]
        · simp [hc, hcb]

theorem step_upd_sim (σ : Store α) (st : List Block) (b : Block) (k : Int) (u : α → α)
    (h : Inv σ st) (hb : b ∈ st) :
    Inv (σ.step z (SEv.upd b k u)) st ∧ (σ.step z (SEv.upd b k u)).view z = upd (σ.view z) ((b, k), u) := by
  have hs := h.started b hb
  refine ⟨⟨h.nodup, h.started⟩, ?_⟩
  funext c
  simp only [Store.view, Store.step, upd]
  by_cases hc : c.1 ∈ σ.slots
  · by_cases e : c = (b, k)
    · subst e; simp [hc, hs.2]
    · have : ¬ (slotOf σ.slots c.1, c.2) = (σ.cur b, k) := by
        intro e'
        simp only [Prod.mk.injEq, hs.2] at e'
        exact e (Prod.ext (slotOf_inj hc hs.1 e'.1) e'.2)
      simp [hc, e, this]
  · have e : ¬ c = (b, k) := fun e => hc (e ▸ hs.1)
    simp [hc, e]

/-- for every event sequence in which each job allocates before it updates: the canvas seen by block after the slot-level
    run is the block-keyed run of the sequence's cell updates -/
theorem run_sim : ∀ (s : List (SEv α)) (σ : Store α) (st : List Block), Inv σ st → WFfrom st s →
    (σ.run z s).view z = runUpd (σ.view z) (s.filterMap SEv.keyed)
  | [], _, _, _, _ => rfl
  | SEv.alloc b :: s, σ, st, h, hw => by
    have := step_alloc_sim z σ st b h
    show ((σ.step z (SEv.alloc b)).run z s).view z = _
    rw [run_sim s _ (b :: st) this.1 hw, this.2]
    simp only [List.filterMap_cons, SEv.keyed]
  | SEv.upd b k u :: s, σ, st, h, hw => by
    have := step_upd_sim z σ st b k u h hw.1
    show ((σ.step z (SEv.upd b k u)).run z s).view z = _
    rw [run_sim s _ st this.1 hw.2, this.2]
    simp only [List.filterMap_cons, SEv.keyed]
    rfl

/-- a (remaining part of a) job log: either a whole job `alloc b :: upd b …`, or only updates of jobs that have allocated -/
def LogOK (st : List Block) (l : List (SEv α)) : Prop :=
  (∀ e ∈ l, ∃ b k u, e = SEv.upd b k u ∧ b ∈ st) ∨
  (∃ b rest, l = SEv.alloc b :: rest ∧ ∀ e ∈ rest, ∃ k u, e = SEv.upd b k u)

theorem LogOK.mono {st : List Block} {l : List (SEv α)} (b : Block) (h : LogOK st l) : LogOK (b :: st) l := by
  rcases h with h | h
  · left; intro e he; obtain ⟨b', k, u, rfl, hb⟩ := h e he; exact ⟨b', k, u, rfl, List.mem_cons_of_mem _ hb⟩
  · right; exact h

theorem wf_of_interleaving {logs : List (List (SEv α))} {s : List (SEv α)} (hs : Interleaving logs s) :
    ∀ st, (∀ l ∈ logs, LogOK st l) → WFfrom st s := by
  induction hs with
  | done _ => intro _ _; trivial
  | @step logs s k x rest hk _ ih =>
    intro st hl
    have hx : LogOK st (x :: rest) := hl _ (List.mem_of_getElem? hk)
    have hset : ∀ st', (∀ l ∈ logs, LogOK st' l) → LogOK st' rest → ∀ l ∈ logs.set k rest, LogOK st' l := by
      intro st' h1 h2 l hl
      rcases List.mem_or_eq_of_mem_set hl with h | h
      · exact h1 l h
      · exact h ▸ h2
    rcases hx with hx | ⟨b, rest', e, hr⟩
    · obtain ⟨b, k', u, rfl, hb⟩ := hx x (List.mem_cons_self)
      refine ⟨hb, ih st (hset st hl (Or.inl fun e he => hx e (List.mem_cons_of_mem _ he)))⟩
    · simp only [List.cons.injEq] at e
      obtain ⟨rfl, rfl⟩ := e
      refine ih (b :: st) (hset _ (fun l h => (hl l h).mono b) (Or.inl fun e he => ?_))
      obtain ⟨k', u, rfl⟩ := hr e he
      exact ⟨b, k', u, rfl, List.mem_cons_self⟩

section
variable (F : FieldFns) (d : Dom) (g : Int → Int → Int → α → α)

theorem cjobLog_ok (b : Block) (st : List Block) :
    LogOK st (F.cjobLog d g b) := by
  right
  refine ⟨b, _, rfl, ?_⟩
  intro e he
  simp only [List.mem_map] at he
  obtain ⟨c, _, rfl⟩ := he
  exact ⟨_, _, rfl⟩

theorem cjobLog_keyed (b : Block) :
    (F.cjobLog d g b).filterMap SEv.keyed = F.jobLog d g b := by
  unfold FieldFns.cjobLog FieldFns.jobLog
  rw [List.filterMap_cons]
  simp only [SEv.keyed, List.filterMap_map]
  have : (SEv.keyed ∘ fun (e : Cell × (Int × Int × Int)) => SEv.upd b e.1.2 (g e.2.1 e.2.2.1 e.2.2.2))
      = some ∘ (fun (e : Cell × (Int × Int × Int)) => (((b, e.1.2) : Cell), g e.2.1 e.2.2.1 e.2.2.2)) := rfl
  rw [this, List.filterMap_eq_map]
  apply List.map_congr_left
  intro e he
  have := jobCells_fst F d b e he
  rw [← this]

theorem mem_alloc_cjobLogs (b : Block) :
    SEv.alloc b ∈ ((F.blocks d).map (F.cjobLog d g)).flatten ↔ b ∈ F.blocks d := by
  simp only [List.mem_flatten, List.mem_map]
  constructor
  · rintro ⟨l, ⟨b', hb', rfl⟩, hl⟩
    unfold FieldFns.cjobLog at hl
    rcases List.mem_cons.mp hl with h | h
    · cases h; exact hb'
    · simp only [List.mem_map] at h
      obtain ⟨_, _, h⟩ := h
      cases h
  · intro hb
    exact ⟨_, ⟨b, hb, rfl⟩, List.mem_cons_self⟩

theorem slots_of_interleaving (σ0 : Store α) (h0 : σ0.slots.Nodup) (s : List (SEv α))
    (hs : Interleaving ((F.blocks d).map (F.cjobLog d g)) s) :
    (σ0.run z s).slots.Nodup ∧ σ0.slots <+: (σ0.run z s).slots ∧
    ∀ b, b ∈ (σ0.run z s).slots ↔ b ∈ σ0.slots ∨ b ∈ F.blocks d := by
  have h := run_slots z s σ0 h0
  refine ⟨h.1, h.2.1, fun b => ?_⟩
  rw [h.2.2 b, hs.perm.mem_iff, mem_alloc_cjobLogs]

end

/-- canvas seen by block after one call, ANY interleaving of its jobs = block-keyed run of the jobs one after the other -/
theorem view_of_interleaving {F : FieldFns} (hF : FieldOK F) (d : Dom) (g : Int → Int → Int → α → α)
    (σ0 : Store α) (h0 : σ0.slots.Nodup) (s : List (SEv α))
    (hs : Interleaving ((F.blocks d).map (F.cjobLog d g)) s) :
    (σ0.run z s).view z = runUpd (σ0.view z) ((F.blocks d).map (F.jobLog d g)).flatten := by
  have hwf : WFfrom [] s := wf_of_interleaving hs [] (by
    intro l hl
    simp only [List.mem_map] at hl
    obtain ⟨b, _, rfl⟩ := hl
    exact cjobLog_ok F d g b [])
  rw [run_sim z s σ0 [] ⟨h0, by intro b hb; cases hb⟩ hwf]
  have hp : (s.filterMap SEv.keyed).Perm ((F.blocks d).map (F.jobLog d g)).flatten := by
    have := hs.perm.filterMap (SEv.keyed (α := α))
    rw [List.filterMap_flatten, List.map_map] at this
    have e : (List.filterMap (SEv.keyed (α := α)) ∘ F.cjobLog d g) = F.jobLog d g := by
      funext b; exact cjobLog_keyed F d g b
    rwa [e] at this
  exact runUpd_perm hp ((hp.map Prod.fst).nodup_iff.mpr (all_keys_nodup hF d g)) _

end

end PolyVerif.Par
