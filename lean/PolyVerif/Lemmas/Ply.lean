/-
  Lemmas about `PolyVerif.Model.Ply` shared by Props/C04 and Props/C08: fixed-width fields in both byte orders, binary
  vertex records (field at its header offset, the vertex loop over a block of records), what `writeBody` emits and its size,
  the reference encoding of C08 under the reader, and the claim scans `buildV1` / `buildVec` / `addUnclaimed`.  Core Lean only.
-/
import PolyVerif.Model.Ply
import PolyVerif.Model.PlySpec
import PolyVerif.Lemmas.ListM
import PolyVerif.Lemmas.LittleEndian
import PolyVerif.Lemmas.Chunks
deriving instance DecidableEq for Except

namespace PolyVerif
namespace PlyLemmas
open Ply
variable {α : Type}

theorem byteOf_toNat (n k : Nat) : (byteOf n k).toNat = (n / 256 ^ k) % 256 := by
  simp [byteOf]

section
variable (e : Endian)

theorem put32_get32 (w : UInt32) (rest : Bytes) : get32 e (put32 e w ++ rest) = some w := by
  have h := (LE.sum4 w.toNat).trans (Nat.mod_eq_of_lt w.toNat_lt)
  cases e <;> simp only [put32, get32, List.cons_append, byteOf_toNat, Nat.reducePow, Nat.div_one] <;>
    rw [h, UInt32.ofNat_toNat]
theorem put64_get64 (w : UInt64) (rest : Bytes) : get64 e (put64 e w ++ rest) = some w := by
  have h := (LE.sum8 w.toNat).trans (Nat.mod_eq_of_lt w.toNat_lt)
  cases e <;> simp only [put64, get64, List.cons_append, byteOf_toNat, Nat.reducePow, Nat.div_one] <;>
    rw [h, UInt64.ofNat_toNat]
theorem put32_length (w : UInt32) : (put32 e w).length = 4 := by cases e <;> simp [put32]
theorem put64_length (w : UInt64) : (put64 e w).length = 8 := by cases e <;> simp [put64]

end

def quantBin (c : Coding α) (dim : Nat) : SType → α → α
  | .uchar, v => c.norm8 dim (c.ofInt (c.u8 v).toNat)
  | .int, v => c.ofInt (toInt32 (c.i32 v))
  | .float, v => c.unf32 (c.f32 v)
  | .double, v => c.unf64 (c.f64 v)
  | _, v => v
theorem encScalarBin_length (c : Coding α) (e : Endian) (t : SType) (v : α) (bs : Bytes)
    (h : encScalarBin c e t v = .ok bs) : bs.length = t.size := by
  cases t <;> simp [encScalarBin] at h <;> subst h <;> simp [SType.size, put32_length, put64_length]
theorem dec_enc_scalar (c : Coding α) (e : Endian) (dim : Nat) (t : SType) (v : α) (bs pre post : Bytes)
    (h : encScalarBin c e t v = .ok bs) :
    decScalarBin c e dim t (pre ++ bs ++ post) pre.length = .ok (quantBin c dim t v) := by
  cases t <;> simp [encScalarBin] at h <;> subst h <;>
    simp [decScalarBin, quantBin, put32_get32, put64_get64, List.append_assoc]

/-- byte offset of the `i`-th property: the sum of the sizes of the properties before it in header order -/
def offsetOf (tys : List SType) (i : Nat) : Nat := ((tys.take i).map SType.size).sum

section
variable (c : Coding α) (e : Endian)

theorem encRecordBin_nil : encRecordBin c e [] ([] : List α) = .ok [] := by
  rfl

theorem encRecordBin_cons (t : SType) (tys : List SType) (v : α) (vals : List α) :
    encRecordBin c e (t :: tys) (v :: vals) =
      (do let b ← encScalarBin c e t v; let r ← encRecordBin c e tys vals; pure (b ++ r)) := by
  simp [encRecordBin]

theorem encRecordBin_cons_ok (t : SType) (tys : List SType) (v : α) (vals : List α) (rec : Bytes)
    (h : encRecordBin c e (t :: tys) (v :: vals) = .ok rec) :
    ∃ b r, encScalarBin c e t v = .ok b ∧ encRecordBin c e tys vals = .ok r ∧ rec = b ++ r := by
  rw [encRecordBin_cons] at h
  cases hb : encScalarBin c e t v with
  | error x => simp [hb, bind, Except.bind] at h
  | ok b =>
    cases hr : encRecordBin c e tys vals with
    | error x => simp [hb, hr, bind, Except.bind] at h
    | ok r =>
      simp [hb, hr, bind, Except.bind, pure, Except.pure] at h
      exact ⟨b, r, rfl, rfl, h.symm⟩

theorem field_at_offset (dim : Nat) :
    ∀ (tys : List SType) (vals : List α) (rec pre post : Bytes) (i : Nat) (hi : i < tys.length)
      (hv : vals.length = tys.length),
      encRecordBin c e tys vals = .ok rec →
      decScalarBin c e dim tys[i] (pre ++ rec ++ post) (pre.length + offsetOf tys i)
        = .ok (quantBin c dim tys[i] (vals[i]'(by omega))) := by
  intro tys
  induction tys with
  | nil => intro _ _ _ _ i hi; simp at hi
  | cons t tys ih =>
    intro vals rec pre post i hi hv henc
    match vals, hv with
    | v :: vals, hv =>
      obtain ⟨b, r, hb, hr, rfl⟩ := encRecordBin_cons_ok c e t tys v vals rec henc
      cases i with
      | zero =>
        have := dec_enc_scalar c e dim t v b pre (r ++ post) hb
        simpa [offsetOf, List.append_assoc] using this
      | succ i =>
        have hlen := encScalarBin_length c e t v b hb
        have := ih vals r (pre ++ b) post i (by simpa using hi) (by simpa using hv) hr
        simpa [offsetOf, List.append_assoc, hlen, Nat.add_assoc] using this

theorem encRecordBin_length :
    ∀ (tys : List SType) (vals : List α) (rec : Bytes), vals.length = tys.length →
      encRecordBin c e tys vals = .ok rec → rec.length = (tys.map SType.size).sum := by
  intro tys
  induction tys with
  | nil => intro vals rec hv h; match vals, hv with | [], _ => simp [encRecordBin_nil] at h; simp [← h]
  | cons t tys ih =>
    intro vals rec hv henc
    match vals, hv with
    | v :: vals, hv =>
      obtain ⟨b, r, hb, hr, rfl⟩ := encRecordBin_cons_ok c e t tys v vals rec henc
      simp [encScalarBin_length c e t v b hb, ih vals r (by simpa using hv) hr]

end

/-- where the `i`-th property sits in a vertex record: byte offset (binary) or column (ASCII) -/
def stride (binary : Bool) (t : SType) : Nat := if binary then t.size else 1

def locOf (binary : Bool) (props : List (Bytes × SType)) (i : Nat) : Nat :=
  ((props.take i).map (fun p => stride binary p.2)).sum

theorem locOf_ascii (props : List (Bytes × SType)) (i : Nat) (hi : i ≤ props.length) : locOf false props i = i := by
  induction props generalizing i with
  | nil => simp at hi; simp [locOf, hi]
  | cons p ps ih =>
    cases i with
    | zero => simp [locOf]
    | succ i =>
      have := ih i (by simpa using hi)
      simp [locOf, stride] at this ⊢
      omega

theorem locOf_binary (props : List (Bytes × SType)) (i : Nat) :
    locOf true props i = offsetOf (props.map (·.2)) i := by
  simp [locOf, offsetOf, stride, List.map_take, Function.comp_def]

section
variable (binary : Bool)

theorem buildV1_go_spec (attr name : Bytes) :
    ∀ (props : List (Bytes × SType)) (pos i : Nat) (hi : i < props.length),
      props[i].1 = name → (∀ j (hj : j < i), (props[j]'(by omega)).1 ≠ name) →
      buildV1.go binary attr name props pos =
        some ⟨attr, [name], [pos + locOf binary props i], if binary then some props[i].2 else none⟩ := by
  intro props
  induction props with
  | nil => intro _ i hi; simp at hi
  | cons p ps ih =>
    intro pos i hi hname hbefore
    obtain ⟨n, t⟩ := p
    cases i with
    | zero =>
      simp at hname
      simp [buildV1.go, hname, locOf]
    | succ i =>
      have h0 : n ≠ name := by simpa using hbefore 0 (by omega)
      have := ih (pos + stride binary t) i (by simpa using hi) (by simpa using hname)
        (fun j hj => by simpa using hbefore (j + 1) (by omega))
      simp [buildV1.go, h0]
      simp [stride] at this
      rw [this]
      simp [locOf, stride, Nat.add_assoc]

/-- The location a scalar reader computes for a property is the sum of the strides of the properties before it in
HEADER order — for any order of the properties. -/
theorem buildV1_spec (attr name : Bytes) (props : List (Bytes × SType)) (i : Nat) (hi : i < props.length)
    (hname : props[i].1 = name) (hfirst : ∀ j (hj : j < i), (props[j]'(by omega)).1 ≠ name) :
    buildV1 binary props attr name =
      some ⟨attr, [name], [locOf binary props i], if binary then some props[i].2 else none⟩ := by
  have := buildV1_go_spec binary attr name props 0 i hi hname hfirst
  simpa [buildV1] using this

/-- whatever a scalar reader is built from: it claims the one name, under the given attribute, and the ASCII variant
never learns the property's type (reader_vector1.go:38-57) -/
theorem buildV1_go_shape (attr name : Bytes) : ∀ (props : List (Bytes × SType)) (pos : Nat) (b : Built),
    buildV1.go binary attr name props pos = some b →
      b.names = [name] ∧ b.attr = attr ∧ (binary = false → b.ty = none) := by
  intro props
  induction props with
  | nil => intro pos b h; simp [buildV1.go] at h
  | cons p ps ih =>
    intro pos b h
    obtain ⟨n, t⟩ := p
    by_cases hn : n = name
    · simp [buildV1.go, hn] at h; subst h; exact ⟨rfl, rfl, fun hb => by simp [hb]⟩
    · simp [buildV1.go, hn] at h; exact ih _ b h

end

theorem buildV1_ascii_ty (attr name : Bytes) (props : List (Bytes × SType)) (b : Built)
    (h : buildV1 false props attr name = some b) : b.ty = none :=
  (buildV1_go_shape false attr name props 0 b (by simpa [buildV1] using h)).2.2 rfl

theorem readLine_lf (l rest : Bytes) (h : ∀ b ∈ l, b ≠ 10 ∧ b ≠ 13) : readLine (l ++ 10 :: rest) = some (l, rest) := by
  induction l with
  | nil => simp [readLine]
  | cons b l ih =>
    have hb := h b (by simp)
    have := ih (fun x hx => h x (by simp [hx]))
    simp [readLine, hb.1, hb.2, this]

theorem readLine_crlf (l rest : Bytes) (h : ∀ b ∈ l, b ≠ 10 ∧ b ≠ 13) :
    readLine (l ++ 13 :: 10 :: rest) = some (l, rest) := by
  induction l with
  | nil => simp [readLine]
  | cons b l ih =>
    have hb := h b (by simp)
    have := ih (fun x hx => h x (by simp [hx]))
    simp [readLine, hb.1, hb.2, this]

inductive All2 {β γ : Type} (P : β → γ → Prop) : List β → List γ → Prop
  | nil : All2 P [] []
  | cons {x y xs ys} : P x y → All2 P xs ys → All2 P (x :: xs) (y :: ys)

theorem All2.length_eq {β γ : Type} {P : β → γ → Prop} {xs ys} (h : All2 P xs ys) : ys.length = xs.length := by
  induction h with
  | nil => rfl
  | cons _ _ ih => simp [ih]

theorem All2.get {β γ : Type} {P : β → γ → Prop} {xs : List β} {ys : List γ} (h : All2 P xs ys) :
    ∀ k (hk : k < xs.length) (hk' : k < ys.length), P xs[k] ys[k] := by
  induction h with
  | nil => intro k hk; simp at hk
  | cons hxy _ ih =>
    intro k hk hk'
    cases k with
    | zero => simpa using hxy
    | succ k => simpa using ih k (by simpa using hk) (by simpa using hk')

theorem All2.forall_right {β γ : Type} {P : β → γ → Prop} {Q : γ → Prop} (hPQ : ∀ x y, P x y → Q y) {xs ys}
    (h : All2 P xs ys) : ∀ y ∈ ys, Q y := by
  induction h with
  | nil => intro y hy; simp at hy
  | cons hxy _ ih =>
    intro y hy
    simp at hy
    rcases hy with rfl | hy
    · exact hPQ _ _ hxy
    · exact ih y hy

theorem All2.imp {β γ : Type} {P Q : β → γ → Prop} (hPQ : ∀ x y, P x y → Q x y) {xs ys} (h : All2 P xs ys) : All2 Q xs ys := by
  induction h with
  | nil => exact .nil
  | cons hxy _ ih => exact .cons (hPQ _ _ hxy) ih

theorem All2.exists_left {β γ : Type} {P : β → γ → Prop} {xs : List β} {ys : List γ} (h : All2 P xs ys) :
    ∀ x ∈ xs, ∃ y, P x y := by
  induction h with
  | nil => intro x hx; simp at hx
  | cons hxy _ ih =>
    intro x hx
    simp at hx
    rcases hx with rfl | hx
    · exact ⟨_, hxy⟩
    · exact ih x hx

theorem All2.of_map {β γ : Type} {P : β → γ → Prop} (f : β → γ) : ∀ (xs : List β), (∀ x ∈ xs, P x (f x)) →
    All2 P xs (xs.map f)
  | [], _ => .nil
  | x :: xs, h => .cons (h x (by simp)) (All2.of_map f xs (fun y hy => h y (by simp [hy])))

theorem All2.imp_mem {β γ : Type} {P Q : β → γ → Prop} {xs ys} (h : All2 P xs ys) :
    (∀ x ∈ xs, ∀ y, P x y → Q x y) → All2 Q xs ys := by
  induction h with
  | nil => exact fun _ => .nil
  | cons hxy _ ih => exact fun hPQ => .cons (hPQ _ (by simp) _ hxy) (ih (fun x hx => hPQ x (by simp [hx])))

theorem mapM_ok_cons {β γ : Type} (f : β → R γ) (x : β) (xs : List β) (ys : List γ)
    (h : (x :: xs).mapM f = .ok ys) : ∃ y ys', ys = y :: ys' ∧ f x = .ok y ∧ xs.mapM f = .ok ys' := by
  rw [List.mapM_cons] at h
  cases hx : f x with
  | error e => simp [hx, bind, Except.bind] at h
  | ok y =>
    cases hxs : xs.mapM f with
    | error e => simp [hx, hxs, bind, Except.bind] at h
    | ok ys' =>
      simp [hx, hxs, bind, Except.bind, pure, Except.pure] at h
      exact ⟨y, ys', h.symm, rfl, rfl⟩

theorem mapM_ok_forall₂ {β γ : Type} (f : β → R γ) :
    ∀ (xs : List β) (ys : List γ), xs.mapM f = .ok ys → All2 (fun x y => f x = .ok y) xs ys := by
  intro xs
  induction xs with
  | nil => intro ys h; simp [pure, Except.pure] at h; subst h; exact .nil
  | cons x xs ih =>
    intro ys h
    obtain ⟨y, ys', rfl, hx, hxs⟩ := mapM_ok_cons f x xs ys h
    exact .cons hx (ih ys' hxs)

section
variable (m : MeshVal α)

theorem WF_items (h : m.WF = true) : ∀ a ∈ m.attrs, ∀ x ∈ a.data, x.length = a.dim := by
  intro a ha x hx
  simp only [MeshVal.WF, Bool.and_eq_true, List.all_eq_true, decide_eq_true_eq] at h
  have := h.1.1.2 a ha
  exact this.2 x hx

theorem find_mem' (m : MeshVal α) (dim : Nat) (name : Bytes) (a : Attr α) (h : m.find dim name = some a) :
    a ∈ m.attrs ∧ a.dim = dim ∧ a.name = name := by
  simp only [MeshVal.find] at h
  have h1 := List.mem_of_find?_eq_some h
  have h2 := List.find?_some h
  simp at h2
  exact ⟨h1, h2.1, h2.2⟩

theorem find_mem (dim : Nat) (name : Bytes) (a : Attr α) (h : m.find dim name = some a) :
    a ∈ m.attrs ∧ a.dim = dim :=
  ⟨(find_mem' m dim name a h).1, (find_mem' m dim name a h).2.1⟩

theorem writerValues_length (hwf : m.WF = true) (w : WProp) (i : Nat) (comps : List α)
    (h : writerValues m w i = .ok comps) : comps.length = w.names.length := by
  simp only [writerValues] at h
  split at h
  · simp at h
  · rename_i a ha
    split at h
    · simp at h
    · rename_i x hx
      simp at h; subst h
      obtain ⟨hmem, hdim⟩ := find_mem m _ _ a ha
      have := WF_items m hwf a hmem x (List.mem_of_getElem? hx)
      simp [this, hdim, WProp.dim]

theorem writerTypes_cons (w : WProp) (ws : List WProp) :
    writerTypes (w :: ws) = w.names.map (fun _ => w.ty) ++ writerTypes ws := by
  simp [writerTypes]

theorem vertexRecord_length (hwf : m.WF = true) (i : Nat) :
    ∀ (ws : List WProp) (r : List α), vertexRecord m ws i = .ok r → r.length = (writerTypes ws).length := by
  intro ws
  induction ws with
  | nil => intro r h; simp [vertexRecord, pure, Except.pure, bind, Except.bind] at h; subst h; simp [writerTypes]
  | cons w ws ih =>
    intro r h
    simp only [vertexRecord] at h
    cases hp : (w :: ws).mapM (fun w => writerValues m w i) with
    | error e => simp [hp, bind, Except.bind] at h
    | ok parts =>
      simp [hp, bind, Except.bind, pure, Except.pure] at h
      subst h
      obtain ⟨y, ys', rfl, hy, hys⟩ := mapM_ok_cons _ w ws parts hp
      have h1 := writerValues_length m hwf w i y hy
      have h2 := ih ys'.flatten (by simp [vertexRecord, hys, bind, Except.bind, pure, Except.pure])
      simp [writerTypes_cons, h1, h2]

end

theorem chunk3_length : ∀ (l : List Int) (tris : List (Int × Int × Int)), chunk3 l = some tris → tris.length = l.length / 3
  | [], tris, h => by simp [chunk3] at h; simp [← h]
  | [_], _, h => by simp [chunk3] at h
  | [_, _], _, h => by simp [chunk3] at h
  | a :: b :: c :: rest, tris, h => by
    simp only [chunk3, Option.map_eq_some_iff] at h
    obtain ⟨t, ht, rfl⟩ := h
    have := chunk3_length rest t ht
    simp [this]; omega

theorem atIdx_mem {β : Type} (l : List β) (i : Int) (x : β) (h : atIdx l i = .ok x) : x ∈ l := by
  simp only [atIdx] at h
  split at h
  · simp at h
  · split at h
    · rename_i y hy; simp at h; subst h; exact List.mem_of_getElem? hy
    · simp at h

theorem flatten_map_length {β : Type} (g : β → Bytes) (k : Nat) (l : List β) (h : ∀ x ∈ l, (g x).length = k) :
    ((l.map g).flatten).length = l.length * k := by
  rw [← List.flatMap_def]; exact Chunks.length_flatMap_const g k l h

def faceSize (hasTex : Bool) : Nat := 13 + (if hasTex then 25 else 0)

theorem encFaceBin_length (c : Coding α) (e : Endian) (f : WFace α) :
    (encFaceBin c e f).length = 13 + (match f.uv with | none => 0 | some uv => 1 + 4 * uv.length) := by
  obtain ⟨⟨i0, i1, i2⟩, uv⟩ := f
  cases uv with
  | none => simp [encFaceBin, put32_length]
  | some uv =>
    simp only [encFaceBin, List.length_append, put32_length, List.length_cons, List.length_nil]
    rw [flatten_map_length _ 4 uv fun v _ => put32_length e _]; omega

/-- a face record carries per-corner texture coordinates (six values) exactly when the mesh has `TexCoord` -/
def UvOk (hasTex : Bool) (f : WFace α) : Prop :=
  match f.uv with | none => hasTex = false | some uv => hasTex = true ∧ uv.length = 6

/-- a face record that was built: the three corner lookups succeeded, and the record is made of them -/
theorem faceRecord_inv (data : List (List α)) (t : Int × Int × Int) (f : WFace α)
    (h : (do let p1 ← atIdx data t.1; let p2 ← atIdx data t.2.1; let p3 ← atIdx data t.2.2
             pure (⟨(t.1, t.2.1, t.2.2), some (p1 ++ p2 ++ p3)⟩ : WFace α)) = .ok f) :
    ∃ p1 p2 p3, atIdx data t.1 = .ok p1 ∧ atIdx data t.2.1 = .ok p2 ∧ atIdx data t.2.2 = .ok p3 ∧
      f = ⟨(t.1, t.2.1, t.2.2), some (p1 ++ p2 ++ p3)⟩ := by
  cases h1 : atIdx data t.1 with
  | error e => simp [h1, bind, Except.bind] at h
  | ok p1 =>
    cases h2 : atIdx data t.2.1 with
    | error e => simp [h1, h2, bind, Except.bind] at h
    | ok p2 =>
      cases h3 : atIdx data t.2.2 with
      | error e => simp [h1, h2, h3, bind, Except.bind] at h
      | ok p3 =>
        simp [h1, h2, h3, bind, Except.bind, pure, Except.pure] at h
        exact ⟨p1, p2, p3, rfl, rfl, rfl, by rw [← h, List.append_assoc]⟩

theorem faceRecords_shape (m : MeshVal α) (hwf : m.WF = true) (tris : List (Int × Int × Int)) (fs : List (WFace α))
    (h : faceRecords m tris = .ok fs) :
    fs.map (·.idx) = tris ∧ ∀ f ∈ fs, UvOk (hasTexCoord m) f := by
  simp only [faceRecords] at h
  cases htex : m.find 2 texCoordAttr with
  | none =>
    simp [htex] at h; subst h
    have hT : hasTexCoord m = false := by simp [hasTexCoord, MeshVal.has, htex]
    refine ⟨by simp [Function.comp_def], ?_⟩
    intro f hf
    simp only [List.mem_map] at hf
    obtain ⟨t, _, rfl⟩ := hf
    simp [UvOk, hT]
  | some tex =>
    have hT : hasTexCoord m = true := by simp [hasTexCoord, MeshVal.has, htex]
    simp only [htex] at h
    obtain ⟨hmem, hdim⟩ := find_mem m _ _ tex htex
    have hitem : ∀ x ∈ tex.data, x.length = 2 := fun x hx => by rw [WF_items m hwf tex hmem x hx, hdim]
    have hall := mapM_ok_forall₂ _ tris fs h
    have hone : ∀ (t : Int × Int × Int) (f : WFace α),
        (do let p1 ← atIdx tex.data t.1; let p2 ← atIdx tex.data t.2.1; let p3 ← atIdx tex.data t.2.2
            pure (⟨(t.1, t.2.1, t.2.2), some (p1 ++ p2 ++ p3)⟩ : WFace α)) = .ok f → f.idx = t ∧ UvOk true f := by
      intro t f hxy
      obtain ⟨p1, p2, p3, h1, h2, h3, rfl⟩ := faceRecord_inv tex.data t f hxy
      have l1 := hitem p1 (atIdx_mem _ _ _ h1)
      have l2 := hitem p2 (atIdx_mem _ _ _ h2)
      have l3 := hitem p3 (atIdx_mem _ _ _ h3)
      exact ⟨rfl, by simp [UvOk, l1, l2, l3]⟩
    rw [hT]
    clear h
    induction hall with
    | nil => simp
    | @cons t f ts fs' hxy _ ih =>
      obtain ⟨h1, h2⟩ := hone t f hxy
      refine ⟨by simp [h1, ih.1], ?_⟩
      intro g hg
      simp at hg
      rcases hg with rfl | hg
      · exact h2
      · exact ih.2 g hg


theorem All2.flatten_length {β : Type} {P : β → Bytes → Prop} (k : Nat) (hP : ∀ x y, P x y → y.length = k) {xs ys}
    (h : All2 P xs ys) : ys.flatten.length = xs.length * k := by
  rw [Chunks.length_flatten_const k ys (h.forall_right hP), h.length_eq]

theorem forall₂_flatten_length {β : Type} (P : β → Bytes → Prop) (k : Nat) (hP : ∀ x y, P x y → y.length = k) :
    ∀ (xs : List β) (ys : List Bytes), All2 P xs ys → ys.flatten.length = xs.length * k :=
  fun _ _ h => h.flatten_length k hP

theorem chunk3Floor_of_chunk3 : ∀ (l : List Int) (t : List (Int × Int × Int)), chunk3 l = some t → chunk3Floor l = t
  | [], t, h => by simp [chunk3] at h; subst h; rfl
  | [_], _, h => by simp [chunk3] at h
  | [_, _], _, h => by simp [chunk3] at h
  | a :: b :: c :: rest, t, h => by
    simp only [chunk3, Option.map_eq_some_iff] at h
    obtain ⟨t', ht', rfl⟩ := h
    simp [chunk3Floor, chunk3Floor_of_chunk3 rest t' ht']

theorem chunk3_of_mod : ∀ (n : Nat) (l : List Int), l.length = 3 * n → ∃ t, chunk3 l = some t
  | 0, l, h => by have : l = [] := List.length_eq_zero_iff.mp (by simpa using h); subst this; exact ⟨[], rfl⟩
  | n + 1, l, h => by
    match l, h with
    | a :: b :: c :: rest, h =>
      obtain ⟨t, ht⟩ := chunk3_of_mod n rest (by simp at h; omega)
      exact ⟨(a, b, c) :: t, by simp [chunk3, ht]⟩

theorem WF_tri (m : MeshVal α) (hwf : m.WF = true) (htri : m.topo = .triangle) : ∃ t, chunk3 m.indices = some t := by
  simp only [MeshVal.WF, Bool.and_eq_true, Bool.or_eq_true, decide_eq_true_eq] at hwf
  have hmod : m.indices.length % 3 = 0 := by
    rcases hwf.2 with h | h
    · rw [htri] at h; simp at h
    · exact h
  exact chunk3_of_mod (m.indices.length / 3) m.indices (by omega)

theorem triCount_faces (m : MeshVal α) (tris : List (Int × Int × Int)) (fs : List (WFace α))
    (hc : chunk3 m.indices = some tris) (hidx : fs.map (·.idx) = tris) : triCount m = fs.length := by
  have h2 : fs.length = tris.length := by rw [← hidx]; simp
  simp [triCount, h2, chunk3_length _ _ hc]

section
variable (c : Coding α) (e : Endian) (cfg : WriterCfg) (m : MeshVal α)

/-- the records `writeBody` encodes: one per vertex, each with one value per header property -/
theorem vertexRecords_shape (hwf : m.WF = true) (ws : List WProp) (recs : List (List α))
    (hrecs : (List.range m.attrLen).mapM (vertexRecord m ws) = .ok recs) :
    recs.length = m.attrLen ∧ (∀ vals ∈ recs, vals.length = (writerTypes ws).length) ∧
      ∀ v (hv : v < recs.length), vertexRecord m ws v = .ok recs[v] := by
  have h := mapM_ok_forall₂ _ _ _ hrecs
  have hlen : recs.length = m.attrLen := by simpa using h.length_eq
  refine ⟨hlen, h.forall_right (fun i r hir => vertexRecord_length m hwf i ws r hir), ?_⟩
  intro v hv
  have := h.get v (by simpa [hlen] using hv) hv
  rwa [List.getElem_range] at this

/-- the vertex block of a binary body: one record of Σ size(header types) bytes per vertex -/
theorem vertexBlock_length (hwf : m.WF = true) (ws : List WProp)
    (recs : List (List α)) (vbytes : List Bytes)
    (hrecs : (List.range m.attrLen).mapM (vertexRecord m ws) = .ok recs)
    (hv : All2 (fun r bs => encRecordBin c e (writerTypes ws) r = .ok bs) recs vbytes) :
    vbytes.flatten.length = m.attrLen * ((writerTypes ws).map SType.size).sum := by
  obtain ⟨hlen, hr, -⟩ := vertexRecords_shape m hwf ws recs hrecs
  rw [← hlen]
  clear hrecs hlen
  induction hv with
  | nil => simp
  | cons hxy _ ih =>
    have := ih (fun r h => hr r (by simp [h]))
    simp only [List.flatten_cons, List.length_append, List.length_cons, Nat.succ_mul,
      encRecordBin_length c e _ _ _ (hr _ (by simp)) hxy, this]
    omega


theorem writeBody_core_of_ok {α : Type} (c : Coding α) (cfg : WriterCfg) (m : MeshVal α) (body : Bytes)
    (h : writeBody c cfg m = .ok body) :
    namesOK (((selectWriters cfg m).map WProp.names).flatten) = true ∧ writeBodyCore c cfg m = .ok body := by
  simp only [writeBody] at h
  split at h
  · rename_i hn; exact ⟨hn, h⟩
  · simp at h

/-- the record encoder of a format -/
def encRecordF : Format → List SType → List α → R Bytes
  | .ascii => encRecordAscii c
  | f => encRecordBin c f.endian

/-- the face encoder of a format -/
def encFaceF : Format → WFace α → Bytes
  | .ascii => encFaceAscii c
  | f => encFaceBin c f.endian

/-- the triples the writer walks: the binary path panics on a ragged index buffer, the ASCII path drops the remainder -/
def trisF : Format → List Int → Option (List (Int × Int × Int))
  | .ascii, l => some (chunk3Floor l)
  | _, l => chunk3 l

theorem encRecordF_bin {f : Format} (hf : f ≠ .ascii) : encRecordF c f = encRecordBin c f.endian := by
  cases f <;> first | rfl | exact absurd rfl hf

theorem encFaceF_bin {f : Format} (hf : f ≠ .ascii) : encFaceF c f = encFaceBin c f.endian := by
  cases f <;> first | rfl | exact absurd rfl hf

theorem writeBodyCore_eq :
    writeBodyCore c cfg m = (do
      let recs ← (List.range m.attrLen).mapM (vertexRecord m (selectWriters cfg m))
      let vbytes ← recs.mapM (encRecordF c cfg.format (writerTypes (selectWriters cfg m)))
      if m.topo ≠ .triangle then pure vbytes.flatten else
      match trisF cfg.format m.indices with
      | none => .error .panic
      | some tris => do
        let fs ← faceRecords m tris
        pure (vbytes.flatten ++ (fs.map (encFaceF c cfg.format)).flatten)) := by
  unfold writeBodyCore
  cases cfg.format <;> rfl

/-- the pieces of a written body, any format: the vertex records (values and encodings) and the face records -/
theorem writeBody_parts (body : Bytes) (h : writeBody c cfg m = .ok body) :
    ∃ (recs : List (List α)) (vbytes : List Bytes) (fs : List (WFace α)),
      (List.range m.attrLen).mapM (vertexRecord m (selectWriters cfg m)) = .ok recs ∧
      All2 (fun vals rec => encRecordF c cfg.format (writerTypes (selectWriters cfg m)) vals = .ok rec) recs vbytes ∧
      body = vbytes.flatten ++ (fs.map (encFaceF c cfg.format)).flatten ∧
      (m.topo ≠ .triangle → fs = []) ∧
      (m.topo = .triangle → ∃ tris, trisF cfg.format m.indices = some tris ∧ faceRecords m tris = .ok fs) := by
  obtain ⟨_, h⟩ := writeBody_core_of_ok c cfg m body h
  rw [writeBodyCore_eq] at h
  cases hrecs : (List.range m.attrLen).mapM (vertexRecord m (selectWriters cfg m)) with
  | error e => simp [hrecs, bind, Except.bind] at h
  | ok recs =>
    cases hv : recs.mapM (encRecordF c cfg.format (writerTypes (selectWriters cfg m))) with
    | error e => simp [hrecs, hv, bind, Except.bind] at h
    | ok vbytes =>
      simp only [hrecs, hv, bind, Except.bind] at h
      have hall := mapM_ok_forall₂ _ _ _ hv
      by_cases htri : m.topo = .triangle
      · simp only [htri, ne_eq, not_true_eq_false, if_false] at h
        cases hc : trisF cfg.format m.indices with
        | none => simp [hc] at h
        | some tris =>
          cases hfs : faceRecords m tris with
          | error e => simp [hc, hfs] at h
          | ok fs =>
            simp [hc, hfs, pure, Except.pure] at h
            exact ⟨recs, vbytes, fs, rfl, hall, h.symm, fun hne => absurd htri hne, fun _ => ⟨tris, rfl, hfs⟩⟩
      · simp [htri, pure, Except.pure] at h
        exact ⟨recs, vbytes, [], rfl, hall, by simp [h], fun _ => rfl, fun ht => absurd ht htri⟩

/-- what `writeBody c cfg m = .ok body` says of a well-formed mesh: `body` is the encodings `vbytes` of the vertex records
`recs` followed by the encodings of the face records `fs`, and these have the shape the header announces -/
structure Written (body : Bytes) (recs : List (List α)) (vbytes : List Bytes) (fs : List (WFace α)) : Prop where
  recs_ok : (List.range m.attrLen).mapM (vertexRecord m (selectWriters cfg m)) = .ok recs
  enc : All2 (fun vals rec => encRecordF c cfg.format (writerTypes (selectWriters cfg m)) vals = .ok rec) recs vbytes
  body_eq : body = vbytes.flatten ++ (fs.map (encFaceF c cfg.format)).flatten
  len : recs.length = m.attrLen
  width : ∀ vals ∈ recs, vals.length = (writerTypes (selectWriters cfg m)).length
  rec_at : ∀ v (hv : v < recs.length), vertexRecord m (selectWriters cfg m) v = .ok recs[v]
  point : m.topo ≠ .triangle → fs = []
  tri : m.topo = .triangle → ∃ tris, chunk3 m.indices = some tris ∧ faceRecords m tris = .ok fs ∧ fs.map (·.idx) = tris
  uv : ∀ f ∈ fs, UvOk (hasTexCoord m) f
  count : fs.length = if m.topo = .triangle then triCount m else 0

theorem written (body : Bytes) (hwf : m.WF = true) (h : writeBody c cfg m = .ok body) :
    ∃ recs vbytes fs, Written c cfg m body recs vbytes fs := by
  obtain ⟨recs, vbytes, fs, hrecs, hall, hbody, hpt, htri⟩ := writeBody_parts c cfg m body h
  obtain ⟨hlen, hvl, hrec⟩ := vertexRecords_shape m hwf _ recs hrecs
  have htri' : m.topo = .triangle → ∃ tris, chunk3 m.indices = some tris ∧ faceRecords m tris = .ok fs ∧
      fs.map (·.idx) = tris := fun ht => by
    obtain ⟨tris, hc, hfs⟩ := htri ht
    obtain ⟨tris', hc'⟩ := WF_tri m hwf ht
    -- the ASCII writer walks `chunk3Floor`, which on a well-formed mesh is `chunk3`
    have : tris = tris' := by
      cases hfm : cfg.format <;> rw [hfm] at hc
      · exact Option.some.inj (hc.symm.trans (congrArg some (chunk3Floor_of_chunk3 _ _ hc')))
      all_goals exact Option.some.inj (hc.symm.trans hc')
    subst this
    exact ⟨tris, hc', hfs, (faceRecords_shape m hwf tris fs hfs).1⟩
  refine ⟨recs, vbytes, fs, hrecs, hall, hbody, hlen, hvl, hrec, hpt, htri', ?_, ?_⟩
  · by_cases ht : m.topo = .triangle
    · obtain ⟨tris, _, hfs, _⟩ := htri' ht
      exact (faceRecords_shape m hwf tris fs hfs).2
    · simp [hpt ht]
  · by_cases ht : m.topo = .triangle
    · obtain ⟨tris, hc, _, hidx⟩ := htri' ht
      simp [ht, triCount_faces m tris fs hc hidx]
    · simp [ht, hpt ht]

section
variable {c cfg m} {body : Bytes} {recs : List (List α)} {vbytes : List Bytes} {fs : List (WFace α)}
  (W : Written c cfg m body recs vbytes fs)
include W

theorem Written.enc_bin (hf : cfg.format ≠ .ascii) :
    All2 (fun vals rec => encRecordBin c cfg.format.endian (writerTypes (selectWriters cfg m)) vals = .ok rec) recs vbytes :=
  encRecordF_bin c hf ▸ W.enc

theorem Written.body_bin (hf : cfg.format ≠ .ascii) :
    body = vbytes.flatten ++ (fs.map (encFaceBin c cfg.format.endian)).flatten :=
  encFaceF_bin c hf ▸ W.body_eq

theorem Written.enc_ascii (hf : cfg.format = .ascii) :
    All2 (fun vals rec => encRecordAscii c (writerTypes (selectWriters cfg m)) vals = .ok rec) recs vbytes := by
  have := W.enc; rwa [hf] at this

theorem Written.body_ascii (hf : cfg.format = .ascii) :
    body = vbytes.flatten ++ (fs.map (encFaceAscii c)).flatten := by
  have := W.body_eq; rwa [hf] at this

end

theorem writeBody_binary_length (body : Bytes)
    (hf : cfg.format ≠ .ascii) (hwf : m.WF = true) (h : writeBody c cfg m = .ok body) :
    body.length = m.attrLen * ((writerTypes (selectWriters cfg m)).map SType.size).sum
      + (if m.topo = .triangle then triCount m * faceSize (hasTexCoord m) else 0) := by
  obtain ⟨recs, vbytes, fs, W⟩ := written c cfg m body hwf h
  have hvb := vertexBlock_length c cfg.format.endian m hwf _ recs vbytes W.recs_ok (W.enc_bin hf)
  have hfb : ((fs.map (encFaceBin c cfg.format.endian)).flatten).length = fs.length * faceSize (hasTexCoord m) :=
    flatten_map_length _ (faceSize (hasTexCoord m)) _ (fun f hf' => by
      have := W.uv f hf'
      rw [encFaceBin_length]
      cases hu : f.uv <;> cases hT : hasTexCoord m <;> simp_all [UvOk, faceSize])
  rw [W.body_bin hf, List.length_append, hvb, hfb, W.count]
  split <;> simp

end

/-- what a structured header says the binary body occupies: per element, count × record size, where the face
record size is that of a triangle (count field + 3 indices, + count field + 6 texture coordinates) -/
def describedSize (h : Header) : Option Nat :=
  match h.elements with
  | [ve] => (scalarProps ve.props).map (fun ps => ve.count.toNat * (ps.map (fun p => p.2.size)).sum)
  | [ve, fe] => do
    let ps ← scalarProps ve.props
    let lp ← listProps fe.props
    pure (ve.count.toNat * (ps.map (fun p => p.2.size)).sum + fe.count.toNat * faceSizeTri lp)
  | _ => none

theorem scalarProps_append (a b : List PProp) (pa pb : List (Bytes × SType))
    (ha : scalarProps a = some pa) (hb : scalarProps b = some pb) : scalarProps (a ++ b) = some (pa ++ pb) := by
  induction a generalizing pa with
  | nil => simp [scalarProps] at ha; subst ha; simpa using hb
  | cons p ps ih =>
    cases p with
    | list n c t => simp [scalarProps] at ha
    | scalar n t =>
      simp only [scalarProps, Option.map_eq_some_iff] at ha
      obtain ⟨q, hq, rfl⟩ := ha
      simp [scalarProps, ih q hq]

theorem scalarProps_wprop (w : WProp) : scalarProps w.props = some (w.names.map (fun n => (n, w.ty))) := by
  simp only [WProp.props]
  induction w.names with
  | nil => simp [scalarProps]
  | cons n ns ih => simp [scalarProps, ih]

theorem scalarProps_writers (ws : List WProp) :
    ∃ ps, scalarProps ((ws.map WProp.props).flatten) = some ps ∧ ps.map (fun p => p.2) = writerTypes ws := by
  induction ws with
  | nil => exact ⟨[], by simp [scalarProps], by simp [writerTypes]⟩
  | cons w ws ih =>
    obtain ⟨ps, h1, h2⟩ := ih
    refine ⟨w.names.map (fun n => (n, w.ty)) ++ ps, ?_, ?_⟩
    · simpa using scalarProps_append _ _ _ _ (scalarProps_wprop w) h1
    · simp [writerTypes_cons, h2, Function.comp_def]

theorem faceSizeTri_faceProps (m : MeshVal α) :
    ∃ lp, listProps (faceProps m) = some lp ∧ faceSizeTri lp = faceSize (hasTexCoord m) := by
  cases h : hasTexCoord m with
  | false => exact ⟨[(nm "vertex_indices", .uchar, .int)], by simp [faceProps, h, listProps], by decide +kernel⟩
  | true =>
    exact ⟨[(nm "vertex_indices", .uchar, .int), (nm "texcoord", .uchar, .float)], by simp [faceProps, h, listProps], by decide +kernel⟩


/-- one component of an ASCII reader: the token at column `o`, parsed with `parseF` (`strconv.ParseFloat(·, 32)`) -/
def colRead (c : Coding α) (toks : List Bytes) (o : Nat) : R α :=
  match toks[o]? with
  | none => .error .panic
  | some t => match c.parseF t with | none => .error .err | some v => .ok v

/-- `builtAsciiVectorNPropertyReader.Read`: one `colRead` per component, then `norm8` exactly when the reader's type is `uchar` -/
theorem readAscii_eq (c : Coding α) (b : Built) (toks : List Bytes) :
    b.readAscii c toks = (do
      let vals ← b.offs.mapM (colRead c toks)
      pure (if b.ty = some .uchar then vals.map (c.norm8 b.names.length) else vals)) := rfl

/-- A concrete coding over `Nat` ("float32" keeps the value mod 2³², 8-bit mod 256, normalisation is `/ 255`, decimal
printing / parsing of naturals).  Used only to instantiate hypotheses in `example`s (non-vacuity) and to make the
counterexample theorems concrete. -/
def toyCoding : Coding Nat where
  f32 x := UInt32.ofNat x
  unf32 b := b.toNat
  f64 x := UInt64.ofNat x
  unf64 b := b.toNat
  u8 x := UInt8.ofNat x
  i32 x := UInt32.ofNat x
  ofInt i := i.toNat
  div255 x := x / 255
  mulInv255 x := x / 255
  showF x := showNat x
  showI x := showNat x
  parseF s := parseDigits s 0
  parseF64 s := parseDigits s 0

open PlySpec
/-- what decoding a reference-encoded datum yields (binary) -/
def datumRead (c : Coding α) (dim : Nat) : Datum α → α
  | .u8 b => c.norm8 dim (c.ofInt b.toNat)
  | .i32 i => c.ofInt (toInt32 (ofInt32 i))
  | .f32 x => c.unf32 (c.f32 x)
  | .f64 x => c.unf64 (c.f64 x)

section
variable (c : Coding α) (e : Endian)

theorem datum_bin_length (d : Datum α) : (d.bin c e).length = d.ty.size := by
  cases d <;> simp [Datum.bin, Datum.ty, SType.size, put32_length, put64_length]

theorem dec_datum (dim : Nat) (d : Datum α) (pre post : Bytes) :
    decScalarBin c e dim d.ty (pre ++ d.bin c e ++ post) pre.length = .ok (datumRead c dim d) := by
  cases d <;> simp [Datum.bin, Datum.ty, decScalarBin, datumRead, put32_get32, put64_get64, List.append_assoc]

/-- reference encoding, any property order and type mix: decoding at the offset computed from the HEADER types yields
the `i`-th datum of the record -/
theorem spec_field_at_offset (dim : Nat) :
    ∀ (r : List (Datum α)) (pre post : Bytes) (i : Nat) (hi : i < r.length),
      decScalarBin c e dim r[i].ty (pre ++ (r.map (Datum.bin c e)).flatten ++ post)
        (pre.length + offsetOf (r.map Datum.ty) i) = .ok (datumRead c dim r[i]) := by
  intro r
  induction r with
  | nil => intro _ _ i hi; simp at hi
  | cons d r ih =>
    intro pre post i hi
    cases i with
    | zero =>
      have := dec_datum c e dim d pre ((r.map (Datum.bin c e)).flatten ++ post)
      simpa [offsetOf, List.append_assoc] using this
    | succ i =>
      have := ih (pre ++ d.bin c e) post i (by simpa using hi)
      simpa [offsetOf, List.append_assoc, datum_bin_length, Nat.add_assoc] using this

theorem spec_record_length (r : List (Datum α)) :
    ((r.map (Datum.bin c e)).flatten).length = ((r.map Datum.ty).map SType.size).sum := by
  induction r with
  | nil => simp
  | cons d r ih => simp [datum_bin_length, ih]

end

/-- a built reader whose components sit at the header positions `idxs`, all of one type -/
structure Located (tys : List SType) (b : Built) (idxs : List Nat) : Prop where
  ty : ∃ t, b.ty = some t ∧ ∀ i ∈ idxs, ∃ h : i < tys.length, tys[i] = t
  offs : b.offs = idxs.map (offsetOf tys)

/-- what the located readers produce for one record: for each reader the data of its components -/
def rowOf (c : Coding α) (bl : List (Built × List Nat)) (r : List (Datum α)) : List (List α) :=
  bl.map (fun p => p.2.filterMap (fun i => (r[i]?).map (datumRead c p.1.names.length)))

/-- a located reader, on a buffer in which header field `i` decodes at its header offset to the value `g i`, reads the
values at its positions -/
theorem readBin_of_fields (c : Coding α) (e : Endian) (tys : List SType) (b : Built) (idxs : List Nat)
    (hl : Located tys b idxs) (buf : Bytes) (g : Nat → Option α)
    (hg : ∀ i (hi : i < tys.length), ∃ x, g i = some x ∧
      decScalarBin c e b.names.length tys[i] buf (offsetOf tys i) = .ok x) :
    b.readBin c e buf = .ok (idxs.filterMap g) := by
  obtain ⟨t, hty, hidx⟩ := hl.ty
  simp only [Built.readBin, hty, hl.offs]
  clear hl
  induction idxs with
  | nil => simp [pure, Except.pure]
  | cons i idxs ih =>
    obtain ⟨hi, hti⟩ := hidx i (by simp)
    obtain ⟨x, hgx, hd⟩ := hg i hi
    rw [hti] at hd
    have ih' := ih (fun j hj => hidx j (by simp [hj]))
    simp [List.mapM_cons, hd, ih', hgx, bind, Except.bind, pure, Except.pure]

theorem mapM_readers {ρ : Type} (read : Built → R ρ) (out : Built × List Nat → ρ) : ∀ (bl : List (Built × List Nat)),
    (∀ p ∈ bl, read p.1 = .ok (out p)) → (bl.map (·.1)).mapM read = .ok (bl.map out)
  | [], _ => rfl
  | p :: bl, h => by
    simp [List.mapM_cons, h p (by simp), mapM_readers read out bl (fun q hq => h q (by simp [hq])), bind, Except.bind,
      pure, Except.pure]

/-- the vertex loop over a block of records, each of `total` bytes and each read by the built readers as `row x`: the rows
in order, and the rest of the input untouched -/
theorem readVertsBin_block {β : Type} (c : Coding α) (e : Endian) (total : Nat) (built : List Built)
    (row : β → List (List α)) (xs : List β) (encs : List Bytes) (rest : Bytes)
    (h : All2 (fun x bs => bs.length = total ∧ built.mapM (fun b => b.readBin c e bs) = .ok (row x)) xs encs) :
    readVertsBin c e total built xs.length (encs.flatten ++ rest) = .ok (xs.map row, rest) := by
  induction h with
  | nil => simp [readVertsBin]
  | @cons x bs xs encs hx _ ih =>
    have hnot : ¬ ((bs ++ (encs.flatten ++ rest)).length < total) := by simp [hx.1]
    simp only [List.map_cons, List.flatten_cons, List.length_cons, readVertsBin, List.append_assoc, hnot, if_false,
      List.take_left' hx.1, hx.2, bind, Except.bind, List.drop_left' hx.1, ih]
    rfl

theorem readBin_located (c : Coding α) (e : Endian) (tys : List SType) (b : Built) (idxs : List Nat)
    (hl : Located tys b idxs) (r : List (Datum α)) (hr : r.map Datum.ty = tys) (post : Bytes) :
    b.readBin c e ((r.map (Datum.bin c e)).flatten ++ post)
      = .ok (idxs.filterMap (fun i => (r[i]?).map (datumRead c b.names.length))) := by
  subst hr
  refine readBin_of_fields c e _ b idxs hl _ _ (fun i hi => ?_)
  have hi' : i < r.length := by simpa using hi
  have hf := spec_field_at_offset c e b.names.length r [] post i hi'
  exact ⟨datumRead c b.names.length r[i], by simp [List.getElem?_eq_getElem hi'], by simpa using hf⟩

/-- the vertex block of a reference-encoded file (binary, both byte orders): whatever the order and types of the
properties, the vertex loop of the reader decodes, for every record, exactly the data of the components each located
reader claims, and leaves the rest of the input untouched -/
theorem spec_vertex_block (c : Coding α) (e : Endian) (tys : List SType) (bl : List (Built × List Nat))
    (hbl : ∀ p ∈ bl, Located tys p.1 p.2) :
    ∀ (verts : List (List (Datum α))) (rest : Bytes), (∀ r ∈ verts, r.map Datum.ty = tys) →
      readVertsBin c e ((tys.map SType.size).sum) (bl.map (·.1)) verts.length
          ((verts.map (fun r => (r.map (Datum.bin c e)).flatten)).flatten ++ rest)
        = .ok (verts.map (rowOf c bl), rest) := by
  intro verts rest hty
  refine readVertsBin_block c e _ _ (rowOf c bl) verts _ rest (All2.of_map _ _ (fun r hr => ⟨?_, ?_⟩))
  · rw [spec_record_length, hty r hr]
  · refine mapM_readers _ _ bl (fun p hp => ?_)
    simpa using readBin_located c e tys p.1 p.2 (hbl p hp) r (hty r hr) []


/-- representable data: the decoded value is the datum's value (`Datum.val`); an in-range integer, a float32 /
float64 that survives its own coding (`datumRead_eq_val` adds: read by a reader that is not the 2-vector, which normalises
8-bit values by `·(1/255)`) -/
def Datum.Exact (c : Coding α) : Datum α → Prop
  | .u8 _ => True
  | .i32 i => -(2 ^ 31 : Int) ≤ i ∧ i < 2 ^ 31
  | .f32 x => c.unf32 (c.f32 x) = x
  | .f64 x => c.unf64 (c.f64 x) = x

theorem toInt32_ofInt32' (i : Int) (h : -(2 ^ 31 : Int) ≤ i ∧ i < 2 ^ 31) : toInt32 (ofInt32 i) = i := by
  simp only [toInt32, ofInt32, UInt32.toNat_ofNat']
  split <;> omega

theorem datumRead_eq_val (c : Coding α) (dim : Nat) (hdim : dim ≠ 2) (d : Datum α) (h : Datum.Exact c d) :
    datumRead c dim d = d.val c := by
  cases d <;> simp_all [datumRead, Datum.val, Datum.Exact, Coding.norm8, toInt32_ofInt32']

theorem foldl_inv {σ β : Type} (P : σ → Prop) (f : σ → β → σ) (l : List β) (s : σ)
    (hf : ∀ s x, x ∈ l → P s → P (f s x)) (h : P s) : P (l.foldl f s) :=
  List.foldlRecOn l f h fun s hs x hx => hf s x hx hs



def unclaimedStep (binary : Bool) (props : List (Bytes × SType)) (acc : List Built) (p : Bytes × SType) : List Built :=
  if acc.any (fun b => b.claims p.1) then acc
  else match buildV1 binary props p.1 p.1 with
    | some b => acc ++ [b]
    | none => acc

section
variable (binary : Bool)

theorem addUnclaimed_eq (props : List (Bytes × SType)) (built : List Built) :
    addUnclaimed binary props built = props.foldl (unclaimedStep binary props) built := rfl

/-- reader.go:422-440 / 494-512 in closed form: over properties with distinct names the fold appends, in order, the
scalar reader of every property that no reader GIVEN AT THE START claims (a reader added on the way claims one name, that
of its own property, which does not come again) -/
theorem foldl_unclaimed_closed (props : List (Bytes × SType)) :
    ∀ (l : List (Bytes × SType)) (acc : List Built), (l.map (·.1)).Nodup →
      l.foldl (unclaimedStep binary props) acc
        = acc ++ (l.filter (fun p => !acc.any (fun b => b.claims p.1))).filterMap (fun p => buildV1 binary props p.1 p.1)
  | [], acc, _ => by simp
  | p :: l, acc, hn => by
    have hc := List.nodup_cons.mp (by simpa using hn : (p.1 :: l.map (·.1)).Nodup)
    simp only [List.foldl_cons, unclaimedStep]
    by_cases hany : acc.any (fun b => b.claims p.1) = true
    · simp only [hany, if_true]
      rw [foldl_unclaimed_closed props l acc hc.2, List.filter_cons_of_neg (by simp [hany])]
    · have hany' : acc.any (fun b => b.claims p.1) = false := by simpa using hany
      simp only [hany', Bool.false_eq_true, if_false]
      rw [List.filter_cons_of_pos (by simp [hany']), List.filterMap_cons]
      cases hb : buildV1 binary props p.1 p.1 with
      | none => exact foldl_unclaimed_closed props l acc hc.2
      | some b =>
        have hbn := (buildV1_go_shape binary p.1 p.1 props 0 b (by simpa [buildV1] using hb)).1
        have hfc : l.filter (fun q => !(acc ++ [b]).any (fun b => b.claims q.1))
            = l.filter (fun q => !acc.any (fun b => b.claims q.1)) := by
          apply List.filter_congr
          intro q hq
          have hne : q.1 ≠ p.1 := fun e => hc.1 (e ▸ List.mem_map_of_mem hq)
          simp [List.any_append, Built.claims, hbn, hne]
        simp only [foldl_unclaimed_closed props l (acc ++ [b]) hc.2, hfc, List.append_assoc, List.singleton_append]

/-- an unrecognised property gets its own scalar reader, through `addUnclaimed`: if no reader built from the configured
property readers claims the name of the property at header position `i` (names pairwise distinct), the reader list
`addUnclaimed` returns contains the scalar reader named after the property, located at Σ strides before it -/
theorem addUnclaimed_adds (props : List (Bytes × SType)) (built : List Built)
    (hnd : (props.map (·.1)).Nodup) (i : Nat) (hi : i < props.length)
    (hun : ∀ b ∈ built, b.claims props[i].1 = false) :
    (⟨props[i].1, [props[i].1], [locOf binary props i], if binary then some props[i].2 else none⟩ : Built)
      ∈ addUnclaimed binary props built := by
  have hfirst : ∀ j (hj : j < i), (props[j]'(by omega)).1 ≠ props[i].1 := by
    intro j hj heq
    exact (List.pairwise_iff_getElem.mp hnd) j i (by simp; omega) (by simpa using hi) hj (by simpa using heq)
  rw [addUnclaimed_eq, foldl_unclaimed_closed binary props props built hnd]
  refine List.mem_append_right _ (List.mem_filterMap.mpr ⟨props[i], List.mem_filter.mpr ⟨List.getElem_mem hi, ?_⟩,
    buildV1_spec binary props[i].1 props[i].1 props i hi rfl hfirst⟩)
  simpa using hun


end

/-- the inner loop of `scanProp`: the component blocks for one property -/
def scanInner (pname : Bytes) (pty : SType) (l : List (Bytes × Nat)) (s : Scan) : Scan :=
  l.foldl (fun acc x => scanComponent pname pty false acc x.2 x.1) s

theorem scanInner_no_match (pname : Bytes) (pty : SType) :
    ∀ (l : List (Bytes × Nat)) (s : Scan), (∀ x ∈ l, x.1 ≠ pname) → scanInner pname pty l s = s := by
  intro l
  induction l with
  | nil => intro s _; rfl
  | cons x l ih =>
    intro s h
    have hx : pname ≠ x.1 := fun e => h x (by simp) e.symm
    simp only [scanInner, List.foldl_cons, scanComponent, hx, ne_eq, not_false_eq_true, if_true]
    exact ih s (fun y hy => h y (by simp [hy]))

theorem mem_zipIdx_fst {β : Type} : ∀ (l : List β) (k : Nat) (x : β × Nat), x ∈ l.zipIdx k → x.1 ∈ l := by
  intro l
  induction l with
  | nil => intro k x h; simp at h
  | cons a l ih =>
    intro k x h
    simp only [List.zipIdx_cons, List.mem_cons] at h
    rcases h with rfl | h
    · simp
    · simp [ih _ _ h]

/-- what the scan does with a property that IS component `k`: the first member met fixes the type; a member of another
type gets no slot (reader_vector3.go "mixed scalar types") -/
def hitStep (binary : Bool) (s : Scan) (k : Nat) (t : SType) : Scan :=
  { offs := s.offs.set k (if s.ty.getD t = t then some s.pos else none), ty := some (s.ty.getD t),
    pos := s.pos + stride binary t }

theorem scanComponent_self (n : Bytes) (t : SType) (s : Scan) (k : Nat) :
    scanComponent n t false s k n
      = { s with offs := s.offs.set k (if s.ty.getD t = t then some s.pos else none), ty := some (s.ty.getD t) } := by
  cases h : s.ty <;> simp [scanComponent, h]

/-- the property matches exactly component `pre.length`, whatever type the scan has met so far -/
theorem scanInner_at (n : Bytes) (t : SType) (pre post : List Bytes) (hpre : n ∉ pre) (hpost : n ∉ post) (s : Scan) :
    scanInner n t ((pre ++ n :: post).zipIdx) s
      = { s with offs := s.offs.set pre.length (if s.ty.getD t = t then some s.pos else none), ty := some (s.ty.getD t) } := by
  have hz : (pre ++ n :: post).zipIdx = pre.zipIdx ++ (n, pre.length) :: post.zipIdx (pre.length + 1) := by
    simp [List.zipIdx_append, List.zipIdx_cons]
  have h1 := scanInner_no_match n t pre.zipIdx s (fun x hx e => hpre (e ▸ mem_zipIdx_fst _ _ x hx))
  have h2 := fun s' => scanInner_no_match n t (post.zipIdx (pre.length + 1)) s'
    (fun x hx e => hpost (e ▸ mem_zipIdx_fst _ _ x hx))
  simp only [scanInner] at h1 h2
  simp only [scanInner, hz, List.foldl_append, List.foldl_cons, h1, scanComponent_self, h2]


section
variable (binary : Bool)

theorem scanProp_eq (names : List Bytes) (s : Scan) (p : Bytes × SType) :
    scanProp binary names s p =
      { scanInner p.1 p.2 names.zipIdx s with
        pos := (scanInner p.1 p.2 names.zipIdx s).pos + stride binary p.2 } := by
  rfl

theorem scanProp_no_match (names : List Bytes) (s : Scan) (p : Bytes × SType) (h : p.1 ∉ names) :
    scanProp binary names s p = { s with pos := s.pos + stride binary p.2 } := by
  have hi := scanInner_no_match p.1 p.2 names.zipIdx s
    (fun x hx e => h (by rw [← e]; exact mem_zipIdx_fst _ _ x hx))
  rw [scanProp_eq, hi]

theorem nodup_take_drop (names : List Bytes) (hn : names.Nodup) (k : Nat) (hk : k < names.length) :
    names = names.take k ++ names[k] :: names.drop (k + 1) ∧ names[k] ∉ names.take k ∧ names[k] ∉ names.drop (k + 1) := by
  have hs : names = names.take k ++ names[k] :: names.drop (k + 1) := by simp
  refine ⟨hs, ?_, ?_⟩
  · intro hmem
    obtain ⟨j, hj, hje⟩ := List.getElem_of_mem hmem
    have hj' : j < k := by simp at hj; omega
    have := (List.pairwise_iff_getElem.mp hn) j k (by omega) hk hj'
    simp [List.getElem_take] at hje
    exact this hje
  · intro hmem
    obtain ⟨j, hj, hje⟩ := List.getElem_of_mem hmem
    simp at hj
    have := (List.pairwise_iff_getElem.mp hn) k (k + 1 + j) hk (by omega) (by omega)
    simp at hje
    exact this hje.symm

/-- THE step of the scan: a property that is no component only advances the position; component `k` does `hitStep` -/
theorem scanProp_cases (names : List Bytes) (hn : names.Nodup) (s : Scan) (p : Bytes × SType) :
    (p.1 ∉ names ∧ scanProp binary names s p = { s with pos := s.pos + stride binary p.2 }) ∨
    (∃ k, ∃ hk : k < names.length, names[k] = p.1 ∧ scanProp binary names s p = hitStep binary s k p.2) := by
  by_cases hm : p.1 ∈ names
  · obtain ⟨k, hk, hke⟩ := List.getElem_of_mem hm
    obtain ⟨hs, h1, h2⟩ := nodup_take_drop names hn k hk
    refine .inr ⟨k, hk, hke, ?_⟩
    have hlen : (names.take k).length = k := by simp; omega
    have := scanInner_at names[k] p.2 (names.take k) (names.drop (k + 1)) h1 h2 s
    rw [← hs, hlen, hke] at this
    rw [scanProp_eq, this]; rfl
  · exact .inl ⟨hm, scanProp_no_match binary names s p hm⟩


theorem locOf_succ (p : Bytes × SType) (ps : List (Bytes × SType)) (j : Nat) :
    locOf binary (p :: ps) (j + 1) = stride binary p.2 + locOf binary ps j := by
  simp [locOf]

theorem idx_inj {β : Type} (l : List β) (hn : l.Nodup) (k k' : Nat) (hk : k < l.length) (hk' : k' < l.length)
    (h : l[k] = l[k']) : k = k' := by
  rcases Nat.lt_trichotomy k k' with h' | h' | h'
  · exact absurd h ((List.pairwise_iff_getElem.mp hn) k k' hk hk' h')
  · exact h'
  · exact absurd h.symm ((List.pairwise_iff_getElem.mp hn) k' k hk' hk h')

/-- the scan `buildVec` runs over the element's properties, from state `s` to `s'`: `names` are the reader's components,
`t` the type of the first of them the scan meets (or the type `s` carries already) -/
structure ScanFold (binary : Bool) (names : List Bytes) (t : SType) (ps : List (Bytes × SType)) (s s' : Scan) : Prop where
  len : s'.offs.length = names.length
  /-- a component found at header position `i` with the scan's type gets the location of that position -/
  hit : ∀ k (hk : k < names.length) i (hi : i < ps.length), ps[i] = (names[k], t) →
    s'.offs[k]? = some (some (s.pos + locOf binary ps i))
  /-- a component found with another type gets none ("mixed scalar types") -/
  mixed : ∀ k (hk : k < names.length), s.offs[k]? = some none → ∀ i (hi : i < ps.length), ps[i].1 = names[k] → ps[i].2 ≠ t →
    s'.offs[k]? = some none
  /-- a component absent from the header keeps its slot -/
  miss : ∀ k (hk : k < names.length), (∀ p ∈ ps, p.1 ≠ names[k]) → s'.offs[k]? = s.offs[k]?
  ty_some : (∃ p ∈ ps, p.1 ∈ names) → s'.ty = some t
  ty_same : (∀ p ∈ ps, p.1 ∉ names) → s'.ty = s.ty

theorem scan_fold (names : List Bytes) (hn : names.Nodup) (t : SType) :
    ∀ (ps : List (Bytes × SType)) (s : Scan), (ps.map (·.1)).Nodup →
      (s.ty = some t ∨ (s.ty = none ∧ ∀ p, ps.find? (fun p => decide (p.1 ∈ names)) = some p → p.2 = t)) →
      s.offs.length = names.length →
      ScanFold binary names t ps s (ps.foldl (scanProp binary names) s) := by
  intro ps
  induction ps with
  | nil =>
    intro s _ _ hlen
    exact ⟨hlen, fun k hk i hi => by simp at hi, fun k hk _ i hi => by simp at hi, fun _ _ _ => rfl,
      fun ⟨p, hp, _⟩ => by simp at hp, fun _ => rfl⟩
  | cons p ps ih =>
    intro s hnd hfirst hlen
    have hc := List.nodup_cons.mp (by simpa using hnd : (p.1 :: ps.map (·.1)).Nodup)
    have hpnot : ∀ q ∈ ps, q.1 ≠ p.1 := fun q hq e => hc.1 (e ▸ List.mem_map_of_mem hq)
    simp only [List.foldl_cons]
    rcases scanProp_cases binary names hn s p with ⟨hmem, e⟩ | ⟨k0, hk0, hk0e, e⟩ <;> rw [e]
    · -- not a component of this reader
      have H := ih { s with pos := s.pos + stride binary p.2 } hc.2
        (hfirst.imp id (fun ⟨h, hf⟩ => ⟨h, fun q hq => hf q (by simpa [List.find?_cons, hmem] using hq)⟩)) hlen
      refine ⟨H.len, ?_, ?_, fun k hk hall => H.miss k hk (fun q hq => hall q (by simp [hq])), ?_,
        fun hall => H.ty_same (fun q hq => hall q (by simp [hq]))⟩
      · intro k hk i hi hpe
        cases i with
        | zero => simp at hpe; exact absurd (by rw [hpe]; exact List.getElem_mem hk) hmem
        | succ j =>
          rw [H.hit k hk j (by simpa using hi) (by simpa using hpe), locOf_succ]
          simp [Nat.add_assoc]
      · intro k hk h0 i hi hname hty
        cases i with
        | zero => simp at hname; exact absurd (hname ▸ List.getElem_mem hk) hmem
        | succ j => exact H.mixed k hk h0 j (by simpa using hi) (by simpa using hname) (by simpa using hty)
      · rintro ⟨q, hq, hqm⟩
        simp at hq
        rcases hq with rfl | hq
        · exact absurd hqm hmem
        · exact H.ty_some ⟨q, hq, hqm⟩
    · -- the property is component k0; after it the scan's type is `t`
      have hmem : p.1 ∈ names := hk0e ▸ List.getElem_mem hk0
      have hgd : s.ty.getD p.2 = t := by
        rcases hfirst with h | ⟨h, hf⟩
        · simp [h]
        · simp [h, hf p (by simp [hmem])]
      have H := ih (hitStep binary s k0 p.2) hc.2 (.inl (by simp [hitStep, hgd])) (by simpa [hitStep] using hlen)
      have hnone : ∀ q ∈ ps, q.1 ≠ names[k0] := fun q hq => by rw [hk0e]; exact hpnot q hq
      have htyfin : (ps.foldl (scanProp binary names) (hitStep binary s k0 p.2)).ty = some t := by
        by_cases hex : ∃ q ∈ ps, q.1 ∈ names
        · exact H.ty_some hex
        · rw [H.ty_same (fun q hq hqm => hex ⟨q, hq, hqm⟩)]; simp [hitStep, hgd]
      have hk0s : k0 < s.offs.length := by omega
      refine ⟨H.len, ?_, ?_, ?_, fun _ => htyfin, fun hall => absurd hmem (hall p (by simp))⟩
      · intro k hk i hi hpe
        cases i with
        | zero =>
          simp at hpe
          have hkk : k = k0 := idx_inj names hn k k0 hk hk0 (by rw [hk0e, hpe])
          subst hkk
          rw [H.miss k hk hnone]
          have hgd' : s.ty.getD t = t := by have := hgd; rw [hpe] at this; exact this
          simp [hitStep, hpe, hgd', locOf, List.getElem?_set_self hk0s]
        | succ j =>
          rw [H.hit k hk j (by simpa using hi) (by simpa using hpe), locOf_succ]
          simp [hitStep, Nat.add_assoc]
      · intro k hk h0 i hi hname hty
        cases i with
        | zero =>
          simp at hname hty
          have hkk : k = k0 := idx_inj names hn k k0 hk hk0 (by rw [hk0e, hname])
          subst hkk
          rw [H.miss k hk hnone]
          have : ¬ t = p.2 := fun e => hty e.symm
          simp [hitStep, hgd, this, List.getElem?_set_self hk0s]
        | succ j =>
          refine H.mixed k hk ?_ j (by simpa using hi) (by simpa using hname) (by simpa using hty)
          have hkk : k0 ≠ k := by
            intro e; subst e
            exact hnone _ (List.getElem_mem (by simpa using hi)) (by simpa using hname)
          simpa [hitStep, List.getElem?_set_ne hkk] using h0
      · intro k hk hall
        have hkk : k0 ≠ k := by
          intro e; subst e
          exact hall p (by simp) hk0e.symm
        rw [H.miss k hk (fun q hq => hall q (by simp [hq]))]
        simp [hitStep, List.getElem?_set_ne hkk]


theorem allSome_of {β : Type} : ∀ (l : List (Option β)) (g : List β), l.length = g.length →
    (∀ k (hk : k < g.length), l[k]? = some (some g[k])) → allSome l = some g := by
  intro l
  induction l with
  | nil => intro g hl _; cases g <;> simp_all [allSome]
  | cons x l ih =>
    intro g hl h
    cases g with
    | nil => simp at hl
    | cons y g =>
      have h0 := h 0 (by simp)
      simp at h0
      subst h0
      have := ih g (by simpa using hl) (fun k hk => by have := h (k + 1) (by simpa using hk); simpa [List.getElem_cons_succ] using this)
      simp [allSome, this]

theorem eq_of_fst_eq_of_nodup (props : List (Bytes × SType)) (hnd : (props.map (·.1)).Nodup) (p q : Bytes × SType)
    (hp : p ∈ props) (hq : q ∈ props) (h : p.1 = q.1) : p = q := by
  obtain ⟨i, hi, rfl⟩ := List.getElem_of_mem hp
  obtain ⟨j, hj, rfl⟩ := List.getElem_of_mem hq
  by_cases hij : i = j
  · subst hij; rfl
  · exfalso
    rcases Nat.lt_or_gt_of_ne hij with hlt | hgt
    · exact (List.pairwise_iff_getElem.mp hnd) i j (by simpa using hi) (by simpa using hj) hlt (by simpa using h)
    · exact (List.pairwise_iff_getElem.mp hnd) j i (by simpa using hj) (by simpa using hi) hgt (by simpa using h.symm)

theorem allSome_none {β : Type} : ∀ (l : List (Option β)) (k : Nat), l[k]? = some none → allSome l = none := by
  intro l
  induction l with
  | nil => intro k h; simp at h
  | cons x l ih =>
    intro k h
    cases k with
    | zero => simp at h; subst h; rfl
    | succ k =>
      have := ih k (by simpa using h)
      cases x <;> simp [allSome, this]

/-! a component absent from the header keeps its slot — for ANY component names and property types -/

theorem scanComponent_other (pname : Bytes) (pty : SType) (f : Bool) (s : Scan) (k' : Nat) (cname : Bytes) (k : Nat)
    (h : k' = k → cname ≠ pname) : (scanComponent pname pty f s k' cname).offs[k]? = s.offs[k]? := by
  simp only [scanComponent]
  split
  · rfl
  · rename_i hne
    have hkk : k' ≠ k := fun e => h e (by simp at hne; exact hne.symm)
    simp [List.getElem?_set_ne hkk]

theorem scanInner_other (pname : Bytes) (pty : SType) (k : Nat) (l : List (Bytes × Nat)) (s : Scan)
    (hl : ∀ x ∈ l, x.2 = k → x.1 ≠ pname) : (scanInner pname pty l s).offs[k]? = s.offs[k]? :=
  foldl_inv (fun s' => s'.offs[k]? = s.offs[k]?) _ l s
    (fun s' x hx h => by rw [scanComponent_other _ _ _ _ _ _ _ (hl x hx)]; exact h) rfl

theorem scanProp_other (names : List Bytes) (s : Scan) (p : Bytes × SType) (k : Nat)
    (hk : k < names.length) (h : p.1 ≠ names[k]) : (scanProp binary names s p).offs[k]? = s.offs[k]? := by
  rw [scanProp_eq]
  apply scanInner_other
  intro x hx hxk
  obtain ⟨c, i⟩ := x
  have := List.mem_zipIdx_iff_getElem?.mp hx
  simp only at hxk
  subst hxk
  rw [List.getElem?_eq_getElem hk] at this
  simp at this
  subst this
  exact fun e => h e.symm

theorem scan_absent (names : List Bytes) (k : Nat) (hk : k < names.length) (ps : List (Bytes × SType))
    (s : Scan) (habs : ∀ p ∈ ps, p.1 ≠ names[k]) : (ps.foldl (scanProp binary names) s).offs[k]? = s.offs[k]? :=
  foldl_inv (fun s' => s'.offs[k]? = s.offs[k]?) _ ps s
    (fun s' p hp h => by rw [scanProp_other binary names s' p k hk (habs p hp)]; exact h) rfl

/-- a vector reader one of whose names is absent from the header is not built — whatever the property types -/
theorem buildVec_absent (props : List (Bytes × SType)) (attr : Bytes) (names : List Bytes)
    (k : Nat) (hk : k < names.length) (habs : ∀ p ∈ props, p.1 ≠ names[k]) :
    buildVec binary props attr names = none := by
  have := scan_absent binary names k hk props ⟨names.map (fun _ => none), none, 0⟩ habs
  simp only [List.getElem?_map, List.getElem?_eq_getElem hk, Option.map_some] at this
  simp only [buildVec, allSome_none _ k this]

theorem buildVec_spec (props : List (Bytes × SType)) (attr : Bytes) (names : List Bytes)
    (hn : names.Nodup) (hne : names ≠ []) (hnd : (props.map (·.1)).Nodup) (t : SType) (idx : List Nat)
    (hlen : idx.length = names.length)
    (hidx : ∀ k (hk : k < names.length), ∃ hi : idx[k]'(by omega) < props.length, props[idx[k]'(by omega)] = (names[k], t)) :
    buildVec binary props attr names = some ⟨attr, names, idx.map (locOf binary props), some t⟩ := by
  have huni : ∀ p ∈ props, p.1 ∈ names → p.2 = t := by
    intro p hp hm
    obtain ⟨k, hk, hke⟩ := List.getElem_of_mem hm
    obtain ⟨hi, hpe⟩ := hidx k hk
    have := eq_of_fst_eq_of_nodup props hnd p _ hp (List.getElem_mem hi) (by rw [hpe]; exact hke.symm)
    rw [this, hpe]
  have H := scan_fold binary names hn t props ⟨names.map (fun _ => none), none, 0⟩ hnd
    (.inr ⟨rfl, fun p hp => huni p (List.mem_of_find?_eq_some hp) (by simpa using List.find?_some hp)⟩) (by simp)
  have hty : (props.foldl (scanProp binary names) ⟨names.map (fun _ => none), none, 0⟩).ty = some t := by
    apply H.ty_some
    have h0 : 0 < names.length := by cases names <;> simp_all
    obtain ⟨hi, hpe⟩ := hidx 0 h0
    exact ⟨_, List.getElem_mem hi, by rw [hpe]; exact List.getElem_mem h0⟩
  have hoffs : allSome (props.foldl (scanProp binary names) ⟨names.map (fun _ => none), none, 0⟩).offs
      = some (idx.map (locOf binary props)) := by
    apply allSome_of
    · simp [H.len, hlen]
    · intro k hk
      have hk' : k < names.length := by simpa [hlen] using hk
      obtain ⟨hi, hpe⟩ := hidx k hk'
      have := H.hit k hk' (idx[k]'(by omega)) hi hpe
      simpa using this
  simp only [buildVec, hoffs, hty]

end

example : buildVec true [(nm "z", .float), (nm "q", .uchar), (nm "x", .float), (nm "y", .float)] (nm "Position")
    [nm "x", nm "y", nm "z"] = some ⟨nm "Position", [nm "x", nm "y", nm "z"], [5, 9, 0], some .float⟩ := by decide +kernel


/-- the vector reader `buildVec_spec` builds (binary) is `Located` at the header positions `idx`, so `spec_vertex_block` applies -/
theorem buildVec_located (props : List (Bytes × SType)) (attr : Bytes) (names : List Bytes)
    (hn : names.Nodup) (hne : names ≠ []) (hnd : (props.map (·.1)).Nodup) (t : SType) (idx : List Nat)
    (hlen : idx.length = names.length)
    (hidx : ∀ k (hk : k < names.length), ∃ hi : idx[k]'(by omega) < props.length, props[idx[k]'(by omega)] = (names[k], t)) :
    ∃ b, buildVec true props attr names = some b ∧ b.attr = attr ∧ b.names = names ∧ Located (props.map (·.2)) b idx := by
  refine ⟨_, buildVec_spec true props attr names hn hne hnd t idx hlen hidx, rfl, rfl, ?_, ?_⟩
  · refine ⟨t, rfl, ?_⟩
    intro i hi
    obtain ⟨k, hk, rfl⟩ := List.getElem_of_mem hi
    obtain ⟨h1, h2⟩ := hidx k (by omega)
    exact ⟨by simpa using h1, by simp [h2]⟩
  · simp [locOf_binary]

end PlyLemmas
end PolyVerif
