/-
  The ASCII encoding: what the library writer prints, under the reader's line scanner, `strings.Fields`, the
  per-property readers and the list readers.  Core Lean only.

  ONE named trusted law bundle enters: `GoFloatText c` — what Go's strconv does to the number texts the writer prints
  (see its docstring).  Everything else (lines, tokens, integers, positions, assembly) is proved.
-/
import PolyVerif.Model.Ply
import PolyVerif.Lemmas.Ply
import PolyVerif.Lemmas.PlyHeader
import PolyVerif.Lemmas.PlyCompose
import PolyVerif.Lemmas.PlyNames
import PolyVerif.Lemmas.PlyUV

namespace PolyVerif
namespace PlyAscii
open Ply PlyLemmas PlyHeader PlyCompose

variable {α : Type}

/-- the trusted law of the float text (Go `strconv`, as used by formats/ply).  It asserts, for the number texts the writer
prints (`showF v` = `strconv.AppendFloat(v,'f',-1,64)`, `showI v` = `strconv.AppendInt(int64(v),10)`) and the parser
EVERY ASCII vertex reader calls whatever the declared type (`parseF s` = `strconv.ParseFloat(s, 32)` widened to float64):
* `tokF`, `tokI`: the printed text is non-empty and contains no white space;
* `parse32_showF`: `ParseFloat(FormatFloat(v,'f',-1,64), 32)` SUCCEEDS; its value is called `imgF v`.  Nothing more is
  assumed of `imgF` here.  (For Go, `imgF v = float64(float32(v))` for every `v` that is not EXACTLY half-way between two
  adjacent float32 values: the shortest round-tripping text lies within half a float64 ulp of `v`, hence on the same
  side of every float32 rounding boundary, these boundaries being float64 values other than `v`.  At an exact half-way
  value the text is rounded on its own: `v = 1 + 2⁻²⁴` prints as `1.0000000596046448` and parses at 32 bits to
  `1 + 2⁻²³`, while `float32(v) = 1` — observation "ascii float32 tie", proposed witness op
  `c04.holds.ascii_float32_tie_witness` (the harness does not emit it).  So the equation `imgF v = unf32 (f32 v)` is a GUARD of the agreement corollary
  (`AgreeGuards`), not part of the law.)
* `parse32_showI`: the integer text parses at bit size 32 to SOME value `imgI v` (for Go: the float32 image of
  `int64(v)`, NOT in general the binary `int` image — known finding C08 ascii-float32-precision);
* `parse32_showU8`: the texts `0 … 255` parse to those numbers;
* `parse64_showF`: `strconv.ParseFloat(FormatFloat(v,'f',-1,64), 64) = v` (shortest round-trip text): the ASCII face
  reader keeps texture coordinates at float64 precision (the binary one narrows to float32).
The driver's `Coding Float` instance is corresponded with strconv on every run; the law itself is not proved. -/
structure GoFloatText (c : Coding α) where
  inRange : α → Prop
  imgF : α → α
  imgI : α → α
  tokF : ∀ v, Tok (c.showF v)
  tokI : ∀ v, Tok (c.showI v)
  parse32_showF : ∀ v, inRange v → c.parseF (c.showF v) = some (imgF v)
  parse32_showI : ∀ v, c.parseF (c.showI v) = some (imgI v)
  parse32_showU8 : ∀ n : Nat, n < 256 → c.parseF (showNat n) = some (c.ofInt n)
  parse64_showF : ∀ v, c.parseF64 (c.showF v) = some v

/-- a printed line: no LF inside, not ending in CR (so `dropCR` keeps it), non-empty -/
structure PLine (l : Bytes) : Prop where
  noLF : ∀ b ∈ l, b ≠ 10
  noCR : dropCR l = l
  ne : l ≠ []

theorem scanLines_go_line (l : Bytes) (hl : ∀ b ∈ l, b ≠ 10) : ∀ (rest cur : Bytes),
    scanLines.go (l ++ 10 :: rest) cur = dropCR (cur.reverse ++ l) :: scanLines.go rest [] := by
  induction l with
  | nil => intro rest cur; simp [scanLines.go]
  | cons b l ih =>
    intro rest cur
    have hb := hl b (by simp)
    simp only [List.cons_append, scanLines.go, hb, if_false]
    rw [ih (fun x hx => hl x (by simp [hx]))]
    simp

theorem scanLines_flat : ∀ (ls : List Bytes), (∀ l ∈ ls, PLine l) → scanLines (flatLines ls) = ls := by
  intro ls
  induction ls with
  | nil => intro _; simp [scanLines, flatLines, scanLines.go]
  | cons l ls ih =>
    intro h
    have hl := h l (by simp)
    have := ih (fun x hx => h x (by simp [hx]))
    simp only [scanLines] at this ⊢
    rw [flatLines_cons, scanLines_go_line l hl.noLF]
    simp [hl.noCR, this]

/-- printed lines survive any filter that keeps the non-empty lines -/
theorem filter_plines (p : Bytes → Bool) (hp : ∀ l, l ≠ [] → p l = true) (ls : List Bytes) (h : ∀ l ∈ ls, PLine l) :
    ls.filter p = ls :=
  List.filter_eq_self.mpr (fun l hl => hp l (h l hl).ne)

theorem filter_nonempty_plines (ls : List Bytes) (h : ∀ l ∈ ls, PLine l) :
    ls.filter (fun l => ¬ l.isEmpty) = ls :=
  filter_plines _ (by intro l hl; cases l <;> simp_all) ls h

theorem fields_intercalate : ∀ (toks : List Bytes), (∀ t ∈ toks, Tok t) → fields (intercalate sp toks) = toks := by
  intro toks
  induction toks with
  | nil => intro _; rfl
  | cons t toks ih =>
    intro h
    have ht := h t (by simp)
    cases toks with
    | nil => simp [intercalate, fields, fields_tok_end t ht]
    | cons u us =>
      have := ih (fun x hx => h x (by simp [hx]))
      simp only [intercalate, fields, sp, List.append_assoc, List.singleton_append] at this ⊢
      rw [fields_tok_sp t ht, this]

theorem dropCR_id (l : Bytes) (h : ∀ r, l.reverse ≠ 13 :: r) : dropCR l = l := by
  unfold dropCR
  split
  · rename_i r heq; exact absurd heq (h r)
  · rfl

theorem tok_rev_ne_cr (t : Bytes) (ht : Tok t) (pre : Bytes) : ∀ r, (pre ++ t).reverse ≠ 13 :: r := by
  intro r heq
  have hsp : isSpace 13 = true := by decide +kernel
  cases hr : t.reverse with
  | nil => have : t = [] := by simpa using hr
           exact ht.1 this
  | cons b r' =>
    rw [List.reverse_append, hr] at heq
    simp at heq
    have hb : b ∈ t := by
      have : b ∈ t.reverse := by rw [hr]; simp
      simpa using this
    have := ht.2 b hb
    rw [heq.1, hsp] at this
    exact absurd this (by simp)

theorem tok_last_not_space (t : Bytes) (ht : Tok t) : dropCR t = t :=
  dropCR_id t (by have := tok_rev_ne_cr t ht []; simpa using this)

theorem intercalate_last (toks : List Bytes) (hne : toks ≠ []) (h : ∀ t ∈ toks, Tok t) :
    ∃ pre t, Tok t ∧ intercalate sp toks = pre ++ t ∧ intercalate sp toks ≠ [] := by
  induction toks with
  | nil => exact absurd rfl hne
  | cons t toks ih =>
    cases toks with
    | nil =>
      have ht := h t (by simp)
      exact ⟨[], t, ht, by simp [intercalate], by simp [intercalate]; exact ht.1⟩
    | cons u us =>
      obtain ⟨pre, t', ht', he, _⟩ := ih (by simp) (fun x hx => h x (by simp [hx]))
      refine ⟨t ++ sp ++ pre, t', ht', by simp [intercalate, he, List.append_assoc], ?_⟩
      have := (h t (by simp)).1
      simp [intercalate]; exact fun h' => absurd h' this

theorem dropCR_append_tok (pre t : Bytes) (ht : Tok t) : dropCR (pre ++ t) = pre ++ t :=
  dropCR_id _ (tok_rev_ne_cr t ht pre)

/-- a line of blank-joined tokens is a printed line whose fields are the tokens -/
theorem token_line (toks : List Bytes) (hne : toks ≠ []) (h : ∀ t ∈ toks, Tok t) :
    PLine (intercalate sp toks) ∧ fields (intercalate sp toks) = toks := by
  obtain ⟨pre, t, ht, he, hnn⟩ := intercalate_last toks hne h
  refine ⟨⟨?_, by rw [he]; exact dropCR_append_tok pre t ht, hnn⟩, fields_intercalate toks h⟩
  -- no LF: every byte is a token byte or a blank
  have : ∀ (ts : List Bytes), (∀ t ∈ ts, Tok t) → ∀ b ∈ intercalate sp ts, b ≠ 10 := by
    intro ts
    induction ts with
    | nil => intro _ b hb; simp [intercalate] at hb
    | cons x xs ih =>
      intro hx b hb
      cases xs with
      | nil =>
        simp [intercalate] at hb
        exact (tok_no_nl x (hx x (by simp)) b hb).1
      | cons y ys =>
        simp only [intercalate, List.mem_append, sp, List.mem_cons, List.not_mem_nil, or_false] at hb
        rcases hb with (hb | hb) | hb
        · exact (tok_no_nl x (hx x (by simp)) b hb).1
        · subst hb; decide +kernel
        · exact ih (fun t ht => hx t (by simp [ht])) b hb
  exact this toks h

theorem parseInt32_showInt (n : Nat) (hn : n < 2 ^ 31) : parseInt32 (showInt (n : Int)) = some (n : Int) :=
  parseIntBits_showInt 32 n (by have : (n : Int) < 2 ^ 31 := by exact_mod_cast hn
                                simpa using this)

theorem showInt_tok_int (i : Int) : Tok (showInt i) := by
  unfold showInt
  split
  · refine ⟨by simp, ?_⟩
    intro b hb
    simp only [List.mem_cons] at hb
    rcases hb with rfl | hb
    · decide
    · exact (showNat_tok _).2 b hb
  · exact showNat_tok _

section
variable (c : Coding α)

theorem encRecordAscii_toks (tys : List SType) (vals : List α) (rec : Bytes)
    (h : encRecordAscii c tys vals = .ok rec) :
    ∃ toks, (tys.zip vals).mapM (fun (p : SType × α) => encScalarAscii c p.1 p.2) = .ok toks ∧
      rec = (if toks = [] then [] else intercalate sp toks ++ nl) := by
  simp only [encRecordAscii] at h
  cases ht : (tys.zip vals).mapM (fun (p : SType × α) => encScalarAscii c p.1 p.2) with
  | error e => simp [ht, bind, Except.bind] at h
  | ok toks =>
    simp [ht, bind, Except.bind, pure, Except.pure] at h
    exact ⟨toks, rfl, h.symm⟩

/-- a printed scalar is a single word (only the token part of the law is used) -/
theorem encScalarAscii_tok (L : GoFloatText c) (t : SType) (v : α) (tok : Bytes)
    (h : encScalarAscii c t v = .ok tok) : Tok tok := by
  cases t <;> simp [encScalarAscii] at h <;> subst h <;>
    first | exact showNat_tok _ | exact L.tokI v | exact L.tokF v

/-- a printed scalar whose value is in range is a text the 32-bit parser accepts -/
theorem encScalarAscii_parses (L : GoFloatText c) (t : SType) (v : α) (hr : L.inRange v) (tok : Bytes)
    (h : encScalarAscii c t v = .ok tok) : ∃ y, c.parseF tok = some y := by
  cases t <;> simp [encScalarAscii] at h <;> subst h <;>
    first | exact ⟨_, L.parse32_showU8 _ (c.u8 v).toNat_lt⟩ | exact ⟨_, L.parse32_showI v⟩
          | exact ⟨_, L.parse32_showF v hr⟩


end

/-- an ASCII reader: its columns are the header positions `idxs`, and it normalises 8-bit values exactly when its
properties are `uchar` (true for the vector readers; for the scalar reader, which never learns the type — known finding —
only when the property is not `uchar`) -/
structure LocatedA (tys : List SType) (b : Built) (idxs : List Nat) : Prop where
  offs : b.offs = idxs
  inr : ∀ i ∈ idxs, ∃ h : i < tys.length, (b.ty = some .uchar ↔ tys[i] = .uchar)

theorem toks_at (c : Coding α) (tys : List SType) (vals : List α) (toks : List Bytes) (hv : vals.length = tys.length)
    (ht : (tys.zip vals).mapM (fun (p : SType × α) => encScalarAscii c p.1 p.2) = .ok toks) :
    toks.length = tys.length ∧ ∀ i (hi : i < tys.length) (hi' : i < vals.length) (hi'' : i < toks.length),
      encScalarAscii c tys[i] vals[i] = .ok toks[i] := by
  have hall := mapM_ok_forall₂ _ _ _ ht
  have hlen : toks.length = tys.length := by
    have := hall.length_eq; simp [hv] at this; exact this
  refine ⟨hlen, ?_⟩
  intro i hi hi' hi''
  have := All2.get hall i (by simp; omega) hi''
  simpa using this

section
variable (c : Coding α)

/-- a reader whose columns are `idxs`, on a token list in which column `i` parses to `y` with `g i` the value the reader
then stores (normalised exactly when the reader's type is `uchar`), reads `idxs.filterMap g` -/
theorem readAscii_of_cols (b : Built) (idxs : List Nat) (hoffs : b.offs = idxs) (toks : List Bytes) (g : Nat → Option α)
    (hg : ∀ i ∈ idxs, ∃ y, colRead c toks i = .ok y ∧
      g i = some (if b.ty = some .uchar then c.norm8 b.names.length y else y)) :
    b.readAscii c toks = .ok (idxs.filterMap g) := by
  rw [readAscii_eq, hoffs]
  clear hoffs
  have hmap : ∃ ys, idxs.mapM (colRead c toks) = .ok ys ∧
      idxs.filterMap g = ys.map (fun y => if b.ty = some .uchar then c.norm8 b.names.length y else y) := by
    induction idxs with
    | nil => exact ⟨[], rfl, rfl⟩
    | cons i l ih =>
      obtain ⟨y, h1, h2⟩ := hg i (by simp)
      obtain ⟨ys, h3, h4⟩ := ih (fun j hj => hg j (by simp [hj]))
      exact ⟨y :: ys, by rw [List.mapM_cons, h1, h3]; rfl, by simp [h2, h4]⟩
  obtain ⟨ys, h1, h2⟩ := hmap
  rw [h1, h2]
  by_cases hu : b.ty = some .uchar <;> simp [hu, bind, Except.bind, pure, Except.pure]

/-- the vertex loop over lines each of which holds at least `n` tokens and is read by the built readers as `row x` -/
theorem readVertsAscii_block {β : Type} (n : Nat) (built : List Built) (row : β → List (List α))
    (xs : List β) (ls : List Bytes) (rest : List Bytes)
    (h : All2 (fun x l => n ≤ (fields l).length ∧ built.mapM (fun b => b.readAscii c (fields l)) = .ok (row x)) xs ls) :
    readVertsAscii c n built xs.length (ls ++ rest) = .ok (xs.map row, rest) := by
  induction h with
  | nil => simp [readVertsAscii]
  | @cons x l xs ls hx _ ih =>
    have hnot : ¬ ((fields l).length < n) := by omega
    simp only [List.cons_append, List.length_cons, readVertsAscii, hnot, if_false, hx.2, ih, bind, Except.bind, pure,
      Except.pure, List.map_cons]

theorem readAscii_located (L : GoFloatText c) (tys : List SType) (vals : List α) (toks : List Bytes)
    (hv : vals.length = tys.length) (hr : ∀ x ∈ vals, L.inRange x)
    (ht : (tys.zip vals).mapM (fun (p : SType × α) => encScalarAscii c p.1 p.2) = .ok toks)
    (b : Built) (idxs : List Nat) (hl : LocatedA tys b idxs) :
    b.readAscii c toks = .ok (idxs.filterMap (fun i =>
      match tys[i]?, vals[i]? with
      | some t, some v => quant c .ascii b.names.length t v
      | _, _ => none)) := by
  obtain ⟨hlen, hat⟩ := toks_at c tys vals toks hv ht
  refine readAscii_of_cols c b idxs hl.offs toks _ (fun i hi => ?_)
  obtain ⟨hit, hiff⟩ := hl.inr i hi
  have hiv : i < vals.length := by omega
  have hik : i < toks.length := by omega
  have henc := hat i hit hiv hik
  obtain ⟨y, hy⟩ := encScalarAscii_parses c L _ _ (hr _ (List.getElem_mem hiv)) _ henc
  refine ⟨y, by simp [colRead, List.getElem?_eq_getElem hik, hy], ?_⟩
  simp only [List.getElem?_eq_getElem hit, List.getElem?_eq_getElem hiv, quant, henc, hy, Option.map_some]
  by_cases hu : tys[i] = .uchar
  · simp [hu, hiff.mpr hu]
  · have : ¬ b.ty = some .uchar := fun h => hu (hiff.mp h)
    simp [hu, this]

/-- one printed vertex record: a line holding exactly one token per header property -/
theorem vertex_line (L : GoFloatText c) (tys : List SType) (htys : tys ≠ []) (vals : List α) (rec : Bytes)
    (hxy : encRecordAscii c tys vals = .ok rec) (hv : vals.length = tys.length) :
    ∃ toks, (tys.zip vals).mapM (fun (p : SType × α) => encScalarAscii c p.1 p.2) = .ok toks ∧
      toks.length = tys.length ∧ rec = intercalate sp toks ++ nl ∧
      PLine (intercalate sp toks) ∧ fields (intercalate sp toks) = toks := by
  obtain ⟨toks, htoks, hrec⟩ := encRecordAscii_toks c tys vals rec hxy
  obtain ⟨htl, hat⟩ := toks_at c tys vals toks hv htoks
  have htne : toks ≠ [] := by
    intro h0; rw [h0] at htl; simp at htl; exact htys (List.length_eq_zero_iff.mp htl.symm)
  have htok : ∀ t ∈ toks, Tok t := by
    intro t ht
    obtain ⟨i, hi, rfl⟩ := List.getElem_of_mem ht
    exact encScalarAscii_tok c L _ _ _ (hat i (by omega) (by omega) hi)
  obtain ⟨hpl, hfl⟩ := token_line toks htne htok
  simp only [htne, if_false] at hrec
  exact ⟨toks, htoks, htl, hrec, hpl, hfl⟩

/-- line `l` prints record `vals` under the header types `tys`: its fields are the record's tokens, one per property -/
structure RecLine (tys : List SType) (vals : List α) (l : Bytes) : Prop where
  toks : (tys.zip vals).mapM (fun (p : SType × α) => encScalarAscii c p.1 p.2) = .ok (fields l)
  len : (fields l).length = tys.length

/-- the printed vertex block: one clean line per record -/
theorem vertex_lines (L : GoFloatText c) (tys : List SType) (htys : tys ≠ []) :
    ∀ (recs : List (List α)) (encs : List Bytes),
      All2 (fun vals rec => encRecordAscii c tys vals = .ok rec) recs encs →
      (∀ vals ∈ recs, vals.length = tys.length) →
      ∃ vlines, encs.flatten = flatLines vlines ∧ (∀ l ∈ vlines, PLine l) ∧ All2 (RecLine c tys) recs vlines := by
  intro recs encs hall
  induction hall with
  | nil => intro _; exact ⟨[], rfl, by simp, .nil⟩
  | @cons vals rec recs encs hxy _ ih =>
    intro hlen
    obtain ⟨vlines, h1, h2, h3⟩ := ih (fun v hv' => hlen v (by simp [hv']))
    obtain ⟨toks, htoks, htl, hrec, hpl, hfl⟩ := vertex_line c L tys htys vals rec hxy (hlen vals (by simp))
    refine ⟨intercalate sp toks :: vlines, by simp [hrec, h1, flatLines_cons, nl], ?_,
      .cons ⟨by rw [hfl]; exact htoks, by rw [hfl, htl]⟩ h3⟩
    intro l hl
    simp at hl
    rcases hl with rfl | hl
    · exact hpl
    · exact h2 l hl

/-- a vertex element without properties prints nothing -/
theorem vertex_lines_empty : ∀ (recs : List (List α)) (encs : List Bytes),
    All2 (fun vals rec => encRecordAscii c [] vals = .ok rec) recs encs → encs.flatten = [] := by
  intro recs encs hall
  induction hall with
  | nil => rfl
  | @cons vals rec recs encs hxy _ ih =>
    simp [encRecordAscii, pure, Except.pure, bind, Except.bind] at hxy
    simp [← hxy, ih]

end

def faceToks (c : Coding α) (f : WFace α) : List Bytes :=
  [nm "3", showInt f.idx.1, showInt f.idx.2.1, showInt f.idx.2.2] ++
  (match f.uv with
   | none => []
   | some uv => nm "6" :: uv.map c.showF)

section
variable (c : Coding α)

theorem encFaceAscii_eq (f : WFace α) (hasTex : Bool) (huv : UvOk hasTex f) :
    encFaceAscii c f = intercalate sp (faceToks c f) ++ nl := by
  obtain ⟨⟨i0, i1, i2⟩, uv⟩ := f
  have h3 : nm "3 " = nm "3" ++ sp := by decide +kernel
  have h6 : nm " 6 " = sp ++ nm "6" ++ sp := by decide +kernel
  cases uv with
  | none => simp [encFaceAscii, faceToks, intercalate, h3, List.append_assoc]
  | some uv =>
    simp only [UvOk] at huv
    obtain ⟨_, hl⟩ := huv
    match uv, hl with
    | [v0, v1, v2, v3, v4, v5], _ =>
      simp [encFaceAscii, faceToks, intercalate, h3, h6, List.append_assoc]

theorem readFaceAscii_written (L : GoFloatText c) (f : WFace α) (hasTex : Bool) (huv : UvOk hasTex f)
    (hidx : IdxOk f) (b : FaceBufs α) :
    readFaceAscii c (wlp hasTex) ⟨some 0, if hasTex then some 1 else none⟩ b (faceToks c f)
      = .ok (3, afterFaceA f b) := by
  obtain ⟨⟨i0, i1, i2⟩, uv⟩ := f
  obtain ⟨a, b', d, hi, ha, hb, hd⟩ := hidx
  simp only at hi
  obtain ⟨rfl, rfl, rfl⟩ : i0 = (a : Int) ∧ i1 = (b' : Int) ∧ i2 = (d : Int) := by
    have := Prod.mk.inj hi; have h2 := Prod.mk.inj this.2; exact ⟨this.1, h2.1, h2.2⟩
  have p3 : parseInt32 (nm "3") = some 3 := by decide +kernel
  have p6 : parseInt32 (nm "6") = some 6 := by decide +kernel
  have pa := parseInt32_showInt a ha
  have pb := parseInt32_showInt b' hb
  have pd := parseInt32_showInt d hd
  cases uv with
  | none =>
    simp only [UvOk] at huv
    subst huv
    simp [readFaceAscii, readFaceAscii.go, wlp, List.zipIdx, faceToks, p3, pa, pb, pd, afterFaceA, List.mapM_cons]
  | some uv =>
    simp only [UvOk] at huv
    obtain ⟨hT, hl⟩ := huv
    subst hT
    match uv, hl with
    | [v0, v1, v2, v3, v4, v5], _ =>
      simp [readFaceAscii, readFaceAscii.go, wlp, List.zipIdx, faceToks, p3, p6, pa, pb, pd, afterFaceA, List.mapM_cons,
        L.parse64_showF]

theorem faceToks_tok (L : GoFloatText c) (f : WFace α) : ∀ t ∈ faceToks c f, Tok t := by
  have t3 : Tok (nm "3") := ⟨by decide +kernel, by decide +kernel⟩
  have t6 : Tok (nm "6") := ⟨by decide +kernel, by decide +kernel⟩
  intro t ht
  simp only [faceToks, List.mem_append, List.mem_cons, List.not_mem_nil, or_false] at ht
  rcases ht with (rfl | rfl | rfl | rfl) | ht
  · exact t3
  · exact showInt_tok_int _
  · exact showInt_tok_int _
  · exact showInt_tok_int _
  · cases huv : f.uv with
    | none => simp [huv] at ht
    | some uv =>
      simp only [huv, List.mem_cons, List.mem_map] at ht
      rcases ht with rfl | ⟨v, _, rfl⟩
      · exact t6
      · exact L.tokF v

theorem readFacesAscii_written (L : GoFloatText c) (hasTex : Bool) :
    ∀ (fs : List (WFace α)) (b : FaceBufs α), BufsOk b → (∀ f ∈ fs, UvOk hasTex f) → (∀ f ∈ fs, IdxOk f) →
      readFacesAscii c (wlp hasTex) ⟨some 0, if hasTex then some 1 else none⟩ fs.length b
          (fs.map (fun f => intercalate sp (faceToks c f)))
        = .ok ((fs.map (fun f => [f.idx.1, f.idx.2.1, f.idx.2.2])).flatten, (fs.map faceUVA).flatten) := by
  intro fs
  induction fs with
  | nil => intro b _ _ _; simp [readFacesAscii]
  | cons f fs ih =>
    intro b hb huv hidx
    have hne : faceToks c f ≠ [] := by simp [faceToks]
    obtain ⟨_, hfl⟩ := token_line (faceToks c f) hne (faceToks_tok c L f)
    have h1 := readFaceAscii_written c L f hasTex (huv f (by simp)) (hidx f (by simp)) b
    obtain ⟨h2, hb'⟩ := emitFace_afterA f hasTex (huv f (by simp)) b hb
    have h3 := ih (afterFaceA f b) hb' (fun g hg => huv g (by simp [hg])) (fun g hg => hidx g (by simp [hg]))
    have hT : (if hasTex then some 1 else (none : Option Nat)).isSome = hasTex := by cases hasTex <;> rfl
    simp only [List.map_cons, List.flatten_cons, List.length_cons, readFacesAscii, hfl, h1, bind, Except.bind, hT, h2, h3,
      pure, Except.pure]


/-- the printed face block: one line per face, whose fields are the face's tokens -/
theorem face_lines_ascii (L : GoFloatText c) (hasTex : Bool) (fs : List (WFace α))
    (huv : ∀ f ∈ fs, UvOk hasTex f) :
    (fs.map (encFaceAscii c)).flatten = flatLines (fs.map (fun f => intercalate sp (faceToks c f))) ∧
      ∀ f ∈ fs, PLine (intercalate sp (faceToks c f)) ∧ fields (intercalate sp (faceToks c f)) = faceToks c f := by
  refine ⟨?_, fun f _ => token_line (faceToks c f) (by simp [faceToks]) (faceToks_tok c L f)⟩
  simp only [flatLines, List.map_map, Function.comp_def]
  congr 1
  apply List.map_congr_left
  intro f hf
  rw [encFaceAscii_eq c f hasTex (huv f hf)]; simp [nl]

end

/-- the face stage of an ASCII body, over the non-empty lines that follow the vertex lines -/
def faceStageAscii (c : Coding α) (fe : Option Element) (rest : List Bytes) :
    R (Option (List Int × List (List α))) :=
  match fe with
  | none => .ok none
  | some f =>
    match listProps f.props with
    | none => .error .err
    | some lp =>
      if (findFaceProps lp).idxProp.isNone then .error .err else do
        let r ← readFacesAscii c lp (findFaceProps lp) f.count.toNat ⟨[0, 0, 0, 0], List.replicate 8 (c.ofInt 0)⟩ rest
        pure (some r)

theorem readBody_ascii (c : Coding α) (cfg : ReaderCfg) (hdr : Header) (body : Bytes) (ve : Element)
    (ps : List (Bytes × SType)) (hfmt : hdr.format = .ascii)
    (hve : findElement hdr cfg.attributeElement = some ve) (hps : scalarProps ve.props = some ps)
    (hcount : 0 ≤ ve.count) :
    readBody c cfg hdr body = (do
      let built := buildAll false ps cfg.props cfg.loadUnspecified
      let (rows, rest) ← readVertsAscii c ps.length built ve.count.toNat
        ((scanLines body).filter (fun l => ¬ l.isEmpty))
      let idxUv ← faceStageAscii c (findElement hdr (nm "face")) rest
      assemble built ve.count.toNat rows idxUv) := by
  have hneg : ¬ (ve.count < 0) := by omega
  simp only [readBody, hve, hps, hneg, false_and, if_false, hfmt]
  have hb : (decide (Format.ascii ≠ Format.ascii)) = false := by decide +kernel
  simp only [hb]
  cases readVertsAscii c ps.length (buildAll false ps cfg.props cfg.loadUnspecified) ve.count.toNat
      ((scanLines body).filter (fun l => ¬ l.isEmpty)) with
  | error e => rfl
  | ok rr =>
    obtain ⟨rows, rest⟩ := rr
    simp only [bind, Except.bind, faceStageAscii]
    cases findElement hdr (nm "face") with
    | none => rfl
    | some f =>
      simp only []
      cases listProps f.props with
      | none => rfl
      | some lp =>
        simp only []
        by_cases hidx : (findFaceProps lp).idxProp.isNone = true
        · simp only [hidx, if_true]
        · simp only [hidx, if_false, Bool.false_eq_true]
          cases readFacesAscii c lp (findFaceProps lp) f.count.toNat ⟨[0, 0, 0, 0], List.replicate 8 (c.ofInt 0)⟩ rest <;> rfl

/-- every attribute value of the mesh prints to a text the 32-bit parser accepts (`GoFloatText.inRange`; only the values
printed by `float` / `double` vertex writers matter, the guard asks it of all of them) -/
def InRangeMesh {c : Coding α} (L : GoFloatText c) (m : MeshVal α) : Prop := ∀ a ∈ m.attrs, ∀ comps ∈ a.data, ∀ v ∈ comps, L.inRange v

theorem vertexRecord_mem (m : MeshVal α) (ws : List WProp) (i : Nat) (vals : List α)
    (h : vertexRecord m ws i = .ok vals) : ∀ x ∈ vals, ∃ a ∈ m.attrs, ∃ comps ∈ a.data, x ∈ comps := by
  simp only [vertexRecord] at h
  cases hp : ws.mapM (fun w => writerValues m w i) with
  | error e => simp [hp, bind, Except.bind] at h
  | ok parts =>
    simp [hp, bind, Except.bind, pure, Except.pure] at h
    subst h
    have hall := mapM_ok_forall₂ _ _ _ hp
    intro x hx
    obtain ⟨p, hpm, hxp⟩ := List.mem_flatten.mp hx
    clear hp hx
    induction hall with
    | nil => simp at hpm
    | @cons w p0 ws' parts' h0 _ ih =>
      simp only [List.mem_cons] at hpm
      rcases hpm with rfl | hpm
      · simp only [writerValues] at h0
        cases hfa : m.find w.dim w.attr with
        | none => simp [hfa] at h0
        | some a =>
          cases hd : a.data[i]? with
          | none => simp [hfa, hd] at h0
          | some comps =>
            simp [hfa, hd] at h0
            subst h0
            exact ⟨a, (find_mem m _ _ a hfa).1, comps, List.mem_of_getElem? hd, hxp⟩
      · exact ih hpm

/-- the non-empty lines of a printed body: the vertex lines (none when the vertex element has no property, otherwise one
per record) followed by one line per face record, whose fields are the face's tokens -/
theorem written_ascii_lines (c : Coding α) (L : GoFloatText c) (cfg : WriterCfg) (m : MeshVal α) (body : Bytes)
    (hf : cfg.format = .ascii) (hwf : m.WF = true) (h : writeBody c cfg m = .ok body) :
    ∃ (recs : List (List α)) (vbytes : List Bytes) (vlines : List Bytes) (fs : List (WFace α)),
      Written c cfg m body recs vbytes fs ∧
      (∀ f ∈ fs, fields (intercalate sp (faceToks c f)) = faceToks c f) ∧
      (∀ p : Bytes → Bool, (∀ l, l ≠ [] → p l = true) →
        (scanLines body).filter p = vlines ++ fs.map (fun f => intercalate sp (faceToks c f))) ∧
      (writerTypes (selectWriters cfg m) = [] → vlines = []) ∧
      (writerTypes (selectWriters cfg m) ≠ [] → All2 (RecLine c (writerTypes (selectWriters cfg m))) recs vlines) := by
  obtain ⟨recs, vbytes, fs, W⟩ := written c cfg m body hwf h
  have hall := W.enc_ascii hf
  obtain ⟨vlines, hv1, hv2, hv3, hv4⟩ : ∃ vlines, vbytes.flatten = flatLines vlines ∧ (∀ l ∈ vlines, PLine l) ∧
      (writerTypes (selectWriters cfg m) = [] → vlines = []) ∧
      (writerTypes (selectWriters cfg m) ≠ [] → All2 (RecLine c (writerTypes (selectWriters cfg m))) recs vlines) := by
    by_cases hne : writerTypes (selectWriters cfg m) = []
    · rw [hne] at hall
      exact ⟨[], by rw [vertex_lines_empty c recs vbytes hall]; rfl, by simp, fun _ => rfl, fun h => absurd hne h⟩
    · obtain ⟨vlines, a, b, d⟩ := vertex_lines c L _ hne recs vbytes hall W.width
      exact ⟨vlines, a, b, fun h => absurd h hne, fun _ => d⟩
  obtain ⟨hfl, hfp⟩ := face_lines_ascii c L (hasTexCoord m) fs W.uv
  refine ⟨recs, vbytes, vlines, fs, W, fun f hf' => (hfp f hf').2, fun p hp => ?_, hv3, hv4⟩
  have hall' : ∀ l ∈ vlines ++ fs.map (fun f => intercalate sp (faceToks c f)), PLine l := by
    intro l hl
    rcases List.mem_append.mp hl with hl | hl
    · exact hv2 l hl
    · obtain ⟨f, hf', rfl⟩ := List.mem_map.mp hl
      exact (hfp f hf').1
  rw [W.body_ascii hf, hv1, hfl, ← flatLines_append, scanLines_flat _ hall', filter_plines p hp _ hall']

/-- stages 1+2, ASCII: reading back a printed body yields exactly these arrays and this index / UV list -/
theorem readBody_writeBody_arrays_ascii (c : Coding α) (L : GoFloatText c) (cfg : WriterCfg) (m : MeshVal α) (body : Bytes)
    (hf : cfg.format = .ascii) (hwf : m.WF = true) (h : writeBody c cfg m = .ok body)
    (htys : m.attrLen = 0 ∨ writerTypes (selectWriters cfg m) ≠ []) (hsize : m.attrLen ≤ 2 ^ 31)
    (hrange : InRangeMesh L m)
    (bl : List (Built × List Nat))
    (hbuilt : bl.map (·.1) = buildAll false (headerProps (selectWriters cfg m)) defaultReaders true)
    (hloc : ∀ p ∈ bl, LocatedA (writerTypes (selectWriters cfg m)) p.1 p.2) :
    ∃ (recs : List (List α)),
      (List.range m.attrLen).mapM (vertexRecord m (selectWriters cfg m)) = .ok recs ∧
      (m.topo ≠ .triangle →
        readBody c defaultReader (writeHeader cfg m) body
          = assemble (bl.map (·.1)) m.attrLen (recs.map (rowOfF (quant c .ascii) (writerTypes (selectWriters cfg m)) bl)) none) ∧
      (m.topo = .triangle → ∃ tris fs, chunk3 m.indices = some tris ∧ faceRecords m tris = .ok fs ∧
        readBody c defaultReader (writeHeader cfg m) body
          = assemble (bl.map (·.1)) m.attrLen (recs.map (rowOfF (quant c .ascii) (writerTypes (selectWriters cfg m)) bl))
              (some (m.indices, (fs.map faceUVA).flatten))) := by
  obtain ⟨recs, vbytes, vlines, fs, W, -, hlines, hv0, hv1⟩ := written_ascii_lines c L cfg m body hf hwf h
  have hlen := W.len
  have hl : (scanLines body).filter (fun l => ¬ l.isEmpty) = vlines ++ fs.map (fun f => intercalate sp (faceToks c f)) :=
    hlines _ (by intro l hl; cases l <;> simp_all)
  -- the vertex loop
  have hv3 : ∀ rest, readVertsAscii c (writerTypes (selectWriters cfg m)).length (bl.map (·.1)) recs.length (vlines ++ rest)
      = .ok (recs.map (rowOfF (quant c .ascii) (writerTypes (selectWriters cfg m)) bl), rest) := by
    intro rest
    by_cases hne : writerTypes (selectWriters cfg m) = []
    · have h0 : recs = [] := by
        rcases htys with h0 | h0
        · exact List.length_eq_zero_iff.mp (hlen.trans h0)
        · exact absurd hne h0
      subst h0
      simp [hv0 hne, readVertsAscii]
    · refine readVertsAscii_block c _ _ _ recs vlines rest ((hv1 hne).imp_mem fun vals hv l hl => ⟨by have := hl.len; omega, ?_⟩)
      refine mapM_readers _ _ bl fun p hp => readAscii_located c L _ vals _ (W.width vals hv) ?_ hl.toks p.1 p.2 (hloc p hp)
      intro x hx
      obtain ⟨i, hi, rfl⟩ := List.getElem_of_mem hv
      obtain ⟨a, ha, comps, hc, hxc⟩ := vertexRecord_mem m _ i _ (W.rec_at i hi) x hx
      exact hrange a ha comps hc x hxc
  have hread := readBody_ascii c defaultReader (writeHeader cfg m) body _ (headerProps (selectWriters cfg m)) hf
    (findElement_vertex cfg m) (scalarProps_headerProps _) (by simp)
  have hpl : (headerProps (selectWriters cfg m)).length = (writerTypes (selectWriters cfg m)).length := by
    rw [← headerProps_types]; simp
  refine ⟨recs, W.recs_ok, fun hne => ?_, fun ht => ?_⟩
  · rw [hread]
    simp only [defaultReader, ← hbuilt, hl, W.point hne, List.map_nil, hpl, Int.toNat_natCast, ← hlen, hv3 [], bind,
      Except.bind, findElement_face, hne, if_false, faceStageAscii]
  · obtain ⟨tris, hc, hfs0, hidx⟩ := W.tri ht
    refine ⟨tris, fs, hc, hfs0, ?_⟩
    have hfaces := readFacesAscii_written c L (hasTexCoord m) fs ⟨[0, 0, 0, 0], List.replicate 8 (c.ofInt 0)⟩
      ⟨rfl, by simp⟩ W.uv (idxOk_of_wf m hwf hsize tris hc fs hidx)
    have hidxs : (fs.map (fun f => [f.idx.1, f.idx.2.1, f.idx.2.2])).flatten = m.indices := by
      rw [chunk3_flatten _ _ hc, ← hidx, List.map_map]; rfl
    rw [hidxs] at hfaces
    rw [hread]
    simp only [defaultReader, ← hbuilt, hl, hpl, Int.toNat_natCast, ← hlen, hv3 _, bind, Except.bind,
      findElement_face, ht, if_true, faceStageAscii, listProps_faceProps, findFaceProps_wlp, Option.isNone_some,
      Bool.false_eq_true, if_false, triCount_faces m tris fs hc hidx, hfaces, pure, Except.pure]


/-- the value an ASCII-printed scalar of type `t` reads back as (under the law of the float text) -/
def quantA (c : Coding α) (L : GoFloatText c) (dim : Nat) : SType → α → α
  | .uchar, v => c.norm8 dim (c.ofInt (c.u8 v).toNat)
  | .float, v => L.imgF v
  | .double, v => L.imgF v
  | _, v => L.imgI v

theorem quant_ascii_some (c : Coding α) (L : GoFloatText c) (dim : Nat) (t : SType) (ht : t ≠ .char) (v : α)
    (hr : L.inRange v) : quant c .ascii dim t v = some (quantA c L dim t v) := by
  cases t <;> simp_all [quant, encScalarAscii, quantA, L.parse32_showF v hr, L.parse32_showI,
    L.parse32_showU8 _ (c.u8 v).toNat_lt]

structure LocatedNamedA (props : List (Bytes × SType)) (b : Built) (idxs : List Nat) : Prop where
  loc : LocatedA (props.map (·.2)) b idxs
  len : idxs.length = b.names.length
  named : ∀ k (hk : k < idxs.length) (hk' : k < b.names.length), (props[idxs[k]]?).map (·.1) = some b.names[k]

structure ClaimOKA (cfg : WriterCfg) (m : MeshVal α) (bl : List (Built × List Nat)) : Prop where
  built : bl.map (·.1) = buildAll false (headerProps (selectWriters cfg m)) defaultReaders true
  located : ∀ p ∈ bl, LocatedNamedA (headerProps (selectWriters cfg m)) p.1 p.2
  demanded : ∀ w ∈ selectWriters cfg m, comesBack w = true →
    ∃ j, ∃ hj : j < bl.length, bl[j].1.attr = w.attr ∧ bl[j].1.names = w.names ∧
      ∀ j' (hj' : j' < bl.length), j < j' → Built.key bl[j'].1 ≠ Built.key bl[j].1

/-- a printed scalar type is one the ASCII writer implements (`char` panics) -/
theorem written_type_ascii (c : Coding α) (m : MeshVal α) (hwf : m.WF = true) (ws : List WProp)
    (vals : List α) (rec : Bytes) (v : Nat) (hrec : vertexRecord m ws v = .ok vals)
    (henc : encRecordAscii c (writerTypes ws) vals = .ok rec) (w : WProp) (hw : w ∈ ws) (hne : w.names ≠ []) :
    w.ty ≠ .char := by
  obtain ⟨toks, htoks, _⟩ := encRecordAscii_toks c _ vals rec henc
  obtain ⟨htl, hat⟩ := toks_at c _ vals toks (vertexRecord_length m hwf v ws vals hrec) htoks
  obtain ⟨comps, _, hcl, hslot⟩ := writer_slot m hwf v ws vals hrec w hw
  obtain ⟨i, h1, h2⟩ := hslot 0 (List.length_pos_iff.mpr hne) (by rw [hcl]; exact List.length_pos_iff.mpr hne)
  obtain ⟨hi, _⟩ := List.getElem?_eq_some_iff.mp h2
  have hty : (writerTypes ws)[i]? = some w.ty := by
    rw [← headerProps_types, List.getElem?_map, h1]; rfl
  obtain ⟨hi', hte⟩ := List.getElem?_eq_some_iff.mp hty
  have := hat i hi' hi (by omega)
  rw [hte] at this
  intro hc
  rw [hc] at this
  simp [encScalarAscii] at this

theorem delivers_ascii [BEq α] (c : Coding α) (L : GoFloatText c) (cfg : WriterCfg) (m : MeshVal α) (body : Bytes)
    (hf : cfg.format = .ascii) (hwf : m.WF = true) (h : writeBody c cfg m = .ok body)
    (bl : List (Built × List Nat)) (hcl : ClaimOKA cfg m bl) (recs : List (List α))
    (hrecs : (List.range m.attrLen).mapM (vertexRecord m (selectWriters cfg m)) = .ok recs)
    (hrange : InRangeMesh L m) (hemp : m.indices ≠ []) :
    Delivers c cfg m (bl.map (·.1)) (recs.map (rowOfF (quant c .ascii) (writerTypes (selectWriters cfg m)) bl))
      (fun w => quantA c L w.dim w.ty) := by
  have hnd := (names_of_writeBody_ok c cfg m body h).2
  obtain ⟨recs', vbytes, fs, W⟩ := written c cfg m body hwf h
  obtain rfl : recs' = recs := Except.ok.inj (W.recs_ok.symm.trans hrecs)
  have hrl := W.len
  have hpos := attrLen_pos m hwf hemp
  have henc0 := (W.enc_ascii hf).get 0 (by omega) (by rw [(W.enc_ascii hf).length_eq]; omega)
  refine delivers c cfg m hwf bl recs' hrecs _ _ hcl.demanded ?_ hemp
  intro w hws hcb a ha
  -- the type is printable, so `quant` is `quantA`
  have hty := written_type_ascii c m hwf _ _ _ 0 (W.rec_at 0 (by omega)) henc0 w hws (comesBack_names_ne w hcb)
  have hq : ∀ comps ∈ a.data, ∀ x ∈ comps, quant c .ascii w.dim w.ty x = some (quantA c L w.dim w.ty x) :=
    fun comps hc x hx => quant_ascii_some c L w.dim w.ty hty x (hrange a (find_mem m _ _ a ha).1 comps hc x hx)
  refine ⟨by rw [hf]; exact hq, fun j hj hnames => ?_⟩
  have hln := hcl.located _ (List.getElem_mem hj)
  exact column_of_writer m hwf _ hnd recs' hrecs w hws a ha bl j hj hnames hln.len hln.named _ _ hq

theorem readback_ascii [BEq α] [LawfulBEq α] (c : Coding α) (L : GoFloatText c) (cfg : WriterCfg) (m : MeshVal α)
    (body : Bytes) (hf : cfg.format = .ascii) (hwf : m.WF = true) (h : writeBody c cfg m = .ok body)
    (htys : m.attrLen = 0 ∨ writerTypes (selectWriters cfg m) ≠ [])
    (hpoint : m.topo = .point → m.indices = (List.range m.attrLen).map Int.ofNat)
    (hsize : m.attrLen ≤ 2 ^ 31) (hrange : InRangeMesh L m)
    (bl : List (Built × List Nat)) (hcl : ClaimOKA cfg m bl) :
    ∃ back, readBody c defaultReader (writeHeader cfg m) body = .ok back ∧ RoundTrips c cfg m back = true := by
  have hloc : ∀ p ∈ bl, LocatedA (writerTypes (selectWriters cfg m)) p.1 p.2 := by
    intro p hp
    have := (hcl.located p hp).loc
    rwa [headerProps_types] at this
  obtain ⟨recs, hrecs, hpt, htr⟩ := readBody_writeBody_arrays_ascii c L cfg m body hf hwf h htys hsize hrange bl hcl.built hloc
  -- applied in two steps: elaborating the whole application at once is slow
  have key := readback_of_arrays c cfg m hwf hpoint (bl.map (·.1))
    (recs.map (rowOfF (quant c .ascii) (writerTypes (selectWriters cfg m)) bl))
    (by simpa using (vertexRecords_shape m hwf _ recs hrecs).1) (fun w => quantA c L w.dim w.ty)
    (delivers_ascii c L cfg m body hf hwf h bl hcl recs hrecs hrange)
  refine key _ hpt id (by intro v; rw [hf]; simp [quantUV, L.parse64_showF]) ?_
  intro ht
  obtain ⟨tris, fs, hc, hfs, hread⟩ := htr ht
  obtain ⟨hidx, huv⟩ := faceRecords_shape m hwf tris fs hfs
  exact ⟨_, hread, fun hT => faceUVA_nil fs (hT ▸ huv),
    fun tex origUV htex ho => by rw [faceUVA_flatten m hwf tex htex tris fs hc hfs origUV ho]; simp⟩


def locatedNamedAB (props : List (Bytes × SType)) (b : Built) (idxs : List Nat) : Bool :=
  b.offs == idxs &&
  idxs.all (fun i => match props[i]? with
    | none => false
    | some p => (b.ty == some .uchar) == (p.2 == .uchar)) &&
  idxs.length == b.names.length &&
  (idxs.zip b.names).all (fun x => (props[x.1]?).map (·.1) == some x.2)

theorem locatedNamedAB_sound (props : List (Bytes × SType)) (b : Built) (idxs : List Nat)
    (h : locatedNamedAB props b idxs = true) : LocatedNamedA props b idxs := by
  simp only [locatedNamedAB, Bool.and_eq_true, List.all_eq_true, beq_iff_eq] at h
  obtain ⟨⟨⟨h1, h2⟩, h3⟩, h4⟩ := h
  refine ⟨⟨h1, ?_⟩, h3, ?_⟩
  · intro i hi
    have := h2 i hi
    cases hp : props[i]? with
    | none => simp [hp] at this
    | some p =>
      obtain ⟨hi', hpe⟩ := List.getElem?_eq_some_iff.mp hp
      simp only [hp] at this
      refine ⟨by simpa using hi', ?_⟩
      simp only [List.getElem_map, hpe]
      constructor
      · intro hb; have hb' : (b.ty == some SType.uchar) = true := by simp [hb]
        rw [hb'] at this; simpa using this.symm
      · intro hu; have hu' : (p.2 == SType.uchar) = true := by simp [hu]
        rw [hu'] at this; simpa using this
  · exact named_of_zip props idxs b.names h4

def claimCheckA (cfg : WriterCfg) (m : MeshVal α) : Option (List (Built × List Nat)) :=
  let props := headerProps (selectWriters cfg m)
  let bl := (buildAll false props defaultReaders true).map (fun b => (b, b.names.map (posOf props)))
  if bl.all (fun p => locatedNamedAB props p.1 p.2) && demandedB (selectWriters cfg m) bl then some bl else none

theorem claimCheckA_sound (cfg : WriterCfg) (m : MeshVal α) (bl : List (Built × List Nat))
    (h : claimCheckA cfg m = some bl) : ClaimOKA cfg m bl := by
  simp only [claimCheckA] at h
  split at h
  · rename_i hc
    simp at h
    subst h
    simp only [Bool.and_eq_true, List.all_eq_true] at hc
    exact ⟨by simp [Function.comp_def], fun p hp => locatedNamedAB_sound _ _ _ (hc.1 p hp), demandedB_sound _ _ hc.2⟩
  · simp at h

/-- a concrete coding satisfying the law of the float text ("float32" keeps a natural mod 2³², and so does the 32-bit parser) -/
def toyCodingA : Coding Nat := { toyCoding with parseF := fun s => (parseDigits s 0).map (fun n => n % 2 ^ 32) }

def toyLaw : GoFloatText toyCodingA where
  inRange := fun _ => True
  imgF := fun v => v % 2 ^ 32
  imgI := fun v => v % 2 ^ 32
  tokF := fun v => showNat_tok v
  tokI := fun v => showNat_tok v
  parse32_showF := by
    intro v _
    obtain ⟨ds, hds, _, hp⟩ := showNat_spec v
    show (parseDigits (showNat v) 0).map (fun n => n % 2 ^ 32) = some (v % 2 ^ 32)
    rw [hds, hp]; rfl
  parse32_showI := by
    intro v
    obtain ⟨ds, hds, _, hp⟩ := showNat_spec v
    show (parseDigits (showNat v) 0).map (fun n => n % 2 ^ 32) = some (v % 2 ^ 32)
    rw [hds, hp]; rfl
  parse32_showU8 := by
    intro n hn
    obtain ⟨ds, hds, _, hp⟩ := showNat_spec n
    show (parseDigits (showNat n) 0).map (fun n => n % 2 ^ 32) = some ((n : Int).toNat)
    rw [hds, hp]; simp; omega
  parse64_showF := by
    intro v
    obtain ⟨ds, hds, _, hp⟩ := showNat_spec v
    show parseDigits (showNat v) 0 = some v
    rw [hds, hp]


theorem cornerVals_mem (m : MeshVal α) (dim : Nat) (name : Bytes) (orig : List (List α))
    (h : cornerVals m dim name = some orig) :
    ∀ comps ∈ orig, ∃ a, m.find dim name = some a ∧ comps ∈ a.data := by
  intro comps hc
  simp only [cornerVals] at h
  split at h
  · simp at h; subst h; simp at hc
  · split at h
    · simp at h
    · rename_i a ha
      cases hg : gather a.data m.indices with
      | error e => simp [hg, Except.toOption] at h
      | ok out =>
        simp [hg, Except.toOption] at h
        subst h
        exact ⟨a, ha, gather_mem _ _ _ hg comps hc⟩

/-- the content `RoundTrips` speaks about is the same in two meshes -/
def SameContent (cfg : WriterCfg) (m a b : MeshVal α) : Prop :=
  a.topo = b.topo ∧ primCount a = primCount b ∧
  (∀ w ∈ selectWriters cfg m, comesBack w = true → ¬ (m.topo = .triangle ∧ w.dim = 2 ∧ w.attr = texCoordAttr) →
    ∃ vals, cornerVals a w.dim w.attr = some vals ∧ cornerVals b w.dim w.attr = some vals) ∧
  (m.topo = .triangle → hasTexCoord m = true →
    ∃ vals, cornerVals a 2 texCoordAttr = some vals ∧ cornerVals b 2 texCoordAttr = some vals)

/-- one clause of `RoundTrips` read for two meshes: if both carry the images of the corners of `m` under codings that
agree on the attribute's data, they carry the same corner values -/
theorem corners_agree [BEq α] [LawfulBEq α] (m a b : MeshVal α) (d : Nat) (n : Bytes) (f₁ f₂ : α → Option α)
    (e1 : (match cornerVals m d n, cornerVals a d n with
      | some orig, some got => (orig.mapM (fun comps => comps.mapM f₁)) == some got
      | _, _ => false) = true)
    (e2 : (match cornerVals m d n, cornerVals b d n with
      | some orig, some got => (orig.mapM (fun comps => comps.mapM f₂)) == some got
      | _, _ => false) = true)
    (hq : ∀ at', m.find d n = some at' → ∀ comps ∈ at'.data, ∀ v ∈ comps, f₁ v = f₂ v) :
    ∃ vals, cornerVals a d n = some vals ∧ cornerVals b d n = some vals := by
  cases ho : cornerVals m d n with
  | none => simp [ho] at e1
  | some orig =>
    cases hga : cornerVals a d n with
    | none => simp [ho, hga] at e1
    | some ga =>
      cases hgb : cornerVals b d n with
      | none => simp [ho, hgb] at e2
      | some gb =>
        simp only [ho, hga, hgb, beq_iff_eq] at e1 e2
        have hmm : orig.mapM (fun comps => comps.mapM f₁) = orig.mapM (fun comps => comps.mapM f₂) := by
          apply ListM.mapM_congr
          intro comps hc
          obtain ⟨at', hat, hin⟩ := cornerVals_mem m _ _ orig ho comps hc
          exact ListM.mapM_congr (fun v hv => hq at' hat comps hin v hv)
        rw [hmm, e2] at e1
        simp at e1
        exact ⟨ga, rfl, by rw [e1]⟩

theorem sameContent_of_roundTrips [BEq α] [LawfulBEq α] (c : Coding α) (cfg₁ cfg₂ : WriterCfg) (m a b : MeshVal α)
    (hsel : selectWriters cfg₂ m = selectWriters cfg₁ m)
    (h₁ : RoundTrips c cfg₁ m a = true) (h₂ : RoundTrips c cfg₂ m b = true)
    (hq : ∀ w ∈ selectWriters cfg₁ m, comesBack w = true → ∀ at', m.find w.dim w.attr = some at' →
      ∀ comps ∈ at'.data, ∀ v ∈ comps, quant c cfg₁.format w.dim w.ty v = quant c cfg₂.format w.dim w.ty v)
    (huv : m.topo = .triangle → ∀ at', m.find 2 texCoordAttr = some at' →
      ∀ comps ∈ at'.data, ∀ v ∈ comps, quantUV c cfg₁.format v = quantUV c cfg₂.format v) :
    SameContent cfg₁ m a b := by
  simp only [RoundTrips, Bool.and_eq_true, List.all_eq_true, decide_eq_true_eq, hsel] at h₁ h₂
  obtain ⟨⟨⟨ht1, hp1⟩, hw1⟩, hu1⟩ := h₁
  obtain ⟨⟨⟨ht2, hp2⟩, hw2⟩, hu2⟩ := h₂
  refine ⟨by rw [ht1, ht2], by rw [hp1, hp2], ?_, ?_⟩
  · intro w hw hcb hnt
    have hmem : w ∈ (selectWriters cfg₁ m).filter
        (fun w => comesBack w && !(m.topo = .triangle && w.dim = 2 && w.attr = texCoordAttr)) := by
      simp only [List.mem_filter, hw, hcb, true_and, Bool.true_and, Bool.not_eq_true', Bool.and_eq_false_iff,
        decide_eq_false_iff_not]
      by_cases h1 : m.topo = .triangle
      · by_cases h2 : w.dim = 2
        · exact Or.inr (fun h3 => hnt ⟨h1, h2, h3⟩)
        · exact Or.inl (Or.inr h2)
      · exact Or.inl (Or.inl h1)
    exact corners_agree m a b w.dim w.attr _ _ (hw1 w hmem) (hw2 w hmem) (hq w hw hcb)
  · intro htri htc
    simp only [htri, htc, if_true, and_self] at hu1 hu2
    exact corners_agree m a b 2 texCoordAttr _ _ hu1 hu2 (huv htri)

theorem selectWriters_format (f g : Format) (props : List WProp) (wu : Bool) (m : MeshVal α) :
    selectWriters ⟨f, props, wu⟩ m = selectWriters ⟨g, props, wu⟩ m := rfl

/-- little- and big-endian store the same image, whatever the type and value -/
theorem quant_le_be (c : Coding α) (dim : Nat) (t : SType) (v : α) : quant c .le dim t v = quant c .be dim t v := by
  cases h : encScalarBin c Format.le.endian t v with
  | error e =>
    have h' : ∃ e', encScalarBin c Format.be.endian t v = .error e' := by
      cases t <;> simp_all [encScalarBin]
    obtain ⟨e', h'⟩ := h'
    simp [quant, h, h']
  | ok bs =>
    rw [quant_bin_some c .le (by decide +kernel) dim t v v bs h]
    have h' : ∃ bs', encScalarBin c Format.be.endian t v = .ok bs' := by
      cases t <;> simp_all [encScalarBin]
    obtain ⟨bs', h'⟩ := h'
    rw [quant_bin_some c .be (by decide +kernel) dim t v v bs' h']


/-- the class on which the ASCII and the binary encodings store the same image of every value of the mesh.  It mirrors
the known findings: every ASCII vertex scalar is parsed with bit size 32, so a `float` property agrees where the 32-bit
parse of the printed text is the float32 image (for Go: every value but exact float32 half-way values, see `GoFloatText`),
`double` and `int` properties agree only on values whose 32-bit parse is the value the binary reader delivers; the
per-corner texture coordinates are float32 in the binary encodings and full-precision text in ASCII, so they agree on
float32 values.  (8-bit SCALAR properties — the other known finding — are excluded by the ASCII claim stage `ClaimOKA`.) -/
structure AgreeGuards (c : Coding α) (L : GoFloatText c) (props : List WProp) (wu : Bool) (m : MeshVal α) : Prop where
  scalars : ∀ w ∈ selectWriters ⟨.ascii, props, wu⟩ m, comesBack w = true →
    ∀ a ∈ m.attrs, a.dim = w.dim → a.name = w.attr → ∀ comps ∈ a.data, ∀ v ∈ comps,
      (w.ty = .float ∧ L.imgF v = c.unf32 (c.f32 v)) ∨ w.ty = .uchar ∨
      (w.ty = .double ∧ L.imgF v = c.unf64 (c.f64 v)) ∨
      (w.ty = .int ∧ L.imgI v = c.ofInt (toInt32 (c.i32 v)))
  uvs : m.topo = .triangle → ∀ a ∈ m.attrs, a.dim = 2 → a.name = texCoordAttr → ∀ comps ∈ a.data, ∀ v ∈ comps,
    c.unf32 (c.f32 v) = v

theorem quant_ascii_le (c : Coding α) (L : GoFloatText c) (dim : Nat) (t : SType) (v : α) (hr : L.inRange v)
    (h : (t = .float ∧ L.imgF v = c.unf32 (c.f32 v)) ∨ t = .uchar ∨ (t = .double ∧ L.imgF v = c.unf64 (c.f64 v)) ∨
      (t = .int ∧ L.imgI v = c.ofInt (toInt32 (c.i32 v)))) :
    quant c .ascii dim t v = quant c .le dim t v := by
  have hb : ∃ bs, encScalarBin c Format.le.endian t v = .ok bs := by
    rcases h with ⟨rfl, _⟩ | rfl | ⟨rfl, _⟩ | ⟨rfl, _⟩ <;> simp [encScalarBin]
  obtain ⟨bs, hb⟩ := hb
  rw [quant_bin_some c .le (by decide +kernel) dim t v v bs hb]
  rcases h with ⟨rfl, h⟩ | rfl | ⟨rfl, h⟩ | ⟨rfl, h⟩
  · rw [quant_ascii_some c L dim _ (by decide +kernel) v hr]; simp [quantA, quantBin, h]
  · rw [quant_ascii_some c L dim _ (by decide +kernel) v hr]; rfl
  · rw [quant_ascii_some c L dim _ (by decide +kernel) v hr]; simp [quantA, quantBin, h]
  · rw [quant_ascii_some c L dim _ (by decide +kernel) v hr]; simp [quantA, quantBin, h]


end PlyAscii
end PolyVerif
