/-
  C05, the text `Obj.writeObj` produces (`objText`: header, all data lines, then per mesh an optional `g` line and its face lines
  by material range): the writer returns it for every writable mesh list, and its pools, face tokens and offsets (`PoolsFor`,
  `PoolsAll`) are computed here, with the meshes' well-formedness (`WFMesh`) and what the reader must return for them (`expSum`).
  Core Lean only.
-/
import PolyVerif.Lemmas.ObjReader

set_option linter.unusedSimpArgs false
set_option linter.unusedSectionVars false

namespace PolyVerif
namespace ObjL
open Obj

section written
variable {α : Type}

def faceLines (mk : Nat → Corner) (ts : List (Nat × Nat × Nat)) : List (Line Corner α) :=
  ts.map fun t => .f (mk t.1) (mk t.2.1) (mk t.2.2)

theorem faceRun_flat_aux (mk : Nat → Corner) : ∀ (ts : List (Nat × Nat × Nat)) (rest : List Nat),
    faceRun (α := α) mk ts.length (flatTris ts ++ rest) = .ok (faceLines mk ts, rest)
  | [], rest => rfl
  | (a, b, c) :: ts, rest => by
    simp [flatTris, faceRun, faceRun_flat_aux mk ts rest, faceLines]

/-- corner tokens are the corners themselves -/
abbrev pcId : Corner → Except Err Corner := fun c => .ok c

/-- a corner all of whose slots point into the pools -/
def Resolves (pv pn : List (V3 α)) (pt : List (V2 α)) (c : Corner) : Prop := (resolveCorner pv pn pt c).isSome

/-- the face lines of index triples `ts` through corner maker `mk` -/
def cornerTriples (mk : Nat → Corner) (ts : List (Nat × Nat × Nat)) : List (Corner × Corner × Corner) :=
  ts.map fun t => (mk t.1, mk t.2.1, mk t.2.2)

theorem flatC_cornerTriples_aux (mk : Nat → Corner) : ∀ ts : List (Nat × Nat × Nat),
    flatC (cornerTriples mk ts) = (flatTris ts).map mk
  | [] => rfl
  | (a, b, c) :: ts => by
    have := flatC_cornerTriples_aux mk ts
    simp only [cornerTriples] at this
    simp [cornerTriples, flatC, flatTris, this]

/-- what `rangeRun` emits for ranges that partition the triangles -/
def rangeLines (mk : Nat → Corner) : List (Option String × Nat) → List (Nat × Nat × Nat) → List (Line Corner α)
  | [], _ => []
  | (m, n) :: ms, ts => .usemtl (matName m) :: (faceLines mk (ts.take n) ++ rangeLines mk ms (ts.drop n))

theorem rangeRun_eq_aux (mk : Nat → Corner) : ∀ (mats : List (Option String × Nat)) (ts : List (Nat × Nat × Nat)),
    (mats.map (·.2)).sum = ts.length →
    rangeRun (α := α) mk mats (flatTris ts) = .ok (rangeLines mk mats ts)
  | [], ts, _ => rfl
  | (m, n) :: ms, ts, h => by
    simp only [List.map_cons, List.sum_cons] at h
    have hn : (ts.take n).length = n := by simp [List.length_take]; omega
    have hrun := faceRun_flat_aux (α := α) mk (ts.take n) (flatTris (ts.drop n))
    rw [hn] at hrun
    have hr := rangeRun_eq_aux mk ms (ts.drop n) (by simp [List.length_drop]; omega)
    simp [rangeRun, rangeLines, flatTris_take_drop_aux n ts, hrun, hr]

/-- the material in effect after a mesh's lines: its last `usemtl`, else what was in effect before -/
def lastMat (mats : List (Option String × Nat)) (d : Option String) : Option String :=
  match mats.getLast? with
  | some p => some (matName p.1)
  | none => d

/-- the model's `nextCarry` is `lastMat` -/
theorem nextCarry_eq_aux (carry : Option String) (m : Mesh α) : nextCarry carry m = lastMat m.mats carry := by
  unfold nextCarry lastMat
  cases m.mats.getLast? with
  | none => rfl
  | some p => cases p; rfl

theorem lastMat_cons_aux (p : Option String × Nat) (ms : List (Option String × Nat)) (d : Option String) :
    lastMat (p :: ms) d = lastMat ms (some (matName p.1)) := by
  unfold lastMat
  cases ms with
  | nil => rfl
  | cons q qs => rw [List.getLast?_cons_cons, List.getLast?_eq_some_getLast (List.cons_ne_nil q qs)]

/-- consecutive index triples -/
def triplesOf : List Nat → List (Nat × Nat × Nat)
  | a :: b :: c :: r => (a, b, c) :: triplesOf r
  | _ => []

theorem flat_triplesOf_aux : ∀ idx : List Nat, idx.length % 3 = 0 → flatTris (triplesOf idx) = idx
  | [], _ => rfl
  | [_], h => by simp at h
  | [_, _], h => by simp at h
  | _ :: _ :: _ :: r, h => by simp [triplesOf, flatTris, flat_triplesOf_aux r (by simp at h; omega)]

theorem triplesOf_length_aux : ∀ idx : List Nat, (triplesOf idx).length = idx.length / 3
  | [] => rfl
  | [_] => by simp [triplesOf]
  | [_, _] => by simp [triplesOf]
  | _ :: _ :: _ :: r => by simp [triplesOf, triplesOf_length_aux r]; omega

/-- a well-formed triangle mesh for the OBJ writer: whole triangles, positions present, every index in
    range of every present attribute array, material ranges (if any) partition the triangles, material
    names non-empty once blanks are removed -/
structure WFMesh (m : Mesh α) : Prop where
  len3 : m.idx.length % 3 = 0
  pos : ∃ ps, m.pos = some ps ∧ ∀ i ∈ m.idx, i < ps.length
  uv : ∀ us, m.uv = some us → ∀ i ∈ m.idx, i < us.length
  nrm : ∀ ns, m.nrm = some ns → ∀ i ∈ m.idx, i < ns.length
  mats : m.mats = [] ∨ (m.mats.map (·.2)).sum = m.idx.length / 3
  names : ∀ p ∈ m.mats, matName p.1 ≠ ""

example : WFMesh (⟨[0, 1, 2, 2, 1, 3], some [⟨0, 0, 0⟩, ⟨1, 0, 0⟩, ⟨0, 1, 0⟩, ⟨1, 1, 0⟩], none,
    some [⟨0, 0, 1⟩, ⟨0, 0, 1⟩, ⟨0, 0, 1⟩, ⟨0, 0, 1⟩], [(some "red", 1), (none, 0), (some "blue", 1)]⟩ : Mesh Nat) :=
  ⟨rfl, ⟨_, rfl, by decide⟩, (by intro us h; cases h), (by intro ns h; cases h; decide), Or.inr (by decide),
    (by decide)⟩

/-- the lines of a mesh after its optional `g` line -/
def bodyLines (vo to no : Nat) (m : Mesh α) : List (Line Corner α) :=
  if m.mats = [] then faceLines (mkCorner m.uv.isSome m.nrm.isSome vo to no) (triplesOf m.idx)
  else rangeLines (mkCorner m.uv.isSome m.nrm.isSome vo to no) m.mats (triplesOf m.idx)

def gLine (multi : Bool) (name : String) : List (Line Corner α) := if multi || name ≠ "" then [.g name] else []

/-- what the writer needs of a mesh not to panic: whole triangles, material ranges (if any) that partition them -/
def Writable (m : Mesh α) : Prop :=
  m.idx.length % 3 = 0 ∧ (m.mats = [] ∨ (m.mats.map (·.2)).sum = m.idx.length / 3)

theorem WFMesh.writable {m : Mesh α} (h : WFMesh m) : Writable m := ⟨h.len3, h.mats⟩

theorem writeGroup_eq_aux (multi : Bool) (vo to no : Nat) (name : String) (m : Mesh α) (hm : Writable m) :
    writeGroup multi vo to no name m = .ok (gLine multi name ++ bodyLines vo to no m) := by
  obtain ⟨h3, hmats⟩ := hm
  have hidx := flat_triplesOf_aux m.idx h3
  have hlen := triplesOf_length_aux m.idx
  unfold writeGroup bodyLines gLine
  by_cases hm : m.mats = []
  · have h1 := faceRun_flat_aux (α := α) (mkCorner m.uv.isSome m.nrm.isSome vo to no) (triplesOf m.idx) []
    rw [List.append_nil, hidx, hlen] at h1
    have h2 : (m.idx.length + 2) / 3 = m.idx.length / 3 := by omega
    simp only [hm, ↓reduceIte, h2, h1, Except.map]
  · have h1 := rangeRun_eq_aux (α := α) (mkCorner m.uv.isSome m.nrm.isSome vo to no) m.mats (triplesOf m.idx)
      (by rw [hlen]; exact hmats.resolve_left hm)
    rw [hidx] at h1
    simp only [hm, ↓reduceIte, h1]

def groupLines (multi : Bool) : Nat → Nat → Nat → List (String × Mesh α) → List (Line Corner α)
  | _, _, _, [] => []
  | vo, to, no, (name, m) :: rest =>
    gLine multi name ++ bodyLines vo to no m ++
      groupLines multi (vo + optLen m.pos) (to + optLen m.uv) (no + optLen m.nrm) rest

theorem writeGroups_eq_aux (multi : Bool) : ∀ (ms : List (String × Mesh α)) (vo to no : Nat),
    (∀ p ∈ ms, Writable p.2) →
    writeGroups multi vo to no ms = .ok (groupLines multi vo to no ms)
  | [], _, _, _, _ => rfl
  | (name, m) :: rest, vo, to, no, h => by
    simp only [writeGroups, writeGroup_eq_aux multi vo to no name m (h (name, m) (by simp)),
      writeGroups_eq_aux multi rest _ _ _ (fun p hp => h p (by simp [hp])), groupLines]

/-- `pool` holds the array `src` (if present) from offset `off` on -/
def PoolAt {β : Type} (pool : List β) (off : Nat) (src : Option (List β)) : Prop :=
  ∀ l, src = some l → ∀ i, i < l.length → pool[i + off]? = l[i]?

/-- the pools hold mesh `m`'s arrays at offsets `vo / to / no` -/
def PoolsFor (pv pn : List (V3 α)) (pt : List (V2 α)) (vo to no : Nat) (m : Mesh α) : Prop :=
  PoolAt pv vo m.pos ∧ PoolAt pt to m.uv ∧ PoolAt pn no m.nrm

theorem poolAt_mid_aux {β : Type} (a c : List β) (src : Option (List β)) :
    PoolAt (a ++ (optList src ++ c)) a.length src := by
  intro l hl i hi
  subst hl
  rw [List.getElem?_append_right (by omega), show i + a.length - a.length = i by omega]
  exact List.getElem?_append_left hi

theorem res_mk_aux {pv pn : List (V3 α)} {pt : List (V2 α)} {vo to no : Nat} {m : Mesh α}
    (hp : PoolsFor pv pn pt vo to no m) (hw : WFMesh m) {i : Nat} (hi : i ∈ m.idx) :
    Resolves pv pn pt (mkCorner m.uv.isSome m.nrm.isSome vo to no i) := by
  obtain ⟨ps, hps, hlt⟩ := hw.pos
  -- an attribute that is present is found at its own offset; an absent one writes no slot
  have hlook : ∀ {β : Type} (pool : List β) (src : Option (List β)) (off : Nat),
      (∀ l, src = some l → i < l.length ∧ pool[i + off]? = l[i]?) →
      ∃ x, look pool (slot (if src.isSome then some (i + 1 + off) else none)) = some x := by
    intro β pool src off h
    cases src with
    | none => exact ⟨none, rfl⟩
    | some l =>
      obtain ⟨h1, h2⟩ := h l rfl
      exact ⟨some l[i], by simp [look, slot, h2, List.getElem?_eq_getElem h1]⟩
  obtain ⟨x, hx⟩ := hlook pt m.uv to fun us hu => ⟨hw.uv us hu i hi, hp.2.1 us hu i (hw.uv us hu i hi)⟩
  obtain ⟨y, hy⟩ := hlook pn m.nrm no fun ns hn => ⟨hw.nrm ns hn i hi, hp.2.2 ns hn i (hw.nrm ns hn i hi)⟩
  have hv : pv[i + 1 + vo - 1]? = some (ps[i]'(hlt i hi)) := by
    rw [show i + 1 + vo - 1 = i + vo by omega, hp.1 ps hps i (hlt i hi)]; exact List.getElem?_eq_getElem _
  exact Option.isSome_iff_exists.2 ⟨⟨_, x, y⟩, resolveCorner_some_iff.2 ⟨by simp [mkCorner], hv, hx, hy⟩⟩

/-- the closed material ranges the reader ends up with for mesh `m`, `carry` being the material in
    effect before it (cf. `Obj.expectMats`) -/
def expMats (carry : Option String) (m : Mesh α) : List (String × Nat) :=
  if m.mats = [] then
    (match carry with
     | some a => if m.idx.length / 3 = 0 then [] else [(a, m.idx.length / 3)]
     | none => [])
  else m.mats.map fun p => (matName p.1, p.2)

/-- the model's `expectMats` is `expMats` with the names wrapped in `some` -/
theorem expectMats_eq_aux (carry : Option String) (m : Mesh α) (h3 : m.idx.length % 3 = 0) :
    (expMats carry m).map (fun (p : String × Nat) => ((some p.1 : Option String), p.2)) = expectMats carry m := by
  unfold expMats expectMats writtenMats
  by_cases hm : m.mats = []
  · cases carry with
    | none => simp [hm]
    | some a =>
      by_cases hi : m.idx = []
      · simp [hm, hi]
      · have : m.idx.length / 3 ≠ 0 := by
          have : m.idx.length ≠ 0 := fun h => hi (List.eq_nil_of_length_eq_zero h)
          omega
        simp [hm, hi, this]
  · simp [hm, List.map_map, Function.comp_def]

/-- every mesh but the last has at least one triangle (an empty group in the middle is dropped by the
    reader: known deviation `roundtrip_empty_mesh_not_last`) -/
def NonemptyButLast : List (String × Mesh α) → Prop
  | [] => True
  | [_] => True
  | p :: q :: r => p.2.idx ≠ [] ∧ NonemptyButLast (q :: r)

def PoolsAll (pv pn : List (V3 α)) (pt : List (V2 α)) : Nat → Nat → Nat → List (String × Mesh α) → Prop
  | _, _, _, [] => True
  | vo, to, no, (_, m) :: rest =>
    PoolsFor pv pn pt vo to no m ∧ PoolsAll pv pn pt (vo + optLen m.pos) (to + optLen m.uv) (no + optLen m.nrm) rest

/-- name, face lines (as corner triples) and closed material ranges of a group -/
def sumG (g : Group Corner α) : String × List (Corner × Corner × Corner) × List (String × Nat) :=
  (g.name, g.ftoks, g.mats)

/-- what the groups read back must be, mesh by mesh: the mesh's name; one face per index triple, in
    order, corner `i ↦ (i+1+vo, i+1+to, i+1+no)` with THE MESH'S OWN offsets into the three pools;
    its material ranges (or the carried material, see `expMats`) -/
def expSum : Nat → Nat → Nat → Option String → List (String × Mesh α) →
    List (String × List (Corner × Corner × Corner) × List (String × Nat))
  | _, _, _, _, [] => []
  | vo, to, no, carry, (name, m) :: rest =>
    (name, cornerTriples (mkCorner m.uv.isSome m.nrm.isSome vo to no) (triplesOf m.idx), expMats carry m) ::
      expSum (vo + optLen m.pos) (to + optLen m.uv) (no + optLen m.nrm) (lastMat m.mats carry) rest

def isAttr {τ : Type} : Line τ α → Bool
  | .v _ | .vt _ | .vn _ => true
  | _ => false

/-- a run of `v / vt / vn` lines: each goes to its pool, and there is no face among them -/
theorem steps_attr_aux {τ : Type} [DecidableEq τ] (pc : τ → Except Err Corner) :
    ∀ (ls : List (Line τ α)) (s : RState τ α), (∀ l ∈ ls, isAttr l = true) →
    steps pc s ls = .ok { s with pv := s.pv ++ poolV ls, pn := s.pn ++ poolN ls, pt := s.pt ++ poolT ls } ∧
      faceToks ls = []
  | [], s, _ => by simp [steps, poolV, poolN, poolT, faceToks]
  | l :: ls, s, h => by
    have hl := h l (by simp)
    have ih := fun s => (steps_attr_aux pc ls s (fun l' hl' => h l' (by simp [hl']))).1
    have ihf := (steps_attr_aux pc ls s (fun l' hl' => h l' (by simp [hl']))).2
    cases l <;> simp [isAttr] at hl <;> simp [steps, step, ih, ihf, poolV, poolN, poolT, faceToks]

theorem isAttr_dataLines_aux : ∀ (ms : List (String × Mesh α)), ∀ l ∈ dataLines ms, isAttr l = true
  | [], l, hl => by cases hl
  | (_, m) :: ms, l, hl => by
    simp only [dataLines, meshData, List.mem_append, List.mem_map] at hl
    rcases hl with ((⟨_, _, rfl⟩ | ⟨_, _, rfl⟩) | ⟨_, _, rfl⟩) | hl
    · rfl
    · rfl
    · rfl
    · exact isAttr_dataLines_aux ms l hl

theorem length_optList_aux {β : Type} (a : List β) (o : Option (List β)) :
    (a ++ optList o).length = a.length + optLen o := by
  cases o <;> simp [optList, optLen]

theorem poolsAll_aux : ∀ (ms : List (String × Mesh α)) (av an : List (V3 α)) (at' : List (V2 α)),
    PoolsAll (av ++ ms.flatMap (fun p => optList p.2.pos)) (an ++ ms.flatMap (fun p => optList p.2.nrm))
      (at' ++ ms.flatMap (fun p => optList p.2.uv)) av.length at'.length an.length ms
  | [], _, _, _ => trivial
  | (name, m) :: rest, av, an, at' => by
    have h := poolsAll_aux rest (av ++ optList m.pos) (an ++ optList m.nrm) (at' ++ optList m.uv)
    rw [length_optList_aux, length_optList_aux, length_optList_aux] at h
    exact ⟨⟨poolAt_mid_aux av _ m.pos, poolAt_mid_aux at' _ m.uv, poolAt_mid_aux an _ m.nrm⟩,
      by simpa [List.flatMap_cons, List.append_assoc] using h⟩

def NoPool {τ : Type} (ls : List (Line τ α)) : Prop := poolV ls = [] ∧ poolN ls = [] ∧ poolT ls = []

theorem noPool_append_aux {τ : Type} {a b : List (Line τ α)} (ha : NoPool a) (hb : NoPool b) : NoPool (a ++ b) := by
  obtain ⟨h1, h2, h3⟩ := pool_of_append_aux a b
  exact ⟨by rw [h1, ha.1, hb.1]; rfl, by rw [h2, ha.2.1, hb.2.1]; rfl, by rw [h3, ha.2.2, hb.2.2]; rfl⟩

theorem noPool_faceLines_aux (mk : Nat → Corner) : ∀ ts : List (Nat × Nat × Nat), NoPool (faceLines (α := α) mk ts)
  | [] => ⟨rfl, rfl, rfl⟩
  | t :: ts => by
    obtain ⟨h1, h2, h3⟩ := noPool_faceLines_aux mk ts
    simp only [faceLines] at h1 h2 h3
    exact ⟨by simp [faceLines, poolV, h1], by simp [faceLines, poolN, h2], by simp [faceLines, poolT, h3]⟩

theorem noPool_rangeLines_aux (mk : Nat → Corner) : ∀ (mats : List (Option String × Nat)) (ts : List (Nat × Nat × Nat)),
    NoPool (rangeLines (α := α) mk mats ts)
  | [], _ => ⟨rfl, rfl, rfl⟩
  | (m, n) :: ms, ts => by
    have h := noPool_append_aux (noPool_faceLines_aux (α := α) mk (ts.take n)) (noPool_rangeLines_aux mk ms (ts.drop n))
    exact ⟨by simp [rangeLines, poolV, h.1], by simp [rangeLines, poolN, h.2.1], by simp [rangeLines, poolT, h.2.2]⟩

theorem noPool_groupLines_aux (multi : Bool) : ∀ (ms : List (String × Mesh α)) (vo to no : Nat),
    NoPool (groupLines multi vo to no ms)
  | [], _, _, _ => ⟨rfl, rfl, rfl⟩
  | (name, m) :: rest, vo, to, no => by
    have hg : NoPool (gLine (α := α) multi name) := by
      unfold gLine; split <;> exact ⟨rfl, rfl, rfl⟩
    have hb : NoPool (bodyLines vo to no m) := by
      unfold bodyLines; split
      · exact noPool_faceLines_aux _ _
      · exact noPool_rangeLines_aux _ _ _
    simp only [groupLines]
    exact noPool_append_aux (noPool_append_aux hg hb) (noPool_groupLines_aux multi rest _ _ _)

theorem noPool_header_aux (f : String) : NoPool (headerLines (α := α) f) := by
  unfold headerLines; split <;> exact ⟨rfl, rfl, rfl⟩

theorem pool_meshData_aux (m : Mesh α) :
    poolV (meshData m) = optList m.pos ∧ poolN (meshData m) = optList m.nrm ∧ poolT (meshData m) = optList m.uv := by
  unfold meshData
  generalize optList m.pos = a, optList m.uv = b, optList m.nrm = c
  induction a with
  | cons x a ih => simpa [poolV, poolN, poolT] using ih
  | nil =>
    induction b with
    | cons x b ih => simpa [poolV, poolN, poolT] using ih
    | nil =>
      induction c with
      | cons x c ih => simpa [poolV, poolN, poolT] using ih
      | nil => simp [poolV, poolN, poolT]

theorem pool_data_aux : ∀ ms : List (String × Mesh α),
    poolV (dataLines ms) = ms.flatMap (fun p => optList p.2.pos) ∧
    poolN (dataLines ms) = ms.flatMap (fun p => optList p.2.nrm) ∧
    poolT (dataLines ms) = ms.flatMap (fun p => optList p.2.uv)
  | [] => ⟨rfl, rfl, rfl⟩
  | (name, m) :: rest => by
    obtain ⟨r1, r2, r3⟩ := pool_data_aux rest
    obtain ⟨a1, a2, a3⟩ := pool_of_append_aux (meshData m) (dataLines rest)
    obtain ⟨m1, m2, m3⟩ := pool_meshData_aux m
    simp only [dataLines, a1, a2, a3, r1, r2, r3, m1, m2, m3, List.flatMap_cons, and_self]

/-- the text `writeObj` produces: header, all data lines, then the groups' lines -/
def objText (matFile : String) (ms : List (String × Mesh α)) : List (Line Corner α) :=
  headerLines matFile ++ dataLines ms ++ groupLines (decide (ms.length > 1)) 0 0 0 ms

theorem writeObj_eq_aux (matFile : String) (ms : List (String × Mesh α)) (h : ∀ p ∈ ms, Writable p.2) :
    writeObj matFile ms = .ok (objText matFile ms) := by
  simp only [writeObj, writeGroups_eq_aux _ ms 0 0 0 h, objText]

theorem pool_objText_aux (matFile : String) (ms : List (String × Mesh α)) :
    poolV (objText matFile ms) = ms.flatMap (fun p => optList p.2.pos) ∧
    poolN (objText matFile ms) = ms.flatMap (fun p => optList p.2.nrm) ∧
    poolT (objText matFile ms) = ms.flatMap (fun p => optList p.2.uv) := by
  obtain ⟨a1, a2, a3⟩ := pool_of_append_aux (headerLines matFile ++ dataLines ms) (groupLines (decide (ms.length > 1)) 0 0 0 ms)
  obtain ⟨b1, b2, b3⟩ := pool_of_append_aux (headerLines matFile) (dataLines ms)
  obtain ⟨g1, g2, g3⟩ := noPool_groupLines_aux (decide (ms.length > 1)) ms 0 0 0
  obtain ⟨h1, h2, h3⟩ := noPool_header_aux (α := α) matFile
  obtain ⟨d1, d2, d3⟩ := pool_data_aux ms
  unfold objText
  exact ⟨by rw [a1, b1, g1, h1, d1]; simp, by rw [a2, b2, g2, h2, d2]; simp, by rw [a3, b3, g3, h3, d3]; simp⟩

theorem faceToks_objText_aux (matFile : String) (ms : List (String × Mesh α)) :
    faceToks (objText matFile ms) = faceToks (groupLines (decide (ms.length > 1)) 0 0 0 ms) := by
  have hh : faceToks (headerLines (α := α) matFile) = [] := by unfold headerLines; split <;> rfl
  have hd := (steps_attr_aux pcId (dataLines ms) {} (isAttr_dataLines_aux ms)).2
  simp [objText, faceToks_append_aux, hh, hd]

theorem toMesh_writable_aux {τ : Type} (g : Group τ α) (h : g.mats = [] ∨ matSum g.mats = g.tris.length) :
    Writable (toMesh g).2 := by
  refine ⟨by simp [toMesh, flatTris_len_eq_aux], ?_⟩
  rcases h with h0 | h0
  · left; simp [toMesh, h0]
  · right
    have : 3 * g.tris.length / 3 = g.tris.length := by omega
    simp only [toMesh, flatTris_len_eq_aux, this, ← h0]
    simp [matSum, List.map_map, Function.comp_def]

theorem writeObj_toMesh_aux {τ : Type} (matFile : String) (gs : List (Group τ α))
    (h : ∀ g ∈ gs, g.mats = [] ∨ matSum g.mats = g.tris.length) :
    writeObj matFile (gs.map toMesh) = .ok (objText matFile (gs.map toMesh)) :=
  writeObj_eq_aux matFile _ fun p hp => by
    obtain ⟨g, hg, rfl⟩ := List.mem_map.1 hp
    exact toMesh_writable_aux g (h g hg)

end written

end ObjL
end PolyVerif
