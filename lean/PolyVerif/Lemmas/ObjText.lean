/-
  C05 — print/parse laws of the INTEGER part of the OBJ text layer (`PolyVerif/Model/ObjText.lean`):
  `parseInt (showInt n) = some n` on the int64 range, the printed token is digits with at most a leading `-`
  (no blank, no `/`), `parseInt` answers only inside the int64 range, and
  `parseCorner (showCorner c) = ok c` for every corner whose indices fit an int64.  Core Lean only.
-/
import PolyVerif.Model.ObjText

set_option linter.unusedSimpArgs false

namespace PolyVerif
namespace ObjTextL
open Obj ObjText

theorem digit_aux (d : Nat) (hd : d < 10) : digitVal (digitChar d) = d ∧ isDigit (digitChar d) = true := by
  have h : ∀ d : Fin 10, digitVal (digitChar d.val) = d.val ∧ isDigit (digitChar d.val) = true := by decide
  exact h ⟨d, hd⟩

theorem isDigit_iff_aux (c : Char) : isDigit c = true ↔ 48 ≤ c.toNat ∧ c.toNat ≤ 57 := by
  simp [isDigit, Char.le_def, UInt32.le_iff_toNat_le]

theorem digit_ne_aux {c : Char} (h : isDigit c = true) :
    c ≠ '-' ∧ c ≠ '+' ∧ c ≠ '/' ∧ ObjText.isSpace c = false := by
  rw [isDigit_iff_aux] at h
  have hne : ∀ d : Char, (d.toNat < 48 ∨ 57 < d.toNat) → c ≠ d := by rintro d hd rfl; omega
  refine ⟨hne _ (by decide), hne _ (by decide), hne _ (by decide), ?_⟩
  simp only [ObjText.isSpace, Bool.or_eq_false_iff, beq_eq_false_iff_ne, ne_eq]
  exact ⟨⟨⟨⟨⟨hne _ (by decide), hne _ (by decide)⟩, hne _ (by decide)⟩, hne _ (by decide)⟩, by omega⟩, by omega⟩

theorem digitsVal_concat_aux (l : List Char) (c : Char) : digitsVal (l ++ [c]) = digitsVal l * 10 + digitVal c := by
  simp [digitsVal, List.foldl_append]

theorem showNat_spec_aux (n : Nat) :
    digitsVal (showNat n) = n ∧ (∀ c ∈ showNat n, isDigit c = true) ∧ showNat n ≠ [] := by
  induction n using Nat.strongRecOn with
  | _ n ih =>
    rw [showNat]
    by_cases h : n < 10
    · simp only [h, ↓reduceIte]
      obtain ⟨h1, h2⟩ := digit_aux n h
      refine ⟨by simp [digitsVal, h1], ?_, by simp⟩
      intro c hc; simp only [List.mem_singleton] at hc; subst hc; exact h2
    · simp only [h, ↓reduceIte]
      obtain ⟨i1, i2, i3⟩ := ih (n / 10) (by omega)
      obtain ⟨h1, h2⟩ := digit_aux (n % 10) (by omega)
      refine ⟨?_, ?_, by simp⟩
      · rw [digitsVal_concat_aux, i1, h1]; omega
      · intro c hc
        rcases List.mem_append.1 hc with hc | hc
        · exact i2 c hc
        · simp only [List.mem_singleton] at hc; subst hc; exact h2

theorem splitSign_digit_aux {c : Char} (r : List Char) (h : isDigit c = true) : splitSign (c :: r) = (false, c :: r) := by
  obtain ⟨h1, h2, _, _⟩ := digit_ne_aux h
  unfold splitSign
  split
  · rename_i heq; simp only [List.cons.injEq] at heq; exact absurd heq.1 h1
  · rename_i heq; simp only [List.cons.injEq] at heq; exact absurd heq.1 h2
  · rfl

theorem all_digits_aux {l : List Char} (h : ∀ c ∈ l, isDigit c = true) : l.all isDigit = true := by
  simpa [List.all_eq_true] using h

theorem parseIntL_showNat_aux (k : Nat) (hk : k < 2 ^ 63) : parseIntL (showNat k) = some (k : Int) := by
  obtain ⟨h1, h2, h3⟩ := showNat_spec_aux k
  cases hs : showNat k with
  | nil => exact absurd hs h3
  | cons c r =>
    rw [hs] at h1 h2
    unfold parseIntL
    rw [splitSign_digit_aux r (h2 c (by simp))]
    simp only [all_digits_aux h2, List.isEmpty_cons, Bool.not_true, Bool.or_self, Bool.false_eq_true, ↓reduceIte, h1]
    simp [hk]

/-- **`Atoi ∘ Itoa = id`** on the int64 range -/
theorem parseIntL_showIntL (n : Int) (hlo : -2 ^ 63 ≤ n) (hhi : n < 2 ^ 63) : parseIntL (showIntL n) = some n := by
  cases n with
  | ofNat k =>
    simp only [showIntL]
    have h' : (k : Int) < 2 ^ 63 := hhi
    exact parseIntL_showNat_aux k (by omega)
  | negSucc k =>
    obtain ⟨h1, h2, h3⟩ := showNat_spec_aux (k + 1)
    have hk : k + 1 ≤ 2 ^ 63 := by
      have := Int.negSucc_eq k
      omega
    simp only [showIntL]
    unfold parseIntL
    have hsp : splitSign ('-' :: showNat (k + 1)) = (true, showNat (k + 1)) := rfl
    rw [hsp]
    have hne : (showNat (k + 1)).isEmpty = false := by
      cases hs : showNat (k + 1) with
      | nil => exact absurd hs h3
      | cons c r => rfl
    simp only [all_digits_aux h2, hne, Bool.not_true, Bool.or_self, Bool.false_eq_true, ↓reduceIte, h1, hk]
    simp [Int.negSucc_eq]

theorem showIntL_chars (n : Int) : (∀ c ∈ showIntL n, isDigit c = true ∨ c = '-') ∧ showIntL n ≠ [] := by
  cases n with
  | ofNat k =>
    obtain ⟨_, h2, h3⟩ := showNat_spec_aux k
    exact ⟨fun c hc => Or.inl (h2 c hc), h3⟩
  | negSucc k =>
    obtain ⟨_, h2, _⟩ := showNat_spec_aux (k + 1)
    refine ⟨?_, by simp [showIntL]⟩
    intro c hc
    simp only [showIntL, List.mem_cons] at hc
    rcases hc with rfl | hc
    · exact Or.inr rfl
    · exact Or.inl (h2 c hc)

theorem parseIntL_range {cs : List Char} {n : Int} (h : parseIntL cs = some n) : -2 ^ 63 ≤ n ∧ n < 2 ^ 63 := by
  unfold parseIntL at h
  generalize splitSign cs = p at h
  obtain ⟨neg, ds⟩ := p
  simp only at h
  split at h
  · cases h
  · split at h
    · split at h
      · cases h; omega
      · cases h
    · split at h
      · cases h; omega
      · cases h

def NoSlash (l : List Char) : Prop := ∀ c ∈ l, c ≠ '/'

theorem noSlash_showNat_aux (k : Nat) : NoSlash (showNat k) := fun c hc =>
  (digit_ne_aux ((showNat_spec_aux k).2.1 c hc)).2.2.1

theorem splitS_noSlash_aux : ∀ l : List Char, NoSlash l → splitS l = [l]
  | [], _ => rfl
  | c :: l, h => by
    have hc : c ≠ '/' := h c (by simp)
    have ih := splitS_noSlash_aux l (fun x hx => h x (by simp [hx]))
    simp [splitS, hc, ih]

theorem splitS_append_aux (r : List Char) : ∀ l : List Char, NoSlash l → splitS (l ++ '/' :: r) = l :: splitS r
  | [], _ => by simp [splitS]
  | c :: l, h => by
    have hc : c ≠ '/' := h c (by simp)
    have ih := splitS_append_aux r l (fun x hx => h x (by simp [hx]))
    simp [splitS, hc, ih]

theorem splitDS_noSlash_aux : ∀ l : List Char, NoSlash l → splitDS l = [l]
  | [], _ => by rw [splitDS]
  | c :: l, h => by
    have hc : c ≠ '/' := h c (by simp)
    have ih := splitDS_noSlash_aux l (fun x hx => h x (by simp [hx]))
    rw [splitDS]; simp [hc, ih]

/-- a single `/` followed by something that is not split: no `//` here -/
theorem splitDS_single_aux (e : Char) (r : List Char) (he : e ≠ '/') (hr : splitDS (e :: r) = [e :: r]) :
    ∀ l : List Char, NoSlash l → splitDS (l ++ '/' :: e :: r) = [l ++ '/' :: e :: r]
  | [], _ => by
    rw [List.nil_append, splitDS]
    have : ¬ (some e = some '/') := by simpa using he
    simp [hr, he]
  | c :: l, h => by
    have hc : c ≠ '/' := h c (by simp)
    have ih := splitDS_single_aux e r he hr l (fun x hx => h x (by simp [hx]))
    rw [List.cons_append, splitDS]; simp [hc, ih]

theorem splitDS_double_aux (r : List Char) : ∀ l : List Char, NoSlash l → splitDS (l ++ '/' :: '/' :: r) = l :: splitDS r
  | [], _ => by rw [List.nil_append, splitDS]; simp
  | c :: l, h => by
    have hc : c ≠ '/' := h c (by simp)
    have ih := splitDS_double_aux r l (fun x hx => h x (by simp [hx]))
    rw [List.cons_append, splitDS]; simp [hc, ih]

theorem intOf_showNat_aux (k : Nat) (hk : k < 2 ^ 63) : intOf (showNat k) = .ok (k : Int) := by
  simp [intOf, parseIntL_showNat_aux k hk]

theorem showNat_cons_aux (k : Nat) : ∃ e r, showNat k = e :: r ∧ e ≠ '/' ∧ ObjText.isSpace e = false ∧ NoSlash (e :: r) := by
  obtain ⟨_, h2, h3⟩ := showNat_spec_aux k
  have hn := noSlash_showNat_aux k
  cases hs : showNat k with
  | nil => exact absurd hs h3
  | cons e r =>
    rw [hs] at h2 hn
    obtain ⟨_, _, a, b⟩ := digit_ne_aux (h2 e (by simp))
    exact ⟨e, r, rfl, a, b, hn⟩

theorem finCorner_nat_aux (v : Nat) (vt vn : Option Nat) :
    finCorner (v : Int) (vt.map fun x => (x : Int)) (vn.map fun x => (x : Int)) = .ok ⟨v, vt, vn⟩ := by
  have h0 : ¬ ((v : Int) < 0) := by omega
  cases vt <;> cases vn <;> simp [finCorner, h0] <;> omega

/-- the corner law over any integer parser that reads back the printed indices -/
theorem parseCornerG_showCornerL (io : List Char → Except Err Int) (P : Nat → Prop)
    (hio : ∀ k, P k → io (showNat k) = .ok (k : Int)) (c : Corner) (hv : P c.v) (ht : ∀ t, c.vt = some t → P t)
    (hn : ∀ n, c.vn = some n → P n) : parseCornerG io (showCornerL c) = .ok c := by
  obtain ⟨v, vt, vn⟩ := c
  simp only at hv ht hn
  have hv := hio v hv
  have nv := noSlash_showNat_aux v
  cases vt with
  | none =>
    cases vn with
    | none =>
      simp only [showCornerL]
      unfold parseCornerG
      simp only [splitS_noSlash_aux _ nv, hv]
      exact finCorner_nat_aux v none none
    | some n =>
      have hn' := hio n (hn n rfl)
      obtain ⟨e, r, hs, he, hsp, hns⟩ := showNat_cons_aux n
      simp only [showCornerL]
      unfold parseCornerG
      have s1 : splitS (showNat v ++ '/' :: '/' :: showNat n) = [showNat v, [], showNat n] := by
        rw [splitS_append_aux _ _ nv]
        have : splitS ('/' :: showNat n) = [] :: splitS (showNat n) := by simp [splitS]
        rw [this, splitS_noSlash_aux _ (noSlash_showNat_aux n)]
      have s2 : splitDS (showNat v ++ '/' :: '/' :: showNat n) = [showNat v, showNat n] := by
        rw [splitDS_double_aux _ _ nv, splitDS_noSlash_aux _ (noSlash_showNat_aux n)]
      have hall : (showNat n).all ObjText.isSpace = false := by rw [hs]; simp [hsp]
      simp only [s1, s2, List.length_cons, List.length_nil, List.getD_cons_zero, List.getD_cons_succ,
        hv, hn', hall]
      simpa using finCorner_nat_aux v none (some n)
  | some t =>
    have ht' := hio t (ht t rfl)
    have nt := noSlash_showNat_aux t
    obtain ⟨e, r, hs, he, hsp, hns⟩ := showNat_cons_aux t
    cases vn with
    | none =>
      simp only [showCornerL]
      unfold parseCornerG
      have s1 : splitS (showNat v ++ '/' :: showNat t) = [showNat v, showNat t] := by
        rw [splitS_append_aux _ _ nv, splitS_noSlash_aux _ nt]
      have s2 : splitDS (showNat v ++ '/' :: showNat t) = [showNat v ++ '/' :: showNat t] := by
        rw [hs]
        exact splitDS_single_aux e r he (splitDS_noSlash_aux _ hns) _ nv
      simp only [s1, s2, List.length_cons, List.length_nil, List.getD_cons_zero, List.getD_cons_succ,
        hv, ht']
      simpa using finCorner_nat_aux v (some t) none
    | some n =>
      have hn' := hio n (hn n rfl)
      obtain ⟨e3, r3, hs3, he3, _, hns3⟩ := showNat_cons_aux n
      simp only [showCornerL]
      unfold parseCornerG
      have s1 : splitS (showNat v ++ '/' :: (showNat t ++ '/' :: showNat n)) = [showNat v, showNat t, showNat n] := by
        rw [splitS_append_aux _ _ nv, splitS_append_aux _ _ nt, splitS_noSlash_aux _ (noSlash_showNat_aux n)]
      have s2 : splitDS (showNat v ++ '/' :: (showNat t ++ '/' :: showNat n)) =
          [showNat v ++ '/' :: (showNat t ++ '/' :: showNat n)] := by
        have inner : splitDS (showNat t ++ '/' :: showNat n) = [showNat t ++ '/' :: showNat n] := by
          rw [hs3]
          exact splitDS_single_aux e3 r3 he3 (splitDS_noSlash_aux _ hns3) _ nt
        rw [hs] at inner ⊢
        exact splitDS_single_aux e (r ++ '/' :: showNat n) he inner _ nv
      simp only [s1, s2, List.length_cons, List.length_nil, List.getD_cons_zero, List.getD_cons_succ,
        hv, ht', hn']
      simpa using finCorner_nat_aux v (some t) (some n)

/-- **`parseObjFaceComponent` undoes the writer's corner token** (every index in the int64 range) -/
theorem parseCornerL_showCornerL (c : Corner) (hv : c.v < 2 ^ 63) (ht : ∀ t, c.vt = some t → t < 2 ^ 63)
    (hn : ∀ n, c.vn = some n → n < 2 ^ 63) : parseCornerL (showCornerL c) = .ok c :=
  parseCornerG_showCornerL intOf (· < 2 ^ 63) intOf_showNat_aux c hv ht hn

/-- the corner token contains no blank (it survives `strings.Fields`) and is not empty -/
theorem showCornerL_chars (c : Corner) :
    (∀ x ∈ showCornerL c, ObjText.isSpace x = false) ∧ showCornerL c ≠ [] := by
  have hd : ∀ k, (∀ x ∈ showNat k, ObjText.isSpace x = false) = True := fun k => eq_true fun x hx =>
    (digit_ne_aux ((showNat_spec_aux k).2.1 x hx)).2.2.2
  have hs : ObjText.isSpace '/' = false := by decide
  have hne : ∀ k, showNat k ≠ [] := fun k => (showNat_spec_aux k).2.2
  obtain ⟨v, vt, vn⟩ := c
  cases vt <;> cases vn <;> simp [showCornerL, or_imp, forall_and, hs, hne, hd]

end ObjTextL
end PolyVerif
