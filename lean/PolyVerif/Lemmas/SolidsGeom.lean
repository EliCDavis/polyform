/-
  C18 over ℝ: positions of `Model/Solids.lean` at the real scalar.  Sphere, hemisphere and capped cylinder are surfaces of
  revolution (`Lemmas/SolidsRev.lean`) over the half circle, over "cap centre, quarter circle, pole" and over the rectangle:
  each vertex sits at `revPos` of its logical point, so outwardness and the enclosed volume in closed form are read off the
  profile.  Boxes go through corner signs.  Also: supplied normals against face normals, and the bounds between the
  polyhedra's volumes and the analytic ones.
-/
import PolyVerif.Lemmas.SolidsRev
import PolyVerif.Gen.CubeTable
import Mathlib.Tactic
import Mathlib.Analysis.SpecialFunctions.Trigonometric.Bounds
namespace PolyVerif.Solids
open Real

noncomputable def phiOf (R ρ : Nat) : ℝ := π * (ρ : ℝ) / (R : ℝ)

/-- the sphere's profile, the half circle from `(0, r)` to `(0, −r)`: the point of sphere.go:33-36 at polar angle `φ`
    (from +y) and azimuth `θ` is `rpt (r·sin φ) (r·cos φ) θ` -/
noncomputable def uvX (r : ℝ) (R ρ : Nat) : ℝ := r * sin (phiOf R ρ)

noncomputable def uvY (r : ℝ) (R ρ : Nat) : ℝ := r * cos (phiOf R ρ)

noncomputable def uvPosL (r : ℝ) (R C : Nat) (p : LP) : V3 ℝ := revPos (uvX r R) (uvY r R) C p

theorem sin_phi_pos {R ρ : Nat} (h1 : 1 ≤ ρ) (h2 : ρ < R) : 0 < sin (phiOf R ρ) := by
  have hR : (0 : ℝ) < R := by exact_mod_cast (by omega : 0 < R)
  have h1' : (1 : ℝ) ≤ ρ := by exact_mod_cast h1
  have h2' : (ρ : ℝ) < R := by exact_mod_cast h2
  apply sin_pos_of_pos_of_lt_pi
  · unfold phiOf; positivity
  · unfold phiOf; rw [div_lt_iff₀ hR]; nlinarith [pi_pos]

theorem sin_dphi_pos {R : Nat} (hR : 2 ≤ R) : 0 < sin (π / R) := by
  have hR' : (2 : ℝ) ≤ R := by exact_mod_cast hR
  apply sin_pos_of_pos_of_lt_pi
  · positivity
  · rw [div_lt_iff₀ (by positivity)]; nlinarith [pi_pos]

@[simp] theorem n2a_real (n : Nat) : (n2a n : ℝ) = (n : ℝ) := rfl

theorem uvSpherePos_enc {R C : Nat} (r : ℝ) (hR : 2 ≤ R) (hC : 3 ≤ C) (p : LP) (hv : UvValid R C p) :
    uvSpherePos r R C (uvEnc R C p) = uvPosL r R C p := by
  rcases hv with rfl | rfl | ⟨h1, h2, h3⟩
  · simp [uvEnc_top, uvSpherePos, uvPosL, revPos, rpt, uvX, uvY, phiOf, V3.New]
  · rw [uvEnc_bot C hR]
    have : uvBottom R C ≠ 0 := by simp [uvBottom]
    have hR0 : (R : ℝ) ≠ 0 := by positivity
    simp [uvSpherePos, this, uvPosL, revPos, rpt, uvX, uvY, phiOf, V3.New, mul_div_cancel_right₀ _ hR0]
  · obtain ⟨ρ, c⟩ := p
    simp only at h1 h2 h3
    obtain ⟨n0, n1, hd1, hd2⟩ := uvEnc_grid_dec hR hC h1 h2 h3
    simp only [uvSpherePos, n0, n1, if_false, hd1, hd2, uvPosL, revPos, rpt, uvX, uvY, phiOf, thetaOf, n2a_real,
      RS.sin_eq, RS.cos_eq, RS.pi_eq, V3.New, V3.Scale, V3.mk.injEq]
    push_cast
    refine ⟨?_, ?_, ?_⟩ <;> ring

theorem dphi {R : Nat} (hR : 2 ≤ R) (ρ : Nat) : phiOf R (ρ + 1) - phiOf R ρ = π / R := by
  have hR' : (R : ℝ) ≠ 0 := by positivity
  unfold phiOf; push_cast; field_simp; ring

theorem phiOf_mul (R k : Nat) : phiOf R k = (k : ℝ) * (π / R) := by unfold phiOf; ring

theorem phiOf_zero (R : Nat) : phiOf R 0 = 0 := by simp [phiOf]

theorem phiOf_self {R : Nat} (hR : 2 ≤ R) : phiOf R R = π := by
  have hR0 : (R : ℝ) ≠ 0 := by positivity
  simp [phiOf, mul_div_cancel_right₀ _ hR0]

theorem uvX_zero (r : ℝ) (R : Nat) : uvX r R 0 = 0 := by simp [uvX, phiOf_zero]

theorem uvX_self (r : ℝ) {R : Nat} (hR : 2 ≤ R) : uvX r R R = 0 := by simp [uvX, phiOf_self hR]

theorem uvX_pos {R k : Nat} {r : ℝ} (hr : 0 < r) (h1 : 1 ≤ k) (h2 : k < R) : 0 < uvX r R k :=
  mul_pos hr (sin_phi_pos h1 h2)

theorem sweep_sphere {R : Nat} (r : ℝ) (hR : 2 ≤ R) (ρ : Nat) : sweep (uvX r R) (uvY r R) ρ = r ^ 2 * sin (π / R) := by
  rw [← dphi hR ρ, sin_sub]; simp only [sweep, uvX, uvY]; ring

theorem uvPosL_lengthSquared (r : ℝ) (R C : Nat) (p : LP) : (uvPosL r R C p).LengthSquared = r ^ 2 := by
  simp only [uvPosL, revPos, rpt_lengthSquared, uvX, uvY]
  linear_combination r ^ 2 * sin_sq_add_cos_sq (phiOf R p.1)

/-- every logical sphere triangle has positive signed volume against the centre -/
theorem sphereL_outward {R C : Nat} {r : ℝ} (hr : 0 < r) (hR : 2 ≤ R) (hC : 3 ≤ C) :
    ∀ t ∈ sphereL R C, 0 < rdet (uvX r R) (uvY r R) C t := fun t ht =>
  rev_outward hC (fun _ => uvX_pos hr)
    (fun ρ _ => by rw [sweep_sphere r hR]; have := sin_dphi_pos hR; positivity)
    (sphereL_rdet _ _ hR hC (uvX_zero r R) (uvX_self r hR) ht)

/-! ### generic facts about `OutwardAt` / `NormalsOutward` over ℝ -/

def O3 : V3 ℝ := ⟨0, 0, 0⟩

@[simp] theorem sub_O3 (p : V3 ℝ) : p.Sub O3 = p := V3.Sub_zero p

theorem outwardAt_map {pos : Nat → V3 ℝ} {ctr : V3 ℝ} (f : Nat → Nat) (ts : List Tri) :
    OutwardAt (fun v => pos (f v)) ctr ts ↔ OutwardAt pos ctr (ts.map (tmap f)) := by
  simp only [OutwardAt, List.mem_map]
  constructor
  · rintro h _ ⟨t, ht, rfl⟩; exact h t ht
  · intro h t ht; exact h _ ⟨t, ht, rfl⟩

theorem dot_faceNormal (a b c : V3 ℝ) :
    a.Dot (faceNormal a b c) = det3 a b c ∧ b.Dot (faceNormal a b c) = det3 a b c ∧
      c.Dot (faceNormal a b c) = det3 a b c := V3.dot_cross_sub a b c

/-- a vector with positive dot product against `n` keeps it after `Normalized()` -/
theorem normalized_dot_pos (p n : V3 ℝ) (h : 0 < p.Dot n) : 0 < p.Normalized.Dot n := by
  rw [V3.normalized_dot]
  -- `p ≠ 0`, its dot product with `n` being positive
  exact div_pos h (V3.length_pos fun e => h.ne' (by rw [e]; simp only [V3.Dot, zero_mul, add_zero]))

theorem normalsOutward_of_outward {pos : Nat → V3 ℝ} {ts : List Tri}
    (h : OutwardAt pos O3 ts) : NormalsOutward pos (fun v => (pos v).Normalized) ts := by
  intro t ht
  have hd := h t ht
  simp only [sub_O3, n2a_real, Nat.cast_zero] at hd
  obtain ⟨h1, h2, h3⟩ := dot_faceNormal (pos t.1) (pos t.2.1) (pos t.2.2)
  simp only [n2a_real, Nat.cast_zero]
  exact ⟨normalized_dot_pos _ _ (h1 ▸ hd), normalized_dot_pos _ _ (h2 ▸ hd), normalized_dot_pos _ _ (h3 ▸ hd)⟩

theorem normalsOutward_iff {pos nrm : Nat → V3 ℝ} {ts : List Tri} : NormalsOutward pos nrm ts ↔
    ∀ t ∈ ts, ∀ v ∈ [t.1, t.2.1, t.2.2], 0 < (nrm v).Dot (faceNormal (pos t.1) (pos t.2.1) (pos t.2.2)) := by
  simp [NormalsOutward]

/-- the fold of the model is the sum over the list -/
theorem volume6_eq_triSum (pos : Nat → V3 ℝ) (ts : List Tri) : volume6 pos ts = triSum pos ts := by
  have : ∀ (acc : ℝ), ts.foldl (fun acc t => acc + det3 (pos t.1) (pos t.2.1) (pos t.2.2)) acc = acc + triSum pos ts := by
    induction ts with
    | nil => intro acc; simp [triSum]
    | cons t ts ih => intro acc; rw [List.foldl_cons, ih, triSum_cons, det3, add_assoc]
  simp only [volume6, n2a_real, Nat.cast_zero, this, zero_add]

theorem volume6_map (pos : Nat → V3 ℝ) (f : Nat → Nat) (ts : List Tri) :
    volume6 (fun v => pos (f v)) ts = volume6 pos (ts.map (tmap f)) := by
  rw [volume6_eq_triSum, volume6_eq_triSum]; exact (triSum_map pos f ts).symm

/-! the predicates only look at the vertices the triangles use -/

theorem outwardAt_congr {pos pos' : Nat → V3 ℝ} {ctr : V3 ℝ} {ts : List Tri}
    (h : ∀ t ∈ ts, pos t.1 = pos' t.1 ∧ pos t.2.1 = pos' t.2.1 ∧ pos t.2.2 = pos' t.2.2)
    (ho : OutwardAt pos' ctr ts) : OutwardAt pos ctr ts := by
  intro t ht; obtain ⟨a, b, c⟩ := h t ht; rw [a, b, c]; exact ho t ht

theorem normalsOutward_congr {pos pos' nrm nrm' : Nat → V3 ℝ} {ts : List Tri}
    (h : ∀ t ∈ ts, pos t.1 = pos' t.1 ∧ pos t.2.1 = pos' t.2.1 ∧ pos t.2.2 = pos' t.2.2)
    (hn : ∀ t ∈ ts, nrm t.1 = nrm' t.1 ∧ nrm t.2.1 = nrm' t.2.1 ∧ nrm t.2.2 = nrm' t.2.2)
    (ho : NormalsOutward pos' nrm' ts) : NormalsOutward pos nrm ts := by
  intro t ht
  obtain ⟨a, b, c⟩ := h t ht
  obtain ⟨a', b', c'⟩ := hn t ht
  simp only [a, b, c, a', b', c']
  exact ho t ht

theorem volume6_congr {pos pos' : Nat → V3 ℝ} {ts : List Tri}
    (h : ∀ t ∈ ts, pos t.1 = pos' t.1 ∧ pos t.2.1 = pos' t.2.1 ∧ pos t.2.2 = pos' t.2.2) :
    volume6 pos ts = volume6 pos' ts := by
  rw [volume6_eq_triSum, volume6_eq_triSum]; exact triSum_congr h

/-! ### boxes

A box corner is its sign pattern times the half extents, so determinants and face normals of corner triangles are
integer expressions in the signs times `w·h·d/8` (resp. the face areas): the tables are checked over `ℤ`. -/

theorem cornerPos_eq_sign (w h d : ℝ) (c : Nat) :
    cornerPos w h d c =
      ⟨(cornerSign c).1 * (w / 2), (cornerSign c).2.1 * (h / 2), (cornerSign c).2.2 * (d / 2)⟩ := by
  simp only [cornerPos, cornerSign, V3.New, n2a_real, Nat.cast_ofNat, V3.mk.injEq]
  refine ⟨?_, ?_, ?_⟩ <;> split_ifs <;> simp

def signDet (t : Tri) : Int :=
  let a := cornerSign t.1; let b := cornerSign t.2.1; let c := cornerSign t.2.2
  a.1 * (b.2.1 * c.2.2 - b.2.2 * c.2.1) + a.2.1 * (b.2.2 * c.1 - b.1 * c.2.2) + a.2.2 * (b.1 * c.2.1 - b.2.1 * c.1)

theorem det3_cornerPos (w h d : ℝ) (t : Tri) :
    det3 (cornerPos w h d t.1) (cornerPos w h d t.2.1) (cornerPos w h d t.2.2) = signDet t * (w * h * d / 8) := by
  simp only [cornerPos_eq_sign, det3, V3.Dot, V3.Cross, signDet]
  push_cast
  ring

/-- corner triangles whose sign determinant is `4` each span `w·h·d/2` against the centre -/
theorem corners_outward {w h d : ℝ} (hw : 0 < w) (hh : 0 < h) (hd : 0 < d) {ts : List Tri}
    (hts : ∀ t ∈ ts, signDet t = 4) : OutwardAt (cornerPos w h d) O3 ts := by
  intro t ht
  simp only [sub_O3, n2a_real, Nat.cast_zero, det3_cornerPos, hts t ht]
  push_cast
  positivity

theorem corners_volume (w h d : ℝ) {ts : List Tri} (hts : ∀ t ∈ ts, signDet t = 4) :
    volume6 (cornerPos w h d) ts = ts.length * (w * h * d / 2) := by
  rw [volume6_eq_triSum]
  exact triSum_const _ ts _ fun t ht => by rw [← det3, det3_cornerPos, hts t ht]; push_cast; ring

theorem cubeWelded_signDet : ∀ t ∈ unflat Gen.CubeTable.cubeVertIndices, signDet t = 4 := by decide

theorem cubeQuads_signDet : ∀ t ∈ cubeQuadsTris.map (tmap cubeQuadsPt), signDet t = 4 := by decide

/-- cross product of the sign differences `b − a`, `c − a` of three corners -/
def signNormal (t : Tri) : Int × Int × Int :=
  let a := cornerSign t.1; let b := cornerSign t.2.1; let c := cornerSign t.2.2
  ((b.2.1 - a.2.1) * (c.2.2 - a.2.2) - (b.2.2 - a.2.2) * (c.2.1 - a.2.1),
   (b.2.2 - a.2.2) * (c.1 - a.1) - (b.1 - a.1) * (c.2.2 - a.2.2),
   (b.1 - a.1) * (c.2.1 - a.2.1) - (b.2.1 - a.2.1) * (c.1 - a.1))

theorem faceNormal_cornerPos (w h d : ℝ) (t : Tri) :
    faceNormal (cornerPos w h d t.1) (cornerPos w h d t.2.1) (cornerPos w h d t.2.2) =
      ⟨(signNormal t).1 * (h * d / 4), (signNormal t).2.1 * (w * d / 4), (signNormal t).2.2 * (w * h / 4)⟩ := by
  simp only [cornerPos_eq_sign, faceNormal, V3.Sub, V3.Cross, signNormal, V3.mk.injEq]
  push_cast
  refine ⟨?_, ?_, ?_⟩ <;> ring

/-- the supplied normal of face `q` of the six-quad box, as a sign vector -/
def faceAxis : Nat → Int × Int × Int
  | 0 => (0, 1, 0) | 1 => (0, -1, 0) | 2 => (-1, 0, 0) | 3 => (1, 0, 0) | 4 => (0, 0, 1) | _ => (0, 0, -1)

theorem cubeQuadsNormal_eq_axis (v : Nat) :
    (cubeQuadsNormal v : V3 ℝ) = ⟨(faceAxis (v / 4)).1, (faceAxis (v / 4)).2.1, (faceAxis (v / 4)).2.2⟩ := by
  unfold cubeQuadsNormal faceAxis
  generalize v / 4 = q
  split <;> simp [V3.New]

/-- for every corner `v` of every triangle, the face normal is 4 times the supplied axis of `v`'s face, in sign units -/
theorem cubeQuads_axis_table : ∀ t ∈ cubeQuadsTris, ∀ v ∈ [t.1, t.2.1, t.2.2],
    let n := signNormal (tmap cubeQuadsPt t); let a := faceAxis (v / 4)
    (a.1 * n.1, a.2.1 * n.2.1, a.2.2 * n.2.2) ∈ [((4 : Int), (0 : Int), (0 : Int)), (0, 4, 0), (0, 0, 4)] := by
  decide

/-! ### the capped cylinder: raw vertices on the surface of revolution over the rectangle
`(0, H/2) → (r, H/2) → (r, −H/2) → (0, −H/2)` -/

/-- cylinder.go's `angleIncrement * k` is the azimuth of column `k` -/
theorem angleIncrement_mul (S k : Nat) : (angleIncrement S : ℝ) * (k : ℝ) = thetaOf S k := by
  simp only [angleIncrement, thetaOf, n2a_real, RS.pi_eq]; push_cast; ring

theorem mem_cylinderTris {S : Nat} {t : Tri} : t ∈ cylinderTris S false false ↔
    (∃ i, i < S ∧ (t = (2 * i + 1, 2 * i, 2 * i + 2) ∨ t = (2 * i + 1, 2 * i + 2, 2 * i + 3))) ∨
    ((∃ i, i < S - 1 ∧ t = (i + cylinderSideNV S, S + cylinderSideNV S, i + 1 + cylinderSideNV S)) ∨
      t = (S - 1 + cylinderSideNV S, S + cylinderSideNV S, 0 + cylinderSideNV S)) ∨
    ((∃ i, i < S - 1 ∧ t = (i + (cylinderSideNV S + circleNV S), S + (cylinderSideNV S + circleNV S),
        i + 1 + (cylinderSideNV S + circleNV S))) ∨
      t = (S - 1 + (cylinderSideNV S + circleNV S), S + (cylinderSideNV S + circleNV S),
        0 + (cylinderSideNV S + circleNV S))) := by
  simp only [cylinderTris, cylinderSideTris, shift, circleTris, Bool.false_eq_true, if_false, List.mem_append,
    List.mem_flatMap, List.mem_map, List.mem_range, List.mem_cons, List.not_mem_nil, or_false, List.map_append,
    List.map_map, List.map_cons, List.map_nil, Function.comp, or_assoc, @eq_comm _ _ t]

theorem cylinderTris_lt {S : Nat} (hS : 1 ≤ S) : ∀ t ∈ cylinderTris S false false,
    t.1 < cylinderNV S false false ∧ t.2.1 < cylinderNV S false false ∧ t.2.2 < cylinderNV S false false := by
  intro t ht
  simp only [cylinderNV, cylinderSideNV, circleNV, Bool.false_eq_true, if_false]
  rcases mem_cylinderTris.1 ht with ⟨i, hi, rfl | rfl⟩ | (⟨i, hi, rfl⟩ | rfl) | (⟨i, hi, rfl⟩ | rfl) <;>
    simp only [cylinderSideNV, circleNV] <;> omega

theorem cylPos_side {S i : Nat} (r H : ℝ) (hi : i ≤ S) :
    cylinderPos r H S (2 * i) = rpt r (H / 2) (thetaOf S i) ∧
    cylinderPos r H S (2 * i + 1) = rpt r (-(H / 2)) (thetaOf S i) := by
  have a1 : 2 * i < 2 * S + 2 := by omega
  have a2 : 2 * i + 1 < 2 * S + 2 := by omega
  have a3 : 2 * i / 2 = i := by omega
  have a4 : (2 * i + 1) / 2 = i := by omega
  have a5 : 2 * i % 2 = 0 := by omega
  simp [cylinderPos, a1, a2, a3, a4, a5, rpt, angleIncrement_mul, V3.New, mul_comm r]

theorem cylPos_top {S k : Nat} (r H : ℝ) (hk : k < S) :
    cylinderPos r H S (k + cylinderSideNV S) = rpt r (H / 2) (thetaOf S k) := by
  have a1 : ¬ (k + (S * 2 + 2) < 2 * S + 2) := by omega
  have a2 : k + (S * 2 + 2) < 3 * S + 2 := by omega
  have a3 : k + (S * 2 + 2) - (2 * S + 2) = k := by omega
  simp [cylinderPos, cylinderSideNV, a1, a2, a3, rpt, angleIncrement_mul, V3.New, mul_comm r]

theorem cylPos_topc (S : Nat) (r H : ℝ) : cylinderPos r H S (S + cylinderSideNV S) = ⟨0, H / 2, 0⟩ := by
  have a3 : S + (S * 2 + 2) = 3 * S + 2 := by omega
  have a1 : ¬ (3 * S + 2 < 2 * S + 2) := by omega
  simp [cylinderPos, cylinderSideNV, a3, a1, V3.New]

/-- the bottom cap is the circle turned by π about X: its rim runs the other way round -/
theorem cylPos_bot {S k : Nat} (r H : ℝ) (hk : k < S) :
    cylinderPos r H S (k + (cylinderSideNV S + circleNV S)) = rpt r (-(H / 2)) (-thetaOf S k) := by
  have a1 : ¬ (k + (S * 2 + 2 + (S + 1)) < 2 * S + 2) := by omega
  have a2 : ¬ (k + (S * 2 + 2 + (S + 1)) < 3 * S + 2) := by omega
  have a3 : ¬ (k + (S * 2 + 2 + (S + 1)) = 3 * S + 2) := by omega
  have a4 : k + (S * 2 + 2 + (S + 1)) < 4 * S + 3 := by omega
  have a5 : k + (S * 2 + 2 + (S + 1)) - (3 * S + 3) = k := by omega
  simp [cylinderPos, cylinderSideNV, circleNV, a1, a2, a3, a4, a5, rpt, angleIncrement_mul, V3.New, mul_comm r]

theorem cylPos_botc (S : Nat) (r H : ℝ) :
    cylinderPos r H S (S + (cylinderSideNV S + circleNV S)) = ⟨0, -(H / 2), 0⟩ := by
  have a1 : ¬ (S + (S * 2 + 2 + (S + 1)) < 2 * S + 2) := by omega
  have a2 : ¬ (S + (S * 2 + 2 + (S + 1)) < 3 * S + 2) := by omega
  have a3 : ¬ (S + (S * 2 + 2 + (S + 1)) = 3 * S + 2) := by omega
  have a4 : ¬ (S + (S * 2 + 2 + (S + 1)) < 4 * S + 3) := by omega
  simp [cylinderPos, cylinderSideNV, circleNV, a1, a2, a3, a4, V3.New]

/-- un-normalised side normal `(cos a, c, sin a)` -/
noncomputable def nvec (a c : ℝ) : V3 ℝ := ⟨cos a, c, sin a⟩

theorem cylNrm_side {S i : Nat} (hi : i ≤ S) :
    (cylinderNormal S (2 * i) : V3 ℝ) = (nvec (thetaOf S i) (1 / 10)).Normalized ∧
    (cylinderNormal S (2 * i + 1) : V3 ℝ) = (nvec (thetaOf S i) (-(1 / 10))).Normalized := by
  have a1 : 2 * i < 2 * S + 2 := by omega
  have a2 : 2 * i + 1 < 2 * S + 2 := by omega
  have a3 : 2 * i / 2 = i := by omega
  have a4 : (2 * i + 1) / 2 = i := by omega
  have a5 : 2 * i % 2 = 0 := by omega
  simp [cylinderNormal, a1, a2, a3, a4, a5, nvec, angleIncrement_mul, V3.New]

theorem cylNrm_top {S k : Nat} (hk : k ≤ S) : (cylinderNormal S (k + cylinderSideNV S) : V3 ℝ) = ⟨0, 1, 0⟩ := by
  have a1 : ¬ (k + (S * 2 + 2) < 2 * S + 2) := by omega
  have a2 : k + (S * 2 + 2) < 3 * S + 3 := by omega
  simp [cylinderNormal, cylinderSideNV, a1, a2, V3.New]

theorem cylNrm_bot {S k : Nat} (_hk : k ≤ S) :
    (cylinderNormal S (k + (cylinderSideNV S + circleNV S)) : V3 ℝ) = ⟨0, -1, 0⟩ := by
  have a1 : ¬ (k + (S * 2 + 2 + (S + 1)) < 2 * S + 2) := by omega
  have a2 : ¬ (k + (S * 2 + 2 + (S + 1)) < 3 * S + 3) := by omega
  simp [cylinderNormal, cylinderSideNV, circleNV, a1, a2, V3.New]

theorem dot_side1 (r y a1 a2 c : ℝ) :
    (nvec a1 c).Dot (faceNormal (rpt r (-y) a1) (rpt r y a1) (rpt r y a2)) = 2 * y * r * sin (a2 - a1) ∧
    (nvec a2 c).Dot (faceNormal (rpt r (-y) a1) (rpt r y a1) (rpt r y a2)) = 2 * y * r * sin (a2 - a1) := by
  simp only [faceNormal, nvec, rpt, V3.Dot, V3.Cross, V3.Sub, sin_sub]
  constructor <;> ring

theorem dot_side2 (r y a1 a2 c : ℝ) :
    (nvec a1 c).Dot (faceNormal (rpt r (-y) a1) (rpt r y a2) (rpt r (-y) a2)) = 2 * y * r * sin (a2 - a1) ∧
    (nvec a2 c).Dot (faceNormal (rpt r (-y) a1) (rpt r y a2) (rpt r (-y) a2)) = 2 * y * r * sin (a2 - a1) := by
  simp only [faceNormal, nvec, rpt, V3.Dot, V3.Cross, V3.Sub, sin_sub]
  constructor <;> ring

theorem dot_top (r y a1 a2 : ℝ) :
    (⟨0, 1, 0⟩ : V3 ℝ).Dot (faceNormal (rpt r y a1) ⟨0, y, 0⟩ (rpt r y a2)) = r ^ 2 * sin (a2 - a1) := by
  simp only [faceNormal, rpt, V3.Dot, V3.Cross, V3.Sub, sin_sub]; ring

theorem dot_bot (r y a1 a2 : ℝ) :
    (⟨0, -1, 0⟩ : V3 ℝ).Dot (faceNormal (rpt r y (-a1)) ⟨0, y, 0⟩ (rpt r y (-a2))) = r ^ 2 * sin (a2 - a1) := by
  simp only [faceNormal, rpt, V3.Dot, V3.Cross, V3.Sub, sin_sub, sin_neg, cos_neg]; ring

theorem cylinder_normals_outward_aux {S : Nat} {r H : ℝ} (hr : 0 < r) (hH : 0 < H) (hS : 3 ≤ S) :
    NormalsOutward (cylinderPos r H S) (cylinderNormal S) (cylinderTris S false false) := by
  have hsin := sin_dtheta_pos hS
  have hy : 0 < H / 2 := by positivity
  have k1 : 0 < 2 * (H / 2) * r * sin (2 * π / S) := by positivity
  have k2 : 0 < r ^ 2 * sin (2 * π / S) := by positivity
  intro t ht
  simp only [n2a_real, Nat.cast_zero]
  rcases mem_cylinderTris.1 ht with ⟨i, hi, rfl | rfl⟩ | (⟨i, hi, rfl⟩ | rfl) | (⟨i, hi, rfl⟩ | rfl)
  · have d := dot_side1 r (H / 2) (thetaOf S i) (thetaOf S (i + 1))
    simp only [show 2 * i + 2 = 2 * (i + 1) by ring, (cylPos_side r H (show i ≤ S by omega)).1,
      (cylPos_side r H (show i ≤ S by omega)).2, (cylPos_side r H (show i + 1 ≤ S by omega)).1,
      (cylNrm_side (show i ≤ S by omega)).1, (cylNrm_side (show i ≤ S by omega)).2,
      (cylNrm_side (show i + 1 ≤ S by omega)).1]
    refine ⟨normalized_dot_pos _ _ ?_, normalized_dot_pos _ _ ?_, normalized_dot_pos _ _ ?_⟩
    · rw [(d _).1, sin_dtheta_succ hS]; exact k1
    · rw [(d _).1, sin_dtheta_succ hS]; exact k1
    · rw [(d _).2, sin_dtheta_succ hS]; exact k1
  · have d := dot_side2 r (H / 2) (thetaOf S i) (thetaOf S (i + 1))
    simp only [show 2 * i + 3 = 2 * (i + 1) + 1 by ring, show 2 * i + 2 = 2 * (i + 1) by ring,
      (cylPos_side r H (show i ≤ S by omega)).2, (cylPos_side r H (show i + 1 ≤ S by omega)).1,
      (cylPos_side r H (show i + 1 ≤ S by omega)).2,
      (cylNrm_side (show i ≤ S by omega)).2, (cylNrm_side (show i + 1 ≤ S by omega)).1,
      (cylNrm_side (show i + 1 ≤ S by omega)).2]
    refine ⟨normalized_dot_pos _ _ ?_, normalized_dot_pos _ _ ?_, normalized_dot_pos _ _ ?_⟩
    · rw [(d _).1, sin_dtheta_succ hS]; exact k1
    · rw [(d _).2, sin_dtheta_succ hS]; exact k1
    · rw [(d _).2, sin_dtheta_succ hS]; exact k1
  · simp only [cylPos_top r H (show i < S by omega), cylPos_top r H (show i + 1 < S by omega), cylPos_topc,
      cylNrm_top (show i ≤ S by omega), cylNrm_top (show i + 1 ≤ S by omega), cylNrm_top (le_refl S), dot_top,
      sin_dtheta_succ hS]
    exact ⟨k2, k2, k2⟩
  · simp only [cylPos_top r H (show S - 1 < S by omega), cylPos_top r H (show 0 < S by omega), cylPos_topc,
      cylNrm_top (show S - 1 ≤ S by omega), cylNrm_top (show 0 ≤ S by omega), cylNrm_top (le_refl S), dot_top,
      sin_dtheta_wrap hS]
    exact ⟨k2, k2, k2⟩
  · simp only [cylPos_bot r H (show i < S by omega), cylPos_bot r H (show i + 1 < S by omega), cylPos_botc,
      cylNrm_bot (show i ≤ S by omega), cylNrm_bot (show i + 1 ≤ S by omega), cylNrm_bot (le_refl S), dot_bot,
      sin_dtheta_succ hS]
    exact ⟨k2, k2, k2⟩
  · simp only [cylPos_bot r H (show S - 1 < S by omega), cylPos_bot r H (show 0 < S by omega), cylPos_botc,
      cylNrm_bot (show S - 1 ≤ S by omega), cylNrm_bot (show 0 ≤ S by omega), cylNrm_bot (le_refl S), dot_bot,
      sin_dtheta_wrap hS]
    exact ⟨k2, k2, k2⟩

def cylX (r : ℝ) (ρ : Nat) : ℝ := if ρ = 1 ∨ ρ = 2 then r else 0

noncomputable def cylY (H : ℝ) (ρ : Nat) : ℝ := if ρ ≤ 1 then H / 2 else -(H / 2)

noncomputable def cylPosL (r H : ℝ) (S : Nat) (p : LP) : V3 ℝ := revPos (cylX r) (cylY H) S p

theorem cylPosL_rim (r H : ℝ) (S c : Nat) : cylPosL r H S (1, c) = rpt r (H / 2) (thetaOf S c) ∧
    cylPosL r H S (2, c) = rpt r (-(H / 2)) (thetaOf S c) := by
  simp [cylPosL, revPos, cylX, cylY]

/-- every vertex sits at the position of its logical point: the seam column `S` at column `0`, cap rim vertices at the
    side's rim points (bottom: column `k` of the turned circle at column `S − k`) -/
theorem cylinderPos_eq_L {S : Nat} (r H : ℝ) (hS : 3 ≤ S) {v : Nat} (hv : v < cylinderNV S false false) :
    cylinderPos r H S v = cylPosL r H S (cylinderPt S v) := by
  simp only [cylinderNV, cylinderSideNV, circleNV, Bool.false_eq_true, if_false] at hv
  by_cases h1 : v < 2 * S + 2
  · -- side
    obtain ⟨k, rfl | rfl⟩ : ∃ k, v = 2 * k ∨ v = 2 * k + 1 := ⟨v / 2, by omega⟩
    · have hk : k ≤ S := by omega
      rw [(cylPos_side r H hk).1, (cylPt_side (by omega) hk).1, (cylPosL_rim r H S _).1, rpt_theta_mod (by omega)]
    · have hk : k ≤ S := by omega
      rw [(cylPos_side r H hk).2, (cylPt_side (by omega) hk).2, (cylPosL_rim r H S _).2, rpt_theta_mod (by omega)]
  · by_cases h2 : v < 3 * S + 2
    · obtain ⟨k, hk, rfl⟩ : ∃ k, k < S ∧ v = k + cylinderSideNV S := ⟨v - (2 * S + 2), by omega, by
        simp only [cylinderSideNV]; omega⟩
      rw [cylPos_top r H hk, cylPt_top hk, (cylPosL_rim r H S _).1]
    · by_cases h3 : v = 3 * S + 2
      · have : v = S + cylinderSideNV S := by simp only [cylinderSideNV]; omega
        rw [this, cylPos_topc, cylPt_topc]; simp [cylPosL, revPos, rpt, cylX, cylY]
      · by_cases h4 : v < 4 * S + 3
        · obtain ⟨k, hk, rfl⟩ : ∃ k, k < S ∧ v = k + (cylinderSideNV S + circleNV S) :=
            ⟨v - (3 * S + 3), by omega, by simp only [cylinderSideNV, circleNV]; omega⟩
          rw [cylPos_bot r H hk, cylPt_bot hk, (cylPosL_rim r H S _).2, rpt_theta_mod (by omega),
            rpt_theta_compl (by omega) hk.le]
        · have : v = S + (cylinderSideNV S + circleNV S) := by simp only [cylinderSideNV, circleNV]; omega
          rw [this, cylPos_botc, cylPt_botc]; simp [cylPosL, revPos, rpt, cylX, cylY]

/-- the three segments of the rectangle sweep `r·H/2`, `r·H`, `r·H/2` about the centre -/
theorem sweep_cyl (r H : ℝ) : sweep (cylX r) (cylY H) 0 = r * H / 2 ∧ sweep (cylX r) (cylY H) 1 = r * H ∧
    sweep (cylX r) (cylY H) 2 = r * H / 2 := by
  refine ⟨?_, ?_, ?_⟩ <;> norm_num [sweep, cylX, cylY] <;> ring

theorem cylL_outward {S : Nat} {r H : ℝ} (hr : 0 < r) (hH : 0 < H) (hS : 3 ≤ S) :
    ∀ t ∈ cylL S, 0 < rdet (cylX r) (cylY H) S t := by
  intro t ht
  obtain ⟨w0, w1, w2⟩ := sweep_cyl r H
  refine rev_outward (R := 3) hS (fun k h1 h2 => ?_) (fun ρ hρ => ?_)
    (cylL_rdet _ _ hS (by simp [cylX]) (by simp [cylX]) ht)
  · interval_cases k <;> simp [cylX, hr]
  · interval_cases ρ <;> simp only [w0, w1, w2] <;> positivity

theorem cylinder_on_L {S : Nat} (r H : ℝ) (hS : 3 ≤ S) {t : Tri} (ht : t ∈ cylinderTris S false false) :
    cylinderPos r H S t.1 = cylPosL r H S (cylinderPt S t.1) ∧ cylinderPos r H S t.2.1 = cylPosL r H S (cylinderPt S t.2.1) ∧
      cylinderPos r H S t.2.2 = cylPosL r H S (cylinderPt S t.2.2) :=
  let ⟨a, b, c⟩ := cylinderTris_lt (by omega) t ht
  ⟨cylinderPos_eq_L r H hS a, cylinderPos_eq_L r H hS b, cylinderPos_eq_L r H hS c⟩

theorem cylinder_outward_aux {S : Nat} {r H : ℝ} (hr : 0 < r) (hH : 0 < H) (hS : 3 ≤ S) :
    OutwardAt (cylinderPos r H S) O3 (cylinderTris S false false) := by
  intro t ht
  obtain ⟨a, b, c⟩ := cylinder_on_L r H hS ht
  simp only [sub_O3, n2a_real, Nat.cast_zero, a, b, c]
  exact cylL_outward hr hH hS (tmap (cylinderPt S) t) (by rw [← cylinder_map_pt (by omega)]; exact List.mem_map_of_mem ht)

/-- six times the enclosed volume of the capped cylinder = `6 · (S/2)·sin(2π/S)·r²·H`, the prism over the inscribed
    regular `S`-gon -/
theorem cylinder_volume_aux {S : Nat} (r H : ℝ) (hS : 3 ≤ S) :
    volume6 (cylinderPos r H S) (cylinderTris S false false) = 6 * ((S : ℝ) / 2 * sin (2 * π / S) * r ^ 2 * H) := by
  obtain ⟨w0, w1, w2⟩ := sweep_cyl r H
  have h := cylL_rdet_sum (cylX r) (cylY H) hS (by simp [cylX]) (by simp [cylX])
  rw [← cylinder_map_pt (by omega), w0, w1, w2] at h
  rw [volume6_eq_triSum]
  -- re-index by logical points
  refine ((triSum_congr fun t ht => cylinder_on_L r H hS ht).trans
    (triSum_map (cylPosL r H S) (cylinderPt S) _).symm).trans (h.trans ?_)
  norm_num [cylX]
  ring

/-- the centre used for the hemisphere: on the axis, a quarter of the diameter above the cap -/
noncomputable def hemiCtr (r : ℝ) : V3 ℝ := ⟨0, r / 2, 0⟩

/-- polar angle (from +y) of hemisphere ring `ρ ≥ 1`: `ugh` of hemisphere.go:37 with `i = ρ - 1` -/
noncomputable def psiOf (R ρ : Nat) : ℝ := (-π * ((ρ - 1 : ℕ) : ℝ)) / (R : ℝ) / 2 + π / 2

/-- the hemisphere's profile: cap centre `(0, 0)`, the quarter circle at the polar angles `psiOf`, pole `(0, r)` -/
noncomputable def hemiX (r : ℝ) (R ρ : Nat) : ℝ := if ρ = 0 then 0 else if ρ = R then 0 else r * sin (psiOf R ρ)

noncomputable def hemiY (r : ℝ) (R ρ : Nat) : ℝ := if ρ = 0 then 0 else if ρ = R then r else r * cos (psiOf R ρ)

noncomputable def hemiPosL (r : ℝ) (R C : Nat) (p : LP) : V3 ℝ := revPos (hemiX r R) (hemiY r R) C p

@[simp] theorem hemiX_zero (r : ℝ) (R : Nat) : hemiX r R 0 = 0 := by simp [hemiX]

@[simp] theorem hemiX_self (r : ℝ) (R : Nat) : hemiX r R R = 0 := by simp [hemiX]

@[simp] theorem hemiY_zero (r : ℝ) (R : Nat) : hemiY r R 0 = 0 := by simp [hemiY]

theorem hemiY_self (r : ℝ) {R : Nat} (hR : 2 ≤ R) : hemiY r R R = r := by simp [hemiY, show R ≠ 0 by omega]

theorem hemi_inner (r : ℝ) {R k : Nat} (h1 : 1 ≤ k) (h2 : k < R) :
    hemiX r R k = r * sin (psiOf R k) ∧ hemiY r R k = r * cos (psiOf R k) := by
  simp [hemiX, hemiY, show k ≠ 0 by omega, show k ≠ R by omega]

theorem hemispherePos_enc {R C : Nat} (r : ℝ) (hR : 2 ≤ R) (hC : 3 ≤ C) (p : LP) (hv : UvValid R C p) :
    hemispherePos r R C (uvEnc R C p) = hemiPosL r R C p := by
  rcases hv with rfl | rfl | ⟨h1, h2, h3⟩
  · simp [uvEnc_top, hemispherePos, hemiPosL, revPos, rpt, hemiX, hemiY, V3.New]
  · rw [uvEnc_bot C hR]
    have : uvBottom R C ≠ 0 := by simp [uvBottom]
    have hR0 : R ≠ 0 := by omega
    simp [hemispherePos, this, hemiPosL, revPos, rpt, hemiX, hemiY, V3.New, hR0]
  · obtain ⟨ρ, c⟩ := p
    simp only at h1 h2 h3
    obtain ⟨n0, n1, hd1, hd2⟩ := uvEnc_grid_dec hR hC h1 h2 h3
    have hd1' : (uvEnc R C (ρ, c) - 1) / C = ρ - 1 := by omega
    have r0 : ρ ≠ 0 := by omega
    have r1 : ρ ≠ R := by omega
    simp only [hemispherePos, n0, n1, if_false, hd1', hd2, hemiPosL, revPos, rpt, hemiX, hemiY, r0, r1, psiOf, thetaOf,
      n2a_real, RS.sin_eq, RS.cos_eq, RS.pi_eq, V3.New, V3.Scale, V3.mk.injEq]
    push_cast
    have e : 2 * π * ((c : ℝ) / (C : ℝ)) = 2 * π * (c : ℝ) / (C : ℝ) := by ring
    rw [e]
    refine ⟨?_, ?_, ?_⟩ <;> ring

theorem psiOf_step {R ρ : Nat} (hR : 2 ≤ R) (h1 : 1 ≤ ρ) : psiOf R ρ = psiOf R (ρ + 1) + π / (2 * R) := by
  have hR0 : (R : ℝ) ≠ 0 := by positivity
  have e : ((ρ + 1 - 1 : ℕ) : ℝ) = ((ρ - 1 : ℕ) : ℝ) + 1 := by
    rw [show ρ + 1 - 1 = (ρ - 1) + 1 by omega]; push_cast; ring
  simp only [psiOf, e]; field_simp; ring

theorem psiOf_pos_le {R ρ : Nat} (h1 : 1 ≤ ρ) (h2 : ρ < R) : 0 < psiOf R ρ ∧ psiOf R ρ ≤ π / 2 := by
  have hR : (0 : ℝ) < R := by exact_mod_cast (by omega : 0 < R)
  have hρ : ((ρ - 1 : ℕ) : ℝ) + 1 ≤ R := by
    have : ρ - 1 + 1 ≤ R := by omega
    exact_mod_cast this
  have hρ0 : (0 : ℝ) ≤ ((ρ - 1 : ℕ) : ℝ) := Nat.cast_nonneg _
  have e : psiOf R ρ = π / 2 * (1 - ((ρ - 1 : ℕ) : ℝ) / R) := by simp only [psiOf]; field_simp; ring
  have hq : ((ρ - 1 : ℕ) : ℝ) / R < 1 := by rw [div_lt_one hR]; linarith
  have hq0 : 0 ≤ ((ρ - 1 : ℕ) : ℝ) / R := by positivity
  rw [e]
  constructor
  · have : 0 < π / 2 := by positivity
    nlinarith
  · have : 0 < π / 2 := by positivity
    nlinarith

theorem sin_psi_pos {R ρ : Nat} (h1 : 1 ≤ ρ) (h2 : ρ < R) : 0 < sin (psiOf R ρ) := by
  obtain ⟨h, h'⟩ := psiOf_pos_le h1 h2
  exact sin_pos_of_pos_of_lt_pi h (by linarith [pi_pos])

theorem sin_hdelta_pos {R : Nat} (hR : 2 ≤ R) : 0 < sin (π / (2 * R)) := by
  have hR' : (2 : ℝ) ≤ R := by exact_mod_cast hR
  apply sin_pos_of_pos_of_lt_pi
  · positivity
  · rw [div_lt_iff₀ (by positivity)]; nlinarith [pi_pos]

theorem dpsi {R : Nat} (hR : 2 ≤ R) {ρ : Nat} (h1 : 1 ≤ ρ) : psiOf R ρ - psiOf R (ρ + 1) = π / (2 * R) := by
  rw [psiOf_step hR h1]; ring

/-- the one inequality of the hemisphere: `r·sin δ − (r/2)(sin(φ+δ) − sin φ) ≥ (r/2)·sin δ > 0` -/
theorem shift_factor_pos {r φ δ : ℝ} (hr : 0 < r) (h0 : 0 ≤ sin φ) (hδ : 0 < sin δ) :
    0 < r * sin δ - r / 2 * (sin (φ + δ) - sin φ) := by
  rw [sin_add]
  have h1 : 0 ≤ sin φ * (1 - cos δ) := mul_nonneg h0 (by linarith [cos_le_one δ])
  have h2 : 0 ≤ sin δ * (1 - cos φ) := mul_nonneg hδ.le (by linarith [cos_le_one φ])
  have h3 : sin φ * cos δ + cos φ * sin δ - sin φ ≤ sin δ := by nlinarith
  have h4 : 0 < r * sin δ := by positivity
  nlinarith

theorem hemiX_pos {R k : Nat} {r : ℝ} (hr : 0 < r) (h1 : 1 ≤ k) (h2 : k < R) : 0 < hemiX r R k := by
  rw [(hemi_inner r h1 h2).1]; exact mul_pos hr (sin_psi_pos h1 h2)

/-! the three kinds of band, seen from the cap centre: the cap sweeps nothing, an inner band `−r²·sin(π/2R)`, the pole
    band `−r·x` -/

theorem sweep_hemi_cap (r : ℝ) (R : Nat) : sweep (hemiX r R) (hemiY r R) 0 = 0 := by simp [sweep]

theorem sweep_hemi_inner {R ρ : Nat} (r : ℝ) (hR : 2 ≤ R) (h1 : 1 ≤ ρ) (h2 : ρ + 1 < R) :
    sweep (hemiX r R) (hemiY r R) ρ = -(r ^ 2 * sin (π / (2 * R))) := by
  obtain ⟨a, b⟩ := hemi_inner r h1 (show ρ < R by omega)
  obtain ⟨a', b'⟩ := hemi_inner r (show 1 ≤ ρ + 1 by omega) h2
  rw [sweep, a, b, a', b', ← dpsi hR h1, sin_sub]; ring

theorem sweep_hemi_pole {R ρ : Nat} (r : ℝ) (hR : 2 ≤ R) (h : ρ + 1 = R) :
    sweep (hemiX r R) (hemiY r R) ρ = -(r * hemiX r R ρ) := by
  rw [sweep, h, hemiX_self, hemiY_self r hR]; ring

/-- seen from `(0, r/2, 0)` the hemisphere's profile (cap centre → rim → pole) runs anticlockwise -/
theorem sweep_hemi_neg {R ρ : Nat} {r : ℝ} (hr : 0 < r) (hR : 2 ≤ R) (hρ : ρ < R) :
    sweep (hemiX r R) (fun k => hemiY r R k - r / 2) ρ < 0 := by
  rw [sweep_sub_axis]
  rcases Nat.eq_zero_or_pos ρ with rfl | h1
  · have := hemiX_pos hr (le_refl 1) (show 1 < R by omega)
    rw [sweep_hemi_cap, hemiX_zero, Nat.zero_add]
    linarith [mul_pos hr this]
  · rcases Nat.lt_or_ge (ρ + 1) R with h2 | h2
    · have hf := mul_pos hr (shift_factor_pos hr (sin_psi_pos (R := R) (ρ := ρ + 1) (by omega) h2).le (sin_hdelta_pos hR))
      rw [sweep_hemi_inner r hR h1 h2, (hemi_inner r h1 hρ).1, (hemi_inner r (show 1 ≤ ρ + 1 by omega) h2).1,
        psiOf_step hR h1]
      linarith
    · have := hemiX_pos hr h1 hρ
      rw [sweep_hemi_pole r hR (show ρ + 1 = R by omega), show ρ + 1 = R by omega, hemiX_self]
      linarith [mul_pos hr this]

theorem hemisphere_outward_aux {R C : Nat} {r : ℝ} (hr : 0 < r) (hR : 2 ≤ R) (hC : 3 ≤ C) :
    OutwardAt (hemispherePos r R C) (hemiCtr r) (hemisphereTris R C) := by
  rw [hemisphereTris_eq_flip, uvSphereTris_eq_map hR]
  intro t ht
  obtain ⟨t1, ht1, rfl⟩ := List.mem_map.1 ht
  obtain ⟨t', ht', rfl⟩ := List.mem_map.1 ht1
  have hv := sphereL_tri_valid hR hC ht'
  -- seen from `hemiCtr` this is the surface over the profile lowered by `r/2`, every triangle reversed
  simp only [flipT, tm, n2a_real, Nat.cast_zero, hemispherePos_enc r hR hC _ hv.1, hemispherePos_enc r hR hC _ hv.2.1,
    hemispherePos_enc r hR hC _ hv.2.2, hemiCtr, hemiPosL, revPos_sub_axis]
  change 0 < rdet (hemiX r R) (fun k => hemiY r R k - r / 2) C (flipT t')
  obtain ⟨ρ, k, hρ, h1, h2, e⟩ := sphereL_rdet (hemiX r R) (fun k => hemiY r R k - r / 2) hR hC (hemiX_zero r R)
    (hemiX_self r R) ht'
  rw [rdet_flip, e, neg_pos]
  exact mul_neg_of_neg_of_pos (mul_neg_of_pos_of_neg (hemiX_pos hr h1 h2) (sweep_hemi_neg hr hR hρ)) (sin_dtheta_pos hC)

/-! ### sphere volume in closed form -/

/-- product-to-sum, in the telescoping form used below -/
theorem sin_mul_sin_tel (a d : ℝ) : sin a * sin d = (cos (a - d) - cos (a + d)) / 2 := by
  rw [cos_sub, cos_add]; ring

/-- `sin δ · Σ_{j<n} (sin((j+1)δ) + sin((j+2)δ))` telescopes -/
theorem strip_sum_tel (δ : ℝ) (n : Nat) :
    sin δ * ((List.range n).map fun j : Nat => sin (((j : ℝ) + 1) * δ) + sin (((j : ℝ) + 2) * δ)).sum =
      (cos (0 * δ) + cos (1 * δ) - cos ((n : ℝ) * δ) - cos (((n : ℝ) + 1) * δ)) / 2 +
      (cos (1 * δ) + cos (2 * δ) - cos (((n : ℝ) + 1) * δ) - cos (((n : ℝ) + 2) * δ)) / 2 := by
  induction n with
  | zero => simp
  | succ n ih =>
    rw [List.range_succ, List.map_append, List.sum_append, mul_add, ih]
    simp only [List.map_cons, List.map_nil, List.sum_cons, List.sum_nil, add_zero]
    have e1 := sin_mul_sin_tel (((n : ℝ) + 1) * δ) δ
    have e2 := sin_mul_sin_tel (((n : ℝ) + 2) * δ) δ
    have a1 : ((n : ℝ) + 1) * δ - δ = (n : ℝ) * δ := by ring
    have a2 : ((n : ℝ) + 1) * δ + δ = ((n : ℝ) + 2) * δ := by ring
    have a3 : ((n : ℝ) + 2) * δ - δ = ((n : ℝ) + 1) * δ := by ring
    have a4 : ((n : ℝ) + 2) * δ + δ = ((n : ℝ) + 1 + 2) * δ := by ring
    rw [a1, a2] at e1
    rw [a3, a4] at e2
    push_cast
    have a5 : ((n : ℝ) + 1 + 1) * δ = ((n : ℝ) + 2) * δ := by ring
    rw [a5]
    linear_combination e1 + e2

/-- the ring sum of the sphere: with `δ = π/R`,
    `sin δ · (sin δ + sin((R-1)δ) + Σ_{j<R-2} (sin((j+1)δ) + sin((j+2)δ))) = 2·(1 + cos δ)` -/
theorem sphere_ring_sum {R : Nat} (hR : 2 ≤ R) :
    sin (π / R) * (sin (π / R) + sin (((R : ℝ) - 1) * (π / R)) +
      ((List.range (R - 2)).map fun j : Nat => sin (((j : ℝ) + 1) * (π / R)) + sin (((j : ℝ) + 2) * (π / R))).sum) =
      2 * (1 + cos (π / R)) := by
  have hR0 : (R : ℝ) ≠ 0 := by positivity
  have hc : ((R - 2 : ℕ) : ℝ) = (R : ℝ) - 2 := by rw [Nat.cast_sub hR]; simp
  set δ := π / (R : ℝ) with hδ
  have hπ : (R : ℝ) * δ = π := by rw [hδ]; field_simp
  rw [mul_add, strip_sum_tel, hc]
  have b1 : ((R : ℝ) - 2) * δ = π - 2 * δ := by linear_combination hπ
  have b2 : ((R : ℝ) - 2 + 1) * δ = π - δ := by linear_combination hπ
  have b3 : ((R : ℝ) - 2 + 2) * δ = π := by linear_combination hπ
  have b4 : ((R : ℝ) - 1) * δ = π - δ := by linear_combination hπ
  rw [b1, b2, b3, b4, cos_pi_sub, cos_pi_sub, cos_pi, sin_pi_sub]
  simp only [zero_mul, one_mul, cos_zero]
  have h2 : cos (2 * δ) = 1 - 2 * sin δ ^ 2 := by rw [cos_two_mul, cos_sq']; ring
  rw [h2]; ring

theorem sphereL_det_sum {R C : Nat} (r : ℝ) (hR : 2 ≤ R) (hC : 3 ≤ C) :
    triSum (uvPosL r R C) (sphereL R C) = 2 * C * r ^ 3 * sin (2 * π / C) * (1 + cos (π / R)) := by
  refine (sphereL_rdet_sum _ _ hR hC (uvX_zero r R) (uvX_self r hR)).trans ?_
  simp only [sweep_sphere r hR, uvX, phiOf_mul]
  have key := sphere_ring_sum hR
  have c1 : ((R - 1 : ℕ) : ℝ) = (R : ℝ) - 1 := by rw [Nat.cast_sub (by omega)]; simp
  have e3 : ((List.range (R - 2)).map fun j : Nat =>
        (r * sin (((j + 1 : ℕ) : ℝ) * (π / R)) + r * sin (((j + 2 : ℕ) : ℝ) * (π / R))) * (r ^ 2 * sin (π / R))) =
      ((List.range (R - 2)).map fun j : Nat =>
        (r ^ 3 * sin (π / R)) * (sin (((j : ℝ) + 1) * (π / R)) + sin (((j : ℝ) + 2) * (π / R)))) := by
    refine List.map_congr_left fun j _ => ?_
    push_cast; ring
  rw [e3, List.sum_map_mul_left, c1]
  simp only [Nat.cast_one, one_mul]
  linear_combination (C * r ^ 3 * sin (2 * π / C)) * key

/-- a mesh numbered by `uvEnc` whose vertices sit at `posL` of their logical points: re-index its sum by logical points -/
theorem triSum_uvEnc {pos : Nat → V3 ℝ} {posL : LP → V3 ℝ} {R C : Nat} (hR : 2 ≤ R) (hC : 3 ≤ C)
    (h : ∀ p, UvValid R C p → pos (uvEnc R C p) = posL p) :
    triSum pos ((sphereL R C).map (tm (uvEnc R C))) = triSum posL (sphereL R C) :=
  (triSum_map pos (uvEnc R C) (sphereL R C)).trans (triSum_congr fun _ ht =>
    let ⟨v1, v2, v3⟩ := sphereL_tri_valid hR hC ht
    ⟨h _ v1, h _ v2, h _ v3⟩)

theorem uvSphere_volume_aux {R C : Nat} (r : ℝ) (hR : 2 ≤ R) (hC : 3 ≤ C) :
    volume6 (uvSpherePos r R C) (uvSphereTris R C) = 2 * C * r ^ 3 * sin (2 * π / C) * (1 + cos (π / R)) := by
  rw [volume6_eq_triSum, uvSphereTris_eq_map hR, triSum_uvEnc hR hC (uvSpherePos_enc r hR hC), sphereL_det_sum r hR hC]

/-! ### volume bounds: the polyhedra approach the analytic volume -/

/-- `n·sin(2π/n)` is at most `2π` and at least `2π·(1 − 2π²/(3n²))` -/
theorem ngon_bounds {n : Nat} (hn : 1 ≤ n) :
    (n : ℝ) * sin (2 * π / n) ≤ 2 * π ∧ 2 * π * (1 - 2 * π ^ 2 / (3 * (n : ℝ) ^ 2)) ≤ (n : ℝ) * sin (2 * π / n) := by
  have hn0 : (0 : ℝ) < n := by exact_mod_cast (by omega : 0 < n)
  set x := 2 * π / (n : ℝ) with hx
  have hx0 : 0 < x := by positivity
  have hnx : (n : ℝ) * x = 2 * π := by rw [hx]; field_simp
  constructor
  · have := Real.sin_le hx0.le
    nlinarith
  · have h := (Real.sin_gt_sub_cube hx0).le
    have e : 2 * π * (1 - 2 * π ^ 2 / (3 * (n : ℝ) ^ 2)) = (n : ℝ) * (x - x ^ 3 / 6) := by
      rw [hx]; field_simp; ring
    rw [e]
    exact mul_le_mul_of_nonneg_left h hn0.le

/-- `(1 + cos(π/R))/2 ∈ [1 − π²/(4R²), 1]` -/
theorem polar_bounds {R : Nat} (hR : 2 ≤ R) :
    1 + cos (π / R) ≤ 2 ∧ 2 * (1 - π ^ 2 / (4 * (R : ℝ) ^ 2)) ≤ 1 + cos (π / R) := by
  have hR0 : (0 : ℝ) < R := by exact_mod_cast (by omega : 0 < R)
  constructor
  · linarith [cos_le_one (π / R)]
  · have h := Real.one_sub_sq_div_two_le_cos (x := π / R)
    have e : 2 * (1 - π ^ 2 / (4 * (R : ℝ) ^ 2)) = 1 + (1 - (π / R) ^ 2 / 2) := by field_simp; ring
    rw [e]; linarith

/-- two factors within relative deficits `a`, `b` of their maxima `p`, `q`: the product is within `a + b` of `p·q` -/
theorem mul_deficit_bounds {A B p q a b : ℝ} (hA0 : 0 ≤ A) (hB0 : 0 ≤ B) (hp : 0 ≤ p) (hq : 0 ≤ q)
    (hA : A ≤ p) (hB : B ≤ q) (hA' : p * (1 - a) ≤ A) (hB' : q * (1 - b) ≤ B) (ha : 0 ≤ a) (hb : 0 ≤ b) :
    A * B ≤ p * q ∧ p * q * (1 - a - b) ≤ A * B := by
  refine ⟨mul_le_mul hA hB hB0 hp, ?_⟩
  rcases le_total (1 - a - b) 0 with hneg | hpos
  · exact (mul_nonpos_of_nonneg_of_nonpos (mul_nonneg hp hq) hneg).trans (mul_nonneg hA0 hB0)
  · calc p * q * (1 - a - b) ≤ p * q * (1 - a - b) + p * q * (a * b) :=
          le_add_of_nonneg_right (mul_nonneg (mul_nonneg hp hq) (mul_nonneg ha hb))
      _ = p * (1 - a) * (q * (1 - b)) := by ring
      _ ≤ A * B := mul_le_mul hA' hB' (mul_nonneg hq (by linarith)) hA0

theorem ngon_pos {C : Nat} (hC : 3 ≤ C) : 0 < (C : ℝ) * sin (2 * π / C) :=
  mul_pos (by exact_mod_cast (by omega : 0 < C)) (sin_dtheta_pos hC)

/-! ### hemisphere volume in closed form -/

theorem sin_psi (R ρ : Nat) (_h1 : 1 ≤ ρ) : sin (psiOf R ρ) = cos (((ρ - 1 : ℕ) : ℝ) * (π / (2 * R))) := by
  rw [← sin_pi_div_two_sub]; congr 1; unfold psiOf; ring

/-- `sin δ · Σ_{j<n} (cos(jδ) + cos((j+1)δ)) = sin(nδ)·(1 + cos δ)` -/
theorem hemi_strip_sum (δ : ℝ) (n : Nat) :
    sin δ * ((List.range n).map fun j : Nat => cos ((j : ℝ) * δ) + cos (((j : ℝ) + 1) * δ)).sum =
      sin ((n : ℝ) * δ) * (1 + cos δ) := by
  induction n with
  | zero => simp
  | succ n ih =>
    rw [List.range_succ, List.map_append, List.sum_append, mul_add, ih]
    simp only [List.map_cons, List.map_nil, List.sum_cons, List.sum_nil, add_zero]
    push_cast
    have e1 : ((n : ℝ) + 1) * δ = (n : ℝ) * δ + δ := by ring
    rw [e1, sin_add, cos_add]
    linear_combination (-sin ((n : ℝ) * δ)) * (sin_sq_add_cos_sq δ)

theorem hemiL_det_sum {R C : Nat} (r : ℝ) (hR : 2 ≤ R) (hC : 3 ≤ C) :
    triSum (hemiPosL r R C) (sphereL R C) =
      -(C * r ^ 3 * sin (2 * π / C) * (sin (π / R) ^ 2 + cos (π / R) * (1 + cos (π / (2 * R))))) := by
  refine (sphereL_rdet_sum _ _ hR hC (hemiX_zero r R) (hemiX_self r R)).trans ?_
  set δ : ℝ := π / (2 * R) with hδ
  have ws : ((List.range (R - 2)).map fun j => (hemiX r R (j + 1) + hemiX r R (j + 2)) *
        sweep (hemiX r R) (hemiY r R) (j + 1)) =
      (List.range (R - 2)).map fun j : Nat => -(r ^ 3 * sin δ) * (cos ((j : ℝ) * δ) + cos (((j : ℝ) + 1) * δ)) := by
    refine List.map_congr_left fun j hj => ?_
    have hj := List.mem_range.1 hj
    rw [sweep_hemi_inner r hR (by omega) (by omega), (hemi_inner r (show 1 ≤ j + 1 by omega) (by omega)).1,
      (hemi_inner r (show 1 ≤ j + 2 by omega) (by omega)).1, sin_psi R (j + 1) (by omega), sin_psi R (j + 2) (by omega)]
    have c2 : ((j + 2 - 1 : ℕ) : ℝ) = (j : ℝ) + 1 := by rw [show j + 2 - 1 = j + 1 by omega]; push_cast; ring
    rw [show j + 1 - 1 = j by omega, c2]; ring
  rw [sweep_hemi_cap, sweep_hemi_pole r hR (show R - 1 + 1 = R by omega),
    (hemi_inner r (show 1 ≤ R - 1 by omega) (by omega)).1, ws, List.sum_map_mul_left]
  have key := hemi_strip_sum δ (R - 2)
  have hR0 : (R : ℝ) ≠ 0 := by positivity
  have hc : ((R - 2 : ℕ) : ℝ) = (R : ℝ) - 2 := by rw [Nat.cast_sub hR]; simp
  have hRδ : (R : ℝ) * δ = π / 2 := by rw [hδ]; field_simp
  have b1 : ((R - 2 : ℕ) : ℝ) * δ = π / 2 - π / R := by
    rw [hc]; have : π / (R : ℝ) = 2 * δ := by rw [hδ]; field_simp
    rw [this]; linear_combination hRδ
  rw [b1, sin_pi_div_two_sub] at key
  have hpsi : sin (psiOf R (R - 1)) = sin (π / R) := by
    rw [sin_psi R (R - 1) (by omega), show R - 1 - 1 = R - 2 by omega, ← hδ, b1, cos_pi_div_two_sub]
  rw [hpsi]
  linear_combination (-(C * r ^ 3 * sin (2 * π / C))) * key

theorem hemisphere_volume_aux {R C : Nat} (r : ℝ) (hR : 2 ≤ R) (hC : 3 ≤ C) :
    volume6 (hemispherePos r R C) (hemisphereTris R C) =
      C * r ^ 3 * sin (2 * π / C) * (sin (π / R) ^ 2 + cos (π / R) * (1 + cos (π / (2 * R)))) := by
  rw [volume6_eq_triSum, hemisphereTris_eq_flip, uvSphereTris_eq_map hR]
  refine (triSum_flip _ _).trans ?_
  rw [triSum_uvEnc hR hC (hemispherePos_enc r hR hC), hemiL_det_sum r hR hC, neg_neg]

/-- the polar factor of the hemisphere: `g = sin²x + cos x·(1 + cos(x/2))`, `x = π/R`, lies in `[2(1 − 5x²/16), 2]` -/
theorem hemi_polar_bounds {R : Nat} (hR : 2 ≤ R) :
    sin (π / R) ^ 2 + cos (π / R) * (1 + cos (π / (2 * R))) ≤ 2 ∧
    2 * (1 - 5 * π ^ 2 / (16 * (R : ℝ) ^ 2)) ≤ sin (π / R) ^ 2 + cos (π / R) * (1 + cos (π / (2 * R))) := by
  have hR' : (2 : ℝ) ≤ R := by exact_mod_cast hR
  set x := π / (R : ℝ) with hx
  have hx2 : π / (2 * (R : ℝ)) = x / 2 := by rw [hx]; ring
  have e : 5 * π ^ 2 / (16 * (R : ℝ) ^ 2) = 5 * x ^ 2 / 16 := by rw [hx]; ring
  have hx0 : 0 ≤ x := by positivity
  have hxle : x ≤ π / 2 := div_le_div_of_nonneg_left pi_pos.le two_pos hR'
  have hu0 : 0 ≤ cos x := cos_nonneg_of_neg_pi_div_two_le_of_le (by linarith) hxle
  have hu1 : cos x ≤ 1 := cos_le_one x
  have hv1 : cos (x / 2) ≤ 1 := cos_le_one _
  have hu2 : 1 - x ^ 2 / 2 ≤ cos x := Real.one_sub_sq_div_two_le_cos
  have hv2 : 1 - (x / 2) ^ 2 / 2 ≤ cos (x / 2) := Real.one_sub_sq_div_two_le_cos
  -- with `u = cos x`, `v = cos (x/2)`: `2 − g = (1−u)² + u(1−v)`, and `0 ≤ (1−u)² ≤ 1−u`, `0 ≤ u(1−v) ≤ 1−v`
  rw [hx2, e, sin_sq]
  have h1 : (1 - cos x) ^ 2 ≤ 1 - cos x := sq_le (by linarith) (by linarith)
  have h2 : cos x * (1 - cos (x / 2)) ≤ 1 - cos (x / 2) := mul_le_of_le_one_left (by linarith) hu1
  have h3 : 0 ≤ cos x * (1 - cos (x / 2)) := mul_nonneg hu0 (by linarith)
  have h4 := sq_nonneg (1 - cos x)
  constructor <;> linarith

end PolyVerif.Solids
