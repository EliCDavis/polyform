/-
  What an accepted `MeshWriter.Write` says about the header's property names (writer.go:144-158).
-/
import PolyVerif.Lemmas.PlyHeader
import PolyVerif.Lemmas.PlyCompose
namespace PolyVerif
namespace PlyHeader
open Ply PlyLemmas PlyCompose

theorem fieldsAux_tokens : ∀ (s cur : Bytes), (∀ b ∈ cur, isSpace b = false) →
    ∀ tok ∈ fieldsAux s cur, tok ≠ [] ∧ ∀ b ∈ tok, isSpace b = false := by
  intro s
  induction s with
  | nil =>
    intro cur hc tok ht
    simp only [fieldsAux] at ht
    split at ht
    · simp at ht
    · rename_i hne
      simp at ht; subst ht
      refine ⟨by intro h; simp at h; simp [h] at hne, ?_⟩
      intro b hb; exact hc b (by simpa using hb)
  | cons x s ih =>
    intro cur hc tok ht
    simp only [fieldsAux] at ht
    by_cases hx : isSpace x = true
    · simp only [hx, if_true] at ht
      split at ht
      · exact ih [] (by simp) tok ht
      · rename_i hne
        simp at ht
        rcases ht with rfl | ht
        · refine ⟨by intro h; simp at h; simp [h] at hne, ?_⟩
          intro b hb; exact hc b (by simpa using hb)
        · exact ih [] (by simp) tok ht
    · have hx' : isSpace x = false := by simpa using hx
      simp only [hx', Bool.false_eq_true, if_false] at ht
      exact ih (x :: cur) (by intro b hb; simp at hb; rcases hb with rfl | hb; exact hx'; exact hc b hb) tok ht

theorem tok_of_fields_self (t : Bytes) (h : fields t = [t]) : Tok t := by
  have := fieldsAux_tokens t [] (by simp) t (by rw [← fields, h]; simp)
  exact this

/-- what an accepted `Write` tells about the header's property names (writer.go:144-158) -/
theorem names_of_writeBody_ok {α : Type} (c : Coding α) (cfg : WriterCfg) (m : MeshVal α) (body : Bytes)
    (h : writeBody c cfg m = .ok body) :
    (∀ w ∈ selectWriters cfg m, ∀ n ∈ w.names, Tok n) ∧ ((headerProps (selectWriters cfg m)).map (·.1)).Nodup := by
  obtain ⟨hn, _⟩ := writeBody_core_of_ok c cfg m body h
  simp only [namesOK, Bool.and_eq_true, List.all_eq_true, beq_iff_eq, decide_eq_true_eq] at hn
  have hmap : (headerProps (selectWriters cfg m)).map (·.1) = ((selectWriters cfg m).map WProp.names).flatten := by
    simp only [headerProps]
    induction selectWriters cfg m with
    | nil => rfl
    | cons w ws ih => simp [ih, Function.comp_def]
  refine ⟨?_, by rw [hmap]; exact hn.2⟩
  intro w hw n hnn
  exact tok_of_fields_self n (hn.1 n (by simp only [List.mem_flatten, List.mem_map]; exact ⟨w.names, ⟨w, hw, rfl⟩, hnn⟩))

end PlyHeader
end PolyVerif
