/-
  For C16: `HitList.Hit` as a fold, `BVHNode.Hit` as the same fold with subtrees skipped, the fold's specification
  (nearest hit, independence of the order) under the first-hit contract; `TraverseIntersectingRay` with a
  range-preserving callback = `ElementsIntersectingRay`; soundness of the slab test; `NewBVHTree` builds a covering tree.
-/
import PolyVerif.Lemmas.TreeBuild
namespace PolyVerif.Tree
variable {B H K : Type}

/-- one turn of the `HitList.Hit` loop -/
def hitStep (primHit : H → K → K → Option K) (mn : K) (st : Option K × K) (h : H) : Option K × K :=
  match primHit h mn st.2 with
  | some d => (some d, d)
  | none => st

/-- the BVH invariant: every node's box is related (`sub`) to the box of every primitive below it -/
inductive BInv (sub : B → B → Prop) (boxH : H → B) : Bvh B H → Prop
  | leaf (h : H) : BInv sub boxH (.leaf h)
  | node {b : B} {l r : Bvh B H} : (∀ h ∈ (Bvh.node b l r).leaves, sub (boxH h) b) →
      BInv sub boxH l → BInv sub boxH r → BInv sub boxH (.node b l r)

section loop
variable (primHit : H → K → K → Option K)

theorem listHit_eq_foldl (hs : List H) (mn mx : K) :
    listHit primHit hs mn mx = (hs.foldl (hitStep primHit mn) (none, mx)).1 := rfl

/-- running the loop from an arbitrary state -/
theorem hit_foldl (mn : K) :
    ∀ (hs : List H) (acc : Option K) (c : K),
      hs.foldl (hitStep primHit mn) (acc, c) =
        match listHit primHit hs mn c with
        | some d => (some d, d)
        | none => (acc, c) := by
  intro hs
  induction hs with
  | nil => intro acc c; simp [listHit]
  | cons h t ih =>
    intro acc c
    simp only [List.foldl_cons, listHit_eq_foldl]
    cases hp : primHit h mn c with
    | none =>
      have e : ∀ a, hitStep primHit mn (a, c) h = (a, c) := by intro a; simp [hitStep, hp]
      rw [e, e, ih acc c, ih none c]
      cases listHit primHit t mn c <;> rfl
    | some d =>
      have e : ∀ a, hitStep primHit mn (a, c) h = (some d, d) := by intro a; simp [hitStep, hp]
      rw [e, e, ih (some d) d]
      cases listHit primHit t mn d <;> rfl

theorem listHit_append (l r : List H) (mn mx : K) :
    listHit primHit (l ++ r) mn mx =
      match listHit primHit r mn (match listHit primHit l mn mx with | some d => d | none => mx) with
      | some d => some d
      | none => listHit primHit l mn mx := by
  rw [listHit_eq_foldl, List.foldl_append, hit_foldl primHit mn l none mx]
  cases hl : listHit primHit l mn mx with
  | none =>
    simp only
    rw [hit_foldl]
    cases listHit primHit r mn mx <;> rfl
  | some d =>
    simp only
    rw [hit_foldl]
    cases listHit primHit r mn d <;> rfl

theorem listHit_single (x : H) (mn mx : K) :
    listHit primHit [x] mn mx = primHit x mn mx := by
  simp only [listHit_eq_foldl, List.foldl_cons, List.foldl_nil, hitStep]
  cases primHit x mn mx <;> rfl

end loop

section run
variable {σ E : Type}

/-- a loop whose every remaining turn leaves the state alone ends in that state -/
theorem foldl_fixed (step : σ → E → σ) (s : σ) (es : List E) (h : ∀ e ∈ es, step s e = s) : es.foldl step s = s :=
  List.foldlRecOn (motive := (· = s)) es step rfl fun _ hb e he => hb ▸ h e he

variable (slab : B → K → K → Bool) (primHit : H → K → K → Option K) (mn : K)

/-- `BVHNode.Hit` as a step of the `HitList.Hit` loop: from the state (last hit, current upper end) to the state after the
    subtree.  It is `hitStep` at a leaf, and at a node it runs the children one after the other, or nothing at all when
    the box fails the slab test for the current range (`Bvh.run_leaf`, `Bvh.run_node`). -/
def Bvh.run (t : Bvh B H) (st : Option K × K) : Option K × K :=
  match t.hit slab primHit mn st.2 with
  | some d => (some d, d)
  | none => st

theorem Bvh.hit_eq_run (t : Bvh B H) (mx : K) : t.hit slab primHit mn mx = (t.run slab primHit mn (none, mx)).1 := by
  unfold Bvh.run; cases t.hit slab primHit mn mx <;> rfl

theorem Bvh.run_leaf (h : H) (st : Option K × K) : (Bvh.leaf h : Bvh B H).run slab primHit mn st = hitStep primHit mn st h := rfl

theorem Bvh.run_node (b : B) (l r : Bvh B H) (st : Option K × K) :
    (Bvh.node b l r).run slab primHit mn st =
      if slab b mn st.2 then r.run slab primHit mn (l.run slab primHit mn st) else st := by
  simp only [Bvh.run, Bvh.hit]
  cases slab b mn st.2 with
  | false => rfl
  | true =>
    simp only [if_true, Bool.not_true, Bool.false_eq_true, if_false]
    cases l.hit slab primHit mn st.2 with
    | none => simp only; cases r.hit slab primHit mn st.2 <;> rfl
    | some d => simp only; cases r.hit slab primHit mn d <;> rfl

/-- Skipping is sound when, in every state the loop can be in (`I`), a box that fails the test has below it only leaves
    whose turn of the loop would change nothing: then `BVHNode.Hit` is the `HitList.Hit` loop over the leaves. -/
theorem Bvh.run_eq_foldl (sub : B → B → Prop) (boxH : H → B) (I : Option K × K → Prop) :
    ∀ t : Bvh B H, BInv sub boxH t →
    (∀ st, ∀ h ∈ t.leaves, I st → I (hitStep primHit mn st h)) →
    (∀ b st, I st → slab b mn st.2 = false → ∀ h ∈ t.leaves, sub (boxH h) b → hitStep primHit mn st h = st) →
    ∀ st, I st → t.run slab primHit mn st = t.leaves.foldl (hitStep primHit mn) st := by
  intro t ht
  induction ht with
  | leaf h => intro _ _ st _; exact Bvh.run_leaf slab primHit mn h st
  | @node b l r hcov _ _ ihl ihr =>
    intro hI hskip st hst
    have hIl : ∀ st, ∀ h ∈ l.leaves, _ := fun st h hh => hI st h (List.mem_append_left _ hh)
    simp only [Bvh.run_node, Bvh.leaves]
    cases hs : slab b mn st.2 with
    | true =>
      rw [if_pos rfl, List.foldl_append,
        ihl hIl (fun b st h1 h2 h hh => hskip b st h1 h2 h (List.mem_append_left _ hh)) st hst,
        ihr (fun st h hh => hI st h (List.mem_append_right _ hh))
          (fun b st h1 h2 h hh => hskip b st h1 h2 h (List.mem_append_right _ hh)) _ (List.foldlRecOn (motive := I) _ _ hst fun s hs h hh => hIl s h hh hs)]
    | false =>
      rw [if_neg Bool.false_ne_true]
      exact (foldl_fixed _ st _ fun h hh => hskip b st hst hs h hh (hcov h hh)).symm

end run

section nearest
variable [LinearOrder K] (f : H → Option K) (primHit : H → K → K → Option K) (mn : K)

/-- `HitList.Hit` returns the nearest of the individual hits, whatever the order of the list — for primitives
    whose `Hit` reports their first hit `f h` beyond `mn` whenever it is within the range (`d ≤ mx`). -/
theorem listHit_spec :
    ∀ (hs : List H), (∀ h ∈ hs, ∀ mx, primHit h mn mx = (f h).bind (fun d => if d ≤ mx then some d else none)) →
    ∀ (mx : K),
      (listHit primHit hs mn mx = none → ∀ h ∈ hs, primHit h mn mx = none) ∧
      (∀ d, listHit primHit hs mn mx = some d →
        (∃ h ∈ hs, primHit h mn mx = some d) ∧ ∀ h ∈ hs, ∀ d', primHit h mn mx = some d' → d ≤ d') := by
  have F1 : ∀ h, (∀ mx, primHit h mn mx = (f h).bind (fun d => if d ≤ mx then some d else none)) →
      ∀ c d, primHit h mn c = some d → f h = some d ∧ d ≤ c := by
    intro h hc c d hp
    rw [hc] at hp
    cases hf : f h with
    | none => rw [hf] at hp; simp at hp
    | some d0 =>
      rw [hf] at hp
      simp only [Option.bind_some] at hp
      split_ifs at hp with hle
      · simp only [Option.some.injEq] at hp; subst hp; exact ⟨rfl, hle⟩
  have F2 : ∀ h, (∀ mx, primHit h mn mx = (f h).bind (fun d => if d ≤ mx then some d else none)) →
      ∀ c d, f h = some d → d ≤ c → primHit h mn c = some d := by
    intro h hc c d hf hle
    rw [hc, hf]; simp [hle]
  intro hs
  induction hs using List.reverseRecOn with
  | nil => intro _ mx; simp [listHit]
  | append_singleton l x ih =>
    intro hc mx
    have hcx := hc x (by simp)
    have hcl : ∀ h ∈ l, _ := fun h hh => hc h (List.mem_append_left _ hh)
    obtain ⟨i1, i2⟩ := ih hcl mx
    rw [listHit_append, listHit_single]
    cases hl : listHit primHit l mn mx with
    | none =>
      -- nothing in `l` is hit: the answer is `x`'s
      simp only
      have hnone := i1 hl
      cases hx : primHit x mn mx with
      | none =>
        refine ⟨fun _ h hh => ?_, fun d hd => by cases hd⟩
        rcases List.mem_append.mp hh with hh | hh
        · exact hnone h hh
        · rw [List.mem_singleton.mp hh]; exact hx
      | some d0 =>
        refine ⟨nofun, fun d hd => ?_⟩
        cases hd
        refine ⟨⟨x, by simp, hx⟩, fun h hh d' hp => ?_⟩
        rcases List.mem_append.mp hh with hh | hh
        · rw [hnone h hh] at hp; cases hp
        · rw [List.mem_singleton.mp hh, hx] at hp; cases hp; exact le_rfl
    | some dl =>
      -- `dl` is the nearest hit in `l`; `x` is asked for something nearer still
      simp only
      obtain ⟨⟨h0, hh0, hp0⟩, hmin⟩ := i2 dl hl
      have hle0 := (F1 h0 (hcl h0 hh0) mx dl hp0).2
      cases hx : primHit x mn dl with
      | none =>
        refine ⟨nofun, fun d hd => ?_⟩
        cases hd
        refine ⟨⟨h0, List.mem_append_left _ hh0, hp0⟩, fun h hh d' hp => ?_⟩
        rcases List.mem_append.mp hh with hh | hh
        · exact hmin h hh d' hp
        · rw [List.mem_singleton.mp hh] at hp
          by_contra hlt
          rw [F2 x hcx dl d' (F1 x hcx mx d' hp).1 (le_of_lt (not_le.mp hlt))] at hx; cases hx
      | some d =>
        obtain ⟨hf, hle⟩ := F1 x hcx dl d hx
        refine ⟨nofun, fun d1 hd => ?_⟩
        cases hd
        refine ⟨⟨x, by simp, F2 x hcx mx d hf (hle.trans hle0)⟩, fun h hh d' hp => ?_⟩
        rcases List.mem_append.mp hh with hh | hh
        · exact hle.trans (hmin h hh d' hp)
        · rw [List.mem_singleton.mp hh] at hp
          rw [(F1 x hcx mx d' hp).1] at hf; cases hf; exact le_rfl

/-- two hit lists that contain the same *hitting* primitives give the same answer -/
theorem listHit_congr_hits (l₁ l₂ : List H)
    (hc : ∀ h, h ∈ l₁ ∨ h ∈ l₂ → ∀ mx, primHit h mn mx = (f h).bind (fun d => if d ≤ mx then some d else none))
    (mx : K) (hmem : ∀ h d, primHit h mn mx = some d → (h ∈ l₁ ↔ h ∈ l₂)) :
    listHit primHit l₁ mn mx = listHit primHit l₂ mn mx := by
  obtain ⟨a1, a2⟩ := listHit_spec f primHit mn l₁ (fun h hh => hc h (Or.inl hh)) mx
  obtain ⟨b1, b2⟩ := listHit_spec f primHit mn l₂ (fun h hh => hc h (Or.inr hh)) mx
  cases h1 : listHit primHit l₁ mn mx with
  | none =>
    cases h2 : listHit primHit l₂ mn mx with
    | none => rfl
    | some d2 =>
      obtain ⟨⟨h, hh, hp⟩, _⟩ := b2 d2 h2
      have := a1 h1 h ((hmem h d2 hp).mpr hh)
      rw [this] at hp; cases hp
  | some d1 =>
    obtain ⟨⟨h, hh, hp⟩, hmin1⟩ := a2 d1 h1
    cases h2 : listHit primHit l₂ mn mx with
    | none =>
      have := b1 h2 h ((hmem h d1 hp).mp hh)
      rw [this] at hp; cases hp
    | some d2 =>
      obtain ⟨⟨h', hh', hp'⟩, hmin2⟩ := b2 d2 h2
      have e1 := hmin1 h' ((hmem h' d2 hp').mpr hh') d2 hp'
      have e2 := hmin2 h ((hmem h d1 hp).mp hh) d1 hp
      rw [le_antisymm e1 e2]

theorem listHit_congr_mem (l₁ l₂ : List H) (hc : ∀ h ∈ l₁, ∀ mx, primHit h mn mx = (f h).bind (fun d => if d ≤ mx then some d else none))
    (hmem : ∀ h, h ∈ l₁ ↔ h ∈ l₂) (mx : K) :
    listHit primHit l₁ mn mx = listHit primHit l₂ mn mx :=
  listHit_congr_hits f primHit mn l₁ l₂ (fun h hh => hc h (hh.elim id (hmem h).mpr)) mx fun h _ _ => hmem h

end nearest

section traverse
variable {B E K G : Type}

theorem traverse_elems_foldl {σ : Type} (slabE : E → K → K → Bool) (f : σ → E → σ) (rng : K × K) :
    ∀ (es : List E) (s : σ),
      es.foldl (fun (st : (K × K) × σ) e =>
        if slabE e st.1.1 st.1.2 then (st.1, f st.2 e) else st) (rng, s) =
      (rng, (es.filter (fun e => slabE e rng.1 rng.2)).foldl f s) := by
  intro es
  induction es with
  | nil => intro s; rfl
  | cons e es ih =>
    intro s
    simp only [List.foldl_cons]
    by_cases h : slabE e rng.1 rng.2 = true
    · simp only [h, if_true, List.filter_cons, List.foldl_cons]
      rw [ih]
    · have h' : slabE e rng.1 rng.2 = false := by simpa using h
      simp only [h', Bool.false_eq_true, if_false, List.filter_cons]
      rw [ih]

/-- `TraverseIntersectingRay` with a callback that leaves the range alone and folds `f` over its own state
    = `f` folded over what `ElementsIntersectingRay` returns, in that order -/
theorem traverse_eq_foldl_pruned {σ : Type} (slabB : B → K → K → Bool) (slabE : E → K → K → Bool) (f : σ → E → σ)
    (rng : K × K) : ∀ (t : Oct B E) (s : σ),
      t.traverse slabB slabE (fun e r (a : σ) => (r, f a e)) rng s =
      (t.pruned (fun b => !slabB b rng.1 rng.2) (fun e => slabE e rng.1 rng.2)).foldl f s := by
  intro t
  induction t using Oct.induct' with
  | h b es cs ih =>
    intro s
    simp only [Oct.traverse, Oct.pruned]
    by_cases hb : slabB b rng.1 rng.2 = true
    · simp only [hb, Bool.not_true, Bool.false_eq_true, if_false]
      rw [traverse_elems_foldl]
      simp only
      have : ∀ (l : List (Oct B E)), (∀ c ∈ l, c ∈ cs) → ∀ a : σ,
          l.foldl (fun s c => c.traverse slabB slabE (fun e r (a : σ) => (r, f a e)) rng s) a =
          (l.flatMap (fun c => c.pruned (fun b => !slabB b rng.1 rng.2) (fun e => slabE e rng.1 rng.2))).foldl f a := by
        intro l
        induction l with
        | nil => intro _ a; rfl
        | cons c l ihl =>
          intro hl a
          simp only [List.foldl_cons, List.flatMap_cons, List.foldl_append]
          rw [ih c (hl c (by simp)), ihl (fun c' hc' => hl c' (by simp [hc']))]
      rw [this cs (fun c hc => hc), List.foldl_append]
    · have hb' : slabB b rng.1 rng.2 = false := by simpa using hb
      simp [hb']

/-- with a callback that records the element and leaves the range alone, `TraverseIntersectingRay` visits
    exactly what `ElementsIntersectingRay` returns, in the same order -/
theorem traverse_eq_pruned (slabB : B → K → K → Bool) (slabE : E → K → K → Bool) (g : E → G) (rng : K × K)
    (t : Oct B E) (acc : List G) :
    t.traverse slabB slabE (fun e r (a : List G) => (r, g e :: a)) rng acc =
      ((t.pruned (fun b => !slabB b rng.1 rng.2) (fun e => slabE e rng.1 rng.2)).map g).reverse ++ acc := by
  rw [traverse_eq_foldl_pruned slabB slabE (fun a e => g e :: a), ← List.foldl_flip_cons_eq_append]
end traverse

section slabsound
open Gen.geometry
/-- one axis of the slab test does not reject, and keeps `t` strictly inside a non-empty range, when the ray
    point at parameter `t` lies strictly inside the (widened) slab — zero direction component included -/
theorem slabComponent_sound (o d tmin tmax lo hi t : ℝ)
    (h1 : lo < o + d * t) (h2 : o + d * t < hi) (ha : tmin ≤ t) (hb : t ≤ tmax) (hc : tmin < tmax) :
    (slabComponent o d tmin tmax lo hi).1 = false ∧
    (slabComponent o d tmin tmax lo hi).2.1 ≤ t ∧ t ≤ (slabComponent o d tmin tmax lo hi).2.2 ∧
    (slabComponent o d tmin tmax lo hi).2.1 < (slabComponent o d tmin tmax lo hi).2.2 := by
  by_cases hd : d = 0
  · subst hd
    simp only [zero_mul, add_zero] at h1 h2
    rw [slabComponent_zero_in _ _ _ _ _ h1 h2]
    refine ⟨?_, ha, hb, hc⟩
    simp only [decide_eq_false_iff_not, not_le]; exact hc
  rw [slabComponent_ne _ _ _ _ _ _ hd, slabArith_eq]
  set k := 1 / d with hk
  have hdk : d * k = 1 := by rw [hk]; field_simp
  have ht : t = (d * t) * k := by
    have : (d * t) * k = t * (d * k) := by ring
    rw [this, hdk, mul_one]
  have hL : min ((lo - o) * k) ((hi - o) * k) < t ∧ t < max ((lo - o) * k) ((hi - o) * k) := by
    rcases lt_or_gt_of_ne hd with hneg | hpos
    · have hkneg : k < 0 := by rw [hk]; exact one_div_neg.mpr hneg
      constructor
      · refine lt_of_le_of_lt (min_le_right _ _) ?_
        rw [ht]; exact mul_lt_mul_of_neg_right (by linarith) hkneg
      · refine lt_of_lt_of_le ?_ (le_max_left _ _)
        rw [ht]; exact mul_lt_mul_of_neg_right (by linarith) hkneg
    · have hkpos : 0 < k := by rw [hk]; exact one_div_pos.mpr hpos
      constructor
      · refine lt_of_le_of_lt (min_le_left _ _) ?_
        rw [ht]; exact mul_lt_mul_of_pos_right (by linarith) hkpos
      · refine lt_of_lt_of_le ?_ (le_max_right _ _)
        rw [ht]; exact mul_lt_mul_of_pos_right (by linarith) hkpos
  obtain ⟨hl, hh⟩ := hL
  generalize min ((lo - o) * k) ((hi - o) * k) = L at hl ⊢
  generalize max ((lo - o) * k) ((hi - o) * k) = Hh at hh ⊢
  have e1 : max tmin L ≤ t := max_le ha (le_of_lt hl)
  have e2 : t ≤ min tmax Hh := le_min hb (le_of_lt hh)
  have e3 : max tmin L < min tmax Hh := by
    rcases le_total tmin L with h | h
    · rw [max_eq_right h]
      exact lt_min (lt_of_lt_of_le hl hb) (lt_trans hl hh)
    · rw [max_eq_left h]
      exact lt_min hc (lt_of_le_of_lt ha hh)
  refine ⟨?_, e1, e2, e3⟩
  simp only [decide_eq_false_iff_not, not_le]
  exact e3

/-- if the ray `o + t·d` (ANY direction, zero components included) is inside box `a` for some
    parameter `t` of a non-empty range `[mn, mx]`, the slab test accepts `a` for that range -/
theorem slab_sound_aux (a : Box) (o d : P3) (mn mx t : ℝ)
    (hr : mn < mx) (h1 : mn ≤ t) (h2 : t ≤ mx)
    (hin : a.Contains (o.Add (d.Scale t)) = true) : intersectsRayInRange a o d mn mx = true := by
  rw [C17.aabb_contains_iff] at hin
  simp only [V3.Add, V3.Scale] at hin
  obtain ⟨a1, a2, a3, a4, a5, a6⟩ := hin
  have keps : (0 : ℝ) < kEps := by simp [kEps]
  obtain ⟨x0, x1, x2, x3⟩ := slabComponent_sound o.x d.x mn mx (a.Min.x - kEps) (a.Max.x + kEps) t
    (lt_of_lt_of_le (sub_lt_self _ keps) a1) (lt_of_le_of_lt a4 (lt_add_of_pos_right _ keps)) h1 h2 hr
  obtain ⟨y0, y1, y2, y3⟩ := slabComponent_sound o.y d.y _ _ (a.Min.y - kEps) (a.Max.y + kEps) t
    (lt_of_lt_of_le (sub_lt_self _ keps) a2) (lt_of_le_of_lt a5 (lt_add_of_pos_right _ keps)) x1 x2 x3
  obtain ⟨z0, -, -, -⟩ := slabComponent_sound o.z d.z _ _ (a.Min.z - kEps) (a.Max.z + kEps) t
    (lt_of_lt_of_le (sub_lt_self _ keps) a3) (lt_of_le_of_lt a6 (lt_add_of_pos_right _ keps)) y1 y2 y3
  exact (slab3_eq_true slabComponent a o d mn mx).mpr ⟨x0, y0, z0⟩
end slabsound

section bvhbuild
variable {B H : Type}
/-- `NewBVHTree` builds a covering tree over exactly the given objects, whatever the axis choices / sort order -/
theorem bvhBuild_spec (sub : B → B → Prop) (boxH : H → B) (union : B → B → B) (reorder : List H → List H)
    (hre : ∀ l, (reorder l).Perm l)
    (hun : ∀ a b, sub a (union a b) ∧ sub b (union a b))
    (htrans : ∀ a b c, sub a b → sub b c → sub a c) :
    ∀ (fuel : Nat) (hs : List H), hs ≠ [] → hs.length ≤ fuel →
      ∃ t, bvhBuild reorder boxH union fuel hs = some t ∧ BInv sub boxH t ∧
        (∀ h, h ∈ t.leaves ↔ h ∈ hs) ∧ (∀ h ∈ t.leaves, sub (boxH h) (t.boxOf boxH)) := by
  intro fuel
  induction fuel with
  | zero =>
    intro hs hne hlen
    exact absurd (List.length_eq_zero_iff.mp (Nat.le_zero.mp hlen)) hne
  | succ fuel ih =>
    intro hs hne hlen
    match hs, hne, hlen with
    | [a], _, _ =>
      refine ⟨.node (union (boxH a) (boxH a)) (.leaf a) (.leaf a), by simp only [bvhBuild], ?_, ?_, ?_⟩
      · refine BInv.node ?_ (BInv.leaf a) (BInv.leaf a)
        intro h hh
        simp only [Bvh.leaves, List.cons_append, List.nil_append, List.mem_cons, List.not_mem_nil, or_false, or_self] at hh
        subst hh; exact (hun _ _).1
      · intro h; simp [Bvh.leaves]
      · intro h hh
        simp only [Bvh.leaves, List.cons_append, List.nil_append, List.mem_cons, List.not_mem_nil, or_false, or_self] at hh
        subst hh; exact (hun _ _).1
    | [a, b], _, _ =>
      have hp := hre [a, b]
      obtain ⟨x, y, hxy⟩ := List.length_eq_two.mp (by rw [hp.length_eq]; rfl : (reorder [a, b]).length = 2)
      have hmem : ∀ h, h ∈ [x, y] ↔ h ∈ [a, b] := fun h => by rw [← hxy]; exact hp.mem_iff
      refine ⟨.node (union (boxH x) (boxH y)) (.leaf x) (.leaf y), by simp only [bvhBuild, hxy], ?_, ?_, ?_⟩
      · refine BInv.node ?_ (BInv.leaf x) (BInv.leaf y)
        intro h hh
        simp only [Bvh.leaves, List.cons_append, List.nil_append, List.mem_cons, List.not_mem_nil, or_false] at hh
        rcases hh with rfl | rfl
        · exact (hun _ _).1
        · exact (hun _ _).2
      · intro h; simpa [Bvh.leaves] using hmem h
      · intro h hh
        simp only [Bvh.leaves, List.cons_append, List.nil_append, List.mem_cons, List.not_mem_nil, or_false] at hh
        rcases hh with rfl | rfl
        · exact (hun _ _).1
        · exact (hun _ _).2
    | a :: b :: c :: rest, _, hlen =>
      have hp := hre (a :: b :: c :: rest)
      have hl : (reorder (a :: b :: c :: rest)).length = rest.length + 3 := by rw [hp.length_eq]; simp
      generalize hs' : reorder (a :: b :: c :: rest) = s at hp hl
      have hmid1 : 1 ≤ s.length / 2 := by omega
      have hmid2 : s.length / 2 < s.length := by omega
      simp only [List.length_cons] at hlen
      obtain ⟨tl, el, il, ml, bl⟩ := ih (s.take (s.length / 2))
        (by intro h; have := congrArg List.length h; rw [List.length_take, List.length_nil] at this; omega)
        (by rw [List.length_take]; omega)
      obtain ⟨tr, er, ir, mr, br⟩ := ih (s.drop (s.length / 2))
        (by intro h; have := congrArg List.length h; rw [List.length_drop, List.length_nil] at this; omega)
        (by rw [List.length_drop]; omega)
      refine ⟨.node (union (tl.boxOf boxH) (tr.boxOf boxH)) tl tr, ?_, ?_, ?_, ?_⟩
      · simp only [bvhBuild, hs', el, er]
      · refine BInv.node ?_ il ir
        intro h hh
        simp only [Bvh.leaves, List.mem_append] at hh
        rcases hh with hh | hh
        · exact htrans _ _ _ (bl h hh) (hun _ _).1
        · exact htrans _ _ _ (br h hh) (hun _ _).2
      · intro h
        simp only [Bvh.leaves, List.mem_append, ml, mr]
        rw [← hp.mem_iff, ← List.mem_append, List.take_append_drop]
      · intro h hh
        simp only [Bvh.leaves, List.mem_append] at hh
        simp only [Bvh.boxOf]
        rcases hh with hh | hh
        · exact htrans _ _ _ (bl h hh) (hun _ _).1
        · exact htrans _ _ _ (br h hh) (hun _ _).2
end bvhbuild

end PolyVerif.Tree
