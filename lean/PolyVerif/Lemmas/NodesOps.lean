/-
  C11 — the API operations: `step_kind` says what a `step` is (parameter update, flagged re-wiring, evaluation,
  rejected call); from it, every call preserves the invariant (`step_inv`, `run_inv`), rankings (`step_ranked`),
  the processors' strategies and node kinds, the version accounting (`version_run`), and leaves alone a node whose cone
  it does not touch (`untouched_run`).  Core Lean only.
-/
import PolyVerif.Lemmas.NodesInv

namespace PolyVerif.Nodes
variable {V : Type}

section
variable {α : Type} {l l' : List α} {n : Nat}

theorem listSet_mem {x : α} (h : listSet l n x = some l') :
    ∀ a ∈ l', a ∈ l ∨ a = x := by
  induction l generalizing n l' with
  | nil => cases h
  | cons y ys ih =>
    cases n with
    | zero => cases h; exact fun a ha => (List.mem_cons.1 ha).symm.imp (List.mem_cons_of_mem _) id
    | succ n =>
      obtain ⟨t, ht, rfl⟩ := Option.map_eq_some_iff.1 h
      exact fun a ha => (List.mem_cons.1 ha).elim (fun e => .inl (e ▸ List.mem_cons_self ..))
        fun ha => (ih ht a ha).imp (List.mem_cons_of_mem _) id

theorem listModify_mem {f : α → Option α} (h : listModify f l n = some l') :
    ∀ a' ∈ l', a' ∈ l ∨ ∃ a ∈ l, f a = some a' := by
  induction l generalizing n l' with
  | nil => cases h
  | cons y ys ih =>
    cases n with
    | zero =>
      obtain ⟨t, ht, rfl⟩ := Option.map_eq_some_iff.1 h
      exact fun a ha => (List.mem_cons.1 ha).elim (fun e => .inr ⟨y, List.mem_cons_self .., e ▸ ht⟩)
        fun ha => .inl (List.mem_cons_of_mem _ ha)
    | succ n =>
      obtain ⟨t, ht, rfl⟩ := Option.map_eq_some_iff.1 h
      exact fun a ha => (List.mem_cons.1 ha).elim (fun e => .inl (e ▸ List.mem_cons_self ..))
        fun ha => (ih ht a ha).imp (List.mem_cons_of_mem _) fun ⟨b, hb, hfb⟩ => ⟨b, List.mem_cons_of_mem _ hb, hfb⟩

theorem removeAt_mem (h : removeAt l n = some l') : ∀ a ∈ l', a ∈ l := by
  induction l generalizing n l' with
  | nil => cases h
  | cons y ys ih =>
    cases n with
    | zero => cases h; exact fun a ha => List.mem_cons_of_mem _ ha
    | succ n =>
      obtain ⟨t, ht, rfl⟩ := Option.map_eq_some_iff.1 h
      exact fun a ha => (List.mem_cons.1 ha).elim (fun e => e ▸ List.mem_cons_self ..)
        fun ha => List.mem_cons_of_mem _ (ih ht a ha)
end

theorem mem_deps {s : SNode V} {d : Nat} : d ∈ s.deps ↔ some d ∈ s.scalars ∨ ∃ a ∈ s.arrays, d ∈ a := by
  simp [SNode.deps, List.mem_filterMap, List.mem_flatten]

section
variable {F : Nat}

section
variable {g : Graph V}

/-- a property of all struct nodes survives the replacement of one node by a node that has it -/
theorem Graph.set_struct {p : Nat} {n : Node V} {Q : Nat → SNode V → Prop} (hn : ∀ s, n = .struct s → Q p s)
    (h : ∀ i s, g i = .struct s → Q i s) (i : Nat) (s : SNode V) (hs : (g.set p n) i = .struct s) : Q i s := by
  by_cases hi : i = p
  · subst hi; exact hn s (by rwa [Graph.set_same] at hs)
  · exact h i s (by rwa [Graph.set_ne _ _ hi] at hs)

/-- putting a parameter in the place of any node keeps a ranking -/
theorem setParam_ranked {rank : Nat → Nat} (hwf : Ranked rank F g) (p : Nat) (v : V) (m : Nat) :
    Ranked rank F (g.set p (.param v m)) :=
  ⟨hwf.1, Graph.set_struct nofun hwf.2⟩

theorem setParam_inv (hinv : Inv F g) {p : Nat} {x : V} {n : Nat} (hp : g p = .param x n) (v : V) :
    Inv F (g.set p (.param v (n+1))) := by
  obtain ⟨rank, hwf⟩ := hinv.wf
  have hwf' : Acyclic F (g.set p (.param v (n+1))) := ⟨rank, setParam_ranked hwf p v _⟩
  have hv : ver g p < ver (g.set p (.param v (n+1))) p := by
    rw [ver_param hp, ver_param (Graph.set_same ..)]; exact Nat.lt_succ_self n
  apply Inv.local hinv p _ hwf' (Nat.le_of_lt hv)
  · intro k hk hr; exact bump_up hinv p _ hwf' hv hk hr
  · intro s hs; cases hs
  · intro s rv hs; cases hs

/-- any change of the wiring of struct node `i` that raises the flag and keeps the graph acyclic -/
theorem rewire_inv (hinv : Inv F g) {i : Nat} {s s' : SNode V} (hs : g i = .struct s)
    (hflag : s'.flag = true) (hver : s'.version = s.version)
    (hac : Acyclic F (g.set i (.struct s'))) :
    Inv F (g.set i (.struct s')) := by
  obtain ⟨rank', hwf'⟩ := hac
  have hout : Outdated F (g.set i (.struct s')) i = true := by
    rw [Outdated_eq _ hwf', Graph.set_same]
    dsimp only
    cases s'.remembered with
    | none => rfl
    | some rv => simp [hflag]
  apply Inv.local hinv i _ ⟨rank', hwf'⟩
  · rw [ver_struct hs, ver_struct (Graph.set_same ..), hver]; exact Nat.le_refl _
  · intro k _ hr; exact Outdated_of_reach hwf' hr hout
  · intro t _ ho; rw [hout] at ho; cases ho
  · intro t rv ht _ hf; cases ht; rw [hflag] at hf; cases hf

end

/-- the node an operation is addressed to -/
def opNode : Op V → Nat
  | .setParam p _ => p
  | .setInput i _ _ => i
  | .arrayAdd i _ _ => i
  | .arrayRemove i _ _ => i
  | .read i => i
  | .rejectedMessage p => p

/-- the node an operation newly connects to `opNode`, if any -/
def opSrc : Op V → Option Nat
  | .setInput _ _ src => src
  | .arrayAdd _ _ src => some src
  | _ => none

/-- what the re-wiring `op` makes of the struct node `s` it is addressed to -/
structure Rewired (op : Op V) (s s' : SNode V) : Prop where
  flag : s'.flag = true
  version : s'.version = s.version
  fn : s'.fn = s.fn
  next : s'.next = s.next
  /-- the only new dependency is `opSrc op` -/
  deps : ∀ d ∈ s'.deps, d ∈ s.deps ∨ opSrc op = some d

/-- what a `step` is: a parameter update, a re-wiring, an evaluation, or a rejected call -/
inductive StepKind (F : Nat) (g : Graph V) : Op V → Graph V × Log → Prop
  | setParam {p x n v} : g p = .param x n → StepKind F g (.setParam p v) (g.set p (.param v (n+1)), [])
  | rewire {op i s s'} : (∀ j, op ≠ .read j) → (∀ p v, op ≠ .setParam p v) → opNode op = i →
      g i = .struct s → Rewired op s s' → StepKind F g op (g.set i (.struct s'), [])
  | read {i} : StepKind F g (.read i) (Eval F g i)
  | rejected {op} : (∀ j, op ≠ .read j) → (∀ p v x n, op = .setParam p v → g p ≠ .param x n) →
      StepKind F g op (g, [])

theorem step_kind (F : Nat) (g : Graph V) (op : Op V) : StepKind F g op (step F g op) := by
  have rej : ∀ {op : Op V}, (∀ j, op ≠ .read j) → (∀ p v, op ≠ .setParam p v) → StepKind F g op (g, []) :=
    fun h1 h2 => .rejected h1 fun p v _ _ h => absurd h (h2 p v)
  cases op with
  | setParam p v =>
    simp only [step, step?]
    cases hp : g p with
    | param x n => exact .setParam hp
    | struct s => exact .rejected nofun (by intro p' v' x n h; cases h; rw [hp]; nofun)
  | setInput i port src =>
    simp only [step, step?]
    cases hi : g i with
    | param x n => exact rej nofun nofun
    | struct s =>
      dsimp only
      cases hl : listSet s.scalars port src with
      | none => exact rej nofun nofun
      | some sc =>
        refine .rewire nofun nofun rfl hi ⟨rfl, rfl, rfl, rfl, fun d hd => ?_⟩
        rcases mem_deps.1 hd with h | h
        · exact (listSet_mem hl _ h).imp (fun h => mem_deps.2 (.inl h)) Eq.symm
        · exact .inl (mem_deps.2 (.inr h))
  | arrayAdd i arr src =>
    simp only [step, step?]
    cases hi : g i with
    | param x n => exact rej nofun nofun
    | struct s =>
      dsimp only
      cases hl : listModify (fun a => some (a ++ [src])) s.arrays arr with
      | none => exact rej nofun nofun
      | some ar =>
        refine .rewire nofun nofun rfl hi ⟨rfl, rfl, rfl, rfl, fun d hd => ?_⟩
        rcases mem_deps.1 hd with h | ⟨a, ha, hda⟩
        · exact .inl (mem_deps.2 (.inl h))
        · rcases listModify_mem hl _ ha with h | ⟨b, hb, hfb⟩
          · exact .inl (mem_deps.2 (.inr ⟨a, h, hda⟩))
          · cases hfb
            rcases List.mem_append.1 hda with h | h
            · exact .inl (mem_deps.2 (.inr ⟨b, hb, h⟩))
            · exact .inr (congrArg some (List.mem_singleton.1 h).symm)
  | arrayRemove i arr idx =>
    simp only [step, step?]
    cases hi : g i with
    | param x n => exact rej nofun nofun
    | struct s =>
      dsimp only
      cases hl : listModify (fun a => removeAt a idx) s.arrays arr with
      | none => exact rej nofun nofun
      | some ar =>
        refine .rewire nofun nofun rfl hi ⟨rfl, rfl, rfl, rfl, fun d hd => .inl ?_⟩
        rcases mem_deps.1 hd with h | ⟨a, ha, hda⟩
        · exact mem_deps.2 (.inl h)
        · rcases listModify_mem hl _ ha with h | ⟨b, hb, hfb⟩
          · exact mem_deps.2 (.inr ⟨a, h, hda⟩)
          · exact mem_deps.2 (.inr ⟨b, hb, removeAt_mem hfb d hda⟩)
  | read i => exact .read
  | rejectedMessage p => exact rej nofun nofun

section
variable {g : Graph V}

/-- one API call preserves the invariant as long as the graph stays acyclic -/
theorem step_inv (hinv : Inv F g) (op : Op V) (hac : Acyclic F (step F g op).1) :
    Inv F (step F g op).1 := by
  have h := step_kind F g op
  generalize step F g op = r at h hac
  cases h with
  | setParam hp => exact setParam_inv hinv hp _
  | rewire _ _ _ hs hr => exact rewire_inv hinv hs hr.flag hr.version hac
  | read => exact (Eval_ok _ g hinv).inv
  | rejected => exact hinv

theorem run_inv (hinv : Inv F g) (ops : List (Op V)) (hv : Valid F g ops) : Inv F (run F g ops).1 := by
  induction ops generalizing g with
  | nil => exact hinv
  | cons op ops ih => exact ih (step_inv hinv op hv.1) hv.2

/-- no call changes which inputs a processor pulls -/
theorem step_readsAll (hra : ReadsAll g) (op : Op V) : ReadsAll (step F g op).1 := by
  have h := step_kind F g op
  generalize step F g op = r at h
  cases h with
  | @setParam p x n v hp => exact Graph.set_struct nofun hra
  | @rewire op i s s' _ _ _ hs hr => exact Graph.set_struct (fun t ht => by cases ht; rw [hr.next]; exact hra i s hs) hra
  | @read i => exact hra.of_static (Eval_static F g i)
  | rejected => exact hra

theorem run_readsAll (hra : ReadsAll g) (ops : List (Op V)) : ReadsAll (run F g ops).1 := by
  induction ops generalizing g with
  | nil => exact hra
  | cons op ops ih => exact ih (step_readsAll hra op)

end

/-- the state before any evaluation: acyclic, and no struct node has been processed -/
def Init (F : Nat) (g : Graph V) : Prop := Acyclic F g ∧ ∀ i s, g i = .struct s → s.remembered = none

theorem Init.inv {g : Graph V} (h : Init F g) : Inv F g := by
  obtain ⟨rank, hwf⟩ := h.1
  refine ⟨h.1, ?_, ?_⟩
  · intro i s hs ho
    rw [Outdated_eq g hwf, hs] at ho
    simp [h.2 i s hs] at ho
  · intro i s rv hs hr
    rw [h.2 i s hs] at hr
    cases hr

/-- the new connection goes to a node of smaller rank -/
def opRanked (rank : Nat → Nat) : Op V → Prop
  | .setInput i _ (some src) => rank src < rank i
  | .arrayAdd i _ src => rank src < rank i
  | _ => True

instance (rank : Nat → Nat) : (op : Op V) → Decidable (opRanked rank op)
  | .setInput _ _ (some _) | .arrayAdd _ _ _ => inferInstanceAs (Decidable (_ < _))
  | .setInput _ _ none | .setParam _ _ | .arrayRemove _ _ _ | .read _ | .rejectedMessage _ =>
    inferInstanceAs (Decidable True)

theorem opRanked.src {rank : Nat → Nat} {op : Op V} (h : opRanked rank op) {d : Nat} (hd : opSrc op = some d) :
    rank d < rank (opNode op) := by
  cases op <;> cases hd <;> exact h

theorem step_ranked {rank : Nat → Nat} {g : Graph V} (hwf : Ranked rank F g) (op : Op V) (hop : opRanked rank op) :
    Ranked rank F (step F g op).1 := by
  have h := step_kind F g op
  generalize step F g op = r at h
  cases h with
  | setParam hp => exact setParam_ranked hwf _ _ _
  | @rewire op i s s' _ _ hi hs hr =>
    refine ⟨hwf.1, Graph.set_struct (fun t ht d hdt => ?_) hwf.2⟩
    cases ht
    rcases hr.deps d hdt with h | h
    · exact hwf.2 i s hs d h
    · exact hi ▸ hop.src h
  | @read i => exact hwf.of_static (Eval_static F g i)
  | rejected => exact hwf

/-- histories that respect ONE ranking (e.g. "every dependency has a smaller id") are valid -/
theorem valid_of_fixed_rank {rank : Nat → Nat} {g : Graph V} (hwf : Ranked rank F g) (ops : List (Op V))
    (hops : ∀ op ∈ ops, opRanked rank op) : Valid F g ops ∧ Ranked rank F (run F g ops).1 := by
  induction ops generalizing g with
  | nil => exact ⟨trivial, hwf⟩
  | cons op ops ih =>
    have h1 := step_ranked hwf op (hops op (List.mem_cons_self ..))
    have h2 := ih h1 (fun o ho => hops o (List.mem_cons_of_mem _ ho))
    exact ⟨⟨⟨rank, h1⟩, h2.1⟩, h2.2⟩

theorem step_read (g : Graph V) (i : Nat) : step F g (.read i) = Eval F g i := by
  simp [step, step?]

def isParam : Node V → Bool
  | .param _ _ => true
  | .struct _ => false

/-- 1 if `op` is an accepted update of parameter `k` -/
def bumps (g : Graph V) (op : Op V) (k : Nat) : Nat :=
  match op with
  | .setParam p _ => if p = k ∧ isParam (g p) = true then 1 else 0
  | _ => 0

/-- accepted updates of parameter `k` along a history -/
def setCount (F : Nat) (g : Graph V) : List (Op V) → Nat → Nat
  | [], _ => 0
  | op :: ops, k => bumps g op k + setCount F (step F g op).1 ops k

/-- only an accepted update of a parameter bumps -/
theorem bumps_eq_zero {g : Graph V} {op : Op V} (h : ∀ p v x n, op = .setParam p v → g p ≠ .param x n) (k : Nat) :
    bumps g op k = 0 := by
  cases op with
  | setParam p v =>
    simp only [bumps]
    cases hgp : g p with
    | param x n => exact absurd hgp (h p v x n rfl)
    | struct s => simp [isParam]
  | _ => rfl

theorem version_step {g : Graph V} (hinv : Inv F g) (op : Op V) (k : Nat) :
    ver (step F g op).1 k = ver g k + cnt (step F g op).2 k + bumps g op k := by
  have h := step_kind F g op
  generalize step F g op = r at h
  cases h with
  | @setParam p x n v hp =>
    by_cases hk : k = p
    · subst hk; simp [bumps, cnt, ver, hp, isParam]
    · have : ¬ p = k := fun h => hk h.symm
      simp [bumps, cnt, ver_set_ne g _ hk, this]
  | @rewire op i s s' hnr hnp _ hs hr =>
    have hb := bumps_eq_zero (g := g) (fun p v _ _ h => absurd h (hnp p v)) k
    by_cases hk : k = i
    · subst hk; simp [hb, cnt, ver, hs, hr.version]
    · simp [hb, cnt, ver_set_ne g _ hk]
  | read => simp [bumps, (Eval_ok _ g hinv).execs.count k]
  | @rejected op _ hp => simp [bumps_eq_zero hp k, cnt]

theorem version_run {g : Graph V} (hinv : Inv F g) (ops : List (Op V)) (hv : Valid F g ops) (k : Nat) :
    ver (run F g ops).1 k = ver g k + cnt (run F g ops).2 k + setCount F g ops k := by
  induction ops generalizing g with
  | nil => simp [run, cnt, setCount]
  | cons op ops ih =>
    simp only [run, setCount, cnt_append]
    rw [ih (step_inv hinv op hv.1) hv.2, version_step hinv op k]
    omega

theorem step_isParam (g : Graph V) (op : Op V) (k : Nat) :
    isParam ((step F g op).1 k) = isParam (g k) := by
  have h := step_kind F g op
  generalize step F g op = r at h
  cases h with
  | @setParam p x n v hp =>
    by_cases hk : k = p
    · subst hk; simp [isParam, hp]
    · simp [Graph.set_ne g _ hk]
  | @rewire op i s s' _ _ _ hs _ =>
    by_cases hk : k = i
    · subst hk; simp [isParam, hs]
    · simp [Graph.set_ne g _ hk]
  | @read i =>
    have := Eval_static F g i k
    revert this
    cases (Eval F g i).1 k <;> cases g k <;> simp [StaticEq, isParam]
  | rejected => rfl

theorem setCount_struct (g : Graph V) (ops : List (Op V)) (k : Nat) (hk : isParam (g k) = false) :
    setCount F g ops k = 0 := by
  induction ops generalizing g with
  | nil => rfl
  | cons op ops ih =>
    simp only [setCount]
    rw [ih _ (by rw [step_isParam]; exact hk)]
    cases op with
    | setParam p v =>
      simp only [bumps]
      by_cases hp : p = k
      · subst hp; simp [hk]
      · simp [hp]
    | _ => rfl

theorem run_isParam (g : Graph V) (ops : List (Op V)) (k : Nat) :
    isParam ((run F g ops).1 k) = isParam (g k) := by
  induction ops generalizing g with
  | nil => rfl
  | cons op ops ih => simp only [run]; rw [ih, step_isParam]

/-- executable check of a ranking on the first `N` nodes -/
def rankedUpTo (rank : Nat → Nat) (N : Nat) (g : Graph V) : Bool :=
  (List.range N).all fun i =>
    match g i with
    | .param _ _ => true
    | .struct s => s.deps.all fun d => decide (rank d < rank i)

theorem ranked_of_check {rank : Nat → Nat} {g : Graph V} (N : Nat) (hb : ∀ i, rank i < F)
    (hp : ∀ i, N ≤ i → isParam (g i) = true) (hc : rankedUpTo rank N g = true) : Ranked rank F g := by
  refine ⟨hb, ?_⟩
  intro i s hs d hd
  by_cases hi : i < N
  · simp only [rankedUpTo, List.all_eq_true, List.mem_range] at hc
    have := hc i hi
    rw [hs] at this
    simp only [List.all_eq_true, decide_eq_true_eq] at this
    exact this d hd
  · have := hp i (by omega)
    rw [hs] at this
    cases this

/-- `op` updates a parameter in the cone of `j` or re-wires a node in the cone of `j`
    (for `j`'s own wiring: the cone contains `j`) -/
def touches (g : Graph V) (op : Op V) (j : Nat) : Prop :=
  match op with
  | .read _ => False
  | op => Reach g j (opNode op)

/-- no operation of the history touches the cone of `j` (cone taken in the state the operation is applied to) -/
def Untouched (F : Nat) (g : Graph V) : List (Op V) → Nat → Prop
  | [], _ => True
  | op :: ops, j => ¬ touches g op j ∧ Untouched F (step F g op).1 ops j

theorem untouched_step {g : Graph V} (hinv : Inv F g) {j : Nat} (hj : Outdated F g j = false) (op : Op V)
    (hq : ¬ touches g op j) :
    Outdated F (step F g op).1 j = false ∧ cnt (step F g op).2 j = 0 := by
  obtain ⟨rank, hwf⟩ := hinv.wf
  have h := step_kind F g op
  generalize step F g op = r at h
  have hset : ∀ p n', ¬ Reach g j p → Outdated F (g.set p n') j = false := by
    intro p n' hnr
    rw [Outdated_congr_cone F g _ j]
    · exact hj
    · intro k hk
      apply Graph.set_ne
      intro hkp; subst hkp; exact hnr hk
  cases h with
  | @setParam p x n v hp => exact ⟨hset p _ (by simpa [touches, opNode] using hq), by simp [cnt]⟩
  | @rewire op i s s' hnr hnp hi _ _ =>
    refine ⟨hset i _ ?_, by simp [cnt]⟩
    cases op with
    | read j' => exact absurd rfl (hnr j')
    | _ => simpa [touches, hi] using hq
  | @read i =>
    have hok := Eval_ok i g hinv
    refine ⟨Outdated_stable hwf hok.evo.keep hj, cnt_eq_zero ?_⟩
    intro e he hej
    have := (hok.log e he).2
    rw [hej, hj] at this
    cases this
  | rejected => exact ⟨hj, by simp [cnt]⟩

theorem untouched_run {g : Graph V} (hinv : Inv F g) {j : Nat} (hj : Outdated F g j = false) (ops : List (Op V))
    (hv : Valid F g ops) (hq : Untouched F g ops j) :
    Outdated F (run F g ops).1 j = false ∧ cnt (run F g ops).2 j = 0 := by
  induction ops generalizing g with
  | nil => exact ⟨hj, by simp [run, cnt]⟩
  | cons op ops ih =>
    have h1 := untouched_step hinv hj op hq.1
    have h2 := ih (step_inv hinv op hv.1) h1.1 hv.2 hq.2
    simp only [run, cnt_append]
    exact ⟨h2.1, by omega⟩

/-- operations addressed to nodes of larger rank than `j` (and reads) never touch `j`'s cone -/
theorem untouched_of_above {rank : Nat → Nat} {g : Graph V} (hwf : Ranked rank F g) (j : Nat) (ops : List (Op V))
    (hops : ∀ op ∈ ops, opRanked rank op)
    (h : ∀ op ∈ ops, (∃ i, op = .read i) ∨ rank j < rank (opNode op)) : Untouched F g ops j := by
  induction ops generalizing g with
  | nil => trivial
  | cons op ops ih =>
    refine ⟨?_, ih (step_ranked hwf op (hops op (List.mem_cons_self ..)))
      (fun o ho => hops o (List.mem_cons_of_mem _ ho)) (fun o ho => h o (List.mem_cons_of_mem _ ho))⟩
    rcases h op (List.mem_cons_self ..) with ⟨i, rfl⟩ | hlt
    · simp [touches]
    · cases op with
      | read i => simp [touches]
      | _ => exact fun hr => by have := hr.rank_le hwf; omega

end

end PolyVerif.Nodes
