/-
  C13 — proofs about the concurrent model of Model/Linz.lean (core Lean only): the lock discipline shared by the four
  systems (`LockOK`, `forall_upd`), the invariant `J` of the atomic system (linearizable by the order of the critical
  sections), the invariants of the fine-grained systems and their refinement to the atomic one, correctness of the
  micro-step programs of the three entry points, and the unlocked model-version read.
-/
import PolyVerif.Model.Linz
import PolyVerif.Lemmas.NodesOps

namespace PolyVerif.Linz
open Nodes
variable {V : Type} {F : Nat}

/-! ## Lists: `before` (real-time order in a history) -/

theorem nodup_of_map {α β : Type} (f : α → β) {l : List α} (h : (l.map f).Nodup) : l.Nodup :=
  List.Pairwise.of_map f (fun _ _ hab e => hab (congrArg f e)) h

section
variable {α : Type} [DecidableEq α]

theorem before_snoc (l : List α) (x a b : α) :
    before (l ++ [x]) a b = (before l a b || (decide (a ∈ l) && decide (b = x))) := by
  induction l with
  | nil => simp [before]
  | cons y ys ih =>
    simp only [List.cons_append, before]
    by_cases hy : y = a
    · subst hy; simp [Bool.decide_or]
    · have : a ≠ y := fun h => hy h.symm
      simp [hy, ih, this]

/-- the meaning of `before`: `a` occurs, and `b` occurs after the first occurrence of `a` -/
theorem before_iff (l : List α) (a b : α) :
    before l a b = true ↔ ∃ l1 l2, l = l1 ++ a :: l2 ∧ a ∉ l1 ∧ b ∈ l2 := by
  induction l with
  | nil => simp [before]
  | cons x xs ih =>
    simp only [before]
    by_cases hx : x = a
    · subst hx
      simp only [if_true, decide_eq_true_eq]
      constructor
      · intro h; exact ⟨[], xs, rfl, by simp, h⟩
      · rintro ⟨l1, l2, heq, hn, hb⟩
        cases l1 with
        | nil => simp at heq; rw [heq]; exact hb
        | cons y ys => simp at heq; exact absurd (List.mem_cons_self ..) (heq.1 ▸ hn)
    · simp only [hx, if_false, ih]
      constructor
      · rintro ⟨l1, l2, heq, hn, hb⟩
        exact ⟨x :: l1, l2, by simp [heq], by simp [hn]; exact fun h => hx h.symm, hb⟩
      · rintro ⟨l1, l2, heq, hn, hb⟩
        cases l1 with
        | nil => simp at heq; exact absurd heq.1 hx
        | cons y ys =>
          simp at heq
          exact ⟨ys, l2, heq.2, fun h => hn (List.mem_cons_of_mem _ h), hb⟩

theorem before_mem_left {l : List α} {a b : α} (h : before l a b = true) : a ∈ l := by
  obtain ⟨l1, l2, rfl, -, -⟩ := (before_iff l a b).1 h
  simp

theorem before_mem_right {l : List α} {a b : α} (h : before l a b = true) : b ∈ l := by
  obtain ⟨l1, l2, rfl, -, hb⟩ := (before_iff l a b).1 h
  simp [hb]

/-- in a list without repetitions, what comes before `b` lies in the part of the list in front of `b` -/
theorem before_split {pre post : List α} {a b : α} (hnd : (pre ++ b :: post).Nodup)
    (h : before (pre ++ b :: post) a b = true) : a ∈ pre := by
  induction pre with
  | nil =>
    have hb : b ∈ post := by
      simp only [List.nil_append, before] at h
      split at h
      · simpa using h
      · exact before_mem_right h
    exact absurd hb (List.nodup_cons.1 hnd).1
  | cons x pre ih =>
    simp only [List.cons_append, before] at h
    split at h
    · next hx => exact hx ▸ List.mem_cons_self ..
    · exact List.mem_cons_of_mem _ (ih (List.nodup_cons.1 hnd).2 h)

end

/-! ## The sequential specification: `replay`, and its runs stay inside C11's invariant -/

theorem replay_append (g : Graph V) (xs ys : List (Call V)) :
    replay F g (xs ++ ys) = ((replay F (replay F g xs).1 ys).1, (replay F g xs).2 ++ (replay F (replay F g xs).1 ys).2) := by
  induction xs generalizing g with
  | nil => simp [replay]
  | cons c cs ih => simp [replay, ih]

theorem replay_length (g : Graph V) (cs : List (Call V)) : (replay F g cs).2.length = cs.length := by
  induction cs generalizing g with
  | nil => rfl
  | cons c cs ih => simp [replay, ih]

theorem replay_snoc (g : Graph V) (xs : List (Call V)) (c : Call V) :
    replay F g (xs ++ [c]) = ((seqStep F (replay F g xs).1 c).1, (replay F g xs).2 ++ [(seqStep F (replay F g xs).1 c).2]) := by
  rw [replay_append]; simp [replay]

/-- in a legal run every operation answers what the sequential specification answers in the state
    reached by the operations before it -/
theorem legal_at {g0 : Graph V} {pre post : List (LOp V)} {o : LOp V}
    (hl : (replay F g0 ((pre ++ o :: post).map (·.call))).2 = (pre ++ o :: post).map (·.resp)) :
    o.resp = (seqStep F (replay F g0 (pre.map (·.call))).1 o.call).2 := by
  simp only [List.map_append, List.map_cons, replay_append, replay] at hl
  exact (List.cons.inj (List.append_inj hl (by simp [replay_length])).2).1.symm

theorem seqStep_inv {g : Graph V} (hinv : Inv F g) (c : Call V) : Inv F (seqStep F g c).1 := by
  cases c with
  | update p v =>
    simp only [seqStep]
    cases hp : g p with
    | param x n => exact setParam_inv hinv hp v
    | struct s => exact hinv
  | paramData p =>
    simp only [seqStep]
    cases hp : g p <;> exact hinv
  | artifact i => exact (Eval_ok i g hinv).inv
  | updateRejected p => exact hinv

theorem replay_inv {g : Graph V} (hinv : Inv F g) (cs : List (Call V)) : Inv F (replay F g cs).1 := by
  induction cs generalizing g with
  | nil => exact hinv
  | cons c cs ih => exact ih (seqStep_inv hinv c)

/-- an artifact is the from-scratch value of the state it is applied to (`Eval_ok`, the fact behind C11's `read_fresh`) -/
theorem artifact_spec {g : Graph V} (hinv : Inv F g) (i : Nat) : (seqStep F g (.artifact i)).2 = .val (Spec F g i) := by
  simp only [seqStep]
  rw [(Eval_ok i g hinv).value]

/-- the sequential specification changes parameters, processors and wiring only by `update` -/
theorem seqStep_static {g : Graph V} (c : Call V) (h : ∀ p v, c ≠ .update p v) : SameStatic (seqStep F g c).1 g := by
  cases c with
  | update p v => exact absurd rfl (h p v)
  | paramData p =>
    simp only [seqStep]
    cases g p <;> exact SameStatic.refl g
  | artifact i => exact Eval_static F g i
  | updateRejected p => exact SameStatic.refl g

/-! ## Clients: one pc per client (`upd`), and the lock discipline `LockOK` all four systems obey -/

section
variable {α : Type}

@[simp] theorem upd_same (f : Nat → α) (t : Nat) (a : α) : upd f t a t = a := by simp [upd]
theorem upd_ne (f : Nat → α) {t u : Nat} (a : α) (h : u ≠ t) : upd f t a u = f u := by simp [upd, h]

/-- a property of every client after client `t` moved to `x`: `x` has it, and the others had it -/
theorem forall_upd {Q : Nat → α → Prop} {pc : Nat → α} {t : Nat} {x : α} (hx : Q t x)
    (h : ∀ u, u ≠ t → Q u (pc u)) (u : Nat) : Q u (upd pc t x u) := by
  by_cases hut : u = t
  · subst hut; rw [upd_same]; exact hx
  · rw [upd_ne _ _ hut]; exact h u hut

/-- what holds of every client holds of the pc a client is known to be at (up to unfolding the predicate) -/
theorem of_pc {P : α → Prop} {pc : Nat → α} (h : ∀ t, P (pc t)) {t : Nat} {x : α} (hpc : pc t = x) : P x :=
  hpc ▸ h t

theorem map_upd {β : Type} (f : α → β) (pc : Nat → α) (t : Nat) (x : α) :
    (fun u => f (upd pc t x u)) = upd (fun u => f (pc u)) t (f x) :=
  funext (forall_upd (Q := fun u p => f p = upd (fun u => f (pc u)) t (f x) u) (upd_same ..).symm
    fun _ hu => (upd_ne (fun u => f (pc u)) _ hu).symm)

theorem upd_upd (f : Nat → α) (t : Nat) (a b : α) : upd (upd f t a) t b = upd f t b :=
  funext (forall_upd (Q := fun u p => p = upd f t b u) (upd_same ..).symm
    fun _ hu => (upd_ne _ _ hu).trans (upd_ne _ _ hu).symm)

theorem upd_self (f : Nat → α) (t : Nat) (a : α) (h : f t = a) : upd f t a = f :=
  funext (forall_upd (Q := fun u p => p = f u) h.symm fun _ _ => rfl)

end

/-- the lock discipline of all four systems: a client is inside its critical section iff it owns
    the lock.  Every step either leaves the stepping client on its side of the critical section
    (`keep`), takes the free lock (`acquire`), or gives it back (`release`). -/
def LockOK {α : Type} (crit : α → Bool) (lock : Option Tid) (pc : Tid → α) : Prop :=
  ∀ t, crit (pc t) = true ↔ lock = some t

namespace LockOK
variable {α : Type} {crit : α → Bool} {lock : Option Tid} {pc : Tid → α} {t : Tid} {x : α}

theorem keep (h : LockOK crit lock pc) (hx : crit x = crit (pc t)) : LockOK crit lock (upd pc t x) :=
  forall_upd (Q := fun u p => crit p = true ↔ lock = some u) (hx ▸ h t) fun u _ => h u

theorem unique (h : LockOK crit lock pc) {u : Tid} (ht : crit (pc t) = true) (hu : crit (pc u) = true) : t = u :=
  Option.some.inj (((h t).1 ht).symm.trans ((h u).1 hu))

theorem other (h : LockOK crit lock pc) (ht : crit (pc t) = true) {u : Tid} (hu : u ≠ t) : crit (pc u) = false :=
  Bool.eq_false_iff.2 fun hc => hu (h.unique hc ht)

theorem acquire (h : LockOK crit none pc) (hx : crit x = true) : LockOK crit (some t) (upd pc t x) :=
  forall_upd (Q := fun u p => crit p = true ↔ some t = some u) ⟨fun _ => rfl, fun _ => hx⟩ fun u hu =>
    ⟨fun hc => (nomatch (h u).1 hc), fun he => absurd (Option.some.inj he).symm hu⟩

theorem release (h : LockOK crit lock pc) (ht : crit (pc t) = true) (hx : crit x = false) :
    LockOK crit none (upd pc t x) :=
  forall_upd (Q := fun u p => crit p = true ↔ none = some u) (by simp [hx]) fun u hu => by
    simp [h.other ht hu]

end LockOK

/-! ## The atomic system: invariant `J`, hence linearizable by the order of the critical sections -/

def Pc.inCrit : Pc V → Bool
  | .holding _ _ => true
  | .executed _ _ _ => true
  | _ => false

/-- what the program counter of a client says about the history and the linearization -/
def PcOK (s : Sys V) (t : Tid) : Pc V → Prop
  | .idle => True
  | .invoked id c => Event.inv id t c ∈ s.hist ∧ ∀ o ∈ s.lin, o.id ≠ id
  | .holding id c => Event.inv id t c ∈ s.hist ∧ ∀ o ∈ s.lin, o.id ≠ id
  | .executed id c r => (⟨id, t, c, r⟩ : LOp V) ∈ s.lin
  | .unlocked id c r => (⟨id, t, c, r⟩ : LOp V) ∈ s.lin

section
variable [DecidableEq V]

structure J (F : Nat) (g0 : Graph V) (s : Sys V) : Prop where
  mutex : ∀ t, (s.pc t).inCrit = true → s.lock = some t
  locked : ∀ t, s.lock = some t → (s.pc t).inCrit = true
  state : s.g = (replay F g0 (s.lin.map (·.call))).1
  legal : (replay F g0 (s.lin.map (·.call))).2 = s.lin.map (·.resp)
  invoked : ∀ o ∈ s.lin, o.invE ∈ s.hist
  nodup : (s.lin.map (·.id)).Nodup
  complete : ∀ id r, Event.resp id r ∈ s.hist → ∃ o ∈ s.lin, o.id = id ∧ o.resp = r
  fresh : ∀ id t c, Event.inv id t c ∈ s.hist → id < s.next
  uniq : ∀ id t c t' c', Event.inv id t c ∈ s.hist → Event.inv id t' c' ∈ s.hist → t = t'
  pcs : ∀ t, PcOK s t (s.pc t)
  realtime : ∀ a ∈ s.lin, ∀ b ∈ s.lin, before s.hist a.respE b.invE = true → before s.lin a b = true

theorem J.init (g0 : Graph V) : J F g0 (Sys.init g0) := by
  refine ⟨?_, ?_, rfl, rfl, ?_, ?_, ?_, ?_, ?_, ?_, ?_⟩ <;> simp [Sys.init, Pc.inCrit, PcOK]

omit [DecidableEq V] in
theorem PcOK.mono {s s' : Sys V} {t : Tid} {pc : Pc V} (h : PcOK s t pc)
    (hh : ∀ e, e ∈ s.hist → e ∈ s'.hist) (hl : s'.lin = s.lin) : PcOK s' t pc := by
  cases pc with
  | idle => trivial
  | invoked id c | holding id c => exact ⟨hh _ h.1, by rw [hl]; exact h.2⟩
  | executed id c r | unlocked id c r => simp only [PcOK, hl]; exact h

variable {g0 : Graph V} {s : Sys V}

theorem J.lockOK (hj : J F g0 s) : LockOK Pc.inCrit s.lock s.pc :=
  fun t => ⟨hj.mutex t, hj.locked t⟩

/-- a step that only moves the lock and one pc, to a pc that claims nothing new -/
theorem J.relock (hj : J F g0 s) {lock' : Option Tid} {t : Tid} {x : Pc V}
    (hl : LockOK Pc.inCrit lock' (upd s.pc t x)) (hx : PcOK s t x) :
    J F g0 { s with lock := lock', pc := upd s.pc t x } :=
  ⟨fun u => (hl u).1, fun u => (hl u).2, hj.state, hj.legal, hj.invoked, hj.nodup, hj.complete, hj.fresh, hj.uniq,
    forall_upd (hx.mono (fun _ he => he) rfl) fun u _ => (hj.pcs u).mono (fun _ he => he) rfl, hj.realtime⟩

theorem J.step {s' : Sys V} (hj : J F g0 s) (hs : Step F s s') : J F g0 s' := by
  have hlk := hj.lockOK
  have hlin_lt : ∀ o ∈ s.lin, o.id < s.next := fun o ho => hj.fresh o.id o.tid o.call (hj.invoked o ho)
  -- an event that is no invocation of a linearized operation adds no real-time constraint
  have rt_snoc : ∀ e : Event V, (∀ b ∈ s.lin, b.invE ≠ e) → ∀ a ∈ s.lin, ∀ b ∈ s.lin,
      before (s.hist ++ [e]) a.respE b.invE = true → before s.lin a b = true := by
    intro e hne a ha b hb hbef
    rw [before_snoc] at hbef
    simp only [hne b hb, decide_false, Bool.and_false, Bool.or_false] at hbef
    exact hj.realtime a ha b hb hbef
  cases hs with
  | invoke t c hpc =>
    have hl := hlk.keep (t := t) (x := .invoked s.next c) (hpc ▸ rfl)
    refine ⟨fun u => (hl u).1, fun u => (hl u).2, hj.state, hj.legal,
      fun o ho => List.mem_append_left _ (hj.invoked o ho), hj.nodup, ?_, ?_, ?_, ?_, ?_⟩ <;> dsimp only
    · exact fun id r hr => hj.complete id r (by simpa using hr)
    · intro id u c' h
      simp only [List.mem_append, List.mem_singleton, Event.inv.injEq] at h
      rcases h with h | h
      · have := hj.fresh id u c' h; omega
      · omega
    · intro id u c1 u' c2 h1 h2
      simp only [List.mem_append, List.mem_singleton, Event.inv.injEq] at h1 h2
      rcases h1 with h1 | h1 <;> rcases h2 with h2 | h2
      · exact hj.uniq id u c1 u' c2 h1 h2
      · have := hj.fresh id u c1 h1; omega
      · have := hj.fresh id u' c2 h2; omega
      · rw [h1.2.1, h2.2.1]
    · exact forall_upd ⟨by simp, fun o ho => Nat.ne_of_lt (hlin_lt o ho)⟩ fun u _ =>
        (hj.pcs u).mono (fun e he => List.mem_append_left _ he) rfl
    · refine rt_snoc _ fun b hb h => ?_
      simp only [LOp.invE, Event.inv.injEq] at h
      have := hlin_lt b hb
      omega
  | acquire t id c hpc hlock =>
    exact hj.relock ((hlock ▸ hlk).acquire rfl) (by have := hj.pcs t; rw [hpc] at this; exact this)
  | exec t id c hpc =>
    have hpt := hj.pcs t
    rw [hpc] at hpt
    have hl := hlk.keep (t := t) (x := .executed id c (seqStep F s.g c).2) (hpc ▸ rfl)
    have hreplay := replay_snoc (F := F) g0 (s.lin.map (·.call)) c
    refine ⟨fun u => (hl u).1, fun u => (hl u).2, ?_, ?_, ?_, ?_, ?_, hj.fresh, hj.uniq, ?_, ?_⟩ <;> dsimp only
    · simp only [List.map_append, List.map_cons, List.map_nil]
      rw [hreplay, ← hj.state]
    · simp only [List.map_append, List.map_cons, List.map_nil]
      rw [hreplay, hj.legal, ← hj.state]
    · intro o ho
      rcases List.mem_append.1 ho with ho | ho
      · exact hj.invoked o ho
      · rw [List.mem_singleton.1 ho]; exact hpt.1
    · simp only [List.map_append, List.map_cons, List.map_nil]
      refine List.nodup_append.2 ⟨hj.nodup, by simp, fun x hx y hy => ?_⟩
      obtain ⟨o, ho, rfl⟩ := List.mem_map.1 hx
      rw [List.mem_singleton.1 hy]
      exact hpt.2 o ho
    · intro id' r hr
      obtain ⟨o, ho, h1, h2⟩ := hj.complete id' r hr
      exact ⟨o, List.mem_append_left _ ho, h1, h2⟩
    · refine forall_upd (by simp [PcOK]) fun u hut => ?_
      have hu := hj.pcs u
      cases hpu : s.pc u with
      | idle => trivial
      | invoked id' c' | holding id' c' =>
        rw [hpu] at hu
        refine ⟨hu.1, fun o ho => ?_⟩
        rcases List.mem_append.1 ho with ho | ho
        · exact hu.2 o ho
        · -- the operation just linearized belongs to `t`: invocation ids are unique
          rw [List.mem_singleton.1 ho]
          intro hid
          dsimp only at hid
          subst hid
          exact hut (hj.uniq _ _ _ _ _ hu.1 hpt.1)
      | executed id' c' r' | unlocked id' c' r' => rw [hpu] at hu; exact List.mem_append_left _ hu
    · intro a ha b hb hbef
      rw [before_snoc]
      rcases List.mem_append.1 ha with ha | ha
      · rcases List.mem_append.1 hb with hb | hb
        · rw [hj.realtime a ha b hb hbef]; rfl
        · simp [List.mem_singleton.1 hb, ha]
      · -- the new operation has not responded yet
        rw [List.mem_singleton.1 ha] at hbef
        obtain ⟨o, ho, h1, _⟩ := hj.complete _ _ (before_mem_left hbef)
        exact absurd h1 (hpt.2 o ho)
  | release t id c r hpc =>
    exact hj.relock (hlk.release (hpc ▸ rfl) rfl) (by have := hj.pcs t; rw [hpc] at this; exact this)
  | respond t id c r hpc =>
    have hpt := hj.pcs t
    rw [hpc] at hpt
    have hl := hlk.keep (t := t) (x := .idle) (hpc ▸ rfl)
    refine ⟨fun u => (hl u).1, fun u => (hl u).2, hj.state, hj.legal,
      fun o ho => List.mem_append_left _ (hj.invoked o ho), hj.nodup, ?_, ?_, ?_, ?_, ?_⟩ <;> dsimp only
    · intro id' r' hr
      simp only [List.mem_append, List.mem_singleton, Event.resp.injEq] at hr
      rcases hr with hr | hr
      · exact hj.complete id' r' hr
      · exact ⟨_, hpt, hr.1.symm, hr.2.symm⟩
    · exact fun id' u c' h => hj.fresh id' u c' (by simpa using h)
    · exact fun id' u c1 u' c2 h1 h2 => hj.uniq id' u c1 u' c2 (by simpa using h1) (by simpa using h2)
    · exact forall_upd trivial fun u _ => (hj.pcs u).mono (fun e he => List.mem_append_left _ he) rfl
    · exact rt_snoc _ fun b _ => by simp [LOp.invE]

theorem J.exec (h : Exec F g0 s) : J F g0 s := by
  induction h with
  | init => exact J.init g0
  | step _ hs ih => exact ih.step hs

end

/-! ## Parameter values along a sequential run -/

/-- the value written by the last `update` of parameter `p` in `cs` -/
def lastUpd : List (Call V) → Nat → Option V
  | [], _ => none
  | c :: cs, p =>
    match lastUpd cs p with
    | some v => some v
    | none =>
      match c with
      | .update q v => if q = p then some v else none
      | _ => none

theorem seqStep_param {g : Graph V} {p : Nat} {x : V} {n : Nat} (hp : g p = .param x n) (c : Call V) :
    ∃ n', (seqStep F g c).1 p = .param ((lastUpd [c] p).getD x) n' := by
  cases c with
  | update q v =>
    simp only [seqStep, lastUpd]
    by_cases hq : q = p
    · subst hq; simp [hp]
    · cases hgq : g q with
      | param y m => exact ⟨n, by simp [hq, Graph.set_ne g _ (fun h => hq h.symm), hp]⟩
      | struct s => exact ⟨n, by simp [hq, hp]⟩
  | paramData q =>
    simp only [seqStep, lastUpd]
    cases g q <;> exact ⟨n, by simp [hp]⟩
  | artifact i =>
    have := Eval_static F g i p
    rw [hp] at this
    exact ⟨n, by simp [seqStep, lastUpd, StaticEq.param_left this]⟩
  | updateRejected q => exact ⟨n, by simp [seqStep, lastUpd, hp]⟩

/-- a later update wins -/
theorem lastUpd_cons (c : Call V) (cs : List (Call V)) (p : Nat) (x : V) :
    (lastUpd (c :: cs) p).getD x = (lastUpd cs p).getD ((lastUpd [c] p).getD x) := by
  simp only [lastUpd]
  cases lastUpd cs p <;> rfl

theorem replay_param {g : Graph V} {p : Nat} {x : V} {n : Nat} (hp : g p = .param x n) (cs : List (Call V)) :
    ∃ n', (replay F g cs).1 p = .param ((lastUpd cs p).getD x) n' := by
  induction cs generalizing g x n with
  | nil => exact ⟨n, hp⟩
  | cons c cs ih =>
    obtain ⟨n1, h1⟩ := seqStep_param (F := F) hp c
    obtain ⟨n2, h2⟩ := ih h1
    exact ⟨n2, by rw [lastUpd_cons]; exact h2⟩


/-! ## The fine-grained systems `GSys`, `FSys`, `PSys`

    Each is treated in the same three steps, spelled out for `GSys` first; the steps for `FSys` and `PSys` have the same
    shape case by case (they differ in the constructors of the pc and, for `PSys`, in the per-client predicate):
    the lock discipline, one `LockOK` lemma per step (`glock` / `flock` / `plock`); the per-client predicate by
    `forall_upd` (`gok` / `fok` / `pok`); the invariant structure assembled from the two (`ginv` / `finv` / `pinv`).
    `FSys` and `PSys` are then mapped to the atomic system (`fine_refines` / `prog_refines`), again case by case alike. -/

structure GInv {σ : Type} (s : GSys σ) : Prop where
  mutex : ∀ t, (s.pc t).isCrit = true → s.lock = some t
  atomic : ∀ t start tr, s.pc t = .crit start tr → s.g = tr.foldl (fun a f => f a) start

/-- the shared state is what the client's own micro-steps made of the state it found -/
def GPc.ok {σ : Type} (g : σ) : GPc σ → Prop
  | .crit start tr => g = tr.foldl (fun a f => f a) start
  | _ => True

section
variable {σ : Type} {g0 : σ} {s : GSys σ}

theorem trace_snoc {g start : σ} {tr : List (σ → σ)} (f : σ → σ) (h : g = tr.foldl (fun a f => f a) start) :
    f g = (tr ++ [f]).foldl (fun a f => f a) start := by
  rw [List.foldl_append, ← h]; rfl

theorem GPc.ok_of_not_crit {p : GPc σ} (h : p.isCrit = false) (g : σ) : p.ok g := by
  cases p with
  | crit => cases h
  | _ => trivial

theorem glock (h : GExec g0 s) : LockOK GPc.isCrit s.lock s.pc := by
  induction h with
  | init => intro t; simp [GPc.isCrit]
  | step _ hs ih =>
    cases hs with
    | request t hpc => exact ih.keep (hpc ▸ rfl)
    | acquire t hpc hlock => exact (hlock ▸ ih).acquire rfl
    | micro t start tr f hpc => exact ih.keep (hpc ▸ rfl)
    | release t start tr hpc => exact ih.release (hpc ▸ rfl) rfl

theorem gok (h : GExec g0 s) : ∀ t, (s.pc t).ok s.g := by
  induction h with
  | init => intro t; trivial
  | @step s s' hex hs ih =>
    cases hs with
    | request t hpc => exact forall_upd trivial fun u _ => ih u
    | acquire t hpc hlock => exact forall_upd rfl fun u _ => ih u
    | micro t start tr f hpc =>
      refine forall_upd ?_ fun u hu => ?_
      · exact trace_snoc f (of_pc ih hpc)
      · -- another client in its critical section at the same time: excluded by the lock
        exact GPc.ok_of_not_crit ((glock hex).other (t := t) (hpc ▸ rfl) hu) _
    | release t start tr hpc => exact forall_upd trivial fun u _ => ih u

end

theorem ginv {σ : Type} (g0 : σ) (s : GSys σ) (h : GExec g0 s) : GInv s :=
  ⟨fun t => ((glock h) t).1, fun _ _ _ hpc => of_pc (gok h) hpc⟩

structure FInv (s : FSys V) : Prop where
  mutex : ∀ t, (s.pc t).isCrit = true → s.lock = some t
  locked : ∀ t, s.lock = some t → (s.pc t).isCrit = true
  atomic : ∀ t id c start tr, s.pc t = .crit id c start tr → s.g = tr.foldl (fun a f => f a) start

def FPc.ok (g : Graph V) : FPc V → Prop
  | .crit _ _ start tr => g = tr.foldl (fun a f => f a) start
  | _ => True

theorem FPc.ok_of_not_crit {p : FPc V} (h : p.isCrit = false) (g : Graph V) : p.ok g := by
  cases p with
  | crit => cases h
  | _ => trivial

section
variable {g0 : Graph V} {s : FSys V}

theorem flock (h : FExec F g0 s) : LockOK FPc.isCrit s.lock s.pc := by
  induction h with
  | init => intro t; simp [FSys.init, FPc.isCrit]
  | step _ hs ih =>
    cases hs with
    | invoke t c hpc => exact ih.keep (hpc ▸ rfl)
    | acquire t id c hpc hlock => exact (hlock ▸ ih).acquire rfl
    | micro t id c start tr f hpc => exact ih.keep (hpc ▸ rfl)
    | finish t id c start tr hpc _ => exact ih.release (hpc ▸ rfl) rfl
    | respond t id c r hpc => exact ih.keep (hpc ▸ rfl)

theorem fok (h : FExec F g0 s) : ∀ t, (s.pc t).ok s.g := by
  induction h with
  | init => intro t; trivial
  | @step s s' hex hs ih =>
    cases hs with
    | invoke t c hpc => exact forall_upd trivial fun u _ => ih u
    | acquire t id c hpc hlock => exact forall_upd rfl fun u _ => ih u
    | micro t id c start tr f hpc =>
      refine forall_upd ?_ fun u hu => ?_
      · exact trace_snoc f (of_pc ih hpc)
      · exact FPc.ok_of_not_crit ((flock hex).other (t := t) (hpc ▸ rfl) hu) _
    | finish t id c start tr hpc _ => exact forall_upd trivial fun u _ => ih u
    | respond t id c r hpc => exact forall_upd trivial fun u _ => ih u

end

theorem finv {F : Nat} (g0 : Graph V) (s : FSys V) (h : FExec F g0 s) : FInv s :=
  ⟨fun t => ((flock h) t).1, fun t => ((flock h) t).2,
    fun _ _ _ _ _ hpc => of_pc (fok h) hpc⟩

/-! ## Refinement of `FSys` to the atomic system -/

/-- an execution, read off a state whose shared graph and program counters are given up to equality -/
theorem Exec.congr {g0 g g' : Graph V} {lock : Option Tid} {pc pc' : Tid → Pc V} {next : Nat} {hist : List (Event V)}
    {lin : List (LOp V)} (h : Exec F g0 ⟨g, lock, pc, next, hist, lin⟩) (hg : g' = g) (hpc : pc' = pc) :
    Exec F g0 ⟨g', lock, pc', next, hist, lin⟩ :=
  hg ▸ hpc ▸ h

/-- a client outside its critical section does not determine the state the abstractions `FSys.abs`, `PSys.abs` show -/
theorem absG_upd {α : Type} (st : α → Option (Graph V)) (crit : α → Bool) {lock : Option Tid} {pc : Tid → α} {t : Tid}
    (x : α) (g : Graph V) : (∀ u, lock = some u → crit (pc u) = true) → crit (pc t) = false →
    (match lock with
      | some u => (st (upd pc t x u)).getD g
      | none => g) =
    match lock with
      | some u => (st (pc u)).getD g
      | none => g := by
  intro hl ht
  cases lock with
  | none => rfl
  | some u =>
    have hut : u ≠ t := fun h => by rw [← h, hl u rfl] at ht; cases ht
    simp only [upd_ne _ _ hut]

/-- **refinement**: every execution of the fine-grained locked system is, through `FSys.abs`, an
    execution of the atomic system with the same history and the same critical-section order -/
theorem fine_refines {F : Nat} (g0 : Graph V) (s : FSys V) (h : FExec F g0 s) : Exec F g0 s.abs := by
  induction h with
  | init => exact .init
  | @step s s' hex hs ih =>
    have hinv := finv g0 s hex
    cases hs with
    | invoke t c hpc =>
      exact (Exec.step ih (.invoke s.abs t c (congrArg FPc.abs hpc))).congr
        (absG_upd FPc.start? FPc.isCrit _ s.g hinv.locked (congrArg FPc.isCrit hpc)) (map_upd FPc.abs ..)
    | acquire t id c hpc hlock =>
      exact (Exec.step ih (.acquire s.abs t id c (congrArg FPc.abs hpc) hlock)).congr
        (by simp [FSys.abs, hlock, FPc.start?]) (map_upd FPc.abs ..)
    | micro t id c start tr f hpc =>
      have hlt := hinv.mutex t (congrArg FPc.isCrit hpc)
      exact ih.congr (by simp [hlt, hpc, FPc.start?])
        ((map_upd FPc.abs ..).trans (upd_self _ t _ ((congrArg FPc.abs hpc).trans rfl)))
    | finish t id c start tr hpc hprog =>
      have hlt := hinv.mutex t (congrArg FPc.isCrit hpc)
      have hg : s.abs.g = start := by simp [FSys.abs, hlt, hpc, FPc.start?]
      have h2 := Exec.step (.step ih (.exec s.abs t id c (congrArg FPc.abs hpc)))
        (.release _ t id c (seqStep F s.abs.g c).2 (upd_same ..))
      rw [hg] at h2
      exact h2.congr ((hinv.atomic t id c start tr hpc).trans hprog)
        ((map_upd FPc.abs ..).trans (upd_upd ..).symm)
    | respond t id c r hpc =>
      exact (Exec.step ih (.respond s.abs t id c r (congrArg FPc.abs hpc))).congr
        (absG_upd FPc.start? FPc.isCrit _ s.g hinv.locked (congrArg FPc.isCrit hpc)) (map_upd FPc.abs ..)


/-! ## The programs of micro-steps of the three entry points are correct (`prog_correct`) -/

theorem runProg_cons (F : Nat) (op : MicroOp V) (ops : List (MicroOp V)) (x : Shared V × Loc V) :
    runProg F (op :: ops) x = runProg F ops (exec F op x) := rfl

theorem runProg_append (F : Nat) (a b : List (MicroOp V)) (x : Shared V × Loc V) :
    runProg F (a ++ b) x = runProg F b (runProg F a x) := by
  simp [runProg, List.foldl_append]

theorem run_pulls (F : Nat) (s : SNode V) (m : Nat) (g : Graph V) (mv : Nat) (l : Loc V)
    (hn : l.node = some (.struct s)) (hr : l.run = true) :
    runProg F (List.replicate m .pullStep) ((g, mv), l) =
      (((pullS (Eval F) (s.next s.scalars s.arrays) s.deps m g l.es).1, mv),
        { l with es := (pullS (Eval F) (s.next s.scalars s.arrays) s.deps m g l.es).2.1 }) := by
  induction m generalizing g l with
  | zero => simp [runProg, pullS]
  | succ m ih =>
    rw [List.replicate_succ, runProg_cons]
    dsimp only [exec, pullS]
    simp only [hr, if_true, hn]
    cases hnx : s.next s.scalars s.arrays l.es with
    | none =>
      dsimp only
      -- the strategy has stopped: the remaining pull steps do nothing
      have := ih g l hn hr
      rw [this]
      cases m with
      | zero => simp [pullS, hn, hr]
      | succ m => simp [pullS, hnx, hn, hr]
    | some k =>
      dsimp only
      cases hdk : s.deps[k]? with
      | none =>
        dsimp only
        have := ih g l hn hr
        rw [this]
        cases m with
        | zero => simp [pullS, hn, hr]
        | succ m => simp [pullS, hnx, hdk, hn, hr]
      | some d =>
        dsimp only
        rw [ih _ _ (by simp) (by simp)]


/-- **the programs are correct**: run from the state found at `Lock()` with nothing in between,
    the micro-steps of a call leave exactly the graph of the atomic step `seqStep`, bump the model
    version as the code does, and the response assembled from what they READ is the atomic response -/
theorem prog_correct (F : Nat) (g : Graph V) (hac : Acyclic F g) (mv : Nat) (c : Call V) :
    (runProg F (progOf g c) ((g, mv), {})).1.1 = (seqStep F g c).1 ∧
    (runProg F (progOf g c) ((g, mv), {})).1.2 = mv + bump g c ∧
    (runProg F (progOf g c) ((g, mv), {})).2.out = (seqStep F g c).2 := by
  cases c with
  | update p v | updateRejected p | paramData p =>
    -- straight-line programs that look at `g p` only (unfolding `exec` by `dsimp` is much cheaper than by `simp`)
    cases hp : g p <;>
      dsimp only [runProg, progOf, List.foldl_cons, List.foldl_nil, exec, Loc.isParam, seqStep, bump] <;>
      simp only [hp, ↓reduceIte, Bool.false_eq_true, Graph.set_same, Graph.set_set, Nat.add_zero, and_self]
  | artifact i =>
    obtain ⟨rank, hwf⟩ := hac
    simp only [progOf, runProg_cons, runProg_append, bump, Nat.add_zero, seqStep]
    cases hi : g i with
    | param x n =>
      have he := Eval_idle hwf (Outdated_param hwf hi)
      dsimp only [runProg, exec, pulls]
      simp only [hi, List.replicate_zero, List.foldl_nil, Bool.false_eq_true, ↓reduceIte, he, and_self]
    | struct s =>
      cases ho : Outdated F g i with
      | false =>
        have he := Eval_idle hwf ho
        -- not outdated: every step is guarded by `run = false`
        have hidle : ∀ m (l : Loc V), l.run = false →
            runProg F (List.replicate m .pullStep) ((g, mv), l) = ((g, mv), l) := by
          intro m
          induction m with
          | zero => intro l _; rfl
          | succ m ih =>
            intro l hl
            rw [List.replicate_succ, runProg_cons]
            dsimp only [exec]
            simp only [hl, Bool.false_eq_true, ↓reduceIte]
            exact ih l hl
        dsimp only [exec]
        simp only [hi, ho]
        rw [hidle _ _ rfl]
        dsimp only [runProg, List.foldl_cons, List.foldl_nil, exec]
        simp only [Bool.false_eq_true, ↓reduceIte, he, and_self]
      | true =>
        dsimp only [exec, pulls]
        simp only [hi, ho]
        rw [run_pulls F s s.deps.length g mv _ rfl rfl]
        have he := Eval_eq g hwf i
        rw [hi] at he
        simp only [ho, if_true] at he
        dsimp only [runProg, List.foldl_cons, List.foldl_nil, exec, val]
        simp only [↓reduceIte, Graph.set_same, he, and_self]


theorem exec_mv_mono (F : Nat) (op : MicroOp V) (x : Shared V × Loc V) : x.1.2 ≤ (exec F op x).1.2 := by
  obtain ⟨⟨g, mv⟩, l⟩ := x
  -- every branch of every micro-step leaves the counter alone, except `bumpModel`, which adds one
  cases op <;> dsimp only [exec] <;> repeat' split
  all_goals simp


/-! ## `PSys`: invariant and refinement to the atomic system -/

/-- what the pc of a client says about the shared state: inside a critical section, what is still
    to do, run from the current state, is the whole program run from the state found at `Lock()`;
    an unlocked `ModelVersion()` reader has seen a counter value that lies in the past -/
def PPc.ok (F : Nat) (g : Graph V) (mv : Nat) : PPc V → Prop
  | .crit _ c start mv0 loc todo => runProg F todo ((g, mv), loc) = runProg F (progOf start c) ((start, mv0), {})
  | .mvWait mv0 => mv0 ≤ mv
  | .mvGot mv0 v => mv0 ≤ v ∧ v ≤ mv
  | _ => True

/-- outside the critical sections only the growth of the counter matters -/
theorem PPc.ok.mono {p : PPc V} {g g' : Graph V} {mv mv' : Nat} (h : p.ok F g mv) (hc : p.isCrit = false)
    (hmv : mv ≤ mv') : p.ok F g' mv' := by
  cases p with
  | crit => cases hc
  | mvWait mv0 => exact Nat.le_trans h hmv
  | mvGot mv0 v => exact ⟨h.1, Nat.le_trans h.2 hmv⟩
  | _ => trivial

section
variable {g0 : Graph V} {s : PSys V}

theorem plock (h : PExec F g0 s) : LockOK PPc.isCrit s.lock s.pc := by
  induction h with
  | init => intro t; simp [PSys.init, PPc.isCrit]
  | step _ hs ih =>
    cases hs with
    | invoke t c hpc => exact ih.keep (hpc ▸ rfl)
    | acquire t id c hpc hlock => exact (hlock ▸ ih).acquire rfl
    | micro t id c start mv0 loc op todo hpc => exact ih.keep (hpc ▸ rfl)
    | finish t id c start mv0 loc hpc => exact ih.release (hpc ▸ rfl) rfl
    | respond t id c r hpc => exact ih.keep (hpc ▸ rfl)
    | mvCall t hpc => exact ih.keep (hpc ▸ rfl)
    | mvLoad t mv0 hpc => exact ih.keep (hpc ▸ rfl)
    | mvReturn t mv0 v hpc => exact ih.keep (hpc ▸ rfl)

theorem pok (h : PExec F g0 s) : ∀ t, (s.pc t).ok F s.g s.mv := by
  induction h with
  | init => intro t; trivial
  | @step s s' hex hs ih =>
    cases hs with
    | acquire t id c hpc hlock => exact forall_upd rfl fun u _ => ih u
    | micro t id c start mv0 loc op todo hpc =>
      -- the others are outside their critical sections, and the counter only grows
      refine forall_upd ?_ fun u hu =>
        (ih u).mono ((plock hex).other (t := t) (hpc ▸ rfl) hu) (exec_mv_mono F op ((s.g, s.mv), loc))
      exact of_pc ih hpc
    | mvCall t hpc => exact forall_upd (Nat.le_refl _) fun u _ => ih u
    | mvLoad t mv0 hpc =>
      exact forall_upd ⟨of_pc ih hpc, Nat.le_refl _⟩ fun u _ => ih u
    | _ => exact forall_upd trivial fun u _ => ih u

end

theorem pinv {F : Nat} (g0 : Graph V) (s : PSys V) (h : PExec F g0 s) : PInv F s := by
  refine ⟨fun t => ((plock h) t).1, fun t => ((plock h) t).2, ?_, ?_, ?_, ?_⟩
  · exact fun _ _ _ _ _ _ _ hpc => of_pc (pok h) hpc
  · exact fun _ _ hpc => of_pc (pok h) hpc
  · exact fun _ _ _ hpc => of_pc (pok h) hpc
  · induction h with
    | init => nofun
    | step hex hs ih =>
      cases hs with
      | mvReturn t mv0 v hpc =>
        intro o ho
        rcases List.mem_append.1 ho with ho | ho
        · exact ih o ho
        · rw [List.mem_singleton.1 ho]
          exact of_pc (pok hex) hpc
      | _ => exact ih

section
variable [DecidableEq V]

/-- **refinement**: every execution of the program system is, through `PSys.abs`, an execution of
    the atomic system with the same history and critical-section order -/
theorem prog_refines {F : Nat} (g0 : Graph V) (h0 : Init F g0) (s : PSys V) (h : PExec F g0 s) :
    Exec F g0 s.abs := by
  induction h with
  | init => exact .init
  | @step s s' hex hs ih =>
    have hinv := pinv g0 s hex
    -- a step that is invisible to the atomic system
    have stutter : ∀ (t : Tid) (x : PPc V), (s.pc t).isCrit = false → x.abs = (s.pc t).abs →
        Exec F g0 ({ s with pc := upd s.pc t x } : PSys V).abs := fun t x ht hx =>
      ih.congr (absG_upd PPc.start? PPc.isCrit x s.g hinv.locked ht) ((map_upd PPc.abs ..).trans (upd_self _ t _ hx.symm))
    cases hs with
    | invoke t c hpc =>
      exact (Exec.step ih (.invoke s.abs t c (congrArg PPc.abs hpc))).congr
        (absG_upd PPc.start? PPc.isCrit _ s.g hinv.locked (congrArg PPc.isCrit hpc)) (map_upd PPc.abs ..)
    | acquire t id c hpc hlock =>
      exact (Exec.step ih (.acquire s.abs t id c (congrArg PPc.abs hpc) hlock)).congr
        (by simp [PSys.abs, hlock, PPc.start?]) (map_upd PPc.abs ..)
    | micro t id c start mv0 loc op todo hpc =>
      have hlt := hinv.mutex t (congrArg PPc.isCrit hpc)
      exact ih.congr (by simp [hlt, hpc, PPc.start?])
        ((map_upd PPc.abs ..).trans (upd_self _ t _ ((congrArg PPc.abs hpc).trans rfl)))
    | finish t id c start mv0 loc hpc =>
      have hlt := hinv.mutex t (congrArg PPc.isCrit hpc)
      have hg : s.abs.g = start := by simp [PSys.abs, hlt, hpc, PPc.start?]
      -- the state found at `Lock()` is a state of the sequential specification, hence acyclic
      have hac : Acyclic F start := by
        rw [← hg, (Linz.J.exec ih).state]
        exact (replay_inv h0.inv _).wf
      have hc := prog_correct F start hac mv0 c
      rw [← hinv.prog t id c start mv0 loc [] hpc] at hc
      have h2 := Exec.step (.step ih (.exec s.abs t id c (congrArg PPc.abs hpc)))
        (.release _ t id c (seqStep F s.abs.g c).2 (upd_same ..))
      rw [hg, ← show loc.out = _ from hc.2.2] at h2
      exact h2.congr hc.1 ((map_upd PPc.abs ..).trans (upd_upd ..).symm)
    | respond t id c r hpc =>
      exact (Exec.step ih (.respond s.abs t id c r (congrArg PPc.abs hpc))).congr
        (absG_upd PPc.start? PPc.isCrit _ s.g hinv.locked (congrArg PPc.isCrit hpc)) (map_upd PPc.abs ..)
    | mvCall t hpc => exact stutter t _ (congrArg PPc.isCrit hpc) (congrArg PPc.abs hpc).symm
    | mvLoad t mv0 hpc => exact stutter t _ (congrArg PPc.isCrit hpc) (congrArg PPc.abs hpc).symm
    | mvReturn t mv0 v hpc => exact stutter t _ (congrArg PPc.isCrit hpc) (congrArg PPc.abs hpc).symm

end

/-! ## The model version counts the parameter messages -/

theorem bumpsAlong_snoc (F : Nat) (g : Graph V) (cs : List (Call V)) (c : Call V) :
    bumpsAlong F g (cs ++ [c]) = bumpsAlong F g cs + bump (replay F g cs).1 c := by
  induction cs generalizing g with
  | nil => simp [bumpsAlong, replay]
  | cons a as ih => simp [bumpsAlong, replay, ih, Nat.add_assoc]

/-- the counter value a client inside its critical section found at `Lock()` -/
def PPc.found (b : Nat) : PPc V → Prop
  | .crit _ _ _ mv0 _ _ => mv0 = b
  | _ => True

theorem PPc.found_of_not_crit {p : PPc V} (h : p.isCrit = false) (b : Nat) : p.found b := by
  cases p with
  | crit => cases h
  | _ => trivial

section
variable [DecidableEq V]

/-- the model version counter counts the parameter messages: outside critical sections it is the
    number of `UpdateParameter` calls on parameters (accepted or rejected) among the critical
    sections that have run; a client inside its critical section found exactly that number -/
theorem model_version_counts {F : Nat} (g0 : Graph V) (h0 : Init F g0) (s : PSys V) (h : PExec F g0 s) :
    (s.lock = none → s.mv = bumpsAlong F g0 (s.lin.map (·.call))) ∧
    (∀ t id c start mv0 loc todo, s.pc t = .crit id c start mv0 loc todo →
      mv0 = bumpsAlong F g0 (s.lin.map (·.call))) := by
  suffices haux : (s.lock = none → s.mv = bumpsAlong F g0 (s.lin.map (·.call))) ∧
      ∀ t, (s.pc t).found (bumpsAlong F g0 (s.lin.map (·.call))) from
    ⟨haux.1, fun _ _ _ _ _ _ _ hpc => of_pc haux.2 hpc⟩
  induction h with
  | init => exact ⟨fun _ => rfl, fun _ => trivial⟩
  | @step s s' hex hs ih =>
    have hinv := pinv g0 s hex
    cases hs with
    | acquire t id c hpc hlock => exact ⟨nofun, forall_upd (ih.1 hlock) fun u _ => ih.2 u⟩
    | micro t id c start mv0 loc op todo hpc =>
      refine ⟨fun h => ?_, forall_upd (by have := ih.2 t; rw [hpc] at this; exact this) fun u _ => ih.2 u⟩
      rw [show s.lock = some t from hinv.mutex t (hpc ▸ rfl)] at h
      cases h
    | finish t id c start mv0 loc hpc =>
      have hlt := hinv.mutex t (hpc ▸ rfl)
      refine ⟨fun _ => ?_, forall_upd trivial fun u hu => ?_⟩
      · have hst := (Linz.J.exec (prog_refines g0 h0 s hex)).state
        rw [show s.abs.g = start by simp [PSys.abs, hlt, hpc, PPc.start?]] at hst
        have hc := prog_correct F start (hst ▸ (replay_inv h0.inv _).wf) mv0 c
        rw [← hinv.prog t id c start mv0 loc [] hpc] at hc
        have hmv0 : mv0 = bumpsAlong F g0 (s.lin.map (·.call)) := of_pc ih.2 hpc
        rw [hmv0, hst] at hc
        show s.mv = bumpsAlong F g0 ((s.lin ++ [(⟨id, t, c, loc.out⟩ : LOp V)]).map (·.call))
        rw [List.map_append, List.map_cons, List.map_nil, bumpsAlong_snoc]
        exact hc.2.1
      · -- nobody else is inside a critical section
        exact PPc.found_of_not_crit ((plock hex).other (t := t) (hpc ▸ rfl) hu) _
    | _ => exact ⟨ih.1, forall_upd trivial fun u _ => ih.2 u⟩

end

end PolyVerif.Linz
