/-
  The vocabulary of the SDF theorems (points, fields, 1-Lipschitz, the point of a segment, the coordinates about an axis)
  and profile maps.  Every field of math/sdf is `g ∘ Φ` with `Φ` a map from space to one, two or three coordinates and `g` a
  field on those.  The `Φ` that occur are SUBMETRIES onto their domain `D`: they never stretch a distance, and every
  displacement inside `D` is the image of an equally long displacement in space (`Submetry`).  So the 1-Lipschitz bound and
  the exact-distance witnesses of `g ∘ Φ` are those of `g` on `D` (`Submetry.lipschitz`, `Submetry.level_attained`).
  Here: the coordinates (axial, radial) about an axis, first in any real inner product space (Pythagoras for
  `v = ⟨u, v⟩ u + w`), then about the axis `a → b` of the rounded cone and the capsule (`coneXY_submetry`), and their fold
  onto the excess over a cylinder (`cylFold_submetry`).
-/
import PolyVerif.Lemmas.Orthant

namespace PolyVerif
namespace C19

abbrev P3 := V3 ℝ
abbrev Field := P3 → ℝ

/-- 1-Lipschitz with respect to the Euclidean distance of the model (`V3.Distance`) -/
def Lipschitz1 (f : Field) : Prop := ∀ p q : P3, |f p - f q| ≤ p.Distance q

/-- the point of the segment `[a, b]` at parameter `s` -/
noncomputable def segPoint (a b : P3) (s : ℝ) : P3 := a.Add ((b.Sub a).Scale s)

theorem distSq_seg (a b p : P3) (s : ℝ) :
    p.DistanceSquared (segPoint a b s) =
      (p.Sub a).Dot (p.Sub a) - 2 * s * (p.Sub a).Dot (b.Sub a) + s ^ 2 * (b.Sub a).Dot (b.Sub a) := by
  simp only [V3.DistanceSquared, segPoint, V3.Add, V3.Sub, V3.Scale, V3.Dot]; ring

theorem toE_segPoint (a b : P3) (t : ℝ) : toE (segPoint a b t) = toE a + t • (toE b - toE a) := by
  rw [segPoint, toE_add, toE_scale, toE_sub]

/-- axial coordinate `h = (p − a)·u`, `u = (b − a)/|b − a|` -/
noncomputable def coneH (a b p : P3) : ℝ := (p.Sub a).Dot (b.Sub a) / a.Distance b

/-- distance from the axis, `ρ = √(|p − a|² − h²)` -/
noncomputable def coneRho (a b p : P3) : ℝ := Real.sqrt ((p.Sub a).Dot (p.Sub a) - coneH a b p ^ 2)

/-! ### cylindrical coordinates about a unit vector, in any real inner product space -/

section Cyl
variable {F : Type} [NormedAddCommGroup F] [InnerProductSpace ℝ F]

/-- distance of `v` from the line `ℝ u` (`u` a unit vector) -/
noncomputable def rad (u v : F) : ℝ := ‖v - inner ℝ u v • u‖

theorem rad_nonneg (u v : F) : 0 ≤ rad u v := norm_nonneg _

variable {u : F} (hu : ‖u‖ = 1)
include hu

theorem inner_rad_part (v : F) : inner ℝ u (v - inner ℝ u v • u) = 0 := by
  rw [inner_sub_right, inner_smul_right, real_inner_self_eq_norm_sq, hu]; ring

/-- Pythagoras for `v = h u + (v − h u)` -/
theorem norm_sq_cyl (v : F) : ‖v‖ ^ 2 = inner ℝ u v ^ 2 + rad u v ^ 2 := by
  have e : v = inner ℝ u v • u + (v - inner ℝ u v • u) := by abel
  conv_lhs => rw [e]
  rw [norm_add_sq_real, inner_smul_left, inner_rad_part hu, norm_smul, hu, rad]
  simp

/-- orthonormal pair: norm of a combination -/
theorem norm_sq_comb {e : F} (he : ‖e‖ = 1) (hue : inner ℝ u e = 0) (x y : ℝ) :
    ‖x • u + y • e‖ ^ 2 = x ^ 2 + y ^ 2 := by
  rw [norm_add_sq_real, inner_smul_left, inner_smul_right, hue, norm_smul, norm_smul, hu, he]
  simp

/-- the coordinates `(⟨u, ·⟩, rad u ·)` never stretch a distance -/
theorem cyl_lip (v w : F) : (inner ℝ u v - inner ℝ u w) ^ 2 + (rad u v - rad u w) ^ 2 ≤ ‖v - w‖ ^ 2 := by
  rw [norm_sq_cyl hu (v - w), inner_sub_right]
  have h : |rad u v - rad u w| ≤ rad u (v - w) := by
    have := abs_norm_sub_norm_le (v - inner ℝ u v • u) (w - inner ℝ u w • u)
    rwa [show v - inner ℝ u v • u - (w - inner ℝ u w • u) = v - w - inner ℝ u (v - w) • u by
      rw [inner_sub_right, sub_smul]; abel] at this
  have := sq_le_sq' (by linarith [abs_nonneg (rad u v - rad u w), neg_abs_le (rad u v - rad u w)])
    ((le_abs_self _).trans h)
  linarith

/-- … and every displacement inside the half plane `ρ ≥ 0` lifts to an equally long one, provided the space has a
    unit vector perpendicular to `u` (needed for the points of the axis only) -/
theorem cyl_lift (hperp : ∃ e : F, ‖e‖ = 1 ∧ inner ℝ u e = 0) (v : F) (h' ρ' : ℝ) (hρ' : 0 ≤ ρ') :
    ∃ w, inner ℝ u w = h' ∧ rad u w = ρ' ∧ ‖v - w‖ ^ 2 = (inner ℝ u v - h') ^ 2 + (rad u v - ρ') ^ 2 := by
  -- a unit `e ⟂ u` with `v = h u + ρ e`
  obtain ⟨e, he, hue, hv⟩ : ∃ e : F, ‖e‖ = 1 ∧ inner ℝ u e = 0 ∧ v - inner ℝ u v • u = rad u v • e := by
    rcases (norm_nonneg (v - inner ℝ u v • u)).lt_or_eq with hpos | hz
    · refine ⟨(rad u v)⁻¹ • (v - inner ℝ u v • u), ?_, ?_, ?_⟩
      · rw [norm_smul, norm_inv, Real.norm_eq_abs, rad, abs_norm, inv_mul_cancel₀ hpos.ne']
      · rw [inner_smul_right, inner_rad_part hu, mul_zero]
      · rw [smul_smul, rad, mul_inv_cancel₀ hpos.ne', one_smul]
    · obtain ⟨e, he, hue⟩ := hperp
      exact ⟨e, he, hue, by rw [rad, ← hz, zero_smul]; exact norm_eq_zero.mp hz.symm⟩
  refine ⟨h' • u + ρ' • e, ?_, ?_, ?_⟩
  · rw [inner_add_right, inner_smul_right, inner_smul_right, hue, real_inner_self_eq_norm_sq, hu]; ring
  · have : inner ℝ u (h' • u + ρ' • e) = h' := by
      rw [inner_add_right, inner_smul_right, inner_smul_right, hue, real_inner_self_eq_norm_sq, hu]; ring
    rw [rad, this, add_sub_cancel_left, norm_smul, he, mul_one, Real.norm_eq_abs, abs_of_nonneg hρ']
  · have e1 : v - (h' • u + ρ' • e) = (inner ℝ u v - h') • u + (rad u v - ρ') • e := by
      have : v = inner ℝ u v • u + rad u v • e := by rw [← hv]; abel
      conv_lhs => rw [this]
      module
    rw [e1, norm_sq_comb hu he hue]

end Cyl

/-! ### submetries onto a profile domain -/

section Submetry
variable {X E E' : Type} [NormedAddCommGroup E] [NormedAddCommGroup E']

/-- `Φ` maps the space `X` (with distance `d`) onto `D ⊆ E` without stretching any distance, and every displacement of the
    image inside `D` is the image of an equally long displacement of the point -/
structure Submetry (d : X → X → ℝ) (Φ : X → E) (D : Set E) : Prop where
  mem : ∀ p, Φ p ∈ D
  lip : ∀ p q, ‖Φ p - Φ q‖ ≤ d p q
  lift : ∀ p, ∀ Y ∈ D, ∃ q, Φ q = Y ∧ d p q = ‖Φ p - Y‖

variable {d : X → X → ℝ} {Φ : X → E} {D : Set E}

/-- a 1-Lipschitz profile field gives a 1-Lipschitz field -/
theorem Submetry.lipschitz (h : Submetry d Φ D) {g : E → ℝ} (hg : ∀ Y Z, |g Y - g Z| ≤ ‖Y - Z‖) (p q : X) :
    |g (Φ p) - g (Φ q)| ≤ d p q := (hg _ _).trans (h.lip p q)

/-- a level of the profile field that is reached inside `D` at the exact distance is reached in space at the exact distance -/
theorem Submetry.level_attained (h : Submetry d Φ D) {g : E → ℝ} {r : ℝ} (p : X)
    (hg : ∃ Z ∈ D, g Z = r ∧ ‖Φ p - Z‖ = |g (Φ p) - r|) :
    ∃ s, g (Φ s) = r ∧ d p s = |g (Φ p) - r| := by
  obtain ⟨Z, hZ, hr, hd⟩ := hg
  obtain ⟨s, hs, hds⟩ := h.lift p Z hZ
  exact ⟨s, by rw [hs, hr], by rw [hds, hd]⟩

/-- a fold of the profile domain after a submetry -/
theorem Submetry.comp (h : Submetry d Φ D) {Ψ : E → E'} {D' : Set E'} (hm : ∀ Y ∈ D, Ψ Y ∈ D')
    (hl : ∀ Y Z, ‖Ψ Y - Ψ Z‖ ≤ ‖Y - Z‖)
    (hlift : ∀ Y ∈ D, ∀ Z ∈ D', ∃ Y' ∈ D, Ψ Y' = Z ∧ ‖Y - Y'‖ = ‖Ψ Y - Z‖) :
    Submetry d (fun p => Ψ (Φ p)) D' where
  mem p := hm _ (h.mem p)
  lip p q := (hl _ _).trans (h.lip p q)
  lift p Z hZ := by
    obtain ⟨Y', hY', hΨ, hd⟩ := hlift _ (h.mem p) Z hZ
    obtain ⟨q, hq, hdq⟩ := h.lift p Y' hY'
    exact ⟨q, by rw [hq, hΨ], by rw [hdq, hd]⟩

end Submetry

/-- a unit vector perpendicular to a given one (for the points of the axis, where no direction is distinguished) -/
theorem exists_perp_unit (v : V3 ℝ) : ∃ u : V3 ℝ, u.Dot u = 1 ∧ u.Dot v = 0 := by
  by_cases hxy : v.x = 0 ∧ v.y = 0
  · exact ⟨⟨1, 0, 0⟩, by simp [V3.Dot], by simp [V3.Dot, hxy.1]⟩
  · -- (−y, x, 0) normalised
    have hpos : 0 < v.x * v.x + v.y * v.y :=
      lt_of_le_of_ne (add_nonneg (mul_self_nonneg _) (mul_self_nonneg _))
        fun h => hxy (mul_self_add_mul_self_eq_zero.mp h.symm)
    obtain ⟨L, hLL, hL0⟩ : ∃ L : ℝ, L * L = v.x * v.x + v.y * v.y ∧ L ≠ 0 :=
      ⟨_, Real.mul_self_sqrt hpos.le, (Real.sqrt_pos.mpr hpos).ne'⟩
    refine ⟨⟨-v.y / L, v.x / L, 0⟩, ?_, ?_⟩ <;> simp only [V3.Dot] <;> field_simp
    · linarith
    · ring

/-! ### the cone's (and the capsule's, and a cylinder's) coordinates about the axis `a → b` are a submetry onto the half plane -/

section ConeXY
variable (a b : V3 ℝ)

noncomputable def axisDir : E3 := (a.Distance b)⁻¹ • (toE b - toE a)

/-- the coordinates (axial, radial) of `p` about the axis `a → b` -/
noncomputable def coneXY (p : V3 ℝ) : E2 := !₂[coneH a b p, coneRho a b p]

variable {a b} (hab : a ≠ b)
include hab

theorem axisDir_norm : ‖axisDir a b‖ = 1 := by
  have hL := V3.distance_pos hab
  rw [axisDir, norm_smul, dist_toE, V3.distance_comm b a, norm_inv, Real.norm_eq_abs, abs_of_pos hL,
    inv_mul_cancel₀ hL.ne']

omit hab in
theorem coneH_eq_inner (p : V3 ℝ) : coneH a b p = inner ℝ (axisDir a b) (toE p - toE a) := by
  rw [axisDir, inner_smul_left, ← toE_sub, ← toE_sub, inner_toE, coneH]
  simp only [V3.Dot, V3.Sub, conj_trivial]; ring

theorem coneRho_eq_rad (p : V3 ℝ) : coneRho a b p = rad (axisDir a b) (toE p - toE a) := by
  have h := norm_sq_cyl (axisDir_norm hab) (toE p - toE a)
  rw [coneRho, coneH_eq_inner, ← inner_toE, toE_sub, real_inner_self_eq_norm_sq, h, add_sub_cancel_left,
    Real.sqrt_sq (rad_nonneg _ _)]

theorem coneXY_submetry : Submetry V3.Distance (coneXY a b) {Y | 0 ≤ Y 1} where
  mem p := Real.sqrt_nonneg _
  lip p q := by
    rw [← dist_toE]
    apply le_of_sq_le_sq _ (norm_nonneg _)
    have := cyl_lip (axisDir_norm hab) (toE p - toE a) (toE q - toE a)
    rw [sub_sub_sub_cancel_right, ← coneH_eq_inner, ← coneH_eq_inner, ← coneRho_eq_rad hab, ← coneRho_eq_rad hab] at this
    rw [norm_sq_E2]; exact this
  lift p Y hY := by
    obtain ⟨e, he1, he0⟩ := exists_perp_unit (b.Sub a)
    obtain ⟨w, hw0, hw1, hd⟩ := cyl_lift (axisDir_norm hab)
      ⟨toE e, norm_toE_unit he1, by rw [axisDir, inner_smul_left, ← toE_sub, real_inner_comm, inner_toE, he0, mul_zero]⟩
      (toE p - toE a) (Y 0) (Y 1) hY
    have hq : toE (ofE (toE a + w)) - toE a = w := by rw [toE_ofE, add_sub_cancel_left]
    refine ⟨ofE (toE a + w), ?_, ?_⟩
    · ext i; fin_cases i
      · show coneH a b _ = Y 0
        rw [coneH_eq_inner, hq, hw0]
      · show coneRho a b _ = Y 1
        rw [coneRho_eq_rad hab, hq, hw1]
    · rw [← dist_toE, toE_ofE, ← sub_sub, ← sq_eq_sq₀ (norm_nonneg _) (norm_nonneg _), hd, norm_sq_E2,
        ← coneH_eq_inner, ← coneRho_eq_rad hab]
      rfl

end ConeXY

/-! ### folds: a cylinder of radius `R` and half height `h` about the axis point `a`, in the same coordinates -/

/-- the fold `x ↦ |x − c| − h` of the line onto `[−h, ∞)` lifts every displacement -/
theorem absFold_lift (x c h z : ℝ) (hz : -h ≤ z) :
    ∃ x', |x' - c| - h = z ∧ (x - x') ^ 2 = (|x - c| - h - z) ^ 2 := by
  rcases le_total c x with h0 | h0
  · refine ⟨c + (z + h), ?_, ?_⟩
    · rw [add_sub_cancel_left, abs_of_nonneg (by linarith)]; ring
    · rw [abs_of_nonneg (sub_nonneg.mpr h0)]; ring
  · refine ⟨c - (z + h), ?_, ?_⟩
    · rw [sub_sub_cancel_left, abs_neg, abs_of_nonneg (by linarith)]; ring
    · rw [abs_of_nonpos (sub_nonpos.mpr h0)]; ring

/-- `(y, ρ) ↦ (ρ − R, |y| − h)`: radial and axial excess over the cylinder -/
noncomputable def cylFold (R h : ℝ) (Y : E2) : E2 := !₂[Y 1 - R, |Y 0| - h]

theorem cylFold_lip (R h : ℝ) (Y Z : E2) : ‖cylFold R h Y - cylFold R h Z‖ ≤ ‖Y - Z‖ := by
  apply le_of_sq_le_sq _ (norm_nonneg _)
  rw [norm_sq_E2, norm_sq_E2]
  show (Y 1 - R - (Z 1 - R)) ^ 2 + (|Y 0| - h - (|Z 0| - h)) ^ 2 ≤ (Y 0 - Z 0) ^ 2 + (Y 1 - Z 1) ^ 2
  have := sq_le_sq.mpr (abs_abs_sub_abs_le_abs_sub (Y 0) (Z 0))
  rw [show Y 1 - R - (Z 1 - R) = Y 1 - Z 1 by ring, show |Y 0| - h - (|Z 0| - h) = |Y 0| - |Z 0| by ring]
  linarith

theorem cylFold_submetry {a b : V3 ℝ} (hab : a ≠ b) (R h : ℝ) :
    Submetry V3.Distance (fun p => cylFold R h (coneXY a b p)) {Z | -R ≤ Z 0 ∧ -h ≤ Z 1} := by
  refine (coneXY_submetry hab).comp
    (fun Y hY => ⟨by show -R ≤ Y 1 - R; linarith [show (0 : ℝ) ≤ Y 1 from hY],
      by show -h ≤ |Y 0| - h; linarith [abs_nonneg (Y 0)]⟩)
    (cylFold_lip R h) ?_
  intro Y _ Z hZ
  obtain ⟨y', hy1, hy2⟩ := absFold_lift (Y 0) 0 h (Z 1) hZ.2
  refine ⟨!₂[y', Z 0 + R], ?_, ?_, ?_⟩
  · show 0 ≤ Z 0 + R; linarith [hZ.1]
  · ext i; fin_cases i
    · show Z 0 + R - R = Z 0; ring
    · show |y'| - h = Z 1; rw [← hy1, sub_zero]
  · rw [← sq_eq_sq₀ (norm_nonneg _) (norm_nonneg _), norm_sq_E2, norm_sq_E2]
    show (Y 0 - y') ^ 2 + (Y 1 - (Z 0 + R)) ^ 2 = (Y 1 - R - Z 0) ^ 2 + (|Y 0| - h - Z 1) ^ 2
    rw [hy2, sub_zero]; ring

end C19
end PolyVerif
