/-
  C11 — the dependency cone `Reach`, the inductive invariant `Inv` (I1: a processed node holds the from-scratch value;
  I2: remembered versions are positionwise `≤` the current ones) with `Inv.local` (a change confined to one node), and
  the correctness of `Eval` (`Struct.Value()`).  An evaluation is a sequence `Execs` of atomic `process()` calls, each of
  which keeps `Inv` (`exec_inv`); invariant, static part, frame and version accounting are facts about such sequences.
  `Eval_ok : EvalOK …` (the sequence, what is logged, the value, the freshness) by induction on the rank, `pull_ok` for the
  pulls of one `Process()`.  Core Lean only.
-/
import PolyVerif.Lemmas.Nodes

namespace PolyVerif.Nodes
variable {V : Type}

/-- `Reach g i k`: `k` is in the dependency cone of `i` (reflexive-transitive dependencies) -/
inductive Reach (g : Graph V) : Nat → Nat → Prop
  | refl (i : Nat) : Reach g i i
  | step {i : Nat} {s : SNode V} {d k : Nat} : g i = .struct s → d ∈ s.deps → Reach g d k → Reach g i k

theorem Reach.rank_le {rank : Nat → Nat} {F : Nat} {g : Graph V} (hwf : Ranked rank F g) {i k : Nat}
    (h : Reach g i k) : rank k ≤ rank i := by
  induction h with
  | refl => exact Nat.le_refl _
  | step hs hd _ ih => have := hwf.2 _ _ hs _ hd; omega

theorem Reach.trans {g : Graph V} {i j k : Nat} (h1 : Reach g i j) (h2 : Reach g j k) : Reach g i k := by
  induction h1 with
  | refl => exact h2
  | step hs hd _ ih => exact .step hs hd (ih h2)

theorem Reach.of_static {g g' : Graph V} (hs : SameStatic g' g) {i k : Nat} (h : Reach g i k) : Reach g' i k := by
  induction h with
  | refl => exact .refl _
  | @step i s d _ hsi hd _ ih =>
    have h1 := hs i
    rw [hsi] at h1
    obtain ⟨t, ht, -, -, -, hdeps, -⟩ := StaticEq.struct_left h1
    exact .step ht (hdeps ▸ hd) ih

/-- the executable cone of the driver's oracle is the cone of the theorems -/
theorem inCone_iff {rank : Nat → Nat} {F : Nat} {g : Graph V} (hwf : Ranked rank F g) (f j k : Nat) (hf : rank j < f) :
    inCone f g j k = true ↔ Reach g j k := by
  induction f generalizing j with
  | zero => omega
  | succ f ih =>
    simp only [inCone, Bool.or_eq_true, beq_iff_eq]
    constructor
    · rintro (h | h)
      · subst h; exact .refl _
      · cases hs : g j with
        | param x v => rw [hs] at h; cases h
        | struct s =>
          rw [hs] at h
          simp only [List.any_eq_true] at h
          obtain ⟨d, hd, hdk⟩ := h
          have := hwf.2 j s hs d hd
          exact .step hs hd ((ih d (by omega)).1 hdk)
    · intro h
      cases h with
      | refl => exact .inl rfl
      | @step _ s d _ hs hd hr =>
        right
        rw [hs]
        simp only [List.any_eq_true]
        have := hwf.2 j s hs d hd
        exact ⟨d, hd, (ih d (by omega)).2 hr⟩

/-- `Outdated` looks only at the cone (fuel level, no guard needed) -/
theorem Outdated_congr_cone (F : Nat) (g g' : Graph V) (k : Nat)
    (h : ∀ j, Reach g k j → g' j = g j) : Outdated F g' k = Outdated F g k := by
  unfold Outdated
  induction F generalizing k with
  | zero => rfl
  | succ f ih =>
    simp only [outdated]
    rw [h k (.refl k)]
    cases hs : g k with
    | param x v => rfl
    | struct s =>
      dsimp only
      cases hr : s.remembered with
      | none => rfl
      | some rv =>
        dsimp only
        congr 1
        apply mismatch_congr
        intro d hd
        refine ⟨?_, ih d (fun j hj => h j (.step hs hd hj))⟩
        simp [ver, h d (.step hs hd (.refl d))]

/-- `evalSpec` looks only at parameters, processors and wiring -/
theorem Spec_static {rank : Nat → Nat} {F : Nat} {g g' : Graph V} (hwf : Ranked rank F g) (hs : SameStatic g' g) (i : Nat) :
    Spec F g' i = Spec F g i :=
  (evalSpec_sim (R := Eq) hwf (fun i _ e => e ▸ (SimNode.of_static (hs i).symm fun _ _ _ _ => rfl))
    F F i i (hwf.1 i) (hwf.1 i) rfl).symm

/-- … and only inside the cone -/
theorem Spec_congr_cone {rank : Nat → Nat} {F : Nat} {g g' : Graph V} (hwf : Ranked rank F g) (k : Nat)
    (h : ∀ j, Reach g k j → g' j = g j) : Spec F g' k = Spec F g k :=
  (evalSpec_sim (R := fun i j => i = j ∧ Reach g k i) hwf
    (fun i _ ⟨e, hr⟩ => e ▸ (h i hr).symm ▸
      SimNode.of_static (StaticEq.rfl' _) fun _ hs _ hd => ⟨rfl, hr.trans (.step hs hd (.refl _))⟩)
    F F k k (hwf.1 k) (hwf.1 k) ⟨rfl, .refl k⟩).symm

section
variable {rank : Nat → Nat} {F : Nat} {g : Graph V}

theorem Outdated_of_dep (hwf : Ranked rank F g) {k d : Nat} {s : SNode V} (hs : g k = .struct s)
    (hd : d ∈ s.deps) (hod : Outdated F g d = true) : Outdated F g k = true := by
  rw [Outdated_eq g hwf, hs]
  dsimp only
  cases hr : s.remembered with
  | none => rfl
  | some rv =>
    dsimp only
    rw [mismatch_true_of_mem g _ _ rv d hd hod]
    simp

theorem Outdated_of_reach (hwf : Ranked rank F g) {k j : Nat} (h : Reach g k j)
    (hod : Outdated F g j = true) : Outdated F g k = true := by
  induction h with
  | refl => exact hod
  | step hs hd _ ih => exact Outdated_of_dep hwf hs hd (ih hod)

theorem Outdated_param (hwf : Ranked rank F g) {p : Nat} {x : V} {v : Nat} (h : g p = .param x v) :
    Outdated F g p = false := by
  rw [Outdated_eq g hwf, h]

/-- `Value()` of a node that is not outdated does nothing -/
theorem Eval_idle (hwf : Ranked rank F g) {i : Nat} (h : Outdated F g i = false) : Eval F g i = (g, []) := by
  rw [Eval_eq g hwf]
  cases g i <;> simp [h]

end

section
variable {rank : Nat → Nat} {F : Nat}

/-- a processed node has remembered versions, a clear flag, and no positional mismatch against its dependencies -/
theorem Outdated_false_struct {g : Graph V} (hwf : Ranked rank F g) {k : Nat} {s : SNode V} (hs : g k = .struct s)
    (h : Outdated F g k = false) :
    ∃ rv, s.remembered = some rv ∧ s.flag = false ∧ mismatch g (Outdated F g) s.deps rv = false := by
  rw [Outdated_eq g hwf, hs] at h
  dsimp only at h
  cases hr : s.remembered with
  | none => rw [hr] at h; cases h
  | some rv =>
    rw [hr] at h
    dsimp only at h
    simp only [Bool.or_eq_false_iff] at h
    exact ⟨rv, rfl, h.1, h.2⟩

end

structure Inv (F : Nat) (g : Graph V) : Prop where
  /-- the guard: acyclic, fewer than `F` levels -/
  wf : Acyclic F g
  /-- I1: a node that is not outdated holds the from-scratch value -/
  fresh : ∀ i s, g i = .struct s → Outdated F g i = false → s.cache = Spec F g i
  /-- I2: remembered dependency versions are as many as the dependencies and pointwise `≤` the
      current ones, unless the node is flagged -/
  rem : ∀ i s rv, g i = .struct s → s.remembered = some rv → s.flag = false →
    All2 (fun d r => r ≤ ver g d) s.deps rv

section
variable {F : Nat}

theorem val_eq_spec {g : Graph V} (hinv : Inv F g) {d : Nat} (h : Outdated F g d = false) : val g d = Spec F g d := by
  obtain ⟨rank, hwf⟩ := hinv.wf
  cases hs : g d with
  | param x v => rw [Spec_eq g hwf, hs, val_param hs]
  | struct s => rw [val_struct hs]; exact hinv.fresh d s hs h

/-- a node whose version went up makes everything above it outdated -/
theorem bump_up {g : Graph V} (hinv : Inv F g) (p : Nat) (n' : Node V) (hwf' : Acyclic F (g.set p n'))
    (hver : ver g p < ver (g.set p n') p) {k : Nat} (hk : k ≠ p) (h : Reach (g.set p n') k p) :
    Outdated F (g.set p n') k = true := by
  obtain ⟨rank', hwf'⟩ := hwf'
  suffices haux : ∀ k q, Reach (g.set p n') k q → q = p → k ≠ p → Outdated F (g.set p n') k = true from
    haux k p h rfl hk
  intro k q h
  induction h with
  | refl => intro h1 h2; exact absurd h1 h2
  | @step i s d _ hs hd hreach ih =>
    intro hq hk
    by_cases hdp : d = p
    · subst hdp
      rw [Graph.set_ne g n' hk] at hs
      rw [Outdated_eq _ hwf', Graph.set_ne g n' hk, hs]
      dsimp only
      cases hr : s.remembered with
      | none => rfl
      | some rv =>
        dsimp only
        cases hf : s.flag with
        | true => rfl
        | false =>
          have h2 := hinv.rem i s rv hs hr hf
          rw [mismatch_true_of_forall₂ _ _ _ _ _ h2 d hd (fun r hr => by omega)]
          rfl
    · exact Outdated_of_dep hwf' hs hd (ih hq hdp)

/-- a change confined to node `p` that leaves everything above `p` outdated preserves the invariant -/
theorem Inv.local {g : Graph V} (hinv : Inv F g) (p : Nat) (n' : Node V)
    (hwf' : Acyclic F (g.set p n'))
    (hver : ver g p ≤ ver (g.set p n') p)
    (hup : ∀ k, k ≠ p → Reach (g.set p n') k p → Outdated F (g.set p n') k = true)
    (hfresh : ∀ s, n' = .struct s → Outdated F (g.set p n') p = false → s.cache = Spec F (g.set p n') p)
    (hrem : ∀ s rv, n' = .struct s → s.remembered = some rv → s.flag = false →
      All2 (fun d r => r ≤ ver (g.set p n') d) s.deps rv) :
    Inv F (g.set p n') := by
  have hmono : ∀ d, ver g d ≤ ver (g.set p n') d := by
    intro d
    by_cases hd : d = p
    · subst hd; exact hver
    · rw [ver_set_ne g n' hd]; exact Nat.le_refl _
  refine ⟨hwf', ?_, ?_⟩
  · intro k s hs hod
    by_cases hk : k = p
    · subst hk
      rw [Graph.set_same] at hs
      exact hfresh s hs hod
    · have hnr : ¬ Reach (g.set p n') k p := by
        intro hr
        rw [hup k hk hr] at hod
        cases hod
      have hagree : ∀ j, Reach (g.set p n') k j → g j = (g.set p n') j := by
        intro j hj
        by_cases hjp : j = p
        · subst hjp; exact absurd hj hnr
        · rw [Graph.set_ne g n' hjp]
      rw [Graph.set_ne g n' hk] at hs
      rw [← Outdated_congr_cone F _ g k hagree] at hod
      obtain ⟨rank', hr'⟩ := hwf'
      rw [← Spec_congr_cone hr' k hagree]
      exact hinv.fresh k s hs hod
  · intro k s rv hs hr hf
    by_cases hk : k = p
    · subst hk
      rw [Graph.set_same] at hs
      exact hrem s rv hs hr hf
    · rw [Graph.set_ne g n' hk] at hs
      exact (hinv.rem k s rv hs hr hf).imp (fun a b _ hab => Nat.le_trans hab (hmono a))

end

structure Evolves (F : Nat) (g g' : Graph V) : Prop where
  static : SameStatic g' g
  /-- only outdated nodes are touched -/
  keep : ∀ k, Outdated F g k = false → g' k = g k
  mono : ∀ k, ver g k ≤ ver g' k

section
variable {rank : Nat → Nat} {F : Nat}

/-- a node that is not outdated stays so when only outdated nodes are touched -/
theorem Outdated_stable {g g' : Graph V} (hwf : Ranked rank F g) (hkeep : ∀ k, Outdated F g k = false → g' k = g k)
    {k : Nat} (h : Outdated F g k = false) : Outdated F g' k = false := by
  rw [Outdated_congr_cone F g g' k]
  · exact h
  · intro j hj
    apply hkeep
    cases hoj : Outdated F g j with
    | false => rfl
    | true => rw [Outdated_of_reach hwf hj hoj] at h; cases h

end

def cnt (l : Log) (k : Nat) : Nat := l.countP (fun e => e.1 == k)

theorem cnt_append (l1 l2 : Log) (k : Nat) : cnt (l1 ++ l2) k = cnt l1 k + cnt l2 k := by
  simp [cnt, List.countP_append]

theorem cnt_eq_zero {l : Log} {k : Nat} (h : ∀ e ∈ l, e.1 ≠ k) : cnt l k = 0 := by
  simp only [cnt, List.countP_eq_zero]
  intro e he
  simpa using h e he

section
variable {F : Nat} {g : Graph V} {k : Nat} {s : SNode V}

/-- `process()` changes one node, and there neither processor nor wiring -/
theorem executed_static (hs : g k = .struct s) (g1 : Graph V) (vals : List (Option V)) :
    SameStatic (g.set k (.struct (s.executed g1 vals))) g := by
  intro j
  by_cases hj : j = k
  · subst hj; rw [Graph.set_same, hs]; exact StaticEq.executed _ _ _
  · rw [Graph.set_ne _ _ hj]; exact StaticEq.rfl' _

/-- executing ANY struct node with the right value preserves the invariant (third instance of `Inv.local`, with
    `setParam_inv` and `rewire_inv`): everything above it becomes outdated, the node holds the from-scratch value and
    remembers the current versions -/
theorem exec_inv (hinv : Inv F g) (hs : g k = .struct s) {vals : List (Option V)}
    (hval : s.fn s.scalars s.arrays vals = Spec F g k) : Inv F (g.set k (.struct (s.executed g vals))) := by
  obtain ⟨rank, hwf⟩ := hinv.wf
  have hst := executed_static hs g vals
  have hwf' : Acyclic F (g.set k (.struct (s.executed g vals))) := ⟨rank, hwf.of_static hst⟩
  have hv : ver g k < ver (g.set k (.struct (s.executed g vals))) k := by
    rw [ver_struct hs, ver_struct (Graph.set_same ..)]; exact Nat.lt_succ_self _
  apply Inv.local hinv k _ hwf' (Nat.le_of_lt hv) (fun j hj hr => bump_up hinv k _ hwf' hv hj hr)
  · intro s' hs' _
    cases hs'
    rw [Spec_static hwf hst]
    exact hval
  · intro s' rv hs' hrv _
    cases hs'
    cases hrv
    change All2 _ s.deps _
    refine All2.map_right _ _ fun d hd => ?_
    rw [ver_set_ne _ _ (fun e => by have := hwf.2 k s hs d hd; subst e; omega)]
    exact Nat.le_refl _

end

/-- a sequence of `process()` calls, each storing the from-scratch value, and its log -/
inductive Execs (F : Nat) : Graph V → Log → Graph V → Prop
  | nil {g} : Execs F g [] g
  | cons {g g' k s vals l} : g k = .struct s → s.fn s.scalars s.arrays vals = Spec F g k →
      Execs F (g.set k (.struct (s.executed g vals))) l g' → Execs F g ((k, s.version + 1) :: l) g'

section
variable {F : Nat} {g g' : Graph V} {l : Log}

theorem Execs.append {g1 : Graph V} {l1 : Log} (h1 : Execs F g l1 g1) (h2 : Execs F g1 l g') :
    Execs F g (l1 ++ l) g' := by
  induction h1 with
  | nil => exact h2
  | cons hs hv _ ih => exact .cons hs hv (ih h2)

theorem Execs.inv (h : Execs F g l g') (hinv : Inv F g) : Inv F g' := by
  induction h with
  | nil => exact hinv
  | cons hs hv _ ih => exact ih (exec_inv hinv hs hv)

theorem Execs.static (h : Execs F g l g') : SameStatic g' g := by
  induction h with
  | nil => exact SameStatic.refl _
  | cons hs _ _ ih => exact ih.trans (executed_static hs _ _)

/-- only logged nodes change -/
theorem Execs.frame (h : Execs F g l g') {j : Nat} (hj : ∀ e ∈ l, e.1 ≠ j) : g' j = g j := by
  induction h with
  | nil => rfl
  | cons _ _ _ ih =>
    rw [ih fun e he => hj e (List.mem_cons_of_mem _ he), Graph.set_ne _ _ fun e => hj _ (List.mem_cons_self ..) e.symm]

/-- version = number of executions -/
theorem Execs.count (h : Execs F g l g') (j : Nat) : ver g' j = ver g j + cnt l j := by
  induction h with
  | nil => simp [cnt]
  | @cons g _ k s vals l hs _ _ ih =>
    rw [ih, show (k, s.version + 1) :: l = [(k, s.version + 1)] ++ l from rfl, cnt_append]
    by_cases hj : j = k
    · subst hj
      rw [ver_struct (s := s.executed g vals) (Graph.set_same ..), ver_struct hs]
      simp [cnt, SNode.executed]; omega
    · have : (k == j) = false := by simpa using fun e => hj e.symm
      simp [cnt, ver_set_ne _ _ hj, this]

/-- when only outdated nodes execute, the graph evolves -/
theorem Execs.evolves (h : Execs F g l g') (hc : ∀ e ∈ l, Outdated F g e.1 = true) : Evolves F g g' :=
  ⟨h.static, fun k hk => h.frame fun e he hek => (by have := hc e he; rw [hek, hk] at this; cases this),
    fun k => (by rw [h.count k]; omega)⟩

end

/-- what `Value()` of node `i` does to a graph that satisfies the invariant -/
structure EvalOK (F : Nat) (g : Graph V) (i : Nat) (r : Graph V × Log) : Prop where
  inv : Inv F r.1
  /-- it executes outdated nodes of the cone of `i`, and does nothing else -/
  execs : Execs F g r.2 r.1
  log : ∀ e ∈ r.2, Reach g i e.1 ∧ Outdated F g e.1 = true
  /-- the value `Value()` returns is the from-scratch value — for every processor -/
  value : val r.1 i = Spec F g i
  /-- for processors that read all their inputs the node ends up `Processed` (for a processor
      that skipped a stale struct input it does not: the known finding) -/
  fresh : ReadsAll g → Outdated F r.1 i = false

section
variable {F : Nat} {g : Graph V} {i : Nat} {r : Graph V × Log}

theorem EvalOK.evo (h : EvalOK F g i r) : Evolves F g r.1 :=
  h.execs.evolves fun e he => (h.log e he).2

/-- I3: only nodes of the cone of `i` change -/
theorem EvalOK.frame (h : EvalOK F g i r) (k : Nat) (hk : ¬ Reach g i k) : r.1 k = g k :=
  h.execs.frame fun e he hek => hk (hek ▸ (h.log e he).1)

/-- every node executed by an all-reading evaluation is processed afterwards: it lies in the cone of `i`, and `i`,
    which is processed afterwards, would be outdated otherwise -/
theorem EvalOK.logFresh (h : EvalOK F g i r) (hra : ReadsAll g) :
    ∀ e ∈ r.2, Outdated F r.1 e.1 = false := by
  intro e he
  obtain ⟨rank', hwf'⟩ := h.inv.wf
  cases ho : Outdated F r.1 e.1 with
  | false => rfl
  | true =>
    have := Outdated_of_reach hwf' ((h.log e he).1.of_static h.execs.static) ho
    rw [h.fresh hra] at this
    cases this

end

structure PullOK (F : Nat) (g : Graph V) (next : List (Option V) → Option Nat) (ds : List Nat) (m : Nat)
    (es : List (Option V)) (r : Graph V × List (Option V) × Log) : Prop where
  execs : Execs F g r.2.2 r.1
  log : ∀ e ∈ r.2.2, (∃ d ∈ ds, Reach g d e.1) ∧ Outdated F g e.1 = true
  /-- an input pulled during this `Process()` is `Processed` at the end (all-reading graphs) -/
  fresh : ReadsAll g → ∀ (k d : Nat), ds[k]? = some d → es[k]? = some none → (∃ v, r.2.1[k]? = some (some v)) →
    Outdated F r.1 d = false
  /-- the entries `Process()` collected are those of the from-scratch `Process()` -/
  vals : r.2.1 = specPullS (Spec F g) next ds m es

section
variable {rank : Nat → Nat} {F : Nat}

theorem pull_ok (n : Nat)
    (ih : ∀ d, rank d < n → ∀ g : Graph V, Ranked rank F g → Inv F g → EvalOK F g d (Eval F g d))
    (next : List (Option V) → Option Nat)
    (ds : List Nat) (hds : ∀ d ∈ ds, rank d < n) (m : Nat) (g : Graph V) (es : List (Option V))
    (hwf : Ranked rank F g) (hinv : Inv F g) :
    PullOK F g next ds m es (pullS (Eval F) next ds m g es) := by
  have stop : ∀ (m' : Nat) (g : Graph V) (es : List (Option V)),
      specPullS (Spec F g) next ds m' es = es → PullOK F g next ds m' es (g, es, []) := by
    intro m' g es hx
    refine ⟨.nil, nofun, ?_, hx.symm⟩
    intro _ k d _ h1 ⟨v, h2⟩
    dsimp only at h2
    rw [h1] at h2
    cases h2
  induction m generalizing g es with
  | zero => exact stop 0 g es rfl
  | succ m ihm =>
    have stop' := stop (m+1) g es
    simp only [pullS]
    cases hnx : next es with
    | none => exact stop' (by simp [specPullS, hnx])
    | some k =>
      dsimp only
      cases hdk : ds[k]? with
      | none => exact stop' (by simp [specPullS, hnx, hdk])
      | some d =>
        dsimp only
        have hdm : d ∈ ds := List.mem_of_getElem? hdk
        have h1 := ih d (hds d hdm) g hwf hinv
        have hevo := h1.evo
        have hwf1 : Ranked rank F (Eval F g d).1 := hwf.of_static hevo.static
        have h2 := ihm (Eval F g d).1 (es.set k (some (val (Eval F g d).1 d))) hwf1 h1.inv
        refine ⟨h1.execs.append h2.execs, fun e he => ?_, ?_, ?_⟩
        · rcases List.mem_append.1 he with he | he
          · exact ⟨⟨d, hdm, (h1.log e he).1⟩, (h1.log e he).2⟩
          · -- a node outdated after the first pull was outdated before it
            obtain ⟨⟨c, hc, hr⟩, ho⟩ := h2.log e he
            refine ⟨⟨c, hc, hr.of_static hevo.static.symm⟩, ?_⟩
            cases hj : Outdated F g e.1 with
            | true => rfl
            | false => rw [Outdated_stable hwf hevo.keep hj] at ho; cases ho
        · intro hra k' d' hk' hes' hfin
          by_cases hkk : k' = k
          · subst hkk
            rw [hdk] at hk'
            cases hk'
            exact Outdated_stable hwf1 (h2.execs.evolves fun e he => (h2.log e he).2).keep (h1.fresh hra)
          · refine h2.fresh (hra.of_static hevo.static) k' d' hk' ?_ hfin
            rw [List.getElem?_set_ne (fun h => hkk h.symm)]
            exact hes'
        · dsimp only
          rw [h2.vals, h1.value]
          have hsp : specPullS (Spec F g) next ds (m+1) es
              = specPullS (Spec F g) next ds m (es.set k (some (Spec F g d))) := by
            simp [specPullS, hnx, hdk]
          rw [hsp]
          apply specPullS_congr
          intro e _
          exact Spec_static hwf hevo.static e

end

theorem specPullS_length (ev : Nat → V) (next : List (Option V) → Option Nat) (ds : List Nat) (m : Nat)
    (es : List (Option V)) (n : Nat) (h : es.length = n) : (specPullS ev next ds m es).length = n := by
  induction m generalizing es with
  | zero => exact h
  | succ m ih =>
    simp only [specPullS]
    split
    · exact h
    · split
      · exact h
      · exact ih _ (by simp [h])

theorem nextAll_fills (ev : Nat → V) (ds : List Nat) (m : Nat) (es : List (Option V))
    (hlen : es.length = ds.length) (hm : es.countP Option.isNone ≤ m) :
    ∀ x ∈ specPullS ev nextAll ds m es, x.isNone = false := by
  induction m generalizing es with
  | zero =>
    simp only [specPullS]
    intro x hx
    cases hxn : x.isNone with
    | false => rfl
    | true =>
      have := List.countP_pos_iff.2 ⟨x, hx, hxn⟩
      omega
  | succ m ih =>
    simp only [specPullS]
    cases hnx : nextAll es with
    | none =>
      dsimp only
      exact List.findIdx?_eq_none_iff.1 hnx
    | some k =>
      dsimp only
      obtain ⟨hk, hpk, -⟩ := List.findIdx?_eq_some_iff_getElem.1 hnx
      have hkd : k < ds.length := hlen ▸ hk
      rw [List.getElem?_eq_getElem hkd]
      dsimp only
      apply ih
      · simp [hlen]
      · have hc : (es.set k (some (ev ds[k]))).countP Option.isNone + 1 = es.countP Option.isNone := by
          rw [List.countP_set hk]
          simp [hpk]
          have := List.countP_pos_iff.2 ⟨es[k], List.getElem_mem hk, hpk⟩
          omega
        omega

/-- started on empty slots with one pull per slot, the all-reading strategy pulls every slot -/
theorem nextAll_pulls (ev : Nat → V) (ds : List Nat) {k : Nat} (hk : k < ds.length) :
    ∃ v, (specPullS ev nextAll ds ds.length (List.replicate ds.length none))[k]? = some (some v) := by
  have hk2 : k < (specPullS ev nextAll ds ds.length (List.replicate ds.length none)).length := by
    rw [specPullS_length _ _ _ _ _ _ List.length_replicate]; exact hk
  obtain ⟨v, hv⟩ := Option.isSome_iff_exists.1 (Option.isNone_eq_false_iff.1
    (nextAll_fills ev ds ds.length _ (by simp) (by simp [List.countP_replicate]) _ (List.getElem_mem hk2)))
  exact ⟨v, by rw [List.getElem?_eq_getElem hk2, hv]⟩

theorem Eval_ok {F : Nat} (i : Nat) (g : Graph V) (hinv : Inv F g) : EvalOK F g i (Eval F g i) := by
  -- one ranking serves all the graphs met on the way: evaluation never changes the wiring
  obtain ⟨rank, hwf⟩ := hinv.wf
  induction hn : rank i using Nat.strongRecOn generalizing i g with
  | _ n ih =>
    subst hn
    cases ho : Outdated F g i with
    | false =>
      rw [Eval_idle hwf ho]
      exact ⟨hinv, .nil, nofun, val_eq_spec hinv ho, fun _ => ho⟩
    | true =>
      rw [Eval_eq g hwf]
      cases hs : g i with
      | param x v => rw [Outdated_param hwf hs] at ho; cases ho
      | struct s =>
        simp only [ho, if_true]
        have hp := pull_ok (rank i) (fun d hd g' hw' hi' => ih (rank d) hd d g' hi' hw' rfl)
          (s.next s.scalars s.arrays) s.deps (hwf.2 i s hs) s.deps.length g (List.replicate s.deps.length none) hwf hinv
        generalize hr : pullS (Eval F) (s.next s.scalars s.arrays) s.deps s.deps.length g
          (List.replicate s.deps.length none) = r at hp
        have hst := hp.execs.static
        have hwf1 : Ranked rank F r.1 := hwf.of_static hst
        -- the pulls did not touch `i`; its `process()` is one more atomic execution
        have hg1i : r.1 i = .struct s := by
          rw [hp.execs.frame fun e he hei => by
            obtain ⟨⟨d, hd, hr⟩, _⟩ := hp.log e he
            rw [hei] at hr
            have := hr.rank_le hwf; have := hwf.2 i s hs d hd; omega, hs]
        have hcache : s.fn s.scalars s.arrays r.2.1 = Spec F g i := by
          rw [Spec_eq g hwf, hs, hp.vals]
        have hex := hp.execs.append (.cons hg1i (hcache.trans (Spec_static hwf hst i).symm) .nil)
        refine ⟨hex.inv hinv, hex, fun e he => ?_, ?_, ?_⟩
        · rcases List.mem_append.1 he with he | he
          · obtain ⟨⟨d, hd, hr⟩, h⟩ := hp.log e he
            exact ⟨.step hs hd hr, h⟩
          · cases List.mem_singleton.1 he; exact ⟨.refl i, ho⟩
        · simp only [val, Graph.set_same]
          exact hcache
        · intro hra
          have hwf' : Ranked rank F (r.1.set i (.struct (s.executed r.1 r.2.1))) :=
            hwf1.of_static (executed_static hg1i _ _)
          rw [Outdated_eq _ hwf', Graph.set_same]
          simp only [SNode.executed, Bool.false_or]
          change mismatch _ _ s.deps _ = false
          rw [mismatch_congr _ r.1 _ (Outdated F r.1) s.deps _ ?_]
          · refine mismatch_map_ver r.1 _ s.deps ?_
            intro d hd
            obtain ⟨k, hk⟩ := List.mem_iff_getElem?.1 hd
            obtain ⟨hklt, -⟩ := List.getElem?_eq_some_iff.1 hk
            refine hp.fresh hra k d hk (by simp [hklt]) ?_
            rw [hp.vals, hra i s hs]
            exact nextAll_pulls (Spec F g) s.deps hklt
          · intro d hd
            have hdi : rank d < rank i := hwf.2 i s hs d hd
            refine ⟨ver_set_ne _ _ (fun h => by subst h; omega), ?_⟩
            apply Outdated_congr_cone
            intro j hj
            have := Reach.rank_le hwf1 hj
            exact Graph.set_ne _ _ (fun h => by subst h; omega)

end PolyVerif.Nodes
