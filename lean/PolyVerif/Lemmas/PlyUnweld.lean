/-
  C08 — `unweld` (meshops.Unweld as the PLY reader uses it for textured files) evaluated on the mesh the reader
  assembles: every attribute array has one entry per vertex, so with all face indices inside the vertex range it cannot
  fail, and the result is explicit.  Core Lean only.
-/
import PolyVerif.Lemmas.PlyFaces

namespace PolyVerif
namespace PlyUnweld
open Ply PlySpec PlyLemmas PlyCompose PlyFaces

variable {α : Type}

theorem set_attr_len (m : MeshVal α) (d : Nat) (n : Bytes) (data : List (List α)) (k : Nat)
    (hm : ∀ a ∈ m.attrs, a.data.length = k) (hd : data.length = k) :
    ∀ a ∈ (m.set d n data).attrs, a.data.length = k := by
  intro a ha
  simp only [MeshVal.set] at ha
  split at ha
  · exact hm a (List.mem_filter.mp ha).1
  · rcases List.mem_append.mp ha with h | h
    · exact hm a (List.mem_filter.mp h).1
    · simp only [List.mem_singleton] at h; subst h; exact hd

/-- every attribute the reader's `UpdateMesh` calls install has one entry per vertex record -/
theorem applyColumns_attr_len (built : List Built) (rows : List (List (List α))) :
    ∀ (m : MeshVal α), (∀ a ∈ m.attrs, a.data.length = rows.length) →
      ∀ a ∈ (applyColumns m built rows).attrs, a.data.length = rows.length := by
  unfold applyColumns
  generalize built.zipIdx = l
  induction l with
  | nil => intro m hm; exact hm
  | cons x l ih =>
    intro m hm
    simp only [List.foldl_cons]
    exact ih _ (set_attr_len m _ _ _ _ hm (by simp))

theorem applyColumns_indices (built : List Built) (rows : List (List (List α))) :
    ∀ (m : MeshVal α), (applyColumns m built rows).indices = m.indices := by
  unfold applyColumns
  generalize built.zipIdx = l
  induction l with
  | nil => intro m; rfl
  | cons x l ih => intro m; rw [List.foldl_cons, ih]; rfl

theorem gather_ok {β : Type} [Inhabited β] (data : List β) (idx : List Int)
    (h : ∀ i ∈ idx, 0 ≤ i ∧ i.toNat < data.length) :
    gather data idx = .ok (idx.map (fun i => data.getD i.toNat default)) :=
  ListM.mapM_pure fun i hi => by
    obtain ⟨h0, hlt⟩ := h i hi
    show _ = Except.ok _
    simp [show ¬ (i < 0) by omega, List.getElem?_eq_getElem hlt]

/-- the per-corner expansion of a mesh (what `meaning` computes for textured files) -/
def corners (m : MeshVal α) : MeshVal α :=
  { m with indices := (List.range m.indices.length).map Int.ofNat,
           attrs := m.attrs.map (fun a => ⟨a.dim, a.name, m.indices.map (fun i => a.data.getD i.toNat [])⟩) }

theorem unweld_ok (m : MeshVal α) (k : Nat) (hlen : ∀ a ∈ m.attrs, a.data.length = k)
    (hidx : ∀ i ∈ m.indices, 0 ≤ i ∧ i.toNat < k) : unweld m = .ok (corners m) := by
  have h := ListM.mapM_pure (f := fun a => (do
      let d ← gather a.data m.indices
      pure (⟨a.dim, a.name, d⟩ : Attr α) : R (Attr α)))
    (g := fun a => ⟨a.dim, a.name, m.indices.map (fun i => a.data.getD i.toNat [])⟩) (l := m.attrs)
    (fun a ha => by rw [gather_ok a.data m.indices (fun i hi => by rw [hlen a ha]; exact hidx i hi)]; rfl)
  simp only [bind, Except.bind, pure, Except.pure] at h
  simp only [unweld, bind, Except.bind, pure, Except.pure, corners, h]

theorem fan_mem (vs : List Nat) (i : Int) (h : i ∈ fan vs) : ∃ v ∈ vs, i = (v : Int) := by
  unfold fan at h
  split at h
  · simp only [List.mem_cons, List.not_mem_nil, or_false] at h
    rcases h with rfl | rfl | rfl <;> simp
  · simp only [List.mem_cons, List.not_mem_nil, or_false] at h
    rcases h with rfl | rfl | rfl | rfl | rfl | rfl <;> simp
  · simp at h

theorem fanIdx_range (faces : List (SpecFace α)) (nv : Nat) (h : ∀ fc ∈ faces, ∀ v ∈ fc.verts, v < nv) :
    ∀ i ∈ fanIdx faces, 0 ≤ i ∧ i.toNat < nv := by
  intro i hi
  simp only [fanIdx, List.mem_flatten, List.mem_map] at hi
  obtain ⟨l, ⟨fc, hfc, rfl⟩, hil⟩ := hi
  obtain ⟨v, hv, rfl⟩ := fan_mem fc.verts i hil
  have := h fc hfc v hv
  constructor <;> omega

/-- THE READER'S UNWELD STEP CANNOT FAIL on a file whose faces list existing vertices, and is the per-corner expansion -/
theorem unweld_assembled (built : List Built) (rows : List (List (List α))) (faces : List (SpecFace α))
    (hr : ∀ fc ∈ faces, ∀ v ∈ fc.verts, v < rows.length) :
    unweld (applyColumns ⟨.triangle, fanIdx faces, [], none⟩ built rows)
      = .ok (corners (applyColumns ⟨.triangle, fanIdx faces, [], none⟩ built rows)) := by
  apply unweld_ok _ rows.length
  · exact applyColumns_attr_len built rows _ (by intro a ha; simp at ha)
  · rw [applyColumns_indices]
    exact fanIdx_range faces rows.length hr

/-- … so the result of a textured file is explicit: the per-corner expansion plus `TexCoord` -/
theorem unweld_assembled_tex (built : List Built) (rows : List (List (List α))) (faces : List (SpecFace α))
    (uvs : List (List α)) (hr : ∀ fc ∈ faces, ∀ v ∈ fc.verts, v < rows.length) :
    (let mesh := applyColumns ⟨.triangle, fanIdx faces, [], none⟩ built rows
     if faces.isEmpty then (.ok mesh : R (MeshVal α)) else do
       let u ← unweld mesh
       pure (u.set 2 texCoordAttr uvs))
      = .ok (let mesh := applyColumns ⟨.triangle, fanIdx faces, [], none⟩ built rows
             if faces.isEmpty then mesh else (corners mesh).set 2 texCoordAttr uvs) := by
  simp only [unweld_assembled built rows faces hr]
  cases faces.isEmpty <;> rfl

end PlyUnweld
end PolyVerif
