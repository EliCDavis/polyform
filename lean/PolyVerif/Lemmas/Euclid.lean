/-
  Bridge between the model's `V3 ℝ` (three named fields, sqrt of a sum of squares written out as
  in the Go vector package) and Mathlib's `EuclideanSpace ℝ (Fin 3)`, so that the triangle
  inequality, Cauchy–Schwarz and norm algebra are available for the SDF theorems; also the points at a given distance
  on a ray (`V3.exists_at_distance`), the witness shared by all exact-distance theorems.
-/
import PolyVerif.Lemmas.RealVec
import Mathlib.Analysis.InnerProductSpace.PiL2
import Mathlib.Tactic

namespace PolyVerif
open Real

abbrev E3 := EuclideanSpace ℝ (Fin 3)

/-- the vector of `EuclideanSpace ℝ (Fin 3)` with the same coordinates -/
noncomputable def toE (v : V3 ℝ) : E3 := !₂[v.x, v.y, v.z]

@[simp] theorem toE_apply0 (v : V3 ℝ) : toE v 0 = v.x := rfl
@[simp] theorem toE_apply1 (v : V3 ℝ) : toE v 1 = v.y := rfl
@[simp] theorem toE_apply2 (v : V3 ℝ) : toE v 2 = v.z := rfl

/-- the point with the coordinates of a vector of `EuclideanSpace ℝ (Fin 3)` -/
def ofE (Q : E3) : V3 ℝ := ⟨Q 0, Q 1, Q 2⟩

theorem toE_ofE (Q : E3) : toE (ofE Q) = Q := by
  ext i; fin_cases i <;> rfl

theorem toE_sub (a b : V3 ℝ) : toE (a.Sub b) = toE a - toE b := by
  ext i; fin_cases i <;> simp [toE, V3.Sub]

theorem toE_add (a b : V3 ℝ) : toE (a.Add b) = toE a + toE b := by
  ext i; fin_cases i <;> simp [toE, V3.Add]

theorem toE_scale (a : V3 ℝ) (t : ℝ) : toE (a.Scale t) = t • toE a := by
  ext i; fin_cases i <;> simp [toE, V3.Scale, mul_comm]

theorem norm_toE (v : V3 ℝ) : ‖toE v‖ = v.Length := by
  simp [EuclideanSpace.norm_eq, Fin.sum_univ_three, V3.Length, V3.LengthSquared, sq]

theorem dist_toE (a b : V3 ℝ) : ‖toE a - toE b‖ = a.Distance b := by
  rw [← toE_sub, norm_toE]
  simp only [V3.Length, V3.LengthSquared, V3.Distance, V3.DistanceSquared, V3.Sub, RS.sqrt_eq]
  congr 1; ring

theorem inner_toE (a b : V3 ℝ) : inner ℝ (toE a) (toE b) = a.Dot b := by
  simp [EuclideanSpace.inner_eq_star_dotProduct, toE, V3.Dot, dotProduct, Fin.sum_univ_three, mul_comm]

theorem V3.distance_comm (a b : V3 ℝ) : a.Distance b = b.Distance a := by
  rw [← dist_toE, ← dist_toE, norm_sub_rev]

theorem V3.distance_nonneg (a b : V3 ℝ) : 0 ≤ a.Distance b := by
  rw [← dist_toE]; exact norm_nonneg _

theorem V3.distance_triangle (a b c : V3 ℝ) : a.Distance c ≤ a.Distance b + b.Distance c := by
  rw [← dist_toE, ← dist_toE, ← dist_toE]
  exact norm_sub_le_norm_sub_add_norm_sub _ _ _

theorem V3.distance_eq_zero {a b : V3 ℝ} : a.Distance b = 0 ↔ a = b := by
  rw [← dist_toE, norm_sub_eq_zero_iff]
  constructor
  · intro h
    have h0 := congrArg (fun v : E3 => v 0) h; have h1 := congrArg (fun v : E3 => v 1) h
    have h2 := congrArg (fun v : E3 => v 2) h
    simp at h0 h1 h2
    exact V3.ext h0 h1 h2
  · rintro rfl; rfl

theorem V3.distance_self (a : V3 ℝ) : a.Distance a = 0 := V3.distance_eq_zero.mpr rfl

theorem V3.distance_pos {a b : V3 ℝ} (h : a ≠ b) : 0 < a.Distance b :=
  lt_of_le_of_ne (V3.distance_nonneg a b) fun e => h (V3.distance_eq_zero.mp e.symm)

theorem V3.distance_eq_sqrt (a b : V3 ℝ) : a.Distance b = Real.sqrt (a.DistanceSquared b) := rfl

theorem V3.distance_on_x (x y : ℝ) : (⟨x, 0, 0⟩ : V3 ℝ).Distance ⟨y, 0, 0⟩ = |y - x| := by
  rw [V3.distance_eq_sqrt, ← Real.sqrt_sq_eq_abs]; congr 1; simp only [V3.DistanceSquared]; ring

theorem V3.distance_eq_sqrt_dot (a b : V3 ℝ) : a.Distance b = Real.sqrt ((b.Sub a).Dot (b.Sub a)) := rfl

theorem V3.distance_mul_self (a b : V3 ℝ) : a.Distance b * a.Distance b = (b.Sub a).Dot (b.Sub a) := by
  rw [V3.distance_eq_sqrt_dot]; exact Real.mul_self_sqrt (V3.dot_self_nonneg _)

theorem V3.dot_self_pos {a b : V3 ℝ} (h : a ≠ b) : 0 < (b.Sub a).Dot (b.Sub a) :=
  Real.sqrt_pos.mp (V3.distance_pos h)

theorem norm_toE_unit {u : V3 ℝ} (hu : u.Dot u = 1) : ‖toE u‖ = 1 := by
  rw [← inner_toE, real_inner_self_eq_norm_sq] at hu
  exact (pow_eq_one_iff_of_nonneg (norm_nonneg _) two_ne_zero).mp hu

/-- Cauchy–Schwarz in the model's own vocabulary -/
theorem V3.abs_dot_le (a b n : V3 ℝ) : |(a.Sub b).Dot n| ≤ n.Length * a.Distance b := by
  rw [← inner_toE, toE_sub, ← dist_toE, ← norm_toE, mul_comm]
  exact abs_real_inner_le_norm (toE a - toE b) (toE n)

/-- on the ray from `c` through `p ≠ c`, the point at distance `r ≥ 0` from `c` is at distance `|dist p c − r|` from `p` -/
theorem V3.ray_point {c p : V3 ℝ} (hd : 0 < p.Distance c) {r : ℝ} (hr : 0 ≤ r) :
    (c.Add ((p.Sub c).Scale (r / p.Distance c))).Distance c = r ∧
      p.Distance (c.Add ((p.Sub c).Scale (r / p.Distance c))) = |p.Distance c - r| := by
  constructor
  · rw [← dist_toE, toE_add, toE_scale, toE_sub, add_sub_cancel_left, norm_smul, dist_toE, Real.norm_eq_abs,
      abs_of_nonneg (div_nonneg hr hd.le), div_mul_cancel₀ r hd.ne']
  · rw [← dist_toE, toE_add, toE_scale, toE_sub,
      show toE p - (toE c + (r / p.Distance c) • (toE p - toE c)) = (1 - r / p.Distance c) • (toE p - toE c) by module,
      norm_smul, dist_toE, Real.norm_eq_abs]
    nth_rw 2 [← abs_of_pos hd]
    rw [← abs_mul, sub_mul, one_mul, div_mul_cancel₀ r hd.ne']

/-- every sphere of radius `r ≥ 0` about `c` has a point at distance exactly `|dist p c − r|` from `p` -/
theorem V3.exists_at_distance (c p : V3 ℝ) {r : ℝ} (hr : 0 ≤ r) :
    ∃ s : V3 ℝ, s.Distance c = r ∧ p.Distance s = |p.Distance c - r| := by
  by_cases hp : p = c
  · subst hp
    have hd : (⟨p.x + r, p.y, p.z⟩ : V3 ℝ).Distance p = r := by
      rw [V3.distance_eq_sqrt_dot, show (p.Sub ⟨p.x + r, p.y, p.z⟩).Dot (p.Sub ⟨p.x + r, p.y, p.z⟩) = r ^ 2 by
        simp only [V3.Sub, V3.Dot]; ring, Real.sqrt_sq hr]
    exact ⟨_, hd, by rw [V3.distance_comm, hd, V3.distance_self, zero_sub, abs_neg, abs_of_nonneg hr]⟩
  · exact ⟨_, V3.ray_point (V3.distance_pos hp) hr⟩

end PolyVerif
