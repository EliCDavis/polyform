/-
  C04 — the claim stage of the default PLY reader DERIVED from a header-level guard (core Lean only).

  `claimGuard ws` (Model/PlyClaim.lean) is a decidable predicate on the property writers that fire; here:
  * `buildReader_expect`: for distinct property names and a reader `r` of `defaultReader.Properties` inside the guard,
    `PropertyReader.build*` on the written header builds exactly the predicted reader `expectNames ws r`, located at the
    header positions of its names;
  * `buildReader_fallback_gen`: the IgnorableW fallback (fourth name absent, or later with another type);
  * `claim_of_guard_ws`, `claimOK_of_guard`: the claim-stage hypothesis of the composed round-trip theorems holds;
  * `claimSpec_exact`: the reader list is exactly the predicted one.
-/
import PolyVerif.Model.PlyClaim
import PolyVerif.Lemmas.Ply
import PolyVerif.Lemmas.PlyCompose

namespace PolyVerif
namespace PlyClaim
open Ply PlyLemmas PlyCompose

section
variable (binary : Bool) (ws : List WProp)

theorem wsProps_eq : wsProps ws = headerProps ws := rfl

theorem wsProps_names : (wsProps ws).map (·.1) = wsNames ws := by
  induction ws with
  | nil => rfl
  | cons w ws ih =>
    simp only [wsProps, wsNames, List.map_cons, List.flatten_cons, List.map_append] at ih ⊢
    rw [ih]; simp [Function.comp_def]

theorem mem_wsProps (n : Bytes) (t : SType) :
    (n, t) ∈ wsProps ws ↔ ∃ w ∈ ws, n ∈ w.names ∧ w.ty = t := by
  simp only [wsProps, List.mem_flatten, List.mem_map]
  constructor
  · rintro ⟨l, ⟨w, hw, rfl⟩, hm⟩
    simp only [List.mem_map, Prod.mk.injEq] at hm
    obtain ⟨n', hn', rfl, rfl⟩ := hm
    exact ⟨w, hw, hn', rfl⟩
  · rintro ⟨w, hw, hn, rfl⟩
    exact ⟨_, ⟨w, hw, rfl⟩, List.mem_map.mpr ⟨n, hn, rfl⟩⟩

theorem mem_wsNames (n : Bytes) : n ∈ wsNames ws ↔ ∃ w ∈ ws, n ∈ w.names := by
  simp only [wsNames, List.mem_flatten, List.mem_map]
  constructor
  · rintro ⟨l, ⟨w, hw, rfl⟩, hm⟩; exact ⟨w, hw, hm⟩
  · rintro ⟨w, hw, hn⟩; exact ⟨_, ⟨w, hw, rfl⟩, hn⟩

/-- with distinct property names, a name belongs to one writer only -/
theorem same_writer : ∀ (ws : List WProp), (wsNames ws).Nodup → ∀ (w w' : WProp), w ∈ ws → w' ∈ ws → ∀ n, n ∈ w.names →
    n ∈ w'.names → w = w' := by
  intro ws
  induction ws with
  | nil => intro _ w _ hw; simp at hw
  | cons a ws ih =>
    intro hnd w w' hw hw' n h1 h2
    have hnd' : (a.names ++ wsNames ws).Nodup := by simpa [wsNames] using hnd
    obtain ⟨_, hr, hdis⟩ := List.nodup_append.mp hnd'
    simp only [List.mem_cons] at hw hw'
    rcases hw with rfl | hw <;> rcases hw' with rfl | hw'
    · rfl
    · exact absurd rfl (hdis n h1 n ((mem_wsNames ws n).mpr ⟨w', hw', h2⟩))
    · exact absurd rfl (hdis n h2 n ((mem_wsNames ws n).mpr ⟨w, hw, h1⟩))
    · exact ih hr w w' hw hw' n h1 h2

/-- where a property of the header sits: `posOf` finds it -/
theorem posOf_spec (props : List (Bytes × SType)) (hnd : (props.map (·.1)).Nodup) (n : Bytes) (t : SType)
    (h : (n, t) ∈ props) : ∃ hi : posOf props n < props.length, props[posOf props n] = (n, t) := by
  have hlt : posOf props n < props.length := by
    simp only [posOf]
    exact List.findIdx_lt_length_of_exists ⟨(n, t), h, by simp⟩
  refine ⟨hlt, ?_⟩
  have hp : (props[posOf props n]).1 = n := by
    have := @List.findIdx_getElem _ (fun (p : Bytes × SType) => p.1 = n) props hlt
    exact of_decide_eq_true this
  exact eq_of_fst_eq_of_nodup props hnd _ _ (List.getElem_mem _) h hp

theorem posOf_first (props : List (Bytes × SType)) (n : Bytes) (j : Nat) (hj : j < posOf props n) (hl : j < props.length) :
    props[j].1 ≠ n := by
  have := List.not_of_lt_findIdx (p := fun (p : Bytes × SType) => decide (p.1 = n)) (xs := props) (i := j) hj
  simpa using this

/-- the header positions of (some of) the names of one writer -/
theorem writer_positions (hnd : (wsNames ws).Nodup) (w : WProp) (hw : w ∈ ws) (ns : List Bytes)
    (hsub : ∀ n ∈ ns, n ∈ w.names) (k : Nat) (hk : k < ns.length) :
    ∃ hi : posOf (wsProps ws) ns[k] < (wsProps ws).length, (wsProps ws)[posOf (wsProps ws) ns[k]] = (ns[k], w.ty) :=
  posOf_spec _ (by rw [wsProps_names]; exact hnd) _ _
    ((mem_wsProps ws _ _).mpr ⟨w, hw, hsub _ (List.getElem_mem hk), rfl⟩)

theorem fallback_none {β : Type} (l : List (Option Nat)) (k : Nat) (hk : k < 3) (h : l[k]? = some none) (x : Option β) :
    (match l with
     | [some _, some _, some _, _] => x
     | _ => none) = none := by
  split
  · match k, hk with
    | 0, _ => simp at h
    | 1, _ => simp at h
    | 2, _ => simp at h
  · rfl

/-- `PropertyReader.build*` of a 2/3/4-vector reader one of whose NEEDED names is absent: nothing is built -/
theorem buildReader_absent (props : List (Bytes × SType)) (r : RProp) (hlen : 2 ≤ r.names.length)
    (k : Nat) (hk : k < r.names.length) (hk3 : r.ignorableW = true → k < 3) (habs : ∀ p ∈ props, p.1 ≠ r.names[k]) :
    buildReader binary props r = none := by
  have hnone := buildVec_absent binary props r.attr r.names k hk habs
  have hoff := scan_absent binary r.names k hk props ⟨r.names.map (fun _ => none), none, 0⟩ habs
  simp only [List.getElem?_map, List.getElem?_eq_getElem hk, Option.map_some] at hoff
  obtain ⟨attr, names, ign⟩ := r
  match names, hlen with
  | a :: b :: rest, _ =>
    simp only [buildReader, hnone]
    split
    · rename_i h4
      exact fallback_none _ k (hk3 h4.2) hoff _
    · rfl

theorem offs_four (l : List (Option Nat)) (hl : l.length = 4)
    (h0 : ∃ a, l[0]? = some (some a)) (h1 : ∃ a, l[1]? = some (some a)) (h2 : ∃ a, l[2]? = some (some a))
    (h3 : l[3]? = some none) : ∃ a b c, l = [some a, some b, some c, none] := by
  obtain ⟨a, h0⟩ := h0
  obtain ⟨b, h1⟩ := h1
  obtain ⟨c, h2⟩ := h2
  match l, hl with
  | [x0, x1, x2, x3], _ => exact ⟨a, b, c, by simp_all⟩

/-- the IgnorableW fallback (reader_vector4.go:99-106, 188-195): the header is `pre ++ post`, the first three
names sit in `pre` with one type `t`, the fourth name does not occur in `pre` and occurs in `post` only with ANOTHER type —
the 4-vector scan takes its type from the first member it meets (`t`), never fills the fourth slot (absent, or "mixed"),
and `build*` falls back to the 3-vector reader over the first three names, located at their header positions -/
theorem buildReader_fallback_gen (pre post : List (Bytes × SType)) (r : RProp)
    (hlen : r.names.length = 4) (hign : r.ignorableW = true) (hn : r.names.Nodup)
    (hnd : ((pre ++ post).map (·.1)).Nodup) (t : SType)
    (hpre : ∀ k (hk : k < 3), (r.names[k]'(by omega), t) ∈ pre)
    (h3pre : ∀ p ∈ pre, p.1 ≠ r.names[3]'(by omega)) (h3post : ∀ q ∈ post, q.1 = r.names[3]'(by omega) → q.2 ≠ t)
    (idx : List Nat) (hl : idx.length = 3)
    (hidx : ∀ k (hk : k < 3), ∃ hi : idx[k]'(by omega) < (pre ++ post).length,
      (pre ++ post)[idx[k]'(by omega)] = (r.names[k]'(by omega), t)) :
    buildReader binary (pre ++ post) r
      = some ⟨r.attr, r.names.take 3, idx.map (locOf binary (pre ++ post)), some t⟩ := by
  have hndpre : (pre.map (·.1)).Nodup := by
    rw [List.map_append] at hnd; exact (List.nodup_append.mp hnd).1
  -- the first member the scan meets sits in `pre`, so it is one of the first three names, of type `t`
  have hfirst : ∀ p, (pre ++ post).find? (fun p => decide (p.1 ∈ r.names)) = some p → p.2 = t := by
    intro p hp
    have hsome : (pre.find? (fun p => decide (p.1 ∈ r.names))).isSome = true := by
      rw [List.find?_isSome]; exact ⟨_, hpre 0 (by omega), by simp⟩
    obtain ⟨p', hp'⟩ := Option.isSome_iff_exists.mp hsome
    rw [List.find?_append, hp', Option.some_or, Option.some.injEq] at hp
    subst hp
    have hm : p'.1 ∈ r.names := by simpa using List.find?_some hp'
    obtain ⟨k, hk, hke⟩ := List.getElem_of_mem hm
    have hp'm := List.mem_of_find?_eq_some hp'
    by_cases hk3 : k = 3
    · subst hk3; exact absurd hke.symm (h3pre p' hp'm)
    · rw [eq_of_fst_eq_of_nodup pre hndpre p' _ hp'm (hpre k (by omega)) hke.symm]
  have H := scan_fold binary r.names hn t (pre ++ post) ⟨r.names.map (fun _ => none), none, 0⟩ hnd
    (.inr ⟨rfl, hfirst⟩) (by simp)
  have hoff : ∀ k (hk : k < 3), ∃ a, ((pre ++ post).foldl (scanProp binary r.names)
      ⟨r.names.map (fun _ => none), none, 0⟩).offs[k]? = some (some a) := fun k hk => by
    obtain ⟨hi, hpe⟩ := hidx k hk
    exact ⟨_, H.hit k (by omega) _ hi hpe⟩
  have h03 : (r.names.map (fun _ => (none : Option Nat)))[3]? = some none := by
    simp [List.getElem?_map, List.getElem?_eq_getElem (show 3 < r.names.length by omega)]
  have hoff3 : ((pre ++ post).foldl (scanProp binary r.names) ⟨r.names.map (fun _ => none), none, 0⟩).offs[3]? = some none := by
    by_cases hex : ∃ q ∈ post, q.1 = r.names[3]'(by omega)
    · obtain ⟨q, hq, hqn⟩ := hex
      obtain ⟨i, hi, hie⟩ := List.getElem_of_mem (List.mem_append_right pre hq)
      exact H.mixed 3 (by omega) h03 i hi (by rw [hie]; exact hqn) (by rw [hie]; exact h3post q hq hqn)
    · rw [H.miss 3 (by omega) (fun p hp => by
        rcases List.mem_append.mp hp with hp | hp
        · exact h3pre p hp
        · exact fun e => hex ⟨p, hp, e⟩)]
      exact h03
  obtain ⟨a, b, c, hform⟩ := offs_four _ (by rw [H.len, hlen]) (hoff 0 (by omega)) (hoff 1 (by omega)) (hoff 2 (by omega)) hoff3
  have hnone : buildVec binary (pre ++ post) r.attr r.names = none := by
    simp only [buildVec, allSome_none _ 3 hoff3]
  -- the 3-vector reader
  have hn3 : (r.names.take 3).Nodup := List.Nodup.sublist (List.take_sublist _ _) hn
  have hb3 := buildVec_spec binary (pre ++ post) r.attr (r.names.take 3) hn3
    (by intro h; have := congrArg List.length h; simp [hlen] at this) hnd t idx (by simp [hl, hlen])
    (fun k hk => by
      have hk3 : k < 3 := by simp [hlen] at hk; omega
      obtain ⟨hi, hpe⟩ := hidx k hk3
      exact ⟨hi, by rw [hpe]; simp⟩)
  obtain ⟨attr, names, ign⟩ := r
  simp only at hlen hign hnone hform hb3 ⊢
  match names, hlen with
  | [n0, n1, n2, n3], _ =>
    simp only [buildReader, hnone, hign, hform]
    simpa using hb3

/-- the IgnorableW fallback with the fourth name ABSENT from the header (`red green blue` without `alpha`) -/
theorem buildReader_fallback (props : List (Bytes × SType)) (r : RProp) (hlen : r.names.length = 4)
    (hign : r.ignorableW = true) (hn : r.names.Nodup) (hnd : (props.map (·.1)).Nodup) (t : SType) (idx : List Nat)
    (hl : idx.length = 3)
    (hidx : ∀ k (hk : k < 3), ∃ hi : idx[k]'(by omega) < props.length,
      props[idx[k]'(by omega)] = (r.names[k]'(by omega), t))
    (habs : ∀ p ∈ props, p.1 ≠ r.names[3]'(by omega)) :
    buildReader binary props r = some ⟨r.attr, r.names.take 3, idx.map (locOf binary props), some t⟩ := by
  have := buildReader_fallback_gen binary props [] r hlen hign hn (by simpa using hnd) t
    (fun k hk => by obtain ⟨hi, hpe⟩ := hidx k hk; exact hpe ▸ List.getElem_mem hi) habs (by simp) idx hl
    (by simpa using hidx)
  simpa using this

/-- the IgnorableW fallback with the fourth name PRESENT, later in the header, with another type -/
theorem buildReader_fallback_mixed (pre post : List (Bytes × SType)) (r : RProp)
    (hlen : r.names.length = 4) (hign : r.ignorableW = true) (hn : r.names.Nodup)
    (hnd : ((pre ++ post).map (·.1)).Nodup) (t t' : SType) (htt : t' ≠ t)
    (hpre : ∀ k (hk : k < 3), (r.names[k]'(by omega), t) ∈ pre) (hpost : (r.names[3]'(by omega), t') ∈ post)
    (idx : List Nat) (hl : idx.length = 3)
    (hidx : ∀ k (hk : k < 3), ∃ hi : idx[k]'(by omega) < (pre ++ post).length,
      (pre ++ post)[idx[k]'(by omega)] = (r.names[k]'(by omega), t)) :
    buildReader binary (pre ++ post) r
      = some ⟨r.attr, r.names.take 3, idx.map (locOf binary (pre ++ post)), some t⟩ := by
  have hnd' := hnd
  rw [List.map_append, List.nodup_append] at hnd'
  obtain ⟨-, hndpost, hdis⟩ := hnd'
  refine buildReader_fallback_gen binary pre post r hlen hign hn hnd t hpre ?_ ?_ idx hl hidx
  · exact fun p hp => hdis p.1 (List.mem_map_of_mem hp) _ (List.mem_map_of_mem hpost)
  · intro q hq e
    rw [eq_of_fst_eq_of_nodup post hndpost q _ hq hpost e]; exact htt

end

/-- the decoding type a built reader carries: the writer's type — except for the ASCII scalar reader, which never
learns it (reader_vector1.go:38-57) -/
def tyOf (binary : Bool) (r : RProp) (t : SType) : Option SType :=
  if binary || decide (r.names.length ≠ 1) then some t else none

/-- the predicted reader with its location: component `k` at the byte offset (binary) / column (ASCII) of the header
position of its name -/
def expectBuilt (binary : Bool) (ws : List WProp) (r : RProp) : Option Built :=
  (expectNames ws r).map (fun p =>
    ⟨r.attr, p.1, (p.1.map (posOf (wsProps ws))).map (locOf binary (wsProps ws)), tyOf binary r p.2⟩)

section
variable (binary : Bool) (ws : List WProp)

theorem buildV1_go_none (attr name : Bytes) : ∀ (props : List (Bytes × SType)) (pos : Nat),
    (∀ p ∈ props, p.1 ≠ name) → buildV1.go binary attr name props pos = none := by
  intro props
  induction props with
  | nil => intro _ _; simp [buildV1.go]
  | cons x xs ih =>
    intro pos h
    obtain ⟨n, t⟩ := x
    have hn : n ≠ name := h (n, t) (by simp)
    simp only [buildV1.go, hn, if_false]
    exact ih _ (fun q hq => h q (by simp [hq]))

theorem props_name_mem (p : Bytes × SType) (hp : p ∈ wsProps ws) : p.1 ∈ wsNames ws := by
  rw [← wsProps_names]; exact List.mem_map_of_mem hp

/-- outside a prediction, the guard names a needed component that is absent from the header -/
theorem guard_absent (r : RProp) (hone : r.names.length ≠ 1) (hg : readerGuard ws r = true)
    (hex : expectNames ws r = none) :
    ∃ k, ∃ hk : k < r.names.length, (r.ignorableW = true → k < 3) ∧ ∀ p ∈ wsProps ws, p.1 ≠ r.names[k] := by
  simp only [readerGuard, hex, hone, Option.isSome_none, decide_false, Bool.false_or, List.any_eq_true,
    Bool.not_eq_true', List.contains_eq_mem, decide_eq_false_iff_not] at hg
  obtain ⟨n, hn, hnot⟩ := hg
  by_cases hi : r.ignorableW = true
  · simp only [RProp.needed, hi, if_true] at hn
    obtain ⟨k, hk, hke⟩ := List.getElem_of_mem hn
    have hk' : k < 3 ∧ k < r.names.length := by simp at hk; omega
    refine ⟨k, hk'.2, fun _ => hk'.1, ?_⟩
    intro p hp e
    apply hnot
    have : r.names[k] = n := by rw [← hke]; simp
    rw [← this, ← e]; exact props_name_mem ws p hp
  · have hi' : r.ignorableW = false := by simpa using hi
    simp only [RProp.needed, hi', Bool.false_eq_true, if_false] at hn
    obtain ⟨k, hk, hke⟩ := List.getElem_of_mem hn
    refine ⟨k, hk, fun h => absurd h hi, ?_⟩
    intro p hp e
    apply hnot
    rw [← hke, ← e]; exact props_name_mem ws p hp

theorem split_at_writer : ∀ (ws : List WProp) (w : WProp), w ∈ ws → ∃ A, ws = A ++ w :: writersAfter ws w := by
  intro ws w
  induction ws with
  | nil => intro h; simp at h
  | cons x ws ih =>
    intro hw
    by_cases hx : x = w
    · subst hx
      exact ⟨[], by simp [writersAfter]⟩
    · have hw' : w ∈ ws := by simpa [Ne.symm hx] using hw
      obtain ⟨A, hA⟩ := ih hw'
      refine ⟨x :: A, ?_⟩
      have : writersAfter (x :: ws) w = writersAfter ws w := by
        simp [writersAfter, hx]
      rw [this]
      simpa using hA

theorem wsProps_append (a b : List WProp) : wsProps (a ++ b) = wsProps a ++ wsProps b := by
  simp [wsProps]

/-- the claim of one default reader on the header the writers `ws` produce, inside the guard: `PropertyReader.build*`
builds exactly the predicted reader — all names of one writer, or the first three of an IgnorableW group whose fourth
name is harmless (absent, or later in the header with another type), the scalar property, or nothing — located at the header positions of its names, with the writer's type -/
theorem buildReader_expect (hnd : (wsNames ws).Nodup) (r : RProp)
    (h1 : 1 ≤ r.names.length) (hrn : r.names.Nodup) (hign : r.ignorableW = true → r.names.length = 4)
    (hg : readerGuard ws r = true) :
    buildReader binary (wsProps ws) r = expectBuilt binary ws r := by
  have hpn : ((wsProps ws).map (·.1)).Nodup := by rw [wsProps_names]; exact hnd
  by_cases hone : r.names.length = 1
  · obtain ⟨attr, names, ign⟩ := r
    match names, hone with
    | [n], _ =>
      simp only [buildReader, expectBuilt, expectNames, List.length_singleton, if_true]
      cases hf : ws.find? (fun w => [n].all (fun n => w.names.contains n)) with
      | none =>
        have habs : ∀ p ∈ wsProps ws, p.1 ≠ n := by
          intro p hp e
          obtain ⟨w, hw, hn⟩ := (mem_wsNames ws p.1).mp (props_name_mem ws p hp)
          have := List.find?_eq_none.mp hf w hw
          simp [← e, hn] at this
        simp [buildV1, buildV1_go_none binary attr n _ 0 habs]
      | some w =>
        have hw := List.mem_of_find?_eq_some hf
        have hp := List.find?_some hf
        simp only [List.all_cons, List.all_nil, Bool.and_true, List.contains_eq_mem, decide_eq_true_eq] at hp
        obtain ⟨hi, hpe⟩ := posOf_spec _ hpn n w.ty ((mem_wsProps ws _ _).mpr ⟨w, hw, hp, rfl⟩)
        rw [buildV1_spec binary attr n (wsProps ws) (posOf (wsProps ws) n) hi (by rw [hpe])
          (fun j hj => posOf_first _ _ j hj (by omega))]
        cases binary <;> simp [hpe, tyOf]
  · have hlen : 2 ≤ r.names.length := by omega
    have hty : ∀ t, tyOf binary r t = some t := by intro t; simp [tyOf, hone]
    -- no prediction: the guard names a needed component that is absent, so nothing is built
    have hnone : expectNames ws r = none → buildReader binary (wsProps ws) r = expectBuilt binary ws r := by
      intro hex
      obtain ⟨k, hk, hk3, habs⟩ := guard_absent ws r hone hg hex
      rw [buildReader_absent binary _ r hlen k hk hk3 habs]
      simp [expectBuilt, hex]
    cases hf : ws.find? (fun w => w.names == r.names) with
    | some w =>
      have hw := List.mem_of_find?_eq_some hf
      have hwn : w.names = r.names := by simpa using List.find?_some hf
      have := buildReader_all binary (wsProps ws) r hlen hrn hpn w.ty (r.names.map (posOf (wsProps ws))) (by simp)
        (fun k hk => by
          obtain ⟨hi, hpe⟩ := writer_positions ws hnd w hw r.names (by rw [hwn]; exact fun n h => h) k hk
          exact ⟨by simpa using hi, by simpa using hpe⟩)
      rw [this]
      simp [expectBuilt, expectNames, hone, hf, hty]
    | none =>
      by_cases hi : r.ignorableW = true
      · have h4 := hign hi
        have hg3 : r.names.getD 3 [] = r.names[3]'(by omega) := by
          simp [List.getD_eq_getElem?_getD, List.getElem?_eq_getElem (show 3 < r.names.length by omega)]
        cases hf3 : ws.find? (fun w => w.names == r.names.take 3) with
        | some w =>
          have hw := List.mem_of_find?_eq_some hf3
          have hwn : w.names = r.names.take 3 := by simpa using List.find?_some hf3
          have hsub : ∀ n ∈ r.names.take 3, n ∈ w.names := by rw [hwn]; exact fun n h => h
          have hpos : ∀ k (hk : k < 3), ∃ hi : posOf (wsProps ws) (r.names[k]'(by omega)) < (wsProps ws).length,
              (wsProps ws)[posOf (wsProps ws) (r.names[k]'(by omega))] = (r.names[k]'(by omega), w.ty) := by
            intro k hk
            obtain ⟨hi', hpe⟩ := writer_positions ws hnd w hw (r.names.take 3) hsub k (by simp [h4]; omega)
            simp only [List.getElem_take] at hi' hpe
            exact ⟨hi', hpe⟩
          by_cases hh : wHarmless ws w (r.names.getD 3 []) = true
          · have hex : expectNames ws r = some (r.names.take 3, w.ty) := by
              simp only [expectNames, hone, if_false, hf, hi, if_true, hf3, hh]
            simp only [expectBuilt, hex, Option.map_some, hty]
            simp only [wHarmless, Bool.or_eq_true, Bool.not_eq_true', List.contains_eq_mem, decide_eq_false_iff_not,
              List.any_eq_true, Bool.and_eq_true, decide_eq_true_eq, bne_iff_ne] at hh
            rcases hh with habs | ⟨w', hw', ha', hty'⟩
            · -- fourth name absent
              have := buildReader_fallback binary (wsProps ws) r h4 hi hrn hpn w.ty ((r.names.take 3).map (posOf (wsProps ws)))
                (by simp [h4])
                (fun k hk => by
                  obtain ⟨hi', hpe⟩ := hpos k hk
                  exact ⟨by simpa using hi', by simpa using hpe⟩)
                (by
                  intro p hp e
                  apply habs
                  rw [hg3, ← e]; exact props_name_mem ws p hp)
              rw [this]
            · -- fourth name later in the header, another type
              obtain ⟨A, hA⟩ := split_at_writer ws w hw
              have hsplit : wsProps ws = wsProps (A ++ [w]) ++ wsProps (writersAfter ws w) := by
                rw [← wsProps_append]
                have : A ++ [w] ++ writersAfter ws w = ws := by
                  simp only [List.append_assoc, List.singleton_append]; exact hA.symm
                rw [this]
              have hpos' := hpos
              have hpn' := hpn
              rw [hsplit] at hpn'
              simp only [hsplit] at hpos' ⊢
              have := buildReader_fallback_mixed binary (wsProps (A ++ [w])) (wsProps (writersAfter ws w)) r h4 hi hrn hpn'
                w.ty w'.ty hty'
                (fun k hk => (mem_wsProps _ _ _).mpr ⟨w, by simp, by
                  rw [hwn]
                  have : (r.names.take 3)[k]'(by simp [h4]; omega) = r.names[k]'(by omega) := by simp
                  rw [← this]; exact List.getElem_mem _, rfl⟩)
                ((mem_wsProps _ _ _).mpr ⟨w', hw', by rw [← hg3]; exact ha', rfl⟩)
                ((r.names.take 3).map (posOf (wsProps (A ++ [w]) ++ wsProps (writersAfter ws w)))) (by simp [h4])
                (fun k hk => by
                  obtain ⟨hi', hpe⟩ := hpos' k hk
                  exact ⟨by simpa using hi', by simpa using hpe⟩)
              rw [this]
          · have hex : expectNames ws r = none := by
              simp only [expectNames, hone, if_false, hf, hi, if_true, hf3, hh]; rfl
            exact hnone hex
        | none =>
          have hex : expectNames ws r = none := by
            simp only [expectNames, hone, if_false, hf, hi, if_true, hf3]
          exact hnone hex
      · have hex : expectNames ws r = none := by
          simp only [expectNames, hone, if_false, hf, hi]; rfl
        exact hnone hex

theorem defaultReaders_shape : ∀ r ∈ defaultReaders,
    1 ≤ r.names.length ∧ r.names.Nodup ∧ (r.ignorableW = true → r.names.length = 4) := by decide +kernel

/-- the name of a scalar default reader is not a component of a vector default reader -/
theorem defaultReaders_scalar_apart : ∀ r ∈ defaultReaders, ∀ r' ∈ defaultReaders, r.names.length = 1 →
    r'.names.length ≠ 1 → ∀ n ∈ r.names, n ∉ r'.names := by decide +kernel

theorem claimGuard_parts (hg : claimGuard ws = true) :
    (∀ r ∈ defaultReaders, readerGuard ws r = true) ∧ (expectKeys ws).Nodup ∧
    (∀ r ∈ defaultReaders, r.names.length = 1 → (expectNames ws r).isSome = true → r.attr ∉ wsNames ws) := by
  simp only [claimGuard, Bool.and_eq_true, List.all_eq_true, decide_eq_true_eq] at hg
  obtain ⟨⟨h1, h2⟩, h3⟩ := hg
  refine ⟨h1, h2, ?_⟩
  intro r hr hl hs hm
  have := h3 r hr
  simp [hl, hs, hm] at this

/-- the default readers built on the written header are exactly the predicted ones, in reader order -/
theorem built_default (hnd : (wsNames ws).Nodup) (hg : claimGuard ws = true) :
    defaultReaders.filterMap (buildReader binary (wsProps ws)) = defaultReaders.filterMap (expectBuilt binary ws) := by
  apply ListM.filterMap_congr
  intro r hr
  obtain ⟨a, b, c⟩ := defaultReaders_shape r hr
  exact buildReader_expect binary ws hnd r a b c ((claimGuard_parts ws hg).1 r hr)

/-- what a prediction is made of: names of ONE writer, its type; all the reader's names or the first three -/
theorem expectNames_some (r : RProp) (ns : List Bytes) (t : SType)
    (h : expectNames ws r = some (ns, t)) :
    ∃ w ∈ ws, w.ty = t ∧ (∀ n ∈ ns, n ∈ w.names) ∧ (ns = r.names ∨ (r.ignorableW = true ∧ ns = r.names.take 3)) := by
  simp only [expectNames] at h
  split at h
  · simp only [Option.map_eq_some_iff, Prod.mk.injEq] at h
    obtain ⟨w, hf, rfl, rfl⟩ := h
    have hp := List.find?_some hf
    simp only [List.all_eq_true, List.contains_eq_mem, decide_eq_true_eq] at hp
    exact ⟨w, List.mem_of_find?_eq_some hf, rfl, hp, .inl rfl⟩
  · split at h
    · rename_i w hf
      simp only [Option.some.injEq, Prod.mk.injEq] at h
      obtain ⟨rfl, rfl⟩ := h
      have hwn : w.names = r.names := by simpa using List.find?_some hf
      exact ⟨w, List.mem_of_find?_eq_some hf, rfl, by rw [hwn]; exact fun n h => h, .inl rfl⟩
    · split at h
      · rename_i hi
        split at h
        · rename_i w hf
          split at h
          · simp only [Option.some.injEq, Prod.mk.injEq] at h
            obtain ⟨rfl, rfl⟩ := h
            have hwn : w.names = r.names.take 3 := by simpa using List.find?_some hf
            exact ⟨w, List.mem_of_find?_eq_some hf, rfl, by rw [hwn]; exact fun n h => h, .inr ⟨hi, rfl⟩⟩
          · simp at h
        · simp at h
      · simp at h

end

/-- the scalar reader `addUnclaimed` builds for property `p` of the header -/
def v1Of (binary : Bool) (props : List (Bytes × SType)) (p : Bytes × SType) : Built :=
  ⟨p.1, [p.1], [locOf binary props (posOf props p.1)], if binary then some p.2 else none⟩

section
variable (binary : Bool)

theorem buildV1_mem (props : List (Bytes × SType)) (hnd : (props.map (·.1)).Nodup)
    (p : Bytes × SType) (hp : p ∈ props) : buildV1 binary props p.1 p.1 = some (v1Of binary props p) := by
  obtain ⟨n, t⟩ := p
  obtain ⟨hi, hpe⟩ := posOf_spec props hnd n t hp
  rw [buildV1_spec binary n n props (posOf props n) hi (by rw [hpe]) (fun j hj => posOf_first _ _ j hj (by omega))]
  simp [v1Of, hpe]

/-- the properties no reader of `built` claims -/
def unclaimed (props : List (Bytes × SType)) (built : List Built) : List (Bytes × SType) :=
  props.filter (fun p => !built.any (fun b => b.claims p.1))

theorem mem_unclaimed (props : List (Bytes × SType)) (built : List Built) (p : Bytes × SType) :
    p ∈ unclaimed props built ↔ p ∈ props ∧ ∀ b ∈ built, b.claims p.1 = false := by
  simp [unclaimed, List.mem_filter]

/-- THE closed form of reader.go:422-440 / 494-512 on a header with distinct property names -/
theorem addUnclaimed_exact (props : List (Bytes × SType)) (hnd : (props.map (·.1)).Nodup) (built : List Built) :
    addUnclaimed binary props built = built ++ (unclaimed props built).map (v1Of binary props) := by
  rw [addUnclaimed_eq, foldl_unclaimed_closed binary props props built hnd, unclaimed,
    ListM.filterMap_congr (g := some ∘ v1Of binary props) (fun p hp => buildV1_mem binary props hnd p (List.mem_filter.mp hp).1),
    List.filterMap_eq_map]

end

/-- a reader that decodes, with the type of ONE writer, (some of) that writer's properties where they sit in the header;
the ASCII scalar reader carries no type and then sits on a property that is not `uchar` -/
def Good (binary : Bool) (ws : List WProp) (b : Built) : Prop :=
  ∃ w ∈ ws, (∀ n ∈ b.names, n ∈ w.names) ∧
    b.offs = (b.names.map (posOf (wsProps ws))).map (locOf binary (wsProps ws)) ∧
    (b.ty = some w.ty ∨ (binary = false ∧ b.ty = none ∧ w.ty ≠ .uchar))

section
variable (binary : Bool) (ws : List WProp)

theorem located_of_good (hnd : (wsNames ws).Nodup) (b : Built) (h : Good true ws b) :
    LocatedNamed (headerProps ws) b (b.names.map (posOf (headerProps ws))) := by
  obtain ⟨w, hw, hsub, hoffs, hty⟩ := h
  have hty : b.ty = some w.ty := by rcases hty with h | ⟨h, _⟩; exact h; simp at h
  rw [← wsProps_eq]
  refine ⟨⟨⟨w.ty, hty, ?_⟩, ?_⟩, by simp, ?_⟩
  · intro i hi
    obtain ⟨n, hn, rfl⟩ := List.mem_map.mp hi
    obtain ⟨k, hk, rfl⟩ := List.getElem_of_mem hn
    obtain ⟨h1, h2⟩ := writer_positions ws hnd w hw b.names hsub k hk
    exact ⟨by simpa using h1, by simp [h2]⟩
  · rw [hoffs]
    simp [locOf_binary]
  · intro k hk hk'
    obtain ⟨h1, h2⟩ := writer_positions ws hnd w hw b.names hsub k hk'
    simp [List.getElem?_eq_getElem h1, h2]

/-- inside the ASCII guard, a `uchar` writer's names are claimed by a built vector reader -/
theorem uchar_claimed (hA : asciiGuard ws = true) (w : WProp) (hw : w ∈ ws)
    (hu : w.ty = .uchar) :
    ∃ r ∈ defaultReaders, r.names.length ≠ 1 ∧ ∃ d, expectBuilt binary ws r = some d ∧ d.names = w.names := by
  simp only [asciiGuard, List.all_eq_true, Bool.or_eq_true, bne_iff_ne, List.any_eq_true, Bool.and_eq_true,
    decide_eq_true_eq, beq_iff_eq] at hA
  rcases hA w hw with h | ⟨r, hr, hone, hex⟩
  · exact absurd hu h
  · refine ⟨r, hr, hone, ?_⟩
    cases he : expectNames ws r with
    | none => simp [he] at hex
    | some p =>
      simp only [he, Option.map_some, Option.some.injEq] at hex
      exact ⟨_, by simp only [expectBuilt, he, Option.map_some]; rfl, hex⟩

theorem expectBuilt_good (hA : binary = false → asciiGuard ws = true) (r : RProp) (hr : r ∈ defaultReaders) (b : Built)
    (h : expectBuilt binary ws r = some b) :
    Good binary ws b ∧ b.attr = r.attr ∧ (b.names = r.names ∨ (r.ignorableW = true ∧ b.names = r.names.take 3)) ∧
      (expectNames ws r).isSome = true := by
  simp only [expectBuilt, Option.map_eq_some_iff] at h
  obtain ⟨⟨ns, t⟩, hex, rfl⟩ := h
  obtain ⟨w, hw, rfl, hsub, hor⟩ := expectNames_some ws r ns _ hex
  refine ⟨⟨w, hw, hsub, rfl, ?_⟩, rfl, hor, by simp [hex]⟩
  by_cases hb : (binary || decide (r.names.length ≠ 1)) = true
  · left; simp only [tyOf, hb, if_true]
  · right
    simp only [Bool.or_eq_true, decide_eq_true_eq, not_or, Bool.not_eq_true, Decidable.not_not] at hb
    refine ⟨hb.1, by simp [tyOf, hb.1, hb.2], ?_⟩
    intro hu
    obtain ⟨r', hr', hone', d, hd, hdn⟩ := uchar_claimed binary ws (hA hb.1) w hw hu
    obtain ⟨s1, _, _⟩ := defaultReaders_shape r hr
    -- the scalar reader's name would be a component of the vector reader r'
    have hns : ns = r.names := by
      rcases hor with h | ⟨hi, _⟩
      · exact h
      · have := (defaultReaders_shape r hr).2.2 hi; omega
    have hn0 : r.names[0]'(by omega) ∈ w.names := hsub _ (by rw [hns]; exact List.getElem_mem _)
    simp only [expectBuilt, Option.map_eq_some_iff] at hd
    obtain ⟨⟨ns', t'⟩, hex', rfl⟩ := hd
    simp only at hdn
    obtain ⟨_, _, _, _, hor'⟩ := expectNames_some ws r' ns' _ hex'
    have : r.names[0]'(by omega) ∈ r'.names := by
      rw [← hdn] at hn0
      rcases hor' with h | ⟨_, h⟩
      · rw [← h]; exact hn0
      · rw [h] at hn0; exact List.mem_of_mem_take hn0
    exact defaultReaders_scalar_apart r hr r' hr' hb.2 hone' _ (List.getElem_mem _) this

/-- the scalar reader of a property no built default reader claims -/
theorem buildV1_good (hnd : (wsNames ws).Nodup)
    (hA : binary = false → asciiGuard ws = true) (p : Bytes × SType) (hp : p ∈ wsProps ws) (b : Built)
    (h : buildV1 binary (wsProps ws) p.1 p.1 = some b)
    (hun : ∀ d ∈ defaultReaders.filterMap (expectBuilt binary ws), d.claims p.1 = false) :
    Good binary ws b ∧ b.attr = p.1 ∧ b.names = [p.1] := by
  obtain ⟨n, t⟩ := p
  obtain ⟨w, hw, hn, rfl⟩ := (mem_wsProps ws n t).mp hp
  obtain ⟨hi, hpe⟩ := posOf_spec _ (by rw [wsProps_names]; exact hnd) n w.ty hp
  rw [buildV1_spec binary n n (wsProps ws) (posOf (wsProps ws) n) hi (by rw [hpe])
    (fun j hj => posOf_first _ _ j hj (by omega))] at h
  simp only [Option.some.injEq] at h
  subst h
  refine ⟨⟨w, hw, by simpa using hn, by simp, ?_⟩, rfl, rfl⟩
  cases hb : binary with
  | true => left; simp [hpe]
  | false =>
    right
    refine ⟨rfl, by simp, ?_⟩
    intro hu
    obtain ⟨r', hr', _, d, hd, hdn⟩ := uchar_claimed false ws (hA hb) w hw hu
    have := hun d (List.mem_filterMap.mpr ⟨r', hr', by rw [hb]; exact hd⟩)
    simp [Built.claims, hdn, hn] at this

theorem expect_reserved (r : RProp) (hr : r ∈ defaultReaders) (b : Built)
    (h : expectBuilt binary ws r = some b) : ∀ n ∈ b.names, n ∈ reservedNames := by
  simp only [expectBuilt, Option.map_eq_some_iff] at h
  obtain ⟨⟨ns, t⟩, hex, rfl⟩ := h
  obtain ⟨_, _, _, _, hor⟩ := expectNames_some ws r ns _ hex
  intro n hn
  have : n ∈ r.names := by
    rcases hor with h | ⟨_, h⟩
    · rw [← h]; exact hn
    · simp only [h] at hn; exact List.mem_of_mem_take hn
  exact List.mem_flatten.mpr ⟨r.names, List.mem_map.mpr ⟨r, hr, rfl⟩, this⟩

/-- a writer whose names a default reader recognises is predicted to be claimed, under exactly its names -/
theorem expect_of_comesBack (hnd : (wsNames ws).Nodup) (hg : claimGuard ws = true) (w : WProp)
    (hw : w ∈ ws) (r : RProp) (hr : r ∈ defaultReaders)
    (hnames : r.names = w.names ∨ (r.ignorableW = true ∧ r.names.take 3 = w.names)) :
    ∃ t, expectNames ws r = some (w.names, t) := by
  obtain ⟨s1, s2, s3⟩ := defaultReaders_shape r hr
  rcases hnames with hn | ⟨hign, hn⟩
  · by_cases hone : r.names.length = 1
    · have : (ws.find? (fun w' => r.names.all (fun n => w'.names.contains n))).isSome = true := by
        rw [List.find?_isSome]; exact ⟨w, hw, by simp [hn]⟩
      obtain ⟨w', hw'⟩ := Option.isSome_iff_exists.mp this
      exact ⟨w'.ty, by rw [← hn]; simp only [expectNames, hone, if_true, hw', Option.map_some]⟩
    · have : (ws.find? (fun w' => w'.names == r.names)).isSome = true := by
        rw [List.find?_isSome]; exact ⟨w, hw, by simp [hn]⟩
      obtain ⟨w', hw'⟩ := Option.isSome_iff_exists.mp this
      exact ⟨w'.ty, by rw [← hn]; simp only [expectNames, hone, if_false, hw']⟩
  · have h4 := s3 hign
    have hone : r.names.length ≠ 1 := by omega
    have hmem : ∀ k (hk : k < 3), r.names[k]'(by omega) ∈ w.names := by
      intro k hk
      rw [← hn]
      have : (r.names.take 3)[k]'(by simp [h4]; omega) = r.names[k]'(by omega) := by simp
      rw [← this]; exact List.getElem_mem _
    have hf : ws.find? (fun w' => w'.names == r.names) = none := by
      cases hf : ws.find? (fun w' => w'.names == r.names) with
      | none => rfl
      | some w' =>
        exfalso
        have hw' := List.mem_of_find?_eq_some hf
        have hwn : w'.names = r.names := by simpa using List.find?_some hf
        have := same_writer ws hnd w w' hw hw' (r.names[0]'(by omega)) (hmem 0 (by omega))
          (by rw [hwn]; exact List.getElem_mem _)
        subst this
        have h3 : w.names.length = 3 := by rw [← hn]; simp [h4]
        rw [hwn] at h3; omega
    cases hex : expectNames ws r with
    | none =>
      exfalso
      obtain ⟨k, hk, hk3, habs⟩ := guard_absent ws r hone ((claimGuard_parts ws hg).1 r hr) hex
      exact habs (r.names[k], w.ty) ((mem_wsProps ws _ _).mpr ⟨w, hw, hmem k (hk3 hign), rfl⟩) rfl
    | some p =>
      obtain ⟨ns, t⟩ := p
      obtain ⟨_, _, _, _, hor⟩ := expectNames_some ws r ns t hex
      rcases hor with h | ⟨_, h⟩
      · exfalso
        subst h
        simp only [expectNames, hone, if_false, hf, hign, if_true] at hex
        split at hex
        · split at hex
          · simp only [Option.some.injEq, Prod.mk.injEq] at hex
            have := congrArg List.length hex.1
            simp [h4] at this
          · simp at hex
        · simp at hex
      · exact ⟨t, by rw [← hn, ← h]⟩

/-- the default readers that fire on the header of `ws`, as predicted -/
def fired : List Built := defaultReaders.filterMap (expectBuilt binary ws)

/-- inside the guard the claim stage is this list -/
theorem buildAll_guard (hnd : (wsNames ws).Nodup) (hg : claimGuard ws = true) :
    buildAll binary (wsProps ws) defaultReaders true
      = fired binary ws ++ (unclaimed (wsProps ws) (fired binary ws)).map (v1Of binary (wsProps ws)) := by
  have hpn : ((wsProps ws).map (·.1)).Nodup := by rw [wsProps_names]; exact hnd
  simp only [buildAll, if_true, built_default binary ws hnd hg, addUnclaimed_exact binary _ hpn, fired]

theorem key_v1Of (props : List (Bytes × SType)) (p : Bytes × SType) : Built.key (v1Of binary props p) = (1, p.1) := rfl

/-- the claim stage on the header of `ws`, inside the guard (binary offsets or ASCII columns): every built reader is
`Good`, no two share a key, every writer the reader recognises has a reader with its attribute and exactly its names -/
theorem claim_of_guard_ws (hnd : (wsNames ws).Nodup) (hg : claimGuard ws = true)
    (hA : binary = false → asciiGuard ws = true) :
    (∀ b ∈ buildAll binary (headerProps ws) defaultReaders true, Good binary ws b) ∧
    ((buildAll binary (headerProps ws) defaultReaders true).map Built.key).Nodup ∧
    (∀ w ∈ ws, comesBack w = true →
      ∃ b ∈ buildAll binary (headerProps ws) defaultReaders true, b.attr = w.attr ∧ b.names = w.names) := by
  have hpn : ((wsProps ws).map (·.1)).Nodup := by rw [wsProps_names]; exact hnd
  rw [← wsProps_eq, buildAll_guard binary ws hnd hg]
  have hfired : ∀ b ∈ fired binary ws, ∃ r ∈ defaultReaders, expectBuilt binary ws r = some b := fun b hb =>
    List.mem_filterMap.mp hb
  refine ⟨?_, ?_, ?_⟩
  · intro b hb
    rcases List.mem_append.mp hb with hb | hb
    · obtain ⟨r, hr, hrb⟩ := hfired b hb
      exact (expectBuilt_good binary ws hA r hr b hrb).1
    · obtain ⟨p, hp, rfl⟩ := List.mem_map.mp hb
      obtain ⟨hp, hun⟩ := (mem_unclaimed _ _ _).mp hp
      exact (buildV1_good binary ws hnd hA p hp _ (buildV1_mem binary _ hpn p hp) hun).1
  · rw [List.map_append, List.map_map, List.nodup_append]
    refine ⟨?_, ?_, ?_⟩
    · have : (fired binary ws).map Built.key = expectKeys ws := by
        simp only [fired, List.map_filterMap, expectKeys]
        apply ListM.filterMap_congr
        intro r _
        simp [expectBuilt, Option.map_map, Built.key, Function.comp_def]
      rw [this]; exact (claimGuard_parts ws hg).2.1
    · -- the scalar readers: keys `(1, name)`, names distinct
      have : (unclaimed (wsProps ws) (fired binary ws)).map (Built.key ∘ v1Of binary (wsProps ws))
          = ((unclaimed (wsProps ws) (fired binary ws)).map (·.1)).map (Prod.mk 1) := by
        simp [List.map_map, Function.comp_def, key_v1Of]
      rw [this]
      exact (List.Nodup.sublist (List.Sublist.map _ List.filter_sublist) hpn).map (Prod.mk 1) (fun a b h e => h (Prod.mk.inj e).2)
    · -- a fired default reader with a scalar key is not named like a property (third part of the guard)
      intro k hk k' hk' e
      subst e
      obtain ⟨b, hb, hbk⟩ := List.mem_map.mp hk
      obtain ⟨p, hp, hpk⟩ := List.mem_map.mp hk'
      obtain ⟨hp, -⟩ := (mem_unclaimed _ _ _).mp hp
      obtain ⟨r, hr, hrb⟩ := hfired b hb
      obtain ⟨_, hattr, hor, hex⟩ := expectBuilt_good binary ws hA r hr b hrb
      obtain ⟨_, _, s3⟩ := defaultReaders_shape r hr
      have hkey : Built.key b = (1, p.1) := hbk.trans hpk.symm
      simp only [Built.key, Prod.mk.injEq] at hkey
      have hone : r.names.length = 1 := by
        rcases hor with h | ⟨hi, h⟩
        · rw [← h]; exact hkey.1
        · have := s3 hi
          rw [h] at hkey; simp [this] at hkey
      refine (claimGuard_parts ws hg).2.2 r hr hone hex ?_
      rw [← hattr, hkey.2]; exact props_name_mem ws p hp
  · intro w hw hcb
    simp only [comesBack, Bool.or_eq_true, List.any_eq_true, Bool.and_eq_true, decide_eq_true_eq,
      Bool.not_eq_true'] at hcb
    rcases hcb with ⟨r, hr, hattr, hnames⟩ | ⟨hself, hres⟩
    · obtain ⟨t, hex⟩ := expect_of_comesBack ws hnd hg w hw r hr hnames
      exact ⟨⟨r.attr, w.names, (w.names.map (posOf (wsProps ws))).map (locOf binary (wsProps ws)), tyOf binary r t⟩,
        List.mem_append_left _ (List.mem_filterMap.mpr ⟨r, hr, by simp [expectBuilt, hex]⟩), hattr, rfl⟩
    · have hmem : (w.attr, w.ty) ∈ wsProps ws := (mem_wsProps ws _ _).mpr ⟨w, hw, by simp [hself], rfl⟩
      refine ⟨v1Of binary (wsProps ws) (w.attr, w.ty), List.mem_append_right _ (List.mem_map.mpr ⟨_,
        (mem_unclaimed _ _ _).mpr ⟨hmem, ?_⟩, rfl⟩), rfl, by simp [v1Of, hself]⟩
      intro b hb
      obtain ⟨r, hr, hrb⟩ := hfired b hb
      simp only [Built.claims, List.contains_eq_mem, decide_eq_false_iff_not]
      intro hc
      have := expect_reserved binary ws r hr b hrb _ hc
      simp [List.contains_eq_mem, this] at hres

end

/-- from membership and distinct keys to the indexed form `ClaimOK` / `ClaimOKA` ask for -/
theorem demanded_of_keys (L : List Built) (f : Built → List Nat) (hk : (L.map Built.key).Nodup) (b : Built) (hb : b ∈ L) :
    ∃ j, ∃ hj : j < (L.map (fun b => (b, f b))).length, ((L.map (fun b => (b, f b)))[j]).1 = b ∧
      ∀ j' (hj' : j' < (L.map (fun b => (b, f b))).length), j < j' →
        Built.key ((L.map (fun b => (b, f b)))[j']).1 ≠ Built.key ((L.map (fun b => (b, f b)))[j]).1 := by
  obtain ⟨j, hj, hje⟩ := List.getElem_of_mem hb
  refine ⟨j, by simpa using hj, by simp [hje], ?_⟩
  intro j' hj' hlt
  have hj'' : j' < L.length := by simpa using hj'
  have := (List.pairwise_iff_getElem.mp hk) j j' (by simpa using hj) (by simpa using hj'') hlt
  simp only [List.getElem_map] at this ⊢
  exact fun e => this e.symm

/-- the claim stage from the header-level guard (binary): for property names that are pairwise distinct (what a successful
`MeshWriter.Write` guarantees) and writers inside `claimGuard`, the readers `MeshReader.Read` builds on the written
header are located where their names are, and every writer the reader recognises has its reader, the only one with that
key — `ClaimOK`, the hypothesis of the composed round-trip theorems, with the reader list `buildAll` itself as witness -/
theorem claimOK_of_guard {α : Type} (cfg : WriterCfg) (m : MeshVal α)
    (hnd : (wsNames (selectWriters cfg m)).Nodup) (hg : claimGuard (selectWriters cfg m) = true) :
    ClaimOK cfg m ((buildAll true (headerProps (selectWriters cfg m)) defaultReaders true).map
      (fun b => (b, b.names.map (posOf (headerProps (selectWriters cfg m)))))) := by
  obtain ⟨h1, h2, h3⟩ := claim_of_guard_ws true (selectWriters cfg m) hnd hg (by simp)
  refine ⟨by simp [Function.comp_def], ?_, ?_⟩
  · intro p hp
    obtain ⟨b, hb, rfl⟩ := List.mem_map.mp hp
    exact located_of_good _ hnd b (h1 b hb)
  · intro w hw hcb
    obtain ⟨b, hb, ha, hn⟩ := h3 w hw hcb
    obtain ⟨j, hj, hje, hlast⟩ := demanded_of_keys _ (fun b => b.names.map (posOf (headerProps (selectWriters cfg m)))) h2 b hb
    exact ⟨j, hj, by rw [hje]; exact ha, by rw [hje]; exact hn, hlast⟩

section
variable (binary : Bool) (ws : List WProp)

theorem any_filterMap' {β γ : Type} (f : β → Option γ) (q : γ → Bool) : ∀ (l : List β),
    (l.filterMap f).any q = l.any (fun x => match f x with | some y => q y | none => false) := by
  intro l
  induction l with
  | nil => rfl
  | cons x l ih =>
    cases hf : f x with
    | none => simp [hf, ih]
    | some y => simp [hf, ih]

theorem claimSpec_exact (hnd : (wsNames ws).Nodup) (hg : claimGuard ws = true) :
    (buildAll true (wsProps ws) defaultReaders true).map (fun b => (b.attr, b.names, b.ty))
      = (claimSpec ws).map (fun x => (x.1, x.2.1, some x.2.2)) := by
  rw [buildAll_guard true ws hnd hg]
  simp only [fired, unclaimed, claimSpec, List.map_append, List.map_map]
  congr 1
  · simp only [List.map_filterMap]
    apply ListM.filterMap_congr
    intro r _
    cases he : expectNames ws r <;> simp [expectBuilt, he, tyOf]
  · have hf : ∀ p ∈ wsProps ws,
        (!(defaultReaders.filterMap (expectBuilt true ws)).any (fun b => b.claims p.1))
        = (!(defaultReaders.filterMap (fun r => (expectNames ws r).map (fun q => (r.attr, q.1, q.2)))).any
            (fun x => x.2.1.contains p.1)) := by
      intro p _
      rw [any_filterMap', any_filterMap']
      congr 2
      funext r
      cases he : expectNames ws r <;> simp [expectBuilt, he, Built.claims]
    rw [List.filter_congr hf]
    apply List.map_congr_left
    intro p _
    simp [v1Of]

/-- the oracle predicate `claimAgrees` holds on the header the MODEL writer produces -/
theorem claimAgrees_of_guard (hnd : (wsNames ws).Nodup) : claimAgrees ws (wsProps ws) = true := by
  simp only [claimAgrees, beq_self_eq_true, Bool.true_and, Bool.or_eq_true, Bool.not_eq_true', beq_iff_eq]
  by_cases hg : claimGuard ws = true
  · exact .inr (claimSpec_exact ws hnd hg)
  · exact .inl (by simpa using hg)

end

end PlyClaim
end PolyVerif
