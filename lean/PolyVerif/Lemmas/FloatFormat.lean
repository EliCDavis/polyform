/-
  One IEEE-style binary format, over two parameters: `P = 2^t` (`t` trailing significand bits) and the common
  denominator `c = 2^(bias + t)`.  A non-negative pattern `h` has exponent field `h / P` and trailing significand
  `h % P`; its magnitude is `num P h / c`; consecutive patterns are one unit in the last place `2^(ulpExp P h) / c`
  apart — across the carry into the next exponent as well — so the magnitude is strictly increasing on ALL of ℕ
  (the infinity pattern and what follows carry the would-be next values) and the order theory is `StrictMono` with
  no bound on the pattern.  Built on this: the §3.4 value formula (`ieee_value`), and rounding to a nearest neighbour
  (`Nearest`): half-ulp and relative error, nearest of all patterns, exactness.
  Lemmas/Binary32.lean and Lemmas/Half.lean show the fixed binary32 / binary16 definitions equal to the instances
  `(8388608, 2^150)` and `(1024, 2^25)` below the sign bit (`num_eq`, `ulpExp_eq`, `val_eq`) and their encoders to
  produce a `Nearest` (`B32.Bracket.nearest`, `Half.encodeMag_isNearest`); no error bound is proved per width.
-/
import Mathlib.Tactic

namespace PolyVerif
namespace FloatFormat

/-- numerator of the magnitude with exponent field `q` and trailing significand `m < P`: `m·2` (subnormal),
    `(P + m)·2^q` (normal) -/
def mag (P q m : Nat) : Nat := if q = 0 then m * 2 else (P + m) * 2 ^ q

/-! ### patterns: integer numerator, unit in the last place -/

def num (P h : Nat) : Nat := mag P (h / P) (h % P)

/-- exponent of the unit in the last place -/
def ulpExp (P h : Nat) : Nat := max (h / P) 1

variable {P : Nat}

/-- the next pattern is one unit in the last place further, whether the significand steps (`m + 1 < P`) or carries
    into the exponent (`m + 1 = P`) -/
theorem num_succ (hP : 0 < P) (h : Nat) : num P (h + 1) = num P h + 2 ^ ulpExp P h := by
  unfold num ulpExp
  have hm := Nat.mod_lt h hP
  have hh : h + 1 = P * (h / P) + (h % P + 1) := by rw [← Nat.add_assoc, Nat.div_add_mod]
  generalize h / P = q at *
  generalize h % P = m at *
  rw [hh]
  by_cases hc : m + 1 < P
  · rw [Nat.mul_add_div hP, Nat.div_eq_of_lt hc, Nat.mul_add_mod, Nat.mod_eq_of_lt hc, Nat.add_zero]
    unfold mag
    by_cases h0 : q = 0
    · subst h0; simp only [if_true, Nat.zero_max, pow_one]; omega
    · rw [if_neg h0, if_neg h0, Nat.max_eq_left (by omega)]; ring
  · have e : m + 1 = P := by omega
    rw [e, show P * q + P = P * (q + 1) from (Nat.mul_succ P q).symm, Nat.mul_div_cancel_left _ hP,
      Nat.mul_mod_right]
    unfold mag
    rw [if_neg (Nat.succ_ne_zero q), ← e, pow_succ]
    by_cases h0 : q = 0
    · subst h0; simp only [if_true, Nat.zero_max, pow_one, pow_zero]; omega
    · rw [if_neg h0, Nat.max_eq_left (by omega)]; ring

theorem num_strictMono (hP : 0 < P) : StrictMono (num P) :=
  strictMono_nat_of_lt_succ fun h => by
    rw [num_succ hP]; exact Nat.lt_add_of_pos_right (Nat.pow_pos (by norm_num))

/-- significand times unit: `num = s·2^ulpExp` with `s < 2P`, and `P ≤ s` from the first normal pattern on -/
theorem num_sig (hP : 0 < P) (h : Nat) :
    ∃ s, s < 2 * P ∧ (P ≤ h → P ≤ s) ∧ num P h = s * 2 ^ ulpExp P h := by
  have hm := Nat.mod_lt h hP
  unfold num mag ulpExp
  by_cases h0 : h / P = 0
  · refine ⟨h % P, by omega, fun hn => ?_, by simp [h0]⟩
    exact absurd ((Nat.div_eq_zero_iff_lt hP).mp h0) (by omega)
  · exact ⟨P + h % P, by omega, fun _ => Nat.le_add_right _ _, by rw [if_neg h0, Nat.max_eq_left (Nat.pos_of_ne_zero h0)]⟩

theorem ulpExp_mono {a b : Nat} (hab : a ≤ b) : ulpExp P a ≤ ulpExp P b :=
  max_le_max (Nat.div_le_div_right hab) (le_refl 1)

/-! ### magnitudes over ℝ -/

noncomputable def val (P : Nat) (c : ℝ) (h : Nat) : ℝ := (num P h : ℝ) / c

variable {c : ℝ}

theorem val_succ (hP : 0 < P) (h : Nat) : val P c (h + 1) = val P c h + 2 ^ ulpExp P h / c := by
  unfold val; rw [num_succ hP]; push_cast; ring

theorem val_strictMono (hP : 0 < P) (hc : 0 < c) : StrictMono (val P c) := fun _ _ hab =>
  div_lt_div_of_pos_right (Nat.cast_lt.mpr (num_strictMono hP hab)) hc

/-- IEEE 754-2008 §3.4 c)–e) for `t` trailing significand bits and bias `b` (`emin = 1 − b`), as both
    `Ieee.binary32` and `Ieee.binary16` write it: `(−1)^S · 2^(Ex − b) · (1 + 2^−t · T)` for a normal exponent field,
    `(−1)^S · 2^emin · (0 + 2^−t · T)` for `Ex = 0`, is `± mag / 2^(b + t)`.  `tz`, `bz`, `emin` stand beside `t`, `b`
    so that a caller names the integer literals of its instance (`23`, `127`, `-126`): left to unification they
    become casts `↑23`, and `rw` does not find the `2 ^ (-23)` of the fixed definition. -/
theorem ieee_value (t b Ex T : Nat) (S : Bool) (hP : P = 2 ^ t) {tz bz emin : ℤ} (ht : tz = t) (hb : bz = b)
    (he : emin = 1 - bz) (hc : c = 2 ^ (b + t)) :
    (if 1 ≤ Ex then (-1 : ℝ) ^ S.toNat * (2 : ℝ) ^ ((Ex : ℤ) - bz) * (1 + (2 : ℝ) ^ (-tz) * T)
      else (-1 : ℝ) ^ S.toNat * (2 : ℝ) ^ emin * (0 + (2 : ℝ) ^ (-tz) * T)) =
    (if S then -1 else 1) * ((mag P Ex T : ℝ) / c) := by
  have h2 : (2 : ℝ) ≠ 0 := by norm_num
  have hs : (-1 : ℝ) ^ S.toNat = if S then -1 else 1 := by cases S <;> norm_num
  subst hP ht hb he hc
  unfold mag
  rw [hs, zpow_neg, zpow_natCast, pow_add]
  by_cases h0 : Ex = 0
  · rw [if_neg (by omega), if_pos h0, zpow_sub₀ h2, zpow_natCast]; push_cast; field_simp; ring
  · rw [if_pos (by omega), if_neg h0, zpow_sub₀ h2, zpow_natCast, zpow_natCast]; push_cast; field_simp

/-- sign and magnitude: the error of `± v` against `x`, the sign being that of `x`, is the error of `v` against `|x|` -/
theorem abs_signed_sub (x v : ℝ) : |(if x < 0 then -1 else 1) * v - x| = |v - (|x|)| := by
  split_ifs with h
  · rw [abs_of_neg h, ← abs_neg]; congr 1; ring
  · rw [abs_of_nonneg (not_lt.mp h), one_mul]

/-! ### rounding to a nearest neighbour -/

/-- `h0`, `h0 + 1` bracket `x`, and `R` is one of the two that is not farther from `x` than the other (how a tie is
    broken is not recorded) -/
structure Nearest (P : Nat) (c x : ℝ) (h0 R : Nat) : Prop where
  lo : val P c h0 ≤ x
  hi : x < val P c (h0 + 1)
  choice : (R = h0 ∧ x - val P c h0 ≤ val P c (h0 + 1) - x) ∨
           (R = h0 + 1 ∧ val P c (h0 + 1) - x ≤ x - val P c h0)

namespace Nearest
variable {x : ℝ} {h0 R : Nat}

/-- through a function that agrees with `val` at the two neighbours (a fixed width-specific definition) -/
theorem of_eq {v : Nat → ℝ} (e0 : v h0 = val P c h0) (e1 : v (h0 + 1) = val P c (h0 + 1)) (lo : v h0 ≤ x)
    (hi : x < v (h0 + 1)) (ch : (R = h0 ∧ x - v h0 ≤ v (h0 + 1) - x) ∨ (R = h0 + 1 ∧ v (h0 + 1) - x ≤ x - v h0)) :
    Nearest P c x h0 R := by
  rw [e0, e1] at *; exact ⟨lo, hi, ch⟩

/-- from integers over a common denominator `k`: `val h0 = A/k ≤ x = Y/k < val (h0 + 1) = B/k`, the neighbour chosen by
    comparing `2·Y` with `A + B` -/
theorem of_nat {k : ℝ} {A Y B : Nat} (hk : 0 < k) (hv : val P c h0 = A / k) (hs : val P c (h0 + 1) = B / k)
    (hx : x = Y / k) (lo : A ≤ Y) (hi : Y < B)
    (ch : (R = h0 ∧ 2 * Y ≤ A + B) ∨ (R = h0 + 1 ∧ A + B ≤ 2 * Y)) : Nearest P c x h0 R := by
  subst hx
  refine ⟨hv ▸ div_le_div_of_nonneg_right (Nat.cast_le.mpr lo) hk.le,
    hs ▸ div_lt_div_of_pos_right (Nat.cast_lt.mpr hi) hk, ?_⟩
  rw [hv, hs, ← sub_div, ← sub_div]
  rcases ch with ⟨e, h⟩ | ⟨e, h⟩
  · have : (2 * Y : ℝ) ≤ A + B := by exact_mod_cast h
    exact Or.inl ⟨e, div_le_div_of_nonneg_right (by linarith) hk.le⟩
  · have : (A + B : ℝ) ≤ 2 * Y := by exact_mod_cast h
    exact Or.inr ⟨e, div_le_div_of_nonneg_right (by linarith) hk.le⟩

/-- the bracket is the floor: `k ≤ h0 ↔ val k ≤ x` -/
theorem le_iff (hP : 0 < P) (hc : 0 < c) (hN : Nearest P c x h0 R) (k : Nat) : k ≤ h0 ↔ val P c k ≤ x := by
  constructor
  · exact fun h => le_trans ((val_strictMono hP hc).monotone h) hN.lo
  · intro h
    by_contra hk
    exact absurd (lt_of_lt_of_le hN.hi ((val_strictMono hP hc).monotone (show h0 + 1 ≤ k by omega))) (not_lt.mpr h)

theorem unique (hP : 0 < P) (hc : 0 < c) (hN : Nearest P c x h0 R) {b : Nat} (h1 : val P c b ≤ x)
    (h2 : x < val P c (b + 1)) : h0 = b := by
  have a := (hN.le_iff hP hc b).mpr h1
  have := (hN.le_iff hP hc (b + 1)).not.mpr (not_le.mpr h2)
  omega

theorem abs_le (hN : Nearest P c x h0 R) :
    |val P c R - x| ≤ x - val P c h0 ∧ |val P c R - x| ≤ val P c (h0 + 1) - x := by
  have := hN.lo; have := hN.hi
  rcases hN.choice with ⟨rfl, h⟩ | ⟨rfl, h⟩
  · rw [abs_sub_comm, abs_of_nonneg (by linarith)]; exact ⟨le_refl _, h⟩
  · rw [abs_of_nonneg (by linarith)]; exact ⟨h, le_refl _⟩

/-- HALF A UNIT in the last place of the lower neighbour -/
theorem half_ulp (hP : 0 < P) (hN : Nearest P c x h0 R) : |val P c R - x| ≤ 2 ^ ulpExp P h0 / c / 2 := by
  obtain ⟨a, b⟩ := hN.abs_le
  rw [val_succ hP] at b
  linarith

/-- no pattern at all is nearer -/
theorem le_all (hP : 0 < P) (hc : 0 < c) (hN : Nearest P c x h0 R) (k : Nat) :
    |val P c R - x| ≤ |val P c k - x| := by
  obtain ⟨a, b⟩ := hN.abs_le
  have mono := (val_strictMono (c := c) hP hc).monotone
  by_cases hk : k ≤ h0
  · have := mono hk
    have e : |val P c k - x| = x - val P c k := by rw [abs_sub_comm, abs_of_nonneg (by linarith [hN.lo])]
    rw [e]; linarith
  · have := mono (show h0 + 1 ≤ k by omega)
    have e : |val P c k - x| = val P c k - x := abs_of_nonneg (by linarith [hN.hi])
    rw [e]; linarith

/-- EXACT on the format: a value of the format is its own nearest neighbour -/
theorem exact (hP : 0 < P) (hc : 0 < c) {b : Nat} (hN : Nearest P c (val P c b) h0 R) : R = b := by
  have lt := val_strictMono (c := c) hP hc (Nat.lt_succ_self b)
  have e := hN.unique hP hc (le_refl _) lt
  subst e
  rcases hN.choice with ⟨h, _⟩ | ⟨_, h⟩
  · exact h
  · linarith

/-- RELATIVE error `1/(2P)` from the first normal pattern on -/
theorem relative (hP : 0 < P) (hc : 0 < c) (hN : Nearest P c x h0 R) (hn : val P c P ≤ x) :
    |val P c R - x| ≤ x / (2 * P) := by
  obtain ⟨s, _, hs, e⟩ := num_sig hP h0
  have hs := hs ((hN.le_iff hP hc P).mpr hn)
  have hPR : (0 : ℝ) < P := Nat.cast_pos.mpr hP
  have hv : val P c h0 = s * (2 ^ ulpExp P h0 / c) := by unfold val; rw [e]; push_cast; ring
  have hu : (0 : ℝ) ≤ 2 ^ ulpExp P h0 / c := by positivity
  calc |val P c R - x| ≤ 2 ^ ulpExp P h0 / c / 2 := hN.half_ulp hP
    _ = P * (2 ^ ulpExp P h0 / c) / (2 * P) := by field_simp
    _ ≤ x / (2 * P) := by
        gcongr
        exact le_trans (mul_le_mul_of_nonneg_right (Nat.cast_le.mpr hs) hu) (hv ▸ hN.lo)

end Nearest

end FloatFormat
end PolyVerif
