/-
  C08 — the reader's face loop over the REFERENCE face encoding (`PlySpec.faceListBin`), binary: count type
  uchar | int | uint, index type int | uint, an optional `texcoord` list (float | double) before or after the index list,
  an optional unrecognised list first or last, both byte orders; triangles and quads (fan) with their per-corner texture
  coordinates, any other size rejected.  `go_list` reads one list whatever its kind and position, `go_lists` any run of
  located lists, `faceLoop_prefix` the faces (`faceLoop` is what `readFacesBin` and `readFacesAscii` both are).  The twelve
  layouts of `SpecFaceElem.lists` are split by cases here only in the `…_lists` lemmas and `listsEffect_points` (each runs
  the split for its own fact); everything after them speaks of `fe.lists`.  The definitions the C08 statements name come first and keep the
  namespaces (`PlyFaces`, `PlyFacesTex`) those statements use; everything else is in `PlyFaces`.  Core Lean only.
-/
import PolyVerif.Model.Ply
import PolyVerif.Model.PlySpec
import PolyVerif.Lemmas.Ply
import PolyVerif.Lemmas.PlyCompose

namespace PolyVerif
namespace PlyFaces
open Ply PlySpec PlyLemmas PlyCompose

variable {α : Type}

/-- the list count types `listBinaryPropertyReader.Count` implements -/
def CountTyOK (t : SType) : Prop := t = .uchar ∨ t = .int ∨ t = .uint
/-- the list item types `listBinaryPropertyReader.Int` implements -/
def IndexTyOK (t : SType) : Prop := t = .int ∨ t = .uint

instance (t : SType) : Decidable (CountTyOK t) := by unfold CountTyOK; infer_instance
instance (t : SType) : Decidable (IndexTyOK t) := by unfold IndexTyOK; infer_instance

/-- the guards under which a face is inside the reference grammar's binary encoding: vertex numbers are 31-bit, the
count fits its field -/
structure FaceEncOK (fe : SpecFaceElem α) (fc : SpecFace α) : Prop where
  vert : ∀ v ∈ fc.verts, v < 2 ^ 31
  cnt8 : fe.cntTy = .uchar → fc.verts.length < 256
  cnt : fc.verts.length < 2 ^ 31
  extra : fc.extra.length < 256

/-- a face of the supported sizes -/
def TriOrQuad (fc : SpecFace α) : Prop := fc.verts.length = 3 ∨ fc.verts.length = 4

/-- indices the file denotes: fan triangles in file order -/
def fanIdx (faces : List (SpecFace α)) : List Int := (faces.map (fun fc => fan fc.verts)).flatten

end PlyFaces

namespace PlyFacesTex
open Ply PlySpec PlyFaces

variable {α : Type}

/-- the list item types `listBinaryPropertyReader.Float64` implements -/
def TexTyOK (t : SType) : Prop := t = .float ∨ t = .double
instance (t : SType) : Decidable (TexTyOK t) := by unfold TexTyOK; infer_instance

/-- what the binary reader makes of a stored texture coordinate: the float32 image for `float`, the float64 image for
`double` -/
def imgTex (c : Coding α) (t : SType) (x : α) : α :=
  match t with
  | .double => c.unf64 (c.f64 x)
  | _ => c.unf32 (c.f32 x)

/-- a textured face inside the covered grammar: two coordinates per listed vertex -/
structure FaceTexOK (fe : SpecFaceElem α) (fc : SpecFace α) : Prop extends FaceEncOK fe fc where
  uvLen : fc.uv.length = 2 * fc.verts.length

/-- per-corner texture coordinates the file denotes, as the binary reader stores them -/
def texUV (c : Coding α) (it : SType) (faces : List (SpecFace α)) : List (List α) :=
  (faces.map (fun fc => fanUV (fc.uv.map (imgTex c it)))).flatten

end PlyFacesTex

namespace PlyFaces
open Ply PlySpec PlyLemmas PlyCompose PlyFacesTex

variable {α : Type}

/-- a `mapM` in `R` all of whose steps succeed -/
theorem mapM_ok_filterMap {ι β : Type} (f : ι → R β) (h : ι → Option β) : ∀ (l : List ι),
    (∀ x ∈ l, ∃ y, f x = .ok y ∧ h x = some y) → l.mapM f = .ok (l.filterMap h)
  | [], _ => rfl
  | x :: l, H => by
    obtain ⟨y, h1, h2⟩ := H x (by simp)
    simp only [List.mapM_cons, h1, mapM_ok_filterMap f h l (fun z hz => H z (by simp [hz])), List.filterMap_cons, h2,
      bind, Except.bind, pure, Except.pure]

/-- reading fixed-size chunks at offsets `i * s` of their concatenation -/
theorem mapM_range_chunks {β W : Type} (s : Nat) (enc : W → Bytes) (dec : W → β) (rd : Bytes → Option β)
    (hlen : ∀ w, (enc w).length = s) (hrd : ∀ w tail, rd (enc w ++ tail) = some (dec w)) (ws : List W) :
    (List.range ws.length).mapM (fun i => rd (((ws.map enc).flatten).drop (i * s))) = some (ws.map dec) := by
  have := Chunks.mapM_range_chunks enc s [] ws (fun w _ => hlen w) rd dec fun w _ => hrd w
  rwa [List.append_nil, List.flatMap_def] at this

section
variable (c : Coding α) (e : Endian) (ct it : SType)

/-- one list property in the reference encoding: count field of a type the reader implements, then the payload -/
theorem readListBin_ref (hct : CountTyOK ct) (n : Nat) (hn8 : ct = .uchar → n < 256)
    (hn : n < 2 ^ 31) (pl rest : Bytes) (hpl : pl.length = n * it.size) :
    readListBin e ct it (putCount e ct (n : Int) ++ (pl ++ rest)) = .ok ((n : Int), pl, rest) := by
  have hneg : ¬ ((n : Int) < 0) := by omega
  have ht : toInt32 (ofInt32 (n : Int)) = n := toInt32_ofInt32' _ ⟨by omega, by omega⟩
  have h4 : ∀ w l, (put32 e w ++ l).drop 4 = l := fun w l => by rw [← put32_length e w, List.drop_left]
  rcases hct with rfl | rfl | rfl
  · have hb : (UInt8.ofNat n).toNat = n := by simp [UInt8.toNat_ofNat']; have := hn8 rfl; omega
    simp [readListBin, putCount, bind, Except.bind, pure, Except.pure, hb, hpl]
    rw [if_neg hneg, if_neg (by omega)]
  all_goals
    simp [readListBin, putCount, bind, Except.bind, pure, Except.pure, put32_get32, h4, ht, hpl]
    rw [if_neg hneg, if_neg (by omega)]

/-- a count type the reader does not implement is an error (`Count`: "unimplemented list property count type") -/
theorem readListBin_badCount (hct : ¬ CountTyOK ct) (bs : Bytes) :
    readListBin e ct it bs = .error .err := by
  cases ct <;> simp_all [CountTyOK, readListBin, bind, Except.bind]

theorem putCount_index (hit : IndexTyOK it) (v : Int) : putCount e it v = put32 e (ofInt32 v) := by
  rcases hit with rfl | rfl <;> rfl

theorem intPayload_length (hit : IndexTyOK it) (xs : List Int) :
    ((xs.map (putCount e it)).flatten).length = xs.length * it.size := by
  have hs : it.size = 4 := by rcases hit with rfl | rfl <;> rfl
  rw [hs]
  induction xs with
  | nil => rfl
  | cons x xs ih => simp [putCount_index e it hit, put32_length, ih]; omega

/-- `Int(indicesBuf)` on a reference-encoded integer list: the listed numbers when they fit the 4-entry buffer, an
(ignored) error otherwise -/
theorem listIntsBin_ref (hit : IndexTyOK it) (xs : List Int)
    (hx : ∀ x ∈ xs, -(2 ^ 31 : Int) ≤ x ∧ x < 2 ^ 31) :
    listIntsBin e it xs.length ((xs.map (putCount e it)).flatten) 4 = if xs.length ≤ 4 then some xs else none := by
  by_cases hl : xs.length ≤ 4
  · have h4 : ¬ (4 < xs.length) := by omega
    have := mapM_range_chunks 4 (putCount e it) (fun x => toInt32 (ofInt32 x)) (fun bs => (get32 e bs).map toInt32)
      (fun x => by rw [putCount_index e it hit, put32_length])
      (fun x tail => by rw [putCount_index e it hit, put32_get32]; rfl) xs
    rw [List.map_congr_left (g := id) (fun x h => toInt32_ofInt32' x (hx x h)), List.map_id] at this
    rcases hit with rfl | rfl <;> simpa [listIntsBin, h4, hl] using this
  · have : 4 < xs.length := by omega
    simp [listIntsBin, this, hl]

theorem texPayload_length (hit : TexTyOK it) (uv : List α) :
    ((uv.map (putItemF c e it)).flatten).length = uv.length * it.size := by
  induction uv with
  | nil => simp
  | cons x xs ih =>
    rcases hit with rfl | rfl <;>
      simp [putItemF, put32_length, put64_length, SType.size, Nat.add_mul] at ih ⊢ <;> omega

/-- `Float64(texBuf)` on a reference-encoded `texcoord` list -/
theorem listFloatsBin_ref (hit : TexTyOK it) (uv : List α) :
    listFloatsBin c e it uv.length ((uv.map (putItemF c e it)).flatten) 8
      = if uv.length ≤ 8 then some (uv.map (imgTex c it)) else none := by
  by_cases hl : uv.length ≤ 8
  · have h8 : ¬ (8 < uv.length) := by omega
    rw [if_pos hl]
    rcases hit with rfl | rfl
    · have := mapM_range_chunks 4 (putItemF c e .float) (imgTex c .float)
        (fun bs => (get32 e bs).map c.unf32) (fun w => put32_length e _)
        (fun w tail => by show (get32 e (put32 e _ ++ tail)).map c.unf32 = _; rw [put32_get32]; rfl) uv
      simpa [listFloatsBin, h8] using this
    · have := mapM_range_chunks 8 (putItemF c e .double) (imgTex c .double)
        (fun bs => (get64 e bs).map c.unf64) (fun w => put64_length e _)
        (fun w tail => by show (get64 e (put64 e _ ++ tail)).map c.unf64 = _; rw [put64_get64]; rfl) uv
      simpa [listFloatsBin, h8] using this
  · have : 8 < uv.length := by omega
    simp [listFloatsBin, this, hl]

end

/-- a list declaration of `SpecFaceElem.lists`: kind (0 = indices, 1 = texcoord, other = unrecognised), name, count type,
item type, alias -/
abbrev ListDecl := Nat × Bytes × SType × SType × Bool

/-- 0 = the index list, 1 = `texcoord`, anything else = a list the reader does not look at (`SpecFaceElem.lists`) -/
abbrev ListDecl.kind (x : ListDecl) : Nat := x.1
abbrev ListDecl.cntTy (x : ListDecl) : SType := x.2.2.1
abbrev ListDecl.itemTy (x : ListDecl) : SType := x.2.2.2.1

/-- the declaration as the header parser hands it to the reader -/
def ListDecl.prop (x : ListDecl) : Bytes × SType × SType := (x.2.1, x.cntTy, x.itemTy)

/-- the face element's list declarations as the header parser hands them to the reader -/
def lpOf (fe : SpecFaceElem α) : List (Bytes × SType × SType) := fe.lists.map ListDecl.prop

theorem listProps_lists (fe : SpecFaceElem α) :
    listProps (fe.lists.map (fun x => PProp.list x.2.1 x.2.2.1 x.2.2.2.1)) = some (lpOf fe) := by
  simp only [lpOf]
  induction fe.lists with
  | nil => rfl
  | cons x xs ih => simp [listProps, ih, ListDecl.prop]

/-- number of entries of list `kind` of a face -/
def listLen (fc : SpecFace α) : Nat → Nat
  | 0 => fc.verts.length
  | 1 => fc.uv.length
  | _ => fc.extra.length

/-- what the reader's property loop does with list `kind` of a face whose index list is `vs` and whose texture
coordinates decode to `uv`: the index list sets `points` and, when it fits, `indicesBuf`; `texcoord`, when it fits,
`texBuf` (an overlong list is an error the binary reader ignores); any other list is skipped -/
def listEffect (vs : List Nat) (uv : List α) (st : Int × FaceBufs α) : Nat → Int × FaceBufs α
  | 0 => ((vs.length : Nat),
      if vs.length ≤ 4 then { st.2 with idx := overwrite st.2.idx (vs.map (fun v => ((v : Nat) : Int))) } else st.2)
  | 1 => (st.1, if uv.length ≤ 8 then { st.2 with tex := overwrite st.2.tex uv } else st.2)
  | _ => st

/-- the scan has located list `x`, declared at position `i`: it is the index list iff its kind is 0, `texcoord` iff 1 -/
def Found (fs : FaceScan) (x : ListDecl) (i : Nat) : Prop :=
  (fs.idxProp = some i ↔ x.kind = 0) ∧ (fs.texProp = some i ↔ x.kind = 1)

/-- list `x` of face `fc`, declared at position `i`, is inside what the binary reader implements: count and item type,
a count that fits its field, 31-bit vertex numbers; `uv` is what its texture coordinates decode to -/
structure ListOK (c : Coding α) (fs : FaceScan) (fc : SpecFace α) (uv : List α) (x : ListDecl) (i : Nat) : Prop where
  found : Found fs x i
  cnt : CountTyOK x.cntTy
  len8 : x.cntTy = .uchar → listLen fc x.kind < 256
  len : listLen fc x.kind < 2 ^ 31
  idx : x.kind = 0 → IndexTyOK x.itemTy ∧ ∀ v ∈ fc.verts, v < 2 ^ 31
  tex : x.kind = 1 → TexTyOK x.itemTy ∧ uv = fc.uv.map (imgTex c x.itemTy)
  other : 2 ≤ x.kind → IndexTyOK x.itemTy

/-- the state of the property loop after the lists of kinds `ks` -/
def listsEffect (vs : List Nat) (uv : List α) (ks : List Nat) (st : Int × FaceBufs α) : Int × FaceBufs α :=
  ks.foldl (listEffect vs uv) st

section
variable (c : Coding α) (e : Endian) (fs : FaceScan) (fc : SpecFace α) (uv : List α)

/-- face-property loop, one step: whatever its kind and position, the list is consumed exactly -/
theorem go_list (x : ListDecl) (i : Nat)
    (h : ListOK c fs fc uv x i) (tl : List ((Bytes × SType × SType) × Nat)) (st : Int × FaceBufs α) (rest : Bytes) :
    readFaceBin.go c e fs ((x.prop, i) :: tl) st.1 st.2 (faceListBin c e fc x ++ rest)
      = readFaceBin.go c e fs tl (listEffect fc.verts uv st x.kind).1 (listEffect fc.verts uv st x.kind).2 rest := by
  obtain ⟨k, name, ct, it, al⟩ := x
  obtain ⟨⟨hi, ht⟩, hct, h8, hn, hidx, htex, hoth⟩ := h
  simp only [ListDecl.kind, ListDecl.cntTy, ListDecl.itemTy] at hi ht hct h8 hn hidx htex hoth
  rcases k with _ | _ | k
  · obtain ⟨hit, hv⟩ := hidx rfl
    have hI : fs.idxProp = some i := hi.mpr rfl
    have hT : fs.texProp ≠ some i := fun h => by simpa using ht.mp h
    have hr := readListBin_ref e ct it hct fc.verts.length h8 hn
      (((fc.verts.map (fun v => ((v : Nat) : Int))).map (putCount e it)).flatten) rest
      (by rw [intPayload_length e it hit, List.length_map])
    have hl := listIntsBin_ref e it hit (fc.verts.map (fun v => ((v : Nat) : Int)))
      (fun x hx => by obtain ⟨v, hv', rfl⟩ := List.mem_map.mp hx; have := hv v hv'; omega)
    simp only [List.map_map, Function.comp_def, List.length_map] at hr hl
    simp only [faceListBin, ListDecl.prop, List.append_assoc, readFaceBin.go, hr, bind, Except.bind, hI, hT, if_true,
      if_false, Int.toNat_natCast, hl, listEffect]
    by_cases h4 : fc.verts.length ≤ 4 <;> simp [h4]
  · obtain ⟨hit, rfl⟩ := htex rfl
    have hI : fs.idxProp ≠ some i := fun h => by simpa using hi.mp h
    have hT : fs.texProp = some i := ht.mpr rfl
    have hr := readListBin_ref e ct it hct fc.uv.length h8 hn _ rest (texPayload_length c e it hit fc.uv)
    have hl := listFloatsBin_ref c e it hit fc.uv
    simp only [faceListBin, ListDecl.prop, List.append_assoc, readFaceBin.go, hr, bind, Except.bind, hI, hT, if_true,
      if_false, Int.toNat_natCast, hl, listEffect, List.length_map]
    by_cases h8u : fc.uv.length ≤ 8 <;> simp [h8u]
  · have hit := hoth (by omega)
    have hI : fs.idxProp ≠ some i := fun h => by simpa using hi.mp h
    have hT : fs.texProp ≠ some i := fun h => by simpa using ht.mp h
    have hr := readListBin_ref e ct it hct fc.extra.length h8 hn _ rest (intPayload_length e it hit fc.extra)
    simp only [faceListBin, ListDecl.prop, List.append_assoc, readFaceBin.go, hr, bind, Except.bind, hI, hT, if_false,
      listEffect]

/-- THE PROPERTY LOOP over any run of list declarations the scan has located, from position `k` on -/
theorem go_lists :
    ∀ (ls : List ListDecl) (k : Nat), (∀ p ∈ ls.zipIdx k, ListOK c fs fc uv p.1 p.2) →
      ∀ (st : Int × FaceBufs α) (rest : Bytes),
        readFaceBin.go c e fs ((ls.map ListDecl.prop).zipIdx k) st.1 st.2 ((ls.map (faceListBin c e fc)).flatten ++ rest)
          = .ok ((listsEffect fc.verts uv (ls.map ListDecl.kind) st).1, (listsEffect fc.verts uv (ls.map ListDecl.kind) st).2, rest)
  | [], _, _, _, _ => rfl
  | x :: ls, k, h, st, rest => by
    simp only [List.map_cons, List.zipIdx_cons, List.flatten_cons, List.append_assoc, listsEffect, List.foldl_cons]
    rw [go_list c e fs fc uv x k (h (x, k) (by simp [List.zipIdx_cons]))]
    exact go_lists ls (k + 1) (fun p hp => h p (by simp [List.zipIdx_cons, hp])) _ rest

end

/-- where the reference declarations put the index list and `texcoord` -/
def scanOf (fe : SpecFaceElem α) : FaceScan :=
  let k := if fe.extra = some true then 1 else 0
  match fe.tex with
  | none => ⟨some k, none⟩
  | some _ => if fe.texFirst then ⟨some (k + 1), some k⟩ else ⟨some k, some (k + 1)⟩

/-- the reader's buffers after a face with at most 4 indices (and at most 8 texture coordinates) -/
def afterFace (hasTex : Bool) (vs : List Nat) (uv : List α) (b : FaceBufs α) : FaceBufs α :=
  ⟨overwrite b.idx (vs.map (fun v => ((v : Nat) : Int))), if hasTex then overwrite b.tex uv else b.tex⟩

section
variable (fe : SpecFaceElem α)

theorem findFaceProps_lists : findFaceProps (lpOf fe) = scanOf fe := by
  obtain ⟨short, ct, it, al, tex, tf, ex, faces⟩ := fe
  rcases ex with _ | _ | _ <;> cases tf <;> rcases tex with _ | ⟨tct, tit⟩ <;> cases short <;> rfl

theorem found_lists : ∀ p ∈ fe.lists.zipIdx, Found (findFaceProps (lpOf fe)) p.1 p.2 := by
  rw [findFaceProps_lists]
  obtain ⟨short, ct, it, al, tex, tf, ex, faces⟩ := fe
  rcases ex with _ | _ | _ <;> cases tf <;> rcases tex with _ | ⟨tct, tit⟩ <;>
    simp [SpecFaceElem.lists, List.zipIdx_cons, Found, scanOf]

theorem mem_lists : ∀ x ∈ fe.lists,
    x = (0, if fe.idxNameShort then nm "vertex_index" else nm "vertex_indices", fe.cntTy, fe.idxTy, fe.idxAlias)
      ∨ (∃ tt, fe.tex = some tt ∧ x = (1, nm "texcoord", tt.1, tt.2, false))
      ∨ x = (2, nm "flags", .uchar, .int, false) := by
  obtain ⟨short, ct, it, al, tex, tf, ex, faces⟩ := fe
  rcases ex with _ | _ | _ <;> cases tf <;> rcases tex with _ | ⟨tct, tit⟩ <;> simp [SpecFaceElem.lists]

theorem texProp_lists : (findFaceProps (lpOf fe)).texProp.isSome = fe.tex.isSome := by
  rw [findFaceProps_lists]
  obtain ⟨short, ct, it, al, tex, tf, ex, faces⟩ := fe
  cases tf <;> rcases tex with _ | ⟨tct, tit⟩ <;> rfl

theorem idxProp_lists : (findFaceProps (lpOf fe)).idxProp.isNone = false := by
  rw [findFaceProps_lists]
  obtain ⟨short, ct, it, al, tex, tf, ex, faces⟩ := fe
  cases tf <;> rcases tex with _ | ⟨tct, tit⟩ <;> rfl

theorem listsEffect_lists (vs : List Nat) (uv : List α) (h4 : vs.length ≤ 4)
    (h8 : fe.tex.isSome → uv.length ≤ 8) (st : Int × FaceBufs α) :
    listsEffect vs uv (fe.lists.map ListDecl.kind) st = (((vs.length : Nat) : Int), afterFace fe.tex.isSome vs uv st.2) := by
  obtain ⟨short, ct, it, al, tex, tf, ex, faces⟩ := fe
  rcases ex with _ | _ | _ <;> cases tf <;> rcases tex with _ | ⟨tct, tit⟩ <;>
    simp_all [SpecFaceElem.lists, listsEffect, listEffect, afterFace, ListDecl.kind]

/-- `points` is the length of the index list, whatever it is -/
theorem listsEffect_points (vs : List Nat) (uv : List α) (st : Int × FaceBufs α) :
    (listsEffect vs uv (fe.lists.map ListDecl.kind) st).1 = ((vs.length : Nat) : Int) := by
  obtain ⟨short, ct, it, al, tex, tf, ex, faces⟩ := fe
  rcases ex with _ | _ | _ <;> cases tf <;> rcases tex with _ | ⟨tct, tit⟩ <;> rfl

end

/-- the list declarations are of types the binary reader implements -/
structure ElemOK (fe : SpecFaceElem α) : Prop where
  cnt : CountTyOK fe.cntTy
  idx : IndexTyOK fe.idxTy
  tex : ∀ tt, fe.tex = some tt → CountTyOK tt.1 ∧ TexTyOK tt.2

/-- what the binary reader makes of the texture coordinates of a face -/
def texDec (c : Coding α) (fe : SpecFaceElem α) (fc : SpecFace α) : List α :=
  match fe.tex with
  | some (_, it) => fc.uv.map (imgTex c it)
  | none => []

theorem texDec_length (c : Coding α) (fe : SpecFaceElem α) (fc : SpecFace α) (h : fe.tex.isSome) :
    (texDec c fe fc).length = fc.uv.length := by
  obtain ⟨tt, htt⟩ := Option.isSome_iff_exists.mp h
  simp [texDec, htt]

/-- a face the reader accepts: inside the encoding's guards, a triangle or quad, with two texture coordinates per listed
vertex when `texcoord` is declared -/
def FanFace (fe : SpecFaceElem α) (fc : SpecFace α) : Prop :=
  FaceEncOK fe fc ∧ TriOrQuad fc ∧ (fe.tex.isSome → fc.uv.length = 2 * fc.verts.length)

theorem FanFace.of_noTex {fe : SpecFaceElem α} {fc : SpecFace α} (htex : fe.tex = none) (hok : FaceEncOK fe fc)
    (hsize : TriOrQuad fc) : FanFace fe fc :=
  ⟨hok, hsize, fun h => by rw [htex] at h; cases h⟩

theorem FanFace.of_tex {fe : SpecFaceElem α} {fc : SpecFace α} (hok : FaceTexOK fe fc) (hsize : TriOrQuad fc) :
    FanFace fe fc :=
  ⟨hok.toFaceEncOK, hsize, fun _ => hok.uvLen⟩

/-- ONE FACE RECORD of the reference encoding under the reader's property loop: every list is consumed exactly -/
theorem readFaceBin_ref (c : Coding α) (e : Endian) (fe : SpecFaceElem α) (he : ElemOK fe) (fc : SpecFace α)
    (hok : FaceEncOK fe fc) (huv : fe.tex.isSome → fc.uv.length < 256) (bufs : FaceBufs α) (rest : Bytes) :
    readFaceBin c e (lpOf fe) (findFaceProps (lpOf fe)) bufs ((fe.lists.map (faceListBin c e fc)).flatten ++ rest)
      = .ok ((listsEffect fc.verts (texDec c fe fc) (fe.lists.map ListDecl.kind) (-1, bufs)).1,
          (listsEffect fc.verts (texDec c fe fc) (fe.lists.map ListDecl.kind) (-1, bufs)).2, rest) := by
  refine go_lists c e _ fc _ fe.lists 0 (fun p hp => ?_) (-1, bufs) rest
  -- every declared list is one of three, located by the scan, inside the guards
  have hf := found_lists fe p hp
  rcases mem_lists fe p.1 (List.fst_mem_of_mem_zipIdx hp) with hx | ⟨tt, htt, hx⟩ | hx <;> rw [hx] at hf ⊢
  · exact ⟨hf, he.cnt, hok.cnt8, hok.cnt, fun _ => ⟨he.idx, hok.vert⟩, fun h => by simp [ListDecl.kind] at h, fun h => by simp [ListDecl.kind] at h⟩
  · have h := huv (by simp [htt])
    exact ⟨hf, (he.tex tt htt).1, fun _ => h, by simp only [listLen]; omega,
      fun h => by simp [ListDecl.kind] at h, fun _ => ⟨(he.tex tt htt).2, by simp [texDec, htt]⟩, fun h => by simp [ListDecl.kind] at h⟩
  · have := hok.extra
    exact ⟨hf, Or.inl rfl, fun _ => this, by simp only [listLen]; omega, fun h => by simp [ListDecl.kind] at h, fun h => by simp [ListDecl.kind] at h,
      fun _ => Or.inl rfl⟩

theorem afterFace_ok (hasTex : Bool) (vs : List Nat) (uv : List α) (h4 : vs.length ≤ 4)
    (h8 : hasTex = true → uv.length ≤ 8) (b : FaceBufs α) (hb : BufsOk b) : BufsOk (afterFace hasTex vs uv b) := by
  obtain ⟨h1, h2⟩ := hb
  refine ⟨by simp only [afterFace, overwrite, List.length_append, List.length_map, List.length_drop]; omega, ?_⟩
  cases hasTex
  · exact h2
  · have := h8 rfl
    simp only [afterFace, overwrite, if_true, List.length_append, List.length_drop]; omega

theorem triOrQuad_verts {vs : List Nat} (hv : vs.length = 3 ∨ vs.length = 4) :
    (∃ x y z, vs = [x, y, z]) ∨ ∃ x y z w, vs = [x, y, z, w] := by
  rcases hv with h | h
  · match vs, h with
    | [x, y, z], _ => exact Or.inl ⟨x, y, z, rfl⟩
  · match vs, h with
    | [x, y, z, w], _ => exact Or.inr ⟨x, y, z, w, rfl⟩

theorem length_six {β : Type} {l : List β} (h : l.length = 6) : ∃ u0 u1 u2 u3 u4 u5, l = [u0, u1, u2, u3, u4, u5] :=
  match l, h with
  | [u0, u1, u2, u3, u4, u5], _ => ⟨u0, u1, u2, u3, u4, u5, rfl⟩

theorem length_eight {β : Type} {l : List β} (h : l.length = 8) :
    ∃ u0 u1 u2 u3 u4 u5 u6 u7, l = [u0, u1, u2, u3, u4, u5, u6, u7] :=
  match l, h with
  | [u0, u1, u2, u3, u4, u5, u6, u7], _ => ⟨u0, u1, u2, u3, u4, u5, u6, u7, rfl⟩

/-- triangle → its three indices, quad → the two fan triangles (0,1,2), (0,2,3); with `texcoord` the UVs of the same
corners -/
theorem emitFace_afterFace (hasTex : Bool) (vs : List Nat) (hv : vs.length = 3 ∨ vs.length = 4) (uv : List α)
    (huv : hasTex = true → uv.length = 2 * vs.length) (b : FaceBufs α) (hb : BufsOk b) :
    emitFace (vs.length : Nat) hasTex (afterFace hasTex vs uv b) = .ok (fan vs, if hasTex then fanUV uv else []) := by
  obtain ⟨idx, tex⟩ := b
  obtain ⟨a0, a1, a2, a3, rfl⟩ : ∃ a0 a1 a2 a3, idx = [a0, a1, a2, a3] :=
    match idx, hb.1 with
    | [a0, a1, a2, a3], _ => ⟨a0, a1, a2, a3, rfl⟩
  obtain ⟨t0, t1, t2, t3, t4, t5, t6, t7, rfl⟩ := length_eight hb.2
  rcases triOrQuad_verts hv with ⟨x, y, z, rfl⟩ | ⟨x, y, z, w, rfl⟩ <;> cases hasTex
  · simp [emitFace, afterFace, overwrite, fan]
  · obtain ⟨u0, u1, u2, u3, u4, u5, rfl⟩ := length_six (huv rfl)
    simp [emitFace, afterFace, overwrite, fan, fanUV]
  · simp [emitFace, afterFace, overwrite, fan]
  · obtain ⟨u0, u1, u2, u3, u4, u5, u6, u7, rfl⟩ := length_eight (huv rfl)
    simp [emitFace, afterFace, overwrite, fan, fanUV]

/-- any other size is rejected ("face contained indices entry of size n") -/
theorem emitFace_reject (n : Nat) (hv : ¬ (n = 3 ∨ n = 4)) (hasTex : Bool) (b : FaceBufs α) :
    emitFace (n : Nat) hasTex b = .error .err := by
  have : ((n : Nat) : Int) < 3 ∨ ((n : Nat) : Int) > 4 := by omega
  simp [emitFace, this]

/-- the loop `readFacesBin` and `readFacesAscii` share; `step` reads one face record off the stream -/
def faceLoop {σ : Type} (step : FaceBufs α → σ → R (Int × FaceBufs α × σ)) (hasTex : Bool) :
    Nat → FaceBufs α → σ → R (List Int × List (List α))
  | 0, _, _ => .ok ([], [])
  | n + 1, b, s => do
    let (points, b', s') ← step b s
    let (idx, uvs) ← emitFace points hasTex b'
    let (idxs, uvss) ← faceLoop step hasTex n b' s'
    pure (idx ++ idxs, uvs ++ uvss)

/-- per-corner texture coordinates of a run of faces whose coordinates decode to `dec` -/
def fanUVs (hasTex : Bool) (dec : SpecFace α → List α) (faces : List (SpecFace α)) : List (List α) :=
  (faces.map (fun fc => if hasTex then fanUV (dec fc) else [])).flatten

/-- `fc` is a triangle or quad (with two decoded texture coordinates per listed vertex when there are any), `enc fc`
prepends its record to a stream and `step` reads it off again as the reference encoding says -/
def ReadsFan {σ : Type} (step : FaceBufs α → σ → R (Int × FaceBufs α × σ)) (hasTex : Bool) (enc : SpecFace α → σ → σ)
    (dec : SpecFace α → List α) (fc : SpecFace α) : Prop :=
  TriOrQuad fc ∧ (hasTex = true → (dec fc).length = 2 * fc.verts.length) ∧ ∀ b s,
    step b (enc fc s) = .ok ((fc.verts.length : Nat), afterFace hasTex fc.verts (dec fc) b, s)

section
variable {σ : Type} (step : FaceBufs α → σ → R (Int × FaceBufs α × σ)) (hasTex : Bool)
    (enc : SpecFace α → σ → σ) (dec : SpecFace α → List α)

/-- THE FACE LOOP over a run of such faces: their fan indices (and corner UVs) come out in file order and the loop goes
on with the remaining `n` faces on exactly the stream that follows -/
theorem faceLoop_prefix :
    ∀ (pre : List (SpecFace α)),
      (∀ fc ∈ pre, ReadsFan step hasTex enc dec fc) →
      ∀ (b : FaceBufs α), BufsOk b → ∃ b', BufsOk b' ∧ ∀ (n : Nat) (s : σ),
        faceLoop step hasTex (pre.length + n) b (pre.foldr enc s) = (do
          let (i, u) ← faceLoop step hasTex n b' s
          pure (fanIdx pre ++ i, fanUVs hasTex dec pre ++ u))
  | [], _, b, hb => ⟨b, hb, fun n s => by
      simp only [List.length_nil, Nat.zero_add, List.foldr_nil, fanIdx, fanUVs, List.map_nil, List.flatten_nil,
        List.nil_append]
      cases faceLoop step hasTex n b s <;> rfl⟩
  | fc :: pre, h, b, hb => by
    obtain ⟨htq, huv, hstep⟩ := h fc (by simp)
    have h4 : fc.verts.length ≤ 4 := by rcases htq with h | h <;> omega
    have hb1 := afterFace_ok hasTex fc.verts (dec fc) h4 (fun ht => by have := huv ht; omega) b hb
    obtain ⟨b', hb', hrest⟩ := faceLoop_prefix pre (fun g hg => h g (by simp [hg])) _ hb1
    refine ⟨b', hb', fun n s => ?_⟩
    have hlen : (fc :: pre).length + n = (pre.length + n) + 1 := by simp only [List.length_cons]; omega
    rw [hlen]
    simp only [List.foldr_cons, faceLoop, hstep, bind, Except.bind, emitFace_afterFace hasTex fc.verts htq (dec fc) huv b hb,
      hrest n s]
    cases faceLoop step hasTex n b' s with
    | error _ => rfl
    | ok r => simp [fanIdx, fanUVs, pure, Except.pure]

/-- … so a file of triangles / quads only yields all fan indices and corner UVs -/
theorem faceLoop_all (faces : List (SpecFace α))
    (h : ∀ fc ∈ faces, ReadsFan step hasTex enc dec fc)
    (b : FaceBufs α) (hb : BufsOk b) (s : σ) :
    faceLoop step hasTex faces.length b (faces.foldr enc s) = .ok (fanIdx faces, fanUVs hasTex dec faces) := by
  obtain ⟨b', _, h⟩ := faceLoop_prefix step hasTex enc dec faces h b hb
  have := h 0 s
  simpa [faceLoop, bind, Except.bind, pure, Except.pure] using this

/-- … and A FACE OF ANOTHER SIZE (0, 1, 2, 5 … indices) after a run of triangles / quads stops the loop with an error,
whether `step` reads it or fails on it -/
theorem faceLoop_reject (pre : List (SpecFace α)) (bad : SpecFace α) (m : Nat)
    (h : ∀ fc ∈ pre, ReadsFan step hasTex enc dec fc)
    (hsize : ¬ TriOrQuad bad)
    (hbad : ∀ b s, step b (enc bad s) = .error .err ∨ ∃ b'', step b (enc bad s) = .ok ((bad.verts.length : Nat), b'', s))
    (b : FaceBufs α) (hb : BufsOk b) (s : σ) :
    faceLoop step hasTex (pre.length + (m + 1)) b (pre.foldr enc (enc bad s)) = .error .err := by
  obtain ⟨b', _, h⟩ := faceLoop_prefix step hasTex enc dec pre h b hb
  rw [h]
  rcases hbad b' s with h1 | ⟨b'', h1⟩
  · simp only [faceLoop, h1, bind, Except.bind]
  · simp only [faceLoop, h1, bind, Except.bind, emitFace_reject bad.verts.length hsize]

end

/-- bytes of the face records -/
def faceBytes (c : Coding α) (e : Endian) (fe : SpecFaceElem α) (faces : List (SpecFace α)) : Bytes :=
  (faces.map (fun fc => (fe.lists.map (faceListBin c e fc)).flatten)).flatten

theorem bufsOk_init (x : α) : BufsOk (⟨[0, 0, 0, 0], List.replicate 8 x⟩ : FaceBufs α) := ⟨rfl, List.length_replicate⟩

section
variable (c : Coding α) (e : Endian) (fe : SpecFaceElem α)

theorem foldr_faceBytes (s : Bytes) : ∀ (faces : List (SpecFace α)),
    faces.foldr (fun fc s => (fe.lists.map (faceListBin c e fc)).flatten ++ s) s = faceBytes c e fe faces ++ s
  | [] => rfl
  | fc :: faces => by simp [faceBytes, foldr_faceBytes s faces]

theorem readFacesBin_eq (props : List (Bytes × SType × SType)) (fs : FaceScan) :
    ∀ (n : Nat) (b : FaceBufs α) (bs : Bytes),
      readFacesBin c e props fs n b bs = faceLoop (readFaceBin c e props fs) fs.texProp.isSome n b bs
  | 0, _, _ => rfl
  | n + 1, b, bs => by simp only [readFacesBin, faceLoop, readFacesBin_eq props fs n]

theorem readFaceBin_fan (he : ElemOK fe) (fc : SpecFace α)
    (h : FanFace fe fc) :
    ReadsFan (readFaceBin c e (lpOf fe) (findFaceProps (lpOf fe))) fe.tex.isSome
      (fun fc s => (fe.lists.map (faceListBin c e fc)).flatten ++ s) (texDec c fe) fc := by
  obtain ⟨hok, htq, huv⟩ := h
  have h4 : fc.verts.length ≤ 4 := by rcases htq with h | h <;> omega
  refine ⟨htq, fun h => by rw [texDec_length c fe fc h, huv h], fun b s => ?_⟩
  rw [readFaceBin_ref c e fe he fc hok (fun h => by have := huv h; omega) b s,
    listsEffect_lists fe fc.verts _ h4 (fun h => by rw [texDec_length c fe fc h, huv h]; omega)]

end

/-- every triangle / quad contributes at least three indices -/
theorem fanIdx_pos (fc : SpecFace α) (faces : List (SpecFace α)) (hv : TriOrQuad fc) : 0 < (fanIdx (fc :: faces)).length := by
  obtain ⟨verts, uv, extra⟩ := fc
  rcases triOrQuad_verts hv with ⟨x, y, z, rfl⟩ | ⟨x, y, z, w, rfl⟩ <;> simp [fanIdx, fan]

/-- one UV pair per fan index -/
theorem fanUVs_length (dec : SpecFace α → List α) : ∀ (faces : List (SpecFace α)),
    (∀ fc ∈ faces, TriOrQuad fc ∧ (dec fc).length = 2 * fc.verts.length) →
      (fanUVs true dec faces).length = (fanIdx faces).length
  | [], _ => rfl
  | fc :: faces, h => by
    obtain ⟨hv, huv⟩ := h fc (by simp)
    have h1 : (fanUV (dec fc)).length = (fan fc.verts).length := by
      have hv : fc.verts.length = 3 ∨ fc.verts.length = 4 := hv
      generalize dec fc = uv at huv
      generalize fc.verts = vs at hv huv
      rcases triOrQuad_verts hv with ⟨x, y, z, rfl⟩ | ⟨x, y, z, w, rfl⟩
      · obtain ⟨u0, u1, u2, u3, u4, u5, rfl⟩ := length_six huv; rfl
      · obtain ⟨u0, u1, u2, u3, u4, u5, u6, u7, rfl⟩ := length_eight huv; rfl
    have h2 := fanUVs_length dec faces (fun g hg => h g (by simp [hg]))
    simp only [fanUVs, fanIdx, if_true, List.map_cons, List.flatten_cons, List.length_append] at h2 ⊢
    omega

theorem fanUVs_false (dec : SpecFace α → List α) (faces : List (SpecFace α)) : fanUVs false dec faces = [] := by
  simp [fanUVs]

theorem fanUVs_texDec (c : Coding α) (fe : SpecFaceElem α) (tct tit : SType) (htex : fe.tex = some (tct, tit))
    (faces : List (SpecFace α)) : fanUVs true (texDec c fe) faces = texUV c tit faces := by
  simp [fanUVs, texUV, texDec, htex]

end PlyFaces
end PolyVerif
