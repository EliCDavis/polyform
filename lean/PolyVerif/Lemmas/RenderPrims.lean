/-
  For C16: the rendering primitives' `Hit` arithmetic over ℝ (sphere roots, Möller–Trumbore, the range test as a
  first-hit contract) and `BVHNode.Hit` = `HitList.Hit` on non-empty ranges.
-/
import PolyVerif.Model.RenderPrims
import PolyVerif.Lemmas.Bvh

namespace PolyVerif.RPrims
open Scalar Gen.geometry Gen.rendering PolyVerif.Tree
open C17 (Axis Axis.forall co co_add co_sub aabb_mem)

/-- `geometry.NewRay` normalises `TemporalRay`'s direction again; a unit vector is its own normalisation -/
theorem ray_of_unit (ray : TemporalRay ℝ) (h : ray.direction.LengthSquared = 1) :
    ray.Ray.Origin = ray.origin ∧ ray.Ray.Direction = ray.direction := by
  simp only [TemporalRay.Ray, NewRay, Ray.Origin, Ray.Direction, V3.normalized_of_unit h, and_self]

/-- the quadratic of `Sphere.Hit`: both candidate roots lie on the sphere -/
theorem sphere_root_on (o d c : P3) (r s t : ℝ) (ha : d.Dot d ≠ 0)
    (hs : s * s = ((o.Sub c).Dot d) * ((o.Sub c).Dot d) - (d.Dot d) * ((o.Sub c).Dot (o.Sub c) - r * r))
    (ht : (d.Dot d) * t = -((o.Sub c).Dot d) - s ∨ (d.Dot d) * t = -((o.Sub c).Dot d) + s) :
    ((o.Add (d.Scale t)).Sub c).LengthSquared = r * r := by
  -- with `u = o − c`: `|u + t d|² = u·u + 2t u·d + t² d·d`, and in both cases `(d·d t + u·d)² = s²`
  have e1 : (o.Add (d.Scale t)).Sub c = (o.Sub c).Add (d.Scale t) := by
    ext <;> simp only [V3.Add, V3.Sub, V3.Scale] <;> ring
  have e2 : ((o.Sub c).Add (d.Scale t)).LengthSquared =
      (o.Sub c).Dot (o.Sub c) + 2 * t * (o.Sub c).Dot d + t * t * d.Dot d := by
    simp only [V3.LengthSquared, V3.Dot, V3.Add, V3.Scale]; ring
  have hq : (d.Dot d * t + (o.Sub c).Dot d) * (d.Dot d * t + (o.Sub c).Dot d) = s * s := by
    rcases ht with h | h <;> rw [h] <;> ring
  rw [e1, e2]
  have key : d.Dot d * ((o.Sub c).Dot (o.Sub c) + 2 * t * (o.Sub c).Dot d + t * t * d.Dot d - r * r) = 0 := by
    linear_combination hq + hs
  exact sub_eq_zero.mp ((mul_eq_zero.mp key).resolve_left ha)

/-- a point at distance `r ≥ 0` from `c` differs from `c` by at most `r` in every coordinate: each squared
    coordinate difference is at most the sum of the three -/
theorem coord_le_of_lengthSq (p c : P3) (r : ℝ) (hr : 0 ≤ r) (h : (p.Sub c).LengthSquared = r * r) :
    ∀ k, co c k - r ≤ co p k ∧ co p k ≤ co c k + r := by
  simp only [V3.Sub, V3.LengthSquared] at h
  have hx := mul_self_nonneg (p.x - c.x)
  have hy := mul_self_nonneg (p.y - c.y)
  have hz := mul_self_nonneg (p.z - c.z)
  have key : ∀ k, (co p k - co c k) * (co p k - co c k) ≤ r * r := Axis.forall.mpr
    ⟨(le_add_of_nonneg_right hy).trans ((le_add_of_nonneg_right hz).trans_eq h),
      (le_add_of_nonneg_left hx).trans ((le_add_of_nonneg_right hz).trans_eq h),
      (le_add_of_nonneg_left (add_nonneg hx hy)).trans_eq h⟩
  intro k
  obtain ⟨h1, h2⟩ := C17.abs_le_of_mul_self_le hr (key k)
  exact ⟨by linarith, by linarith⟩

/-- `ct` lies coordinatewise between `cs` and `ce` (true for `NewSphere`: all three equal; and for a linear
    animation at a time between the BVH's start and end time) -/
def Between (cs ce ct : P3) : Prop :=
  (min cs.x ce.x ≤ ct.x ∧ ct.x ≤ max cs.x ce.x) ∧ (min cs.y ce.y ≤ ct.y ∧ ct.y ≤ max cs.y ce.y) ∧
  (min cs.z ce.z ≤ ct.z ∧ ct.z ≤ max cs.z ce.z)

theorem between_iff (cs ce ct : P3) :
    Between cs ce ct ↔ ∀ k, min (co cs k) (co ce k) ≤ co ct k ∧ co ct k ≤ max (co cs k) (co ce k) :=
  (Axis.forall (P := fun k => min (co cs k) (co ce k) ≤ co ct k ∧ co ct k ≤ max (co cs k) (co ce k))).symm

theorem co_fill (r : ℝ) (k : Axis) : co (V3.Fill r) k = r := by cases k <;> rfl

theorem newAABB_fill_min (c : P3) (r : ℝ) : (NewAABB c (V3.Fill (((2 : Nat) : ℝ) * r))).Min = c.Sub (V3.Fill r) := by
  ext <;> simp only [NewAABB, AABB.Min, V3.Fill, V3.Scale, V3.Sub, RS.lit_eq] <;> push_cast <;> ring

theorem newAABB_fill_max (c : P3) (r : ℝ) : (NewAABB c (V3.Fill (((2 : Nat) : ℝ) * r))).Max = c.Add (V3.Fill r) := by
  ext <;> simp only [NewAABB, AABB.Max, V3.Fill, V3.Scale, V3.Add, RS.lit_eq] <;> push_cast <;> ring

theorem newAABB_fill_le (c : P3) {r : ℝ} (hr : 0 ≤ r) (k : Axis) :
    co (NewAABB c (V3.Fill (((2 : Nat) : ℝ) * r))).Min k ≤ co (NewAABB c (V3.Fill (((2 : Nat) : ℝ) * r))).Max k := by
  rw [newAABB_fill_min, newAABB_fill_max, co_sub, co_add, co_fill]; exact C17.sub_le_add_of_le le_rfl hr

theorem sphereBox_sub (cs ce : P3) (r : ℝ) (hr : 0 ≤ r) :
    BoxSub (NewAABB cs (V3.Fill (((2 : Nat) : ℝ) * r))) (sphereBox cs ce r) ∧
    BoxSub (NewAABB ce (V3.Fill (((2 : Nat) : ℝ) * r))) (sphereBox cs ce r) := by
  have e := encapsulateBounds_sub (NewAABB cs (V3.Fill (((2 : Nat) : ℝ) * r))) (NewAABB ce (V3.Fill (((2 : Nat) : ℝ) * r)))
  have hs : BoxSub (NewAABB cs (V3.Fill (((2 : Nat) : ℝ) * r))) (NewAABB cs (V3.Fill (((2 : Nat) : ℝ) * r))) :=
    boxSub_refl_of_le (newAABB_fill_le cs hr)
  exact ⟨⟨e.2 _ hs.1, e.2 _ hs.2⟩, e.1⟩

/-- one coordinate of "within `r` of a centre between `s` and `e`": inside any interval that reaches `r` beyond both -/
theorem between_pad {m M s e t p r : ℝ} (h1 : m ≤ s - r) (h2 : m ≤ e - r) (h3 : s + r ≤ M) (h4 : e + r ≤ M)
    (hb : min s e ≤ t ∧ t ≤ max s e) (hp : t - r ≤ p ∧ p ≤ t + r) : m ≤ p ∧ p ≤ M := by
  constructor
  · rcases min_le_iff.mp hb.1 with q | q <;> linarith
  · rcases le_max_iff.mp hb.2 with q | q <;> linarith

theorem sphereBox_contains (cs ce ct p : P3) (r : ℝ) (hr : 0 ≤ r) (hbt : Between cs ce ct)
    (hp : ∀ k, co ct k - r ≤ co p k ∧ co p k ≤ co ct k + r) :
    (sphereBox cs ce r).Contains p = true := by
  obtain ⟨⟨s1, s2⟩, e1, e2⟩ := sphereBox_sub cs ce r hr
  rw [aabb_mem, newAABB_fill_min] at s1 e1
  rw [aabb_mem, newAABB_fill_max] at s2 e2
  simp only [co_sub, co_add, co_fill] at s1 s2 e1 e2
  exact (aabb_mem _ _).mpr fun k => between_pad (s1 k).1 (e1 k).1 (s2 k).2 (e2 k).2 ((between_iff ..).mp hbt k) (hp k)

theorem co_rayAt (ray : Ray ℝ) (t : ℝ) (k : Axis) : co (ray.At t) k = co ray.origin k + co ray.direction k * t := by
  cases k <;> rfl

/-- `det · (orig − p1) = −(e2·Q)·dir + (T·P)·e1 + (dir·Q)·e2`, along every axis -/
theorem moller_trumbore (p1 p2 p3 orig dir : P3) (k : Axis) :
    (p2.Sub p1).Dot (dir.Cross (p3.Sub p1)) * co (orig.Sub p1) k =
      -((p3.Sub p1).Dot ((orig.Sub p1).Cross (p2.Sub p1))) * co dir k +
        ((orig.Sub p1).Dot (dir.Cross (p3.Sub p1))) * co (p2.Sub p1) k +
        (dir.Dot ((orig.Sub p1).Cross (p2.Sub p1))) * co (p3.Sub p1) k := by
  cases k <;> simp only [co, V3.Sub, V3.Cross, V3.Dot] <;> ring

/-- one coordinate of Cramer's rule divided by the determinant: the ray point at parameter `A/det + mn` is the
    combination of the corners with weights `B/det`, `C/det` -/
theorem cramer_coord (det o d mn p1 p2 p3 A B C : ℝ) (hdet : det ≠ 0)
    (h : det * (o + d * mn - p1) = -A * d + B * (p2 - p1) + C * (p3 - p1)) :
    o + d * (A * (((1 : ℕ) : ℝ) / det) + mn) =
      p1 + B * (((1 : ℕ) : ℝ) / det) * (p2 - p1) + C * (((1 : ℕ) : ℝ) / det) * (p3 - p1) := by
  push_cast
  field_simp
  linear_combination h

theorem convex3_between (a b c u v : ℝ) (hu : 0 ≤ u) (hv : 0 ≤ v) (huv : u + v ≤ 1) :
    min c (min b a) ≤ a + u * (b - a) + v * (c - a) ∧ a + u * (b - a) + v * (c - a) ≤ max c (max b a) :=
  C17.convex_between (1 - u - v) u v a b c _ (by linarith) hu hv (by linarith) (by ring)

/-- a `Hit` that got past an early `return false` -/
theorem past_early_return {α : Type} {c : Prop} [Decidable c] {X : Option α} {h : α}
    (e : (if c then none else X) = some h) : ¬ c ∧ X = some h := by
  by_cases hc : c
  · rw [if_pos hc] at e; cases e
  · rw [if_neg hc] at e; exact ⟨hc, e⟩

theorem rangeTest_iff (x mn mx : ℝ) : (decide (x < mn) || decide (mx < x)) = true ↔ ¬ (mn ≤ x ∧ x ≤ mx) := by
  rw [Bool.or_eq_true, decide_eq_true_eq, decide_eq_true_eq, not_and_or, not_le, not_le]

/-- one candidate distance -/
theorem rangeTest_first (x mn mx : ℝ) :
    (if (decide (x < mn) || decide (mx < x)) = true then none else some x) =
      (if x < mn then none else some x).bind (fun d => if d ≤ mx then some d else none) := by
  simp only [rangeTest_iff]
  by_cases h1 : mn ≤ x <;> by_cases h2 : x ≤ mx <;> simp [h1, h2, not_lt.mpr, not_le.mp]

/-- two candidate distances `r1 ≤ r2`, the nearer one tried first (`Sphere.Hit`) -/
theorem rangeTest_first_two (r1 r2 mn mx : ℝ) (h12 : r1 ≤ r2) :
    (if (decide (r1 < mn) || decide (mx < r1)) = true then
      (if (decide (r2 < mn) || decide (mx < r2)) = true then none else some r2) else some r1) =
      (if mn ≤ r1 then some r1 else if mn ≤ r2 then some r2 else none).bind
        (fun d => if d ≤ mx then some d else none) := by
  rw [rangeTest_first r2]
  simp only [rangeTest_iff]
  by_cases h1 : mn ≤ r1
  · by_cases h2 : r1 ≤ mx
    · simp [h1, h2]
    · -- the farther root is beyond `mx` too
      have : mx < r2 := lt_of_lt_of_le (not_le.mp h2) h12
      simp [h1, h2, this]
  · by_cases h3 : mn ≤ r2 <;> simp [h1, h3, not_lt.mpr, not_le.mp]

section strict
variable {B H K : Type} [LinearOrder K]

/-- `BVHNode.Hit` = `HitList.Hit` over the leaves for every NON-EMPTY range `mn < mx`, for primitives that
    (hR) report a distance inside the range and (hS) are hit, within a non-empty range, only where the slab test
    accepts their box; both are asked of the tree's leaves only.  (For every range (hS) is false of real primitives:
    the slab test rejects every empty-interior range `mx ≤ mn`, a sphere hit at exactly `mn = mx` does not.) -/
theorem bvh_hit_eq_list_nonempty (sub : B → B → Prop) (boxH : H → B) (slab : B → K → K → Bool)
    (primHit : H → K → K → Option K) (mn : K)
    (hmono : ∀ a b mx, sub a b → slab a mn mx = true → slab b mn mx = true) :
    ∀ t : Bvh B H, BInv sub boxH t →
    (∀ h ∈ t.leaves, ∀ mx d, primHit h mn mx = some d → mn ≤ d ∧ d ≤ mx) →
    (∀ h ∈ t.leaves, ∀ mx d, mn < mx → primHit h mn mx = some d → slab (boxH h) mn mx = true) →
    ∀ mx, mn < mx → t.hit slab primHit mn mx = listHit primHit t.leaves mn mx := by
  intro t ht hR hS mx hlt
  -- once the upper end has come down to `mn` the state is `(some mn, mn)`, and no hit can change it any more
  have dead : ∀ h ∈ t.leaves, hitStep primHit mn (some mn, mn) h = (some mn, mn) := by
    intro h hh
    simp only [hitStep]
    cases hp : primHit h mn mn with
    | none => rfl
    | some d => rw [le_antisymm (hR h hh mn d hp).2 (hR h hh mn d hp).1]
  rw [Bvh.hit_eq_run, listHit_eq_foldl, Bvh.run_eq_foldl slab primHit mn sub boxH
    (fun st => mn < st.2 ∨ st = (some mn, mn)) t ht ?_ ?_ _ (Or.inl hlt)]
  · rintro st h hh (hst | rfl)
    · simp only [hitStep]
      cases hp : primHit h mn st.2 with
      | none => exact Or.inl hst
      | some d =>
        rcases lt_or_eq_of_le (hR h hh _ d hp).1 with h1 | h1
        · exact Or.inl h1
        · subst h1; exact Or.inr rfl
    · rw [dead h hh]; exact Or.inr rfl
  · rintro b st (hst | rfl) hs h hh hsub
    · simp only [hitStep]
      cases hp : primHit h mn st.2 with
      | none => rfl
      | some d => rw [hmono _ _ st.2 hsub (hS h hh st.2 d hst hp)] at hs; cases hs
    · exact dead h hh

end strict

end PolyVerif.RPrims
