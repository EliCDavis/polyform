/-
  C18: the merge maps of `Model/Solids.lean` merge EXACTLY the vertices whose (real) positions coincide: distinct logical
  points of a surface of revolution sit at distinct positions (`revPos_inj`) as soon as its profile points are distinct.
-/
import PolyVerif.Lemmas.SolidsGeom
namespace PolyVerif.Solids
open Real

/-! ### cylinder: distinct logical points have distinct positions -/

theorem cylPosL_inj {S : Nat} {r H : ℝ} (hr : 0 < r) (hH : 0 < H) (hS : 3 ≤ S) {p q : LP}
    (hp : UvValid 3 S p) (hq : UvValid 3 S q) (h : cylPosL r H S p = cylPosL r H S q) : p = q := by
  refine revPos_inj (R := 3) (by omega) (by simp [cylX]) (by simp [cylX]) (fun k h1 h2 => ?_)
    (by norm_num [cylY]; linarith) (fun k k' h1 h2 h1' h2' _ => ?_) hp hq h
  · interval_cases k <;> simp [cylX, hr]
  · -- the two rims differ in height
    interval_cases k <;> interval_cases k' <;> norm_num [cylY] <;> intro <;> linarith

/-! ### six-quad box: the corner table merges exactly the coincident vertices -/

theorem cornerSign_inj : ∀ c < 8, ∀ c' < 8, cornerSign c = cornerSign c' → c = c' := by decide

theorem cornerPos_inj {w h d : ℝ} (hw : 0 < w) (hh : 0 < h) (hd : 0 < d) {c c' : Nat} (hc : c < 8) (hc' : c' < 8)
    (e : cornerPos w h d c = cornerPos w h d c') : c = c' := by
  simp only [cornerPos_eq_sign, V3.mk.injEq] at e
  have cancel : ∀ {a : ℝ} {m n : ℤ}, 0 < a → (m : ℝ) * (a / 2) = n * (a / 2) → m = n := fun ha e =>
    Int.cast_injective (mul_right_cancel₀ (by positivity) e)
  exact cornerSign_inj c hc c' hc' (Prod.ext (cancel hw e.1) (Prod.ext (cancel hh e.2.1) (cancel hd e.2.2)))

theorem cubeQuadsPt_lt {v : Nat} (hv : v < 24) : cubeQuadsPt v < 8 := by
  interval_cases v <;> decide

/-! ### sphere: distinct logical points have distinct positions; the unwelded copy map is exact -/

theorem phiOf_mem {R ρ : Nat} (hR : 1 ≤ R) (h : ρ ≤ R) : phiOf R ρ ∈ Set.Icc 0 π := by
  have hR0 : (0 : ℝ) < R := by exact_mod_cast (by omega : 0 < R)
  have h' : (ρ : ℝ) ≤ R := by exact_mod_cast h
  constructor
  · unfold phiOf; positivity
  · unfold phiOf; rw [div_le_iff₀ hR0]; nlinarith [pi_pos]

theorem phiOf_inj {R ρ ρ' : Nat} (hR : 1 ≤ R) (h : phiOf R ρ = phiOf R ρ') : ρ = ρ' := by
  have hR0 : (R : ℝ) ≠ 0 := by positivity
  unfold phiOf at h
  have hπ : π ≠ 0 := pi_ne_zero
  field_simp at h
  exact_mod_cast h

theorem uvPosL_inj {R C : Nat} {r : ℝ} (hr : 0 < r) (hR : 2 ≤ R) (hC : 3 ≤ C) {p q : LP}
    (hp : UvValid R C p) (hq : UvValid R C q) (h : uvPosL r R C p = uvPosL r R C q) : p = q := by
  refine revPos_inj (by omega) (uvX_zero r R) (uvX_self r hR) (fun _ => uvX_pos hr)
    (by simp [uvY, phiOf_zero, phiOf_self hR]; linarith) (fun k k' _ h1 _ h2 _ hy => ?_) hp hq h
  -- inner profile points: distinct polar angles in `[0, π]`
  exact phiOf_inj (by omega) (Real.injOn_cos (phiOf_mem (by omega) h1.le) (phiOf_mem (by omega) h2.le)
    (mul_left_cancel₀ hr.ne' hy))

/-- the welded sphere merges nothing: distinct vertex ids have distinct positions -/
theorem uvSpherePos_inj_enc {R C : Nat} {r : ℝ} (hr : 0 < r) (hR : 2 ≤ R) (hC : 3 ≤ C) {p q : LP}
    (hp : UvValid R C p) (hq : UvValid R C q)
    (h : uvSpherePos r R C (uvEnc R C p) = uvSpherePos r R C (uvEnc R C q)) : uvEnc R C p = uvEnc R C q := by
  rw [uvSpherePos_enc r hR hC p hp, uvSpherePos_enc r hR hC q hq] at h
  rw [uvPosL_inj hr hR hC hp hq h]

/-! ### hemisphere: no two vertices coincide -/

theorem psiOf_inj {R ρ ρ' : Nat} (hR : 1 ≤ R) (h1 : 1 ≤ ρ) (h1' : 1 ≤ ρ') (h : psiOf R ρ = psiOf R ρ') : ρ = ρ' := by
  have hR0 : (R : ℝ) ≠ 0 := by positivity
  have hπ : π ≠ 0 := pi_ne_zero
  unfold psiOf at h
  have : ((ρ - 1 : ℕ) : ℝ) = ((ρ' - 1 : ℕ) : ℝ) := by
    field_simp at h
    linarith
  have : ρ - 1 = ρ' - 1 := by exact_mod_cast this
  omega

theorem hemiPosL_inj {R C : Nat} {r : ℝ} (hr : 0 < r) (hR : 2 ≤ R) (hC : 3 ≤ C) {p q : LP}
    (hp : UvValid R C p) (hq : UvValid R C q) (h : hemiPosL r R C p = hemiPosL r R C q) : p = q := by
  refine revPos_inj (by omega) (hemiX_zero r R) (hemiX_self r R) (fun _ => hemiX_pos hr)
    (by rw [hemiY_zero, hemiY_self r hR]; exact hr.ne) (fun k k' h1 h2 h1' h2' _ ey => ?_) hp hq h
  -- inner profile points: the quarter circle at polar angles `ψ ∈ (0, π/2]`
  rw [(hemi_inner r h1 h2).2, (hemi_inner r h1' h2').2] at ey
  have a := psiOf_pos_le h1 h2
  have b := psiOf_pos_le h1' h2'
  exact psiOf_inj (by omega) h1 h1' (Real.injOn_cos ⟨a.1.le, by linarith [a.2, pi_pos]⟩ ⟨b.1.le, by linarith [b.2, pi_pos]⟩
    (mul_left_cancel₀ hr.ne' ey))

end PolyVerif.Solids
