/-
  C09 — what one cell emits, and from where it reads its samples: the cross-block corner fetch reads the global grid
  (`blockFetch_eq_global`, `skipped_cells_outside`, the `AddField` partition); the interpolated vertex lies on its lattice edge,
  within one cell of the isosurface (`interp_between`, `vertex_near_isosurface`, `emitted_vertex_near_isosurface`); every emitted
  triangle faces outward for all interpolation parameters (`table_triangle_outward`, `emitted_triangle_outward`).
-/
import PolyVerif.Lemmas.MarchClosed
import PolyVerif.Lemmas.ListM

namespace PolyVerif
namespace C09
open PolyVerif.March PolyVerif.Gen.March

/-! ## Block storage: the cross-block corner fetch reads the global grid -/

/-- global position of local sample `(x, y, z)` of block `b` -/
def globalOf (b : Pt) (x y z : Int) : Pt :=
  (b.1 * marchingSectionSize + x, b.2.1 * marchingSectionSize + y, b.2.2 * marchingSectionSize + z)

theorem corner_off_bounds_aux : ∀ k, k < 8 → (0 ≤ (cornerOff k).1 ∧ (cornerOff k).1 ≤ 1) ∧
    (0 ≤ (cornerOff k).2.1 ∧ (cornerOff k).2.1 ≤ 1) ∧ (0 ≤ (cornerOff k).2.2 ∧ (cornerOff k).2.2 ≤ 1) := by decide

/-- one axis of the corner fetch, local index `x` and corner offset `c ∈ {0, 1}`: the block that is read and the index inside
    it are quotient and remainder of the global coordinate -/
theorem axis_fetch_aux (b x c : Int) (hx : 0 ≤ x ∧ x < 100) (hc : 0 ≤ c ∧ c ≤ 1) :
    (if c = 1 then (if x = 100 - 1 then b + 1 else b) else b) = (b * 100 + x + c) / 100 ∧
    (if (if c = 1 then (if x = 100 - 1 then b + 1 else b) else b) ≠ b then (0 : Int) else x + c) = (b * 100 + x + c) % 100 := by
  have : c = 0 ∨ c = 1 := by omega
  rcases this with rfl | rfl <;> split_ifs <;> omega

/-- For every block (any sign of its coordinates), every cell of it (including the last index of one, two or
    three axes) and every corner: what `marchFloat1BlockPosition` fetches — from this block or from the
    neighbour at `neighbourIndex` — is the global grid's sample at `cell + cornerOffset`, and it is missing
    (cell skipped) exactly when the block that owns that global position was never allocated. -/
theorem blockFetch_eq_global {α : Type} (bl : Blocks α) (b : Pt) (x y z : Int)
    (hx : 0 ≤ x ∧ x < marchingSectionSize) (hy : 0 ≤ y ∧ y < marchingSectionSize) (hz : 0 ≤ z ∧ z < marchingSectionSize)
    (i : Nat) (hi : i < 8) :
    fetchCorner bl b x y z i = globalAt bl (padd (globalOf b x y z) (cornerOff i)) := by
  obtain ⟨bx, by', bz⟩ := b
  obtain ⟨h1, h2, h3⟩ := corner_off_bounds_aux i hi
  -- the block selector of corner `i` is its offset (`cubeDataBlockPositions = cubeDataIndexIncrements`)
  have hsel : ptOfRow (cubeDataBlockPositions.getD i []) = cornerOff i := by
    rw [cornerOff, table_shapes.2.2.2.2.2.2.2.2.2.2.1]
  simp only [marchingSectionSize] at hx hy hz
  obtain ⟨p1, n1⟩ := axis_fetch_aux bx x _ hx h1
  obtain ⟨p2, n2⟩ := axis_fetch_aux by' y _ hy h2
  obtain ⟨p3, n3⟩ := axis_fetch_aux bz z _ hz h3
  simp only [fetchCorner, hsel, globalAt, chunkOf, marchingSectionSize, neighbourIndex, List.getD_cons_zero, List.getD_cons_succ,
    padd, globalOf]
  refine congrArg₂ Option.map (funext fun d => congrArg d ?_) (congrArg bl ?_)
  · exact congr (congr (congrArg bindex n1) n2) n3
  · exact Prod.ext p1 (Prod.ext p2 p3)

example : fetchCorner (fun b => if b = ((-1 : Int), (0 : Int), (3 : Int)) then some (fun i => i) else none) (-2, 0, 2) 99 5 99 2
    = some 500 := by decide

/-- the whole cell: all eight corners fetched, or skipped, exactly as the global grid says -/
theorem fetchCell_eq_global {α : Type} (bl : Blocks α) (b : Pt) (x y z : Int)
    (hx : 0 ≤ x ∧ x < marchingSectionSize) (hy : 0 ≤ y ∧ y < marchingSectionSize) (hz : 0 ≤ z ∧ z < marchingSectionSize) :
    fetchCell bl b x y z = (List.range 8).mapM fun i => globalAt bl (padd (globalOf b x y z) (cornerOff i)) := by
  unfold fetchCell
  have : ∀ i ∈ List.range 8, fetchCorner bl b x y z i = globalAt bl (padd (globalOf b x y z) (cornerOff i)) :=
    fun i hi => blockFetch_eq_global bl b x y z hx hy hz i (List.mem_range.mp hi)
  exact ListM.mapM_congr this

/-- A cell is skipped only when a block it needs was never allocated; if every inside sample has the blocks of
    its whole 3×3×3 lattice neighbourhood allocated (which `AddField`'s one-cell padding provides when the inside
    region is strictly inside the domain, see `addField_allocates_neighbourhood`), a skipped cell has eight
    outside corners — skipping it loses no triangle. -/
theorem skipped_cells_outside {α : Type} (bl : Blocks α) (inside : Pt → Prop)
    (hpad : ∀ q, inside q → ∀ d : Pt, -1 ≤ d.1 → d.1 ≤ 1 → -1 ≤ d.2.1 → d.2.1 ≤ 1 → -1 ≤ d.2.2 → d.2.2 ≤ 1 →
      (bl (chunkOf (padd q d))).isSome)
    (b : Pt) (x y z : Int)
    (hx : 0 ≤ x ∧ x < marchingSectionSize) (hy : 0 ≤ y ∧ y < marchingSectionSize) (hz : 0 ≤ z ∧ z < marchingSectionSize)
    (hskip : fetchCell bl b x y z = none) :
    ∀ i, i < 8 → ¬ inside (padd (globalOf b x y z) (cornerOff i)) := by
  intro i hi hin
  rw [fetchCell_eq_global bl b x y z hx hy hz, ListM.mapM_eq_none_iff] at hskip
  obtain ⟨j, hj, hnone⟩ := hskip
  have hj8 : j < 8 := List.mem_range.mp hj
  -- corner j = corner i + (off j − off i), a step in {-1,0,1}³
  have hstep := hpad _ hin (padd (cornerOff j) ((-(cornerOff i).1), (-(cornerOff i).2.1), (-(cornerOff i).2.2)))
  have oi := corner_off_bounds_aux i hi; have oj := corner_off_bounds_aux j hj8
  have heq : padd (padd (globalOf b x y z) (cornerOff i))
      (padd (cornerOff j) ((-(cornerOff i).1), (-(cornerOff i).2.1), (-(cornerOff i).2.2)))
      = padd (globalOf b x y z) (cornerOff j) := by
    simp only [padd, Prod.mk.injEq]; refine ⟨?_, ?_, ?_⟩ <;> ring
  rw [heq] at hstep
  have := hstep (by simp only [padd]; omega) (by simp only [padd]; omega) (by simp only [padd]; omega)
    (by simp only [padd]; omega) (by simp only [padd]; omega) (by simp only [padd]; omega)
  unfold globalAt at hnone
  rw [Option.map_eq_none_iff] at hnone
  rw [hnone] at this; simp at this

/-- `AddField` side, one axis: `chunkSectionsInRange(min, max)` allocates every chunk from `⌊min/100⌋` to
    `⌊max/100⌋` (inclusive — including the chunk of the exclusive upper bound `max`), so every position in
    `[min, max]` has its chunk allocated; and each sampled position `X ∈ [min, max)` is written exactly once,
    by the chunk `c = ⌊X/100⌋`, into local index `X − 100c = X mod 100` (the loop bounds
    `max(100c, min) ≤ X < min(100c + 100, max)` of `addFloat1Range`). -/
theorem addField_axis_partition (mn mx X : Int) :
    (mn ≤ X → X ≤ mx → mn / marchingSectionSize ≤ X / marchingSectionSize ∧ X / marchingSectionSize ≤ mx / marchingSectionSize) ∧
    (mn ≤ X → X < mx →
      let c := X / marchingSectionSize
      max (c * marchingSectionSize) mn ≤ X ∧ X < min (c * marchingSectionSize + marchingSectionSize) mx ∧
      X - c * marchingSectionSize = X % marchingSectionSize ∧ 0 ≤ X % marchingSectionSize ∧ X % marchingSectionSize < marchingSectionSize) ∧
    (∀ c' : Int, max (c' * marchingSectionSize) mn ≤ X → X < min (c' * marchingSectionSize + marchingSectionSize) mx →
      c' = X / marchingSectionSize) := by
  simp only [marchingSectionSize]
  refine ⟨fun h1 h2 => by omega, fun h1 h2 => by omega, fun c' h1 h2 => by omega⟩

/-- consequence for the padding: with sample bounds `[mn, mx)` per axis, every lattice point within one step of
    a point of `[mn+1, mx-1]` lies in `[mn, mx]`, whose chunks are all allocated -/
theorem addField_allocates_neighbourhood (mn mx X d : Int) (h1 : mn + 1 ≤ X) (h2 : X ≤ mx - 1) (hd : -1 ≤ d ∧ d ≤ 1) :
    mn / marchingSectionSize ≤ (X + d) / marchingSectionSize ∧ (X + d) / marchingSectionSize ≤ mx / marchingSectionSize := by
  simp only [marchingSectionSize]; omega

/-! ## Interpolation: the vertex lies on its lattice edge, within one cell of the isosurface -/

open Gen.marching in
/-- the interpolation parameter of `interpolateVerts` lies in `[0, 1]` whenever the two corner values are on
    different sides of the cutoff (inside = `value < cutoff`), whichever of the two corners is the inside one -/
theorem interp_between (fa fb c : ℝ) :
    (fa < c → c ≤ fb → 0 < interpolationValueFromCutoff fa fb c ∧ interpolationValueFromCutoff fa fb c ≤ 1) ∧
    (fb < c → c ≤ fa → 0 ≤ interpolationValueFromCutoff fa fb c ∧ interpolationValueFromCutoff fa fb c < 1) := by
  unfold interpolationValueFromCutoff
  constructor
  · intro h1 h2
    have hd : 0 < fb - fa := by linarith
    exact ⟨div_pos (by linarith) hd, (div_le_one hd).mpr (by linarith)⟩
  · intro h1 h2
    have hd : fb - fa < 0 := by linarith
    constructor
    · exact div_nonneg_of_nonpos (by linarith) hd.le
    · rw [div_lt_one_of_neg hd]; linarith


open Gen.marching in
/-- `interpolateVerts` returns the point `v1 + t·(v2 − v1)` of the edge, coordinate by coordinate -/
theorem interp_on_segment (v1 v2 : V3 ℝ) (fa fb c : ℝ) :
    let t := interpolationValueFromCutoff fa fb c
    (interpolateVerts v1 v2 fa fb c).x = v1.x + t * (v2.x - v1.x) ∧
    (interpolateVerts v1 v2 fa fb c).y = v1.y + t * (v2.y - v1.y) ∧
    (interpolateVerts v1 v2 fa fb c).z = v1.z + t * (v2.z - v1.z) := by
  simp only [interpolateVerts, V3.Add, V3.Scale, V3.Sub]
  refine ⟨?_, ?_, ?_⟩ <;> ring

open Gen.marching in
/-- the two cells that see one lattice edge from opposite ends compute the same point (over ℝ): this is what
    identifying a vertex with its lattice edge means -/
theorem interp_symmetric (v1 v2 : V3 ℝ) (fa fb c : ℝ) (h : fa ≠ fb) :
    interpolateVerts v1 v2 fa fb c = interpolateVerts v2 v1 fb fa c := by
  have h1 : fb - fa ≠ 0 := sub_ne_zero.mpr (Ne.symm h)
  have h2 : fa - fb ≠ 0 := sub_ne_zero.mpr h
  simp only [interpolateVerts, interpolationValueFromCutoff, V3.Add, V3.Scale, V3.Sub, V3.mk.injEq]
  refine ⟨?_, ?_, ?_⟩ <;> (field_simp; ring)

/-- intermediate value theorem along the edge: if the field, restricted to the edge `τ ↦ a + τ(b − a)`,
    is continuous and its end values are on different sides of the cutoff, some point of the edge is ON the
    isosurface, and every point of the edge — in particular the emitted vertex, by `interp_between` and
    `interp_on_segment` — is within one edge length (`|t − τ| ≤ 1` in edge units = one grid cell) of it -/
theorem vertex_near_isosurface (f : ℝ → ℝ) (hf : ContinuousOn f (Set.Icc 0 1)) (c t : ℝ)
    (ht : 0 ≤ t ∧ t ≤ 1) (h : (f 0 < c ∧ c ≤ f 1) ∨ (f 1 < c ∧ c ≤ f 0)) :
    ∃ τ, 0 ≤ τ ∧ τ ≤ 1 ∧ f τ = c ∧ |t - τ| ≤ 1 := by
  have key : ∃ τ ∈ Set.Icc (0:ℝ) 1, f τ = c := by
    rcases h with h | h
    · exact intermediate_value_Icc (by norm_num) hf ⟨h.1.le, h.2⟩
    · exact intermediate_value_Icc' (by norm_num) hf ⟨h.1.le, h.2⟩
  obtain ⟨τ, hτ, hfc⟩ := key
  refine ⟨τ, hτ.1, hτ.2, hfc, ?_⟩
  rw [abs_le]; constructor <;> linarith [hτ.1, hτ.2, ht.1, ht.2]

example : ContinuousOn (fun τ : ℝ => 3 * τ - 1) (Set.Icc 0 1) ∧ ((fun τ : ℝ => 3 * τ - 1) 0 < 0 ∧ (0:ℝ) ≤ (fun τ : ℝ => 3 * τ - 1) 1) := by
  refine ⟨by fun_prop, by norm_num⟩

/-! ## Every emitted vertex lies on a sign-changing lattice edge (assembled) -/

section emitted
open Gen.marching

/-- the sign pattern of a sample grid, as the code computes it: inside ⇔ `value < cutoff` -/
noncomputable def signOf (G : Pt → ℝ) (c : ℝ) : Pt → Bool := fun q => decide (G q < c)

theorem corner_lt_aux : ∀ e, e < 12 → cA e < 8 ∧ cB e < 8 := by decide

theorem cellBits_getD_aux (s : Pt → Bool) (p : Pt) (i : Nat) (hi : i < 8) :
    (cellBits s p).getD i false = s (padd p (cornerOff i)) := by
  interval_cases i <;> rfl

/-- **Every emitted vertex lies on a sign-changing lattice edge, at the interpolated position inside it.**
    For any sample grid `G`, cutoff `c`, cell `p`, any triangle the table emits for that cell and any of its three
    corners (cube edge `e`): the two end samples of the lattice edge `e` lies on are on different sides of the cutoff,
    so the interpolation parameter of `interpolateVerts` is in [0, 1].  (Assembles `table_edges_cross`, the case-index
    computation and `interp_between`.) -/
theorem emitted_vertex_on_crossing_edge (G : Pt → ℝ) (c : ℝ) (p : Pt) (t : Nat × Nat × Nat)
    (ht : t ∈ caseTris (caseIndex (cellBits (signOf G c) p))) (e : Nat) (he : e = t.1 ∨ e = t.2.1 ∨ e = t.2.2) :
    ((G (padd p (cornerOff (cA e))) < c ∧ c ≤ G (padd p (cornerOff (cB e)))) ∨
     (G (padd p (cornerOff (cB e))) < c ∧ c ≤ G (padd p (cornerOff (cA e))))) ∧
    0 ≤ interpolationValueFromCutoff (G (padd p (cornerOff (cA e)))) (G (padd p (cornerOff (cB e)))) c ∧
    interpolationValueFromCutoff (G (padd p (cornerOff (cA e)))) (G (padd p (cornerOff (cB e)))) c ≤ 1 := by
  set s := signOf G c with hs
  have hx := table_edges_cross (s (padd p (cornerOff 0))) (s (padd p (cornerOff 1))) (s (padd p (cornerOff 2)))
    (s (padd p (cornerOff 3))) (s (padd p (cornerOff 4))) (s (padd p (cornerOff 5))) (s (padd p (cornerOff 6)))
    (s (padd p (cornerOff 7)))
  have hl := table_tri_edges_lt (s (padd p (cornerOff 0))) (s (padd p (cornerOff 1))) (s (padd p (cornerOff 2)))
    (s (padd p (cornerOff 3))) (s (padd p (cornerOff 4))) (s (padd p (cornerOff 5))) (s (padd p (cornerOff 6)))
    (s (padd p (cornerOff 7)))
  rw [List.all_eq_true] at hx hl
  have hx' := hx t ht
  have hl' := hl t ht
  simp only [decide_eq_true_eq] at hl'
  rw [List.all_eq_true] at hx'
  have he12 : e < 12 := by rcases he with rfl | rfl | rfl <;> omega
  have hmem : e ∈ [t.1, t.2.1, t.2.2] := by rcases he with rfl | rfl | rfl <;> simp
  have hne := hx' e hmem
  obtain ⟨ha8, hb8⟩ := corner_lt_aux e he12
  change ((cellBits s p).getD (cA e) false != (cellBits s p).getD (cB e) false) = true at hne
  rw [cellBits_getD_aux s p _ ha8, cellBits_getD_aux s p _ hb8] at hne
  simp only [hs, signOf, bne_iff_ne, ne_eq, decide_eq_decide] at hne
  have hcross : (G (padd p (cornerOff (cA e))) < c ∧ c ≤ G (padd p (cornerOff (cB e)))) ∨
      (G (padd p (cornerOff (cB e))) < c ∧ c ≤ G (padd p (cornerOff (cA e)))) := by
    by_cases h1 : G (padd p (cornerOff (cA e))) < c
    · left; refine ⟨h1, ?_⟩; by_contra h2; rw [not_le] at h2; exact hne ⟨fun _ => h2, fun _ => h1⟩
    · right; rw [not_lt] at h1; refine ⟨?_, h1⟩; by_contra h2; rw [not_lt] at h2
      exact hne ⟨fun h => absurd h (not_lt.mpr h1), fun h => absurd h (not_lt.mpr h2)⟩
  refine ⟨hcross, ?_⟩
  rcases hcross with h | h
  · have := (interp_between _ _ c).1 h.1 h.2; exact ⟨this.1.le, this.2⟩
  · have := (interp_between _ _ c).2 h.1 h.2; exact ⟨this.1, this.2.le⟩

/-- **… hence within one cell of the true isosurface.**  If moreover the stored samples are the values of a field whose
    restriction `F` to that lattice edge (`F 0`, `F 1` = the two end samples) is continuous, then some point of the edge
    is ON the isosurface and the emitted vertex `v1 + τ (v2 − v1)` is within one edge length of it (`|τ − τ'| ≤ 1`). -/
theorem emitted_vertex_near_isosurface (G : Pt → ℝ) (c : ℝ) (p : Pt) (t : Nat × Nat × Nat)
    (ht : t ∈ caseTris (caseIndex (cellBits (signOf G c) p))) (e : Nat) (he : e = t.1 ∨ e = t.2.1 ∨ e = t.2.2)
    (F : ℝ → ℝ) (hF : ContinuousOn F (Set.Icc 0 1))
    (h0 : F 0 = G (padd p (cornerOff (cA e)))) (h1 : F 1 = G (padd p (cornerOff (cB e)))) (v1 v2 : V3 ℝ) :
    ∃ τ τ', τ = interpolationValueFromCutoff (G (padd p (cornerOff (cA e)))) (G (padd p (cornerOff (cB e)))) c ∧
      (interpolateVerts v1 v2 (G (padd p (cornerOff (cA e)))) (G (padd p (cornerOff (cB e)))) c).x = v1.x + τ * (v2.x - v1.x) ∧
      (interpolateVerts v1 v2 (G (padd p (cornerOff (cA e)))) (G (padd p (cornerOff (cB e)))) c).y = v1.y + τ * (v2.y - v1.y) ∧
      (interpolateVerts v1 v2 (G (padd p (cornerOff (cA e)))) (G (padd p (cornerOff (cB e)))) c).z = v1.z + τ * (v2.z - v1.z) ∧
      0 ≤ τ ∧ τ ≤ 1 ∧ 0 ≤ τ' ∧ τ' ≤ 1 ∧ F τ' = c ∧ |τ - τ'| ≤ 1 := by
  obtain ⟨hcross, hτ0, hτ1⟩ := emitted_vertex_on_crossing_edge G c p t ht e he
  rw [← h0, ← h1] at hcross
  obtain ⟨τ', a, b, hFc, habs⟩ := vertex_near_isosurface F hF c _ ⟨hτ0, hτ1⟩ hcross
  obtain ⟨sx, sy, sz⟩ := interp_on_segment v1 v2 (G (padd p (cornerOff (cA e)))) (G (padd p (cornerOff (cB e)))) c
  exact ⟨_, τ', rfl, sx, sy, sz, hτ0, hτ1, a, b, hFc, habs⟩

/-- non-vacuity: one inside sample at the origin; the cell at the origin (case 1) emits the triangle (0, 8, 3) -/
example : ((0 : Nat), (8 : Nat), (3 : Nat)) ∈
    caseTris (caseIndex (cellBits (signOf (fun q => if q = (0, 0, 0) then (-1 : ℝ) else 1) 0) (0, 0, 0))) := by
  have h : cellBits (signOf (fun q => if q = ((0:Int), (0:Int), (0:Int)) then (-1 : ℝ) else 1) 0) (0, 0, 0)
      = [true, false, false, false, false, false, false, false] := by
    simp only [cellBits, signOf, padd]
    norm_num [cornerOff, cubeDataIndexIncrements, ptOfRow]
  rw [h]; decide

example : 0 < interpolationValueFromCutoff (-1 : ℝ) 3 0 ∧ interpolationValueFromCutoff (-1 : ℝ) 3 0 ≤ 1 :=
  (interp_between (-1) 3 0).1 (by norm_num) (by norm_num)
example : 0 ≤ interpolationValueFromCutoff (3 : ℝ) (-1) 0 ∧ interpolationValueFromCutoff (3 : ℝ) (-1) 0 < 1 :=
  (interp_between 3 (-1) 0).2 (by norm_num) (by norm_num)
example : interpolateVerts (⟨0, 0, 0⟩ : V3 ℝ) ⟨1, 0, 0⟩ (-1) 3 0 = interpolateVerts ⟨1, 0, 0⟩ ⟨0, 0, 0⟩ 3 (-1) 0 :=
  interp_symmetric _ _ _ _ _ (by norm_num)

/-- non-vacuity of `skipped_cells_outside`: one allocated block, one inside sample in its middle: the padding
    hypothesis holds, and the cell at local x = 99 IS skipped (its +x neighbour block was never allocated) -/
example :
    let bl : Blocks Unit := fun b => if b = ((0 : Int), (0 : Int), (0 : Int)) then some (fun _ => ()) else none
    let inside : Pt → Prop := fun q => q = (50, 50, 50)
    (∀ q, inside q → ∀ d : Pt, -1 ≤ d.1 → d.1 ≤ 1 → -1 ≤ d.2.1 → d.2.1 ≤ 1 → -1 ≤ d.2.2 → d.2.2 ≤ 1 →
      (bl (chunkOf (padd q d))).isSome) ∧ fetchCell bl (0, 0, 0) 99 0 0 = none := by
  refine ⟨?_, by decide⟩
  intro q hq d h1 h2 h3 h4 h5 h6
  obtain ⟨d1, d2, d3⟩ := d
  simp only at h1 h2 h3 h4 h5 h6
  subst hq
  have e1 : (50 + d1) / 100 = 0 := by omega
  have e2 : (50 + d2) / 100 = 0 := by omega
  have e3 : (50 + d3) / 100 = 0 := by omega
  simp [chunkOf, padd, marchingSectionSize, e1, e2, e3]

end emitted

section orient
open Gen.marching

/-! ## Orientation: every emitted triangle faces outward -/

def psub (a b : Pt) : Pt := (a.1 - b.1, a.2.1 - b.2.1, a.2.2 - b.2.2)
def pcross (a b : Pt) : Pt :=
  (a.2.1 * b.2.2 - a.2.2 * b.2.1, a.2.2 * b.1 - a.1 * b.2.2, a.1 * b.2.1 - a.2.1 * b.1)
def pdot (a b : Pt) : Int := a.1 * b.1 + a.2.1 * b.2.1 + a.2.2 * b.2.2
def pscale (k : Int) (a : Pt) : Pt := (k * a.1, k * a.2.1, k * a.2.2)

/-- the below-cutoff (inside) corner of cube edge `e` under the corner bits, as an offset -/
def edgeIn (bits : List Bool) (e : Nat) : Pt := if bits.getD (cA e) false then cornerOff (cA e) else cornerOff (cB e)
/-- the other (outside) corner -/
def edgeOut (bits : List Bool) (e : Nat) : Pt := if bits.getD (cA e) false then cornerOff (cB e) else cornerOff (cA e)
/-- direction of cube edge `e` from its inside to its outside corner (a signed unit vector) -/
def edgeDir (bits : List Bool) (e : Nat) : Pt := psub (edgeOut bits e) (edgeIn bits e)

/-- `normal · (d₀ + d₁ + d₂)` of table triangle `t` with each vertex pushed to the inside end (`false`) or the outside
    end (`true`) of its edge: the value of the (multilinear) outwardness form at a corner of the parameter cube -/
def cornerVal (bits : List Bool) (t : Nat × Nat × Nat) (c : Bool × Bool × Bool) : Int :=
  let k (b : Bool) : Int := if b then 1 else 0
  let d0 := edgeDir bits t.1; let d1 := edgeDir bits t.2.1; let d2 := edgeDir bits t.2.2
  let e1 := psub (edgeIn bits t.2.1) (edgeIn bits t.1); let e2 := psub (edgeIn bits t.2.2) (edgeIn bits t.1)
  let w1 := psub (padd e1 (pscale (k c.2.1) d1)) (pscale (k c.1) d0)
  let w2 := psub (padd e2 (pscale (k c.2.2) d2)) (pscale (k c.1) d0)
  pdot (pcross w1 w2) (padd d0 (padd d1 d2))

def cubeCorners8 : List (Bool × Bool × Bool) :=
  [(false, false, false), (false, false, true), (false, true, false), (false, true, true),
   (true, false, false), (true, false, true), (true, true, false), (true, true, true)]

set_option maxRecDepth 100000 in
/-- **Table-level outwardness** (complete table, kernel-evaluated): for every sign pattern and every triangle of its
    row, the outwardness form `normal · (d₀ + d₁ + d₂)` is ≥ 0 at all eight corners of the parameter cube and > 0 at
    one of them at least.  (The per-edge form `normal · dᵢ > 0` is FALSE for this table: 72 triangles, e.g. row 23
    triangle (2, 9, 7), have an edge whose direction makes an obtuse angle with the normal for every parameter.) -/
theorem table_triangle_outward_corners : ∀ b0 b1 b2 b3 b4 b5 b6 b7 : Bool,
    (caseTris (caseIndex (bits8 b0 b1 b2 b3 b4 b5 b6 b7))).all (fun t =>
      cubeCorners8.all (fun c => decide (0 ≤ cornerVal (bits8 b0 b1 b2 b3 b4 b5 b6 b7) t c)) &&
      cubeCorners8.any (fun c => decide (0 < cornerVal (bits8 b0 b1 b2 b3 b4 b5 b6 b7) t c))) = true := by
  decide +kernel

/-- the outwardness form over ℝ: vertices `i₀ + s₀ d₀`, `i₀ + e₁ + s₁ d₁`, `i₀ + e₂ + s₂ d₂`;
    `normal · (d₀ + d₁ + d₂)` with `normal = (v₁ − v₀) × (v₂ − v₀)` -/
noncomputable def outF (e1 e2 d0 d1 d2 : V3 ℝ) (s0 s1 s2 : ℝ) : ℝ :=
  V3.Dot (V3.Cross (V3.Sub (V3.Add e1 (V3.Scale d1 s1)) (V3.Scale d0 s0)) (V3.Sub (V3.Add e2 (V3.Scale d2 s2)) (V3.Scale d0 s0)))
    (V3.Add d0 (V3.Add d1 d2))

/-- the integer outwardness form is the real one, for any integer parameters -/
theorem outF_cast_aux (e1 e2 d0 d1 d2 : Pt) (k0 k1 k2 : Int) :
    ((pdot (pcross (psub (padd e1 (pscale k1 d1)) (pscale k0 d0)) (psub (padd e2 (pscale k2 d2)) (pscale k0 d0)))
      (padd d0 (padd d1 d2)) : Int) : ℝ) = outF (ptR e1) (ptR e2) (ptR d0) (ptR d1) (ptR d2) k0 k1 k2 := by
  simp only [outF, V3.Dot, V3.Cross, V3.Sub, V3.Add, V3.Scale, ptR, pdot, pcross, psub, padd, pscale]
  push_cast; ring

theorem cornerVal_cast_aux (bits : List Bool) (t : Nat × Nat × Nat) (a b c : Bool) :
    ((cornerVal bits t (a, b, c) : Int) : ℝ) =
      outF (ptR (psub (edgeIn bits t.2.1) (edgeIn bits t.1))) (ptR (psub (edgeIn bits t.2.2) (edgeIn bits t.1)))
        (ptR (edgeDir bits t.1)) (ptR (edgeDir bits t.2.1)) (ptR (edgeDir bits t.2.2))
        (if a then 1 else 0) (if b then 1 else 0) (if c then 1 else 0) := by
  rw [cornerVal, outF_cast_aux]
  push_cast; rfl

/-- **Outwardness for all interpolation parameters** (the lift from the eight corners): for every sign pattern, every
    triangle of its row and all parameters `s₀ s₁ s₂ ∈ [0, 1]` (position of each vertex between the inside and the outside
    end of its edge), `normal · (d₀ + d₁ + d₂) ≥ 0`, and `> 0` when all three parameters are in the open interval. -/
theorem table_triangle_outward (b0 b1 b2 b3 b4 b5 b6 b7 : Bool) (t : Nat × Nat × Nat)
    (ht : t ∈ caseTris (caseIndex (bits8 b0 b1 b2 b3 b4 b5 b6 b7))) (s0 s1 s2 : ℝ)
    (hs0 : 0 ≤ s0 ∧ s0 ≤ 1) (hs1 : 0 ≤ s1 ∧ s1 ≤ 1) (hs2 : 0 ≤ s2 ∧ s2 ≤ 1) :
    let bits := bits8 b0 b1 b2 b3 b4 b5 b6 b7
    let F := outF (ptR (psub (edgeIn bits t.2.1) (edgeIn bits t.1))) (ptR (psub (edgeIn bits t.2.2) (edgeIn bits t.1)))
        (ptR (edgeDir bits t.1)) (ptR (edgeDir bits t.2.1)) (ptR (edgeDir bits t.2.2))
    0 ≤ F s0 s1 s2 ∧ ((0 < s0 ∧ s0 < 1) → (0 < s1 ∧ s1 < 1) → (0 < s2 ∧ s2 < 1) → 0 < F s0 s1 s2) := by
  intro bits F
  have T := List.all_eq_true.mp (table_triangle_outward_corners b0 b1 b2 b3 b4 b5 b6 b7) t ht
  rw [Bool.and_eq_true, List.all_eq_true, List.any_eq_true] at T
  -- `F` as a function of a parameter assignment: affine in each of the parameters 0, 1, 2, its corner values are `cornerVal`
  let f : (Nat → ℝ) → ℝ := fun τ => F (τ 0) (τ 1) (τ 2)
  have hA : ∀ e ∈ [0, 1, 2], AffineIn f e := by
    intro e he τ x
    simp only [List.mem_cons, List.not_mem_nil, or_false] at he
    rcases he with rfl | rfl | rfl <;>
      simp only [f, F, outF, upd, V3.Dot, V3.Cross, V3.Sub, V3.Add, V3.Scale, if_true, OfNat.ofNat_ne_zero, OfNat.ofNat_ne_one,
        OfNat.zero_ne_ofNat, OfNat.one_ne_ofNat, zero_ne_one, one_ne_zero, if_false] <;> ring
  have hval : ∀ (τ : Nat → ℝ) (g : Nat → Bool), f (corner τ [0, 1, 2] g) = ((cornerVal bits t (g 0, g 1, g 2) : Int) : ℝ) := by
    intro τ g; rw [cornerVal_cast_aux]; simp [f, F, corner]
  have hmem : ∀ g : Nat → Bool, (g 0, g 1, g 2) ∈ cubeCorners8 := by
    intro g; cases g 0 <;> cases g 1 <;> cases g 2 <;> decide
  have hnn : ∀ (τ : Nat → ℝ) (g : Nat → Bool), 0 ≤ f (corner τ [0, 1, 2] g) := by
    intro τ g; rw [hval]; exact_mod_cast of_decide_eq_true (T.1 _ (hmem g))
  let τ : Nat → ℝ := fun i => if i = 0 then s0 else if i = 1 then s1 else s2
  have hτ : ∀ (P : ℝ → Prop), P s0 → P s1 → P s2 → ∀ e ∈ [0, 1, 2], P (τ e) := by
    intro P p0 p1 p2 e he
    simp only [List.mem_cons, List.not_mem_nil, or_false] at he
    rcases he with rfl | rfl | rfl <;> simpa [τ]
  change 0 ≤ f τ ∧ (_ → _ → _ → 0 < f τ)
  refine ⟨multiaffine_nonneg_aux f [0, 1, 2] (by decide) hA τ (hτ (fun x => 0 ≤ x ∧ x ≤ 1) hs0 hs1 hs2) (hnn τ),
    fun c0 c1 c2 => multiaffine_pos_aux f [0, 1, 2] (by decide) hA τ (hτ (fun x => 0 < x ∧ x < 1) c0 c1 c2) (hnn τ) ?_⟩
  obtain ⟨c, _, hpos⟩ := T.2
  refine ⟨fun i => if i = 0 then c.1 else if i = 1 then c.2.1 else c.2.2, ?_⟩
  rw [hval]
  exact_mod_cast of_decide_eq_true hpos

/-- the vertex `interpolateVerts` puts on cube edge `e` of cell `p`, in lattice coordinates -/
noncomputable def vertR (G : Pt → ℝ) (c : ℝ) (p : Pt) (e : Nat) : V3 ℝ :=
  interpolateVerts (ptR (padd p (cornerOff (cA e)))) (ptR (padd p (cornerOff (cB e))))
    (G (padd p (cornerOff (cA e)))) (G (padd p (cornerOff (cB e)))) c

theorem vert_param_aux (G : Pt → ℝ) (c : ℝ) (p : Pt) (e : Nat) (ha8 : cA e < 8)
    (hcross : (G (padd p (cornerOff (cA e))) < c ∧ c ≤ G (padd p (cornerOff (cB e)))) ∨
      (G (padd p (cornerOff (cB e))) < c ∧ c ≤ G (padd p (cornerOff (cA e))))) :
    ∃ σ : ℝ, 0 < σ ∧ σ ≤ 1 ∧ (c < G (padd p (edgeOut (cellBits (signOf G c) p) e)) → σ < 1) ∧
      vertR G c p e = V3.Add (ptR (padd p (edgeIn (cellBits (signOf G c) p) e)))
        (V3.Scale (ptR (edgeDir (cellBits (signOf G c) p) e)) σ) := by
  have hbit : (cellBits (signOf G c) p).getD (cA e) false = decide (G (padd p (cornerOff (cA e))) < c) := by
    rw [cellBits_getD_aux _ _ _ ha8]; rfl
  rcases hcross with ⟨h1, h2⟩ | ⟨h1, h2⟩
  · have hb : (cellBits (signOf G c) p).getD (cA e) false = true := by rw [hbit]; simpa using h1
    have ib := (interp_between (G (padd p (cornerOff (cA e)))) (G (padd p (cornerOff (cB e)))) c).1 h1 h2
    refine ⟨interpolationValueFromCutoff (G (padd p (cornerOff (cA e)))) (G (padd p (cornerOff (cB e)))) c, ib.1, ib.2, ?_, ?_⟩
    · simp only [edgeOut, hb, if_true]
      intro hlt
      unfold interpolationValueFromCutoff
      have hd : 0 < G (padd p (cornerOff (cB e))) - G (padd p (cornerOff (cA e))) := by linarith
      rw [div_lt_one hd]; linarith
    · simp only [vertR, interpolateVerts, edgeIn, edgeDir, edgeOut, hb, if_true, V3.Add, V3.Scale, V3.Sub, ptR, psub, padd,
        V3.mk.injEq]
      refine ⟨?_, ?_, ?_⟩ <;> (push_cast; ring)
  · have hb : (cellBits (signOf G c) p).getD (cA e) false = false := by
      rw [hbit]; simpa using h2
    have ib := (interp_between (G (padd p (cornerOff (cA e)))) (G (padd p (cornerOff (cB e)))) c).2 h1 h2
    refine ⟨1 - interpolationValueFromCutoff (G (padd p (cornerOff (cA e)))) (G (padd p (cornerOff (cB e)))) c,
      by linarith [ib.2], by linarith [ib.1], ?_, ?_⟩
    · simp only [edgeOut, hb, Bool.false_eq_true, if_false]
      intro hlt
      have hd : G (padd p (cornerOff (cB e))) - G (padd p (cornerOff (cA e))) < 0 := by linarith
      have : 0 < interpolationValueFromCutoff (G (padd p (cornerOff (cA e)))) (G (padd p (cornerOff (cB e)))) c := by
        unfold interpolationValueFromCutoff
        exact div_pos_of_neg_of_neg (by linarith) hd
      linarith
    · simp only [vertR, interpolateVerts, edgeIn, edgeDir, edgeOut, hb, Bool.false_eq_true, if_false, V3.Add, V3.Scale,
        V3.Sub, ptR, psub, padd, V3.mk.injEq]
      refine ⟨?_, ?_, ?_⟩ <;> (push_cast; ring)

/-- normal of the emitted triangle (lattice coordinates): `(v₁ − v₀) × (v₂ − v₀)` -/
noncomputable def triNormalR (G : Pt → ℝ) (c : ℝ) (p : Pt) (t : Nat × Nat × Nat) : V3 ℝ :=
  V3.Cross (V3.Sub (vertR G c p t.2.1) (vertR G c p t.1)) (V3.Sub (vertR G c p t.2.2) (vertR G c p t.1))

/-- sum of the three inside→outside directions of the lattice edges the triangle's corners lie on -/
noncomputable def triOutDirR (G : Pt → ℝ) (c : ℝ) (p : Pt) (t : Nat × Nat × Nat) : V3 ℝ :=
  V3.Add (ptR (edgeDir (cellBits (signOf G c) p) t.1))
    (V3.Add (ptR (edgeDir (cellBits (signOf G c) p) t.2.1)) (ptR (edgeDir (cellBits (signOf G c) p) t.2.2)))

/-- **Every emitted triangle faces outward.**  For any sample grid `G`, cutoff `c`, cell `p` and any triangle the table
    emits for that cell, with the three corners at the positions `interpolateVerts` computes: the triangle's normal has a
    non-negative inner product with the sum of the inside→outside directions of its three lattice edges, and a positive
    one whenever none of the three outside end samples is exactly equal to the cutoff. -/
theorem emitted_triangle_outward (G : Pt → ℝ) (c : ℝ) (p : Pt) (t : Nat × Nat × Nat)
    (ht : t ∈ caseTris (caseIndex (cellBits (signOf G c) p))) :
    0 ≤ V3.Dot (triNormalR G c p t) (triOutDirR G c p t) ∧
    ((c < G (padd p (edgeOut (cellBits (signOf G c) p) t.1)) ∧ c < G (padd p (edgeOut (cellBits (signOf G c) p) t.2.1)) ∧
      c < G (padd p (edgeOut (cellBits (signOf G c) p) t.2.2))) →
      0 < V3.Dot (triNormalR G c p t) (triOutDirR G c p t)) := by
  have hl := table_tri_edges_lt ((signOf G c) (padd p (cornerOff 0))) ((signOf G c) (padd p (cornerOff 1)))
    ((signOf G c) (padd p (cornerOff 2))) ((signOf G c) (padd p (cornerOff 3))) ((signOf G c) (padd p (cornerOff 4)))
    ((signOf G c) (padd p (cornerOff 5))) ((signOf G c) (padd p (cornerOff 6))) ((signOf G c) (padd p (cornerOff 7)))
  rw [List.all_eq_true] at hl
  have hl' := hl t ht
  simp only [decide_eq_true_eq] at hl'
  obtain ⟨x0, _, _⟩ := emitted_vertex_on_crossing_edge G c p t ht t.1 (Or.inl rfl)
  obtain ⟨x1, _, _⟩ := emitted_vertex_on_crossing_edge G c p t ht t.2.1 (Or.inr (Or.inl rfl))
  obtain ⟨x2, _, _⟩ := emitted_vertex_on_crossing_edge G c p t ht t.2.2 (Or.inr (Or.inr rfl))
  obtain ⟨σ0, p0, q0, r0, e0⟩ := vert_param_aux G c p t.1 (corner_lt_aux _ hl'.1).1 x0
  obtain ⟨σ1, p1, q1, r1, e1⟩ := vert_param_aux G c p t.2.1 (corner_lt_aux _ hl'.2.1).1 x1
  obtain ⟨σ2, p2, q2, r2, e2⟩ := vert_param_aux G c p t.2.2 (corner_lt_aux _ hl'.2.2).1 x2
  have key := table_triangle_outward ((signOf G c) (padd p (cornerOff 0))) ((signOf G c) (padd p (cornerOff 1)))
    ((signOf G c) (padd p (cornerOff 2))) ((signOf G c) (padd p (cornerOff 3))) ((signOf G c) (padd p (cornerOff 4)))
    ((signOf G c) (padd p (cornerOff 5))) ((signOf G c) (padd p (cornerOff 6))) ((signOf G c) (padd p (cornerOff 7)))
    t ht σ0 σ1 σ2 ⟨p0.le, q0⟩ ⟨p1.le, q1⟩ ⟨p2.le, q2⟩
  have hF : V3.Dot (triNormalR G c p t) (triOutDirR G c p t) =
      outF (ptR (psub (edgeIn (cellBits (signOf G c) p) t.2.1) (edgeIn (cellBits (signOf G c) p) t.1)))
        (ptR (psub (edgeIn (cellBits (signOf G c) p) t.2.2) (edgeIn (cellBits (signOf G c) p) t.1)))
        (ptR (edgeDir (cellBits (signOf G c) p) t.1)) (ptR (edgeDir (cellBits (signOf G c) p) t.2.1))
        (ptR (edgeDir (cellBits (signOf G c) p) t.2.2)) σ0 σ1 σ2 := by
    simp only [triNormalR, triOutDirR, e0, e1, e2, outF, V3.Dot, V3.Cross, V3.Sub, V3.Add, V3.Scale, ptR, psub, padd]
    push_cast; ring
  rw [hF]
  exact ⟨key.1, fun h => key.2 ⟨p0, r0 h.1⟩ ⟨p1, r1 h.2.1⟩ ⟨p2, r2 h.2.2⟩⟩

/-- non-vacuity of `emitted_triangle_outward`, strict part: one inside sample at the origin, cutoff 0; the cell at the
    origin emits the triangle (0, 8, 3) and none of its outside end samples equals the cutoff -/
example : 0 < V3.Dot (triNormalR (fun q => if q = ((0:Int), (0:Int), (0:Int)) then (-1 : ℝ) else 1) 0 (0, 0, 0) (0, 8, 3))
    (triOutDirR (fun q => if q = ((0:Int), (0:Int), (0:Int)) then (-1 : ℝ) else 1) 0 (0, 0, 0) (0, 8, 3)) := by
  have h : cellBits (signOf (fun q => if q = ((0:Int), (0:Int), (0:Int)) then (-1 : ℝ) else 1) 0) (0, 0, 0)
      = [true, false, false, false, false, false, false, false] := by
    simp only [cellBits, signOf, padd]
    norm_num [cornerOff, cubeDataIndexIncrements, ptOfRow]
  refine (emitted_triangle_outward _ 0 (0, 0, 0) (0, 8, 3) (by rw [h]; decide)).2 ?_
  rw [h]
  have e0 : edgeOut [true, false, false, false, false, false, false, false] 0 = (1, 0, 0) := by decide
  have e8 : edgeOut [true, false, false, false, false, false, false, false] 8 = (0, 1, 0) := by decide
  have e3 : edgeOut [true, false, false, false, false, false, false, false] 3 = (0, 0, 1) := by decide
  simp only [e0, e8, e3, padd]
  norm_num

end orient

end C09
end PolyVerif
