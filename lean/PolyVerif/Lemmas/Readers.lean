/-
  Lemmas about Model/Readers.lean and Model/Spz.lean for Props/C14 (and the SPZ part of Props/C15).
  Per reader loop: it reads its reference encoding exactly (`*_exact`: the records back whatever follows, short
  on every cut; `Lemmas/ExactReader.lean`) — sequential reads, the PLY header line scan, binary PLY faces, ASCII
  PLY and PTS at the line/token level; the scanner on writer-shaped text (`scanLines_render`, `scanLines_cut`).
  Then the instrumented readers: `xI_spec` = same result as the plain loop and a step count linear in the input.
-/
import PolyVerif.Model.Readers
import PolyVerif.Lemmas.ExactReader
import PolyVerif.Lemmas.Splat
import PolyVerif.Lemmas.LittleEndian
import PolyVerif.Lemmas.Chunks
import Mathlib.Tactic

namespace PolyVerif
namespace Readers
open Spz
open Splat

/-! ## sequential exact reads (`readArrays`), little-endian counts, fixed-size records -/

theorem readArrays_short (sizes : List Nat) (bs : List UInt8) (h : bs.length < sizes.sum) :
    readArrays sizes bs = none := by
  induction sizes generalizing bs with
  | nil => simp at h
  | cons n ns ih =>
    simp only [readArrays]
    split
    · next hn =>
      have : (bs.drop n).length < ns.sum := by simp only [List.length_drop, List.sum_cons] at *; omega
      rw [ih _ this]
    · rfl

theorem readArrays_full (recs : List (List UInt8)) (rest : List UInt8) :
    readArrays (recs.map List.length) (recs.flatten ++ rest) = some (recs, rest) := by
  induction recs with
  | nil => simp [readArrays]
  | cons r rs ih =>
    simp only [List.map_cons, List.flatten_cons, List.append_assoc, readArrays]
    rw [if_pos (by simp)]
    simp [ih]

theorem readArrays_exact (recs : List (List UInt8)) :
    Exact .anywhere (readArrays (recs.map List.length)) recs.flatten (fun rest => some (recs, rest)) none :=
  .of_take (readArrays_full recs) fun t ht => readArrays_short _ _ (by
    rw [List.length_flatten] at ht; rw [List.length_take]; omega)

theorem readArrays_ok (sizes : List Nat) (bs : List UInt8) (h : sizes.sum ≤ bs.length) :
    ∃ as r, readArrays sizes bs = some (as, r) ∧ as.map List.length = sizes ∧ as.flatten ++ r = bs := by
  induction sizes generalizing bs with
  | nil => exact ⟨[], bs, rfl, rfl, rfl⟩
  | cons n ns ih =>
    have hn : n ≤ bs.length := by simp only [List.sum_cons] at h; omega
    obtain ⟨as, r, h1, h2, h3⟩ := ih (bs.drop n) (by simp only [List.length_drop, List.sum_cons] at *; omega)
    refine ⟨bs.take n :: as, r, ?_, ?_, ?_⟩
    · simp only [readArrays, if_pos hn, h1]
    · simp [h2, List.length_take, hn]
    · simp only [List.flatten_cons, List.append_assoc, h3, List.take_append_drop]

theorem readArrays_rest_le {sizes : List Nat} {bs : List UInt8} {as : List (List UInt8)} {r : List UInt8}
    (h : readArrays sizes bs = some (as, r)) : r.length ≤ bs.length := by
  induction sizes generalizing bs as r with
  | nil => simp only [readArrays, Option.some.injEq, Prod.mk.injEq] at h; rw [h.2]
  | cons n ns ih =>
    simp only [readArrays] at h
    split at h
    · cases hq : readArrays ns (bs.drop n) with
      | none => rw [hq] at h; simp at h
      | some y =>
        obtain ⟨as', r'⟩ := y
        rw [hq] at h
        simp only [Option.some.injEq, Prod.mk.injEq] at h
        have := ih hq
        simp only [List.length_drop] at this
        rw [← h.2]; omega
    · simp at h

theorem leNat_le32n (n : Nat) (h : n < 2 ^ 32) : leNat (le32n n) = n := by
  simp only [le32n, leNat, UInt8.toNat_ofNat', Nat.reducePow, Nat.mod_mod, Nat.mul_zero, Nat.add_zero,
    Nat.mul_add, ← Nat.mul_assoc, ← Nat.add_assoc]
  exact (LE.sum4 n).trans (Nat.mod_eq_of_lt h)

theorem le32n_length (n : Nat) : (le32n n).length = 4 := by simp [le32n]

theorem stlFile_length (hdr : List UInt8) (tris : List (List UInt8)) (hh : hdr.length = 80)
    (ht : ∀ t ∈ tris, t.length = 50) : (stlFile hdr tris).length = 84 + 50 * tris.length := by
  rw [stlFile, List.length_append, List.length_append, hh, le32n_length, Chunks.length_flatten_const 50 tris ht]; omega

/-! ## `.splat` record loop -/

theorem decRec_some_length {l : List UInt8} {r : Rec} (h : decRec l = some r) : l.length = 32 := by
  unfold decRec at h
  split at h
  · simp
  · simp at h

theorem readRecs_shortList (l : List UInt8) (h0 : l ≠ []) (h : l.length < 32) :
    readRecs l = ⟨[], true, 1⟩ := by
  rw [readRecs, dif_neg h0]
  cases hd : decRec (l.take 32) with
  | none => rfl
  | some r =>
    have := decRec_some_length hd
    simp only [List.length_take] at this
    omega

/-! ## PLY header line scan -/

theorem readLine_line (l rest : List UInt8) (hl : (10 : UInt8) ∉ l) :
    readLine (l ++ 10 :: rest) = some (l.filter (· ≠ 13), rest) := by
  induction l with
  | nil => simp [readLine]
  | cons b bs ih =>
    have hb : b ≠ 10 := fun h => hl (h ▸ List.mem_cons_self)
    have hbs : (10 : UInt8) ∉ bs := fun h => hl (List.mem_cons_of_mem _ h)
    simp only [List.cons_append, readLine, if_neg hb, ih hbs]
    by_cases h13 : b = 13 <;> simp [h13]

theorem readLine_noNL (l : List UInt8) (hl : (10 : UInt8) ∉ l) : readLine l = none := by
  induction l with
  | nil => rfl
  | cons b bs ih =>
    have hb : b ≠ 10 := fun h => hl (h ▸ List.mem_cons_self)
    have hbs : (10 : UInt8) ∉ bs := fun h => hl (List.mem_cons_of_mem _ h)
    simp only [readLine, if_neg hb, ih hbs]

/-- the text of a header: lines (none of them `end_header`), then the `end_header` line -/
def headerText (ls : List (List UInt8)) : List UInt8 :=
  ls.flatMap (fun l => l ++ [10]) ++ (endHeader ++ [10])

def HeaderLines (ls : List (List UInt8)) : Prop :=
  ∀ l ∈ ls, (10 : UInt8) ∉ l ∧ l.filter (· ≠ 13) ≠ endHeader

theorem skipHeader_of_readLine {bs l r : List UInt8} (h : readLine bs = some (l, r)) :
    skipHeader bs = if l = endHeader then some r else skipHeader r := by
  rw [skipHeader]; split
  · next h' => rw [h] at h'; cases h'
  · next l' r' h' => rw [h] at h'; cases h'; rfl

theorem skipHeader_none_of_readLine {bs : List UInt8} (h : readLine bs = none) : skipHeader bs = none := by
  rw [skipHeader]; split
  · rfl
  · next l r h' => rw [h] at h'; simp at h'

theorem not_mem_take {l : List UInt8} {b : UInt8} (h : b ∉ l) (k : Nat) : b ∉ l.take k :=
  fun hm => h (List.mem_of_mem_take hm)

theorem readLine_exact (l : List UInt8) (hl : (10 : UInt8) ∉ l) :
    Exact .anywhere readLine (l ++ [10]) (fun rest => some (l.filter (· ≠ 13), rest)) none :=
  .of_take (fun rest => by rw [List.append_assoc]; exact readLine_line l rest hl) fun t ht =>
    readLine_noNL _ (by
      rw [List.take_append_of_le_length (by simpa using Nat.le_of_lt_succ (by simpa using ht))]
      exact not_mem_take hl t)

/-- the header text is read up to and including the `end_header` line; a file cut anywhere inside it has no
    body: `ReadHeader` fails -/
theorem skipHeader_exact (ls : List (List UInt8)) (hls : HeaderLines ls) :
    Exact .anywhere skipHeader (headerText ls) some none := by
  induction ls with
  | nil =>
    have hE := readLine_exact endHeader (by decide)
    exact ⟨fun rest => by rw [show headerText [] = endHeader ++ [10] from rfl, skipHeader_of_readLine (hE.full rest)]; rfl,
      fun d hd => skipHeader_none_of_readLine (hE.cut d hd)⟩
  | cons l ls ih =>
    obtain ⟨h10, hne⟩ := hls l List.mem_cons_self
    have hL := readLine_exact l h10
    have hq := ih fun x hx => hls x (List.mem_cons_of_mem _ hx)
    rw [show headerText (l :: ls) = (l ++ [10]) ++ headerText ls by simp [headerText]]
    exact .append (fun rest => by rw [skipHeader_of_readLine (hL.full _), if_neg hne, hq.full])
      (fun d hd => skipHeader_none_of_readLine (hL.cut d hd))
      (fun d hd => by rw [skipHeader_of_readLine (hL.full _), if_neg hne, hq.cut d hd])

/-! ## binary PLY: reference encoding of the face element -/

def encCount (be : Bool) (cs n : Nat) : List UInt8 :=
  if cs = 1 then [UInt8.ofNat n] else if be then (le32n n).reverse else le32n n

/-- one instance of a list property: (number of entries, payload bytes) -/
abbrev ListInst := Nat × List UInt8

def ListInst.ok (p : ListProp) (x : ListInst) : Prop :=
  (p.countSize = 1 ∧ x.1 < 256 ∨ p.countSize = 4 ∧ x.1 < 2 ^ 32) ∧ x.2.length = x.1 * p.elemSize

def encList (be : Bool) (p : ListProp) (x : ListInst) : List UInt8 := encCount be p.countSize x.1 ++ x.2

theorem encCount_length (be : Bool) (p : ListProp) (x : ListInst) (h : ListInst.ok p x) :
    (encCount be p.countSize x.1).length = p.countSize := by
  rcases h.1 with ⟨h1, _⟩ | ⟨h4, _⟩
  · simp [encCount, h1]
  · simp only [encCount, h4]; cases be <;> simp [le32n_length]

theorem decodeCount_encCount (be : Bool) (p : ListProp) (x : ListInst) (h : ListInst.ok p x) :
    decodeCount be (encCount be p.countSize x.1) = x.1 := by
  rcases h.1 with ⟨h1, hx⟩ | ⟨h4, hx⟩
  · simp only [encCount, h1, if_true, decodeCount]
    split <;> simp [leNat, UInt8.toNat_ofNat'] <;> omega
  · simp only [encCount, h4, decodeCount]
    cases be <;> simp [leNat_le32n _ hx]

theorem binList_exact (be : Bool) (p : ListProp) (x : ListInst) (h : ListInst.ok p x) :
    Exact .anywhere (binList be p) (encList be p x) (fun rest => some (x.1, encList be p x, rest)) none := by
  have hc := encCount_length be p x h
  have hcs : p.countSize = 1 ∨ p.countSize = 4 := by rcases h.1 with ⟨a, _⟩ | ⟨a, _⟩ <;> simp [a]
  have hlen : (encList be p x).length = p.countSize + x.1 * p.elemSize := by simp [encList, hc, h.2]
  have ht : (encList be p x).take p.countSize = encCount be p.countSize x.1 := List.take_left' hc
  refine .of_take (fun rest => ?_) (fun j hj => ?_) <;> simp only [binList, if_pos hcs]
  · rw [if_pos (by simp [hlen]; omega), List.take_append_of_le_length (by omega), ht, decodeCount_encCount be p x h,
      if_pos (by simp [hlen]; omega), ← hlen]
    simp
  · by_cases hjc : p.countSize ≤ j
    -- the count field is whole: the payload it announces is not
    · rw [if_pos (by simp [List.length_take]; omega), List.take_take, Nat.min_eq_left hjc, ht,
        decodeCount_encCount be p x h, if_neg (by simp [List.length_take]; omega)]
    · rw [if_neg (by simp [List.length_take]; omega)]

def encLists (be : Bool) : List ListProp → List ListInst → List UInt8
  | p :: ps, x :: xs => encList be p x ++ encLists be ps xs
  | _, _ => []

def ListsOk : List ListProp → List ListInst → Prop
  | [], [] => True
  | p :: ps, x :: xs => ListInst.ok p x ∧ ListsOk ps xs
  | _, _ => False

theorem binFaceLists_exact (be : Bool) (ps : List ListProp) (xs : List ListInst) (h : ListsOk ps xs) :
    Exact .anywhere (binFaceLists be ps) (encLists be ps xs)
      (fun rest => some (xs.map (·.1), encLists be ps xs, rest)) none := by
  induction ps generalizing xs with
  | nil => cases xs <;> first | exact .nil fun _ => rfl | exact h.elim
  | cons p ps ih =>
    cases xs with
    | nil => exact h.elim
    | cons x xs =>
      have hp := binList_exact be p x h.1
      have hq := ih xs h.2
      exact .append (fun rest => by simp only [binFaceLists, hp.full, hq.full, List.map_cons, encLists])
        (fun d hd => by simp only [binFaceLists, hp.cut d hd])
        (fun d hd => by simp only [binFaceLists, hp.full, hq.cut d hd])

/-- a face instance fits the face header: list instances fit, and the index list has 3 or 4 entries -/
def FaceOk (f : FaceHdr) (xs : List ListInst) : Prop :=
  ListsOk f.lists xs ∧ ∃ pts, (xs.map (·.1))[f.idx]? = some pts ∧ (pts = 3 ∨ pts = 4)

def facePoints (f : FaceHdr) (xs : List ListInst) : Nat := ((xs.map (·.1))[f.idx]?).getD 0

theorem binFace_exact (be : Bool) (f : FaceHdr) (xs : List ListInst) (h : FaceOk f xs) :
    Exact .anywhere (binFace be f) (encLists be f.lists xs)
      (fun rest => .ok (⟨facePoints f xs, encLists be f.lists xs⟩, rest)) (.error .short) := by
  obtain ⟨hl, pts, hp, h34⟩ := h
  have hq := binFaceLists_exact be f.lists xs hl
  refine ⟨fun rest => ?_, fun d hd => by simp only [binFace, hq.cut d hd]⟩
  simp only [binFace, hq.full, hp, facePoints, Option.getD_some]
  rw [if_neg (by omega)]

def encFaces (be : Bool) (f : FaceHdr) (fs : List (List ListInst)) : List UInt8 :=
  fs.flatMap (encLists be f.lists)

theorem binFaces_exact (be : Bool) (f : FaceHdr) (fs : List (List ListInst)) (h : ∀ x ∈ fs, FaceOk f x) :
    Exact .anywhere (binFaces be f fs.length) (encFaces be f fs)
      (fun _ => .ok (fs.map fun xs => ⟨facePoints f xs, encLists be f.lists xs⟩)) (.error .short) := by
  induction fs with
  | nil => exact .nil fun _ => rfl
  | cons x fs ih =>
    have hp := binFace_exact be f x (h x List.mem_cons_self)
    have hq := ih fun y hy => h y (List.mem_cons_of_mem _ hy)
    simp only [encFaces, List.flatMap_cons] at hq ⊢
    exact .append (fun rest => by simp only [List.length_cons, binFaces, hp.full, hq.full, List.map_cons])
      (fun d hd => by simp only [List.length_cons, binFaces, hp.cut d hd])
      (fun d hd => by simp only [List.length_cons, binFaces, hp.full, hq.cut d hd])

/-! ## ASCII PLY body on lines and tokens -/

/-- a vertex line as the writer produces it: non-empty text, exactly one parseable token per property -/
def VLineOk (L : Lex) (n : Nat) (l : Line) : Prop :=
  l.blank = false ∧ l.toks.length = n ∧ (l.toks.all L.floatOk) = true

/-- what a cut inside line `l` at a token boundary leaves: non-empty text holding the first `t` tokens,
    `0 < t < number of tokens` -/
def PartialOf (d l : Line) : Prop :=
  d.blank = false ∧ ∃ t, 0 < t ∧ t < l.toks.length ∧ d.toks = l.toks.take t

theorem asciiVerts_step (L : Lex) (n : Nat) (l : Line) (ls : List Line) (k : Nat) (h : VLineOk L n l) :
    asciiVerts L n (l :: ls) (k + 1) =
      match asciiVerts L n ls k with
      | .error e => .error e
      | .ok (vs, r) => .ok (l.toks :: vs, r) := by
  obtain ⟨hb, rfl, ha⟩ := h
  simp only [asciiVerts, hb, Nat.lt_irrefl, if_false, List.take_length, ha, Bool.not_true,
    Bool.false_eq_true]
  cases asciiVerts L l.toks.length ls k with
  | error e => rfl
  | ok p => cases p; rfl

theorem asciiVerts_exact (L : Lex) (n : Nat) (vs : List Line) (h : ∀ l ∈ vs, VLineOk L n l) :
    Exact (.lines PartialOf) (fun ls => asciiVerts L n ls vs.length) vs (fun rest => .ok (vs.map (·.toks), rest))
      (.error .short) := by
  induction vs with
  | nil => exact .nil fun rest => by cases rest <;> rfl
  | cons l vs ih =>
    have hl := h l List.mem_cons_self
    have hq := ih fun x hx => h x (List.mem_cons_of_mem _ hx)
    refine .cons (fun rest => by simp only [List.length_cons, asciiVerts_step L n l _ _ hl, hq.full, List.map_cons])
      rfl (fun x hx => ?_) (fun d hd => by simp only [List.length_cons, asciiVerts_step L n l _ _ hl, hq.cut d hd])
    obtain ⟨hxb, t, _, ht, hxt⟩ := hx
    have : x.toks.length < n := by rw [hxt, List.length_take, ← hl.2.1]; omega
    simp [asciiVerts, hxb, this]

theorem asciiVerts_rest_suffix {L : Lex} {np : Nat} {ls : List Line} {n : Nat} {vs : List (List Tok)} {r : List Line}
    (h : asciiVerts L np ls n = .ok (vs, r)) : ∃ pre, ls = pre ++ r := by
  induction ls generalizing n vs r with
  | nil =>
    cases n with
    | zero => simp only [asciiVerts, Except.ok.injEq, Prod.mk.injEq] at h; exact ⟨[], by simp [h.2]⟩
    | succ n => simp [asciiVerts] at h
  | cons l ls ih =>
    cases n with
    | zero => simp only [asciiVerts, Except.ok.injEq, Prod.mk.injEq] at h; exact ⟨[], by simp [h.2]⟩
    | succ n =>
      simp only [asciiVerts] at h
      split at h
      · obtain ⟨pre, hp⟩ := ih h; exact ⟨l :: pre, by simp [hp]⟩
      · split at h
        · cases h
        · split at h
          · cases h
          · cases hq : asciiVerts L np ls n with
            | error e => rw [hq] at h; cases h
            | ok x =>
              obtain ⟨vs', r'⟩ := x
              rw [hq] at h
              simp only [Except.ok.injEq, Prod.mk.injEq] at h
              obtain ⟨pre, hp⟩ := ih hq
              exact ⟨l :: pre, by rw [← h.2]; simp [hp]⟩

/-- token-level instance of a list property: the count token and the entries -/
structure TokList where
  cnt : Tok
  entries : List Tok

def TokList.toks (x : TokList) : List Tok := x.cnt :: x.entries

/-- the list instances fit the face header from list index `i` on -/
def TokListsOk (L : Lex) (f : FaceHdr) : Nat → List TokList → Prop
  | _, [] => True
  | i, x :: xs => L.int? x.cnt = some (x.entries.length : Int) ∧ entriesOk L f i x.entries = true ∧
      TokListsOk L f (i + 1) xs

def ptsUpd (f : FaceHdr) : Nat → List TokList → Option Nat → Option Nat
  | _, [], pts => pts
  | i, x :: xs, pts => ptsUpd f (i + 1) xs (if i = f.idx then some x.entries.length else pts)

theorem asciiList_exact (L : Lex) (x : TokList) (h : L.int? x.cnt = some (x.entries.length : Int)) :
    Exact .anywhere (asciiList L) x.toks (fun rest => some (x.entries, rest)) none := by
  refine .of_take (fun rest => ?_) (fun t ht => ?_)
  · simp only [TokList.toks, List.cons_append, asciiList, h]
    rw [if_neg (by
      rintro (h | h)
      · omega
      · rw [List.length_append] at h; omega)]
    simp
  · cases t with
    | zero => simp [asciiList]
    | succ t =>
      simp only [TokList.toks, List.take_succ_cons, asciiList, h]
      rw [if_pos]
      right
      simp only [TokList.toks, List.length_cons] at ht
      simp only [List.length_take]; omega

theorem asciiList_consumes {L : Lex} {toks es rest : List Tok} (h : asciiList L toks = some (es, rest)) :
    rest.length + 1 ≤ toks.length := by
  cases toks with
  | nil => simp [asciiList] at h
  | cons c r =>
    simp only [asciiList] at h
    cases hi : L.int? c with
    | none => rw [hi] at h; simp at h
    | some v =>
      rw [hi] at h; simp only at h
      split at h
      · simp at h
      · simp only [Option.some.injEq, Prod.mk.injEq] at h
        rw [← h.2]; simp only [List.length_drop, List.length_cons]; omega

/-- the list readers of one face line; what follows the last list is left to the end-of-line check -/
theorem faceLine_exact (L : Lex) (f : FaceHdr) (i : Nat) (xs : List TokList) (h : TokListsOk L f i xs)
    (pts : Option Nat) :
    Exact .anywhere (fun toks => asciiFaceLine L f i xs.length toks pts) (xs.flatMap TokList.toks)
      (fun extra => asciiFaceLine L f (i + xs.length) 0 extra (ptsUpd f i xs pts)) (.error .short) := by
  induction xs generalizing i pts with
  | nil => exact .nil fun _ => rfl
  | cons x xs ih =>
    obtain ⟨h1, h2, h3⟩ := h
    have hp := asciiList_exact L x h1
    have hq := ih (i + 1) h3 (if i = f.idx then some x.entries.length else pts)
    rw [List.flatMap_cons]
    exact .append
      (fun rest => by simp only [List.length_cons, asciiFaceLine, hp.full, h2, if_true, hq.full, ptsUpd])
      (fun d hd => by simp only [List.length_cons, asciiFaceLine, hp.cut d hd])
      (fun d hd => by simp only [List.length_cons, asciiFaceLine, hp.full, h2, if_true, hq.cut d hd])

/-- a face line as the writer produces it: the token-level encoding of list instances that fit the
    header, an index list of 3 or 4 entries, nothing after the last list -/
def FLineOk (L : Lex) (f : FaceHdr) (l : Line) : Prop :=
  l.blank = false ∧ ∃ xs : List TokList, xs.length = f.lists.length ∧ TokListsOk L f 0 xs ∧
    l.toks = xs.flatMap TokList.toks ∧ ∃ p, ptsUpd f 0 xs none = some p ∧ (p = 3 ∨ p = 4)

theorem faceLine_ok (L : Lex) (f : FaceHdr) (l : Line) (h : FLineOk L f l) :
    ∃ p, asciiFaceLine L f 0 f.lists.length l.toks none = .ok p ∧ (p = 3 ∨ p = 4) := by
  obtain ⟨_, xs, hlen, hok, htoks, p, hp, h34⟩ := h
  refine ⟨p, ?_, h34⟩
  have := (faceLine_exact L f 0 xs hok none).whole
  simp only [hp] at this
  rw [htoks, ← hlen, this]
  simp only [asciiFaceLine]
  rw [if_neg (by omega)]

theorem faceLine_partial (L : Lex) (f : FaceHdr) (l d : Line) (h : FLineOk L f l) (hd : PartialOf d l) :
    asciiFaceLine L f 0 f.lists.length d.toks none = .error .short := by
  obtain ⟨_, xs, hlen, hok, htoks, _⟩ := h
  obtain ⟨_, t, _, ht, hdt⟩ := hd
  rw [hdt, htoks, ← hlen]
  exact (faceLine_exact L f 0 xs hok none).cut_take (by rw [← htoks]; exact ht)

/-- the points of a face line (3 or 4) -/
def linePoints (L : Lex) (f : FaceHdr) (l : Line) : Nat :=
  match asciiFaceLine L f 0 f.lists.length l.toks none with
  | .ok p => p
  | .error _ => 0

theorem asciiFaces_exact (L : Lex) (f : FaceHdr) (fl : List Line) (h : ∀ l ∈ fl, FLineOk L f l) :
    Exact (.lines PartialOf) (fun ls => asciiFaces L f ls fl.length) fl
      (fun _ => .ok (fl.map fun l => (linePoints L f l, l.toks))) (.error .short) := by
  induction fl with
  | nil => exact .nil fun rest => by cases rest <;> rfl
  | cons l fl ih =>
    have hl := h l List.mem_cons_self
    obtain ⟨p, hp, _⟩ := faceLine_ok L f l hl
    have hq := ih fun x hx => h x (List.mem_cons_of_mem _ hx)
    exact .cons
      (fun rest => by
        simp only [List.length_cons, asciiFaces, hl.1, hp, hq.full, List.map_cons, linePoints, Bool.false_eq_true,
          if_false])
      rfl (fun x hx => by simp [asciiFaces, hx.1, faceLine_partial L f l x hl hx])
      (fun d hd => by simp only [List.length_cons, asciiFaces, hl.1, hp, hq.cut d hd, Bool.false_eq_true, if_false])

/-! ## PTS on lines and tokens -/

/-- a point line as written: `fpp ≥ 3` tokens, the ones the reader uses parse -/
def PLineOk (L : Lex) (fpp : Nat) (l : Line) : Prop :=
  l.toks.length = fpp ∧ 3 ≤ fpp ∧ ptsTokensOk L l.toks = true

theorem ptsLoop_step (L : Lex) (fpp : Nat) (l : Line) (ls : List Line) (n : Nat) (o : Option Nat)
    (h : PLineOk L fpp l) (ho : o = none ∨ o = some fpp) :
    ptsLoop L (l :: ls) (n + 1) o =
      match ptsLoop L ls n (some fpp) with
      | .error e => .error e
      | .ok ps => .ok (ptsPoint l.toks :: ps) := by
  obtain ⟨rfl, h3, hok⟩ := h
  have hne : l.toks.isEmpty = false := by
    cases hl : l.toks with
    | nil => simp [hl] at h3
    | cons a b => rfl
  rcases ho with rfl | rfl
  · simp only [ptsLoop, hne, Bool.false_eq_true, if_false, hok, Bool.not_true]
    rw [if_neg (by omega)]
    cases ptsLoop L ls n (some l.toks.length) with
    | error e => rfl
    | ok p => rfl
  · simp only [ptsLoop, hne, Bool.false_eq_true, if_false, hok, Bool.not_true, bne_self_eq_false]
    rw [if_neg (by omega)]
    cases ptsLoop L ls n (some l.toks.length) with
    | error e => rfl
    | ok p => rfl

/-- after a point line the field count is fixed: the remaining point lines are read exactly, a damaged line
    being one with fewer fields -/
theorem ptsLoop_exact (L : Lex) (fpp : Nat) (pl : List Line) (h : ∀ l ∈ pl, PLineOk L fpp l) :
    Exact (.lines fun x _ => ∃ t, 0 < t ∧ t < fpp ∧ x.toks.length = t) (fun ls => ptsLoop L ls pl.length (some fpp)) pl
      (fun _ => .ok (pl.map fun l => ptsPoint l.toks)) (.error .short) := by
  induction pl with
  | nil => exact .nil fun rest => by cases rest <;> rfl
  | cons l pl ih =>
    have hl := h l List.mem_cons_self
    have hq := ih fun x hx => h x (List.mem_cons_of_mem _ hx)
    refine .cons
      (fun rest => by simp only [List.length_cons, ptsLoop_step L fpp l _ _ _ hl (Or.inr rfl), hq.full, List.map_cons])
      rfl (fun x hx => ?_)
      (fun d hd => by simp only [List.length_cons, ptsLoop_step L fpp l _ _ _ hl (Or.inr rfl), hq.cut d hd])
    obtain ⟨t, ht0, ht, hxt⟩ := hx
    have hne : x.toks.isEmpty = false := by
      cases hx' : x.toks with
      | nil => rw [hx'] at hxt; exact absurd hxt (Nat.ne_of_lt ht0)
      | cons a b => rfl
    simp only [List.length_cons, ptsLoop, hne, Bool.false_eq_true, if_false]
    by_cases h3 : x.toks.length < 3
    · rw [if_pos h3]
    · rw [if_neg h3, if_pos (by simp; omega)]

/-- the point a cut first line yields carries only tokens of the full line: each component is the full
    point's component or absent -/
theorem ptsPoint_restriction (toks : List Tok) (t : Nat) (ht : 3 ≤ t) :
    (ptsPoint (toks.take t)).pos = (ptsPoint toks).pos ∧
    ((ptsPoint (toks.take t)).intensity = none ∨ (ptsPoint (toks.take t)).intensity = (ptsPoint toks).intensity) ∧
    ((ptsPoint (toks.take t)).color = none ∨ (ptsPoint (toks.take t)).color = (ptsPoint toks).color) := by
  refine ⟨?_, ?_, ?_⟩
  · simp only [ptsPoint, List.take_take]; congr 1; omega
  · simp only [ptsPoint, List.length_take]
    by_cases h : 3 < min t toks.length
    · right
      rw [if_pos h, if_pos (by omega)]
      rw [List.getElem?_take]; simp; omega
    · left; rw [if_neg h]
  · simp only [ptsPoint, List.length_take]
    by_cases h : 6 < min t toks.length
    · right
      rw [if_pos h, if_pos (by omega)]
      congr 1
      rw [List.drop_take, List.take_take]; congr 1; omega
    · left; rw [if_neg h]

/-! ## the scanner (`scanLines`, `fields`) on writer-shaped text, and the sizes of what it delivers -/

/-- tokens joined by single spaces -/
def joinSp : List Tok → List UInt8
  | [] => []
  | [t] => t
  | t :: t' :: ts => t ++ 32 :: joinSp (t' :: ts)

/-- a printed number: non-empty, no white space -/
def CleanTok (t : Tok) : Prop := t ≠ [] ∧ ∀ b ∈ t, isSpace b = false

def CleanText (ls : List (List Tok)) : Prop := ∀ ts ∈ ls, ∀ t ∈ ts, CleanTok t

theorem CleanTok.line {t : Tok} (h : CleanTok t) : ∀ x ∈ [t], CleanTok x :=
  fun _ hx => List.mem_singleton.mp hx ▸ h

theorem CleanText.nil : CleanText [] := fun _ h => absurd h List.not_mem_nil

theorem CleanText.cons {ts : List Tok} {ls : List (List Tok)} (h : ∀ t ∈ ts, CleanTok t) (hls : CleanText ls) :
    CleanText (ts :: ls) := fun x hx => by
  rcases List.mem_cons.mp hx with rfl | hx
  · exact h
  · exact hls x hx

theorem CleanText.take {ls : List (List Tok)} (h : CleanText ls) (j : Nat) : CleanText (ls.take j) :=
  fun ts hts => h ts (List.mem_of_mem_take hts)

theorem CleanText.take_snoc {ls : List (List Tok)} (h : CleanText ls) {j : Nat} (hj : j < ls.length) :
    CleanText (ls.take j ++ [ls[j]]) := by
  rw [← List.take_succ_eq_append_getElem hj]; exact h.take _

theorem fieldsAux_tok (t : Tok) (ht : ∀ b ∈ t, isSpace b = false) (rest cur : List UInt8) :
    fieldsAux (t ++ rest) cur = fieldsAux rest (t.reverse ++ cur) := by
  induction t generalizing cur with
  | nil => rfl
  | cons b t ih =>
    have hb := ht b List.mem_cons_self
    simp only [List.cons_append, fieldsAux, hb, Bool.false_eq_true, if_false]
    rw [ih (fun x hx => ht x (List.mem_cons_of_mem _ hx))]
    simp

theorem fields_joinSp_aux (ts : List Tok) (h : ∀ t ∈ ts, CleanTok t) (tail : List UInt8)
    (htail : tail = [] ∨ tail = [32]) :
    fieldsAux (joinSp ts ++ tail) [] = ts := by
  induction ts with
  | nil => rcases htail with rfl | rfl <;> simp [joinSp, fieldsAux, isSpace]
  | cons t ts ih =>
    obtain ⟨hne, hsp⟩ := h t List.mem_cons_self
    have hts : ∀ x ∈ ts, CleanTok x := fun x hx => h x (List.mem_cons_of_mem _ hx)
    have hrev : (t.reverse ++ ([] : List UInt8)).isEmpty = false := by
      cases t with
      | nil => exact absurd rfl hne
      | cons a b => simp
    cases ts with
    | nil =>
      simp only [joinSp]
      rw [fieldsAux_tok t hsp]
      rcases htail with rfl | rfl
      · simp only [fieldsAux, hrev, Bool.false_eq_true, if_false]; simp
      · simp only [fieldsAux, isSpace, hrev, Bool.false_eq_true, if_false]; simp
    | cons t' ts =>
      simp only [joinSp, List.append_assoc, List.cons_append]
      rw [fieldsAux_tok t hsp]
      simp only [fieldsAux, isSpace, hrev, Bool.false_eq_true, if_false]
      have := ih hts
      rw [if_pos (by decide), this]
      simp

theorem fields_joinSp (ts : List Tok) (h : ∀ t ∈ ts, CleanTok t) : fields (joinSp ts) = ts := by
  have := fields_joinSp_aux ts h [] (Or.inl rfl)
  simpa [fields] using this

theorem fields_joinSp_space (ts : List Tok) (h : ∀ t ∈ ts, CleanTok t) : fields (joinSp ts ++ [32]) = ts :=
  fields_joinSp_aux ts h [32] (Or.inr rfl)

theorem scanLinesAux_line (l rest cur : List UInt8) (hl : (10 : UInt8) ∉ l) :
    scanLinesAux (l ++ 10 :: rest) cur = dropCR (cur.reverse ++ l) :: scanLinesAux rest [] := by
  induction l generalizing cur with
  | nil => simp [scanLinesAux]
  | cons b l ih =>
    have hb : b ≠ 10 := fun h => hl (h ▸ List.mem_cons_self)
    simp only [List.cons_append, scanLinesAux, if_neg hb]
    rw [ih (b :: cur) (fun h => hl (List.mem_cons_of_mem _ h))]
    simp

theorem scanLinesAux_last (p cur : List UInt8) (hp : (10 : UInt8) ∉ p) :
    scanLinesAux p cur = if (cur.reverse ++ p).isEmpty then [] else [dropCR (cur.reverse ++ p)] := by
  induction p generalizing cur with
  | nil => simp [scanLinesAux]
  | cons b p ih =>
    have hb : b ≠ 10 := fun h => hp (h ▸ List.mem_cons_self)
    simp only [scanLinesAux, if_neg hb]
    rw [ih (b :: cur) (fun h => hp (List.mem_cons_of_mem _ h))]
    simp

theorem dropCR_noCR (l : List UInt8) (h : (13 : UInt8) ∉ l) : dropCR l = l := by
  unfold dropCR
  split
  · next r hr =>
    exfalso; apply h
    have : (13 : UInt8) ∈ l.reverse := by rw [hr]; exact List.mem_cons_self
    simpa using this
  · rfl

/-- the text of a body: every line its tokens joined by single spaces, then a line feed -/
def renderLines (ls : List (List Tok)) : List UInt8 := ls.flatMap fun ts => joinSp ts ++ [10]

def mkLine (ts : List Tok) : Line := ⟨joinSp ts, ts⟩

theorem joinSp_noSpecial (ts : List Tok) (h : ∀ t ∈ ts, CleanTok t) :
    (10 : UInt8) ∉ joinSp ts ∧ (13 : UInt8) ∉ joinSp ts := by
  induction ts with
  | nil => simp [joinSp]
  | cons t ts ih =>
    obtain ⟨_, hsp⟩ := h t List.mem_cons_self
    have hts : ∀ x ∈ ts, CleanTok x := fun x hx => h x (List.mem_cons_of_mem _ hx)
    have h10 : (10 : UInt8) ∉ t := fun hm => by have := hsp _ hm; simp [isSpace] at this
    have h13 : (13 : UInt8) ∉ t := fun hm => by have := hsp _ hm; simp [isSpace] at this
    cases ts with
    | nil => exact ⟨h10, h13⟩
    | cons t' ts =>
      obtain ⟨i10, i13⟩ := ih hts
      simp only [joinSp, List.mem_append, List.mem_cons]
      constructor
      · rintro (hm | hm | hm)
        · exact h10 hm
        · exact absurd hm (by decide)
        · exact i10 hm
      · rintro (hm | hm | hm)
        · exact h13 hm
        · exact absurd hm (by decide)
        · exact i13 hm

/-- complete lines followed by a last piece `p` without line break: the scanner delivers the lines, and `p`
    as a final line when it is non-empty -/
theorem scanLines_render (ls : List (List Tok)) (h : CleanText ls) (p : List UInt8)
    (hp10 : (10 : UInt8) ∉ p) (hp13 : (13 : UInt8) ∉ p) :
    scanLines (renderLines ls ++ p) = ls.map mkLine ++ (if p.isEmpty then [] else [⟨p, fields p⟩]) := by
  unfold scanLines
  induction ls with
  | nil =>
    simp only [renderLines, List.flatMap_nil, List.nil_append, List.map_nil]
    rw [scanLinesAux_last p [] hp10]
    simp only [List.reverse_nil, List.nil_append]
    by_cases hpe : p.isEmpty = true
    · simp [hpe]
    · simp [hpe, dropCR_noCR p hp13]
  | cons ts ls ih =>
    obtain ⟨j10, j13⟩ := joinSp_noSpecial ts (h ts List.mem_cons_self)
    have hls : CleanText ls := fun x hx => h x (List.mem_cons_of_mem _ hx)
    have e : renderLines (ts :: ls) ++ p = joinSp ts ++ 10 :: (renderLines ls ++ p) := by
      simp [renderLines]
    rw [e, scanLinesAux_line _ _ _ j10]
    simp only [List.reverse_nil, List.nil_append, List.map_cons, dropCR_noCR _ j13]
    rw [ih hls]
    simp [mkLine, fields_joinSp ts (h ts List.mem_cons_self)]

theorem joinSp_ne_nil (ts : List Tok) (h : ∀ t ∈ ts, CleanTok t) (hne : ts ≠ []) : joinSp ts ≠ [] := by
  cases ts with
  | nil => exact absurd rfl hne
  | cons t ts =>
    obtain ⟨htne, _⟩ := h t List.mem_cons_self
    cases ts with
    | nil => simpa [joinSp] using htne
    | cons t' ts => simp [joinSp]

theorem take_ne_nil {β : Type} {l : List β} {t : Nat} (h0 : 0 < t) (ht : t < l.length) : l.take t ≠ [] := by
  intro e
  have := congrArg List.length e
  rw [List.length_take, List.length_nil] at this
  omega

/-- what the scanner delivers for the unterminated end of a cut text — the tokens `ts` joined by single spaces, with or
    without the next separating space: nothing when there are no tokens, else one line holding exactly these tokens -/
def cutLine (ts : List Tok) (sp : Bool) : Option Line :=
  if ts = [] then none else some ⟨joinSp ts ++ (if sp then [32] else []), ts⟩

theorem cutLine_of_ne {ts : List Tok} (h : ts ≠ []) (sp : Bool) :
    cutLine ts sp = some ⟨joinSp ts ++ (if sp then [32] else []), ts⟩ := if_neg h

theorem scanLines_cut (ls : List (List Tok)) (h : CleanText ls) (ts : List Tok)
    (hts : ∀ t ∈ ts, CleanTok t) (sp : Bool) (hsp : sp = true → ts ≠ []) :
    scanLines (renderLines ls ++ (joinSp ts ++ (if sp then [32] else []))) =
      ls.map mkLine ++ (cutLine ts sp).toList := by
  obtain ⟨p10, p13⟩ := joinSp_noSpecial ts hts
  rw [scanLines_render ls h _ (by cases sp <;> simp [p10]) (by cases sp <;> simp [p13])]
  by_cases hne : ts = []
  · subst hne
    cases sp with
    | false => rfl
    | true => exact absurd rfl (hsp rfl)
  · have hf : fields (joinSp ts ++ (if sp then [32] else [])) = ts := by
      cases sp with
      | false => simpa using fields_joinSp ts hts
      | true => exact fields_joinSp_space ts hts
    have hj : (joinSp ts ++ (if sp then [32] else [])).isEmpty = false := by
      simp [joinSp_ne_nil ts hts hne]
    rw [cutLine_of_ne hne, hf, hj]; rfl

theorem cutLine_partial {l : List Tok} (hl : ∀ x ∈ l, CleanTok x) {t : Nat} (ht : t < l.length) {sp : Bool}
    {x : Line} (hx : cutLine (l.take t) sp = some x) : PartialOf x (mkLine l) := by
  unfold cutLine at hx
  split at hx
  · cases hx
  · next hne =>
    cases hx
    have hj := joinSp_ne_nil (l.take t) (fun y hy => hl y (List.mem_of_mem_take hy)) hne
    refine ⟨by simp [Line.blank, hj], t, Nat.pos_of_ne_zero (fun h0 => hne (by rw [h0, List.take_zero])), ht, rfl⟩

theorem dropCR_length_le (l : List UInt8) : (dropCR l).length ≤ l.length := by
  unfold dropCR
  split
  · next r hr =>
    have : l.reverse.length = r.length + 1 := by rw [hr]; simp
    simp only [List.length_reverse] at this ⊢; omega
  · exact Nat.le_refl _

/-- the lines the scanner delivers: at most one per byte (+1), and together no longer than the input -/
theorem scanLinesAux_sizes (bs cur : List UInt8) :
    (scanLinesAux bs cur).length ≤ bs.length + 1 ∧
    ((scanLinesAux bs cur).map List.length).sum ≤ bs.length + cur.length := by
  induction bs generalizing cur with
  | nil =>
    simp only [scanLinesAux]
    split
    · simp
    · have := dropCR_length_le cur.reverse; simp only [List.length_reverse] at this; simp; omega
  | cons b bs ih =>
    simp only [scanLinesAux]
    split
    · obtain ⟨h1, h2⟩ := ih []
      have := dropCR_length_le cur.reverse; simp only [List.length_reverse] at this
      simp only [List.length_cons, List.map_cons, List.sum_cons, List.length_nil] at *
      omega
    · obtain ⟨h1, h2⟩ := ih (b :: cur)
      simp only [List.length_cons] at *; omega

theorem fieldsAux_length_le (l cur : List UInt8) : (fieldsAux l cur).length ≤ l.length + 1 := by
  induction l generalizing cur with
  | nil => simp only [fieldsAux]; split <;> simp
  | cons b l ih =>
    simp only [fieldsAux]
    split
    · split
      · have := ih []; simp only [List.length_cons]; omega
      · have := ih []; simp only [List.length_cons]; omega
    · have := ih (b :: cur); simp only [List.length_cons]; omega

theorem scanLines_tokens (bs : List UInt8) :
    (scanLines bs).length ≤ bs.length + 1 ∧
    ((scanLines bs).map fun l => l.toks.length + 3).sum ≤ 5 * bs.length + 4 := by
  obtain ⟨h1, h2⟩ := scanLinesAux_sizes bs []
  simp only [List.length_nil, Nat.add_zero] at h2
  refine ⟨by simpa [scanLines] using h1, ?_⟩
  have hle : ∀ ls : List (List UInt8),
      ((ls.map fun r => (⟨r, fields r⟩ : Line)).map fun l => l.toks.length + 3).sum ≤ (ls.map List.length).sum + 4 * ls.length := by
    intro ls
    induction ls with
    | nil => simp
    | cons r ls ih =>
      have := fieldsAux_length_le r []
      simp only [List.map_cons, List.sum_cons, List.length_cons, fields] at *
      omega
  have := hle (scanLinesAux bs [])
  simp only [scanLines]
  omega

/-! ## instrumented loops: `xI_spec` = the plain loop's result and a step count -/

/-- number of zero-size reads requested -/
def zeroSizes (sizes : List Nat) : Nat := (sizes.filter (· = 0)).length

theorem zeroSizes_replicate (n m : Nat) (hm : 1 ≤ m) : zeroSizes (List.replicate n m) = 0 := by
  simp only [zeroSizes]
  rw [List.filter_eq_nil_iff.mpr]
  · rfl
  · intro a ha; simp only [List.mem_replicate] at ha; simp; omega

theorem readArraysI_spec (sizes : List Nat) (bs : List UInt8) :
    (readArraysI sizes bs).1 = readArrays sizes bs ∧ (readArraysI sizes bs).2 ≤ sizes.length ∧
    (readArraysI sizes bs).2 ≤ bs.length + 1 + zeroSizes sizes := by
  induction sizes generalizing bs with
  | nil => simp [readArraysI, readArrays]
  | cons n ns ih =>
    have hz : zeroSizes (n :: ns) = zeroSizes ns + (if n = 0 then 1 else 0) := by
      simp only [zeroSizes, List.filter_cons]
      by_cases h : n = 0 <;> simp [h]
    obtain ⟨h1, h2, h3⟩ := ih (bs.drop n)
    simp only [readArraysI, readArrays, List.length_cons, hz]
    split
    · next hn =>
      simp only [List.length_drop] at h3
      refine ⟨by rw [h1]; cases readArrays ns (bs.drop n) <;> rfl, by simp only; omega, ?_⟩
      simp only
      split <;> omega
    · exact ⟨rfl, by omega, by omega⟩

theorem asciiVertsI_spec (L : Lex) (np : Nat) (ls : List Line) (n : Nat) :
    (asciiVertsI L np ls n).1 = asciiVerts L np ls n ∧ (asciiVertsI L np ls n).2 ≤ ls.length + 1 := by
  induction ls generalizing n with
  | nil => cases n <;> simp [asciiVertsI, asciiVerts]
  | cons l ls ih =>
    cases n with
    | zero => simp [asciiVertsI, asciiVerts]
    | succ n =>
      have h1 := ih (n + 1); have h2 := ih n
      simp only [asciiVertsI, asciiVerts, List.length_cons]
      split_ifs <;> simp only [h1.1, h2.1, true_and] <;> omega

theorem asciiFacesI_spec (L : Lex) (f : FaceHdr) (ls : List Line) (n : Nat) :
    (asciiFacesI L f ls n).1 = asciiFaces L f ls n ∧ (asciiFacesI L f ls n).2 ≤ ls.length + 1 := by
  induction ls generalizing n with
  | nil => cases n <;> simp [asciiFacesI, asciiFaces]
  | cons l ls ih =>
    cases n with
    | zero => simp [asciiFacesI, asciiFaces]
    | succ n =>
      have h1 := ih (n + 1); have h2 := ih n
      simp only [asciiFacesI, asciiFaces, List.length_cons]
      split_ifs
      · exact ⟨h1.1, by omega⟩
      · cases asciiFaceLine L f 0 f.lists.length l.toks none with
        | error e => exact ⟨rfl, by simp only; omega⟩
        | ok p => exact ⟨by simp only [h2.1], by simp only; omega⟩

theorem ptsLoopI_spec (L : Lex) (ls : List Line) (n : Nat) (o : Option Nat) :
    (ptsLoopI L ls n o).1 = ptsLoop L ls n o ∧ (ptsLoopI L ls n o).2 ≤ ls.length + 1 := by
  induction ls generalizing n o with
  | nil => cases n <;> simp [ptsLoopI, ptsLoop]
  | cons l ls ih =>
    cases n with
    | zero => simp [ptsLoopI, ptsLoop]
    | succ n =>
      have h2 := ih n (some l.toks.length)
      simp only [ptsLoopI, ptsLoop, List.length_cons]
      split_ifs <;> simp only [h2.1, true_and] <;> omega

theorem scanLinesAuxI_spec (bs cur : List UInt8) :
    (scanLinesAuxI bs cur).1 = scanLinesAux bs cur ∧ (scanLinesAuxI bs cur).2 = bs.length + 1 := by
  induction bs generalizing cur with
  | nil => exact ⟨rfl, rfl⟩
  | cons b bs ih => simp only [scanLinesAuxI, scanLinesAux]; split <;> simp [ih]

theorem fieldsAuxI_spec (bs cur : List UInt8) :
    (fieldsAuxI bs cur).1 = fieldsAux bs cur ∧ (fieldsAuxI bs cur).2 = bs.length + 1 := by
  induction bs generalizing cur with
  | nil => exact ⟨rfl, rfl⟩
  | cons b bs ih => simp only [fieldsAuxI, fieldsAux]; split <;> simp [ih]

theorem asciiFaceLineI_spec (L : Lex) (f : FaceHdr) (i n : Nat) (toks : List Tok) (pts : Option Nat) :
    (asciiFaceLineI L f i n toks pts).1 = asciiFaceLine L f i n toks pts ∧
    (asciiFaceLineI L f i n toks pts).2 ≤ toks.length + 2 := by
  induction n generalizing i toks pts with
  | zero => exact ⟨rfl, by simp [asciiFaceLineI]⟩
  | succ n ih =>
    simp only [asciiFaceLineI, asciiFaceLine]
    cases ha : asciiList L toks with
    | none => simp
    | some x =>
      obtain ⟨es, rest⟩ := x
      have hc := asciiList_consumes ha
      have := ih (i + 1) rest (if i = f.idx then some es.length else pts)
      simp only
      split
      · exact ⟨this.1, by simp only; omega⟩
      · simp

theorem asciiFacesJ_spec (L : Lex) (f : FaceHdr) (ls : List Line) (n : Nat) :
    (asciiFacesJ L f ls n).1 = asciiFaces L f ls n ∧
    (asciiFacesJ L f ls n).2 ≤ (ls.map fun l => l.toks.length + 3).sum + 1 := by
  induction ls generalizing n with
  | nil => cases n <;> simp [asciiFacesJ, asciiFaces]
  | cons l ls ih =>
    cases n with
    | zero => simp [asciiFacesJ, asciiFaces]
    | succ n =>
      obtain ⟨hl1, hl2⟩ := asciiFaceLineI_spec L f 0 f.lists.length l.toks none
      have h1 := ih (n + 1); have h2 := ih n
      simp only [asciiFacesJ, asciiFaces, List.map_cons, List.sum_cons, ← hl1]
      split
      · exact ⟨h1.1, by simp only; omega⟩
      · cases (asciiFaceLineI L f 0 f.lists.length l.toks none).1 with
        | error e => exact ⟨rfl, by simp only; omega⟩
        | ok p => exact ⟨by simp only [h2.1], by simp only; omega⟩

theorem binList_consumes {be : Bool} {p : ListProp} {bs : List UInt8} {c : Nat} {raw r : List UInt8}
    (h : binList be p bs = some (c, raw, r)) : r.length + 1 ≤ bs.length := by
  unfold binList at h
  split at h
  · next hcs =>
    split at h
    · next hle =>
      simp only at h
      split at h
      · simp only [Option.some.injEq, Prod.mk.injEq] at h
        obtain ⟨_, _, rfl⟩ := h
        simp only [List.length_drop]
        rcases hcs with h1 | h4 <;> omega
      · simp at h
    · simp at h
  · simp at h

theorem binFaceListsI_spec (be : Bool) (ps : List ListProp) (bs : List UInt8) :
    (binFaceListsI be ps bs).1 = binFaceLists be ps bs ∧
    match (binFaceListsI be ps bs).1 with
    | some (cs, _, r) => (binFaceListsI be ps bs).2 = cs.length ∧ (binFaceListsI be ps bs).2 + r.length ≤ bs.length
    | none => (binFaceListsI be ps bs).2 ≤ bs.length + 1 := by
  induction ps generalizing bs with
  | nil => simp [binFaceListsI, binFaceLists]
  | cons p ps ih =>
    simp only [binFaceListsI, binFaceLists]
    cases hb : binList be p bs with
    | none => simp
    | some x =>
      obtain ⟨c, raw, r⟩ := x
      have hc := binList_consumes hb
      obtain ⟨h1, this⟩ := ih r
      simp only [← h1]
      cases hq : (binFaceListsI be ps r).1 with
      | none => rw [hq] at this; simp only at this ⊢; exact ⟨trivial, by omega⟩
      | some y =>
        obtain ⟨cs, raws, r'⟩ := y
        rw [hq] at this; simp only at this ⊢
        simp only [List.length_cons]; exact ⟨trivial, by omega, by omega⟩

theorem binFaceI_fst (be : Bool) (f : FaceHdr) (bs : List UInt8) : (binFaceI be f bs).1 = binFace be f bs := by
  simp only [binFaceI, binFace, (binFaceListsI_spec _ _ _).1]

theorem binFaceI_bound (be : Bool) (f : FaceHdr) (bs : List UInt8) :
    (binFaceI be f bs).2 ≤ bs.length + 2 ∧
    ∀ fc r, (binFaceI be f bs).1 = .ok (fc, r) → (binFaceI be f bs).2 + r.length ≤ bs.length + 1 ∧ r.length + 1 ≤ bs.length := by
  have hb := (binFaceListsI_spec be f.lists bs).2
  simp only [binFaceI]
  cases hq : (binFaceListsI be f.lists bs).1 with
  | none =>
    rw [hq] at hb; simp only at hb ⊢
    exact ⟨by omega, fun _ _ h => by cases h⟩
  | some y =>
    obtain ⟨cs, raw, r⟩ := y
    rw [hq] at hb; simp only at hb ⊢
    refine ⟨by omega, ?_⟩
    intro fc r' hok
    cases hidx : cs[f.idx]? with
    | none => rw [hidx] at hok; cases hok
    | some pts =>
      rw [hidx] at hok
      simp only at hok
      split at hok
      · cases hok
      · simp only [Except.ok.injEq, Prod.mk.injEq] at hok
        obtain ⟨_, rfl⟩ := hok
        have hne : cs.length ≥ 1 := by
          cases cs with
          | nil => simp at hidx
          | cons a b => simp
        omega

theorem binFacesI_spec (be : Bool) (f : FaceHdr) (n : Nat) (bs : List UInt8) :
    (binFacesI be f n bs).1 = binFaces be f n bs ∧ (binFacesI be f n bs).2 ≤ 2 * bs.length + 2 := by
  induction n generalizing bs with
  | zero => exact ⟨rfl, by simp [binFacesI]⟩
  | succ n ih =>
    obtain ⟨h1, h2⟩ := binFaceI_bound be f bs
    simp only [binFacesI, binFaces, ← binFaceI_fst]
    cases hq : (binFaceI be f bs).1 with
    | error e => exact ⟨rfl, by simp only; omega⟩
    | ok x =>
      obtain ⟨fc, r⟩ := x
      obtain ⟨h3, h4⟩ := h2 fc r hq
      have := ih r
      exact ⟨by simp only [this.1], by simp only; omega⟩

/-! ## instrumented whole readers -/

theorem readStlI_fst (bs : List UInt8) : (readStlI bs).1 = readStl bs := by
  simp only [readStlI, readStl]
  rw [← (readArraysI_spec _ _).1]
  cases hq : (readArraysI [80, 4] bs).1 with
  | none => rfl
  | some x =>
    obtain ⟨as, r⟩ := x
    rcases as with _ | ⟨a, _ | ⟨c, _ | ⟨d, e⟩⟩⟩
    · rfl
    · rfl
    · simp only [(readArraysI_spec _ _).1]
    · rfl

theorem readStlI_bound (bs : List UInt8) : (readStlI bs).2 ≤ bs.length + 3 := by
  have hq := (readArraysI_spec [80, 4] bs).2.1
  simp only [readStlI]
  cases hr : (readArraysI [80, 4] bs).1 with
  | none => simp only at hq ⊢; simp only [List.length_cons, List.length_nil] at hq; omega
  | some x =>
    obtain ⟨as, r⟩ := x
    have hrl : r.length ≤ bs.length := by
      rw [(readArraysI_spec _ _).1] at hr; exact readArrays_rest_le hr
    simp only [List.length_cons, List.length_nil] at hq
    rcases as with _ | ⟨a, _ | ⟨c, _ | ⟨d, e⟩⟩⟩
    · simp only; omega
    · simp only; omega
    · have ht := (readArraysI_spec (List.replicate (leNat c) 50) r).2.2
      rw [zeroSizes_replicate _ _ (by omega)] at ht
      simp only; omega
    · simp only; omega

theorem readPlyBinBodyI_fst (h : Hdr) (be : Bool) (body : List UInt8) :
    (readPlyBinBodyI h be body).1 = readPlyBinBody h be body := by
  simp only [readPlyBinBodyI, readPlyBinBody]
  rw [← (readArraysI_spec _ _).1]
  cases hq : (readArraysI (List.replicate h.vcount h.vsize) body).1 with
  | none => rfl
  | some x =>
    obtain ⟨vs, r⟩ := x
    cases hf : h.face with
    | none => rfl
    | some f =>
      simp only [(binFacesI_spec _ _ _ _).1]

theorem readPlyBinBodyI_bound (h : Hdr) (be : Bool) (body : List UInt8) (hv : 1 ≤ h.vsize) :
    (readPlyBinBodyI h be body).2 ≤ 3 * body.length + 3 := by
  have hq := (readArraysI_spec (List.replicate h.vcount h.vsize) body).2.2
  rw [zeroSizes_replicate _ _ hv] at hq
  simp only [readPlyBinBodyI]
  cases hr : (readArraysI (List.replicate h.vcount h.vsize) body).1 with
  | none => simp only; omega
  | some x =>
    obtain ⟨vs, r⟩ := x
    have hrl : r.length ≤ body.length := by
      rw [(readArraysI_spec _ _).1] at hr; exact readArrays_rest_le hr
    cases h.face with
    | none => simp only; omega
    | some f =>
      have := (binFacesI_spec be f f.count r).2
      simp only; omega

theorem sum_map_add_const {β : Type} (l : List β) (g : β → Nat) (c : Nat) :
    (l.map fun x => g x + c).sum = (l.map g).sum + c * l.length := by
  induction l with
  | nil => simp
  | cons a l ih => simp only [List.map_cons, List.sum_cons, List.length_cons, ih]; ring

theorem scanLinesI_fst (bs : List UInt8) : (scanLinesI bs).1 = scanLines bs := by
  simp only [scanLinesI, scanLines, (scanLinesAuxI_spec _ _).1, (fieldsAuxI_spec _ _).1, fields]

theorem scanLinesI_bound (bs : List UInt8) : (scanLinesI bs).2 ≤ 3 * bs.length + 2 := by
  obtain ⟨h1, h2⟩ := scanLinesAux_sizes bs []
  simp only [scanLinesI, (scanLinesAuxI_spec _ _).2, (scanLinesAuxI_spec _ _).1, (fieldsAuxI_spec _ _).2]
  rw [sum_map_add_const _ List.length 1]
  simp only [List.length_nil] at h2
  omega

theorem readPlyAsciiBytesI_fst (L : Lex) (h : Hdr) (body : List UInt8) :
    (readPlyAsciiBytesI L h body).1 = readPlyAsciiBody L h (scanLines body) := by
  simp only [readPlyAsciiBytesI, readPlyAsciiBody, scanLinesI_fst]
  rw [← (asciiVertsI_spec _ _ _ _).1]
  cases (asciiVertsI L h.nprops (scanLines body) h.vcount).1 with
  | error e => rfl
  | ok x =>
    obtain ⟨vs, r⟩ := x
    cases h.face with
    | none => rfl
    | some f =>
      simp only [(asciiFacesJ_spec _ _ _ _).1]

theorem readPlyAsciiBytesI_bound (L : Lex) (h : Hdr) (body : List UInt8) :
    (readPlyAsciiBytesI L h body).2 ≤ 9 * body.length + 9 := by
  have hs := scanLinesI_bound body
  obtain ⟨hl, ht⟩ := scanLines_tokens body
  have hv := (asciiVertsI_spec L h.nprops (scanLinesI body).1 h.vcount).2
  rw [scanLinesI_fst] at hv
  simp only [readPlyAsciiBytesI]
  cases hq : (asciiVertsI L h.nprops (scanLinesI body).1 h.vcount).1 with
  | error e => simp only [scanLinesI_fst] at hv ⊢; omega
  | ok x =>
    obtain ⟨vs, r⟩ := x
    cases h.face with
    | none => simp only [scanLinesI_fst] at hv ⊢; omega
    | some f =>
      have hf := (asciiFacesJ_spec L f r f.count).2
      rw [(asciiVertsI_spec _ _ _ _).1, scanLinesI_fst] at hq
      obtain ⟨pre, hp⟩ := asciiVerts_rest_suffix hq
      have hsum : (r.map fun l => l.toks.length + 3).sum ≤ ((scanLines body).map fun l => l.toks.length + 3).sum := by
        rw [hp, List.map_append, List.sum_append]; omega
      simp only [scanLinesI_fst] at hv ⊢; omega

theorem readPtsI_fst (L : Lex) (bs : List UInt8) : (readPtsI L bs).1 = readPts L bs := by
  simp only [readPtsI, readPts, readPtsLines, scanLinesI_fst]
  cases scanLines bs with
  | nil => rfl
  | cons c ls =>
    simp only
    cases L.atoi? c.raw with
    | none => rfl
    | some n =>
      simp only
      split
      · rfl
      · exact (ptsLoopI_spec L ls n.toNat none).1

theorem readPtsI_bound (L : Lex) (bs : List UInt8) : (readPtsI L bs).2 ≤ 4 * bs.length + 4 := by
  have hs := scanLinesI_bound bs
  obtain ⟨hl, _⟩ := scanLines_tokens bs
  simp only [readPtsI]
  cases hq : (scanLinesI bs).1 with
  | nil => simp only; omega
  | cons c ls =>
    have hls : ls.length ≤ bs.length := by
      rw [scanLinesI_fst] at hq; rw [hq] at hl; simp only [List.length_cons] at hl; omega
    simp only
    cases L.atoi? c.raw with
    | none => simp only; omega
    | some n =>
      simp only
      split
      · omega
      · have := (ptsLoopI_spec L ls n.toNat none).2
        simp only; omega

end Readers
end PolyVerif
