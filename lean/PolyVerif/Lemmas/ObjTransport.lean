/-
  C05, the reader commutes with a transport of its input: tokens through an injective `ft` that the second parser undoes, scalars
  through any `fs` (`readObj_transport`); `toMesh` commutes likewise.  Core Lean only.
-/
import PolyVerif.Model.Obj

set_option linter.unusedSimpArgs false
set_option linter.unusedSectionVars false

namespace PolyVerif
namespace ObjL
open Obj

/-! ### the text layer as an explicit law: token printing and scalar transport

  Between writer and reader sits text: every corner `c` is printed as a token `show c` that the reader
  parses back (`pc' (show c) = pc c`; distinct corners print differently), and every scalar `x` comes back
  as `rt x` (print, then `ParseFloat(·, 32)`).  The reader commutes with any such transport. -/

section transport
variable {τ τ' α β : Type} [DecidableEq τ] [DecidableEq τ']

def mapLine (ft : τ → τ') (fs : α → β) : Line τ α → Line τ' β
  | .v p => .v (V3.map fs p)
  | .vt p => .vt (V2.map fs p)
  | .vn p => .vn (V3.map fs p)
  | .f a b c => .f (ft a) (ft b) (ft c)
  | .g n => .g n
  | .usemtl n => .usemtl n
  | .mtllib fs' => .mtllib fs'
  | .other t => .other t
  | .bad e => .bad e

def mapGroup (ft : τ → τ') (fs : α → β) (g : Group τ α) : Group τ' β :=
  { name := g.name, toks := g.toks.map ft, tris := g.tris, verts := g.verts.map (V3.map fs),
    normals := g.normals.map (V3.map fs), uvs := g.uvs.map (V2.map fs), mats := g.mats,
    ftoks := g.ftoks.map fun f => (ft f.1, ft f.2.1, ft f.2.2) }

def mapState (ft : τ → τ') (fs : α → β) (s : RState τ α) : RState τ' β :=
  { pv := s.pv.map (V3.map fs), pn := s.pn.map (V3.map fs), pt := s.pt.map (V2.map fs), libs := s.libs,
    since := s.since, inEffect := s.inEffect, done := s.done.map (mapGroup ft fs), cur := mapGroup ft fs s.cur }

theorem idxOf_map_aux (ft : τ → τ') (hinj : ∀ a b, ft a = ft b → a = b) (t : τ) :
    ∀ l : List τ, (l.map ft).idxOf (ft t) = l.idxOf t
  | [] => rfl
  | a :: l => by
    by_cases e : a = t
    · subst e; simp [List.idxOf_cons]
    · have e' : ft a ≠ ft t := fun h => e (hinj _ _ h)
      have hb : (a == t) = false := by simpa using e
      have hb' : (ft a == ft t) = false := by simpa using e'
      simp [List.idxOf_cons, hb, hb', idxOf_map_aux ft hinj t l]

theorem mem_map_inj_aux (ft : τ → τ') (hinj : ∀ a b, ft a = ft b → a = b) (t : τ) (l : List τ) :
    ft t ∈ l.map ft ↔ t ∈ l := by
  constructor
  · intro h
    obtain ⟨a, ha, e⟩ := List.mem_map.1 h
    rw [← hinj _ _ e]; exact ha
  · exact List.mem_map_of_mem

/-! Throughout this section: tokens are transported by an injective `ft` that the second parser undoes
  (`hinj`, `hpc`); both are hypotheses of every lemma below. -/
section commute
variable (pc : τ → Except Err Corner) (pc' : τ' → Except Err Corner) (ft : τ → τ') (fs : α → β)
  (hinj : ∀ a b, ft a = ft b → a = b) (hpc : ∀ t, pc' (ft t) = pc t)
include hinj hpc

theorem addCorner_map_aux (s : RState τ α) (g : Group τ α) (t : τ) :
    addCorner pc' (mapState ft fs s) (mapGroup ft fs g) (ft t) =
      (match addCorner pc s g t with
       | .ok (p, g') => .ok (p, mapGroup ft fs g')
       | .error e => .error e) := by
  unfold addCorner
  by_cases hm : t ∈ g.toks
  · have hm' : ft t ∈ (mapGroup ft fs g).toks := (mem_map_inj_aux ft hinj t g.toks).2 hm
    simp only [hm, hm', ↓reduceIte]
    simp [mapGroup, idxOf_map_aux ft hinj]
  · have hm' : ¬ ft t ∈ (mapGroup ft fs g).toks := fun h => hm ((mem_map_inj_aux ft hinj t g.toks).1 h)
    simp only [hm, hm', ↓reduceIte, hpc]
    cases pc t with
    | error e => rfl
    | ok c =>
      simp only
      by_cases hv : c.v = 0
      · simp [hv]
      · simp only [hv, ↓reduceIte, mapState, List.getElem?_map]
        cases s.pv[c.v - 1]? with
        | none => rfl
        | some p =>
          simp only [Option.map_some]
          cases slot c.vn with
          | none =>
            cases slot c.vt with
            | none => simp [mapGroup]
            | some j =>
              simp only [List.getElem?_map]
              cases s.pt[j]? <;> simp [mapGroup]
          | some i =>
            simp only [List.getElem?_map]
            cases s.pn[i]? with
            | none => simp
            | some n =>
              cases slot c.vt with
              | none => simp [mapGroup]
              | some j =>
                simp only [List.getElem?_map]
                cases s.pt[j]? <;> simp [mapGroup]

theorem step_map_aux (s : RState τ α) (l : Line τ α) :
    step pc' (mapState ft fs s) (mapLine ft fs l) =
      (match step pc s l with
       | .ok s' => .ok (mapState ft fs s')
       | .error e => .error e) := by
  cases l with
  | other _ | bad _ => rfl
  | mtllib fs' =>
    simp only [mapLine, step]
    split <;> simp [mapState]
  | v _ | vn _ | vt _ => simp [mapLine, step, mapState]
  | usemtl name =>
    simp only [mapLine, step]
    split
    · rfl
    · simp [mapState, mapGroup]; rfl
  | g name =>
    simp only [mapLine, step]
    have : (mapState ft fs s).cur.tris = s.cur.tris := rfl
    rw [this]
    split
    · simp [mapState, mapGroup]
    · simp [mapState, mapGroup]
  | f a b c =>
    simp only [mapLine, step]
    have h0 : ({ (mapState ft fs s).cur with mats := carryMats (mapState ft fs s).cur.mats (mapState ft fs s).inEffect } : Group τ' β)
        = mapGroup ft fs { s.cur with mats := carryMats s.cur.mats s.inEffect } := rfl
    rw [h0, addCorner_map_aux pc pc' ft fs hinj hpc]
    cases addCorner pc s { s.cur with mats := carryMats s.cur.mats s.inEffect } a with
    | error e => rfl
    | ok r1 =>
      obtain ⟨p1, g1⟩ := r1
      simp only
      rw [addCorner_map_aux pc pc' ft fs hinj hpc]
      cases addCorner pc s g1 b with
      | error e => rfl
      | ok r2 =>
        obtain ⟨p2, g2⟩ := r2
        simp only
        rw [addCorner_map_aux pc pc' ft fs hinj hpc]
        cases addCorner pc s g2 c with
        | error e => rfl
        | ok r3 =>
          obtain ⟨p3, g3⟩ := r3
          simp [mapState, mapGroup]

theorem steps_map_aux : ∀ (ls : List (Line τ α)) (s : RState τ α),
    steps pc' (mapState ft fs s) (ls.map (mapLine ft fs)) =
      (match steps pc s ls with
       | .ok s' => .ok (mapState ft fs s')
       | .error e => .error e)
  | [], s => rfl
  | l :: ls, s => by
    simp only [List.map_cons, steps, step_map_aux pc pc' ft fs hinj hpc]
    cases step pc s l with
    | error e => rfl
    | ok s1 => simp only; exact steps_map_aux ls s1

end commute

theorem readObj_transport (pc : τ → Except Err Corner) (pc' : τ' → Except Err Corner) (ft : τ → τ') (fs : α → β)
    (hinj : ∀ a b, ft a = ft b → a = b) (hpc : ∀ t, pc' (ft t) = pc t) (ls : List (Line τ α)) :
    readObj pc' (ls.map (mapLine ft fs)) =
      (match readObj pc ls with
       | .ok (gs, libs) => .ok (gs.map (mapGroup ft fs), libs)
       | .error e => .error e) := by
  unfold readObj
  have h := steps_map_aux pc pc' ft fs hinj hpc ls {}
  have h0 : mapState ft fs ({} : RState τ α) = {} := rfl
  rw [h0] at h
  rw [h]
  cases steps pc {} ls with
  | error e => rfl
  | ok s => simp [finish, mapState, mapGroup]


def mapMesh (fs : α → β) (m : Mesh α) : Mesh β :=
  ⟨m.idx, m.pos.map (fun l => l.map (V3.map fs)), m.uv.map (fun l => l.map (V2.map fs)),
   m.nrm.map (fun l => l.map (V3.map fs)), m.mats⟩

theorem toMesh_map_aux (ft : τ → τ') (fs : α → β) (g : Group τ α) :
    toMesh (mapGroup ft fs g) = ((toMesh g).1, mapMesh fs (toMesh g).2) := by
  have h1 : ∀ {γ δ : Type} (f : γ → δ) (l : List γ), optOfList (l.map f) = (optOfList l).map (fun l => l.map f) := by
    intro γ δ f l; cases l <;> simp [optOfList]
  have h2 : ∀ {γ δ : Type} (f : γ → δ) (n : Nat) (l : List γ),
      keepIfComplete n (l.map f) = (keepIfComplete n l).map (fun l => l.map f) := by
    intro γ δ f n l
    unfold keepIfComplete
    by_cases h : l ≠ [] ∧ l.length = n
    · have : l.map f ≠ [] ∧ (l.map f).length = n := by simpa using h
      simp [h, this]
    · have : ¬ (l.map f ≠ [] ∧ (l.map f).length = n) := by simpa using h
      simp [h, this]
  simp [toMesh, mapGroup, mapMesh, h1, h2]

end transport

end ObjL
end PolyVerif
