/-
  Reference SPZ packer over ℝ (specification side — /repo/formats/spz/write.go writes a header only) and the
  quantisation step of every field through the model's decoder functions (Model/Spz.lean), for
  Props/C15SpzFile.  Written from `packGaussians` of the published encoder (github.com/nianticlabs/spz,
  load-spz.cc): `toUint8(x) = clamp(round(x), 0, 255)`, positions `round(x · 2^fb)` as 24-bit two's complement
  (version 1: a half float), scales `(s + 10)·16`, rotation `r·127.5 + 127.5`, colour `c·(0.15·255) + 0.5·255`,
  SH `c·128 + 128` (bucket size 1), alpha `a·255` with `a` the SIGMOID-domain opacity (what `spz.Read` returns;
  see `spz_alpha_is_sigmoid_domain`).
-/
import PolyVerif.Lemmas.Spz
import PolyVerif.Lemmas.Half
import PolyVerif.Lemmas.RealScalar
import Mathlib.Tactic

namespace PolyVerif
namespace SpzRef
open Spz Scalar

/-- `toUint8`: round to nearest, clamp to 0..255 -/
noncomputable def toUint8 (x : ℝ) : UInt8 := UInt8.ofNat (min 255 ⌊x + 1 / 2⌋₊)

theorem toUint8_err (x : ℝ) (h0 : 0 ≤ x) (h1 : x ≤ 255) : |((toUint8 x).toNat : ℝ) - x| ≤ 1 / 2 := by
  have hp : 0 ≤ x + 1 / 2 := by linarith
  have hle : ⌊x + 1 / 2⌋₊ ≤ 255 := by
    have : ⌊x + 1 / 2⌋₊ < 256 := by rw [Nat.floor_lt hp]; push_cast; linarith
    omega
  have e : (toUint8 x).toNat = ⌊x + 1 / 2⌋₊ := by
    simp only [toUint8, UInt8.toNat_ofNat']; omega
  rw [e]
  have a := Nat.floor_le hp
  have b := Nat.lt_floor_add_one (x + 1 / 2)
  rw [abs_le]; constructor <;> linarith

/-- an affine decoder with slope `1/k` turns a byte error `≤ 1/2` into `≤ 1/(2k)` -/
theorem step_of_scaled {b t d k bound : ℝ} (hk : 0 < k) (h : |b - t| ≤ 1 / 2) (e : d = (b - t) / k)
    (hb : 1 / (2 * k) ≤ bound) : |d| ≤ bound := by
  rw [e, abs_div, abs_of_pos hk]
  exact le_trans (div_le_div_of_nonneg_right h hk.le) (by rwa [div_div])

noncomputable def encAlpha (a : ℝ) : UInt8 := toUint8 (a * 255)
noncomputable def encColor (c : ℝ) : UInt8 := toUint8 (c * (15 / 100 * 255) + 1 / 2 * 255)
noncomputable def encScale (s : ℝ) : UInt8 := toUint8 ((s + 10) * 16)
noncomputable def encRot (r : ℝ) : UInt8 := toUint8 (r * (255 / 2) + 255 / 2)
noncomputable def encSh (c : ℝ) : UInt8 := toUint8 (c * 128 + 128)

theorem alpha_step (a : ℝ) (h0 : 0 ≤ a) (h1 : a ≤ 1) : |(alphaDec (encAlpha a) : ℝ) - a| ≤ 1 / 510 := by
  have := toUint8_err (a * 255) (by linarith) (by linarith)
  apply step_of_scaled (k := 255) (by norm_num) this _ (by norm_num)
  simp only [alphaDec, byteF, natF, encAlpha]; push_cast; ring

theorem color_step (c : ℝ) (h0 : 0 ≤ c * (15 / 100 * 255) + 1 / 2 * 255) (h1 : c * (15 / 100 * 255) + 1 / 2 * 255 ≤ 255) :
    |(colorDec (encColor c) : ℝ) - c| ≤ 2 / 153 := by
  have := toUint8_err _ h0 h1
  apply step_of_scaled (k := 15 / 100 * 255) (by norm_num) this _ (by norm_num)
  simp only [colorDec, byteF, natF, encColor, RS.lit_eq]; push_cast; ring

theorem scale_step (s : ℝ) (h0 : -10 ≤ s) (h1 : s ≤ 95 / 16) : |(scaleDec (encScale s) : ℝ) - s| ≤ 1 / 32 := by
  have := toUint8_err ((s + 10) * 16) (by linarith) (by linarith)
  apply step_of_scaled (k := 16) (by norm_num) this _ (by norm_num)
  simp only [scaleDec, byteF, natF, encScale]; push_cast; ring

theorem rot_step (r : ℝ) (h0 : -1 ≤ r) (h1 : r ≤ 1) : |(rotDec (encRot r) : ℝ) - r| ≤ 1 / 255 := by
  have := toUint8_err (r * (255 / 2) + 255 / 2) (by linarith) (by linarith)
  apply step_of_scaled (k := 255 / 2) (by norm_num) this _ (by norm_num)
  simp only [rotDec, byteF, natF, encRot, RS.lit_eq]; push_cast; ring

theorem sh_step (c : ℝ) (h0 : -1 ≤ c) (h1 : c ≤ 127 / 128) : |(shDec (encSh c) : ℝ) - c| ≤ 1 / 256 := by
  have := toUint8_err (c * 128 + 128) (by linarith) (by linarith)
  apply step_of_scaled (k := 128) (by norm_num) this _ (by norm_num)
  simp only [shDec, byteF, natF, encSh]; push_cast; ring

/-- `round(x · 2^fb)` -/
noncomputable def fixedOf (fb : Nat) (x : ℝ) : Int := ⌊x * 2 ^ fb + 1 / 2⌋

/-- three little-endian bytes of the 24-bit two's complement of `z` -/
def fix3 (z : Int) : List UInt8 :=
  let v : Nat := (z % 16777216).toNat
  [UInt8.ofNat (v % 256), UInt8.ofNat (v / 256 % 256), UInt8.ofNat (v / 65536 % 256)]

/-- the decoder's arithmetic at ℝ -/
def RealEnv (E : Env ℝ) : Prop := (∀ z : Int, E.ofInt z = (z : ℝ)) ∧ Half.RealEnv E

theorem fixed24_fix3 (z : Int) (h0 : -8388608 ≤ z) (h1 : z < 8388608) :
    fixed24 (byteAt (fix3 z) 0) (byteAt (fix3 z) 1) (byteAt (fix3 z) 2) = z := by
  -- the three bytes are the base-256 digits of `z mod 2^24`
  have hj : ((byteAt (fix3 z) 0).toNat : Int) + 256 * (byteAt (fix3 z) 1).toNat + 65536 * (byteAt (fix3 z) 2).toNat
      = z % 16777216 := by
    simp only [fix3, byteAt, List.getD_cons_zero, List.getD_cons_succ, UInt8.toNat_ofNat', Nat.reducePow, Nat.mod_mod]
    omega
  have hs := Spz.sign_extend_24 (byteAt (fix3 z) 0).toBitVec (byteAt (fix3 z) 1).toBitVec (byteAt (fix3 z) 2).toBitVec
  simp only [UInt8.toNat_toBitVec, hj] at hs
  rw [fixed24, hs]
  split_ifs <;> omega

theorem fixed_step (E : Env ℝ) (hE : RealEnv E) (fb : Nat) (hfb : fb ≤ 62) (x : ℝ)
    (h0 : -8388608 ≤ fixedOf fb x) (h1 : fixedOf fb x < 8388608) :
    |fixedCoord E fb (byteAt (fix3 (fixedOf fb x)) 0) (byteAt (fix3 (fixedOf fb x)) 1)
        (byteAt (fix3 (fixedOf fb x)) 2) - x| ≤ 1 / 2 ^ (fb + 1) := by
  simp only [fixedCoord, fixed24_fix3 _ h0 h1, posScale, hE.1, shl1, natF, if_pos (show fb < 63 by omega)]
  have a := Int.floor_le (x * 2 ^ fb + 1 / 2)
  have b := Int.lt_floor_add_one (x * 2 ^ fb + 1 / 2)
  have hp : (0 : ℝ) < 2 ^ fb := by positivity
  apply step_of_scaled (b := ((fixedOf fb x : Int) : ℝ)) (t := x * 2 ^ fb) (k := 2 ^ fb) hp
  · unfold fixedOf; rw [abs_le]; constructor <;> linarith
  · push_cast; field_simp
  · rw [pow_succ]; apply le_of_eq; ring

/-- two little-endian bytes of a 16-bit pattern -/
def le2 (k : Nat) : List UInt8 := [UInt8.ofNat (k % 256), UInt8.ofNat (k / 256 % 256)]

theorem halfCoord_le2 (E : Env ℝ) (k : Nat) (hk : k < 65536) :
    halfCoord E (byteAt (le2 k) 0) (byteAt (le2 k) 1) = halfToFloat E k := by
  unfold halfCoord
  congr 1
  simp only [le2, byteAt, List.getD_cons_zero, List.getD_cons_succ, UInt8.toNat_ofNat']
  omega

theorem encode_lt (x : ℝ) : Half.encode x < 65536 := by
  unfold Half.encode
  split_ifs with c
  · have := Half.encodeMag_le (-x); omega
  · have := Half.encodeMag_le x; omega

end SpzRef
end PolyVerif
