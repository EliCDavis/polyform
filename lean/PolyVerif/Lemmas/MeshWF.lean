/-
  Well-formedness is preserved by the mesh operation models (C02).  First, per operation, what a successful call
  returned (`flip_eq`, `append_eq`, …); every later theorem about an operation starts from that.

  Three shapes cover the operations; each operation supplies only its length / range fact:
  * `rebuilt`       — every array is rebuilt by one function whose results have one length `n`, the new
                      indices are below `n`: well-formed with `n` vertices (unweld, compactVertices, crop, weld);
  * `setIndices_wf` — arrays untouched, the new indices are old indices (flip, the filters, split);
  * `wf_withAttrs`  — indices untouched, every array has the old common length (the attribute setters).
-/
import PolyVerif.Lemmas.MeshLists

namespace PolyVerif.Mesh
variable {α : Type}

theorem Topology.fits_add {t : Topology} {a b : Nat} (ha : t.Fits a) (hb : t.Fits b) : t.Fits (a + b) := by
  cases t <;> simp only [Topology.Fits] at * <;> omega

theorem Topology.fits_zero (t : Topology) : t.Fits 0 := by cases t <;> simp [Topology.Fits]

namespace MeshVal

theorem attrLen_eq_of_mem {m : MeshVal α} (h : WF m) {kd : AttrKey × List α} (hk : kd ∈ m.attrs) :
    kd.2.length = m.attrLen := h.1 kd hk

section
variable {m m' : MeshVal α}

theorem flip_eq (hf : m.flip = some m') :
    m.topology = .triangle ∧ m' = m.setIndices (flipIdx m.indices) := by
  unfold flip at hf
  split at hf
  · exact ⟨‹_›, (Option.some.inj hf).symm⟩
  · cases hf

theorem append_eq {zero : Nat → α} {a b m : MeshVal α} (h : append zero a b = some m) :
    a.topology = b.topology ∧
    m = ⟨a.topology, a.indices ++ b.indices.map (· + a.attrLen), a.materials ++ b.materials,
         appendAttrs zero a.attrs b.attrs a.attrLen b.attrLen⟩ := by
  unfold append at h
  split at h
  · exact ⟨‹_›, (Option.some.inj h).symm⟩
  · cases h

theorem modifyAttr_eq {k : AttrKey} {f : List α → List α} (hm : m.modifyAttr k f = some m') :
    ∃ d, m.attr? k = some d ∧ m' = m.setAttr k (f d) := by
  unfold modifyAttr at hm
  split at hm
  · cases hm
  · exact ⟨_, ‹_›, (Option.some.inj hm).symm⟩

theorem filterAttr_eq {k : AttrKey} {p : α → Bool} (hm : m.filterAttr k p = some m') :
    m.topology = .point ∧ ∃ d, m.attr? k = some d ∧
      m' = (m.setIndices (m.indices.filter fun i => match d[i]? with | some x => p x | none => false)).removeUnreferenced := by
  unfold filterAttr at hm
  split at hm
  · split at hm
    · cases hm
    · exact ⟨‹_›, _, ‹_›, (Option.some.inj hm).symm⟩
  · cases hm

theorem removeNullFaces_eq {k : AttrKey} {keep : Nat → Nat → Nat → Bool}
    (hm : m.removeNullFaces k keep = some m') :
    m.topology = .triangle ∧ m.hasAttr k = true ∧
    m' = (if ((triples m.indices).filter fun t => keep t.1 t.2.1 t.2.2).length * 3 = m.indices.length then m
          else (m.setIndices (untriples ((triples m.indices).filter fun t => keep t.1 t.2.1 t.2.2))).removeUnreferenced) := by
  unfold removeNullFaces at hm
  split at hm
  · rename_i hc
    refine ⟨hc.1, hc.2, ?_⟩
    dsimp only at hm
    split at hm <;> simp only [*, if_true, if_false] <;> exact (Option.some.inj hm).symm
  · cases hm

theorem attr?_length (h : WF m) {k : AttrKey} {d : List α} (hd : m.attr? k = some d) :
    d.length = m.attrLen := h.1 _ (Attrs.find?_mem hd)

theorem attrLen_of_attrs_nil (ha : m.attrs = []) : m.attrLen = 0 := by
  simp [attrLen, ha]

theorem indices_nil_of_attrLen_zero (h : WF m) (hz : m.attrLen = 0) : m.indices = [] := by
  cases hm : m.indices with
  | nil => rfl
  | cons a t => have := h.2.1 a (by simp [hm]); omega

theorem indices_nil_of_attrs_nil (h : WF m) (ha : m.attrs = []) : m.indices = [] :=
  indices_nil_of_attrLen_zero h (attrLen_of_attrs_nil ha)

theorem wf_of_uniform (n : Nat)
    (h1 : ∀ kd ∈ m.attrs, kd.2.length = n) (h2 : ∀ i ∈ m.indices, i < n)
    (h0 : m.attrs = [] → m.indices = []) (h3 : m.topology.Fits m.indices.length) : WF m := by
  cases ha : m.attrs with
  | nil => exact ⟨by simp [ha], by simp [h0 ha], h3⟩
  | cons kd t =>
    have hn : m.attrLen = n := by simp [attrLen, ha, h1 kd (by simp [ha])]
    exact ⟨fun kd' hk => by rw [hn]; exact h1 kd' hk, fun i hi => by rw [hn]; exact h2 i hi, h3⟩

/-- `attrLen` reads the first array and is 0 without arrays, so the vertex count of the result is a fact of its own;
    it is `n` as soon as `n = 0` in the case without arrays, which every operation of this shape meets. -/
theorem rebuilt {as : Attrs α} {g : List α → List α} {n : Nat}
    (hg : ∀ kd ∈ as, (g kd.2).length = n) {idx : List Nat} (hi : ∀ i ∈ idx, i < n)
    (h0 : as = [] → n = 0) {t : Topology} (hf : t.Fits idx.length) (mats : List MatRange) :
    WF (⟨t, idx, mats, mapAttrs g as⟩ : MeshVal α) ∧ (⟨t, idx, mats, mapAttrs g as⟩ : MeshVal α).attrLen = n := by
  cases as with
  | nil =>
    obtain rfl := h0 rfl
    cases idx with
    | nil => exact ⟨⟨fun _ h => (nomatch h), fun _ h => (nomatch h), hf⟩, rfl⟩
    | cons i _ => exact absurd (hi i (by simp)) (Nat.not_lt_zero _)
  | cons kd as =>
    have hn : (⟨t, idx, mats, mapAttrs g (kd :: as)⟩ : MeshVal α).attrLen = n := hg kd (by simp)
    refine ⟨⟨fun kd' hk => ?_, fun i h => hn ▸ hi i h, hf⟩, hn⟩
    obtain ⟨kd0, hk0, rfl⟩ := List.mem_map.mp hk
    exact (hg kd0 hk0).trans hn.symm

theorem wf_withAttrs (h : WF m) {as : Attrs α} (h1 : ∀ kd ∈ as, kd.2.length = m.attrLen)
    (h0 : as = [] → m.indices = []) : WF { m with attrs := as } :=
  wf_of_uniform m.attrLen h1 h.2.1 h0 h.2.2

theorem setMaterial_wf (h : WF m) (mat : Nat) : WF (m.setMaterial mat) := h

end

theorem empty_wf (t : Topology) : WF (MeshVal.empty t : MeshVal α) :=
  ⟨by simp [MeshVal.empty], by simp [MeshVal.empty], Topology.fits_zero t⟩

theorem fits_of_length_eq {t : Topology} {a b : Nat} (h : a = b) (hf : t.Fits a) : t.Fits b := h ▸ hf

theorem setIndices_wf {m : MeshVal α} (h : WF m) (idx : List Nat)
    (hi : ∀ i ∈ idx, i < m.attrLen) (hf : m.topology.Fits idx.length) : WF (m.setIndices idx) :=
  ⟨h.1, hi, hf⟩

theorem setMaterials_wf {m : MeshVal α} (h : WF m) (ms : List MatRange) : WF (m.setMaterials ms) := h

section
variable {m m' : MeshVal α}

theorem unweld_rebuilt (h : WF m) : WF m.unweld ∧ m.unweld.attrLen = m.indices.length :=
  rebuilt (fun kd hk => gather_length fun i hi => by rw [h.1 kd hk]; exact h.2.1 i hi)
    (by simp) (fun ha => by rw [indices_nil_of_attrs_nil h ha]; rfl) (by simpa using h.2.2) _

theorem compactVertices_rebuilt (h : WF m) (u : List Bool) (hu : u.length = m.attrLen)
    (hused : ∀ i ∈ m.indices, u[i]? = some true) :
    WF (m.compactVertices u) ∧ (m.compactVertices u).attrLen = u.countP id := by
  refine rebuilt (fun kd hk => compact_length u kd.2 (by rw [h.1 kd hk, hu])) ?_ (fun ha => ?_) (by simpa using h.2.2) _
  · intro j hj
    obtain ⟨i, hi, rfl⟩ := List.mem_map.mp hj
    have := (compact_getElem? u u i rfl (hused i hi)).2
    rw [hused i hi] at this
    simpa [compact_length u u rfl] using (List.getElem?_eq_some_iff.mp this).1
  · rw [attrLen_of_attrs_nil ha] at hu
    rw [List.eq_nil_of_length_eq_zero hu]; rfl

theorem stripEmpty_attrs_zero (r : MeshVal α) (h0 : ∀ kd ∈ r.attrs, kd.2.length = 0) : r.stripEmpty.attrs = [] :=
  List.filter_eq_nil_iff.mpr fun kd hk => by simp [List.eq_nil_of_length_eq_zero (h0 kd hk)]

theorem stripEmpty_attrs_pos (r : MeshVal α) {c : Nat} (hc : c ≠ 0) (h0 : ∀ kd ∈ r.attrs, kd.2.length = c) :
    r.stripEmpty.attrs = r.attrs :=
  List.filter_eq_self.mpr fun kd hk => by
    cases hd : kd.2 with
    | nil => have := h0 kd hk; rw [hd] at this; exact absurd this.symm hc
    | cons _ _ => rfl

/-- on a well-formed mesh `stripEmpty` does nothing, unless there is no vertex: then it drops every (empty) array -/
theorem stripEmpty_eq (h : WF m) : m.stripEmpty = if m.attrLen = 0 then { m with attrs := [] } else m := by
  have : m.stripEmpty.attrs = if m.attrLen = 0 then [] else m.attrs := by
    split
    · exact stripEmpty_attrs_zero m fun kd hk => (h.1 kd hk).trans ‹_›
    · exact stripEmpty_attrs_pos m ‹_› h.1
  obtain ⟨t, idx, ms, as⟩ := m
  show (⟨t, idx, ms, as.filter fun kd => !kd.2.isEmpty⟩ : MeshVal α) = _
  rw [show (as.filter fun kd => !kd.2.isEmpty) = _ from this]
  split <;> rfl

theorem usedFlags_used (h : WF m) : ∀ i ∈ m.indices, (usedFlags m.attrLen m.indices)[i]? = some true :=
  fun i hi => usedFlags_getElem? hi (h.2.1 i hi)

/-- what `RemovedUnreferencedVertices` returns for a well-formed mesh: the used vertices, renumbered — and no attribute
    array at all when there is no index -/
theorem removeUnreferenced_eq (h : WF m) :
    m.removeUnreferenced = if m.indices = [] then ⟨m.topology, [], m.materials, []⟩
                           else m.compactVertices (usedFlags m.attrLen m.indices) := by
  obtain ⟨hw, hal⟩ := compactVertices_rebuilt h _ (usedFlags_length _ _) (usedFlags_used h)
  rw [removeUnreferenced, stripEmpty_eq hw, hal]
  cases hi : m.indices with
  | nil => simp [usedFlags, compactVertices, hi]      -- no flag is set
  | cons i _ =>
    have : (usedFlags m.attrLen m.indices).countP id ≠ 0 := fun h0 => by
      have := List.countP_eq_zero.mp h0 true (List.mem_of_getElem? (usedFlags_used h i (by simp [hi])))
      simp at this
    rw [← hi, if_neg this, if_neg (by simp [hi])]

theorem removeUnreferenced_wf (h : WF m) : WF m.removeUnreferenced := by
  rw [removeUnreferenced_eq h]
  split
  · exact ⟨fun _ hk => (nomatch hk), fun _ hk => (nomatch hk), Topology.fits_zero _⟩
  · exact (compactVertices_rebuilt h _ (usedFlags_length _ _) (usedFlags_used h)).1

theorem setIndices_removeUnreferenced_wf (h : WF m) {idx : List Nat} (hs : ∀ i ∈ idx, i ∈ m.indices)
    (hf : m.topology.Fits idx.length) : WF (m.setIndices idx).removeUnreferenced :=
  removeUnreferenced_wf (setIndices_wf h idx (fun i hi => h.2.1 i (hs i hi)) hf)

theorem setIndices_keepAt_wf (h : WF m) (fl : List Bool)
    (hf : m.topology.Fits (keepAt fl m.indices).length) : WF (m.setIndices (keepAt fl m.indices)) :=
  setIndices_wf h _ (fun _ hi => h.2.1 _ (mem_of_mem_compact hi)) hf

/-- the arrays compacted by the per-vertex flags of crop, under any indices in range of the survivors -/
theorem crop_rebuilt (h : WF m) {k : AttrKey} {d : List α} (hd : m.attr? k = some d) (inside : α → Bool)
    {idx : List Nat} (hi : ∀ i ∈ idx, i < (d.map inside).countP id) :
    WF (⟨.point, idx, m.materials, mapAttrs (compact (d.map inside)) m.attrs⟩ : MeshVal α) ∧
    (⟨.point, idx, m.materials, mapAttrs (compact (d.map inside)) m.attrs⟩ : MeshVal α).attrLen = (d.map inside).countP id :=
  rebuilt (fun kd hk => compact_length _ _ (by simp [h.1 kd hk, attr?_length h hd])) hi
    (fun ha => absurd ha (List.ne_nil_of_mem (Attrs.find?_mem hd))) (t := .point) trivial _

/-- what crop returns, whatever the incoming indices: the arrays compacted by the per-vertex flags (none at all when
    no vertex is inside), identity indices over the survivors -/
theorem crop_eq (h : WF m) {k : AttrKey} {inside : α → Bool} (hm : m.crop k inside = some m') :
    m.topology = .point ∧ ∃ d, m.attr? k = some d ∧
      m' = ⟨.point, List.range ((d.map inside).countP id), m.materials,
            if (d.map inside).countP id = 0 then [] else mapAttrs (compact (d.map inside)) m.attrs⟩ := by
  unfold crop at hm
  split at hm
  · rename_i ht
    split at hm
    · cases hm
    · rename_i d hd
      refine ⟨ht, d, hd, ?_⟩
      cases hm
      obtain ⟨hw, hal⟩ := crop_rebuilt h hd inside (idx := []) fun _ hi => (nomatch hi)
      rw [stripEmpty_eq hw, hal]
      split
      · rename_i hz
        rw [hz]; rfl
      · rw [hal]
  · cases hm

theorem append_wf {zero : Nat → α} {a b m : MeshVal α} (ha : WF a) (hb : WF b)
    (h : append zero a b = some m) : WF m := by
  obtain ⟨ht, rfl⟩ := append_eq h
  apply wf_of_uniform (a.attrLen + b.attrLen)
  · intro kd hk
    simp only [appendAttrs, List.mem_append, List.mem_map, List.mem_filter] at hk
    rcases hk with ⟨kd0, hk0, rfl⟩ | ⟨kd0, ⟨hk0, _⟩, rfl⟩
    · simp only [List.length_append, ha.1 kd0 hk0]
      split
      · rw [attr?_length (m := b) hb ‹_›]
      · simp
    · simp [hb.1 kd0 hk0]
  · intro i hi
    simp only [List.mem_append, List.mem_map] at hi
    rcases hi with hi | ⟨j, hj, rfl⟩
    · have := ha.2.1 i hi; omega
    · have := hb.2.1 j hj; omega
  · intro hnil
    simp only [appendAttrs, List.append_eq_nil_iff, List.map_eq_nil_iff] at hnil
    have hb0 : b.attrs = [] := by
      rw [← hnil.2, hnil.1]
      exact (List.filter_eq_self.mpr fun _ _ => rfl).symm
    simp [indices_nil_of_attrs_nil ha hnil.1, indices_nil_of_attrs_nil hb hb0]
  · simp only [List.length_append, List.length_map]
    exact Topology.fits_add ha.2.2 (ht ▸ hb.2.2)

theorem foldl_append_wf {zero : Nat → α} {β : Type} (f : β → Option (MeshVal α)) :
    ∀ (l : List β), (∀ x ∈ l, ∀ c, f x = some c → WF c) → ∀ (acc : Option (MeshVal α)), (∀ a, acc = some a → WF a) →
      ∀ r, l.foldl (fun acc x => acc.bind fun a => (f x).bind fun c => append zero a c) acc = some r → WF r
  | [], _, _, hacc, r, hr => hacc r hr
  | x :: l, hf, acc, hacc, r, hr => by
    refine foldl_append_wf f l (fun y hy => hf y (by simp [hy])) _ (fun a ha => ?_) r hr
    obtain ⟨a0, rfl, ha⟩ := Option.bind_eq_some_iff.mp ha
    obtain ⟨c, hc, ha⟩ := Option.bind_eq_some_iff.mp (by simpa using ha)
    exact append_wf (hacc a0 rfl) (hf x (by simp) c hc) ha

theorem mem_setAttr {k : AttrKey} {data : List α} {kd : AttrKey × List α}
    (hk : kd ∈ (m.setAttr k data).attrs) : kd ∈ m.attrs ∨ kd = (k, data) := by
  simp only [setAttr] at hk
  split at hk
  · exact Or.inl (List.mem_filter.mp hk).1
  · split at hk
    · obtain ⟨kd0, hk0, rfl⟩ := List.mem_map.mp hk
      split
      · exact Or.inr rfl
      · exact Or.inl hk0
    · simpa using hk

end

theorem setAttr_attrs_ne_nil (m : MeshVal α) (k : AttrKey) {data : List α} (hd : data ≠ []) :
    (m.setAttr k data).attrs ≠ [] := by
  have : data.isEmpty = false := by cases data <;> simp_all
  simp only [setAttr, this, Bool.false_eq_true, if_false]
  split
  · rename_i hh
    cases ha : m.attrs with
    | nil => simp [hasAttr, ha, Attrs.find?] at hh
    | cons _ _ => simp
  · simp

theorem setAttr_wf {m : MeshVal α} (h : WF m) (k : AttrKey) (data : List α)
    (hd : data.length = m.attrLen ∨ m.attrs = []) : WF (m.setAttr k data) := by
  have hidx : m.attrs = [] → m.indices = [] := indices_nil_of_attrs_nil h
  apply wf_of_uniform data.length
  · intro kd hk
    rcases mem_setAttr hk with hk | rfl
    · rcases hd with hd | hd
      · rw [hd]; exact h.1 kd hk
      · rw [hd] at hk; cases hk
    · rfl
  · intro i hi
    rcases hd with hd | hd
    · rw [hd]; exact h.2.1 i hi
    · rw [show (m.setAttr k data).indices = m.indices from rfl, hidx hd] at hi; cases hi
  · intro ha
    show m.indices = []
    rcases hd with hd | hd
    · by_cases hz : data = []
      · exact indices_nil_of_attrLen_zero h (by rw [← hd, hz]; rfl)
      · exact absurd ha (setAttr_attrs_ne_nil m k hz)
    · exact hidx hd
  · exact h.2.2

/-- deleting a key (`SetFloatNAttribute(k, empty)`) keeps WF when another array remains or there is no index -/
theorem setAttr_delete_wf {m : MeshVal α} (h : WF m) (k : AttrKey)
    (hk : (∃ kd ∈ m.attrs, kd.1 ≠ k) ∨ m.indices = []) : WF (m.setAttr k []) := by
  show WF { m with attrs := m.attrs.filter fun kd => kd.1 != k }
  refine wf_withAttrs h (fun kd hkd => h.1 kd (List.mem_filter.mp hkd).1) fun hres => ?_
  rcases hk with ⟨kd, hkd, hne⟩ | hk
  · have : kd ∈ m.attrs.filter fun kd => kd.1 != k := List.mem_filter.mpr ⟨hkd, by simpa using hne⟩
    rw [hres] at this; cases this
  · exact hk

theorem clearAttrs_wf {m : MeshVal α} (h : WF m) (hi : m.indices = []) : WF m.clearAttrs :=
  wf_withAttrs h (fun _ hk => nomatch hk) fun _ => hi

/-- `SetFloatNData` with arrays of the common length keeps WF, provided some array remains or there is no index -/
theorem setData_wf {m : MeshVal α} (h : WF m) (w : Nat) (new : Attrs α)
    (hnew : ∀ kd ∈ new, kd.2.length = m.attrLen)
    (hne : (m.setData w new).attrs ≠ [] ∨ m.indices = []) : WF (m.setData w new) := by
  refine wf_withAttrs h (fun kd hk => ?_) fun hnil => hne.elim (absurd hnil) id
  rcases List.mem_append.mp hk with hk | hk
  · exact h.1 kd (List.mem_filter.mp hk).1
  · exact hnew kd hk

theorem modifyAttr_wf {m m' : MeshVal α} (h : WF m) {k : AttrKey} {f : List α → List α}
    (hf : ∀ d, (f d).length = d.length) (hm : m.modifyAttr k f = some m') : WF m' := by
  obtain ⟨d, hd, rfl⟩ := modifyAttr_eq hm
  exact setAttr_wf h k _ (Or.inl ((hf d).trans (attr?_length h hd)))

theorem mapAttr_wf {m m' : MeshVal α} (h : WF m) {k : AttrKey} {φ : α → α}
    (hm : m.mapAttr k φ = some m') : WF m' :=
  modifyAttr_wf h (fun d => by simp) hm

end MeshVal
end PolyVerif.Mesh
