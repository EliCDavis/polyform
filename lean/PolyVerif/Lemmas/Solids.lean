/-
  C18, combinatorics of the round primitives.  Each triangle list of `Model/Solids.lean` is related to a *logical* list over
  points `LP = (ring, column)` (`sphereL`, `cylL`): the welded sphere is its image under the injective numbering `uvEnc`,
  the hemisphere its reversal, the unwelded sphere and the capped cylinder map onto it under their merge maps.  Proved here
  for all sizes: the directed edges of the logical lists are duplicate-free and loop-free (block by block, `(i+1) % C`
  through `nextCol_cases`); that every edge has its reverse comes from the umbrella theorems (`Lemmas/SolidsUmbrella*.lean`).
-/
import PolyVerif.Model.Solids
import Mathlib.Tactic
namespace PolyVerif.Solids
open List

theorem nodup_flatMap_range {α : Type} (n : Nat) (f : Nat → List α) (h1 : ∀ i < n, (f i).Nodup)
    (h2 : ∀ i < n, ∀ i' < n, i ≠ i' → ∀ e ∈ f i, e ∉ f i') : ((List.range n).flatMap f).Nodup := by
  rw [List.nodup_flatMap]
  refine ⟨fun i hi => h1 i (List.mem_range.1 hi), ?_⟩
  apply List.Nodup.pairwise_of_forall_ne List.nodup_range
  intro a ha b hb hab
  simp only [Function.onFun, List.disjoint_left] 
  exact h2 a (List.mem_range.1 ha) b (List.mem_range.1 hb) hab

def sphereL (R C : Nat) : List (LP × LP × LP) :=
  ((List.range C).flatMap fun i =>
    [ ((0, 0), (1, (i + 1) % C), (1, i)), ((R, 0), (R - 1, i), (R - 1, (i + 1) % C)) ])
  ++ (List.range (R - 2)).flatMap fun j =>
      (List.range C).flatMap fun i =>
        [ ((j + 1, i), (j + 1, (i + 1) % C), (j + 2, (i + 1) % C)),
          ((j + 1, i), (j + 2, (i + 1) % C), (j + 2, i)) ]

def fanE (R C i : Nat) : List (LP × LP) :=
  [ ((0, 0), (1, (i + 1) % C)), ((1, (i + 1) % C), (1, i)), ((1, i), (0, 0)),
    ((R, 0), (R - 1, i)), ((R - 1, i), (R - 1, (i + 1) % C)), ((R - 1, (i + 1) % C), (R, 0)) ]

def quadE (C j i : Nat) : List (LP × LP) :=
  [ ((j + 1, i), (j + 1, (i + 1) % C)), ((j + 1, (i + 1) % C), (j + 2, (i + 1) % C)), ((j + 2, (i + 1) % C), (j + 1, i)),
    ((j + 1, i), (j + 2, (i + 1) % C)), ((j + 2, (i + 1) % C), (j + 2, i)), ((j + 2, i), (j + 1, i)) ]

theorem edges_sphereL (R C : Nat) : edges (sphereL R C) =
    (List.range C).flatMap (fanE R C) ++ (List.range (R - 2)).flatMap (fun j => (List.range C).flatMap (quadE C j)) := by
  simp only [edges, sphereL, List.flatMap_append, List.flatMap_assoc, triEdges, List.flatMap_cons, List.flatMap_nil, List.cons_append, List.nil_append, List.append_nil]
  rfl

theorem nextCol_cases {i C : Nat} (h : i < C) :
    ((i + 1) % C = i + 1 ∧ i + 1 < C) ∨ ((i + 1) % C = 0 ∧ i + 1 = C) := by
  rcases Nat.lt_or_ge (i + 1) C with h1 | h1
  · exact Or.inl ⟨Nat.mod_eq_of_lt h1, h1⟩
  · have : i + 1 = C := by omega
    exact Or.inr ⟨by rw [this, Nat.mod_self], this⟩

theorem fanE_nodup {R C i : Nat} (hR : 2 ≤ R) (hC : 3 ≤ C) (hi : i < C) : (fanE R C i).Nodup := by
  have := nextCol_cases hi
  simp only [fanE, List.nodup_cons, List.mem_cons, List.not_mem_nil, Prod.mk.injEq,
    not_or, List.nodup_nil, not_false_eq_true, and_true]
  omega

theorem quadE_nodup {C j i : Nat} (hC : 3 ≤ C) (hi : i < C) : (quadE C j i).Nodup := by
  have := nextCol_cases hi
  simp only [quadE, List.nodup_cons, List.mem_cons, List.not_mem_nil, Prod.mk.injEq,
    not_or, List.nodup_nil, not_false_eq_true, and_true]
  omega

theorem fanE_disjoint {R C i i' : Nat} (hR : 2 ≤ R) (hC : 3 ≤ C) (hi : i < C) (hi' : i' < C) (hne : i ≠ i')
    : ∀ e ∈ fanE R C i, e ∉ fanE R C i' := by
  have := nextCol_cases hi
  have := nextCol_cases hi'
  simp only [fanE, List.mem_cons, List.not_mem_nil, Prod.mk.injEq, 
    not_or, or_false, forall_eq_or_imp, forall_eq]
  omega

theorem quadE_disjoint {C j i j' i' : Nat} (hC : 3 ≤ C) (hi : i < C) (hi' : i' < C) (hne : j ≠ j' ∨ i ≠ i')
    : ∀ e ∈ quadE C j i, e ∉ quadE C j' i' := by
  have := nextCol_cases hi
  have := nextCol_cases hi'
  simp only [quadE, List.mem_cons, List.not_mem_nil, Prod.mk.injEq,
    not_or, or_false, forall_eq_or_imp, forall_eq]
  omega

theorem fan_quad_disj {R C i j i' : Nat} (hR : 2 ≤ R) (hC : 3 ≤ C) (hi : i < C) (hi' : i' < C) (hj : j < R - 2)
    : ∀ e ∈ fanE R C i, e ∉ quadE C j i' := by
  have := nextCol_cases hi
  have := nextCol_cases hi'
  simp only [fanE, quadE, List.mem_cons, List.not_mem_nil, Prod.mk.injEq,
    not_or, or_false, forall_eq_or_imp, forall_eq]
  omega

theorem mem_edges_sphereL {R C : Nat} {e : LP × LP} : e ∈ edges (sphereL R C) ↔
    (∃ i, i < C ∧ e ∈ fanE R C i) ∨ (∃ j, j < R - 2 ∧ ∃ i, i < C ∧ e ∈ quadE C j i) := by
  simp only [edges_sphereL, List.mem_append, List.mem_flatMap, List.mem_range]

theorem sphereL_nodup {R C : Nat} (hR : 2 ≤ R) (hC : 3 ≤ C) : (edges (sphereL R C)).Nodup := by
  rw [edges_sphereL, List.nodup_append]
  refine ⟨?_, ?_, ?_⟩
  · exact nodup_flatMap_range _ _ (fun i hi => fanE_nodup hR hC hi)
      (fun i hi i' hi' hne => fanE_disjoint hR hC hi hi' hne)
  · refine nodup_flatMap_range _ _ (fun j _ => ?_) (fun j _ j' _ hne e he he' => ?_)
    · exact nodup_flatMap_range _ _ (fun i hi => quadE_nodup hC hi)
        (fun i hi i' hi' hne => quadE_disjoint hC hi hi' (Or.inr hne))
    · simp only [List.mem_flatMap, List.mem_range] at he he'
      obtain ⟨i, hi, hei⟩ := he
      obtain ⟨i', hi', hei'⟩ := he'
      exact quadE_disjoint hC hi hi' (Or.inl hne) e hei hei'
  · intro a ha b hb hab
    subst hab
    simp only [List.mem_flatMap, List.mem_range] at ha hb
    obtain ⟨i, hi, hei⟩ := ha
    obtain ⟨j, hj, i', hi', hei'⟩ := hb
    exact fan_quad_disj hR hC hi hi' hj a hei hei'

theorem prevCol_spec {i C : Nat} (h : i < C) :
    (i + C - 1) % C < C ∧ ((i + C - 1) % C + 1) % C = i := by
  have hC : 0 < C := by omega
  refine ⟨Nat.mod_lt _ hC, ?_⟩
  rcases Nat.eq_zero_or_pos i with h0 | h0
  · subst h0
    have : (0 + C - 1) % C = C - 1 := by rw [Nat.zero_add]; exact Nat.mod_eq_of_lt (by omega)
    rw [this, show C - 1 + 1 = C by omega, Nat.mod_self]
  · have : (i + C - 1) % C = i - 1 := by
      rw [show i + C - 1 = (i - 1) + C by omega, Nat.add_mod_right]; exact Nat.mod_eq_of_lt (by omega)
    rw [this, show i - 1 + 1 = i by omega]; exact Nat.mod_eq_of_lt h

theorem prevCol_nextCol {i C : Nat} (h : i < C) : ((i + 1) % C + C - 1) % C = i := by
  rcases nextCol_cases h with ⟨e, _⟩ | ⟨e, h'⟩
  · rw [e, show i + 1 + C - 1 = i + C by omega, Nat.add_mod_right, Nat.mod_eq_of_lt h]
  · rw [e, show 0 + C - 1 = i by omega, Nat.mod_eq_of_lt h]

theorem sphereL_noloop {R C : Nat} (hR : 2 ≤ R) (hC : 3 ≤ C) :
    ∀ e ∈ edges (sphereL R C), e.1 ≠ e.2 := by
  intro e he
  rcases mem_edges_sphereL.1 he with ⟨i, hi, h⟩ | ⟨j, hj, i, hi, h⟩
  · have h1 := nextCol_cases hi
    simp only [fanE, List.mem_cons, List.not_mem_nil, or_false] at h
    rcases h with rfl | rfl | rfl | rfl | rfl | rfl <;> simp <;> omega
  · have h1 := nextCol_cases hi
    simp only [quadE, List.mem_cons, List.not_mem_nil, or_false] at h
    rcases h with rfl | rfl | rfl | rfl | rfl | rfl <;> simp <;> omega

/-! ### transport along vertex maps -/

def tm {β γ : Type} (f : β → γ) (t : β × β × β) : γ × γ × γ := (f t.1, f t.2.1, f t.2.2)

/-- on index triangles, `Model/Solids.lean`'s `tmap` is `tm` -/
theorem tmap_eq_tm {β : Type} (f : Nat → β) : tmap f = tm f := rfl

theorem edges_map {β γ : Type} (f : β → γ) (ts : List (β × β × β)) :
    edges (ts.map (tm f)) = (edges ts).map (Prod.map f f) := by
  simp only [edges, List.flatMap_map, List.map_flatMap]
  rfl

theorem Closed.map_of_injOn {β γ : Type} {f : β → γ} {ts : List (β × β × β)} (V : β → Prop)
    (hV : ∀ e ∈ edges ts, V e.1 ∧ V e.2) (hinj : ∀ p q, V p → V q → f p = f q → p = q)
    (h : Closed ts) : Closed (ts.map (tm f)) := by
  obtain ⟨hnd, htw, hnl⟩ := h
  rw [Closed, edges_map]
  refine ⟨?_, ?_, ?_⟩
  · refine List.Nodup.map_on ?_ hnd
    intro x hx y hy hxy
    have h1 := hinj _ _ (hV x hx).1 (hV y hy).1 (congrArg Prod.fst hxy)
    have h2 := hinj _ _ (hV x hx).2 (hV y hy).2 (congrArg Prod.snd hxy)
    exact Prod.ext h1 h2
  · intro e he
    obtain ⟨x, hx, rfl⟩ := List.mem_map.1 he
    exact List.mem_map.2 ⟨(x.2, x.1), htw x hx, rfl⟩
  · intro e he
    obtain ⟨x, hx, rfl⟩ := List.mem_map.1 he
    intro hxy
    exact hnl x hx (hinj _ _ (hV x hx).1 (hV x hx).2 hxy)

/-- valid logical points of the `R`-row, `C`-column sphere -/
def UvValid (R C : Nat) (p : LP) : Prop := p = (0, 0) ∨ p = (R, 0) ∨ (1 ≤ p.1 ∧ p.1 < R ∧ p.2 < C)

theorem uvEnc_top (R C : Nat) : uvEnc R C (0, 0) = 0 := by simp [uvEnc]

theorem uvEnc_bot {R : Nat} (C : Nat) (hR : 2 ≤ R) : uvEnc R C (R, 0) = uvBottom R C := by
  have : R ≠ 0 := by omega
  simp [uvEnc, this]

theorem uvEnc_grid {R r : Nat} (C c : Nat) (h1 : 1 ≤ r) (h2 : r < R) : uvEnc R C (r, c) = (r - 1) * C + 1 + c := by
  have : r ≠ 0 := by omega
  have : r ≠ R := by omega
  simp [uvEnc, *]

theorem uvDec_uvEnc {R C : Nat} (hR : 2 ≤ R) (hC : 3 ≤ C) (p : LP) (hv : UvValid R C p) :
    uvDec R C (uvEnc R C p) = p := by
  rcases hv with rfl | rfl | ⟨h1, h2, h3⟩
  · simp [uvEnc_top, uvDec]
  · rw [uvEnc_bot C hR]
    have : uvBottom R C ≠ 0 := by simp [uvBottom]
    simp [uvDec, this]
  · obtain ⟨r, c⟩ := p
    simp only at h1 h2 h3
    rw [uvEnc_grid C c h1 h2]
    have hle : (r - 1 + 1) * C ≤ (R - 1) * C := Nat.mul_le_mul_right C (by omega)
    rw [Nat.succ_mul] at hle
    have e1 : (r - 1) * C + 1 + c - 1 = C * (r - 1) + c := by rw [Nat.mul_comm]; omega
    have n0 : (r - 1) * C + 1 + c ≠ 0 := by omega
    have n1 : (r - 1) * C + 1 + c ≠ uvBottom R C := by unfold uvBottom; omega
    simp only [uvDec, n0, n1, if_false, e1]
    rw [Nat.mul_add_div (by omega), Nat.mul_add_mod, Nat.div_eq_of_lt h3, Nat.mod_eq_of_lt h3]
    ext <;> simp <;> omega

/-- the vertex id of a grid point is neither pole, and `(v − 1) / C`, `(v − 1) % C` give back its ring and column -/
theorem uvEnc_grid_dec {R C ρ c : Nat} (hR : 2 ≤ R) (hC : 3 ≤ C) (h1 : 1 ≤ ρ) (h2 : ρ < R) (h3 : c < C) :
    uvEnc R C (ρ, c) ≠ 0 ∧ uvEnc R C (ρ, c) ≠ uvBottom R C ∧ (uvEnc R C (ρ, c) - 1) / C + 1 = ρ ∧
      (uvEnc R C (ρ, c) - 1) % C = c := by
  have hd := uvDec_uvEnc hR hC (ρ, c) (Or.inr (Or.inr ⟨h1, h2, h3⟩))
  have n0 : uvEnc R C (ρ, c) ≠ 0 := by rw [uvEnc_grid C c h1 h2]; omega
  have hle : (ρ - 1 + 1) * C ≤ (R - 1) * C := Nat.mul_le_mul_right C (by omega)
  rw [Nat.succ_mul] at hle
  have n1 : uvEnc R C (ρ, c) ≠ uvBottom R C := by rw [uvEnc_grid C c h1 h2]; unfold uvBottom; omega
  simp only [uvDec, n0, n1, if_false, Prod.mk.injEq] at hd
  exact ⟨n0, n1, hd⟩

theorem uvEnc_injOn {R C : Nat} (hR : 2 ≤ R) (hC : 3 ≤ C) (p q : LP) (hp : UvValid R C p) (hq : UvValid R C q)
    (h : uvEnc R C p = uvEnc R C q) : p = q := by
  rw [← uvDec_uvEnc hR hC p hp, ← uvDec_uvEnc hR hC q hq, h]

theorem uvEnc_uvDec {R C : Nat} (hR : 2 ≤ R) (hC : 3 ≤ C) {v : Nat} (hv : v < uvSphereNV R C) :
    UvValid R C (uvDec R C v) ∧ uvEnc R C (uvDec R C v) = v := by
  unfold uvSphereNV at hv
  by_cases h0 : v = 0
  · subst h0; simp [uvDec, UvValid, uvEnc_top]
  · by_cases h1 : v = uvBottom R C
    · have hb : uvBottom R C ≠ 0 := by simp [uvBottom]
      have e : uvDec R C v = (R, 0) := by simp [uvDec, h1, hb]
      rw [e]; exact ⟨Or.inr (Or.inl rfl), by rw [uvEnc_bot C hR, h1]⟩
    · have hC0 : 0 < C := by omega
      have e : uvDec R C v = ((v - 1) / C + 1, (v - 1) % C) := by simp [uvDec, h0, h1]
      unfold uvBottom at h1
      have hlt : v - 1 < (R - 1) * C := by omega
      have hq : (v - 1) / C < R - 1 := (Nat.div_lt_iff_lt_mul hC0).2 hlt
      have hm : (v - 1) % C < C := Nat.mod_lt _ hC0
      have hdm : (v - 1) / C * C + (v - 1) % C = v - 1 := by rw [Nat.mul_comm]; exact Nat.div_add_mod _ _
      rw [e]
      generalize (v - 1) / C = a at *
      generalize (v - 1) % C = b at *
      refine ⟨Or.inr (Or.inr ⟨by simp only; omega, by simp only; omega, hm⟩), ?_⟩
      rw [uvEnc_grid C _ (by omega) (by omega)]
      simp only [Nat.add_sub_cancel]
      omega

theorem mem_sphereL {R C : Nat} {t : LP × LP × LP} : t ∈ sphereL R C ↔
    (∃ i, i < C ∧ (t = ((0, 0), (1, (i + 1) % C), (1, i)) ∨ t = ((R, 0), (R - 1, i), (R - 1, (i + 1) % C)))) ∨
    (∃ j, j < R - 2 ∧ ∃ i, i < C ∧ (t = ((j + 1, i), (j + 1, (i + 1) % C), (j + 2, (i + 1) % C)) ∨
      t = ((j + 1, i), (j + 2, (i + 1) % C), (j + 2, i)))) := by
  simp only [sphereL, List.mem_append, List.mem_flatMap, List.mem_range, List.mem_cons, List.not_mem_nil, or_false]

/-- the triangles of the logical sphere by the ring `ρ` of their upper grid corners -/
theorem mem_sphereL_ring {R C : Nat} (hR : 1 ≤ R) {t : LP × LP × LP} : t ∈ sphereL R C ↔
    (∃ i, i < C ∧ t = ((0, 0), (1, (i + 1) % C), (1, i))) ∨
    (∃ ρ i, ρ + 1 = R ∧ i < C ∧ t = ((R, 0), (ρ, i), (ρ, (i + 1) % C))) ∨
    (∃ ρ i, 1 ≤ ρ ∧ ρ + 1 < R ∧ i < C ∧ (t = ((ρ, i), (ρ, (i + 1) % C), (ρ + 1, (i + 1) % C)) ∨
      t = ((ρ, i), (ρ + 1, (i + 1) % C), (ρ + 1, i)))) := by
  rw [mem_sphereL]
  constructor
  · rintro (⟨i, hi, h | h⟩ | ⟨j, hj, i, hi, h⟩)
    · exact Or.inl ⟨i, hi, h⟩
    · exact Or.inr (Or.inl ⟨R - 1, i, by omega, hi, h⟩)
    · exact Or.inr (Or.inr ⟨j + 1, i, by omega, by omega, hi, h⟩)
  · rintro (⟨i, hi, h⟩ | ⟨ρ, i, rfl, hi, h⟩ | ⟨ρ, i, h1, h2, hi, h⟩)
    · exact Or.inl ⟨i, hi, Or.inl h⟩
    · exact Or.inl ⟨i, hi, Or.inr h⟩
    · refine Or.inr ⟨ρ - 1, by omega, i, hi, ?_⟩
      rwa [show ρ - 1 + 1 = ρ by omega, show ρ - 1 + 2 = ρ + 1 by omega]

theorem sphereL_tri_valid {R C : Nat} (hR : 2 ≤ R) (hC : 3 ≤ C) {t : LP × LP × LP} (ht : t ∈ sphereL R C) :
    UvValid R C t.1 ∧ UvValid R C t.2.1 ∧ UvValid R C t.2.2 := by
  have hm : ∀ x, x % C < C := fun x => Nat.mod_lt _ (by omega)
  rcases mem_sphereL.1 ht with ⟨i, hi, rfl | rfl⟩ | ⟨j, hj, i, hi, rfl | rfl⟩ <;> simp [UvValid, hm, hi] <;> omega

/-- the endpoints of an edge are corners of one triangle -/
theorem corners_of_mem_edges {β : Type} {ts : List (β × β × β)} {e : β × β} (he : e ∈ edges ts) :
    ∃ t ∈ ts, (e.1 = t.1 ∨ e.1 = t.2.1 ∨ e.1 = t.2.2) ∧ (e.2 = t.1 ∨ e.2 = t.2.1 ∨ e.2 = t.2.2) := by
  obtain ⟨t, ht, h⟩ := List.mem_flatMap.1 he
  simp only [triEdges, List.mem_cons, List.not_mem_nil, or_false] at h
  rcases h with rfl | rfl | rfl
  exacts [⟨t, ht, Or.inl rfl, Or.inr (Or.inl rfl)⟩, ⟨t, ht, Or.inr (Or.inl rfl), Or.inr (Or.inr rfl)⟩,
    ⟨t, ht, Or.inr (Or.inr rfl), Or.inl rfl⟩]

theorem sphereL_valid {R C : Nat} (hR : 2 ≤ R) (hC : 3 ≤ C) :
    ∀ e ∈ edges (sphereL R C), UvValid R C e.1 ∧ UvValid R C e.2 := by
  intro e he
  obtain ⟨t, ht, h1, h2⟩ := corners_of_mem_edges he
  obtain ⟨v1, v2, v3⟩ := sphereL_tri_valid hR hC ht
  exact ⟨by rcases h1 with h | h | h <;> rwa [h], by rcases h2 with h | h | h <;> rwa [h]⟩

theorem uvSphereTris_eq_map {R C : Nat} (hR : 2 ≤ R) :
    uvSphereTris R C = (sphereL R C).map (tm (uvEnc R C)) := by
  simp only [uvSphereTris, sphereL, List.map_append, List.map_flatMap, List.map_cons, List.map_nil, tm]
  congr 1
  · refine List.flatMap_congr fun i hi => ?_
    rw [uvEnc_top, uvEnc_bot C hR, uvEnc_grid C _ (by omega) (by omega), uvEnc_grid C _ (by omega) (by omega),
      uvEnc_grid C _ (by omega) (by omega), uvEnc_grid C _ (by omega) (by omega)]
    have : R - 1 - 1 = R - 2 := by omega
    simp only [this, Nat.sub_self, Nat.zero_mul, Nat.mul_comm C (R - 2), List.cons.injEq, Prod.mk.injEq,
      and_true, true_and]
    omega
  · refine List.flatMap_congr fun j hj => List.flatMap_congr fun i hi => ?_
    have hj := List.mem_range.1 hj
    rw [uvEnc_grid C _ (by omega) (by omega), uvEnc_grid C _ (by omega) (by omega),
      uvEnc_grid C _ (by omega) (by omega), uvEnc_grid C _ (by omega) (by omega)]
    simp

/-! ### reversing every triangle -/
def flipT {β : Type} (t : β × β × β) : β × β × β := (t.1, t.2.2, t.2.1)

theorem edges_flip_perm {β : Type} (ts : List (β × β × β)) :
    List.Perm (edges (ts.map flipT)) ((edges ts).map Prod.swap) := by
  simp only [edges, List.flatMap_map, List.map_flatMap]
  refine List.Perm.flatMap_left _ fun t _ => ?_
  obtain ⟨a, b, c⟩ := t
  simp only [triEdges, flipT, List.map_cons, List.map_nil, Prod.swap]
  exact List.reverse_perm [(b, a), (c, b), (a, c)]

theorem Closed.flip {β : Type} {ts : List (β × β × β)} (h : Closed ts) : Closed (ts.map flipT) := by
  obtain ⟨hnd, htw, hnl⟩ := h
  have hp := edges_flip_perm ts
  have hmem : ∀ e, e ∈ edges (ts.map flipT) ↔ (e.2, e.1) ∈ edges ts := by
    intro e
    rw [hp.mem_iff, List.mem_map]
    constructor
    · rintro ⟨x, hx, rfl⟩; exact hx
    · intro h; exact ⟨(e.2, e.1), h, rfl⟩
  refine ⟨?_, ?_, ?_⟩
  · rw [hp.nodup_iff]
    exact hnd.map Prod.swap_injective
  · intro e he
    rw [hmem] at he ⊢
    exact htw _ he
  · intro e he
    rw [hmem] at he
    exact fun h => hnl _ he h.symm

theorem hemisphereTris_eq_flip (R C : Nat) : hemisphereTris R C = (uvSphereTris R C).map flipT := by
  simp only [hemisphereTris, uvSphereTris, List.map_append, List.map_flatMap, List.map_cons, List.map_nil, flipT]

theorem src_fan {R C i k : Nat} (hi : i < C) (hk : k < 6) :
    uvUnweldedSrc R C (6 * i + k) =
      match k with
      | 0 => 0
      | 1 => (i + 1) % C + 1
      | 2 => i + 1
      | 3 => uvBottom R C
      | 4 => i + C * (R - 2) + 1
      | _ => (i + 1) % C + C * (R - 2) + 1 := by
  have h1 : 6 * i + k < 6 * C := by omega
  have h2 : (6 * i + k) / 6 = i := by omega
  have h3 : (6 * i + k) % 6 = k := by omega
  simp only [uvUnweldedSrc, h1, if_true, h2, h3]
  interval_cases k <;> rfl

theorem src_quad {R C j i k : Nat} (hi : i < C) (hk : k < 4) :
    uvUnweldedSrc R C (6 * C + 4 * (j * C + i) + k) =
      match k with
      | 0 => j * C + 1 + i
      | 1 => j * C + 1 + (i + 1) % C
      | 2 => (j + 1) * C + 1 + (i + 1) % C
      | _ => (j + 1) * C + 1 + i := by
  have h1 : ¬ (6 * C + 4 * (j * C + i) + k < 6 * C) := by omega
  have h2 : (6 * C + 4 * (j * C + i) + k - 6 * C) / 4 = j * C + i := by omega
  have h3 : (6 * C + 4 * (j * C + i) + k - 6 * C) % 4 = k := by omega
  have h4 : (j * C + i) / C = j := by
    rw [Nat.mul_comm, Nat.mul_add_div (by omega), Nat.div_eq_of_lt hi, Nat.add_zero]
  have h5 : (j * C + i) % C = i := by
    rw [Nat.mul_comm, Nat.mul_add_mod, Nat.mod_eq_of_lt hi]
  simp only [uvUnweldedSrc, h1, if_false, h2, h3, h4, h5]
  interval_cases k <;> rfl

theorem uvUnwelded_map_src (R C : Nat) :
    (uvSphereUnweldedTris R C).map (tmap (uvUnweldedSrc R C)) = uvSphereTris R C := by
  simp only [uvSphereUnweldedTris, uvSphereTris, List.map_append, List.map_flatMap, List.map_cons, List.map_nil, tmap]
  congr 1
  · refine List.flatMap_congr fun i hi => ?_
    have hi := List.mem_range.1 hi
    have e0 := @src_fan R C i 0 hi (by omega)
    have e1 := @src_fan R C i 1 hi (by omega)
    have e2 := @src_fan R C i 2 hi (by omega)
    have e3 := @src_fan R C i 3 hi (by omega)
    have e4 := @src_fan R C i 4 hi (by omega)
    have e5 := @src_fan R C i 5 hi (by omega)
    simp only [Nat.add_zero] at e0
    simp only [e0, e1, e2, e3, e4, e5]
  · refine List.flatMap_congr fun j _ => List.flatMap_congr fun i hi => ?_
    have hi := List.mem_range.1 hi
    have e0 := @src_quad R C j i 0 hi (by omega)
    have e1 := @src_quad R C j i 1 hi (by omega)
    have e2 := @src_quad R C j i 2 hi (by omega)
    have e3 := @src_quad R C j i 3 hi (by omega)
    simp only [Nat.add_zero] at e0
    simp only [e0, e1, e2, e3]

/-- every vertex of the unwelded sphere is a corner of one of its triangles -/
theorem unwelded_corner {R C v : Nat} (hC : 3 ≤ C) (hv : v < uvUnweldedNV R C) :
    ∃ t ∈ uvSphereUnweldedTris R C, v = t.1 ∨ v = t.2.1 ∨ v = t.2.2 := by
  unfold uvUnweldedNV at hv
  simp only [uvSphereUnweldedTris, List.mem_append, List.mem_flatMap, List.mem_range, List.mem_cons, List.not_mem_nil,
    or_false]
  by_cases h6 : v < 6 * C
  · obtain ⟨i, k, hi, hk, rfl⟩ : ∃ i k, i < C ∧ k < 6 ∧ v = 6 * i + k := ⟨v / 6, v % 6, by omega, by omega, by omega⟩
    rcases Nat.lt_or_ge k 3 with h | h
    · exact ⟨(6 * i, 6 * i + 1, 6 * i + 2), Or.inl ⟨i, hi, Or.inl rfl⟩, by simp only; omega⟩
    · exact ⟨(6 * i + 3, 6 * i + 4, 6 * i + 5), Or.inl ⟨i, hi, Or.inr rfl⟩, by simp only; omega⟩
  · have hC0 : 0 < C := by omega
    have hq : (v - 6 * C) / 4 < (R - 2) * C := by omega
    have hj : (v - 6 * C) / 4 / C < R - 2 := (Nat.div_lt_iff_lt_mul hC0).2 hq
    have hi : (v - 6 * C) / 4 % C < C := Nat.mod_lt _ hC0
    have hdm : (v - 6 * C) / 4 / C * C + (v - 6 * C) / 4 % C = (v - 6 * C) / 4 := by
      rw [Nat.mul_comm]; exact Nat.div_add_mod _ _
    rcases Nat.lt_or_ge ((v - 6 * C) % 4) 3 with h | h
    · exact ⟨_, Or.inr ⟨_, hj, _, hi, Or.inl rfl⟩, by simp only [hdm]; omega⟩
    · exact ⟨_, Or.inr ⟨_, hj, _, hi, Or.inr rfl⟩, by simp only [hdm]; omega⟩

theorem src_is_enc {R C : Nat} (hR : 2 ≤ R) (hC : 3 ≤ C) {v : Nat} (hv : v < uvUnweldedNV R C) :
    ∃ p, UvValid R C p ∧ uvUnweldedSrc R C v = uvEnc R C p := by
  obtain ⟨t, ht, hc⟩ := unwelded_corner hC hv
  -- the triangle's image under the copy map is a welded triangle, whose corners encode valid points
  have hm : tmap (uvUnweldedSrc R C) t ∈ (sphereL R C).map (tm (uvEnc R C)) := by
    rw [← uvSphereTris_eq_map hR, ← uvUnwelded_map_src]; exact List.mem_map_of_mem ht
  obtain ⟨t', ht', e⟩ := List.mem_map.1 hm
  obtain ⟨v1, v2, v3⟩ := sphereL_tri_valid hR hC ht'
  simp only [tm, tmap, Prod.mk.injEq] at e
  rcases hc with rfl | rfl | rfl
  exacts [⟨_, v1, e.1.symm⟩, ⟨_, v2, e.2.1.symm⟩, ⟨_, v3, e.2.2.symm⟩]

/-- logical triangles of the capped cylinder, in the order of `cylinderTris S false false`:
    ring 1 = top rim, ring 2 = bottom rim, `(0,0)` top centre, `(3,0)` bottom centre -/
def cylL (S : Nat) : List (LP × LP × LP) :=
  ((List.range S).flatMap fun i =>
    [ ((2, i), (1, i), (1, (i + 1) % S)), ((2, i), (1, (i + 1) % S), (2, (i + 1) % S)) ])
  ++ ((List.range S).map fun i => ((1, i), (0, 0), (1, (i + 1) % S)))
  ++ ((List.range S).map fun k => ((2, (S - 1 - k + 1) % S), (3, 0), (2, S - 1 - k)))

def sideE (S i : Nat) : List (LP × LP) :=
  [ ((2, i), (1, i)), ((1, i), (1, (i + 1) % S)), ((1, (i + 1) % S), (2, i)),
    ((2, i), (1, (i + 1) % S)), ((1, (i + 1) % S), (2, (i + 1) % S)), ((2, (i + 1) % S), (2, i)) ]

def topE (S i : Nat) : List (LP × LP) :=
  [ ((1, i), (0, 0)), ((0, 0), (1, (i + 1) % S)), ((1, (i + 1) % S), (1, i)) ]

def botE (S m : Nat) : List (LP × LP) :=
  [ ((2, (m + 1) % S), (3, 0)), ((3, 0), (2, m)), ((2, m), (2, (m + 1) % S)) ]

theorem edges_cylL (S : Nat) : edges (cylL S) =
    (List.range S).flatMap (sideE S) ++ (List.range S).flatMap (topE S)
      ++ (List.range S).flatMap (fun k => botE S (S - 1 - k)) := by
  simp only [edges, cylL, List.flatMap_append, List.flatMap_assoc, List.flatMap_map, triEdges, List.flatMap_cons,
    List.flatMap_nil, List.cons_append, List.nil_append, List.append_nil]
  rfl

/-- the triangles of the logical capped cylinder: side strip (two per column), top cap, bottom cap -/
theorem mem_cylL {S : Nat} {t : LP × LP × LP} : t ∈ cylL S ↔
    (∃ i, i < S ∧ (t = ((2, i), (1, i), (1, (i + 1) % S)) ∨ t = ((2, i), (1, (i + 1) % S), (2, (i + 1) % S)))) ∨
    (∃ i, i < S ∧ t = ((1, i), (0, 0), (1, (i + 1) % S))) ∨
    (∃ m, m < S ∧ t = ((2, (m + 1) % S), (3, 0), (2, m))) := by
  simp only [cylL, List.mem_append, List.mem_flatMap, List.mem_map, List.mem_range, List.mem_cons, List.not_mem_nil,
    or_false, or_assoc]
  refine or_congr Iff.rfl (or_congr ?_ ?_)
  · constructor
    · rintro ⟨i, hi, rfl⟩; exact ⟨i, hi, rfl⟩
    · rintro ⟨i, hi, rfl⟩; exact ⟨i, hi, rfl⟩
  · constructor
    · rintro ⟨k, hk, rfl⟩; exact ⟨S - 1 - k, by omega, rfl⟩
    · rintro ⟨m, hm, rfl⟩
      refine ⟨S - 1 - m, by omega, ?_⟩
      rw [show S - 1 - (S - 1 - m) = m by omega]

theorem sideE_nodup {S i : Nat} (_hS : 3 ≤ S) (hi : i < S) : (sideE S i).Nodup := by
  have := nextCol_cases hi
  simp only [sideE, List.nodup_cons, List.mem_cons, List.not_mem_nil, Prod.mk.injEq,
    not_or, List.nodup_nil, not_false_eq_true, and_true]
  omega

theorem topE_nodup {S i : Nat} (_hS : 3 ≤ S) (hi : i < S) : (topE S i).Nodup := by
  have := nextCol_cases hi
  simp only [topE, List.nodup_cons, List.mem_cons, List.not_mem_nil, Prod.mk.injEq,
    not_or, List.nodup_nil, not_false_eq_true, and_true]
  omega

theorem botE_nodup {S i : Nat} (hS : 3 ≤ S) (hi : i < S) : (botE S i).Nodup := by
  have := nextCol_cases hi
  simp only [botE, List.nodup_cons, List.mem_cons, List.not_mem_nil, Prod.mk.injEq,
    not_or, List.nodup_nil, not_false_eq_true, and_true]
  omega

/-- edge blocks of the capped cylinder with different loop indices, or of different kinds, share no edge -/
structure CylBlocksDisjoint (S i i' : Nat) : Prop where
  side_side : i ≠ i' → ∀ e ∈ sideE S i, e ∉ sideE S i'
  top_top : i ≠ i' → ∀ e ∈ topE S i, e ∉ topE S i'
  bot_bot : i ≠ i' → ∀ e ∈ botE S i, e ∉ botE S i'
  side_top : ∀ e ∈ sideE S i, e ∉ topE S i'
  side_bot : ∀ e ∈ sideE S i, e ∉ botE S i'
  top_bot : ∀ e ∈ topE S i, e ∉ botE S i'

theorem cyl_block_disj {S i i' : Nat} (hS : 3 ≤ S) (hi : i < S) (hi' : i' < S) : CylBlocksDisjoint S i i' := by
  have := nextCol_cases hi
  have := nextCol_cases hi'
  constructor <;>
  · simp only [sideE, topE, botE, List.mem_cons, List.not_mem_nil, Prod.mk.injEq, not_or, or_false, forall_eq_or_imp,
      forall_eq]
    omega

theorem cylL_nodup {S : Nat} (hS : 3 ≤ S) : (edges (cylL S)).Nodup := by
  rw [edges_cylL, List.nodup_append, List.nodup_append]
  refine ⟨⟨?_, ?_, ?_⟩, ?_, ?_⟩
  · exact nodup_flatMap_range _ _ (fun i hi => sideE_nodup hS hi)
      (fun i hi i' hi' hne => (cyl_block_disj hS hi hi').side_side hne)
  · exact nodup_flatMap_range _ _ (fun i hi => topE_nodup hS hi)
      (fun i hi i' hi' hne => (cyl_block_disj hS hi hi').top_top hne)
  · intro a ha b hb hab
    subst hab
    simp only [List.mem_flatMap, List.mem_range] at ha hb
    obtain ⟨i, hi, hei⟩ := ha
    obtain ⟨i', hi', hei'⟩ := hb
    exact (cyl_block_disj hS hi hi').side_top a hei hei'
  · exact nodup_flatMap_range _ _ (fun k hk => botE_nodup hS (by omega))
      (fun k hk k' hk' hne => (cyl_block_disj hS (by omega) (by omega)).bot_bot (by omega))
  · intro a ha b hb hab
    subst hab
    simp only [List.mem_append, List.mem_flatMap, List.mem_range] at ha hb
    obtain ⟨k, hk, hek⟩ := hb
    rcases ha with ⟨i, hi, hei⟩ | ⟨i, hi, hei⟩
    · exact (cyl_block_disj hS hi (show S - 1 - k < S by omega)).side_bot a hei hek
    · exact (cyl_block_disj hS hi (show S - 1 - k < S by omega)).top_bot a hei hek

theorem range_map_last {β : Type} (S : Nat) (hS : 1 ≤ S) (f g : Nat → β) (last : β)
    (h1 : ∀ i, i < S - 1 → f i = g i) (h2 : last = g (S - 1)) :
    (List.range (S - 1)).map f ++ [last] = (List.range S).map g := by
  obtain ⟨n, rfl⟩ : ∃ n, S = n + 1 := ⟨S - 1, by omega⟩
  simp only [Nat.add_sub_cancel] at *
  rw [List.range_succ, List.map_append, List.map_singleton, h2]
  congr 1
  exact List.map_congr_left fun i hi => h1 i (List.mem_range.1 hi)

theorem cylPt_side {S i : Nat} (hS : 1 ≤ S) (hi : i ≤ S) :
    cylinderPt S (2 * i) = (1, i % S) ∧ cylinderPt S (2 * i + 1) = (2, i % S) := by
  have a1 : 2 * i < 2 * S + 2 := by omega
  have a2 : 2 * i + 1 < 2 * S + 2 := by omega
  have a3 : 2 * i / 2 = i := by omega
  have a4 : (2 * i + 1) / 2 = i := by omega
  have a5 : 2 * i % 2 = 0 := by omega
  have a6 : (2 * i + 1) % 2 = 1 := by omega
  simp only [cylinderPt, a1, a2, a3, a4, a5, a6, if_true, and_self]

theorem cylPt_top {S k : Nat} (hk : k < S) : cylinderPt S (k + cylinderSideNV S) = (1, k) := by
  have a1 : ¬ (k + (S * 2 + 2) < 2 * S + 2) := by omega
  have a2 : k + (S * 2 + 2) < 3 * S + 2 := by omega
  have a3 : k + (S * 2 + 2) - (2 * S + 2) = k := by omega
  simp only [cylinderPt, cylinderSideNV, a1, a2, a3, if_true, if_false]

theorem cylPt_topc (S : Nat) : cylinderPt S (S + cylinderSideNV S) = (0, 0) := by
  have a3 : S + (S * 2 + 2) = 3 * S + 2 := by omega
  have a1 : ¬ (3 * S + 2 < 2 * S + 2) := by omega
  have a2 : ¬ (3 * S + 2 < 3 * S + 2) := by omega
  simp only [cylinderPt, cylinderSideNV, a3, a1, a2, if_true, if_false]

theorem cylPt_bot {S k : Nat} (hk : k < S) :
    cylinderPt S (k + (cylinderSideNV S + circleNV S)) = (2, (S - k) % S) := by
  have a1 : ¬ (k + (S * 2 + 2 + (S + 1)) < 2 * S + 2) := by omega
  have a2 : ¬ (k + (S * 2 + 2 + (S + 1)) < 3 * S + 2) := by omega
  have a3 : ¬ (k + (S * 2 + 2 + (S + 1)) = 3 * S + 2) := by omega
  have a4 : k + (S * 2 + 2 + (S + 1)) < 4 * S + 3 := by omega
  have a5 : k + (S * 2 + 2 + (S + 1)) - (3 * S + 3) = k := by omega
  simp only [cylinderPt, cylinderSideNV, circleNV, a1, a2, a3, a4, a5, if_true, if_false]

theorem cylPt_botc (S : Nat) : cylinderPt S (S + (cylinderSideNV S + circleNV S)) = (3, 0) := by
  have a1 : ¬ (S + (S * 2 + 2 + (S + 1)) < 2 * S + 2) := by omega
  have a2 : ¬ (S + (S * 2 + 2 + (S + 1)) < 3 * S + 2) := by omega
  have a3 : ¬ (S + (S * 2 + 2 + (S + 1)) = 3 * S + 2) := by omega
  have a4 : ¬ (S + (S * 2 + 2 + (S + 1)) < 4 * S + 3) := by omega
  simp only [cylinderPt, cylinderSideNV, circleNV, a1, a2, a3, a4, if_false]

theorem cylinder_map_pt {S : Nat} (hS : 1 ≤ S) :
    (cylinderTris S false false).map (tmap (cylinderPt S)) = cylL S := by
  simp only [cylinderTris, cylL, Bool.false_eq_true, if_false, List.map_append, shift, circleTris, List.map_map,
    List.map_cons, List.map_nil, cylinderSideTris, List.map_flatMap]
  congr 1
  congr 1
  · refine List.flatMap_congr fun i hi => ?_
    have hi := List.mem_range.1 hi
    have e0 := @cylPt_side S i hS (by omega)
    have e1 := @cylPt_side S (i + 1) hS (by omega)
    have m : i % S = i := Nat.mod_eq_of_lt hi
    simp only [tmap, show 2 * i + 2 = 2 * (i + 1) by omega, show 2 * i + 3 = 2 * (i + 1) + 1 by omega, e0.1, e0.2,
      e1.1, e1.2, m]
  · refine range_map_last S hS _ _ _ (fun i hi => ?_) ?_
    · simp only [Function.comp, tmap, cylPt_top (show i < S by omega), cylPt_top (show i + 1 < S by omega), cylPt_topc,
        Nat.mod_eq_of_lt (show i + 1 < S by omega)]
    · simp only [tmap, cylPt_top (show S - 1 < S by omega), cylPt_top (show 0 < S by omega), cylPt_topc,
        show S - 1 + 1 = S by omega, Nat.mod_self]
  · refine range_map_last S hS _ _ _ (fun i hi => ?_) ?_
    · simp only [Function.comp, tmap, cylPt_bot (show i < S by omega), cylPt_bot (show i + 1 < S by omega), cylPt_botc,
        show S - 1 - i + 1 = S - i by omega, show S - (i + 1) = S - 1 - i by omega,
        Nat.mod_eq_of_lt (show S - 1 - i < S by omega)]
    · simp only [tmap, cylPt_bot (show S - 1 < S by omega), cylPt_bot (show 0 < S by omega), cylPt_botc,
        show S - 1 - (S - 1) = 0 by omega, Nat.sub_zero, Nat.mod_self, show S - (S - 1) = 0 + 1 by omega]

/-- the points of the logical capped cylinder are those of the 3-row sphere -/
theorem cylinderPt_valid {S : Nat} (hS : 3 ≤ S) {v : Nat} (hv : v < cylinderNV S false false) :
    UvValid 3 S (cylinderPt S v) := by
  simp only [cylinderNV, cylinderSideNV, circleNV, Bool.false_eq_true, if_false] at hv
  have hm : ∀ x, x % S < S := fun x => Nat.mod_lt _ (by omega)
  unfold cylinderPt UvValid
  split_ifs with h1 h2 h3 h4
  · have := hm (v / 2)
    rcases Nat.mod_two_eq_zero_or_one v with h | h <;> simp [h, this]
  · exact Or.inr (Or.inr ⟨by simp, by simp, by simp only; omega⟩)
  · exact Or.inl rfl
  · exact Or.inr (Or.inr ⟨by simp, by simp, hm _⟩)
  · exact Or.inr (Or.inl rfl)

theorem cylL_tri_valid {S : Nat} (hS : 3 ≤ S) {t : LP × LP × LP} (ht : t ∈ cylL S) :
    UvValid 3 S t.1 ∧ UvValid 3 S t.2.1 ∧ UvValid 3 S t.2.2 := by
  have hm : ∀ x, x % S < S := fun x => Nat.mod_lt _ (by omega)
  rcases mem_cylL.1 ht with ⟨i, hi, rfl | rfl⟩ | ⟨i, hi, rfl⟩ | ⟨i, hi, rfl⟩ <;> simp [UvValid, hm, *]

end PolyVerif.Solids
