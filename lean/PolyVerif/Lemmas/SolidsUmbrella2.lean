/-
  C18 — ONE UMBRELLA PER VERTEX, continued.

  (A) the capped cylinder, for ALL side counts `S ≥ 3`: the logical mesh `cylL S` is the 3-row logical sphere with its lower
      ring turned by one column (the side quads are split along the other diagonal), up to rotation of the triangles, so
      every point has one umbrella because every sphere point has; carried to the form the property uses (the raw triangle
      list mapped to logical points, i.e. "modulo the merge").
      The unwelded sphere mapped to its source vertices is the welded sphere, so it inherits `uvSphere_umbrella`.
  (B) soundness of the executable checker `umbrellaB` / `Umbrella` (Model/SolidsTopo.lean): whenever it accepts, the walk
      it computed is a witness of `UmbrellaCycle`.
-/
import PolyVerif.Lemmas.SolidsUmbrella
import PolyVerif.Model.SolidsTopo
namespace PolyVerif.Solids
open List
set_option linter.unusedSimpArgs false

/-! ### (A) capped cylinder -/

/-- sphere point ↦ cylinder point: ring 2 one column back -/
def cylOfSphere (S : Nat) (p : LP) : LP := if p.1 = 2 then (2, (p.2 + S - 1) % S) else p

/-- cylinder point ↦ sphere point: ring 2 one column on -/
def sphereOfCyl (S : Nat) (p : LP) : LP := if p.1 = 2 then (2, (p.2 + 1) % S) else p

/-- a point of ring 1 or 2 -/
theorem uvValid3_rim {S : Nat} {p : LP} (h : 1 ≤ p.1 ∧ p.1 < 3 ∧ p.2 < S) : ∃ c, c < S ∧ (p = (1, c) ∨ p = (2, c)) := by
  obtain ⟨ρ, c⟩ := p
  obtain ⟨h1, h2, h3⟩ := h
  simp only at h1 h2 h3
  obtain rfl | rfl : ρ = 1 ∨ ρ = 2 := by omega
  exacts [⟨c, h3, Or.inl rfl⟩, ⟨c, h3, Or.inr rfl⟩]

theorem cylOfSphere_sphereOfCyl {S : Nat} {p : LP} (hp : UvValid 3 S p) : cylOfSphere S (sphereOfCyl S p) = p := by
  rcases hp with rfl | rfl | h
  · simp [cylOfSphere, sphereOfCyl]
  · simp [cylOfSphere, sphereOfCyl]
  · obtain ⟨c, hc, rfl | rfl⟩ := uvValid3_rim h <;> simp [cylOfSphere, sphereOfCyl, prevCol_nextCol, *]

theorem sphereOfCyl_cylOfSphere {S : Nat} (hS : 3 ≤ S) {p : LP} (hp : UvValid 3 S p) :
    sphereOfCyl S (cylOfSphere S p) = p := by
  rcases hp with rfl | rfl | h
  · simp [cylOfSphere, sphereOfCyl]
  · simp [cylOfSphere, sphereOfCyl]
  · obtain ⟨c, hc, rfl | rfl⟩ := uvValid3_rim h
    · simp [cylOfSphere, sphereOfCyl]
    · simp [cylOfSphere, sphereOfCyl, (prevCol_spec hc).2]

theorem sphereOfCyl_valid {S : Nat} (hS : 3 ≤ S) {p : LP} (hp : UvValid 3 S p) : UvValid 3 S (sphereOfCyl S p) := by
  have hm : ∀ x, x % S < S := fun x => Nat.mod_lt _ (by omega)
  rcases hp with rfl | rfl | h
  · simp [sphereOfCyl, UvValid]
  · simp [sphereOfCyl, UvValid]
  · obtain ⟨c, hc, rfl | rfl⟩ := uvValid3_rim h <;> simp [sphereOfCyl, UvValid, hm, *]

theorem sphere3_to_cylL {S : Nat} (hS : 3 ≤ S) : ∀ t ∈ sphereL 3 S,
    LinkEdge (cylL S) (cylOfSphere S t.1) (cylOfSphere S t.2.1) (cylOfSphere S t.2.2) := by
  intro t ht
  refine Or.inr (Or.inl (mem_cylL.2 ?_))
  rcases (mem_sphereL_ring (by norm_num)).1 ht with ⟨i, hi, rfl⟩ | ⟨ρ, i, hρ, hi, rfl⟩ | ⟨ρ, i, h1, h2, hi, rfl | rfl⟩
  · exact Or.inr (Or.inl ⟨i, hi, by simp [cylOfSphere]⟩)
  · obtain rfl : ρ = 2 := by omega
    exact Or.inr (Or.inr ⟨_, (prevCol_spec hi).1, by simp [cylOfSphere, prevCol_nextCol hi, (prevCol_spec hi).2]⟩)
  · obtain rfl : ρ = 1 := by omega
    exact Or.inl ⟨i, hi, Or.inl (by simp [cylOfSphere, prevCol_nextCol hi])⟩
  · obtain rfl : ρ = 1 := by omega
    exact Or.inl ⟨_, (prevCol_spec hi).1, Or.inr (by simp [cylOfSphere, prevCol_nextCol hi, (prevCol_spec hi).2])⟩

theorem cylL_to_sphere3 {S : Nat} (hS : 3 ≤ S) : ∀ t ∈ cylL S,
    LinkEdge (sphereL 3 S) (sphereOfCyl S t.1) (sphereOfCyl S t.2.1) (sphereOfCyl S t.2.2) := by
  intro t ht
  have hm : ∀ x, x % S < S := fun x => Nat.mod_lt _ (by omega)
  refine Or.inr (Or.inr ((mem_sphereL_ring (by norm_num)).2 ?_))
  rcases mem_cylL.1 ht with ⟨i, hi, rfl | rfl⟩ | ⟨i, hi, rfl⟩ | ⟨i, hi, rfl⟩
  · exact Or.inr (Or.inr ⟨1, i, le_refl 1, by norm_num, hi, Or.inl (by simp [sphereOfCyl])⟩)
  · exact Or.inr (Or.inr ⟨1, _, le_refl 1, by norm_num, hm (i + 1), Or.inr (by simp [sphereOfCyl])⟩)
  · exact Or.inl ⟨i, hi, by simp [sphereOfCyl]⟩
  · exact Or.inr (Or.inl ⟨2, _, rfl, hm (i + 1), by simp [sphereOfCyl]⟩)

theorem cylL_umbrella {S : Nat} (hS : 3 ≤ S) (p : LP) (hp : UvValid 3 S p) : UmbrellaCycle (cylL S) p := by
  have h := UmbrellaCycle.of_rotIso (cylOfSphere S) (sphereOfCyl S) (sphere3_to_cylL hS) (cylL_to_sphere3 hS)
    (fun t ht => by
      obtain ⟨h1, h2, h3⟩ := cylL_tri_valid hS ht
      exact ⟨cylOfSphere_sphereOfCyl h1, cylOfSphere_sphereOfCyl h2, cylOfSphere_sphereOfCyl h3⟩)
    (fun t ht => by
      obtain ⟨h1, h2, h3⟩ := sphereL_tri_valid (by norm_num) hS ht
      exact ⟨sphereOfCyl_cylOfSphere hS h1, sphereOfCyl_cylOfSphere hS h2, sphereOfCyl_cylOfSphere hS h3⟩)
    (sphereOfCyl_cylOfSphere hS (sphereOfCyl_valid hS hp))
    (sphereL_umbrella (by norm_num) hS _ (sphereOfCyl_valid hS hp))
  rwa [cylOfSphere_sphereOfCyl hp] at h

theorem cylL_noloop {S : Nat} (hS : 3 ≤ S) : ∀ e ∈ edges (cylL S), e.1 ≠ e.2 := by
  rintro ⟨a, b⟩ he (rfl : a = b)
  obtain ⟨c, hc⟩ := mem_edges_iff_linkEdge.1 he
  exact sphereL_noloop (by norm_num) hS _ (mem_edges_iff_linkEdge.2 ⟨_, LinkEdge.map (cylL_to_sphere3 hS) hc⟩) rfl

theorem cylL_closed {S : Nat} (hS : 3 ≤ S) : Closed (cylL S) :=
  ⟨cylL_nodup hS, twin_of_umbrella fun _ ht =>
      have hv := cylL_tri_valid hS ht
      ⟨cylL_umbrella hS _ hv.1, cylL_umbrella hS _ hv.2.1, cylL_umbrella hS _ hv.2.2⟩,
    cylL_noloop hS⟩

/-- **the capped cylinder, modulo the merge of coincident vertices**: in the raw triangle list with every vertex replaced
    by its logical point, every vertex has exactly one umbrella -/
theorem cylinder_umbrella_mod_merge {S : Nat} (hS : 3 ≤ S) {v : Nat} (hv : v < cylinderNV S false false) :
    UmbrellaCycle ((cylinderTris S false false).map (tmap (cylinderPt S))) (cylinderPt S v) := by
  rw [cylinder_map_pt (by omega)]
  exact cylL_umbrella hS _ (cylinderPt_valid hS hv)

/-- **the unwelded sphere, modulo the merge**: with every vertex replaced by its source vertex it is the welded sphere -/
theorem uvSphereUnwelded_umbrella_mod_merge {R C : Nat} (hR : 2 ≤ R) (hC : 3 ≤ C) {v : Nat}
    (hv : v < uvSphereNV R C) :
    UmbrellaCycle ((uvSphereUnweldedTris R C).map (tmap (uvUnweldedSrc R C))) v := by
  rw [uvUnwelded_map_src]
  exact uvSphere_umbrella hR hC hv

/-! ### (B) soundness of the executable checker `umbrellaB` -/

section
variable {β : Type} [DecidableEq β]

theorem mem_linkEdges (ts : List (β × β × β)) (v b c : β) : (b, c) ∈ linkEdges ts v ↔ LinkEdge ts v b c := by
  unfold linkEdges LinkEdge
  rw [List.mem_flatMap]
  constructor
  · rintro ⟨⟨t1, t2, t3⟩, ht, h⟩
    simp only [List.mem_append] at h
    rcases h with (h | h) | h
    · split_ifs at h with he
      · simp only [List.mem_singleton, Prod.mk.injEq] at h
        obtain ⟨rfl, rfl⟩ := h
        subst he
        exact Or.inl ht
      · simp at h
    · split_ifs at h with he
      · simp only [List.mem_singleton, Prod.mk.injEq] at h
        obtain ⟨rfl, rfl⟩ := h
        subst he
        exact Or.inr (Or.inl ht)
      · simp at h
    · split_ifs at h with he
      · simp only [List.mem_singleton, Prod.mk.injEq] at h
        obtain ⟨rfl, rfl⟩ := h
        subst he
        exact Or.inr (Or.inr ht)
      · simp at h
  · rintro (h | h | h)
    · exact ⟨(v, b, c), h, by simp⟩
    · exact ⟨(c, v, b), h, by simp⟩
    · exact ⟨(b, c, v), h, by simp⟩

/-- a successor found by `linkNext` is joined to its predecessor by a link edge -/
theorem linkNext_some {l : List (β × β)} {b c : β} (h : linkNext l b = some c) : (b, c) ∈ l := by
  unfold linkNext at h
  rw [Option.map_eq_some_iff] at h
  obtain ⟨e, he, rfl⟩ := h
  have h1 := List.find?_some he
  have h2 := List.mem_of_find?_eq_some he
  simp only [decide_eq_true_eq] at h1
  subst h1
  exact h2

theorem linkWalk_head {l : List (β × β)} {n : Nat} {b x : β} (h : (linkWalk l n b)[0]? = some x) : x = b := by
  cases n with
  | zero => simp [linkWalk] at h
  | succ n => simpa [linkWalk] using h.symm

theorem linkWalk_step {l : List (β × β)} : ∀ (n : Nat) (b : β) (k : Nat) (x y : β),
    (linkWalk l n b)[k]? = some x → (linkWalk l n b)[k + 1]? = some y → (x, y) ∈ l := by
  intro n
  induction n with
  | zero => intro b k x y h; simp [linkWalk] at h
  | succ n ih =>
    intro b k x y h1 h2
    rw [linkWalk] at h1 h2
    cases hn : linkNext l b with
    | none => rw [hn] at h2; simp at h2
    | some c =>
      rw [hn] at h1 h2
      simp only [List.getElem?_cons_succ] at h2
      cases k with
      | zero =>
        simp only [List.getElem?_cons_zero, Option.some.injEq] at h1
        subst h1
        obtain rfl := linkWalk_head h2
        exact linkNext_some hn
      | succ k =>
        simp only [List.getElem?_cons_succ] at h1
        exact ih c k x y h1 h2

theorem length_cyclicPairs {γ : Type} (w : List γ) : (cyclicPairs w).length = w.length := by
  simp [cyclicPairs]

theorem map_fst_cyclicPairs {γ : Type} (w : List γ) : (cyclicPairs w).map Prod.fst = w := by
  unfold cyclicPairs
  exact List.map_fst_zip (by simp)

/-- **soundness of the executable umbrella check**: whenever `umbrellaB` accepts, the walk it computed is ONE duplicate-free
    cycle of length ≥ 3 whose consecutive pairs are exactly the link edges of `v`.
    (every consecutive pair of the walk and the closing pair is a link edge; the pairs have pairwise distinct first
    components, so they are `|walk| = |link|` distinct link edges, hence all of them) -/
theorem umbrella_sound (ts : List (β × β × β)) (v : β) (h : Umbrella ts v) : UmbrellaCycle ts v := by
  unfold Umbrella umbrellaB at h
  simp only at h
  generalize hl : linkEdges ts v = l at h
  cases hh : l.head? with
  | none => rw [hh] at h; simp at h
  | some e0 =>
    rw [hh] at h
    simp only [Bool.and_eq_true, decide_eq_true_eq, beq_iff_eq] at h
    obtain ⟨⟨⟨⟨h3, hfst⟩, hlen⟩, hnd⟩, hclose⟩ := h
    generalize hw : linkWalk l l.length e0.1 = w at hlen hnd hclose
    rw [Option.bind_eq_some_iff] at hclose
    obtain ⟨last, hlast, hnext⟩ := hclose
    have hcl := linkNext_some hnext
    have hsub : cyclicPairs w ⊆ l := by
      rintro ⟨x, y⟩ hxy
      obtain ⟨k, hk, h1, h2⟩ := mem_cyclicPairs.1 hxy
      by_cases hk1 : k + 1 < w.length
      · rw [Nat.mod_eq_of_lt hk1] at h2
        subst hw
        exact linkWalk_step _ _ k x y h1 h2
      · have hkl : k + 1 = w.length := by omega
        rw [hkl, Nat.mod_self] at h2
        have hy : y = e0.1 := by subst hw; exact linkWalk_head h2
        have hx : x = last := by
          rw [List.getLast?_eq_getElem?, show w.length - 1 = k by omega, h1] at hlast
          exact Option.some.inj hlast
        rw [hx, hy]; exact hcl
    have hndc : (cyclicPairs w).Nodup := by
      apply List.Nodup.of_map Prod.fst
      rw [map_fst_cyclicPairs]; exact hnd
    have hperm : (cyclicPairs w).Perm l :=
      (List.subperm_of_subset hndc hsub).perm_of_length_le (by rw [length_cyclicPairs, hlen])
    refine ⟨w, by omega, hnd, fun b c => ?_⟩
    rw [← mem_linkEdges, hl, hperm.mem_iff]

/-- the decidable vertex-manifold predicate gives an exhibited umbrella at every used vertex -/
theorem vertexManifold_sound (ts : List (β × β × β)) (h : VertexManifold ts) :
    ∀ v ∈ cornersOf ts, UmbrellaCycle ts v := fun v hv => umbrella_sound ts v (h v hv)
end

end PolyVerif.Solids
