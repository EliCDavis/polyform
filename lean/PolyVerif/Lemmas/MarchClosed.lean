/-
  C09 — the surface marching cubes draws over a box of cells is closed.  The table-level facts as the proofs use them;
  the gluing argument (the net flow of directed edges through a cell is a difference of face quantities, which telescopes over
  the box: `box_telescope_aux`, `march_closed_balanced`); no directed edge twice (`box_edges_nodup`), hence
  `march_closed` / `march_closed_exactly_one`; what survives the vertex weld (`weld_preserves_balance`, `march_weld_closed`).
  All in lattice-edge ids and exact arithmetic, for any box, origin and sign pattern with an all-outside boundary layer.
-/
import PolyVerif.Model.March
import PolyVerif.Lemmas.MarchTableFacts
import PolyVerif.Lemmas.MarchCellVolume
import PolyVerif.Gen.MarchInterp
import Mathlib.Topology.Order.IntermediateValue

namespace PolyVerif
namespace C09
open PolyVerif.March PolyVerif.Gen.March

/-! ## Table-level theorems (complete finite tables; kernel-evaluated in `Lemmas/MarchTableFacts.lean`,
    restated here) -/

/-- shapes of the extracted literals: 256 rows of 16; 12 + 12 edge corners, all < 8; 8 corner offsets,
    all in {0,1}³ and pairwise distinct; the offsets used for sample lookup, for vertex positions and for
    the neighbour-block selection are the same list; `lookupIndex` sets bit `i` for corner `i`;
    the triangle loop stops at -1 with stride 3. -/
theorem table_shapes :
    triangulation.length = 256 ∧ triangulation.all (fun r => r.length = 16) = true ∧
    cornerIndexAFromEdge.length = 12 ∧ cornerIndexBFromEdge.length = 12 ∧
    cornerIndexAFromEdge.all (· < 8) = true ∧ cornerIndexBFromEdge.all (· < 8) = true ∧
    cubeDataIndexIncrements.length = 8 ∧
    cubeDataIndexIncrements.all (fun r => r.length = 3 ∧ r.all (fun x => x = 0 ∨ x = 1)) = true ∧
    cubeDataIndexIncrements.Nodup ∧
    cubeCornerPositions = cubeDataIndexIncrements ∧ cubeDataBlockPositions = cubeDataIndexIncrements ∧
    lookupBits = (List.range 8).map (fun i => [Int.ofNat i, Int.ofNat (2 ^ i)]) ∧
    loopTerminator = -1 ∧ loopStride = 3 :=
  Tab.table_shapes

/-- every triangle vertex lies on a cube edge whose two corners have different inside/outside bits -/
theorem table_edges_cross : ∀ b0 b1 b2 b3 b4 b5 b6 b7 : Bool,
    (caseTris (caseIndex (bits8 b0 b1 b2 b3 b4 b5 b6 b7))).all (fun t =>
      [t.1, t.2.1, t.2.2].all fun e =>
        (bits8 b0 b1 b2 b3 b4 b5 b6 b7).getD (cA e) false != (bits8 b0 b1 b2 b3 b4 b5 b6 b7).getD (cB e) false) = true :=
  Tab.table_edges_cross

/-- no triangle uses one cube edge twice -/
theorem table_nondegenerate :
    (List.range 256).all (fun c => (caseTris c).all fun t => t.1 != t.2.1 && t.2.1 != t.2.2 && t.2.2 != t.1) = true :=
  Tab.table_nondegenerate

/-- within each case every directed triangle edge not lying in a cube face is matched by its reverse
    (and by `table_no_duplicate_edge`, exactly once) -/
theorem table_interior_balanced :
    (List.range 256).all (fun c => balancedB (interiorSegs c)) = true :=
  Tab.table_interior_balanced

/-- canonical-face form: on its high face perpendicular to `a` a case draws exactly `canon a (bits of that face)`
    and on its low face exactly the reverses of `canon a (bits of that face)` -/
theorem table_face_canonical : ∀ b0 b1 b2 b3 b4 b5 b6 b7 : Bool,
    (List.range 3).all (fun a =>
      let bits := bits8 b0 b1 b2 b3 b4 b5 b6 b7
      (faceSegs (caseIndex bits) a 1).isPerm ((canon a (faceBits bits a 1)).map (shiftE (unit a))) &&
      (faceSegs (caseIndex bits) a 0).isPerm ((canon a (faceBits bits a 0)).map swapE)) = true :=
  Tab.table_face_canonical

/-- two cases that agree on the four shared corner bits draw opposite segments on the shared face -/
theorem table_face_consistent (a : Nat) (ha : a < 3) (b0 b1 b2 b3 b4 b5 b6 b7 c0 c1 c2 c3 c4 c5 c6 c7 : Bool)
    (h : faceBits (bits8 b0 b1 b2 b3 b4 b5 b6 b7) a 1 = faceBits (bits8 c0 c1 c2 c3 c4 c5 c6 c7) a 0) :
    (faceSegs (caseIndex (bits8 b0 b1 b2 b3 b4 b5 b6 b7)) a 1).Perm
      (((faceSegs (caseIndex (bits8 c0 c1 c2 c3 c4 c5 c6 c7)) a 0).map swapE).map (shiftE (unit a))) := by
  have hb := table_face_canonical b0 b1 b2 b3 b4 b5 b6 b7
  have hc := table_face_canonical c0 c1 c2 c3 c4 c5 c6 c7
  rw [List.all_eq_true] at hb hc
  have hb' := hb a (List.mem_range.mpr ha)
  have hc' := hc a (List.mem_range.mpr ha)
  simp only [Bool.and_eq_true, List.isPerm_iff] at hb' hc'
  refine hb'.1.trans ?_
  rw [h]
  have h2 : ((faceSegs (caseIndex (bits8 c0 c1 c2 c3 c4 c5 c6 c7)) a 0).map swapE).Perm
      (((canon a (faceBits (bits8 c0 c1 c2 c3 c4 c5 c6 c7) a 0)).map swapE).map swapE) := hc'.2.map swapE
  have h3 : ((canon a (faceBits (bits8 c0 c1 c2 c3 c4 c5 c6 c7) a 0)).map swapE).map swapE
      = canon a (faceBits (bits8 c0 c1 c2 c3 c4 c5 c6 c7) a 0) := by
    rw [List.map_map]; conv_rhs => rw [← List.map_id (canon a _)]
    congr 1
  rw [h3] at h2
  exact (h2.map (shiftE (unit a))).symm

/-- the cube-edge indices of a table triangle are < 12: beyond the edge tables both corner lookups give the default corner,
    which cannot differ in sign (`table_edges_cross`) -/
theorem table_tri_edges_lt (b0 b1 b2 b3 b4 b5 b6 b7 : Bool) :
    (caseTris (caseIndex (bits8 b0 b1 b2 b3 b4 b5 b6 b7))).all (fun t => decide (t.1 < 12 ∧ t.2.1 < 12 ∧ t.2.2 < 12)) = true := by
  have hx := table_edges_cross b0 b1 b2 b3 b4 b5 b6 b7
  rw [List.all_eq_true] at hx ⊢
  intro t ht
  have key : ∀ e ∈ [t.1, t.2.1, t.2.2], e < 12 := by
    intro e he
    by_contra h12
    have hA : cA e = 0 := by
      rw [cA, List.getD_eq_getElem?_getD, List.getElem?_eq_none (by rw [table_shapes.2.2.1]; omega)]; rfl
    have hB : cB e = 0 := by
      rw [cB, List.getD_eq_getElem?_getD, List.getElem?_eq_none (by rw [table_shapes.2.2.2.1]; omega)]; rfl
    simpa [hA, hB] using List.all_eq_true.mp (hx t ht) e he
  exact decide_eq_true ⟨key _ (by simp), key _ (by simp), key _ (by simp)⟩

/-- a relative lattice edge of the unit cube -/
def okRel (l : LEdge) : Bool :=
  decide (0 ≤ l.1.1 ∧ l.1.1 ≤ 1 ∧ 0 ≤ l.1.2.1 ∧ l.1.2.1 ≤ 1 ∧ 0 ≤ l.1.2.2 ∧ l.1.2.2 ≤ 1 ∧ l.2 < 3 ∧ coord l.2 l.1 = 0)

/-- the twelve cube edges lie on twelve different lattice edges of the unit cell -/
theorem edgeRel_facts_aux : ∀ e, e < 12 → okRel (edgeRel e) = true ∧ ∀ e', e' < 12 → edgeRel e = edgeRel e' → e = e' := by
  decide

theorem caseIndex_lt_aux (b0 b1 b2 b3 b4 b5 b6 b7 : Bool) : caseIndex (bits8 b0 b1 b2 b3 b4 b5 b6 b7) < 256 := by
  rw [table_caseIndex]
  have := Bool.toNat_le b0; have := Bool.toNat_le b1; have := Bool.toNat_le b2; have := Bool.toNat_le b3
  have := Bool.toNat_le b4; have := Bool.toNat_le b5; have := Bool.toNat_le b6; have := Bool.toNat_le b7
  omega

/-- the directed edges a case draws join two different cube edges with indices below 12 -/
theorem caseSegs_mem_aux (b0 b1 b2 b3 b4 b5 b6 b7 : Bool) (e : Nat × Nat)
    (he : e ∈ caseSegs (caseIndex (bits8 b0 b1 b2 b3 b4 b5 b6 b7))) : e.1 < 12 ∧ e.2 < 12 ∧ e.1 ≠ e.2 := by
  obtain ⟨t, ht, het⟩ := List.mem_flatMap.mp he
  have hl := List.all_eq_true.mp (table_tri_edges_lt b0 b1 b2 b3 b4 b5 b6 b7) t ht
  have hn := List.all_eq_true.mp (List.all_eq_true.mp table_nondegenerate _
    (List.mem_range.mpr (caseIndex_lt_aux b0 b1 b2 b3 b4 b5 b6 b7))) t ht
  simp only [decide_eq_true_eq] at hl
  simp only [Bool.and_eq_true, bne_iff_ne, ne_eq] at hn
  simp only [triEdges, List.mem_cons, List.not_mem_nil, or_false] at het
  rcases het with rfl | rfl | rfl
  · exact ⟨hl.1, hl.2.1, hn.1.1⟩
  · exact ⟨hl.2.1, hl.2.2, hn.1.2⟩
  · exact ⟨hl.2.2, hl.1, hn.2⟩

/-- in lattice-edge ids, too, no case draws the same directed edge twice -/
theorem table_case_edges_nodup (b0 b1 b2 b3 b4 b5 b6 b7 : Bool) :
    decide ((caseSegsRel (caseIndex (bits8 b0 b1 b2 b3 b4 b5 b6 b7))).Nodup) = true := by
  have hn := of_decide_eq_true (List.all_eq_true.mp table_no_duplicate_edge _
    (List.mem_range.mpr (caseIndex_lt_aux b0 b1 b2 b3 b4 b5 b6 b7)))
  refine decide_eq_true (List.Nodup.map_on (fun x hx y hy h => ?_) hn)
  obtain ⟨x1, x2, _⟩ := caseSegs_mem_aux _ _ _ _ _ _ _ _ x hx
  obtain ⟨y1, y2, _⟩ := caseSegs_mem_aux _ _ _ _ _ _ _ _ y hy
  rw [Prod.mk.injEq] at h
  exact Prod.ext ((edgeRel_facts_aux _ x1).2 _ y1 h.1) ((edgeRel_facts_aux _ x2).2 _ y2 h.2)

theorem table_segs_unit (b0 b1 b2 b3 b4 b5 b6 b7 : Bool) :
    (caseSegsRel (caseIndex (bits8 b0 b1 b2 b3 b4 b5 b6 b7))).all (fun e => okRel e.1 && okRel e.2 && e.1 != e.2) = true := by
  rw [List.all_eq_true]
  intro e he
  obtain ⟨x, hx, rfl⟩ := List.mem_map.mp he
  obtain ⟨x1, x2, hne⟩ := caseSegs_mem_aux _ _ _ _ _ _ _ _ x hx
  simp only [Bool.and_eq_true, bne_iff_ne, ne_eq]
  exact ⟨⟨(edgeRel_facts_aux _ x1).1, (edgeRel_facts_aux _ x2).1⟩, fun h => hne ((edgeRel_facts_aux _ x1).2 _ x2 h)⟩


/-! ## Gluing: the surface of an arbitrary box of cells is closed (balanced) -/

/-- balance survives any relabelling of the vertices (injective or not) -/
theorem Balanced.map_aux {V W : Type} [DecidableEq V] [DecidableEq W] {L : List (V × V)} (h : Balanced L) (f : V → W) :
    Balanced (L.map fun e => (f e.1, f e.2)) := by
  rw [balanced_iff_perm] at h ⊢
  simpa [List.map_map, Function.comp_def, swapE] using h.map (fun e : V × V => (f e.1, f e.2))

/-- net flow of a list of directed edges through the pair `(u, v)` -/
def fl {V : Type} [DecidableEq V] (u v : V) (L : List (V × V)) : ℤ := (L.count (u, v) : ℤ) - (L.count (v, u) : ℤ)

section flgen
variable {V : Type} [DecidableEq V] (u v : V)
theorem fl_nil_aux : fl u v [] = 0 := by simp [fl]
theorem fl_append_aux (L M : List (V × V)) : fl u v (L ++ M) = fl u v L + fl u v M := by
  simp [fl, List.count_append]; ring
theorem fl_swap_aux (L : List (V × V)) : fl u v (L.map swapE) = - fl u v L := by
  unfold fl; rw [count_map_swap_aux, count_map_swap_aux]; ring
theorem fl_balanced_aux {L : List (V × V)} (h : Balanced L) : fl u v L = 0 := by
  unfold fl; rw [h u v]; ring
theorem balanced_of_fl_aux {L : List (V × V)} (h : ∀ u v, fl u v L = 0) : Balanced L := by
  intro u v; have := h u v; unfold fl at this; omega
end flgen

section glue
variable (s : Pt → Bool) (u v : LEdge)

/-- the four sign bits of the lattice face perpendicular to `a` with lower corner `q` -/
def latticeFaceBits (q : Pt) (a : Nat) : List Bool := planePts.map fun uv => s (padd q (embed a 0 uv))

/-- flow of the canonical segments of that lattice face -/
def faceFlow (a : Nat) (q : Pt) : ℤ := fl u v ((canon a (latticeFaceBits s q a)).map (shiftE q))

theorem faceBits_low_aux (p : Pt) (a : Nat) (ha : a < 3) :
    faceBits (cellBits s p) a 0 = latticeFaceBits s p a := by
  interval_cases a <;> rfl

theorem padd_assoc_aux (p q r : Pt) : padd (padd p q) r = padd p (padd q r) := by
  simp [padd, add_assoc]

theorem faceBits_high_aux (p : Pt) (a : Nat) (ha : a < 3) :
    faceBits (cellBits s p) a 1 = latticeFaceBits s (padd p (unit a)) a := by
  interval_cases a <;>
    simp only [latticeFaceBits, planePts, List.map, padd_assoc_aux] <;> rfl

theorem shiftE_shiftE_aux (p q : Pt) (L : List DEdge) : (L.map (shiftE q)).map (shiftE p) = L.map (shiftE (padd p q)) := by
  rw [List.map_map]; congr 1; funext e
  simp [shiftE, shiftL, padd_assoc_aux]

theorem shiftE_swap_aux (p : Pt) (L : List DEdge) : (L.map swapE).map (shiftE p) = (L.map (shiftE p)).map swapE := by
  rw [List.map_map, List.map_map]; congr 1

/-- discrete divergence form of one cell: its net flow is the sum over the three axes of
    (canonical flow of its high face) − (canonical flow of its low face) -/
theorem cell_flow_aux (p : Pt) :
    fl u v (cellEdges s p) =
      (faceFlow s u v 0 (padd p (unit 0)) - faceFlow s u v 0 p) + (faceFlow s u v 1 (padd p (unit 1)) - faceFlow s u v 1 p)
        + (faceFlow s u v 2 (padd p (unit 2)) - faceFlow s u v 2 p) := by
  have hb := cancels_sound _ _ (table_cell_flow (s (padd p (cornerOff 0))) (s (padd p (cornerOff 1)))
    (s (padd p (cornerOff 2))) (s (padd p (cornerOff 3))) (s (padd p (cornerOff 4))) (s (padd p (cornerOff 5)))
    (s (padd p (cornerOff 6))) (s (padd p (cornerOff 7))))
  have hm := fl_balanced_aux u v (hb.map_aux (shiftL p))
  change fl u v ((flowList (cellBits s p)).map (shiftE p)) = 0 at hm
  unfold flowList at hm
  simp only [List.map_append, fl_append_aux, shiftE_swap_aux, fl_swap_aux, shiftE_shiftE_aux,
    faceBits_low_aux s p _ (by decide : (0:Nat) < 3), faceBits_low_aux s p _ (by decide : (1:Nat) < 3),
    faceBits_low_aux s p _ (by decide : (2:Nat) < 3), faceBits_high_aux s p _ (by decide : (0:Nat) < 3),
    faceBits_high_aux s p _ (by decide : (1:Nat) < 3), faceBits_high_aux s p _ (by decide : (2:Nat) < 3)] at hm
  simp only [faceFlow, cellEdges]
  linarith


/-- the sign pattern is all-outside on the boundary layer of the closed box of lattice points
    `[o, o + (nx, ny, nz)]` -/
def BoundaryOutside (o : Pt) (nx ny nz : Nat) : Prop :=
  ∀ q : Pt, o.1 ≤ q.1 → q.1 ≤ o.1 + nx → o.2.1 ≤ q.2.1 → q.2.1 ≤ o.2.1 + ny → o.2.2 ≤ q.2.2 → q.2.2 ≤ o.2.2 + nz →
    (q.1 = o.1 ∨ q.1 = o.1 + nx ∨ q.2.1 = o.2.1 ∨ q.2.1 = o.2.1 + ny ∨ q.2.2 = o.2.2 ∨ q.2.2 = o.2.2 + nz) →
    s q = false

/-- origin of cell `(i, j, k)` of the box -/
def cellAt (o : Pt) (i j k : Nat) : Pt := padd o (Int.ofNat i, Int.ofNat j, Int.ofNat k)

theorem fl_flatMap_range_aux {V : Type} [DecidableEq V] (a b : V) (n : Nat) (f : Nat → List (V × V)) :
    fl a b ((List.range n).flatMap f) = ∑ i ∈ Finset.range n, fl a b (f i) := by
  induction n with
  | zero => simp [fl]
  | succ n ih =>
    rw [List.range_succ, List.flatMap_append, fl_append_aux, ih, Finset.sum_range_succ]
    simp

theorem boxEdges_eq_aux (o : Pt) (nx ny nz : Nat) :
    boxEdges s o nx ny nz =
      (List.range nx).flatMap fun i => (List.range ny).flatMap fun j => (List.range nz).flatMap fun k =>
        cellEdges s (cellAt o i j k) := by
  simp only [boxEdges, boxCells, List.flatMap_assoc, List.flatMap_map, cellAt]

theorem fl_box_aux (o : Pt) (nx ny nz : Nat) :
    fl u v (boxEdges s o nx ny nz) =
      ∑ i ∈ Finset.range nx, ∑ j ∈ Finset.range ny, ∑ k ∈ Finset.range nz, fl u v (cellEdges s (cellAt o i j k)) := by
  rw [boxEdges_eq_aux, fl_flatMap_range_aux]
  refine Finset.sum_congr rfl fun i _ => ?_
  rw [fl_flatMap_range_aux]
  refine Finset.sum_congr rfl fun j _ => ?_
  rw [fl_flatMap_range_aux]

theorem cellAt_succ0_aux (o : Pt) (i j k : Nat) : padd (cellAt o i j k) (unit 0) = cellAt o (i+1) j k := by
  simp [cellAt, padd, unit]; omega
theorem cellAt_succ1_aux (o : Pt) (i j k : Nat) : padd (cellAt o i j k) (unit 1) = cellAt o i (j+1) k := by
  simp [cellAt, padd, unit]; omega
theorem cellAt_succ2_aux (o : Pt) (i j k : Nat) : padd (cellAt o i j k) (unit 2) = cellAt o i j (k+1) := by
  simp [cellAt, padd, unit]; omega

theorem faceFlow_zero_aux (a : Nat) (ha : a < 3) (q : Pt)
    (h : latticeFaceBits s q a = [false, false, false, false]) : faceFlow s u v a q = 0 := by
  have hc := table_canon_empty
  unfold faceFlow; rw [h]
  interval_cases a
  · rw [hc.1]; simp [fl]
  · rw [hc.2.1]; simp [fl]
  · rw [hc.2.2]; simp [fl]


variable {s}

theorem lfb0_boundary_aux {o : Pt} {nx ny nz : Nat} (hbd : BoundaryOutside s o nx ny nz) (i j k : Nat)
    (hi : i = 0 ∨ i = nx) (hj : j < ny) (hk : k < nz) :
    latticeFaceBits s (cellAt o i j k) 0 = [false, false, false, false] := by
  simp only [latticeFaceBits, planePts, List.map, embed, cellAt, padd]
  simp only [List.cons.injEq, and_true]
  refine ⟨?_, ?_, ?_, ?_⟩ <;> (apply hbd <;> simp <;> omega)

theorem lfb1_boundary_aux {o : Pt} {nx ny nz : Nat} (hbd : BoundaryOutside s o nx ny nz) (i j k : Nat)
    (hi : i < nx) (hj : j = 0 ∨ j = ny) (hk : k < nz) :
    latticeFaceBits s (cellAt o i j k) 1 = [false, false, false, false] := by
  simp only [latticeFaceBits, planePts, List.map, embed, cellAt, padd]
  simp only [List.cons.injEq, and_true]
  refine ⟨?_, ?_, ?_, ?_⟩ <;> (apply hbd <;> simp <;> omega)

theorem lfb2_boundary_aux {o : Pt} {nx ny nz : Nat} (hbd : BoundaryOutside s o nx ny nz) (i j k : Nat)
    (hi : i < nx) (hj : j < ny) (hk : k = 0 ∨ k = nz) :
    latticeFaceBits s (cellAt o i j k) 2 = [false, false, false, false] := by
  simp only [latticeFaceBits, planePts, List.map, embed, cellAt, padd]
  simp only [List.cons.injEq, and_true]
  refine ⟨?_, ?_, ?_, ?_⟩ <;> (apply hbd <;> simp <;> omega)

/-- **Discrete divergence over a box.**  `Q a q` is a quantity of the lattice face ⟂`a` with lower corner `q` that vanishes on
    all-outside faces.  Summed over the cells of a box with outside boundary layer, the differences between each cell's high
    and low faces telescope along every axis and nothing is left on the boundary. -/
theorem box_telescope_aux {M : Type} [AddCommGroup M] (Q : Nat → Pt → M)
    (hQ : ∀ a, a < 3 → ∀ q, latticeFaceBits s q a = [false, false, false, false] → Q a q = 0)
    {o : Pt} {nx ny nz : Nat} (hbd : BoundaryOutside s o nx ny nz) :
    ∑ i ∈ Finset.range nx, ∑ j ∈ Finset.range ny, ∑ k ∈ Finset.range nz,
      ((Q 0 (padd (cellAt o i j k) (unit 0)) - Q 0 (cellAt o i j k))
        + (Q 1 (padd (cellAt o i j k) (unit 1)) - Q 1 (cellAt o i j k))
        + (Q 2 (padd (cellAt o i j k) (unit 2)) - Q 2 (cellAt o i j k))) = 0 := by
  simp only [cellAt_succ0_aux, cellAt_succ1_aux, cellAt_succ2_aux, Finset.sum_add_distrib]
  have h0 : ∑ i ∈ Finset.range nx, ∑ j ∈ Finset.range ny, ∑ k ∈ Finset.range nz,
      (Q 0 (cellAt o (i+1) j k) - Q 0 (cellAt o i j k)) = 0 := by
    rw [Finset.sum_comm]
    refine Finset.sum_eq_zero fun j hj => ?_
    rw [Finset.sum_comm]
    refine Finset.sum_eq_zero fun k hk => ?_
    rw [Finset.sum_range_sub (fun i => Q 0 (cellAt o i j k)),
      hQ 0 (by decide) _ (lfb0_boundary_aux hbd nx j k (Or.inr rfl) (Finset.mem_range.mp hj) (Finset.mem_range.mp hk)),
      hQ 0 (by decide) _ (lfb0_boundary_aux hbd 0 j k (Or.inl rfl) (Finset.mem_range.mp hj) (Finset.mem_range.mp hk)), sub_zero]
  have h1 : ∑ i ∈ Finset.range nx, ∑ j ∈ Finset.range ny, ∑ k ∈ Finset.range nz,
      (Q 1 (cellAt o i (j+1) k) - Q 1 (cellAt o i j k)) = 0 := by
    refine Finset.sum_eq_zero fun i hi => ?_
    rw [Finset.sum_comm]
    refine Finset.sum_eq_zero fun k hk => ?_
    rw [Finset.sum_range_sub (fun j => Q 1 (cellAt o i j k)),
      hQ 1 (by decide) _ (lfb1_boundary_aux hbd i ny k (Finset.mem_range.mp hi) (Or.inr rfl) (Finset.mem_range.mp hk)),
      hQ 1 (by decide) _ (lfb1_boundary_aux hbd i 0 k (Finset.mem_range.mp hi) (Or.inl rfl) (Finset.mem_range.mp hk)), sub_zero]
  have h2 : ∑ i ∈ Finset.range nx, ∑ j ∈ Finset.range ny, ∑ k ∈ Finset.range nz,
      (Q 2 (cellAt o i j (k+1)) - Q 2 (cellAt o i j k)) = 0 := by
    refine Finset.sum_eq_zero fun i hi => ?_
    refine Finset.sum_eq_zero fun j hj => ?_
    rw [Finset.sum_range_sub (fun k => Q 2 (cellAt o i j k)),
      hQ 2 (by decide) _ (lfb2_boundary_aux hbd i j nz (Finset.mem_range.mp hi) (Finset.mem_range.mp hj) (Or.inr rfl)),
      hQ 2 (by decide) _ (lfb2_boundary_aux hbd i j 0 (Finset.mem_range.mp hi) (Finset.mem_range.mp hj) (Or.inl rfl)), sub_zero]
  rw [h0, h1, h2]; simp

/-- net flow through any pair of lattice edges over the whole box is zero -/
theorem fl_box_zero_aux {o : Pt} {nx ny nz : Nat} (hbd : BoundaryOutside s o nx ny nz) :
    fl u v (boxEdges s o nx ny nz) = 0 := by
  rw [fl_box_aux]
  simp only [cell_flow_aux]
  exact box_telescope_aux (faceFlow s u v) (faceFlow_zero_aux s u v) hbd

end glue

/-- **Gluing theorem.**  For every box of cells (any origin — also negative —, any size) and every sign
    pattern that is all-outside on the boundary layer of the box, the directed triangle edges produced by
    the table, in lattice-edge ids, are balanced: every directed edge `u → v` occurs exactly as often as its
    reverse `v → u`.  Unbounded in box size and in the sign pattern; uses the table only through
    `table_cell_flow` and `table_canon_empty`. -/
theorem march_closed_balanced (s : Pt → Bool) (o : Pt) (nx ny nz : Nat) (hbd : BoundaryOutside s o nx ny nz) :
    Balanced (boxEdges s o nx ny nz) :=
  balanced_of_fl_aux fun u v => fl_box_zero_aux u v hbd

/-- non-vacuity: one inside sample at (-1,-1,-1) in the 2×2×2 box at (-2,-2,-2) — the hypothesis holds and the
    surface is the octahedron (8 triangles, 24 directed edges) -/
example : BoundaryOutside (fun q => decide (q = ((-1 : Int), (-1 : Int), (-1 : Int)))) (-2, -2, -2) 2 2 2 ∧
    (boxEdges (fun q => decide (q = ((-1 : Int), (-1 : Int), (-1 : Int)))) (-2, -2, -2) 2 2 2).length = 24 := by
  refine ⟨?_, by decide⟩
  intro q h1 h2 h3 h4 h5 h6 hb
  simp only [decide_eq_false_iff_not]
  rintro rfl
  simp at hb

/-! ## One-face gluing, no duplicates inside a cell, and the full statement -/

theorem shiftL_injective_aux (p : Pt) : Function.Injective (shiftL p) := by
  intro a b h
  obtain ⟨⟨a1, a2, a3⟩, ak⟩ := a; obtain ⟨⟨b1, b2, b3⟩, bk⟩ := b
  simp only [shiftL, padd, Prod.mk.injEq] at h
  obtain ⟨⟨h1, h2, h3⟩, h4⟩ := h
  simp only [Prod.mk.injEq]; refine ⟨⟨?_, ?_, ?_⟩, h4⟩ <;> omega

theorem shiftE_injective_aux (p : Pt) : Function.Injective (shiftE p) := by
  intro a b h
  obtain ⟨a1, a2⟩ := a; obtain ⟨b1, b2⟩ := b
  simp only [shiftE, Prod.mk.injEq] at h
  rw [shiftL_injective_aux p h.1, shiftL_injective_aux p h.2]

/-- inside one cell no directed edge (in lattice-edge ids) is emitted twice -/
theorem cell_edges_nodup (s : Pt → Bool) (p : Pt) : (cellEdges s p).Nodup := by
  unfold cellEdges
  exact (of_decide_eq_true (table_case_edges_nodup _ _ _ _ _ _ _ _)).map (shiftE_injective_aux p)

/-- what a cell draws on its two faces ⟂`a`, in terms of the lattice faces: the canonical segments of the face's sign bits,
    moved up by one cell on the high face, reversed on the low face -/
theorem cell_face_canon_aux (s : Pt → Bool) (p : Pt) (a : Nat) (ha : a < 3) :
    (faceSegs (caseIndex (cellBits s p)) a 1).Perm
      ((canon a (latticeFaceBits s (padd p (unit a)) a)).map (shiftE (unit a))) ∧
    (faceSegs (caseIndex (cellBits s p)) a 0).Perm ((canon a (latticeFaceBits s p a)).map swapE) := by
  have h := List.all_eq_true.mp (table_face_canonical (s (padd p (cornerOff 0))) (s (padd p (cornerOff 1)))
    (s (padd p (cornerOff 2))) (s (padd p (cornerOff 3))) (s (padd p (cornerOff 4))) (s (padd p (cornerOff 5)))
    (s (padd p (cornerOff 6))) (s (padd p (cornerOff 7)))) a (List.mem_range.mpr ha)
  simp only [Bool.and_eq_true, List.isPerm_iff] at h
  change (faceSegs (caseIndex (cellBits s p)) a 1).Perm ((canon a (faceBits (cellBits s p) a 1)).map _) ∧
    (faceSegs (caseIndex (cellBits s p)) a 0).Perm ((canon a (faceBits (cellBits s p) a 0)).map _) at h
  rwa [faceBits_high_aux s p a ha, faceBits_low_aux s p a ha] at h

/-- **One-face gluing.**  In any sign grid, the cell at `p` and its neighbour at `p + e_a` draw opposite segments on
    the face they share (in lattice-edge ids): the segments of `p` on its high face are exactly the reverses of the
    segments of `p + e_a` on its low face. -/
theorem cells_glue_face (s : Pt → Bool) (p : Pt) (a : Nat) (ha : a < 3) :
    ((faceSegs (caseIndex (cellBits s p)) a 1).map (shiftE p)).Perm
      (((faceSegs (caseIndex (cellBits s (padd p (unit a)))) a 0).map (shiftE (padd p (unit a)))).map swapE) := by
  have h1' := cell_face_canon_aux s p a ha
  have h2' := cell_face_canon_aux s (padd p (unit a)) a ha
  have l := h1'.1.map (shiftE p)
  rw [shiftE_shiftE_aux] at l
  have r := ((h2'.2.map (shiftE (padd p (unit a)))).map swapE)
  rw [shiftE_swap_aux, List.map_map (f := swapE) (g := swapE)] at r
  have hid : (swapE ∘ swapE : DEdge → DEdge) = id := by funext e; rfl
  rw [hid, List.map_id] at r
  exact l.trans r.symm

/-! ### at most once: no directed edge is emitted twice -/

def cubeEdges : List LEdge := (List.range 12).map edgeRel
def steps : List Pt :=
  [(-1:Int), 0, 1].flatMap fun x => [(-1:Int), 0, 1].flatMap fun y => [(-1:Int), 0, 1].map fun z => (x, y, z)

/-- geometry of the unit lattice, by enumeration: if two distinct lattice edges of a cell are also (after the shift `d ≠ 0`)
    two lattice edges of the neighbouring cell, the cells share a face that contains both -/
theorem table_shared_edges :
    steps.all (fun d => d = (0, 0, 0) || cubeEdges.all fun r1' => cubeEdges.all fun r2' =>
      let r1 := shiftL d r1'; let r2 := shiftL d r2'
      !(okRel r1 && okRel r2 && r1 != r2) ||
      (List.range 3).any fun a =>
        (d = unit a && onFace a 1 r1 && onFace a 1 r2 && onFace a 0 r1' && onFace a 0 r2') ||
        (d = negUnit a && onFace a 0 r1 && onFace a 0 r2 && onFace a 1 r1' && onFace a 1 r2')) = true := by
  decide +kernel


theorem idx4_lt_aux (K : List Bool) : idx4 K < 16 := by unfold idx4; split_ifs <;> omega

theorem canon_bits4_aux (a : Nat) (K : List Bool) : canon a K = canon a (bits4 (idx4 K)) := by
  have h : ∀ k, k < 16 → idx4 (bits4 k) = k := by decide
  unfold canon; rw [h _ (idx4_lt_aux K)]

theorem canon_no_antiparallel_aux (a : Nat) (ha : a < 3) (K : List Bool) (e : DEdge) (h1 : e ∈ canon a K)
    (h2 : swapE e ∈ canon a K) : False := by
  rw [canon_bits4_aux] at h1 h2
  have h := table_canon_no_antiparallel
  rw [List.all_eq_true] at h
  have h' := h a (List.mem_range.mpr ha)
  rw [List.all_eq_true] at h'
  have h'' := h' _ (List.mem_range.mpr (idx4_lt_aux K))
  rw [List.all_eq_true] at h''
  have := h'' e h1
  simp at this
  exact this h2

theorem segs_ok_aux (s : Pt → Bool) (p : Pt) (e : DEdge) (h : e ∈ caseSegsRel (caseIndex (cellBits s p))) :
    okRel e.1 = true ∧ okRel e.2 = true ∧ e.1 ≠ e.2 := by
  have := table_segs_unit (s (padd p (cornerOff 0))) (s (padd p (cornerOff 1))) (s (padd p (cornerOff 2)))
    (s (padd p (cornerOff 3))) (s (padd p (cornerOff 4))) (s (padd p (cornerOff 5))) (s (padd p (cornerOff 6)))
    (s (padd p (cornerOff 7)))
  rw [List.all_eq_true] at this
  have := this e h
  simpa [and_assoc] using this

/-- two face-adjacent cells never emit the same directed edge -/
theorem adjacent_disjoint_aux (s : Pt → Bool) (p : Pt) (a : Nat) (ha : a < 3) (r r' : DEdge)
    (hr : r ∈ caseSegsRel (caseIndex (cellBits s p)))
    (hr' : r' ∈ caseSegsRel (caseIndex (cellBits s (padd p (unit a)))))
    (hf1 : (onFace a 1 r.1 && onFace a 1 r.2) = true) (hf0 : (onFace a 0 r'.1 && onFace a 0 r'.2) = true)
    (heq : r = shiftE (unit a) r') : False := by
  have h1' := cell_face_canon_aux s p a ha
  have h2' := cell_face_canon_aux s (padd p (unit a)) a ha
  have m1 : r ∈ faceSegs (caseIndex (cellBits s p)) a 1 := List.mem_filter.mpr ⟨hr, hf1⟩
  have m2 : r' ∈ faceSegs (caseIndex (cellBits s (padd p (unit a)))) a 0 := List.mem_filter.mpr ⟨hr', hf0⟩
  have m1' := h1'.1.mem_iff.mp m1
  have m2' := h2'.2.mem_iff.mp m2
  obtain ⟨x, hx, hxr⟩ := List.mem_map.mp m1'
  obtain ⟨y, hy, hyr⟩ := List.mem_map.mp m2'
  have : x = swapE y := by
    apply shiftE_injective_aux (unit a)
    rw [hxr, heq, ← hyr]
  rw [this] at hx
  exact canon_no_antiparallel_aux a ha _ y hy hx

theorem okRel_mem_cubeEdges_aux (l : LEdge) (h : okRel l = true) : l ∈ cubeEdges := by
  obtain ⟨⟨x, y, z⟩, k⟩ := l
  simp only [okRel, decide_eq_true_eq] at h
  obtain ⟨h1, h2, h3, h4, h5, h6, h7, h8⟩ := h
  interval_cases x <;> interval_cases y <;> interval_cases z <;> interval_cases k <;>
    first | decide +kernel | (exfalso; revert h8; decide)

theorem steps_mem_aux (d : Pt) (h1 : -1 ≤ d.1 ∧ d.1 ≤ 1) (h2 : -1 ≤ d.2.1 ∧ d.2.1 ≤ 1) (h3 : -1 ≤ d.2.2 ∧ d.2.2 ≤ 1) :
    d ∈ steps := by
  obtain ⟨x, y, z⟩ := d
  obtain ⟨a1, a2⟩ := h1; obtain ⟨b1, b2⟩ := h2; obtain ⟨c1, c2⟩ := h3
  simp only at a1 a2 b1 b2 c1 c2
  interval_cases x <;> interval_cases y <;> interval_cases z <;> decide

theorem okRel_bounds_aux (l : LEdge) (h : okRel l = true) :
    0 ≤ l.1.1 ∧ l.1.1 ≤ 1 ∧ 0 ≤ l.1.2.1 ∧ l.1.2.1 ≤ 1 ∧ 0 ≤ l.1.2.2 ∧ l.1.2.2 ≤ 1 := by
  simp only [okRel, decide_eq_true_eq] at h
  exact ⟨h.1, h.2.1, h.2.2.1, h.2.2.2.1, h.2.2.2.2.1, h.2.2.2.2.2.1⟩

/-- two different cells never emit the same directed edge -/
theorem cells_disjoint_aux (s : Pt → Bool) (p p' : Pt) (hne : p ≠ p') (e : DEdge)
    (h1 : e ∈ cellEdges s p) (h2 : e ∈ cellEdges s p') : False := by
  obtain ⟨r, hr, hre⟩ := List.mem_map.mp h1
  obtain ⟨r', hr', hre'⟩ := List.mem_map.mp h2
  obtain ⟨ok1, ok2, hne12⟩ := segs_ok_aux s p r hr
  obtain ⟨ok1', ok2', hne12'⟩ := segs_ok_aux s p' r' hr'
  have b1 := okRel_bounds_aux _ ok1; have b1' := okRel_bounds_aux _ ok1'
  let d : Pt := (p'.1 - p.1, p'.2.1 - p.2.1, p'.2.2 - p.2.2)
  have hp' : p' = padd p d := by
    obtain ⟨px, py, pz⟩ := p; obtain ⟨qx, qy, qz⟩ := p'
    simp only [padd, d, Prod.mk.injEq]; refine ⟨?_, ?_, ?_⟩ <;> omega
  have hee : shiftE p r = shiftE p (shiftE d r') := by
    rw [hre, ← hre', hp']
    simp only [shiftE, shiftL, padd_assoc_aux]
  have hrr : r = shiftE d r' := shiftE_injective_aux p hee
  have hr1 : r.1 = shiftL d r'.1 := by rw [hrr]; rfl
  have hr2 : r.2 = shiftL d r'.2 := by rw [hrr]; rfl
  have hd0 : d ≠ (0, 0, 0) := by
    intro h0; apply hne; rw [hp', h0]
    obtain ⟨px, py, pz⟩ := p; simp [padd]
  have hdm : d ∈ steps := by
    have e1 : r.1.1 = padd d r'.1.1 := by rw [hr1]; rfl
    apply steps_mem_aux
    · have : r.1.1.1 = d.1 + r'.1.1.1 := by rw [e1]; rfl
      omega
    · have : r.1.1.2.1 = d.2.1 + r'.1.1.2.1 := by rw [e1]; rfl
      omega
    · have : r.1.1.2.2 = d.2.2 + r'.1.1.2.2 := by rw [e1]; rfl
      omega
  have T := table_shared_edges
  rw [List.all_eq_true] at T
  have T1 := T d hdm
  simp only [Bool.or_eq_true, decide_eq_true_eq] at T1
  rcases T1 with h0 | T2
  · exact hd0 h0
  rw [List.all_eq_true] at T2
  have T3 := T2 _ (okRel_mem_cubeEdges_aux _ ok1')
  rw [List.all_eq_true] at T3
  have T4 := T3 _ (okRel_mem_cubeEdges_aux _ ok2')
  simp only [← hr1, ← hr2, ok1, ok2, Bool.and_self, Bool.true_and, Bool.or_eq_true, Bool.not_eq_true',
    bne_eq_false_iff_eq, List.any_eq_true, Bool.and_eq_true, decide_eq_true_eq, List.mem_range] at T4
  rcases T4 with heq | ⟨a, ha, hcase⟩
  · exact hne12 heq
  rcases hcase with ⟨⟨⟨⟨hda, f1⟩, f2⟩, f3⟩, f4⟩ | ⟨⟨⟨⟨hda, f1⟩, f2⟩, f3⟩, f4⟩
  · -- p' = p + e_a
    have hr'' : r' ∈ caseSegsRel (caseIndex (cellBits s (padd p (unit a)))) := by rw [← hda, ← hp']; exact hr'
    exact adjacent_disjoint_aux s p a ha r r' hr hr'' (by simp [f1, f2]) (by simp [f3, f4]) (by rw [hrr, hda])
  · -- p = p' + e_a
    have hpp : p = padd p' (unit a) := by
      rw [hp', hda, padd_assoc_aux]
      obtain ⟨px, py, pz⟩ := p
      have : a = 0 ∨ a = 1 ∨ a = 2 := by omega
      rcases this with rfl | rfl | rfl <;> simp [padd, negUnit, unit]
    have hr'' : r ∈ caseSegsRel (caseIndex (cellBits s (padd p' (unit a)))) := by rw [← hpp]; exact hr
    have hback : r' = shiftE (unit a) r := by
      rw [hrr, hda]
      obtain ⟨⟨⟨x1, y1, z1⟩, k1⟩, ⟨⟨x2, y2, z2⟩, k2⟩⟩ := r'
      have : a = 0 ∨ a = 1 ∨ a = 2 := by omega
      rcases this with rfl | rfl | rfl <;> simp [shiftE, shiftL, padd, negUnit, unit]
    exact adjacent_disjoint_aux s p' a ha r' r hr' hr'' (by simp [f3, f4]) (by simp [f1, f2]) hback

theorem boxCells_nodup_aux (o : Pt) (nx ny nz : Nat) : (boxCells o nx ny nz).Nodup := by
  obtain ⟨ox, oy, oz⟩ := o
  unfold boxCells
  rw [List.nodup_flatMap]
  refine ⟨fun i _ => ?_, ?_⟩
  · rw [List.nodup_flatMap]
    refine ⟨fun j _ => ?_, ?_⟩
    · refine List.Nodup.map ?_ List.nodup_range
      intro k k' h
      simp only [padd, Prod.mk.injEq] at h
      have := h.2.2; simp only [Int.ofNat_eq_natCast] at this; omega
    · refine List.Pairwise.imp ?_ (List.nodup_range (n := ny))
      intro j j' hne q h1 h2
      obtain ⟨k, _, rfl⟩ := List.mem_map.mp h1
      obtain ⟨k', _, h⟩ := List.mem_map.mp h2
      simp only [padd, Prod.mk.injEq, Int.ofNat_eq_natCast] at h
      omega
  · refine List.Pairwise.imp ?_ (List.nodup_range (n := nx))
    intro i i' hne q h1 h2
    obtain ⟨j, _, hj⟩ := List.mem_flatMap.mp h1
    obtain ⟨k, _, rfl⟩ := List.mem_map.mp hj
    obtain ⟨j', _, hj'⟩ := List.mem_flatMap.mp h2
    obtain ⟨k', _, h⟩ := List.mem_map.mp hj'
    simp only [padd, Prod.mk.injEq, Int.ofNat_eq_natCast] at h
    omega

/-- **At most once.**  Over any box and any sign pattern no directed edge (lattice-edge ids) is emitted twice:
    inside a cell by the table (`table_case_edges_nodup`); two different cells can share two distinct lattice edges
    only across a common face (`table_shared_edges`), where one draws `canon` and the other its reverse
    (`table_face_canonical`), and `canon` never contains a segment together with its reverse. -/
theorem box_edges_nodup (s : Pt → Bool) (o : Pt) (nx ny nz : Nat) : (boxEdges s o nx ny nz).Nodup := by
  unfold boxEdges
  rw [List.nodup_flatMap]
  refine ⟨fun p _ => cell_edges_nodup s p, ?_⟩
  refine (boxCells_nodup_aux o nx ny nz).imp ?_
  intro p p' hne e h1 h2
  exact cells_disjoint_aux s p p' hne e h1 h2


/-- the full closedness statement in lattice-edge ids: balanced AND every directed edge at most once, i.e.
    "every directed edge is matched by the opposite edge of exactly one triangle" -/
def C09_closed_full : Prop :=
  ∀ (s : Pt → Bool) (o : Pt) (nx ny nz : Nat), BoundaryOutside s o nx ny nz →
    Balanced (boxEdges s o nx ny nz) ∧ (boxEdges s o nx ny nz).Nodup

/-- **march_closed.**  For every box of cells (any origin, any size) and every sign pattern that is outside on the
    box's boundary layer, the triangles produced by the table form a closed, consistently oriented surface in
    lattice-edge ids: every directed edge occurs exactly once and its reverse occurs exactly once. -/
theorem march_closed : C09_closed_full :=
  fun s o nx ny nz hbd => ⟨march_closed_balanced s o nx ny nz hbd, box_edges_nodup s o nx ny nz⟩

theorem reverse_mem_of_balanced_aux {V : Type} [DecidableEq V] {L : List (V × V)} (hb : Balanced L) (u v : V)
    (h : (u, v) ∈ L) : (v, u) ∈ L := by
  have : 0 < L.count (u, v) := List.count_pos_iff.mpr h
  rw [hb u v] at this
  exact List.count_pos_iff.mp this

/-- "exactly one", spelled out without counting: the list of directed edges has no repetition, and with every
    directed edge it contains the reverse edge -/
theorem march_closed_exactly_one (s : Pt → Bool) (o : Pt) (nx ny nz : Nat) (hbd : BoundaryOutside s o nx ny nz) :
    (boxEdges s o nx ny nz).Nodup ∧ ∀ u v, (u, v) ∈ boxEdges s o nx ny nz → (v, u) ∈ boxEdges s o nx ny nz :=
  ⟨box_edges_nodup s o nx ny nz, fun u v h => reverse_mem_of_balanced_aux (march_closed_balanced s o nx ny nz hbd) u v h⟩

/-! ## The weld keeps the surface balanced -/

/-- a triangle is kept by the weld iff its three (welded) corners are pairwise different -/
def nondegB {W : Type} [DecidableEq W] (t : W × W × W) : Bool := !(t.1 == t.2.1) && !(t.1 == t.2.2) && !(t.2.1 == t.2.2)

/-- `WeldByFloat3Attribute`: every corner is replaced by the id `φ` of its rounded position (`vertILU[Vector3ToInt(..)]`)
    and triangles in which two corners get the same id are dropped -/
def weldTris {V W : Type} [DecidableEq W] (φ : V → W) (tris : List (V × V × V)) : List (W × W × W) :=
  (tris.map fun t => (φ t.1, φ t.2.1, φ t.2.2)).filter nondegB

theorem fl_flatMap_zero_aux {V T : Type} [DecidableEq V] (a b : V) (f : T → List (V × V)) (l : List T)
    (h : ∀ x ∈ l, fl a b (f x) = 0) : fl a b (l.flatMap f) = 0 := by
  induction l with
  | nil => simp [fl]
  | cons x l ih =>
    rw [List.flatMap_cons, fl_append_aux, h x (List.mem_cons_self), ih (fun y hy => h y (List.mem_cons_of_mem _ hy))]; rfl

theorem fl_perm_aux {V : Type} [DecidableEq V] (a b : V) {L M : List (V × V)} (h : L.Perm M) : fl a b L = fl a b M := by
  unfold fl; rw [h.count_eq, h.count_eq]

theorem fl_of_perm_swap_aux {V : Type} [DecidableEq V] (a b : V) {L : List (V × V)} (h : L.Perm (L.map swapE)) :
    fl a b L = 0 := by
  unfold fl
  rw [← count_map_swap_aux L a b, ← h.count_eq]; ring

theorem degenerate_tri_flow_aux {W : Type} [DecidableEq W] (a b : W) (t : W × W × W)
    (h : nondegB t = false) : fl a b (triEdges t) = 0 := by
  obtain ⟨x, y, z⟩ := t
  simp only [nondegB, Bool.and_eq_false_iff, Bool.not_eq_false', beq_iff_eq] at h
  apply fl_of_perm_swap_aux
  simp only [triEdges, List.map, swapE]
  rcases h with (h | h) | h <;> subst h
  · exact List.Perm.cons _ (List.Perm.swap _ _ _)
  · exact List.Perm.swap _ _ _
  · simpa using (List.reverse_perm [(x, y), (y, y), (y, x)]).symm

/-- identifying vertices by ANY map (the float-keyed weld, whatever it merges) and dropping the triangles that
    thereby get two equal corners keeps the directed-edge balance -/
theorem weld_preserves_balance {V W : Type} [DecidableEq V] [DecidableEq W] (φ : V → W) (tris : List (V × V × V))
    (h : Balanced (tris.flatMap triEdges)) : Balanced ((weldTris φ tris).flatMap triEdges) := by
  apply balanced_of_fl_aux
  intro a b
  set M := tris.map fun t => (φ t.1, φ t.2.1, φ t.2.2) with hM
  have hEM : M.flatMap triEdges = (tris.flatMap triEdges).map fun e => (φ e.1, φ e.2) := by
    rw [hM, List.flatMap_map, List.map_flatMap]; rfl
  have hMbal : fl a b (M.flatMap triEdges) = 0 := by
    rw [hEM]; exact fl_balanced_aux a b (h.map_aux φ)
  have hperm : (M.filter nondegB ++ M.filter (fun t => !nondegB t)).Perm M := List.filter_append_perm nondegB M
  have h2 := fl_perm_aux a b (hperm.flatMap_right triEdges)
  rw [List.flatMap_append, fl_append_aux, hMbal] at h2
  have hdrop : fl a b ((M.filter fun t => !nondegB t).flatMap triEdges) = 0 := by
    apply fl_flatMap_zero_aux
    intro t ht
    have := (List.mem_filter.mp ht).2
    exact degenerate_tri_flow_aux a b t (by simpa using this)
  rw [hdrop] at h2
  unfold weldTris
  linarith

/-- no degenerate face survives the weld -/
theorem weld_nondegenerate {V W : Type} [DecidableEq W] (φ : V → W) (tris : List (V × V × V)) :
    ∀ t ∈ weldTris φ tris, t.1 ≠ t.2.1 ∧ t.1 ≠ t.2.2 ∧ t.2.1 ≠ t.2.2 := by
  intro t ht
  have := (List.mem_filter.mp ht).2
  simpa [nondegB, and_assoc] using this

/-- non-vacuity: welding the two end points of an edge of a tetrahedron (balanced) drops two triangles and keeps two -/
example : Balanced (([(0, 1, 2), (0, 3, 1), (1, 3, 2), (0, 2, 3)] : List (Nat × Nat × Nat)).flatMap triEdges) ∧
    weldTris (fun v : Nat => if v = 3 then 2 else v) [(0, 1, 2), (0, 3, 1), (1, 3, 2), (0, 2, 3)] = [(0, 1, 2), (0, 2, 1)] := by
  refine ⟨balancedB_sound_aux _ (by decide), by decide⟩

/-! ## From lattice-edge ids to the welded mesh: what transfers, and when -/

/-- the corners used by a list of triangles -/
def trisVerts {V : Type} (tris : List (V × V × V)) : List V := tris.flatMap fun t => [t.1, t.2.1, t.2.2]

theorem edge_verts_aux {V : Type} (tris : List (V × V × V)) (e : V × V) (h : e ∈ tris.flatMap triEdges) :
    e.1 ∈ trisVerts tris ∧ e.2 ∈ trisVerts tris := by
  obtain ⟨t, ht, he⟩ := List.mem_flatMap.mp h
  simp only [triEdges, List.mem_cons, List.not_mem_nil, or_false] at he
  constructor <;> (apply List.mem_flatMap.mpr; refine ⟨t, ht, ?_⟩; rcases he with rfl | rfl | rfl <;> simp)

/-- **Transfer of "at most once" through the weld.**  If the vertex map (rounded-position id) does not identify two
    different corners that occur in the mesh, the weld drops no information: no directed edge occurs twice afterwards. -/
theorem weld_preserves_nodup {V W : Type} [DecidableEq W] (φ : V → W) (tris : List (V × V × V))
    (hinj : ∀ u ∈ trisVerts tris, ∀ v ∈ trisVerts tris, φ u = φ v → u = v)
    (hn : (tris.flatMap triEdges).Nodup) : ((weldTris φ tris).flatMap triEdges).Nodup := by
  have hsub : ((weldTris φ tris).flatMap triEdges).Sublist
      ((tris.map fun t => (φ t.1, φ t.2.1, φ t.2.2)).flatMap triEdges) :=
    List.Sublist.flatMap List.filter_sublist triEdges
  refine hsub.nodup ?_
  have hEM : (tris.map fun t => (φ t.1, φ t.2.1, φ t.2.2)).flatMap triEdges
      = (tris.flatMap triEdges).map fun e => (φ e.1, φ e.2) := by
    rw [List.flatMap_map, List.map_flatMap]; rfl
  rw [hEM]
  refine List.Nodup.map_on ?_ hn
  intro a ha b hb hab
  obtain ⟨a1, a2⟩ := edge_verts_aux tris a ha
  obtain ⟨b1, b2⟩ := edge_verts_aux tris b hb
  simp only [Prod.mk.injEq] at hab
  exact Prod.ext (hinj _ a1 _ b1 hab.1) (hinj _ a2 _ b2 hab.2)

/-- all triangles of the box, in lattice-edge ids -/
def boxTris (s : Pt → Bool) (o : Pt) (nx ny nz : Nat) : List (LEdge × LEdge × LEdge) :=
  (boxCells o nx ny nz).flatMap (cellTris s)

theorem cellTris_edges_aux (s : Pt → Bool) (p : Pt) : (cellTris s p).flatMap triEdges = cellEdges s p := by
  simp only [cellTris, cellEdges, caseSegsRel, caseSegs, List.flatMap_map, List.map_flatMap, List.map_map]
  rfl

theorem boxTris_edges_aux (s : Pt → Bool) (o : Pt) (nx ny nz : Nat) :
    (boxTris s o nx ny nz).flatMap triEdges = boxEdges s o nx ny nz := by
  simp only [boxTris, boxEdges, List.flatMap_assoc, cellTris_edges_aux]

/-- **Closedness of the welded mesh.**  Box of cells, boundary layer outside, and a vertex identification `φ`
    (lattice edge ↦ id of the rounded float position) that is injective on the lattice edges that carry a vertex:
    after `weldTris` the mesh is still closed — every directed edge exactly once, its reverse exactly once — and
    has no face with a repeated corner.  Without injectivity only the Balanced half survives
    (`weld_preserves_balance`): that is the known finding C09-touching-at-cutoff. -/
theorem march_weld_closed {W : Type} [DecidableEq W] (s : Pt → Bool) (o : Pt) (nx ny nz : Nat)
    (hbd : BoundaryOutside s o nx ny nz) (φ : LEdge → W)
    (hinj : ∀ u ∈ trisVerts (boxTris s o nx ny nz), ∀ v ∈ trisVerts (boxTris s o nx ny nz), φ u = φ v → u = v) :
    Balanced ((weldTris φ (boxTris s o nx ny nz)).flatMap triEdges) ∧
    ((weldTris φ (boxTris s o nx ny nz)).flatMap triEdges).Nodup ∧
    ∀ t ∈ weldTris φ (boxTris s o nx ny nz), t.1 ≠ t.2.1 ∧ t.1 ≠ t.2.2 ∧ t.2.1 ≠ t.2.2 := by
  obtain ⟨hb, hn⟩ := march_closed s o nx ny nz hbd
  refine ⟨weld_preserves_balance φ _ (by rw [boxTris_edges_aux]; exact hb),
    weld_preserves_nodup φ _ hinj (by rw [boxTris_edges_aux]; exact hn), weld_nondegenerate φ _⟩

/-- without injectivity, always: the welded mesh of any such box is balanced -/
theorem march_weld_balanced {W : Type} [DecidableEq W] (s : Pt → Bool) (o : Pt) (nx ny nz : Nat)
    (hbd : BoundaryOutside s o nx ny nz) (φ : LEdge → W) :
    Balanced ((weldTris φ (boxTris s o nx ny nz)).flatMap triEdges) :=
  weld_preserves_balance φ _ (by rw [boxTris_edges_aux]; exact march_closed_balanced s o nx ny nz hbd)

end C09
end PolyVerif
