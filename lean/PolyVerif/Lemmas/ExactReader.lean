/-
  Exact reads.  A reader `P : List ι → γ` reads a word `w` exactly when, followed by anything, it answers
  `ok rest`, and on whatever a cut leaves of `w` it answers `short`.  What a cut may leave depends on the level:
  any strict prefix (bytes, tokens), or some whole lines and then a damaged one (lines).  Either kind of cut of
  `w ++ w'` falls inside `w` or leaves `w` whole and falls inside `w'`; composing two exact reads needs no more
  than that, so the question where a cut falls is answered once, in `Exact.append`.  (Core Lean only.)
-/

namespace PolyVerif
namespace Readers

/-- what a cut may leave of a word: `rel w d` — `d` is `w` cut short -/
structure Cut (ι : Type) where
  rel : List ι → List ι → Prop
  nil : ∀ {d}, ¬ rel [] d
  append : ∀ {w w' d}, rel (w ++ w') d → rel w d ∨ ∃ d', d = w ++ d' ∧ rel w' d'

variable {ι γ : Type}

/-- cut anywhere: the strict prefixes -/
def Cut.anywhere : Cut ι where
  rel w d := ∃ t, t < w.length ∧ d = w.take t
  nil := fun ⟨_, ht, _⟩ => Nat.not_lt_zero _ ht
  append := by
    rintro w w' _ ⟨t, ht, rfl⟩
    by_cases h : t < w.length
    · exact .inl ⟨t, h, List.take_append_of_le_length (Nat.le_of_lt h)⟩
    · exact .inr ⟨w'.take (t - w.length), by rw [List.take_append, List.take_of_length_le (Nat.le_of_not_lt h)],
        t - w.length, by rw [List.length_append] at ht; omega, rfl⟩

/-- cut at a boundary inside line `j`: the first `j` lines whole, then nothing or a damaged form `x` of line `j`
    (`D x ls[j]`) -/
def Cut.lines (D : ι → ι → Prop) : Cut ι where
  rel ls d := ∃ j, ∃ hj : j < ls.length, ∃ o : Option ι, d = ls.take j ++ o.toList ∧ ∀ x, o = some x → D x ls[j]
  nil := fun ⟨_, hj, _⟩ => Nat.not_lt_zero _ hj
  append := by
    rintro w w' _ ⟨j, hj, o, rfl, ho⟩
    by_cases hjw : j < w.length
    · refine .inl ⟨j, hjw, o, by rw [List.take_append_of_le_length (Nat.le_of_lt hjw)], fun x hx => ?_⟩
      have := ho x hx; rwa [List.getElem_append_left hjw] at this
    · have hjw' : w.length ≤ j := Nat.le_of_not_lt hjw
      refine .inr ⟨w'.take (j - w.length) ++ o.toList,
        by rw [List.take_append, List.take_of_length_le hjw', List.append_assoc],
        j - w.length, by rw [List.length_append] at hj; omega, o, rfl, fun x hx => ?_⟩
      have := ho x hx; rwa [List.getElem_append_right hjw'] at this

theorem Cut.lines_singleton {D : ι → ι → Prop} {l : ι} {d : List ι} (h : (Cut.lines D).rel [l] d) :
    d = [] ∨ ∃ x, d = [x] ∧ D x l := by
  obtain ⟨j, hj, o, rfl, ho⟩ := h
  obtain rfl : j = 0 := Nat.lt_one_iff.mp hj
  cases o with
  | none => exact .inl rfl
  | some x => exact .inr ⟨x, rfl, ho x rfl⟩

/-- `P` reads `w` exactly -/
structure Exact (C : Cut ι) (P : List ι → γ) (w : List ι) (ok : List ι → γ) (short : γ) : Prop where
  full : ∀ rest, P (w ++ rest) = ok rest
  cut : ∀ d, C.rel w d → P d = short

namespace Exact
variable {C : Cut ι} {P : List ι → γ} {w w' : List ι} {ok : List ι → γ} {short : γ}

theorem whole (h : Exact C P w ok short) : P w = ok [] := by
  have := h.full []; rwa [List.append_nil] at this

theorem nil (full : ∀ rest, P rest = ok rest) : Exact C P [] ok short :=
  ⟨full, fun _ h => (C.nil h).elim⟩

/-- `w` then `w'`: what `P` does after both, on a cut of `w`, and after `w` on a cut of `w'` -/
theorem append (full : ∀ rest, P (w ++ (w' ++ rest)) = ok rest) (cut1 : ∀ d, C.rel w d → P d = short)
    (cut2 : ∀ d, C.rel w' d → P (w ++ d) = short) : Exact C P (w ++ w') ok short where
  full rest := by rw [List.append_assoc, full]
  cut d hd := by
    rcases C.append hd with h | ⟨d', rfl, h⟩
    · exact cut1 d h
    · exact cut2 d' h

theorem of_take (full : ∀ rest, P (w ++ rest) = ok rest) (cut : ∀ t, t < w.length → P (w.take t) = short) :
    Exact .anywhere P w ok short :=
  ⟨full, by rintro _ ⟨t, ht, rfl⟩; exact cut t ht⟩

theorem cut_take (h : Exact .anywhere P w ok short) {t : Nat} (ht : t < w.length) : P (w.take t) = short :=
  h.cut _ ⟨t, ht, rfl⟩

/-- the same for a word split in two with something lost -/
theorem cut_of_append (h : Exact .anywhere P w ok short) {p t : List ι} (hpt : p ++ t = w) (ht : t ≠ []) :
    P p = short :=
  h.cut p ⟨p.length, by rw [← hpt, List.length_append]; exact Nat.lt_add_of_pos_right (List.length_pos_iff.mpr ht),
    by rw [← hpt, List.take_left]⟩

/-- every `take k` at once: short inside `w`, the whole read from its end on -/
theorem take (h : Exact .anywhere P w ok short) (k : Nat) :
    P (w.take k) = if k < w.length then short else ok [] := by
  split
  · next hk => exact h.cut_take hk
  · next hk => rw [List.take_of_length_le (Nat.le_of_not_lt hk), h.whole]

/-- one more line in front: what `P` does on the line, on nothing, and on a damaged form of the line -/
theorem cons {D : ι → ι → Prop} {l : ι} (full : ∀ rest, P (l :: (w ++ rest)) = ok rest) (none : P [] = short)
    (dmg : ∀ x, D x l → P [x] = short) (cut2 : ∀ d, (Cut.lines D).rel w d → P (l :: d) = short) :
    Exact (.lines D) P (l :: w) ok short :=
  append (w := [l]) full (fun d hd => by
    rcases Cut.lines_singleton hd with rfl | ⟨x, rfl, hx⟩
    · exact none
    · exact dmg x hx) cut2

end Exact

/-! Where the cuts of a word fail with different errors, a reader is exact in its verdict, `Except.toOption`. -/

theorem eq_ok_of_toOption {ε α : Type} {x : Except ε α} {a : α} (h : x.toOption = some a) : x = .ok a := by
  cases x <;> cases h; rfl

theorem eq_error_of_toOption {ε α : Type} {x : Except ε α} (h : x.toOption = none) : ∃ e, x = .error e := by
  cases x with
  | error e => exact ⟨e, rfl⟩
  | ok a => cases h

end Readers
end PolyVerif
