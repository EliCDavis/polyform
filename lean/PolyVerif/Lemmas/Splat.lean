/-
  Byte-level lemmas about `Model/Splat.lean` shared by Props/C14 and Props/C15:
  the 32-byte record round-trips bit for bit, and the record loop of `splat.Read`
  run on back-to-back records returns them in order.
-/
import PolyVerif.Model.Splat
import PolyVerif.Lemmas.LittleEndian
import PolyVerif.Lemmas.Chunks

namespace PolyVerif
namespace Splat

theorem u32le_le32 (w : UInt32) :
    u32le (UInt8.ofNat (w.toNat % 256)) (UInt8.ofNat (w.toNat / 256 % 256))
      (UInt8.ofNat (w.toNat / 65536 % 256)) (UInt8.ofNat (w.toNat / 16777216 % 256)) = w := by
  simp only [u32le, UInt8.toNat_ofNat', Nat.reducePow, Nat.mod_mod]
  rw [(LE.sum4 w.toNat).trans (Nat.mod_eq_of_lt w.toNat_lt), UInt32.ofNat_toNat]

theorem decRec_encRec (r : Rec) : decRec (encRec r) = some r := by
  cases r
  simp only [encRec, le32, List.cons_append, List.nil_append, decRec, u32le_le32]

theorem encRec_length (r : Rec) : (encRec r).length = 32 := rfl

theorem flatMap_encRec_length (rs : List Rec) : (rs.flatMap encRec).length = 32 * rs.length :=
  (Chunks.length_flatMap_const encRec 32 rs fun r _ => encRec_length r).trans (Nat.mul_comm _ _)

theorem readRecs_append (r : Rec) (rest : List UInt8) :
    readRecs (encRec r ++ rest) =
      ⟨r :: (readRecs rest).recs, (readRecs rest).short, (readRecs rest).steps + 1⟩ := by
  have hl := encRec_length r
  have hne : encRec r ++ rest ≠ [] := by
    intro h; have := congrArg List.length h; simp [hl] at this
  rw [readRecs, dif_neg hne]
  simp only [List.take_left' hl, List.drop_left' hl, decRec_encRec]

theorem readRecs_flatMap (rs : List Rec) :
    readRecs (rs.flatMap encRec) = ⟨rs, false, rs.length + 1⟩ := by
  induction rs with
  | nil => rw [readRecs]; simp
  | cons r rs ih => rw [List.flatMap_cons, readRecs_append, ih]; simp

end Splat
end PolyVerif
