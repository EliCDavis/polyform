/-
  The triple product `a · (b × c)` of `V3 ℝ` — the expression both `Solids.det3` (C18) and `C09.det3` unfold to — as an
  alternating trilinear form, the identities between `Dot` and `Cross` that the properties use, and its sum over a
  triangle list (six times a signed volume), with the list operations every volume argument goes through.
-/
import PolyVerif.Lemmas.RealVec

namespace PolyVerif
namespace V3
variable (a b c d o n : V3 ℝ) (x k : ℝ)

theorem triple_rot : a.Dot (b.Cross c) = b.Dot (c.Cross a) := by simp only [v3]; ring
theorem triple_swap : a.Dot (c.Cross b) = -a.Dot (b.Cross c) := by simp only [v3]; ring
theorem cross_dot_left : (a.Cross b).Dot a = 0 := by simp only [v3]; ring
theorem cross_dot_right : (a.Cross b).Dot b = 0 := by simp only [v3]; ring
theorem triple_zero : (⟨0, 0, 0⟩ : V3 ℝ).Dot (b.Cross c) = 0 := by simp only [v3]; ring

/-- linear in the first argument (and by `triple_rot` in each): the form in which a vertex moving along an edge enters -/
theorem triple_lerp : (((a.Scale (1 - x)).Add (d.Scale x))).Dot (b.Cross c) = (1 - x) * a.Dot (b.Cross c) + x * d.Dot (b.Cross c) := by
  simp only [v3]; ring

theorem triple_lerp_mid : b.Dot (((a.Scale (1 - x)).Add (d.Scale x)).Cross c) = (1 - x) * b.Dot (a.Cross c) + x * b.Dot (d.Cross c) := by
  simp only [v3]; ring

theorem triple_lerp_right : b.Dot (c.Cross ((a.Scale (1 - x)).Add (d.Scale x))) = (1 - x) * b.Dot (c.Cross a) + x * b.Dot (c.Cross d) := by
  simp only [v3]; ring

/-- moving the reference point: `det (a−o, b−o, c−o) = det (a, b, c) − o · (a×b + b×c + c×a)` -/
theorem triple_sub : (a.Sub o).Dot ((b.Sub o).Cross (c.Sub o)) =
    a.Dot (b.Cross c) - (o.Dot (a.Cross b) + o.Dot (b.Cross c) + o.Dot (c.Cross a)) := by
  simp only [v3]; ring

/-- every corner of a triangle has the same component along the face normal: the determinant -/
theorem dot_cross_sub : a.Dot ((b.Sub a).Cross (c.Sub a)) = a.Dot (b.Cross c) ∧
    b.Dot ((b.Sub a).Cross (c.Sub a)) = a.Dot (b.Cross c) ∧ c.Dot ((b.Sub a).Cross (c.Sub a)) = a.Dot (b.Cross c) := by
  simp only [v3]; refine ⟨?_, ?_, ?_⟩ <;> ring

/-- Binet–Cauchy; with `c = a`, `d = b` Lagrange's identity `|a×b|² = |a|²|b|² − (a·b)²` -/
theorem cross_dot_cross : (a.Cross b).Dot (c.Cross d) = a.Dot c * b.Dot d - a.Dot d * b.Dot c := by
  simp only [v3]; ring

theorem cross_swap : b.Cross a = (a.Cross b).Scale (-1) := by ext <;> simp only [v3] <;> ring

end V3

/-- `Σ a · (b × c)` over a triangle list: six times the signed volume of the cones from the origin -/
noncomputable def triSum {V : Type} (pos : V → V3 ℝ) (T : List (V × V × V)) : ℝ :=
  (T.map fun t => (pos t.1).Dot ((pos t.2.1).Cross (pos t.2.2))).sum

section triSum
variable {V W : Type} (pos : V → V3 ℝ)

theorem triSum_cons (t : V × V × V) (T : List (V × V × V)) :
    triSum pos (t :: T) = (pos t.1).Dot ((pos t.2.1).Cross (pos t.2.2)) + triSum pos T := by
  simp only [triSum, List.map_cons, List.sum_cons]

theorem triSum_append (A B : List (V × V × V)) : triSum pos (A ++ B) = triSum pos A + triSum pos B := by
  simp only [triSum, List.map_append, List.sum_append]

theorem triSum_perm {A B : List (V × V × V)} (h : A.Perm B) : triSum pos A = triSum pos B := (h.map _).sum_eq

/-- only the corners the triangles use matter -/
theorem triSum_congr {pos pos' : V → V3 ℝ} {T : List (V × V × V)}
    (h : ∀ t ∈ T, pos t.1 = pos' t.1 ∧ pos t.2.1 = pos' t.2.1 ∧ pos t.2.2 = pos' t.2.2) : triSum pos T = triSum pos' T := by
  unfold triSum
  exact congrArg List.sum (List.map_congr_left fun t ht => by obtain ⟨a, b, c⟩ := h t ht; rw [a, b, c])

/-- re-indexing the vertices -/
theorem triSum_map (f : W → V) (T : List (W × W × W)) :
    triSum pos (T.map fun t => (f t.1, f t.2.1, f t.2.2)) = triSum (fun w => pos (f w)) T := by
  simp only [triSum, List.map_map, Function.comp_def]

/-- reversing every triangle changes the sign -/
theorem triSum_flip (T : List (V × V × V)) : triSum pos (T.map fun t => (t.1, t.2.2, t.2.1)) = -triSum pos T := by
  induction T with
  | nil => simp [triSum]
  | cons t T ih => rw [List.map_cons, triSum_cons, triSum_cons, ih, V3.triple_swap]; ring

/-- all triangles of the same volume -/
theorem triSum_const (T : List (V × V × V)) (c : ℝ) (h : ∀ t ∈ T, (pos t.1).Dot ((pos t.2.1).Cross (pos t.2.2)) = c) :
    triSum pos T = T.length * c := by
  induction T with
  | nil => simp [triSum]
  | cons t T ih =>
    rw [triSum_cons, h t List.mem_cons_self, ih fun t' ht' => h t' (List.mem_cons_of_mem _ ht'), List.length_cons]
    push_cast; ring

end triSum
end PolyVerif
