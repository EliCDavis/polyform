/-
  C05, read then write, corner by corner against the FINAL pools: every face corner of the saved text resolves to what
  `Obj.savedCorner` says of the input's token (`obj_resave_corners`), hence as many faces (`obj_resave_faces`).  The form that
  resolves at the time of the face is in `Lemmas/ObjResave.lean`.  Core Lean only.
-/
import PolyVerif.Lemmas.ObjWritten

set_option linter.unusedSimpArgs false
set_option linter.unusedSectionVars false

namespace PolyVerif
namespace ObjL
open Obj

section resaveattrs
variable {τ α : Type} [DecidableEq τ] (pc : τ → Except Err Corner)

/-- the position every face corner of a text refers to, corner by corner in file order, resolved against
    the text's `v` lines (`none` = unresolvable) -/
def cornerPositions {τ : Type} (pc : τ → Except Err Corner) (ls : List (Line τ α)) : List (Option (V3 α)) :=
  (flatC (faceToks ls)).map (vOf pc (poolV ls))

theorem faceToks_faceLines_aux (mk : Nat → Corner) : ∀ ts : List (Nat × Nat × Nat),
    faceToks (faceLines (α := α) mk ts) = cornerTriples mk ts
  | [] => rfl
  | t :: ts => by
    have := faceToks_faceLines_aux mk ts
    simp only [faceLines, cornerTriples] at this
    simp [faceLines, cornerTriples, faceToks, this]

theorem faceToks_rangeLines_aux (mk : Nat → Corner) : ∀ (mats : List (Option String × Nat)) (ts : List (Nat × Nat × Nat)),
    (mats.map (·.2)).sum = ts.length → faceToks (rangeLines (α := α) mk mats ts) = cornerTriples mk ts
  | [], ts, h => by
    have : ts = [] := List.eq_nil_of_length_eq_zero (by simpa using h.symm)
    subst this; rfl
  | (m, n) :: ms, ts, h => by
    simp only [List.map_cons, List.sum_cons] at h
    have ih := faceToks_rangeLines_aux mk ms (ts.drop n) (by simp [List.length_drop]; omega)
    simp only [rangeLines, faceToks, faceToks_append_aux, faceToks_faceLines_aux, ih, cornerTriples, ← List.map_append,
      List.take_append_drop]

theorem triplesOf_flatTris_aux : ∀ ts : List (Nat × Nat × Nat), triplesOf (flatTris ts) = ts
  | [] => rfl
  | (a, b, c) :: ts => by simp [flatTris, triplesOf, triplesOf_flatTris_aux ts]

theorem faceToks_bodyLines_aux (vo to no : Nat) (m : Mesh α)
    (hm : m.mats = [] ∨ (m.mats.map (·.2)).sum = m.idx.length / 3) :
    faceToks (bodyLines vo to no m) = cornerTriples (mkCorner m.uv.isSome m.nrm.isSome vo to no) (triplesOf m.idx) := by
  unfold bodyLines
  split
  · exact faceToks_faceLines_aux _ _
  · rename_i hne
    exact faceToks_rangeLines_aux _ _ _ (by rw [triplesOf_length_aux]; exact hm.resolve_left hne)

theorem table_lookup_aux {β : Type} (pool : List β) (sl : τ → Option Nat) (g : Group τ α) (tbl : List β)
    (htbl : tbl.map some = (g.toks.filterMap sl).map (fun i => pool[i]?))
    (hlen : tbl.length = g.toks.length) {p : Nat} {t : τ} (ht : g.toks[p]? = some t) :
    ∃ i u, sl t = some i ∧ pool[i]? = some u ∧ tbl[p]? = some u := by
  have hfl : (g.toks.filterMap sl).length = g.toks.length := by
    have := congrArg List.length htbl; simp at this; omega
  have hall := filterMap_length_aux sl g.toks hfl
  rw [filterMap_bind_aux sl (fun i => pool[i]?) g.toks hall] at htbl
  have hlk := lookup_aux htbl ht
  have hp : p < tbl.length := hlen ▸ lt_of_getElem?_aux ht
  have hs := hall t (List.mem_of_getElem? ht)
  cases hst : sl t with
  | none => rw [hst] at hs; cases hs
  | some i =>
    rw [hst, List.getElem?_eq_getElem hp] at hlk
    exact ⟨i, tbl[p], rfl, by simpa using hlk.symm, List.getElem?_eq_getElem hp⟩

/-- one attribute of one corner of the saved text: when the group's table is kept, the written slot
    `p + 1 + off` finds in the saved pool what the token's own slot finds in the input's pool; otherwise
    no slot is written and the token's slot is masked -/
theorem saved_look_aux {β : Type} (POOL pool tbl : List β) (off : Nat) (sl : τ → Option Nat) (g : Group τ α)
    (htbl : tbl.map some = (g.toks.filterMap sl).map (fun i => pool[i]?))
    (hP : ∀ l, keepIfComplete g.verts.length tbl = some l → ∀ i, i < l.length → POOL[i + off]? = l[i]?)
    (hvl : g.verts.length = g.toks.length) {p : Nat} {t : τ} (ht : g.toks[p]? = some t) (o : Option Nat)
    (ho : slot o = sl t) :
    ∃ x, look POOL (slot (if (keepIfComplete g.verts.length tbl).isSome then some (p + 1 + off) else none)) = some x ∧
      look pool (slot (if (keepIfComplete g.verts.length tbl).isSome then o else none)) = some x := by
  cases hk : keepIfComplete g.verts.length tbl with
  | none => exact ⟨none, rfl, rfl⟩
  | some l =>
    obtain ⟨rfl, _, hl⟩ := keepIfComplete_some_aux hk
    obtain ⟨i, u, hs, hpi, htb⟩ := table_lookup_aux pool sl g l htbl (by omega) ht
    refine ⟨some u, ?_, ?_⟩
    · simp [look, slot, hP l hk p (lt_of_getElem?_aux htb), htb]
    · simp [look, ho, hs, hpi]

theorem saved_corner_aux (PV PN : List (V3 α)) (PT : List (V2 α)) (pv pn : List (V3 α)) (pt : List (V2 α))
    (vo to no : Nat) (g : Group τ α) (hi : GInv pc pv pn pt g) (hp : PoolsFor PV PN PT vo to no (toMesh g).2)
    {p : Nat} {t : τ} (ht : g.toks[p]? = some t) :
    resolveCorner PV PN PT (mkCorner (toMesh g).2.uv.isSome (toMesh g).2.nrm.isSome vo to no p) =
      savedCorner pc pv pn pt g t ∧ (savedCorner pc pv pn pt g t).isSome := by
  have hvl : g.verts.length = g.toks.length := by simpa using congrArg List.length hi.hv
  have hplt : p < g.verts.length := hvl ▸ lt_of_getElem?_aux ht
  have hpos : (toMesh g).2.pos = some g.verts := by
    have : g.verts ≠ [] := by intro e; rw [e] at hplt; simp at hplt
    simp [toMesh, optOfList, this]
  -- the token parses, and its `v` index finds vertex `p` of the group
  have hv := lookup_aux hi.hv ht
  rw [List.getElem?_eq_getElem hplt] at hv
  unfold vOf at hv
  cases hc : pc t with
  | error e => rw [hc] at hv; cases hv
  | ok c =>
    rw [hc] at hv
    have hcv : c.v ≠ 0 := by intro h0; simp [h0] at hv
    simp only [hcv, ↓reduceIte] at hv
    have hPV : PV[p + 1 + vo - 1]? = some g.verts[p] := by
      rw [show p + 1 + vo - 1 = p + vo by omega, hp.1 g.verts hpos p hplt]; exact List.getElem?_eq_getElem hplt
    obtain ⟨x, hx1, hx2⟩ := saved_look_aux PT pt g.uvs to (tIdx pc) g hi.ht hp.2.1 hvl ht c.vt (by simp [tIdx, hc])
    obtain ⟨y, hy1, hy2⟩ := saved_look_aux PN pn g.normals no (nIdx pc) g hi.hn hp.2.2 hvl ht c.vn (by simp [nIdx, hc])
    have e : savedCorner pc pv pn pt g t = some ⟨g.verts[p], x, y⟩ := by
      simp only [savedCorner, hc]
      exact resolveCorner_some_iff.2 ⟨hcv, hv.symm, hx2, hy2⟩
    rw [e]
    exact ⟨resolveCorner_some_iff.2 ⟨by simp [mkCorner], hPV, hx1, hy1⟩, rfl⟩

theorem saved_attrs_aux (multi : Bool) (PV PN : List (V3 α)) (PT : List (V2 α)) (pv pn : List (V3 α)) (pt : List (V2 α)) :
    ∀ (gs : List (Group τ α)) (vo to no : Nat),
    PoolsAll PV PN PT vo to no (gs.map toMesh) → (∀ g ∈ gs, GInv pc pv pn pt g) →
    (∀ g ∈ gs, g.mats = [] ∨ matSum g.mats = g.tris.length) →
    (flatC (faceToks (groupLines multi vo to no (gs.map toMesh)))).map (fun c => resolveCorner PV PN PT c) =
      gs.flatMap (fun g => (flatC g.ftoks).map (savedCorner pc pv pn pt g))
  | [], _, _, _, _, _, _ => rfl
  | g :: gs, vo, to, no, hp, hi, hm => by
    have ih := saved_attrs_aux multi PV PN PT pv pn pt gs (vo + optLen (toMesh g).2.pos)
      (to + optLen (toMesh g).2.uv) (no + optLen (toMesh g).2.nrm) hp.2 (fun g' hg' => hi g' (by simp [hg']))
      (fun g' hg' => hm g' (by simp [hg']))
    have hg := hi g (by simp)
    have hbody := faceToks_bodyLines_aux vo to no (toMesh g).2 (toMesh_writable_aux g (hm g (by simp))).2
    rw [show triplesOf (toMesh g).2.idx = g.tris from triplesOf_flatTris_aux _] at hbody
    have hgl : faceToks (gLine (α := α) multi (toMesh g).1) = [] := by unfold gLine; split <;> rfl
    rw [List.map_cons, show toMesh g = ((toMesh g).1, (toMesh g).2) from rfl]
    simp only [groupLines, faceToks_append_aux, hgl, List.nil_append, hbody, flatC_append_aux, List.map_append,
      List.flatMap_cons]
    rw [ih]
    congr 1
    rw [flatC_cornerTriples_aux, List.map_map]
    exact flat_aligned_aux _ _ (fun p t ht => (saved_corner_aux pc PV PN PT pv pn pt vo to no g hg hp.1 ht).1)
      g.tris g.ftoks hg.hf

theorem obj_resave_corners {ls : List (Line τ α)} {gs : List (Group τ α)} {libs : List String}
    (h : readObj pc ls = .ok (gs, libs)) (matFile : String) :
    ∃ out, writeObj matFile (gs.map toMesh) = .ok out ∧
      cornerAttrs pcId out =
        gs.flatMap (fun g => (flatC g.ftoks).map (savedCorner pc (poolV ls) (poolN ls) (poolT ls) g)) ∧
      ∀ o ∈ cornerAttrs pcId out, o.isSome := by
  have hinv := readObj_corners pc h
  obtain ⟨hok, _⟩ := readObj_ranges_sum pc h
  have hw := writeObj_toMesh_aux matFile gs (fun g hg => (hok g hg).2)
  have hmain : cornerAttrs pcId (objText matFile (gs.map toMesh)) =
      gs.flatMap (fun g => (flatC g.ftoks).map (savedCorner pc (poolV ls) (poolN ls) (poolT ls) g)) := by
    obtain ⟨hpv, hpn, hpt⟩ := pool_objText_aux matFile (gs.map toMesh)
    have hpools := poolsAll_aux (gs.map toMesh) [] [] []
    simp only [List.nil_append, List.length_nil] at hpools
    unfold cornerAttrs
    rw [hpv, hpn, hpt, faceToks_objText_aux]
    exact saved_attrs_aux pc _ _ _ _ _ _ _ gs 0 0 0 hpools hinv (fun g hg => (hok g hg).2)
  refine ⟨_, hw, hmain, ?_⟩
  rw [hmain]
  intro o ho
  obtain ⟨g, hg, ho'⟩ := List.mem_flatMap.1 ho
  obtain ⟨t, ht, rfl⟩ := List.mem_map.1 ho'
  obtain ⟨p, hp⟩ := ftoks_in_toks_aux pc (hinv g hg) ht
  -- any pools for which the group's own arrays sit at offset 0 will do to invoke the corner lemma
  have hpf : PoolsFor (optList (toMesh g).2.pos) (optList (toMesh g).2.nrm) (optList (toMesh g).2.uv) 0 0 0 (toMesh g).2 :=
    ⟨by simpa using poolAt_mid_aux [] [] _, by simpa using poolAt_mid_aux [] [] _, by simpa using poolAt_mid_aux [] [] _⟩
  exact (saved_corner_aux pc _ _ _ _ _ _ 0 0 0 g (hinv g hg) hpf hp).2

/-- every group uses one corner shape: all its corners carry a vt (resp. vn) slot, or none does -/
def UniformGroups (gs : List (Group τ α)) : Prop :=
  ∀ g ∈ gs, ((∀ t ∈ g.toks, (tIdx pc t).isSome) ∨ (∀ t ∈ g.toks, tIdx pc t = none)) ∧
            ((∀ t ∈ g.toks, (nIdx pc t).isSome) ∨ (∀ t ∈ g.toks, nIdx pc t = none))

end resaveattrs

section resavefaces
variable {τ α : Type}

theorem obj_resave_faces [DecidableEq τ] (pc : τ → Except Err Corner) {ls : List (Line τ α)}
    {gs : List (Group τ α)} {libs : List String} (h : readObj pc ls = .ok (gs, libs)) (matFile : String) :
    ∃ out, writeObj matFile (gs.map toMesh) = .ok out ∧ faceCount out = faceCount ls := by
  obtain ⟨out, hw, hc, _⟩ := obj_resave_corners pc h matFile
  refine ⟨out, hw, ?_⟩
  -- as many corners, hence as many faces
  have hl : (flatC (faceToks out)).length = (flatC (faceToks ls)).length := by
    rw [← readObj_faces_content pc h, flatC_flatMap_aux]
    simpa [cornerAttrs, List.length_flatMap] using congrArg List.length hc
  rw [flatC_length_aux, flatC_length_aux] at hl
  rw [faceCount_eq_aux, faceCount_eq_aux]
  omega

end resavefaces

end ObjL
end PolyVerif
