/-
  Lemmas for the primitive index generators (C02): every emitted index is below the number of
  allocated vertices, and indices come in whole triangles — for ALL parameter values.

  The two facts travel together as `TrisOK n l`, whose rules follow the way the generators are written (`++`,
  `flatMap` over `range`, one emitted triangle or quad, a sub-mesh appended behind `k` vertices); each generator
  gets one theorem that follows its loops.  A winding only permutes the corners of a quad, so the corner bounds
  of a cell are stated once per grid and used in either order.
-/
import PolyVerif.Model.Primitives

namespace PolyVerif.Prim

theorem length_flatMap_mod3 {β : Type} (l : List β) (f : β → List Nat)
    (h : ∀ x ∈ l, (f x).length % 3 = 0) : (l.flatMap f).length % 3 = 0 := by
  induction l with
  | nil => simp
  | cons a t ih =>
    have h1 := h a (by simp)
    have h2 := ih (fun x hx => h x (by simp [hx]))
    simp only [List.flatMap_cons, List.length_append]
    omega

theorem length_append_mod3 {a b : List Nat} (ha : a.length % 3 = 0) (hb : b.length % 3 = 0) :
    (a ++ b).length % 3 = 0 := by
  rw [List.length_append]; omega

/-- what C02 needs of an index generator that allocates `n` vertices -/
def TrisOK (n : Nat) (l : List Nat) : Prop := (∀ i ∈ l, i < n) ∧ l.length % 3 = 0

namespace TrisOK
variable {n n' a b c : Nat} {l l' : List Nat}

theorem nil : TrisOK n [] := ⟨fun _ h => (nomatch h), rfl⟩

theorem tri (ha : a < n) (hb : b < n) (hc : c < n) (h : TrisOK n l) : TrisOK n (a :: b :: c :: l) :=
  ⟨List.forall_mem_cons.mpr ⟨ha, List.forall_mem_cons.mpr ⟨hb, List.forall_mem_cons.mpr ⟨hc, h.1⟩⟩⟩, by
    have := h.2; simp only [List.length_cons]; omega⟩

/-- the two triangles of a quad; the six bounds are taken as one goal because one `omega` call on the
    conjunction is much cheaper to check than six calls that each digest the same hypotheses -/
theorem six {d e f : Nat} (h : a < n ∧ b < n ∧ c < n ∧ d < n ∧ e < n ∧ f < n) : TrisOK n [a, b, c, d, e, f] :=
  tri h.1 h.2.1 h.2.2.1 (tri h.2.2.2.1 h.2.2.2.2.1 h.2.2.2.2.2 nil)

theorem append (h : TrisOK n l) (h' : TrisOK n l') : TrisOK n (l ++ l') :=
  ⟨fun i hi => (List.mem_append.mp hi).elim (h.1 i) (h'.1 i), length_append_mod3 h.2 h'.2⟩

theorem flatMap {β : Type} {xs : List β} {f : β → List Nat} (h : ∀ x ∈ xs, TrisOK n (f x)) : TrisOK n (xs.flatMap f) :=
  ⟨fun i hi => let ⟨x, hx, hi⟩ := List.mem_flatMap.mp hi; (h x hx).1 i hi,
   length_flatMap_mod3 _ _ fun x hx => (h x hx).2⟩

theorem range {k : Nat} {f : Nat → List Nat} (h : ∀ i, i < k → TrisOK n (f i)) : TrisOK n ((List.range k).flatMap f) :=
  flatMap fun i hi => h i (List.mem_range.mp hi)

theorem mono (h : TrisOK n l) (hn : n ≤ n') : TrisOK n' l := ⟨fun i hi => Nat.lt_of_lt_of_le (h.1 i hi) hn, h.2⟩

/-- the index list of a mesh appended behind `k` vertices -/
theorem shift (h : TrisOK n l) (k : Nat) : TrisOK (k + n) (l.map (· + k)) :=
  ⟨fun i hi => by obtain ⟨j, hj, rfl⟩ := List.mem_map.mp hi; have := h.1 j hj; omega, by rw [List.length_map]; exact h.2⟩

end TrisOK

/-- vertex `c` of row `j` in a grid of `r` rows of `w` vertices, numbered row by row -/
theorem cell_lt {j r c w : Nat} (hj : j < r) (hc : c < w) : j * w + c < r * w :=
  calc j * w + c < j * w + w := Nat.add_lt_add_left hc _
    _ = (j + 1) * w := (Nat.succ_mul _ _).symm
    _ ≤ r * w := Nat.mul_le_mul_right _ hj

/-- ring `p` of `r` rings of `w` vertices ends inside the `r * w` vertices -/
theorem ring_le {p r : Nat} (w : Nat) (hp : p < r) : p * w + w ≤ r * w :=
  (Nat.succ_mul _ _).symm ▸ Nat.mul_le_mul_right _ hp

/-! ### sphere and hemisphere: the same cells, the other winding

Between the poles (vertices `0` and `uvBottom`) lie `rows - 1` rings of `cols` vertices, ring `j` starting at
`j * cols + 1`.  With `rows < 2` there is no ring and the cap indices are out of range: the bounds need `2 ≤ rows`,
the count of indices does not. -/

/-- the corner vertices of cap column `i`: both poles, and columns `i`, `i + 1` (wrapping) of the first and the last ring -/
theorem uvCap_lt {rows cols i : Nat} (hr : 2 ≤ rows) (hi : i < cols) :
    0 < uvVerts rows cols ∧ i + 1 < uvVerts rows cols ∧ (i + 1) % cols + 1 < uvVerts rows cols ∧
    uvBottom rows cols < uvVerts rows cols ∧ i + cols * (rows - 2) + 1 < uvVerts rows cols ∧
    (i + 1) % cols + cols * (rows - 2) + 1 < uvVerts rows cols := by
  have hm := Nat.mod_lt (i + 1) (Nat.zero_lt_of_lt hi)
  have h1 := cell_lt (r := rows - 1) (j := rows - 2) (by omega) hi
  have h2 := cell_lt (r := rows - 1) (j := rows - 2) (by omega) hm
  have := Nat.mul_comm cols (rows - 2)
  simp only [uvBottom, uvVerts]
  omega

/-- the corner vertices of the quad in row `j`, column `i` -/
theorem uvQuad_lt {rows cols j i : Nat} (hj : j < rows - 2) (hi : i < cols) :
    j * cols + 1 + i < uvVerts rows cols ∧ j * cols + 1 + (i + 1) % cols < uvVerts rows cols ∧
    (j + 1) * cols + 1 + (i + 1) % cols < uvVerts rows cols ∧ (j + 1) * cols + 1 + i < uvVerts rows cols := by
  have hm := Nat.mod_lt (i + 1) (Nat.zero_lt_of_lt hi)
  have a := cell_lt (r := rows - 1) (j := j) (by omega) hi
  have b := cell_lt (r := rows - 1) (j := j) (by omega) hm
  have c := cell_lt (r := rows - 1) (j := j + 1) (by omega) hm
  have d := cell_lt (r := rows - 1) (j := j + 1) (by omega) hi
  simp only [uvVerts]
  omega

theorem uvSphereTris_ok {rows cols : Nat} (hr : 2 ≤ rows) : TrisOK (uvVerts rows cols) (uvSphereTris rows cols) :=
  .append
    (.range fun _ hi => let ⟨p, a, b, q, c, d⟩ := uvCap_lt hr hi; .tri p b a (.tri q c d .nil))
    (.range fun _ hj => .range fun _ hi => let ⟨a, b, c, d⟩ := uvQuad_lt hj hi; .tri a b c (.tri a c d .nil))

theorem hemisphereTris_ok {rows cols : Nat} (hr : 2 ≤ rows) : TrisOK (uvVerts rows cols) (hemisphereTris rows cols) :=
  .append
    (.range fun _ hi => let ⟨p, a, b, q, c, d⟩ := uvCap_lt hr hi; .tri p a b (.tri q d c .nil))
    (.range fun _ hj => .range fun _ hi => let ⟨a, b, c, d⟩ := uvQuad_lt hj hi; .tri a c b (.tri a d c .nil))

theorem uvSphereTris_len (rows cols : Nat) : (uvSphereTris rows cols).length % 3 = 0 :=
  length_append_mod3 (length_flatMap_mod3 _ _ fun _ _ => by simp)
    (length_flatMap_mod3 _ _ fun _ _ => length_flatMap_mod3 _ _ fun _ _ => by simp)

theorem hemisphereTris_len (rows cols : Nat) : (hemisphereTris rows cols).length % 3 = 0 :=
  length_append_mod3 (length_flatMap_mod3 _ _ fun _ _ => by simp)
    (length_flatMap_mod3 _ _ fun _ _ => length_flatMap_mod3 _ _ fun _ _ => by simp)

/-! ### the unwelded sphere: fresh vertices per group, a running counter -/

theorem uvUnweldedTris_ok (rows cols : Nat) : TrisOK (uvUnweldedVerts rows cols) (uvUnweldedTris rows cols) := by
  unfold uvUnweldedVerts
  refine .append (.range fun i hi => ?_) (.range fun j hj => .range fun i hi => ?_)
  · exact .six (by omega)
  · have := cell_lt hj hi
    exact .six (by omega)

theorem uvUnweldedTris_len (rows cols : Nat) : (uvUnweldedTris rows cols).length % 3 = 0 :=
  (uvUnweldedTris_ok rows cols).2

/-! ### circle and cone (the same list), and the cylinder as side strip ++ shifted circles -/

theorem circleTris_ok (sides : Nat) : TrisOK (circleVerts sides) (circleTris sides) := by
  unfold circleVerts
  exact .append (.range fun s hs => .tri (by omega) (by omega) (by omega) .nil) (.tri (by omega) (by omega) (by omega) .nil)

theorem circleTris_len (sides : Nat) : (circleTris sides).length % 3 = 0 := (circleTris_ok sides).2

theorem coneTris_ok (sides : Nat) : TrisOK (coneVerts sides) (coneTris sides) := circleTris_ok sides

theorem coneTris_len (sides : Nat) : (coneTris sides).length % 3 = 0 := (coneTris_ok sides).2

theorem cylinderSideTris_ok (sides : Nat) : TrisOK (cylinderSideVerts sides) (cylinderSideTris sides) := by
  unfold cylinderSideVerts
  exact .range fun s hs => .six (by omega)

theorem cylinderTris_ok (sides : Nat) (top bottom : Bool) :
    TrisOK (cylinderVerts sides top bottom) (cylinderTris sides top bottom) := by
  have hc := circleTris_ok sides
  have hside := cylinderSideTris_ok sides
  unfold cylinderTris cylinderVerts
  cases top <;> cases bottom <;> simp only [if_true, if_false, Bool.false_eq_true, List.append_nil, Nat.add_zero]
  · exact hside
  · exact (hside.mono (Nat.le_add_right _ _)).append (hc.shift _)
  · exact (hside.mono (Nat.le_add_right _ _)).append (hc.shift _)
  · exact (((hside.mono (Nat.le_add_right _ _)).append (hc.shift _)).mono (Nat.le_add_right _ _)).append (hc.shift _)

theorem cylinderTris_len (sides : Nat) (top bottom : Bool) : (cylinderTris sides top bottom).length % 3 = 0 :=
  (cylinderTris_ok sides top bottom).2

/-! ### extrusions: rings of `sides` (shape) or `sides + 1` (polygon) vertices, one ring per path point -/

theorem extrudeRing_ok {bottom top sides n : Nat} (hb : bottom + sides ≤ n) (ht : top + sides ≤ n) :
    TrisOK n (extrudeRing bottom top sides) :=
  .range fun s hs => by
    dsimp only
    split <;> exact .six (by omega)

theorem extrudeShapeTris_ok (pathLen sides : Nat) (close : Bool) :
    TrisOK (extrudeShapeVerts pathLen sides) (extrudeShapeTris pathLen sides close) :=
  .range fun p hp => by
    have h1 := ring_le sides hp
    unfold extrudeShapeVerts
    split
    · cases close
      · exact .nil
      · exact extrudeRing_ok h1 (by omega)
    · exact extrudeRing_ok h1 (ring_le sides (by omega : p + 1 < pathLen))

theorem extrudeShapeTris_len (pathLen sides : Nat) (close : Bool) :
    (extrudeShapeTris pathLen sides close).length % 3 = 0 := (extrudeShapeTris_ok pathLen sides close).2

theorem extrudeLineTris_ok (n : Nat) : TrisOK (extrudeLineVerts n) (extrudeLineTris n) := by
  unfold extrudeLineVerts
  exact .range fun j hj => .append (.six (by omega)) (.six (by omega))

theorem extrudeLineTris_len (n : Nat) : (extrudeLineTris n).length % 3 = 0 := (extrudeLineTris_ok n).2

theorem polygonQuad_ok {bottom top s sides n : Nat} (hs : s < sides) (hb : bottom + (sides + 1) ≤ n) (ht : top + (sides + 1) ≤ n)
    (flip : Bool) : TrisOK n (polygonQuad bottom top s flip) := by
  cases flip <;> exact .six (by omega)

theorem polygonTris_ok (pathLen sides : Nat) (closed : Bool) (flips : List Bool) :
    TrisOK (polygonVerts pathLen sides) (polygonTris pathLen sides closed flips) :=
  .flatMap fun qf hqf => by
    obtain ⟨p, hp, hq⟩ := List.mem_flatMap.mp (List.of_mem_zip hqf).1
    have hp := List.mem_range.mp hp
    have h1 := ring_le (sides + 1) hp
    split at hq
    · cases closed
      · cases hq
      · obtain ⟨s, hs, he⟩ := List.mem_map.mp hq
        rw [← he]
        exact polygonQuad_ok (List.mem_range.mp hs) h1 (show 0 + (sides + 1) ≤ _ by omega) _
    · obtain ⟨s, hs, he⟩ := List.mem_map.mp hq
      rw [← he]
      exact polygonQuad_ok (List.mem_range.mp hs) h1 (ring_le (sides + 1) (by omega : p + 1 < pathLen)) _

theorem polygonTris_len (pathLen sides : Nat) (closed : Bool) (flips : List Bool) :
    (polygonTris pathLen sides closed flips).length % 3 = 0 := (polygonTris_ok pathLen sides closed flips).2

/-! ### screw: `segments` rows of `lineLen` vertices -/

theorem screwTris_ok (lineLen segments : Nat) : TrisOK (screwVerts lineLen segments) (screwTris lineLen segments) :=
  .range fun s hs => .range fun j hj => by
    have bl := cell_lt (r := segments) (j := s) (w := lineLen) (c := j) (by omega) (by omega)
    have br := cell_lt (r := segments) (j := s) (w := lineLen) (c := j + 1) (by omega) (by omega)
    have tl := cell_lt (r := segments) (j := s + 1) (w := lineLen) (c := j) (by omega) (by omega)
    have tr := cell_lt (r := segments) (j := s + 1) (w := lineLen) (c := j + 1) (by omega) (by omega)
    rw [Nat.mul_comm segments, Nat.add_comm] at bl br tl tr
    exact .tri br bl tl (.tri tr br tl .nil)

theorem screwTris_len (lineLen segments : Nat) : (screwTris lineLen segments).length % 3 = 0 :=
  (screwTris_ok lineLen segments).2

/-! ### the fixed tables -/

theorem quadTris_ok : TrisOK quadVerts quadTris := by unfold TrisOK; decide +kernel
theorem cubeTris_ok : TrisOK cubeVerts cubeTris := by unfold TrisOK; decide +kernel
theorem cubeUnweldedTris_ok : TrisOK cubeUnweldedVerts cubeUnweldedTris := by unfold TrisOK; decide +kernel

end PolyVerif.Prim
