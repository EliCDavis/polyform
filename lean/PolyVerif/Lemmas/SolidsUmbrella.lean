/-
  C18 — one umbrella per vertex of the UV sphere, all sizes.  The link of a vertex `v` (edges `b → c` with `(v, b, c)` a
  triangle up to rotation) is exhibited as ONE duplicate-free cycle (`UmbrellaCycle`): the adjacent ring around a pole, the
  lower followed by the upper half-link around a grid vertex (`sphereL_link_grid`).  Umbrellas are transported along
  injective vertex maps, along reversal of every triangle, and along mutually inverse maps that respect triangles up to
  rotation; and they give the reversed edge needed for `Closed` (`twin_of_umbrella`).
-/
import PolyVerif.Lemmas.Solids
namespace PolyVerif.Solids
open List
set_option linter.unusedSimpArgs false

/-- `b → c` is a link edge of `v`: some triangle, rotated so that `v` comes first, is `(v, b, c)` -/
def LinkEdge {β : Type} (ts : List (β × β × β)) (v b c : β) : Prop :=
  (v, b, c) ∈ ts ∨ (c, v, b) ∈ ts ∨ (b, c, v) ∈ ts

/-- consecutive pairs of a cyclic list -/
def cyclicPairs {β : Type} (l : List β) : List (β × β) := l.zip (l.rotate 1)

/-- ONE UMBRELLA, exhibited: the link edges of `v` are exactly the consecutive pairs of one duplicate-free cycle -/
def UmbrellaCycle {β : Type} (ts : List (β × β × β)) (v : β) : Prop :=
  ∃ cyc : List β, 3 ≤ cyc.length ∧ cyc.Nodup ∧ ∀ b c, LinkEdge ts v b c ↔ (b, c) ∈ cyclicPairs cyc

theorem mem_cyclicPairs {β : Type} {l : List β} {x y : β} :
    (x, y) ∈ cyclicPairs l ↔ ∃ k, k < l.length ∧ l[k]? = some x ∧ l[(k + 1) % l.length]? = some y := by
  unfold cyclicPairs
  rw [List.mem_iff_getElem?]
  constructor
  · rintro ⟨k, hk⟩
    rw [List.getElem?_zip_eq_some] at hk
    obtain ⟨h1, h2⟩ := hk
    have hk : k < l.length := by
      by_contra h
      rw [List.getElem?_eq_none (by omega)] at h1
      simp at h1
    rw [List.getElem?_rotate hk] at h2
    exact ⟨k, hk, h1, h2⟩
  · rintro ⟨k, hk, h1, h2⟩
    refine ⟨k, ?_⟩
    rw [List.getElem?_zip_eq_some, List.getElem?_rotate hk]
    exact ⟨h1, h2⟩

theorem mem_cyclicPairs_range_map {β : Type} {C : Nat} (f : Nat → β) {x y : β} :
    (x, y) ∈ cyclicPairs ((List.range C).map f) ↔ ∃ k, k < C ∧ x = f k ∧ y = f ((k + 1) % C) := by
  rw [mem_cyclicPairs]
  simp only [List.length_map, List.length_range, List.getElem?_map]
  constructor
  · rintro ⟨k, hk, h1, h2⟩
    have hm : (k + 1) % C < C := Nat.mod_lt _ (by omega)
    rw [List.getElem?_range hk] at h1
    rw [List.getElem?_range hm] at h2
    simp only [Option.map_some, Option.some.injEq] at h1 h2
    exact ⟨k, hk, h1.symm, h2.symm⟩
  · rintro ⟨k, hk, rfl, rfl⟩
    have hm : (k + 1) % C < C := Nat.mod_lt _ (by omega)
    refine ⟨k, hk, ?_, ?_⟩
    · rw [List.getElem?_range hk]; rfl
    · rw [List.getElem?_range hm]; rfl

theorem cyclicPairs4 {β : Type} (a b c d : β) : cyclicPairs [a, b, c, d] = [(a, b), (b, c), (c, d), (d, a)] := rfl

theorem cyclicPairs5 {β : Type} (a b c d e : β) :
    cyclicPairs [a, b, c, d, e] = [(a, b), (b, c), (c, d), (d, e), (e, a)] := rfl

theorem cyclicPairs6 {β : Type} (a b c d e f : β) :
    cyclicPairs [a, b, c, d, e, f] = [(a, b), (b, c), (c, d), (d, e), (e, f), (f, a)] := rfl

/-- link of a grid vertex `(ρ, c)`: below it the three edges through the next ring (or the two through the bottom pole),
    above it the three edges through the previous ring (or the two through the top pole) -/
theorem sphereL_link_grid {R C ρ c : Nat} (h1 : 1 ≤ ρ) (h2 : ρ < R) (hc : c < C) (x y : LP) :
    LinkEdge (sphereL R C) (ρ, c) x y ↔
      (ρ + 1 < R ∧ (x, y) ∈ [(((ρ, (c + 1) % C) : LP), ((ρ + 1, (c + 1) % C) : LP)), ((ρ + 1, (c + 1) % C), (ρ + 1, c)),
        ((ρ + 1, c), (ρ, (c + C - 1) % C))]) ∨
      (ρ + 1 = R ∧ (x, y) ∈ [(((ρ, (c + 1) % C) : LP), ((R, 0) : LP)), ((R, 0), (ρ, (c + C - 1) % C))]) ∨
      (2 ≤ ρ ∧ (x, y) ∈ [(((ρ, (c + C - 1) % C) : LP), ((ρ - 1, (c + C - 1) % C) : LP)),
        ((ρ - 1, (c + C - 1) % C), (ρ - 1, c)), ((ρ - 1, c), (ρ, (c + 1) % C))]) ∨
      (ρ = 1 ∧ (x, y) ∈ [(((ρ, (c + C - 1) % C) : LP), ((0, 0) : LP)), ((0, 0), (ρ, (c + 1) % C))]) := by
  have hm := @mem_sphereL_ring R C (by omega)
  constructor
  · -- a triangle with `(ρ, c)` as a corner fixes the loop indices; the other two corners are then read off
    intro h
    simp only [LinkEdge, hm, Prod.mk.injEq] at h
    rcases h with h | h | h
    · rcases h with ⟨i, hi, h⟩ | ⟨ρ', i, hR, hi, h⟩ | ⟨ρ', i, h3, h4, hi, h | h⟩ <;>
        obtain ⟨⟨hρ, hcc⟩, rfl, rfl⟩ := h <;> first | (exfalso; omega) | (subst hρ hcc; simp [*, prevCol_nextCol hi])
    · rcases h with ⟨i, hi, h⟩ | ⟨ρ', i, hR, hi, h⟩ | ⟨ρ', i, h3, h4, hi, h | h⟩ <;>
        obtain ⟨rfl, ⟨hρ, hcc⟩, rfl⟩ := h <;> subst hρ hcc <;> simp [*, prevCol_nextCol hi]
    · rcases h with ⟨i, hi, h⟩ | ⟨ρ', i, hR, hi, h⟩ | ⟨ρ', i, h3, h4, hi, h | h⟩ <;>
        obtain ⟨rfl, rfl, hρ, hcc⟩ := h <;> subst hρ hcc <;> simp [*, prevCol_nextCol hi]
  · -- each listed edge, with the triangle it comes from (`p` the column before `c`)
    obtain ⟨hp, hnp⟩ := prevCol_spec hc
    generalize (c + C - 1) % C = p at hp hnp ⊢
    subst hnp
    simp only [List.mem_cons, List.not_mem_nil, or_false, Prod.mk.injEq, LinkEdge]
    rintro (⟨hlt, h⟩ | ⟨hR, h⟩ | ⟨h2ρ, h⟩ | ⟨rfl, h⟩)
    · rcases h with ⟨rfl, rfl⟩ | ⟨rfl, rfl⟩ | ⟨rfl, rfl⟩
      · exact Or.inl (hm.2 (Or.inr (Or.inr ⟨ρ, _, h1, hlt, hc, Or.inl rfl⟩)))
      · exact Or.inl (hm.2 (Or.inr (Or.inr ⟨ρ, _, h1, hlt, hc, Or.inr rfl⟩)))
      · exact Or.inr (Or.inl (hm.2 (Or.inr (Or.inr ⟨ρ, p, h1, hlt, hp, Or.inl rfl⟩))))
    · rcases h with ⟨rfl, rfl⟩ | ⟨rfl, rfl⟩
      · exact Or.inr (Or.inl (hm.2 (Or.inr (Or.inl ⟨ρ, _, hR, hc, rfl⟩))))
      · exact Or.inr (Or.inr (hm.2 (Or.inr (Or.inl ⟨ρ, p, hR, hp, rfl⟩))))
    · obtain ⟨ρ, rfl⟩ : ∃ ρ', ρ = ρ' + 1 := ⟨ρ - 1, by omega⟩
      rw [Nat.add_sub_cancel] at h
      have h0 : 1 ≤ ρ := by omega
      rcases h with ⟨rfl, rfl⟩ | ⟨rfl, rfl⟩ | ⟨rfl, rfl⟩
      · exact Or.inr (Or.inl (hm.2 (Or.inr (Or.inr ⟨ρ, p, h0, h2, hp, Or.inr rfl⟩))))
      · exact Or.inr (Or.inr (hm.2 (Or.inr (Or.inr ⟨ρ, p, h0, h2, hp, Or.inl rfl⟩))))
      · exact Or.inr (Or.inr (hm.2 (Or.inr (Or.inr ⟨ρ, _, h0, h2, hc, Or.inr rfl⟩))))
    · rcases h with ⟨rfl, rfl⟩ | ⟨rfl, rfl⟩
      · exact Or.inr (Or.inl (hm.2 (Or.inl ⟨p, hp, rfl⟩)))
      · exact Or.inr (Or.inr (hm.2 (Or.inl ⟨_, hc, rfl⟩)))

theorem sphereL_umbrella_top {R C : Nat} (hR : 2 ≤ R) (hC : 3 ≤ C) : UmbrellaCycle (sphereL R C) ((0, 0) : LP) := by
  refine ⟨(List.range C).map (fun k => ((1, C - 1 - k) : LP)), by simp only [List.length_map, List.length_range]; exact hC, ?_, ?_⟩
  · refine List.Nodup.map_on ?_ List.nodup_range
    intro x hx y hy hxy
    have hx := List.mem_range.1 hx
    have hy := List.mem_range.1 hy
    simp only [Prod.mk.injEq, true_and] at hxy
    omega
  · intro b c
    rw [mem_cyclicPairs_range_map]
    obtain ⟨b1, b2⟩ := b; obtain ⟨c1, c2⟩ := c
    constructor
    · intro h
      simp only [LinkEdge, mem_sphereL, Prod.mk.injEq] at h
      rcases h with (⟨i, hi, h | h⟩ | ⟨j, hj, i, hi, h | h⟩) | (⟨i, hi, h | h⟩ | ⟨j, hj, i, hi, h | h⟩) |
        (⟨i, hi, h | h⟩ | ⟨j, hj, i, hi, h | h⟩)
      all_goals try omega
      have h1 := nextCol_cases hi
      have hk : C - 1 - (i + 1) % C < C := by omega
      have h2 := nextCol_cases hk
      refine ⟨C - 1 - (i + 1) % C, hk, ?_, ?_⟩
      · simp only [Prod.mk.injEq]; omega
      · simp only [Prod.mk.injEq]; omega
    · rintro ⟨k, hk, h1, h2⟩
      have h3 := nextCol_cases hk
      simp only [Prod.mk.injEq] at h1 h2
      have hi : C - 1 - (k + 1) % C < C := by omega
      have h4 := nextCol_cases hi
      refine Or.inl (mem_sphereL.2 (Or.inl ⟨C - 1 - (k + 1) % C, hi, Or.inl ?_⟩))
      simp only [Prod.mk.injEq, true_and]
      omega

theorem sphereL_umbrella_bot {R C : Nat} (hR : 2 ≤ R) (hC : 3 ≤ C) : UmbrellaCycle (sphereL R C) ((R, 0) : LP) := by
  refine ⟨(List.range C).map (fun k => ((R - 1, k) : LP)), by simp only [List.length_map, List.length_range]; exact hC, ?_, ?_⟩
  · refine List.Nodup.map_on ?_ List.nodup_range
    intro x hx y hy hxy
    simp only [Prod.mk.injEq, true_and] at hxy
    exact hxy
  · intro b c
    rw [mem_cyclicPairs_range_map]
    obtain ⟨b1, b2⟩ := b; obtain ⟨c1, c2⟩ := c
    constructor
    · intro h
      simp only [LinkEdge, mem_sphereL, Prod.mk.injEq] at h
      rcases h with (⟨i, hi, h | h⟩ | ⟨j, hj, i, hi, h | h⟩) | (⟨i, hi, h | h⟩ | ⟨j, hj, i, hi, h | h⟩) |
        (⟨i, hi, h | h⟩ | ⟨j, hj, i, hi, h | h⟩)
      all_goals try omega
      refine ⟨i, hi, ?_, ?_⟩
      · simp only [Prod.mk.injEq]; omega
      · simp only [Prod.mk.injEq]; omega
    · rintro ⟨k, hk, h1, h2⟩
      simp only [Prod.mk.injEq] at h1 h2
      refine Or.inl (mem_sphereL.2 (Or.inl ⟨k, hk, Or.inr ?_⟩))
      simp only [Prod.mk.injEq, true_and]
      omega

/-- close the `Nodup` goal of an explicit cycle of logical points -/
local macro "cyc_nodup" : tactic => `(tactic| (
  simp only [List.nodup_cons, List.mem_cons, List.not_mem_nil, Prod.mk.injEq, not_or, or_false, List.nodup_nil,
    not_false_eq_true, and_true]
  omega))

/-- **every vertex of the logical UV sphere has exactly one umbrella**: its link edges are the consecutive pairs of one
    duplicate-free cycle (poles: the adjacent ring; grid vertices: the lower half-link followed by the upper one). -/
theorem sphereL_umbrella {R C : Nat} (hR : 2 ≤ R) (hC : 3 ≤ C) (p : LP) (hp : UvValid R C p) :
    UmbrellaCycle (sphereL R C) p := by
  rcases hp with rfl | rfl | ⟨h1, h2, h3⟩
  · exact sphereL_umbrella_top hR hC
  · exact sphereL_umbrella_bot hR hC
  · obtain ⟨ρ, c⟩ := p
    simp only at h1 h2 h3
    have hn := nextCol_cases h3
    obtain ⟨hp, hnp⟩ := prevCol_spec h3
    have hpn := nextCol_cases hp
    rcases Nat.lt_or_ge (ρ + 1) R with hlo | hlo <;> rcases Nat.lt_or_ge ρ 2 with hup | hup
    · obtain rfl : ρ = 1 := by omega
      refine ⟨[(1, (c + 1) % C), (1 + 1, (c + 1) % C), (1 + 1, c), (1, (c + C - 1) % C), (0, 0)], by simp, by cyc_nodup,
        fun x y => ?_⟩
      rw [sphereL_link_grid h1 h2 h3, cyclicPairs5]
      simp only [hlo, show ¬ 1 + 1 = R by omega, show ¬ 2 ≤ 1 by omega, true_and, false_and,
        false_or, or_false, List.mem_cons, List.not_mem_nil, or_assoc]
    · refine ⟨[(ρ, (c + 1) % C), (ρ + 1, (c + 1) % C), (ρ + 1, c), (ρ, (c + C - 1) % C), (ρ - 1, (c + C - 1) % C),
        (ρ - 1, c)], by simp, by cyc_nodup, fun x y => ?_⟩
      rw [sphereL_link_grid h1 h2 h3, cyclicPairs6]
      simp only [hlo, show ¬ ρ + 1 = R by omega, hup, show ¬ ρ = 1 by omega, true_and, false_and,
        false_or, or_false, List.mem_cons, List.not_mem_nil, or_assoc]
    · obtain rfl : ρ = 1 := by omega
      obtain rfl : R = 1 + 1 := by omega
      refine ⟨[(1, (c + 1) % C), (1 + 1, 0), (1, (c + C - 1) % C), (0, 0)], by simp, by cyc_nodup, fun x y => ?_⟩
      rw [sphereL_link_grid h1 h2 h3, cyclicPairs4]
      simp only [lt_self_iff_false, show ¬ 2 ≤ 1 by omega, true_and, false_and,
        false_or, or_false, List.mem_cons, List.not_mem_nil, or_assoc]
    · obtain rfl : R = ρ + 1 := by omega
      refine ⟨[(ρ, (c + 1) % C), (ρ + 1, 0), (ρ, (c + C - 1) % C), (ρ - 1, (c + C - 1) % C), (ρ - 1, c)], by simp,
        by cyc_nodup, fun x y => ?_⟩
      rw [sphereL_link_grid h1 h2 h3, cyclicPairs5]
      simp only [lt_self_iff_false, hup, show ¬ ρ = 1 by omega, true_and, false_and,
        false_or, or_false, List.mem_cons, List.not_mem_nil, or_assoc]

/-! ### transport of umbrellas along vertex maps and along reversal -/

theorem cyclicPairs_map {β γ : Type} (f : β → γ) (l : List β) :
    cyclicPairs (l.map f) = (cyclicPairs l).map (Prod.map f f) := by
  unfold cyclicPairs
  rw [← List.map_rotate, List.zip_map]

/-- every element of a (non-empty) cyclic list starts one of its consecutive pairs -/
theorem exists_cyclicPair_of_mem {β : Type} {l : List β} {x : β} (h : x ∈ l) : ∃ y, (x, y) ∈ cyclicPairs l := by
  obtain ⟨k, hk, rfl⟩ := List.mem_iff_getElem.1 h
  have hm : (k + 1) % l.length < l.length := Nat.mod_lt _ (by omega)
  exact ⟨l[(k + 1) % l.length], mem_cyclicPairs.2 ⟨k, hk, List.getElem?_eq_getElem hk, List.getElem?_eq_getElem hm⟩⟩

theorem mem_map_tm {β γ : Type} {f : β → γ} {ts : List (β × β × β)} {u v w : γ} (h : (u, v, w) ∈ ts.map (tm f)) :
    ∃ a b c, (a, b, c) ∈ ts ∧ f a = u ∧ f b = v ∧ f c = w := by
  obtain ⟨⟨a, b, c⟩, ht, he⟩ := List.mem_map.1 h
  simp only [tm, Prod.mk.injEq] at he
  exact ⟨a, b, c, ht, he.1, he.2.1, he.2.2⟩

/-- an umbrella is carried along a vertex map that is injective on the points that occur -/
theorem UmbrellaCycle.map_of_injOn {β γ : Type} {f : β → γ} {ts : List (β × β × β)} {p : β} (V : β → Prop)
    (hV : ∀ t ∈ ts, V t.1 ∧ V t.2.1 ∧ V t.2.2) (hp : V p) (hinj : ∀ a b, V a → V b → f a = f b → a = b)
    (h : UmbrellaCycle ts p) : UmbrellaCycle (ts.map (tm f)) (f p) := by
  obtain ⟨cyc, hlen, hnd, hiff⟩ := h
  have hVcyc : ∀ b ∈ cyc, V b := by
    intro b hb
    obtain ⟨c, hbc⟩ := exists_cyclicPair_of_mem hb
    rcases (hiff b c).2 hbc with h | h | h
    · exact (hV _ h).2.1
    · exact (hV _ h).2.2
    · exact (hV _ h).1
  refine ⟨cyc.map f, by rw [List.length_map]; exact hlen,
    List.Nodup.map_on (fun a ha b hb => hinj a b (hVcyc a ha) (hVcyc b hb)) hnd, ?_⟩
  intro b' c'
  rw [cyclicPairs_map, List.mem_map]
  constructor
  · rintro (h | h | h)
    · obtain ⟨a, b, c, ht, e1, e2, e3⟩ := mem_map_tm h
      obtain rfl := hinj a p (hV _ ht).1 hp e1
      exact ⟨(b, c), (hiff b c).1 (Or.inl ht), by rw [← e2, ← e3]; rfl⟩
    · obtain ⟨c, a, b, ht, e3, e1, e2⟩ := mem_map_tm h
      obtain rfl := hinj a p (hV _ ht).2.1 hp e1
      exact ⟨(b, c), (hiff b c).1 (Or.inr (Or.inl ht)), by rw [← e2, ← e3]; rfl⟩
    · obtain ⟨b, c, a, ht, e2, e3, e1⟩ := mem_map_tm h
      obtain rfl := hinj a p (hV _ ht).2.2 hp e1
      exact ⟨(b, c), (hiff b c).1 (Or.inr (Or.inr ht)), by rw [← e2, ← e3]; rfl⟩
  · rintro ⟨⟨b, c⟩, hbc, he⟩
    simp only [Prod.map, Prod.mk.injEq] at he
    obtain ⟨rfl, rfl⟩ := he
    rcases (hiff b c).2 hbc with h | h | h
    · exact Or.inl (List.mem_map.2 ⟨(p, b, c), h, rfl⟩)
    · exact Or.inr (Or.inl (List.mem_map.2 ⟨(c, p, b), h, rfl⟩))
    · exact Or.inr (Or.inr (List.mem_map.2 ⟨(b, c, p), h, rfl⟩))

theorem mem_cyclicPairs_reverse_of {β : Type} {l : List β} {x y : β} (h : (y, x) ∈ cyclicPairs l) :
    (x, y) ∈ cyclicPairs l.reverse := by
  obtain ⟨k, hk, h1, h2⟩ := mem_cyclicPairs.1 h
  rw [mem_cyclicPairs, List.length_reverse]
  have hn1 := nextCol_cases hk
  have hm : l.length - 1 - (k + 1) % l.length < l.length := by omega
  have hn2 := nextCol_cases hm
  have hm' : (l.length - 1 - (k + 1) % l.length + 1) % l.length < l.length := Nat.mod_lt _ (by omega)
  refine ⟨_, hm, ?_, ?_⟩
  · rw [List.getElem?_reverse hm, ← h2]
    congr 1
    omega
  · rw [List.getElem?_reverse hm', ← h1]
    congr 1
    omega

theorem mem_cyclicPairs_reverse {β : Type} {l : List β} {x y : β} :
    (x, y) ∈ cyclicPairs l.reverse ↔ (y, x) ∈ cyclicPairs l :=
  ⟨fun h => by simpa only [List.reverse_reverse] using mem_cyclicPairs_reverse_of h, mem_cyclicPairs_reverse_of⟩

theorem mem_map_flipT {β : Type} {ts : List (β × β × β)} {a b c : β} :
    (a, b, c) ∈ ts.map flipT ↔ (a, c, b) ∈ ts := by
  rw [List.mem_map]
  constructor
  · rintro ⟨⟨u, v, w⟩, ht, he⟩
    simp only [flipT, Prod.mk.injEq] at he
    obtain ⟨rfl, rfl, rfl⟩ := he
    exact ht
  · intro h
    exact ⟨(a, c, b), h, rfl⟩

theorem linkEdge_flip {β : Type} {ts : List (β × β × β)} {v b c : β} :
    LinkEdge (ts.map flipT) v b c ↔ LinkEdge ts v c b := by
  simp only [LinkEdge, mem_map_flipT]
  constructor
  · rintro (h | h | h)
    · exact Or.inl h
    · exact Or.inr (Or.inr h)
    · exact Or.inr (Or.inl h)
  · rintro (h | h | h)
    · exact Or.inl h
    · exact Or.inr (Or.inr h)
    · exact Or.inr (Or.inl h)

theorem UmbrellaCycle.flip {β : Type} {ts : List (β × β × β)} {v : β} (h : UmbrellaCycle ts v) :
    UmbrellaCycle (ts.map flipT) v := by
  obtain ⟨cyc, hlen, hnd, hiff⟩ := h
  refine ⟨cyc.reverse, by rw [List.length_reverse]; exact hlen, List.nodup_reverse.2 hnd, fun b c => ?_⟩
  rw [linkEdge_flip, mem_cyclicPairs_reverse]
  exact hiff c b

/-! ### link edges up to rotation of the triangles; transport along mutually inverse vertex maps -/

theorem LinkEdge.rot {β : Type} {ts : List (β × β × β)} {a b c : β} (h : LinkEdge ts a b c) : LinkEdge ts b c a :=
  h.elim (fun h => Or.inr (Or.inl h)) fun h => h.elim (fun h => Or.inr (Or.inr h)) Or.inl

/-- a vertex map that sends every triangle to a triangle of `ts'`, up to rotation, carries link edges along -/
theorem LinkEdge.map {β γ : Type} {f : β → γ} {ts : List (β × β × β)} {ts' : List (γ × γ × γ)}
    (hf : ∀ t ∈ ts, LinkEdge ts' (f t.1) (f t.2.1) (f t.2.2)) {v b c : β} (h : LinkEdge ts v b c) :
    LinkEdge ts' (f v) (f b) (f c) := by
  rcases h with h | h | h
  · exact hf _ h
  · exact (hf _ h).rot
  · exact (hf _ h).rot.rot

theorem LinkEdge.exists_mem {β : Type} {ts : List (β × β × β)} {v b c : β} (h : LinkEdge ts v b c) :
    ∃ t ∈ ts, (b = t.1 ∨ b = t.2.1 ∨ b = t.2.2) ∧ (c = t.1 ∨ c = t.2.1 ∨ c = t.2.2) := by
  rcases h with h | h | h
  · exact ⟨_, h, Or.inr (Or.inl rfl), Or.inr (Or.inr rfl)⟩
  · exact ⟨_, h, Or.inr (Or.inr rfl), Or.inl rfl⟩
  · exact ⟨_, h, Or.inl rfl, Or.inr (Or.inl rfl)⟩

/-- umbrellas are carried along a pair of mutually inverse vertex maps that send triangles to triangles up to rotation -/
theorem UmbrellaCycle.of_rotIso {β γ : Type} {ts : List (β × β × β)} {ts' : List (γ × γ × γ)} (σ : β → γ) (τ : γ → β)
    (hσ : ∀ t ∈ ts, LinkEdge ts' (σ t.1) (σ t.2.1) (σ t.2.2)) (hτ : ∀ t ∈ ts', LinkEdge ts (τ t.1) (τ t.2.1) (τ t.2.2))
    (hστ : ∀ t ∈ ts', σ (τ t.1) = t.1 ∧ σ (τ t.2.1) = t.2.1 ∧ σ (τ t.2.2) = t.2.2)
    (hτσ : ∀ t ∈ ts, τ (σ t.1) = t.1 ∧ τ (σ t.2.1) = t.2.1 ∧ τ (σ t.2.2) = t.2.2)
    {p : β} (hp : τ (σ p) = p) (h : UmbrellaCycle ts p) : UmbrellaCycle ts' (σ p) := by
  obtain ⟨cyc, hlen, hnd, hiff⟩ := h
  have inv : ∀ {v b c}, LinkEdge ts v b c → τ (σ b) = b ∧ τ (σ c) = c := by
    intro v b c h
    obtain ⟨t, ht, hb, hc⟩ := h.exists_mem
    obtain ⟨e1, e2, e3⟩ := hτσ t ht
    exact ⟨by rcases hb with rfl | rfl | rfl <;> assumption, by rcases hc with rfl | rfl | rfl <;> assumption⟩
  have inv' : ∀ {v b c}, LinkEdge ts' v b c → σ (τ b) = b ∧ σ (τ c) = c := by
    intro v b c h
    obtain ⟨t, ht, hb, hc⟩ := h.exists_mem
    obtain ⟨e1, e2, e3⟩ := hστ t ht
    exact ⟨by rcases hb with rfl | rfl | rfl <;> assumption, by rcases hc with rfl | rfl | rfl <;> assumption⟩
  refine ⟨cyc.map σ, by rwa [List.length_map], List.Nodup.map_on (fun a ha b hb e => ?_) hnd, fun b c => ?_⟩
  · obtain ⟨a', ha'⟩ := exists_cyclicPair_of_mem ha
    obtain ⟨b', hb'⟩ := exists_cyclicPair_of_mem hb
    rw [← (inv ((hiff _ _).2 ha')).1, e, (inv ((hiff _ _).2 hb')).1]
  · rw [cyclicPairs_map, List.mem_map]
    constructor
    · intro h
      have h' := LinkEdge.map hτ h
      rw [hp] at h'
      exact ⟨(τ b, τ c), (hiff _ _).1 h', by simp only [Prod.map, (inv' h).1, (inv' h).2]⟩
    · rintro ⟨⟨b0, c0⟩, hbc, he⟩
      obtain ⟨rfl, rfl⟩ := Prod.mk.inj he
      exact LinkEdge.map hσ ((hiff _ _).2 hbc)

/-! ### closedness: the reversed edge comes from the umbrella -/

theorem mem_edges_iff_linkEdge {β : Type} {ts : List (β × β × β)} {a b : β} :
    (a, b) ∈ edges ts ↔ ∃ c, LinkEdge ts a b c := by
  simp only [edges, List.mem_flatMap, triEdges, List.mem_cons, List.not_mem_nil, or_false, Prod.mk.injEq, LinkEdge]
  constructor
  · rintro ⟨⟨t1, t2, t3⟩, ht, ⟨rfl, rfl⟩ | ⟨rfl, rfl⟩ | ⟨rfl, rfl⟩⟩
    exacts [⟨t3, Or.inl ht⟩, ⟨t1, Or.inr (Or.inl ht)⟩, ⟨t2, Or.inr (Or.inr ht)⟩]
  · rintro ⟨c, h | h | h⟩
    exacts [⟨_, h, Or.inl ⟨rfl, rfl⟩⟩, ⟨_, h, Or.inr (Or.inl ⟨rfl, rfl⟩)⟩, ⟨_, h, Or.inr (Or.inr ⟨rfl, rfl⟩)⟩]

/-- in a mesh with one umbrella at every corner, every directed edge has its reverse: `b` lies on the link cycle of
    `a`, and the link edge arriving at `b` belongs to a triangle that runs `b → a` -/
theorem twin_of_umbrella {β : Type} {ts : List (β × β × β)}
    (h : ∀ t ∈ ts, UmbrellaCycle ts t.1 ∧ UmbrellaCycle ts t.2.1 ∧ UmbrellaCycle ts t.2.2) :
    ∀ e ∈ edges ts, (e.2, e.1) ∈ edges ts := by
  rintro ⟨a, b⟩ he
  obtain ⟨c, hc⟩ := mem_edges_iff_linkEdge.1 he
  obtain ⟨t, ht, ha, -⟩ := hc.rot.rot.exists_mem
  obtain ⟨cyc, -, -, hiff⟩ : UmbrellaCycle ts a := by
    rcases ha with rfl | rfl | rfl
    exacts [(h t ht).1, (h t ht).2.1, (h t ht).2.2]
  have hb : b ∈ cyc.reverse := List.mem_reverse.2 (List.of_mem_zip ((hiff b c).1 hc)).1
  obtain ⟨w, hw⟩ := exists_cyclicPair_of_mem hb
  exact mem_edges_iff_linkEdge.2 ⟨w, ((hiff w b).2 (mem_cyclicPairs_reverse.1 hw)).rot.rot⟩

theorem sphereL_closed {R C : Nat} (hR : 2 ≤ R) (hC : 3 ≤ C) : Closed (sphereL R C) :=
  ⟨sphereL_nodup hR hC, twin_of_umbrella fun _ ht =>
      have hv := sphereL_tri_valid hR hC ht
      ⟨sphereL_umbrella hR hC _ hv.1, sphereL_umbrella hR hC _ hv.2.1, sphereL_umbrella hR hC _ hv.2.2⟩,
    sphereL_noloop hR hC⟩

/-- **every vertex of the welded UV sphere (raw vertex ids) has exactly one umbrella** -/
theorem uvSphere_umbrella {R C : Nat} (hR : 2 ≤ R) (hC : 3 ≤ C) {v : Nat} (hv : v < uvSphereNV R C) :
    UmbrellaCycle (uvSphereTris R C) v := by
  obtain ⟨hval, henc⟩ := uvEnc_uvDec hR hC hv
  have h := UmbrellaCycle.map_of_injOn (f := uvEnc R C) (UvValid R C) (fun t ht => sphereL_tri_valid hR hC ht) hval
    (uvEnc_injOn hR hC) (sphereL_umbrella hR hC _ hval)
  rwa [henc, ← uvSphereTris_eq_map hR] at h

/-- **every vertex of the hemisphere (the same pattern with every triangle reversed) has exactly one umbrella** -/
theorem hemisphere_umbrella {R C : Nat} (hR : 2 ≤ R) (hC : 3 ≤ C) {v : Nat} (hv : v < uvSphereNV R C) :
    UmbrellaCycle (hemisphereTris R C) v := by
  rw [hemisphereTris_eq_flip]
  exact (uvSphere_umbrella hR hC hv).flip

end PolyVerif.Solids
