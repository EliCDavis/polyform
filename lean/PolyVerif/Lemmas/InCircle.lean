/-
  The two predicates of Model/Delaunay, `orient` and `inCircleDet`, over an ordered commutative ring: symmetries, the
  lifted-paraboloid expansion, the pencil of circles over a chord (every relation between in-circle determinants with a
  common chord is linear algebra in `orient a b ·` and `pw a b ·`), circumcentres over a field.  No triangles, no lists.
-/
import PolyVerif.Model.Delaunay
import Mathlib.Tactic

namespace PolyVerif
namespace C20
open Delaunay

section Ring
variable {R : Type} [CommRing R] [LinearOrder R] [IsStrictOrderedRing R]

def dist2 (o p : Pt R) : R := (p.1 - o.1) * (p.1 - o.1) + (p.2 - o.2) * (p.2 - o.2)

section Identities
omit [LinearOrder R] [IsStrictOrderedRing R]

/-- The Go determinant, for ANY candidate centre `o` and squared radius `r`: the lifted-paraboloid
    expansion.  When `a b c` lie on the circle `(o, r)` only the first term survives. -/
theorem inCircleDet_eq (a b c p o : Pt R) (r : R) :
    inCircleDet a b c p =
      (r - dist2 o p) * orient a b c - (r - dist2 o a) * orient b c p
      + (r - dist2 o b) * orient a c p - (r - dist2 o c) * orient a b p := by
  simp only [inCircleDet, orient, dist2]; ring

theorem inCircleDet_on_circle (a b c p o : Pt R) (r : R)
    (ha : dist2 o a = r) (hb : dist2 o b = r) (hc : dist2 o c = r) :
    inCircleDet a b c p = (r - dist2 o p) * orient a b c := by
  rw [inCircleDet_eq a b c p o r, ha, hb, hc]; ring

theorem orient_rot (a b c : Pt R) : orient b c a = orient a b c ∧ orient c a b = orient a b c := by
  constructor <;> simp only [orient] <;> ring

theorem inCircleDet_rot (a b c x : Pt R) :
    inCircleDet b c a x = inCircleDet a b c x ∧ inCircleDet c a b x = inCircleDet a b c x := by
  constructor <;> simp only [inCircleDet] <;> ring

theorem orient_self (a b : Pt R) : orient a b a = 0 ∧ orient a b b = 0 := by
  constructor <;> simp only [orient] <;> ring

theorem orient_swap12 (a b x : Pt R) : orient b a x = - orient a b x := by
  simp only [orient]; ring

/-- the signed area of `a b c` split at any point `q` -/
theorem orient_split (a b c q : Pt R) : orient a b q + orient b c q + orient c a q = orient a b c := by
  simp only [orient]; ring

/-- power of `x` with respect to the circle on the diameter `a b` -/
def pw (a b x : Pt R) : R := (x.1 - a.1) * (x.1 - b.1) + (x.2 - a.2) * (x.2 - b.2)

theorem pw_swap (a b x : Pt R) : pw b a x = pw a b x := by
  simp only [pw]; ring

/-- The circles through `a` and `b` form the pencil spanned by the line `a b` (`orient a b · = 0`) and the circle on the
    diameter `a b` (`pw a b · = 0`); the in-circle determinant of `a b x` at `y` is the member through `x`, evaluated at
    `y`.  Every relation below between determinants over one chord is linear algebra in these two functionals. -/
theorem inCircleDet_pencil (a b x y : Pt R) :
    inCircleDet a b x y = orient a b y * pw a b x - orient a b x * pw a b y := by
  simp only [inCircleDet, orient, pw]; ring

/-- cyclic Grassmann–Plücker relation for three points over the chord `a b` -/
theorem pencil_identity (a b x y z : Pt R) :
    inCircleDet a b y z * orient a b x + inCircleDet a b z x * orient a b y + inCircleDet a b x y * orient a b z = 0 := by
  simp only [inCircleDet_pencil]; ring

theorem inCircleDet_swap34 (a b x y : Pt R) : inCircleDet a b y x = - inCircleDet a b x y := by
  simp only [inCircleDet_pencil]; ring

theorem inCircleDet_swap12 (a b x y : Pt R) : inCircleDet b a x y = - inCircleDet a b x y := by
  simp only [inCircleDet_pencil, orient_swap12 a b, pw_swap a b]; ring

/-- the same relation for five points with a common chord `a b`, two of the triangles written from the other side -/
theorem two_circle_identity (a b c q p : Pt R) :
    orient a b c * inCircleDet b a q p =
      inCircleDet b a q c * orient a b p - inCircleDet a b c p * orient a b q := by
  simp only [inCircleDet_pencil, orient_swap12 a b, pw_swap a b]; ring

theorem inCircleDet_corner (a b c : Pt R) :
    inCircleDet a b c a = 0 ∧ inCircleDet a b c b = 0 ∧ inCircleDet a b c c = 0 := by
  refine ⟨?_, ?_, ?_⟩ <;> simp only [inCircleDet_pencil, orient, pw] <;> ring

end Identities

/-- a point strictly on the inner side of all three edges: the triangle is strictly clockwise -/
theorem cw_of_inside {a b c q : Pt R} (h : orient a b q < 0 ∧ orient b c q < 0 ∧ orient c a q < 0) :
    orient a b c < 0 := by
  rw [← orient_split a b c q]; linarith

/-- `p` lies strictly inside the circle through `a b c`: some centre `o` and squared radius `r` with
    `|a-o|² = |b-o|² = |c-o|² = r` and `|p-o|² < r`. -/
def StrictlyInsideCircumcircle (a b c p : Pt R) : Prop :=
  ∃ (o : Pt R) (r : R), dist2 o a = r ∧ dist2 o b = r ∧ dist2 o c = r ∧ dist2 o p < r

/-- soundness direction (any ordered commutative ring): clockwise triangle, `p` strictly inside ⇒ `det < 0` -/
theorem inCircle_neg_of_inside (a b c p : Pt R) (hcw : orient a b c < 0)
    (h : StrictlyInsideCircumcircle a b c p) : inCircleDet a b c p < 0 := by
  obtain ⟨o, r, ha, hb, hc, hp⟩ := h
  rw [inCircleDet_on_circle a b c p o r ha hb hc]
  exact mul_neg_of_pos_of_neg (by linarith) hcw

/-- if the three vertices of `u` are on the closed outer side of the line `a b`, so is every point
    strictly inside `u` (`orient a b ·` is affine; barycentric identity) -/
theorem sep_key (a b u1 u2 u3 q : Pt R)
    (h1 : ¬ orient a b u1 < 0) (h2 : ¬ orient a b u2 < 0) (h3 : ¬ orient a b u3 < 0)
    (q1 : orient u1 u2 q < 0) (q2 : orient u2 u3 q < 0) (q3 : orient u3 u1 q < 0) :
    ¬ orient a b q < 0 := by
  intro hq
  have key : (orient u1 u2 q + orient u2 u3 q + orient u3 u1 q) * orient a b q =
      orient u2 u3 q * orient a b u1 + orient u3 u1 q * orient a b u2 + orient u1 u2 q * orient a b u3 := by
    simp only [orient]; ring
  push Not at h1 h2 h3
  have l : 0 < (orient u1 u2 q + orient u2 u3 q + orient u3 u1 q) * orient a b q :=
    mul_pos_of_neg_of_neg (by linarith) hq
  have r1 := mul_nonpos_of_nonpos_of_nonneg q2.le h1
  have r2 := mul_nonpos_of_nonpos_of_nonneg q3.le h2
  have r3 := mul_nonpos_of_nonpos_of_nonneg q1.le h3
  linarith

/-- **two_circle**: let `T = (a,b,c)` and `T' = (b,a,q)` be clockwise triangles on the two sides of the edge `a b`,
    locally Delaunay (`c` not strictly inside the circumcircle of `T'`).  A point `p` strictly inside the circumcircle
    of `T` that is NOT strictly on `T`'s side of the edge is strictly inside the circumcircle of `T'`. -/
theorem two_circle (a b c q p : Pt R) (hT : orient a b c < 0) (hT' : orient b a q < 0)
    (hloc : ¬ inCircleDet b a q c < 0) (hin : inCircleDet a b c p < 0) (hp : ¬ orient a b p < 0) :
    inCircleDet b a q p < 0 := by
  have hq : 0 < orient a b q := by rw [orient_swap12] at hT'; linarith
  have hid := two_circle_identity a b c q p
  have hpos : 0 < inCircleDet b a q c * orient a b p - inCircleDet a b c p * orient a b q := by
    have h1 : 0 ≤ inCircleDet b a q c * orient a b p := mul_nonneg (not_lt.mp hloc) (not_lt.mp hp)
    have h2 : inCircleDet a b c p * orient a b q < 0 := mul_neg_of_neg_of_pos hin hq
    linarith
  by_contra hcon
  have : orient a b c * inCircleDet b a q p ≤ 0 := mul_nonpos_of_nonpos_of_nonneg hT.le (not_lt.mp hcon)
  linarith

end Ring

section Field
variable {K : Type} [Field K] [LinearOrder K] [IsStrictOrderedRing K]

omit [LinearOrder K] [IsStrictOrderedRing K] in
/-- Cramer's rule -/
theorem exists_solve2 (p q r s e f : K) (h : p * s - q * r ≠ 0) : ∃ X Y, p * X + q * Y = e ∧ r * X + s * Y = f := by
  obtain ⟨i, hi⟩ : ∃ i, (p * s - q * r) * i = 1 := ⟨_, mul_inv_cancel₀ h⟩
  exact ⟨i * (s * e - q * f), i * (p * f - r * e), by linear_combination e * hi, by linear_combination f * hi⟩

/-- a non-degenerate triangle has a circumcentre `o = a + (X, Y)`: `|b − o|² = |a − o|²` is the linear equation
    `2 (b − a)·(X, Y) = |b − a|²`, likewise for `c`, and the determinant of the two is `4·orient a b c` -/
theorem circumcentre_exists (a b c : Pt K) (h : orient a b c ≠ 0) :
    ∃ o : Pt K, dist2 o b = dist2 o a ∧ dist2 o c = dist2 o a := by
  obtain ⟨X, Y, hb, hc⟩ := exists_solve2 (2 * (b.1 - a.1)) (2 * (b.2 - a.2)) (2 * (c.1 - a.1)) (2 * (c.2 - a.2))
    (dist2 a b) (dist2 a c) (by
      have : 2 * (b.1 - a.1) * (2 * (c.2 - a.2)) - 2 * (b.2 - a.2) * (2 * (c.1 - a.1)) = 4 * orient a b c := by
        simp only [orient]; ring
      rw [this]; exact mul_ne_zero four_ne_zero h)
  simp only [dist2] at hb hc ⊢
  exact ⟨(a.1 + X, a.2 + Y), by linear_combination (-1) * hb, by linear_combination (-1) * hc⟩

end Field

end C20
end PolyVerif
