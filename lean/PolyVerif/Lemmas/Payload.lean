/-
  Helper lemmas for C12 (core Lean only): every payload codec combinator of `PolyVerif.Model.Payload` keeps the
  round-trip law.
-/
import PolyVerif.Model.Payload
import PolyVerif.Lemmas.DepOrder

namespace PolyVerif
namespace Payload
open GraphIO

theorem expect_append (lit r : Txt) : expect lit (lit ++ r) = some r := by
  induction lit with
  | nil => cases r <;> rfl
  | cons a as ih => simp [expect, ih]

theorem span_digits {ds rest : Txt} (hd : ∀ c ∈ ds, isDigit c = true) (h : Delim rest) :
    (ds ++ rest).takeWhile isDigit = ds ∧ (ds ++ rest).dropWhile isDigit = rest := by
  induction ds with
  | nil =>
    cases rest with
    | nil => exact ⟨rfl, rfl⟩
    | cons c r =>
      have : isDigit c = false := by rcases h with rfl | rfl | rfl <;> decide
      simp [this]
  | cons c cs ih =>
    have hc := hd c List.mem_cons_self
    obtain ⟨i1, i2⟩ := ih (fun c' hc' => hd c' (List.mem_cons_of_mem _ hc'))
    simp [hc, i1, i2]

theorem parseNat_natDigits (n : Nat) {rest : Txt} (h : Delim rest) : parseNat (natDigits n ++ rest) = some (n, rest) := by
  obtain ⟨h1, h2, h3⟩ := natDigits_spec n
  obtain ⟨s1, s2⟩ := span_digits (fun c hc => (h3 c hc).1) h
  unfold parseNat
  rw [s1, s2]
  cases hn : natDigits n with
  | nil => exact absurd hn h2
  | cons d ds => simp [← hn, h1]

theorem boolC_lawful : boolC.Lawful := by
  refine ⟨fun a rest _ => by cases a <;> rfl, fun a => ?_⟩
  cases a
  · exact ⟨'f', "alse".toList, rfl, by decide⟩
  · exact ⟨'t', "rue".toList, rfl, by decide⟩

theorem intC_lawful : intC.Lawful := by
  refine ⟨fun i rest hd => ?_, fun i => ?_⟩
  · by_cases hi : i < 0
    · have : intC.print i = '-' :: natDigits i.natAbs := by simp [intC, printInt, hi]
      rw [this]
      simp only [intC, List.cons_append, parseNat_natDigits _ hd, Option.map_some]
      congr 2
      omega
    · have hp : intC.print i = natDigits i.toNat := by simp [intC, printInt, hi]
      obtain ⟨c, cs, hs, hc⟩ := natDigits_head i.toNat
      have hpn := parseNat_natDigits i.toNat hd
      rw [hp]
      rw [hs] at hpn ⊢
      simp only [intC, List.cons_append] at hpn ⊢
      split
      · rename_i r heq; cases heq; exact absurd hc (by decide)
      · rw [hpn]
        simp only [Option.map_some]
        congr 2
        omega
  · by_cases hi : i < 0
    · exact ⟨'-', natDigits i.natAbs, by simp [intC, printInt, hi], by decide⟩
    · obtain ⟨c, cs, hs, hc⟩ := natDigits_head i.toNat
      exact ⟨c, cs, by simp [intC, printInt, hi, hs], fun e => absurd (e ▸ hc) (by decide)⟩

theorem unhexNib_hexNib : ∀ n < 16, unhexNib (hexNib n) = some n := by decide

theorem needsU_small {c : Char} (h : needsU c = true) : c.toNat < 65536 := by
  simp only [needsU, Bool.or_eq_true, decide_eq_true_eq] at h
  rcases h with ((((h | h) | h) | h) | h) | h
  · omega
  · subst h; decide
  · subst h; decide
  · subst h; decide
  · omega
  · omega

theorem ite_ne_nil {α} {p : Prop} [Decidable p] {a b : List α} (ha : a ≠ []) (hb : b ≠ []) :
    (if p then a else b) ≠ [] := by
  split <;> assumption

theorem esc_ne_nil (c : Char) : esc c ≠ [] := by
  unfold esc
  iterate 8 refine ite_ne_nil (List.cons_ne_nil _ _) ?_
  exact List.cons_ne_nil _ _

theorem length_flatMap_esc (s : Txt) : s.length ≤ (s.flatMap esc).length := by
  induction s with
  | nil => simp
  | cons c cs ih =>
    simp only [List.flatMap_cons, List.length_append, List.length_cons]
    have : 0 < (esc c).length := List.length_pos_iff.mpr (esc_ne_nil c)
    omega

theorem unesc_esc_step (c : Char) (t : Txt) (f : Nat) :
    unesc (f + 1) (esc c ++ t) = (unesc f t).map fun (s, r) => (c :: s, r) := by
  unfold esc
  by_cases h1 : c = '"'
  · subst h1; simp [unesc]
  by_cases h2 : c = '\\'
  · subst h2; simp [unesc]
  by_cases h3 : c = '\n'
  · subst h3; simp [unesc]
  by_cases h4 : c = '\r'
  · subst h4; simp [unesc]
  by_cases h5 : c = '\t'
  · subst h5; simp [unesc]
  by_cases h6 : c.toNat = 8
  · have : c = Char.ofNat 8 := by rw [← h6, Char.ofNat_toNat]
    simp [unesc, this]
  by_cases h7 : c.toNat = 12
  · have : c = Char.ofNat 12 := by rw [← h7, Char.ofNat_toNat]
    simp [unesc, this]
  by_cases h8 : needsU c = true
  · have hs := needsU_small h8
    have e1 := unhexNib_hexNib (c.toNat / 4096 % 16) (Nat.mod_lt _ (by omega))
    have e2 := unhexNib_hexNib (c.toNat / 256 % 16) (Nat.mod_lt _ (by omega))
    have e3 := unhexNib_hexNib (c.toNat / 16 % 16) (Nat.mod_lt _ (by omega))
    have e4 := unhexNib_hexNib (c.toNat % 16) (Nat.mod_lt _ (by omega))
    have hv : ((c.toNat / 4096 % 16 * 16 + c.toNat / 256 % 16) * 16 + c.toNat / 16 % 16) * 16 + c.toNat % 16 = c.toNat := by
      omega
    simp [h1, h2, h3, h4, h5, h6, h7, h8, unesc, hex4, e1, e2, e3, e4, hv, Char.ofNat_toNat]
  · simp [h1, h2, h3, h4, h5, h6, h7, h8, unesc]

theorem unesc_flatMap (s rest : Txt) (f : Nat) (hf : s.length < f) :
    unesc f (s.flatMap esc ++ '"' :: rest) = some (s, rest) := by
  induction s generalizing f with
  | nil =>
    obtain ⟨f', rfl⟩ : ∃ f', f = f' + 1 := ⟨f - 1, by omega⟩
    simp [unesc]
  | cons c cs ih =>
    obtain ⟨f', rfl⟩ : ∃ f', f = f' + 1 := ⟨f - 1, by omega⟩
    simp only [List.flatMap_cons, List.append_assoc]
    rw [unesc_esc_step, ih f' (by simpa using hf)]
    rfl

theorem strC_lawful : strC.Lawful := by
  refine ⟨?_, fun a => ⟨'"', _, rfl, by decide⟩⟩
  intro s rest _
  show unesc ((s.flatMap esc ++ ['"'] ++ rest).length + 1) (s.flatMap esc ++ ['"'] ++ rest) = some (s, rest)
  rw [List.append_assoc]
  apply unesc_flatMap
  have := length_flatMap_esc s
  simp only [List.length_append, List.length_cons, List.length_nil]
  omega

theorem length_printElems {α : Type} (c : Codec α) (l : List α) : l.length ≤ (printElems c l).length := by
  induction l with
  | nil => simp [printElems]
  | cons a as ih =>
    cases as with
    | nil => simp [printElems]
    | cons b r =>
      simp only [printElems, List.length_append, List.length_cons] at ih ⊢
      omega

theorem parseElems_printElems {α : Type} {c : Codec α} (hc : c.Lawful) (l : List α) (hl : l ≠ []) (rest : Txt)
    (f : Nat) (hf : l.length ≤ f) : parseElems c f (printElems c l ++ rest) = some (l, rest) := by
  induction l generalizing f with
  | nil => exact absurd rfl hl
  | cons a as ih =>
    obtain ⟨f', rfl⟩ : ∃ f', f = f' + 1 := ⟨f - 1, by simp at hf; omega⟩
    cases as with
    | nil =>
      simp only [printElems, parseElems, List.append_assoc, List.singleton_append]
      rw [hc.law a (']' :: rest) (Or.inr (Or.inl rfl))]
      simp
    | cons b r =>
      simp only [printElems, parseElems, List.append_assoc, List.cons_append]
      rw [hc.law a (',' :: (printElems c (b :: r) ++ rest)) (Or.inl rfl)]
      simp only
      rw [ih (by simp) f' (by simp at hf ⊢; omega)]
      rfl

theorem arrC_lawful {α : Type} {c : Codec α} (hc : c.Lawful) : (arrC c).Lawful := by
  refine ⟨?_, fun a => ⟨'[', _, rfl, by decide⟩⟩
  intro l rest _
  cases l with
  | nil => rfl
  | cons a as =>
    obtain ⟨h, t, hp, hne⟩ := hc.head a
    have hstart : ∃ t', printElems c (a :: as) ++ rest = h :: t' := by
      cases as with
      | nil => exact ⟨t ++ ']' :: rest, by simp [printElems, hp]⟩
      | cons b r => exact ⟨t ++ ',' :: (printElems c (b :: r) ++ rest), by simp [printElems, hp]⟩
    obtain ⟨t', ht'⟩ := hstart
    have hlen := length_printElems c (a :: as)
    show (match '[' :: printElems c (a :: as) ++ rest with
      | '[' :: ']' :: r => some ([], r)
      | '[' :: r => parseElems c (r.length + 1) r
      | _ => none) = some (a :: as, rest)
    simp only [List.cons_append]
    rw [ht']
    split
    · rename_i r heq
      simp only [List.cons.injEq, true_and] at heq
      exact absurd heq.1 hne
    · rename_i r _ heq
      simp only [List.cons.injEq, true_and] at heq
      subst heq
      rw [← ht']
      apply parseElems_printElems hc _ (by simp)
      simp only [List.length_append] at hlen ⊢
      omega
    · rename_i h1 h2
      exact absurd rfl (h2 _)

theorem sliceC_lawful {α : Type} {c : Codec α} (hc : c.Lawful) : (sliceC c).Lawful := by
  refine ⟨?_, ?_⟩
  · intro o rest hd
    cases o with
    | none =>
      show (match expect "null".toList ("null".toList ++ rest) with
        | some r => some (none, r)
        | none => ((arrC c).parse ("null".toList ++ rest)).map fun (l, t) => (some l, t)) = some (none, rest)
      rw [expect_append]
    | some l =>
      show (match expect "null".toList ((arrC c).print l ++ rest) with
        | some r => some (none, r)
        | none => ((arrC c).parse ((arrC c).print l ++ rest)).map fun (l, t) => (some l, t)) = some (some l, rest)
      have : expect "null".toList ((arrC c).print l ++ rest) = none := by simp [arrC, expect]
      rw [this, (arrC_lawful hc).law l rest hd]
      rfl
  · intro o
    cases o with
    | none => exact ⟨'n', "ull".toList, rfl, by decide⟩
    | some l => exact ⟨'[', _, rfl, by decide⟩

theorem whole_law {α : Type} {c : Codec α} (hc : c.Lawful) (a : α) : whole (c.parse (c.print a)) = some a := by
  have := hc.law a [] trivial
  rw [List.append_nil] at this
  rw [this]
  rfl

theorem obj2_lawful {α β : Type} (k1 k2 : String) {c1 : Codec α} {c2 : Codec β} (h1 : c1.Lawful) (h2 : c2.Lawful) :
    (obj2 k1 k2 c1 c2).Lawful := by
  refine ⟨?_, fun a => ⟨'{', _, rfl, by decide⟩⟩
  rintro ⟨a, b⟩ rest _
  have e : (obj2 k1 k2 c1 c2).print (a, b) ++ rest =
      ('{' :: keyTxt k1) ++ (c1.print a ++ ((',' :: keyTxt k2) ++ (c2.print b ++ ('}' :: rest)))) := by
    simp [obj2]
  have l1 := h1.law a ((',' :: keyTxt k2) ++ (c2.print b ++ ('}' :: rest))) (Or.inl rfl)
  have l2 := h2.law b ('}' :: rest) (Or.inr (Or.inr rfl))
  rw [e]
  simp only [obj2, expect_append, l1, l2]
  simp [expect]

theorem obj3_lawful {α β γ : Type} (k1 k2 k3 : String) {c1 : Codec α} {c2 : Codec β} {c3 : Codec γ}
    (h1 : c1.Lawful) (h2 : c2.Lawful) (h3 : c3.Lawful) : (obj3 k1 k2 k3 c1 c2 c3).Lawful := by
  refine ⟨?_, fun a => ⟨'{', _, rfl, by decide⟩⟩
  rintro ⟨a, b, g⟩ rest _
  have e : (obj3 k1 k2 k3 c1 c2 c3).print (a, b, g) ++ rest =
      ('{' :: keyTxt k1) ++ (c1.print a ++ ((',' :: keyTxt k2) ++ (c2.print b ++ ((',' :: keyTxt k3) ++ (c3.print g ++ ('}' :: rest)))))) := by
    simp [obj3]
  have l1 := h1.law a ((',' :: keyTxt k2) ++ (c2.print b ++ ((',' :: keyTxt k3) ++ (c3.print g ++ ('}' :: rest))))) (Or.inl rfl)
  have l2 := h2.law b ((',' :: keyTxt k3) ++ (c3.print g ++ ('}' :: rest))) (Or.inl rfl)
  have l3 := h3.law g ('}' :: rest) (Or.inr (Or.inr rfl))
  rw [e]
  simp only [obj3, expect_append, l1, l2, l3]
  simp [expect]

end Payload
end PolyVerif
