/-
  SplitOnUniqueMaterials (C02, C03): the range loop assigns every triangle the material of the written-out
  ranges; the working meshes group the triangles by that material, in order of first appearance.
  `split_groups` says what the model returns; well-formedness of the parts and the contract `SplitSpec` follow.
-/
import PolyVerif.Lemmas.MeshCorners

namespace PolyVerif.Mesh
variable {α : Type}

namespace MeshVal

/-- the material the split loop assigns to each triangle (same recursion as `splitLoop`) -/
def assignLoop : List (Nat × Nat × Nat) → Nat → List MatRange → Nat → Option (List Nat)
  | [], _, _, _ => some []
  | _ :: ts, tri, rest, other =>
    match advanceMat rest other tri with
    | none => none
    | some (rest', other') =>
      match rest' with
      | [] => none
      | r :: _ => (assignLoop ts (tri + 1) rest' other').map (r.mat :: ·)

def groupFold (parts : List (Nat × List Nat)) (l : List (Nat × (Nat × Nat × Nat))) : List (Nat × List Nat) :=
  l.foldl (fun ps e => addToPart ps e.1 e.2) parts

theorem splitLoop_eq : ∀ (ts : List (Nat × Nat × Nat)) (tri : Nat) (rest : List MatRange) (other : Nat)
    (parts : List (Nat × List Nat)),
    splitLoop ts tri rest other parts =
      (assignLoop ts tri rest other).map fun mats => groupFold parts (mats.zip ts)
  | [], _, _, _, parts => by simp [splitLoop, assignLoop, groupFold]
  | t :: ts, tri, rest, other, parts => by
    simp only [splitLoop, assignLoop]
    cases advanceMat rest other tri with
    | none => rfl
    | some ro =>
      obtain ⟨rest', other'⟩ := ro
      cases rest' with
      | nil => rfl
      | cons r rs =>
        simp only [splitLoop_eq ts (tri + 1) (r :: rs) other' _, Option.map_map]
        congr 1

def sel (μ : Nat) (l : List (Nat × (Nat × Nat × Nat))) : List Nat :=
  untriples ((l.filter fun e => e.1 == μ).map (·.2))

theorem sel_snoc (μ : Nat) (l : List (Nat × (Nat × Nat × Nat))) (e : Nat × (Nat × Nat × Nat)) :
    sel μ (l ++ [e]) = sel μ l ++ (if e.1 == μ then [e.2.1, e.2.2.1, e.2.2.2] else []) := by
  simp only [sel, List.filter_append, List.map_append, untriples_append]
  cases h : (e.1 == μ) <;> simp [h, untriples]

def GroupInv (parts : List (Nat × List Nat)) (done : List (Nat × (Nat × Nat × Nat))) : Prop :=
  (∀ q ∈ parts, q.2 = sel q.1 done) ∧ (∀ e ∈ done, parts.any (fun p => p.1 == e.1) = true)

theorem addToPart_groupInv {parts : List (Nat × List Nat)} {done : List (Nat × (Nat × Nat × Nat))}
    (h : GroupInv parts done) (e : Nat × (Nat × Nat × Nat)) :
    GroupInv (addToPart parts e.1 e.2) (done ++ [e]) := by
  -- every material seen so far, `e`'s included if it has a working mesh, keeps its working mesh
  have hkeep : parts.any (fun p => p.1 == e.1) = true → ∀ e' ∈ done ++ [e], parts.any (fun p => p.1 == e'.1) = true := by
    intro hany e' he'
    rcases List.mem_append.mp he' with he' | he'
    · exact h.2 e' he'
    · rw [List.mem_singleton.mp he']; exact hany
  unfold addToPart
  split
  · rename_i hany
    refine ⟨fun q hq => ?_, fun e' he' => ?_⟩
    · obtain ⟨q0, hq0, rfl⟩ := List.mem_map.mp hq
      rw [sel_snoc]
      have := h.1 q0 hq0
      by_cases hk : q0.1 = e.1
      · simp [hk, this.trans (congrArg (sel · done) hk)]
      · simp [hk, Ne.symm hk, ← this]
    · obtain ⟨p, hp, hpe⟩ := List.any_eq_true.mp (hkeep hany e' he')
      rw [List.any_map]
      exact List.any_eq_true.mpr ⟨p, hp, by simp only [Function.comp]; split <;> simpa using hpe⟩
  · rename_i hany
    have hnone : ∀ q ∈ parts, ¬ q.1 = e.1 := fun q hq hk => hany (List.any_eq_true.mpr ⟨q, hq, by simp [hk]⟩)
    -- a new material has collected nothing yet
    have hsel0 : sel e.1 done = [] := by
      have : (done.filter fun e' => e'.1 == e.1) = [] := by
        refine List.filter_eq_nil_iff.mpr fun e' he' hk => ?_
        obtain ⟨p, hp, hpe⟩ := List.any_eq_true.mp (h.2 e' he')
        exact hnone p hp ((beq_iff_eq.mp hpe).trans (beq_iff_eq.mp hk))
      simp [sel, this, untriples]
    refine ⟨fun q hq => ?_, fun e' he' => ?_⟩
    · rcases List.mem_append.mp hq with hq | hq
      · rw [sel_snoc, if_neg (by simpa using fun h' => hnone q hq h'.symm), List.append_nil]
        exact h.1 q hq
      · rw [List.mem_singleton.mp hq, sel_snoc, hsel0]; simp
    · rw [List.any_append, Bool.or_eq_true]
      rcases List.mem_append.mp he' with he' | he'
      · exact Or.inl (h.2 e' he')
      · right; simp [List.mem_singleton.mp he']

theorem groupFold_inv : ∀ (l : List (Nat × (Nat × Nat × Nat))) (parts : List (Nat × List Nat))
    (done : List (Nat × (Nat × Nat × Nat))), GroupInv parts done → GroupInv (groupFold parts l) (done ++ l)
  | [], parts, done, h => by simpa [groupFold] using h
  | e :: l, parts, done, h => by
    have := groupFold_inv l (addToPart parts e.1 e.2) (done ++ [e]) (addToPart_groupInv h e)
    simpa [groupFold] using this

/-- selecting the triangles of material `μ` = keeping the corners flagged by the assignment -/
theorem sel_eq_keepAt (μ : Nat) : ∀ (l : List Nat) (assign : List Nat), assign.length = (triples l).length →
    sel μ (assign.zip (triples l)) = keepAt (assign.flatMap fun ν => List.replicate 3 (ν == μ)) l
  | [], assign, h | [_], assign, h | [_, _], assign, h => by
    obtain rfl : assign = [] := List.eq_nil_of_length_eq_zero (by simpa [triples] using h)
    simp [sel, untriples, keepAt]
  | a :: b :: c :: rest, [], h => by simp [triples] at h
  | a :: b :: c :: rest, ν :: as, h => by
    have ih := sel_eq_keepAt μ rest as (by simpa [triples] using h)
    simp only [sel] at ih ⊢
    simp only [triples, List.zip_cons_cons, List.filter_cons, List.flatMap_cons]
    cases hν : (ν == μ) <;> simp [untriples, ih, keepAt_eq, List.replicate, compact_cons]

theorem matOfTris_cons (r : MatRange) (rs : List MatRange) :
    matOfTris (r :: rs) = List.replicate r.count r.mat ++ matOfTris rs := by
  simp [matOfTris]

theorem advanceMat_spec : ∀ (rest : List MatRange) (other tri : Nat) (rest' : List MatRange) (other' : Nat),
    advanceMat rest other tri = some (rest', other') → other ≤ tri →
    other' ≤ tri ∧ (matOfTris rest).drop (tri - other) = (matOfTris rest').drop (tri - other') ∧
    (∀ r rs, rest' = r :: rs → tri - other' < r.count)
  | [], _, _, _, _, h, _ => by simp [advanceMat] at h
  | r :: rs, other, tri, rest', other', h, hle => by
    simp only [advanceMat] at h
    split at h
    · rename_i hc
      obtain ⟨h1, h2, h3⟩ := advanceMat_spec rs (other + r.count) tri rest' other' h (by omega)
      refine ⟨h1, ?_, h3⟩
      rw [matOfTris_cons, drop_replicate_append_ge _ _ _ _ (by omega), ← h2]
      congr 1; omega
    · rename_i hc
      simp only [Option.some.injEq, Prod.mk.injEq] at h
      obtain ⟨rfl, rfl⟩ := h
      refine ⟨hle, rfl, ?_⟩
      intro r' rs' heq
      simp only [List.cons.injEq] at heq
      rw [← heq.1]; omega

theorem assignLoop_spec : ∀ (ts : List (Nat × Nat × Nat)) (tri : Nat) (rest : List MatRange) (other : Nat)
    (assign : List Nat), assignLoop ts tri rest other = some assign → other ≤ tri →
    assign = ((matOfTris rest).drop (tri - other)).take ts.length ∧ assign.length = ts.length
  | [], _, _, _, assign, h, _ => by simp only [assignLoop, Option.some.injEq] at h; subst h; simp
  | t :: ts, tri, rest, other, assign, h, hle => by
    simp only [assignLoop] at h
    split at h
    · cases h
    · rename_i rest' other' hadv
      split at h
      · cases h
      · rename_i r rs
        simp only [Option.map_eq_some_iff] at h
        obtain ⟨as, has, rfl⟩ := h
        obtain ⟨h1, h2, h3⟩ := advanceMat_spec rest other tri _ other' hadv hle
        obtain ⟨ih, ihl⟩ := assignLoop_spec ts (tri + 1) (r :: rs) other' as has (by omega)
        refine ⟨?_, by simp [ihl]⟩
        rw [h2, matOfTris_cons, drop_replicate_append_lt _ _ _ _ (h3 r rs rfl), List.length_cons, List.take_succ_cons]
        rw [ih, matOfTris_cons]
        congr 3; omega

def keyStep (acc : List Nat) (x : Nat) : List Nat := if acc.contains x then acc else acc ++ [x]

theorem addToPart_keys (parts : List (Nat × List Nat)) (μ : Nat) (t : Nat × Nat × Nat) :
    (addToPart parts μ t).map (·.1) = keyStep (parts.map (·.1)) μ := by
  unfold addToPart keyStep
  have hany : parts.any (fun p => p.1 == μ) = (parts.map (·.1)).contains μ := by
    simp only [List.contains_eq_any_beq, List.any_map, Function.comp_def, Bool.beq_comm (a := μ)]
  rw [hany]
  split
  · rw [List.map_map]
    apply List.map_congr_left
    intro p _
    simp only [Function.comp]
    split <;> rfl
  · simp

theorem groupFold_keys : ∀ (l : List (Nat × (Nat × Nat × Nat))) (parts : List (Nat × List Nat)),
    (groupFold parts l).map (·.1) = (l.map (·.1)).foldl keyStep (parts.map (·.1))
  | [], parts => rfl
  | e :: l, parts => by
    have := groupFold_keys l (addToPart parts e.1 e.2)
    simp only [groupFold, List.foldl_cons, List.map_cons] at this ⊢
    rw [this, addToPart_keys]

theorem split_single (m : MeshVal α) (h : m.materials.length < 2) : m.splitOnMaterials = some [m] := by
  unfold splitOnMaterials
  match hm : m.materials with
  | [] | [_] => rfl
  | _ :: _ :: _ => rw [hm] at h; simp at h; omega

variable {m : MeshVal α}

/-- what a successful split of a mesh with two or more ranges returns: the written-out ranges cover the triangles
    (`assign`); one working mesh per material, in order of first appearance after the first range's material, each
    holding exactly the corners of the triangles assigned its material -/
theorem split_groups {parts : List (MeshVal α)} (h2 : 2 ≤ m.materials.length)
    (hs : m.splitOnMaterials = some parts) :
    m.topology = .triangle ∧ ∃ groups : List (Nat × List Nat),
      ((matOfTris m.materials).take (triples m.indices).length).length = (triples m.indices).length ∧
      parts = groups.map (fun q => ((m.setIndices q.2).setMaterial q.1).removeUnreferenced) ∧
      groups.map (·.1) = dedupNat ((m.materials.map (·.mat)).take 1 ++
        (matOfTris m.materials).take (triples m.indices).length) ∧
      (∀ q ∈ groups,
        q.2 = keepAt (((matOfTris m.materials).take (triples m.indices).length).flatMap fun ν =>
                List.replicate 3 (ν == q.1)) m.indices ∧
        q.2.length = 3 * (((matOfTris m.materials).take (triples m.indices).length).filter (· == q.1)).length) ∧
      ∀ μ ∈ (matOfTris m.materials).take (triples m.indices).length, ∃ q ∈ groups, q.1 = μ := by
  unfold splitOnMaterials at hs
  split at hs
  · rename_i hm; rw [hm] at h2; simp at h2
  · rename_i hm; rw [hm] at h2; simp at h2
  · rename_i _ r0 _ _ hmeq
    split at hs
    case isFalse => cases hs
    case isTrue ht =>
      rw [splitLoop_eq] at hs
      simp only [Option.map_map, Option.map_eq_some_iff] at hs
      obtain ⟨assign, hassign, hparts⟩ := hs
      obtain ⟨hA, hlen⟩ := assignLoop_spec _ 0 _ 0 assign hassign (Nat.le_refl _)
      rw [Nat.sub_self, List.drop_zero] at hA
      subst hA
      generalize hA : (matOfTris m.materials).take (triples m.indices).length = assign at *
      have hinv : GroupInv (groupFold [(r0.mat, [])] (assign.zip (triples m.indices))) (assign.zip (triples m.indices)) := by
        simpa using groupFold_inv (assign.zip (triples m.indices)) [(r0.mat, [])] []
          ⟨by intro q hq; simp at hq; subst hq; simp [sel, untriples], by simp⟩
      refine ⟨ht, _, hlen, hparts.symm, ?_, fun q hq => ⟨?_, ?_⟩, fun μ hμ => ?_⟩
      · rw [groupFold_keys, zip_map_fst assign _ hlen, hmeq]
        rfl
      · rw [hinv.1 q hq, sel_eq_keepAt q.1 m.indices assign hlen]
      · rw [hinv.1 q hq, sel, length_untriples, List.length_map, zip_filter_length q.1 assign _ hlen]
      · -- some triangle has material μ, so a working mesh with key μ exists
        obtain ⟨j, hj, hjμ⟩ := List.getElem_of_mem hμ
        have hmem : (μ, (triples m.indices)[j]'(by omega)) ∈ assign.zip (triples m.indices) := by
          rw [List.mem_iff_getElem]
          exact ⟨j, by rw [List.length_zip]; omega, by simp [List.getElem_zip, hjμ]⟩
        obtain ⟨q, hq, hqk⟩ := List.any_eq_true.mp (hinv.2 _ hmem)
        exact ⟨q, hq, by simpa using hqk⟩

theorem split_part_wf (h : WF m) (ht : m.topology = .triangle) {q : Nat × List Nat} {fl : List Bool}
    {n : Nat} (hq : q.2 = keepAt fl m.indices) (hl : q.2.length = 3 * n) : WF ((m.setIndices q.2).setMaterial q.1) := by
  rw [hq]
  exact setIndices_keepAt_wf h fl (by rw [← hq, ht]; show q.2.length % 3 = 0; omega)

/-- one working mesh turns into the sub-mesh of the triangles of its material -/
theorem split_part_spec (h : WF m) (ht : m.topology = .triangle) (assign : List Nat)
    {q : Nat × List Nat} (hq : q.2 = keepAt (assign.flatMap fun ν => List.replicate 3 (ν == q.1)) m.indices)
    (hl : q.2.length = 3 * (assign.filter (· == q.1)).length) :
    PartSpec m assign ((m.setIndices q.2).setMaterial q.1).removeUnreferenced q.1 := by
  refine ⟨rfl, ?_, ?_⟩
  · show [MatRange.mk (q.2.length / m.topology.indexSize) q.1] = _
    rw [ht, hl]; congr 2; exact Nat.mul_div_cancel_left _ (by decide)
  · rw [removeUnreferenced_corners (split_part_wf h ht hq hl)]
    show (if q.2 = [] then [] else (m.setIndices q.2).corners) = _
    rw [hq, setIndices_keepAt_corners]

end MeshVal
end PolyVerif.Mesh
