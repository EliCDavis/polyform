import Lean.Meta.Tactic.Simp.RegisterCommand

/-- the operations of `Model/Vec.lean` written out in coordinates (polynomial operations only: no `Length`, `Normalized`,
    `Distance`, which stay atoms until a lemma of `Lemmas/RealVec.lean` speaks about them) -/
register_simp_attr v3
