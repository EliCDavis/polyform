/-
  Combinatorics of one Bowyer–Watson insertion (Model/Delaunay: `edges`, `polygon`, `fillHole`, `step`), with no geometry:
  nothing here uses a property of the point function or of the predicates.  `mem_polygon_iff` / `mem_polygon_iff_boundary`
  describe the hole boundary as a set of directed edges, `step_spec` the new state as a set of triangles, `fan_pairing` is
  the re-triangulation of a hole by a fan as a statement about sets of triangles and directed edges.
-/
import PolyVerif.Model.Delaunay

set_option linter.unusedSectionVars false

namespace PolyVerif
namespace C20
open Delaunay

theorem mem_edges {t : Tri} {e : Edge} :
    e ∈ edges t ↔ e = (t.1, t.2.1) ∨ e = (t.2.1, t.2.2) ∨ e = (t.2.2, t.1) := by
  simp [edges]

theorem edge_verts (t : Tri) (e : Edge) (he : e ∈ edges t) :
    (e.1 = t.1 ∨ e.1 = t.2.1 ∨ e.1 = t.2.2) ∧ (e.2 = t.1 ∨ e.2 = t.2.1 ∨ e.2 = t.2.2) := by
  obtain ⟨t1, t2, t3⟩ := t
  rcases mem_edges.mp he with rfl | rfl | rfl <;> simp

theorem mem_insertTri_iff {t u : Tri} {tris : List Tri} : u ∈ insertTri t tris ↔ u = t ∨ u ∈ tris := by
  unfold insertTri
  split
  · rename_i h
    exact ⟨Or.inr, fun h' => h'.elim (fun e => e ▸ by simpa using h) id⟩
  · simp only [List.mem_append, List.mem_singleton]; exact or_comm

theorem insertTri_nodup {t : Tri} {tris : List Tri} (h : tris.Nodup) : (insertTri t tris).Nodup := by
  unfold insertTri
  split
  · exact h
  · rename_i hc
    refine List.nodup_append.mpr ⟨h, List.nodup_cons.mpr ⟨List.not_mem_nil, List.nodup_nil⟩, fun a ha b hb hab => hc ?_⟩
    rw [List.mem_singleton.mp hb] at hab
    simpa [hab] using ha

theorem mem_polygon {bad : List Tri} {e : Edge} (h : e ∈ polygon bad) : ∃ t ∈ bad, e ∈ edges t := by
  simp only [polygon, List.mem_flatMap, List.mem_filter] at h
  obtain ⟨⟨t, ti⟩, hmem, he, _⟩ := h
  exact ⟨t, (List.mem_zipIdx hmem).2.2 ▸ List.getElem_mem _, he⟩

theorem edgeSame_iff {e f : Edge} : edgeSame e f = true ↔ f = e ∨ f = (e.2, e.1) := by
  obtain ⟨a, b⟩ := e
  obtain ⟨c, d⟩ := f
  simp only [edgeSame, Bool.or_eq_true, Bool.and_eq_true, beq_iff_eq, Prod.mk.injEq]
  exact or_congr ⟨fun h => ⟨h.1.symm, h.2.symm⟩, fun h => ⟨h.1.symm, h.2.symm⟩⟩
    ⟨fun h => ⟨h.2.symm, h.1.symm⟩, fun h => ⟨h.2.symm, h.1.symm⟩⟩

theorem sharedWithOther_eq_false {bad : List Tri} {ti : Nat} {e : Edge} :
    sharedWithOther bad ti e = false ↔
      ∀ j o, bad[j]? = some o → j ≠ ti → e ∉ edges o ∧ (e.2, e.1) ∉ edges o := by
  simp only [sharedWithOther, List.any_eq_false, List.mem_zipIdx_iff_getElem?, Bool.and_eq_true, bne_iff_ne,
    ne_eq, List.any_eq_true, not_and, not_exists, edgeSame_iff]
  constructor
  · intro h j o hj hne
    exact ⟨fun he => h (o, j) hj (Ne.symm hne) e he (Or.inl rfl), fun he => h (o, j) hj (Ne.symm hne) _ he (Or.inr rfl)⟩
  · rintro h ⟨o, j⟩ hj hne f hf (rfl | rfl)
    · exact (h j o hj (Ne.symm hne)).1 hf
    · exact (h j o hj (Ne.symm hne)).2 hf

/-- position-free characterisation of the hole boundary of a duplicate-free bad list -/
theorem mem_polygon_iff {bad : List Tri} (hn : bad.Nodup) (e : Edge) :
    e ∈ polygon bad ↔ ∃ t ∈ bad, e ∈ edges t ∧ ∀ o ∈ bad, o ≠ t → e ∉ edges o ∧ (e.2, e.1) ∉ edges o := by
  simp only [polygon, List.mem_flatMap, List.mem_filter, Bool.not_eq_true', sharedWithOther_eq_false,
    List.mem_zipIdx_iff_getElem?]
  constructor
  · rintro ⟨⟨t, i⟩, hi, he, hs⟩
    refine ⟨t, List.mem_of_getElem? hi, he, fun o ho hne => ?_⟩
    obtain ⟨j, hj⟩ := List.getElem?_of_mem ho
    exact hs j o hj fun hji => hne (Option.some.inj ((hji ▸ hj).symm.trans hi))
  · rintro ⟨t, ht, he, hs⟩
    obtain ⟨i, hi⟩ := List.getElem?_of_mem ht
    refine ⟨(t, i), hi, he, fun j o hj hne => hs o (List.mem_of_getElem? hj) ?_⟩
    rintro rfl
    exact hne ((List.getElem?_inj (List.getElem?_eq_some_iff.mp hj).1 hn).mp (hj.trans hi.symm))

/-- **bw_polygon_order_independent**: the hole-boundary edge SET does not depend on the order in which the
    bad triangles were enumerated -/
theorem bw_polygon_order_independent {bad bad' : List Tri} (hp : bad.Perm bad') (hn : bad.Nodup) (e : Edge) :
    e ∈ polygon bad ↔ e ∈ polygon bad' := by
  rw [mem_polygon_iff hn, mem_polygon_iff (hp.nodup_iff.mp hn)]
  exact exists_congr fun t => and_congr hp.mem_iff
    (and_congr_right' (forall_congr' fun o => imp_congr_left hp.mem_iff))

section
variable {R : Type} [Add R] [Sub R] [Mul R] [Zero R] [LT R] [DecidableLT R]

/-- `fillHole` as a set: the old triangles plus the fan triangle of every boundary edge not touching the point -/
theorem mem_fillHole (P : Nat → Pt R) (pi : Nat) (poly : List Edge) (tris : List Tri) (t : Tri) :
    t ∈ fillHole P poly pi tris ↔
      t ∈ tris ∨ ∃ e ∈ poly, (e.1 == pi || e.2 == pi) = false ∧ t = fanTri P e pi := by
  induction poly generalizing tris with
  | nil => simp [fillHole]
  | cons e es ih =>
    rw [fillHole, List.foldl_cons, ← fillHole, ih]
    cases hc : (e.1 == pi || e.2 == pi)
    · simp only [Bool.false_eq_true, if_false, mem_insertTri_iff, List.mem_cons, exists_eq_or_imp, hc, true_and]
      rw [or_comm (a := t = fanTri P e pi), or_assoc]
    · simp only [if_true, List.mem_cons, exists_eq_or_imp, hc, Bool.true_eq_false, false_and, false_or]

theorem fillHole_nodup (P : Nat → Pt R) (pi : Nat) (poly : List Edge) :
    ∀ tris : List Tri, tris.Nodup → (fillHole P poly pi tris).Nodup := by
  induction poly with
  | nil => exact fun _ h => h
  | cons e es ih =>
    intro tris h
    rw [fillHole, List.foldl_cons]
    split
    · exact ih _ h
    · exact ih _ (insertTri_nodup h)

/-- whatever the enumeration does, a step only keeps old triangles and adds fan triangles over the hole boundary -/
theorem mem_step_imp (P : Nat → Pt R) (env : List Tri → List Tri) {tris : List Tri} {pi : Nat} {t : Tri}
    (h : t ∈ step P env tris pi) :
    t ∈ tris ∨ ∃ e ∈ polygon (badTris P env tris pi), t = fanTri P e pi := by
  rcases (mem_fillHole P pi _ _ t).mp h with h | ⟨e, he, -, rfl⟩
  · exact Or.inl (List.mem_filter.mp h).1
  · exact Or.inr ⟨e, he, rfl⟩

/-- `fillHole` as a set, and it keeps the list duplicate-free -/
theorem fillHole_spec (P : Nat → Pt R) (pi : Nat) (poly : List Edge) :
    ∀ tris : List Tri, tris.Nodup →
      (fillHole P poly pi tris).Nodup ∧
      ∀ t, t ∈ fillHole P poly pi tris ↔
        t ∈ tris ∨ ∃ e ∈ poly, (e.1 == pi || e.2 == pi) = false ∧ t = fanTri P e pi :=
  fun tris h => ⟨fillHole_nodup P pi poly tris h, mem_fillHole P pi poly tris⟩

section
-- Arguments of every lemma of this section, in this order: `P env henv`; from `step_perm` on `P env env' henv henv'`.
variable (P : Nat → Pt R) (env env' : List Tri → List Tri) (henv : ∀ l, (env l).Perm l) (henv' : ∀ l, (env' l).Perm l)
include henv

/-- one insertion step as a set -/
theorem step_spec (tris : List Tri) (hn : tris.Nodup) (pi : Nat) :
    (step P env tris pi).Nodup ∧
    ∀ t, t ∈ step P env tris pi ↔
      (t ∈ tris ∧ insideCirc P t (P pi) = false) ∨
      ∃ e ∈ polygon (tris.filter (fun t => insideCirc P t (P pi))),
        (e.1 == pi || e.2 == pi) = false ∧ t = fanTri P e pi := by
  have hbadp : (badTris P env tris pi).Perm (tris.filter (fun t => insideCirc P t (P pi))) :=
    (henv tris).filter _
  have hbadn : (badTris P env tris pi).Nodup := ((henv tris).nodup_iff.mpr hn).filter _
  unfold step
  obtain ⟨h1, h2⟩ := fillHole_spec P pi (polygon (badTris P env tris pi))
    (tris.filter (fun t => !(badTris P env tris pi).contains t)) (hn.filter _)
  refine ⟨h1, fun t => ?_⟩
  have hk : t ∈ tris.filter (fun t => !(badTris P env tris pi).contains t) ↔
      (t ∈ tris ∧ insideCirc P t (P pi) = false) := by
    simp only [List.mem_filter, Bool.not_eq_true', List.contains_eq_mem, decide_eq_false_iff_not, hbadp.mem_iff,
      not_and, Bool.not_eq_true]
    exact and_congr_right fun a => ⟨fun b => b a, fun b _ => b⟩
  rw [h2 t, hk]
  exact or_congr Iff.rfl (exists_congr fun e => and_congr_left' (bw_polygon_order_independent hbadp hbadn e))

include henv'

/-- one step from permuted states with two enumerations gives permuted states -/
theorem step_perm (tris tris' : List Tri) (hn : tris.Nodup) (hp : tris.Perm tris') (pi : Nat) :
    (step P env tris pi).Nodup ∧ (step P env tris pi).Perm (step P env' tris' pi) := by
  have hn' : tris'.Nodup := hp.nodup_iff.mp hn
  obtain ⟨a1, a2⟩ := step_spec P env henv tris hn pi
  obtain ⟨b1, b2⟩ := step_spec P env' henv' tris' hn' pi
  refine ⟨a1, (List.perm_ext_iff_of_nodup a1 b1).mpr (fun t => ?_)⟩
  rw [a2 t, b2 t]
  have hf : (tris.filter (fun t => insideCirc P t (P pi))).Perm (tris'.filter (fun t => insideCirc P t (P pi))) :=
    hp.filter _
  have hfn : (tris.filter (fun t => insideCirc P t (P pi))).Nodup := hn.filter _
  exact or_congr (and_congr_left' hp.mem_iff)
    (exists_congr fun e => and_congr_left' (bw_polygon_order_independent hf hfn e))

theorem loop_perm (l : List Nat) :
    ∀ tris tris' : List Tri, tris.Nodup → tris.Perm tris' →
      (l.foldl (step P env) tris).Nodup ∧ (l.foldl (step P env) tris).Perm (l.foldl (step P env') tris') := by
  induction l with
  | nil => intro tris tris' hn hp; exact ⟨hn, hp⟩
  | cons pi l ih =>
    intro tris tris' hn hp
    simp only [List.foldl_cons]
    obtain ⟨s1, s2⟩ := step_perm P env env' henv henv' tris tris' hn hp pi
    exact ih _ _ s1 s2

end

end

/-- the three directed boundary edges of the super-triangle `(n, n+1, n+2)` -/
def isSuperEdge (n : Nat) (e : Edge) : Prop := e = (n, n + 1) ∨ e = (n + 1, n + 2) ∨ e = (n + 2, n)

/-- the directed-edge pairing of one state -/
def Paired (n : Nat) (S : List Tri) : Prop :=
  ∀ t ∈ S, ∀ e ∈ edges t, isSuperEdge n e ∨ ∃ u ∈ S, (e.2, e.1) ∈ edges u

/-- each directed edge occurs in at most one triangle of the state -/
def EdgeUnique (S : List Tri) : Prop := ∀ t ∈ S, ∀ u ∈ S, ∀ e, e ∈ edges t → e ∈ edges u → t = u

/-- the boundary of a cavity is a union of directed cycles in which every vertex has exactly one incoming and one outgoing
    edge — what makes the cavity a disc around the inserted point -/
def DiscAt (Q : List Edge) : Prop :=
  (∀ e ∈ Q, ∃ f ∈ Q, f.1 = e.2) ∧ (∀ e ∈ Q, ∃ f ∈ Q, f.2 = e.1) ∧
  (∀ e ∈ Q, ∀ f ∈ Q, e.2 = f.2 → e = f) ∧ (∀ e ∈ Q, ∀ f ∈ Q, e.1 = f.1 → e = f)

/-- the directed edges of a set of triangles -/
def DEdge (S : List Tri) (e : Edge) : Prop := ∃ t ∈ S, e ∈ edges t

/-- no triangle of `S` has an edge in both directions (true of non-degenerate triangles: `no_both_dirs`) -/
def Proper (S : List Tri) : Prop := ∀ t ∈ S, ∀ a b, (a, b) ∈ edges t → (b, a) ∉ edges t

theorem EdgeUnique.sublist {S B : List Tri} (hU : EdgeUnique S) (h : ∀ t ∈ B, t ∈ S) : EdgeUnique B :=
  fun t ht u hu => hU t (h t ht) u (h u hu)

/-- a hole-boundary edge is an edge of the hole whose reverse is not -/
theorem polygon_sub_boundary {bad : List Tri} (hn : bad.Nodup) (hp : Proper bad) {e : Edge} (he : e ∈ polygon bad) :
    DEdge bad e ∧ ¬ DEdge bad (e.2, e.1) := by
  obtain ⟨T, hT, heT, hoth⟩ := (mem_polygon_iff hn e).mp he
  refine ⟨⟨T, hT, heT⟩, ?_⟩
  rintro ⟨u, hu, hue⟩
  by_cases h : u = T
  · subst h; exact hp u hu e.1 e.2 heT hue
  · exact (hoth u hu h).2 hue

/-- the hole boundary as a set: where every directed edge has one owner, it is the set of directed
    edges of the hole whose reverse is not one -/
theorem mem_polygon_iff_boundary {bad : List Tri} (hn : bad.Nodup) (hp : Proper bad) (hU : EdgeUnique bad) (e : Edge) :
    e ∈ polygon bad ↔ DEdge bad e ∧ ¬ DEdge bad (e.2, e.1) := by
  refine ⟨polygon_sub_boundary hn hp, ?_⟩
  rintro ⟨⟨T, hT, heT⟩, hno⟩
  exact (mem_polygon_iff hn e).mpr ⟨T, hT, heT, fun o ho hne =>
    ⟨fun hf => hne (hU o ho T hT _ hf heT), fun hf => hno ⟨o, ho, hf⟩⟩⟩

/-- Let `S'` arise from `S` by removing the triangles `S.filter B` and adding the fan `(e.1, e.2, k)` over every `e ∈ Q`,
    where `Q` is the boundary of the removed set and `k` is a new vertex.  If every vertex of `Q` has exactly one edge of
    `Q` coming in and one going out, pairing and uniqueness of directed edges pass from `S` to `S'`. -/
theorem fan_pairing {n k : Nat} {S S' : List Tri} {B : Tri → Bool} {Q : List Edge}
    (hmem : ∀ t, t ∈ S' ↔ (t ∈ S ∧ B t = false) ∨ ∃ e ∈ Q, t = (e.1, e.2, k))
    (hQ : ∀ e, e ∈ Q ↔ DEdge (S.filter B) e ∧ ¬ DEdge (S.filter B) (e.2, e.1))
    (hk : ∀ t ∈ S, ∀ e ∈ edges t, e.1 ≠ k ∧ e.2 ≠ k)
    (hX : Paired n S) (hU : EdgeUnique S) (hD : DiscAt Q) :
    Paired n S' ∧ EdgeUnique S' := by
  obtain ⟨d1, d1', d2, d2'⟩ := hD
  have kept : ∀ u ∈ S, B u = false → u ∈ S' := fun u hu hb => (hmem u).mpr (Or.inl ⟨hu, hb⟩)
  have fan : ∀ e ∈ Q, (e.1, e.2, k) ∈ S' := fun e he => (hmem _).mpr (Or.inr ⟨e, he, rfl⟩)
  -- behind a boundary edge sits a removed triangle
  have owner : ∀ e ∈ Q, ∃ T ∈ S, B T = true ∧ e ∈ edges T := fun e he =>
    let ⟨T, hT, heT⟩ := ((hQ e).mp he).1; ⟨T, (List.mem_filter.mp hT).1, (List.mem_filter.mp hT).2, heT⟩
  have qv : ∀ e ∈ Q, e.1 ≠ k ∧ e.2 ≠ k := fun e he => let ⟨T, hT, _, heT⟩ := owner e he; hk T hT e heT
  constructor
  · intro t ht e he
    rcases (hmem t).mp ht with ⟨htS, htB⟩ | ⟨g, hg, rfl⟩
    · -- a kept triangle: its neighbour is kept, or was removed and then the fan over the reversed edge replaces it
      refine (hX t htS e he).imp_right fun ⟨u, huS, hue⟩ => ?_
      cases hub : B u
      · exact ⟨u, kept u huS hub, hue⟩
      · refine ⟨_, fan (e.2, e.1) ((hQ _).mpr ⟨⟨u, List.mem_filter.mpr ⟨huS, hub⟩, hue⟩, ?_⟩), by simp [edges]⟩
        rintro ⟨o, ho, hoe⟩
        obtain ⟨hoS, hob⟩ := List.mem_filter.mp ho
        rw [hU o hoS t htS e hoe he, htB] at hob
        cases hob
    · rcases mem_edges.mp he with rfl | rfl | rfl
      · -- the base of a fan triangle: the neighbour across it was not removed
        obtain ⟨T, hT, _, hgT⟩ := owner g hg
        refine (hX T hT g hgT).imp_right fun ⟨u, huS, hue⟩ => ⟨u, kept u huS ?_, hue⟩
        cases hub : B u
        · rfl
        · exact (((hQ g).mp hg).2 ⟨u, List.mem_filter.mpr ⟨huS, hub⟩, hue⟩).elim
      · -- `(g.2, k)`: the fan over the boundary edge leaving `g.2` has `(k, g.2)`
        obtain ⟨f, hf, hf1⟩ := d1 g hg
        exact Or.inr ⟨_, fan f hf, by simp [edges, hf1]⟩
      · obtain ⟨f, hf, hf2⟩ := d1' g hg
        exact Or.inr ⟨_, fan f hf, by simp [edges, hf2]⟩
  · have mixed : ∀ t ∈ S, B t = false → ∀ g ∈ Q, ∀ e ∈ edges t, e ∉ edges (g.1, g.2, k) := by
      intro t htS htB g hg e het heu
      obtain ⟨v1, v2⟩ := hk t htS e het
      rcases mem_edges.mp heu with rfl | rfl | rfl
      · obtain ⟨T, hT, hTB, hgT⟩ := owner g hg
        rw [← hU t htS T hT _ het hgT, htB] at hTB
        cases hTB
      · exact v2 rfl
      · exact v1 rfl
    intro t ht u hu e het heu
    rcases (hmem t).mp ht with ⟨htS, htB⟩ | ⟨g, hg, rfl⟩ <;> rcases (hmem u).mp hu with ⟨huS, huB⟩ | ⟨g', hg', rfl⟩
    · exact hU t htS u huS e het heu
    · exact (mixed t htS htB g' hg' e het heu).elim
    · exact (mixed u huS huB g hg e heu het).elim
    · -- two fan triangles with a common directed edge: same base, by in-/out-degree one
      obtain ⟨a1, a2⟩ := qv g hg
      obtain ⟨b1, b2⟩ := qv g' hg'
      rw [mem_edges] at het heu
      have key : g = g' := by
        rcases het with rfl | rfl | rfl <;> rcases heu with h | h | h
        · exact Prod.ext (congrArg Prod.fst h) (congrArg Prod.snd h)
        · exact absurd (congrArg Prod.snd h) a2
        · exact absurd (congrArg Prod.fst h) a1
        · exact absurd (congrArg Prod.snd h).symm b2
        · exact d2 g hg g' hg' (congrArg Prod.fst h)
        · exact absurd (congrArg Prod.fst h) a2
        · exact absurd (congrArg Prod.fst h).symm b1
        · exact absurd (congrArg Prod.snd h) a1
        · exact d2' g hg g' hg' (congrArg Prod.snd h)
      rw [key]

end C20
end PolyVerif
