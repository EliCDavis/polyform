/-
  C18: the quaternion-rotated parts (six-quad box, cylinder bottom cap) as the code builds them
  (`Model/SolidsCode.lean`, over the regenerated `Gen.Transform` quaternion code) equal, over ℝ, the exact forms
  of `Model/Solids.lean` (corner table, `(x, −y, −z)`).
-/
import PolyVerif.Model.SolidsCode
import PolyVerif.Lemmas.SolidsMerge
namespace PolyVerif.Solids
open Real Gen

theorem half_angle (θ : ℝ) : cos (θ / 2) ^ 2 - sin (θ / 2) ^ 2 = cos θ ∧ 2 * sin (θ / 2) * cos (θ / 2) = sin θ ∧
    sin (θ / 2) ^ 2 + cos (θ / 2) ^ 2 = 1 := by
  have e : θ = 2 * (θ / 2) := by ring
  refine ⟨?_, ?_, sin_sq_add_cos_sq _⟩
  · conv_rhs => rw [e, cos_two_mul]
    have := sin_sq_add_cos_sq (θ / 2); linarith
  · conv_rhs => rw [e, sin_two_mul]

/-- rotation about +Z (`vector3.Forward`) by `θ`, as `quaternion.FromTheta` / `Quaternion.Rotate` compute it -/
theorem rotZ (θ : ℝ) (v : V3 ℝ) : (quaternion.FromTheta θ (V3.Forward : V3 ℝ)).Rotate v =
    ⟨v.x * cos θ - v.y * sin θ, v.x * sin θ + v.y * cos θ, v.z⟩ := by
  obtain ⟨h1, h2, h3⟩ := half_angle θ
  obtain ⟨x, y, z⟩ := v
  simp only [quaternion.FromTheta, quaternion.Quaternion.Rotate, V3.Forward, V3.Normalized, V3.Length, V3.LengthSquared,
    V3.DivByConstant, V3.Scale, V3.Dot, V3.Cross, V3.Add, Scalar.sq, RS.sqrt_eq, RS.sin_eq, RS.cos_eq]
  norm_num
  refine ⟨?_, ?_, ?_⟩
  · rw [← h1, ← h2]; ring
  · rw [← h1, ← h2]; ring
  · linear_combination z * h3

/-- rotation about −X (`vector3.Left`) by `θ` -/
theorem rotL (θ : ℝ) (v : V3 ℝ) : (quaternion.FromTheta θ (V3.Left : V3 ℝ)).Rotate v =
    ⟨v.x, v.y * cos θ + v.z * sin θ, v.z * cos θ - v.y * sin θ⟩ := by
  obtain ⟨h1, h2, h3⟩ := half_angle θ
  obtain ⟨x, y, z⟩ := v
  simp only [quaternion.FromTheta, quaternion.Quaternion.Rotate, V3.Left, V3.Normalized, V3.Length, V3.LengthSquared,
    V3.DivByConstant, V3.Scale, V3.Dot, V3.Cross, V3.Add, Scalar.sq, RS.sqrt_eq, RS.sin_eq, RS.cos_eq]
  norm_num
  refine ⟨?_, ?_, ?_⟩
  · linear_combination x * h3
  · rw [← h1, ← h2]; ring
  · rw [← h1, ← h2]; ring

/-- rotation about +X by `θ` (the cylinder's bottom cap uses `θ = π`) -/
theorem rotX (θ : ℝ) (v : V3 ℝ) : (quaternion.FromTheta θ (V3.New (n2a 1) (n2a 0) (n2a 0) : V3 ℝ)).Rotate v =
    ⟨v.x, v.y * cos θ - v.z * sin θ, v.z * cos θ + v.y * sin θ⟩ := by
  obtain ⟨h1, h2, h3⟩ := half_angle θ
  obtain ⟨x, y, z⟩ := v
  simp only [quaternion.FromTheta, quaternion.Quaternion.Rotate, V3.New, V3.Normalized, V3.Length, V3.LengthSquared,
    V3.DivByConstant, V3.Scale, V3.Dot, V3.Cross, V3.Add, Scalar.sq, RS.sqrt_eq, RS.sin_eq, RS.cos_eq, n2a_real]
  norm_num
  refine ⟨?_, ?_, ?_⟩
  · linear_combination x * h3
  · rw [← h1, ← h2]; ring
  · rw [← h1, ← h2]; ring

/-- the cylinder's bottom cap: `bottomCapQ` (a half turn about +X) maps `(x, y, z)` to `(x, −y, −z)` -/
theorem bottomCapQ_rotate (v : V3 ℝ) : (bottomCapQ : quaternion.Quaternion ℝ).Rotate v = ⟨v.x, -v.y, -v.z⟩ := by
  rw [bottomCapQ, rotX]; simp

theorem trig32 : cos (π * (3 / 2)) = 0 ∧ sin (π * (3 / 2)) = -1 := by
  have e : π * (3 / 2) = π / 2 + π := by ring
  rw [e, cos_add_pi, sin_add_pi]; simp

theorem trig12 : cos (π * 2⁻¹) = 0 ∧ sin (π * 2⁻¹) = 1 := by
  have e : π * 2⁻¹ = π / 2 := by ring
  rw [e]; simp

/-! the five quarter and half turns of `Cube.UnweldedQuads`, as the quaternion code computes them -/

theorem rotZ_pi (v : V3 ℝ) : (quaternion.FromTheta π (V3.Forward : V3 ℝ)).Rotate v = ⟨-v.x, -v.y, v.z⟩ := by
  simp [rotZ]

theorem rotZ_half_pi (v : V3 ℝ) : (quaternion.FromTheta (π / 2) (V3.Forward : V3 ℝ)).Rotate v = ⟨-v.y, v.x, v.z⟩ := by
  simp [rotZ]

theorem rotZ_three_half_pi (v : V3 ℝ) :
    (quaternion.FromTheta (π * (3 / 2)) (V3.Forward : V3 ℝ)).Rotate v = ⟨v.y, -v.x, v.z⟩ := by
  simp [rotZ, trig32.1, trig32.2]

theorem rotL_three_half_pi (v : V3 ℝ) :
    (quaternion.FromTheta (π * (3 / 2)) (V3.Left : V3 ℝ)).Rotate v = ⟨v.x, -v.z, v.y⟩ := by
  simp [rotL, trig32.1, trig32.2]

theorem rotL_half_pi (v : V3 ℝ) : (quaternion.FromTheta (π * 2⁻¹) (V3.Left : V3 ℝ)).Rotate v = ⟨v.x, v.z, -v.y⟩ := by
  simp [rotL, trig12.1, trig12.2]

/-- **the corner table is what the code's construction yields**: the six quads, rotated by the regenerated quaternion
    code and translated as in `Cube.UnweldedQuads`, put vertex `v` exactly at corner `cubeQuadsCornerTable[v]` -/
theorem cubeQuadsPosCode_eq (w h d : ℝ) {v : Nat} (hv : v < 24) :
    cubeQuadsPosCode w h d v = cubeQuadsPos w h d v := by
  interval_cases v <;>
    simp [cubeQuadsPosCode, quadPos, rotZ_pi, rotZ_half_pi, rotZ_three_half_pi, rotL_three_half_pi, rotL_half_pi, cubeQuadsPos,
      cubeQuadsPt, cubeQuadsCornerTable, cornerPos, V3.New, V3.Add]

theorem cubeQuadsNormalCode_eq {v : Nat} (hv : v < 24) :
    (cubeQuadsNormalCode v : V3 ℝ) = cubeQuadsNormal v := by
  have hq : v / 4 < 6 := by omega
  unfold cubeQuadsNormalCode cubeQuadsNormal
  generalize v / 4 = f at hq
  interval_cases f <;> simp [rotZ_pi, rotZ_half_pi, rotZ_three_half_pi, rotL_three_half_pi, rotL_half_pi, V3.Up, V3.New]

theorem cylinderPosCode_eq (r H : ℝ) (S : Nat) {v : Nat} (hv : v < cylinderNV S false false) :
    cylinderPosCode r H S v = cylinderPos r H S v := by
  simp only [cylinderNV, cylinderSideNV, circleNV, Bool.false_eq_true, if_false] at hv
  unfold cylinderPosCode
  split_ifs with h1 h2
  · rfl
  · -- top cap: circle translated by (0, H/2, 0)
    by_cases hc : v = 3 * S + 2
    · have a1 : ¬ v < 2 * S + 2 := by omega
      have a2 : ¬ v < 3 * S + 2 := by omega
      have e : v - (2 * S + 2) = S := by omega
      rw [e]
      have a3 : ¬ (3 * S + 2 < 2 * S + 2) := by omega
      subst hc
      simp [cylinderPos, a3, circlePos, V3.New, V3.Add]
    · have a1 : ¬ v < 2 * S + 2 := by omega
      have a2 : v < 3 * S + 2 := by omega
      have e : ¬ (v - (2 * S + 2) = S) := by omega
      simp [cylinderPos, a1, a2, circlePos, e, V3.New, V3.Add]
  · -- bottom cap: circle rotated by π about X, translated by (0, -H/2, 0)
    have a1 : ¬ v < 2 * S + 2 := by omega
    have a2 : ¬ v < 3 * S + 2 := by omega
    have a3 : ¬ v = 3 * S + 2 := by omega
    by_cases hc : v < 4 * S + 3
    · have e : ¬ (v - (3 * S + 3) = S) := by omega
      simp [cylinderPos, a1, a2, a3, hc, circlePos, e, bottomCapQ_rotate, V3.New, V3.Add]
    · have e : v - (3 * S + 3) = S := by omega
      rw [e]
      simp [cylinderPos, a1, a2, a3, hc, circlePos, bottomCapQ_rotate, V3.New, V3.Add]

theorem cylinderNormalCode_eq (S v : Nat) : (cylinderNormalCode S v : V3 ℝ) = cylinderNormal S v := by
  unfold cylinderNormalCode
  split_ifs with h1 h2
  · rfl
  · have a1 : ¬ v < 2 * S + 2 := by omega
    simp [cylinderNormal, a1, h2, circleNormal, V3.New]
  · have a1 : ¬ v < 2 * S + 2 := by omega
    simp [cylinderNormal, a1, h2, circleNormal, bottomCapQ_rotate, V3.New]

theorem cubeQuadsTris_lt : ∀ t ∈ cubeQuadsTris, t.1 < 24 ∧ t.2.1 < 24 ∧ t.2.2 < 24 := by decide

theorem cubeQuads_pos_agree (w h d : ℝ) : ∀ t ∈ cubeQuadsTris,
    cubeQuadsPosCode w h d t.1 = cubeQuadsPos w h d t.1 ∧ cubeQuadsPosCode w h d t.2.1 = cubeQuadsPos w h d t.2.1 ∧
      cubeQuadsPosCode w h d t.2.2 = cubeQuadsPos w h d t.2.2 := fun t ht =>
  let ⟨a, b, c⟩ := cubeQuadsTris_lt t ht
  ⟨cubeQuadsPosCode_eq w h d a, cubeQuadsPosCode_eq w h d b, cubeQuadsPosCode_eq w h d c⟩

theorem cubeQuads_nrm_agree : ∀ t ∈ cubeQuadsTris,
    (cubeQuadsNormalCode t.1 : V3 ℝ) = cubeQuadsNormal t.1 ∧ (cubeQuadsNormalCode t.2.1 : V3 ℝ) = cubeQuadsNormal t.2.1 ∧
      (cubeQuadsNormalCode t.2.2 : V3 ℝ) = cubeQuadsNormal t.2.2 := fun t ht =>
  let ⟨a, b, c⟩ := cubeQuadsTris_lt t ht
  ⟨cubeQuadsNormalCode_eq a, cubeQuadsNormalCode_eq b, cubeQuadsNormalCode_eq c⟩

theorem cylinder_pos_agree (r H : ℝ) {S : Nat} (hS : 1 ≤ S) : ∀ t ∈ cylinderTris S false false,
    cylinderPosCode r H S t.1 = cylinderPos r H S t.1 ∧ cylinderPosCode r H S t.2.1 = cylinderPos r H S t.2.1 ∧
      cylinderPosCode r H S t.2.2 = cylinderPos r H S t.2.2 := fun t ht =>
  let ⟨a, b, c⟩ := cylinderTris_lt hS t ht
  ⟨cylinderPosCode_eq r H S a, cylinderPosCode_eq r H S b, cylinderPosCode_eq r H S c⟩

theorem cylinderNormalCode_funext (S : Nat) : (cylinderNormalCode S : Nat → V3 ℝ) = cylinderNormal S :=
  funext fun v => cylinderNormalCode_eq S v

end PolyVerif.Solids
