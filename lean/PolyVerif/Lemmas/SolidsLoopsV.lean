/-
  C18: the vertex POSITIONS and supplied NORMALS of `Model/Solids.lean` / `Model/SolidsCode.lean` EQUAL the float/vector
  interpretation (`LoopIR.execV`) of the loop programs regenerated from /repo (`Gen/PrimLoops.lean`), for ALL parameters
  and for EVERY scalar type `α` with `[Scalar α]` — in particular at `ℝ` (where the geometric theorems live) and at
  `Float` (what the driver runs): the equalities are syntactic, no field axioms are used.  A changed angle formula,
  radius factor or pole position in the Go source changes the generated program and breaks the corresponding theorem.
-/
import PolyVerif.Gen.PrimLoops
import PolyVerif.Lemmas.SolidsLoops
import PolyVerif.Model.SolidsCode
namespace PolyVerif.Solids
open PolyVerif.LoopIR

variable {α : Type}

/-- a loop that appends one vertex `G i` per iteration to the target slice -/
theorem vfold1 (s : Nat) (G : Nat → V3 α) (n : Nat) (m0 : St × (Nat → V3 α)) :
    (List.range n).foldl (fun m i => (upd m.1 s (m.1 s ++ [0]), upd m.2 (m.1 s).length (G i))) m0 =
      (upd m0.1 s (m0.1 s ++ List.replicate n 0),
        fun v => if (m0.1 s).length ≤ v ∧ v < (m0.1 s).length + n then G (v - (m0.1 s).length) else m0.2 v) := by
  induction n with
  | zero =>
    simp only [List.range_zero, List.foldl_nil, List.replicate_zero, List.append_nil]
    refine Prod.ext ?_ ?_
    · funext x; simp only [upd]; split <;> simp_all
    · funext v; simp only [Nat.add_zero]; split
      · omega
      · rfl
  | succ n ih =>
    rw [List.range_succ, List.foldl_append, ih]
    simp only [List.foldl_cons, List.foldl_nil, upd_same, upd_upd, List.length_append, List.length_replicate]
    refine Prod.ext ?_ ?_
    · simp only [List.replicate_succ', List.append_assoc]
    · funext v
      simp only [upd]
      by_cases h : v = (m0.1 s).length + n
      · subst h; simp
      · simp only [h, if_false]
        by_cases h2 : (m0.1 s).length ≤ v ∧ v < (m0.1 s).length + n
        · have : (m0.1 s).length ≤ v ∧ v < (m0.1 s).length + (n + 1) := by omega
          simp [h2, this]
        · have : ¬ ((m0.1 s).length ≤ v ∧ v < (m0.1 s).length + (n + 1)) := by omega
          simp [h2, this]

/-- a loop whose iteration `i` appends a block of `k` vertices `G i 0 … G i (k-1)` -/
theorem vfoldBlock (s k : Nat) (hk : 0 < k) (G : Nat → Nat → V3 α) (n : Nat) (m0 : St × (Nat → V3 α)) :
    (List.range n).foldl (fun (m : St × (Nat → V3 α)) i => (upd m.1 s (m.1 s ++ List.replicate k 0),
        fun v => if (m.1 s).length ≤ v ∧ v < (m.1 s).length + k then G i (v - (m.1 s).length) else m.2 v)) m0 =
      (upd m0.1 s (m0.1 s ++ List.replicate (k * n) 0),
        fun v => if (m0.1 s).length ≤ v ∧ v < (m0.1 s).length + k * n
          then G ((v - (m0.1 s).length) / k) ((v - (m0.1 s).length) % k) else m0.2 v) := by
  induction n with
  | zero =>
    simp only [List.range_zero, List.foldl_nil, Nat.mul_zero, List.replicate_zero, List.append_nil]
    refine Prod.ext ?_ ?_
    · funext x; simp only [upd]; split <;> simp_all
    · funext v; simp only [Nat.add_zero]; split
      · omega
      · rfl
  | succ n ih =>
    rw [List.range_succ, List.foldl_append, ih]
    simp only [List.foldl_cons, List.foldl_nil, upd_same, upd_upd, List.length_append, List.length_replicate]
    refine Prod.ext ?_ ?_
    · simp only [Nat.mul_succ, List.replicate_add, List.append_assoc]
    · funext v
      set L := (m0.1 s).length with hL
      by_cases h1 : L + k * n ≤ v ∧ v < L + k * n + k
      · have h2 : L ≤ v ∧ v < L + k * (n + 1) := by rw [Nat.mul_succ]; omega
        have e1 : (v - L) / k = n := by
          have : v - L = k * n + (v - (L + k * n)) := by omega
          rw [this, Nat.mul_add_div hk, Nat.div_eq_of_lt (by omega)]; rfl
        have e2 : (v - L) % k = v - (L + k * n) := by
          have : v - L = k * n + (v - (L + k * n)) := by omega
          rw [this, Nat.mul_add_mod, Nat.mod_eq_of_lt (by omega)]
        simp only [h1, h2, and_self, if_true, e1, e2]
      · simp only [h1, if_false]
        by_cases h2 : L ≤ v ∧ v < L + k * n
        · have : L ≤ v ∧ v < L + k * (n + 1) := by rw [Nat.mul_succ]; omega
          simp only [h2, this, and_self, if_true]
        · have : ¬ (L ≤ v ∧ v < L + k * (n + 1)) := by rw [Nat.mul_succ]; omega
          simp only [h2, this, if_false]

/-- a double loop that appends one vertex `G i j` per inner iteration -/
theorem vfoldGrid (s k : Nat) (hk : 0 < k) (G : Nat → Nat → V3 α) (n : Nat) (m0 : St × (Nat → V3 α)) :
    (List.range n).foldl (fun m i => (List.range k).foldl
        (fun (m : St × (Nat → V3 α)) j => (upd m.1 s (m.1 s ++ [0]), upd m.2 (m.1 s).length (G i j))) m) m0 =
      (upd m0.1 s (m0.1 s ++ List.replicate (k * n) 0),
        fun v => if (m0.1 s).length ≤ v ∧ v < (m0.1 s).length + k * n
          then G ((v - (m0.1 s).length) / k) ((v - (m0.1 s).length) % k) else m0.2 v) := by
  simp only [vfold1]
  exact vfoldBlock s k hk G n m0

/-- what `UVSphere` and `Hemisphere.UV` leave in the vertex slice: `p0`, then `n` vertices `F 1 … F n`, then `p1` -/
theorem poleGridPole (p0 p1 : V3 α) (F : Nat → V3 α) (n v : Nat) (hv : v < n + 2) (d : Nat → V3 α) :
    upd (fun w => if 1 ≤ w ∧ w < 1 + n then F w else upd d 0 p0 w) (1 + n) p1 v =
      if v = 0 then p0 else if v = 1 + n then p1 else F v := by
  simp only [upd_app]
  by_cases h0 : v = 0
  · subst h0
    have : ¬ (0 = 1 + n) := by omega
    simp [this]
  · by_cases h1 : v = 1 + n
    · simp [h1]
    · have h2 : 1 ≤ v ∧ v < 1 + n := by omega
      simp only [h0, h1, h2, and_self, if_true, if_false]

theorem foldl_snd_inv {σ τ : Type} (B : σ × τ → Nat → σ × τ) (hB : ∀ m i, (B m i).2 = m.2) (l : List Nat) (m0 : σ × τ) :
    (l.foldl B m0).2 = m0.2 :=
  List.foldlRecOn (motive := fun m => m.2 = m0.2) l B rfl fun m hm i _ => (hB m i).trans hm

theorem foldl_snd1 {σ τ : Type} (F : σ × τ → Nat → σ) (l : List Nat) (m0 : σ × τ) :
    (l.foldl (fun m i => (F m i, m.2)) m0).2 = m0.2 :=
  foldl_snd_inv (fun m i => (F m i, m.2)) (fun _ _ => rfl) l m0

theorem foldl_snd2 {σ τ : Type} (F : Nat → σ × τ → Nat → σ) (l2 : Nat → List Nat) (l : List Nat) (m0 : σ × τ) :
    (l.foldl (fun m i => (l2 i).foldl (fun m j => (F i m j, m.2)) m) m0).2 = m0.2 :=
  foldl_snd_inv (fun m i => (l2 i).foldl (fun m j => (F i m j, m.2)) m) (fun m i => foldl_snd1 (F i) (l2 i) m) l m0

/-- a loop that sets entry `i` to `G i` -/
theorem setfold1 (G : Nat → V3 α) (n : Nat) (m0 : St × (Nat → V3 α)) :
    (List.range n).foldl (fun (m : St × (Nat → V3 α)) i => (m.1, upd m.2 i (G i))) m0 =
      (m0.1, fun v => if v < n then G v else m0.2 v) := by
  induction n with
  | zero => simp
  | succ n ih =>
    rw [List.range_succ, List.foldl_append, ih]
    simp only [List.foldl_cons, List.foldl_nil]
    refine Prod.ext rfl ?_
    funext v
    simp only [upd]
    by_cases h : v = n
    · subst h; simp
    · by_cases h2 : v < n
      · have : v < n + 1 := by omega
        simp [h, h2, this]
      · have : ¬ v < n + 1 := by omega
        simp [h, h2, this]

/-- a loop that sets entries `i*2` and `i*2+1` to `A i`, `B i` -/
theorem setfold2 (A B : Nat → V3 α) (n : Nat) (m0 : St × (Nat → V3 α)) :
    (List.range n).foldl (fun (m : St × (Nat → V3 α)) i => (m.1, upd (upd m.2 (i * 2) (A i)) (i * 2 + 1) (B i))) m0 =
      (m0.1, fun v => if v < 2 * n then (if v % 2 = 0 then A (v / 2) else B (v / 2)) else m0.2 v) := by
  induction n with
  | zero => simp
  | succ n ih =>
    rw [List.range_succ, List.foldl_append, ih]
    simp only [List.foldl_cons, List.foldl_nil]
    refine Prod.ext rfl ?_
    funext v
    simp only [upd]
    by_cases h1 : v = n * 2 + 1
    · subst h1
      have a1 : n * 2 + 1 < 2 * (n + 1) := by omega
      have a2 : ¬ ((n * 2 + 1) % 2 = 0) := by omega
      have a3 : (n * 2 + 1) / 2 = n := by omega
      simp [a1, a2, a3]
    · by_cases h2 : v = n * 2
      · subst h2
        have a1 : n * 2 < 2 * (n + 1) := by omega
        have a2 : (n * 2) % 2 = 0 := by omega
        have a3 : (n * 2) / 2 = n := by omega
        simp [a1, a2, a3]
      · by_cases h3 : v < 2 * n
        · have : v < 2 * (n + 1) := by omega
          simp [h1, h2, h3, this]
        · have : ¬ v < 2 * (n + 1) := by omega
          simp [h1, h2, h3, this]

section
variable [Scalar α]

theorem sphere_pos (radius : α) (rows cols v : Nat) (hC : 0 < cols) (hv : v < uvSphereNV rows cols) :
    Gen.PrimLoops.uvSphere.positions [rows, cols] [radius] v = uvSpherePos radius rows cols v := by
  simp only [Prog.positions, Prog.vslice, Gen.PrimLoops.uvSphere, execV, evalV, evalF, evalE, Loc.init, Prog.env, writeAt,
    List.map_cons, List.map_nil, upd_app, upd_upd, List.getD_cons_zero, List.getD_cons_succ, Nat.reduceEqDiff, ↓reduceIte,
    Nat.add_zero, Nat.sub_zero, Nat.zero_add, Bool.false_eq_true]
  simp only [foldl_snd2, foldl_snd1]
  simp only [vfoldGrid 0 cols hC, upd_same, List.replicate_zero, List.nil_append, List.length_cons, List.length_nil,
    List.length_append, List.length_replicate, Nat.zero_add]
  have hb : uvBottom rows cols = 1 + cols * (rows - 1) := by unfold uvBottom; rw [Nat.mul_comm]
  rw [poleGridPole _ _ _ _ _ (by unfold uvSphereNV at hv; rw [Nat.mul_comm]; exact hv)]
  simp only [uvSpherePos, hb, n2a]

theorem hemisphere_pos (radius : α) (rows cols v : Nat) (hC : 0 < cols) (hv : v < uvSphereNV rows cols) :
    Gen.PrimLoops.hemisphere.positions [rows, cols] [radius] v = hemispherePos radius rows cols v := by
  simp only [Prog.positions, Prog.vslice, Gen.PrimLoops.hemisphere, execV, evalV, evalF, evalE, Loc.init, Prog.env, writeAt,
    List.map_cons, List.map_nil, upd_app, upd_upd, List.getD_cons_zero, List.getD_cons_succ, Nat.reduceEqDiff, ↓reduceIte,
    Nat.add_zero, Nat.sub_zero, Nat.zero_add, Bool.false_eq_true]
  simp only [foldl_snd2, foldl_snd1]
  simp only [vfoldGrid 0 cols hC, upd_same, List.replicate_zero, List.nil_append, List.length_cons, List.length_nil,
    List.length_append, List.length_replicate, Nat.zero_add]
  have hb : uvBottom rows cols = 1 + cols * (rows - 1) := by unfold uvBottom; rw [Nat.mul_comm]
  rw [poleGridPole _ _ _ _ _ (by unfold uvSphereNV at hv; rw [Nat.mul_comm]; exact hv)]
  simp only [hemispherePos, hb, n2a]

/-- `Circle.ToMesh`: positions (slice 0) and the normals slice (slice 1, `(0,1,0)` everywhere) of the extracted loop -/
theorem circle_pos_nrm (radius : α) (sides v : Nat) (hv : v < circleNV sides) :
    Gen.PrimLoops.circle.positions [sides] [radius] v = circlePos radius sides v ∧
    Gen.PrimLoops.circle.vslice 1 [sides] [radius] v = V3.New (n2a 0) (n2a 1) (n2a 0) := by
  simp only [Prog.positions, Prog.vslice, Gen.PrimLoops.circle, execV, evalV, evalF, evalE, Loc.init, Prog.env, writeAt,
    List.map_cons, List.map_nil, upd_app, upd_upd, List.getD_cons_zero, List.getD_cons_succ, Nat.reduceEqDiff, ↓reduceIte,
    Nat.add_zero, Nat.sub_zero, Nat.zero_add, Bool.false_eq_true, OfNat.zero_ne_ofNat, OfNat.one_ne_ofNat, zero_ne_one,
    one_ne_zero]
  simp only [foldl_snd2, foldl_snd1, setfold1, upd_app]
  unfold circleNV at hv
  simp only [circlePos, angleIncrement, n2a]
  by_cases h : v = sides
  · simp only [h, if_true, and_self]
  · have : v < sides := by omega
    simp only [h, this, if_true, if_false, and_self]

/-- `Cylinder.ToMesh`, side strip: positions (slice 0) and normals (slice 1) of the extracted loop -/
theorem cylinderSide_pos_nrm (radius height : α) (sides v : Nat) (hv : v < cylinderSideNV sides) :
    Gen.PrimLoops.cylinder.positions [sides] [radius, height] v = cylinderPos radius height sides v ∧
    Gen.PrimLoops.cylinder.vslice 1 [sides] [radius, height] v = cylinderNormal sides v := by
  simp only [Prog.positions, Prog.vslice, Gen.PrimLoops.cylinder, execV, evalV, evalF, evalE, Loc.init, Prog.env, writeAt,
    List.map_cons, List.map_nil, upd_app, upd_upd, List.getD_cons_zero, List.getD_cons_succ, Nat.reduceEqDiff, ↓reduceIte,
    Nat.add_zero, Nat.sub_zero, Nat.zero_add, Bool.false_eq_true, OfNat.zero_ne_ofNat, OfNat.one_ne_ofNat, zero_ne_one,
    one_ne_zero]
  simp only [foldl_snd2, foldl_snd1, setfold2]
  unfold cylinderSideNV at hv
  have h1 : v < 2 * (sides + 1) := by omega
  have h2 : v < 2 * sides + 2 := by omega
  simp only [cylinderPos, cylinderNormal, angleIncrement, n2a, h1, h2, if_true]
  by_cases h : v % 2 = 0
  · simp only [h, if_true, and_self]
  · simp only [h, if_false, and_self]
end
end PolyVerif.Solids
