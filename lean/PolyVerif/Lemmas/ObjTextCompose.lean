/-
  C05 — composing the proved integer print/parse law with `obj_roundtrip_text`:
  the round trip through the text layer with the CONCRETE corner printer / parser (`ObjText.showCorner`,
  `ObjText.parseCorner`); only the scalar (float) transport `rt` stays a parameter.
  * the reader depends on the corner parser only through the tokens of the face lines (`readObj_congr_aux`);
  * a text the reader accepts has every index within its pools (`faces_bounded_aux`), so a scene whose pools
    are shorter than 2^63 never prints an index outside the int64 range.
  Core Lean only.
-/
import PolyVerif.Lemmas.ObjRoundtrip
import PolyVerif.Lemmas.ObjResave
import PolyVerif.Lemmas.ObjText

set_option linter.unusedSimpArgs false
set_option linter.unusedSectionVars false

namespace PolyVerif
namespace ObjTextL
open Obj ObjL ObjText

section congr
variable {τ α : Type} [DecidableEq τ]

theorem addCorner_congr_aux (pc pc' : τ → Except Err Corner) {t : τ} (h : pc t = pc' t) (s : RState τ α) (g : Group τ α) :
    addCorner pc s g t = addCorner pc' s g t := by
  unfold addCorner; rw [h]

theorem step_congr_aux (pc pc' : τ → Except Err Corner) (s : RState τ α) (l : Line τ α)
    (h : ∀ t ∈ flatC (faceToks [l]), pc t = pc' t) : step pc s l = step pc' s l := by
  cases l with
  | f a b c =>
    simp only [step, addCorner_congr_aux pc pc' (h a (by simp [faceToks, flatC])),
      addCorner_congr_aux pc pc' (h b (by simp [faceToks, flatC])), addCorner_congr_aux pc pc' (h c (by simp [faceToks, flatC]))]
  | _ => rfl

theorem steps_congr_aux (pc pc' : τ → Except Err Corner) : ∀ (ls : List (Line τ α)) (s : RState τ α),
    (∀ t ∈ flatC (faceToks ls), pc t = pc' t) → steps pc s ls = steps pc' s ls
  | [], _, _ => rfl
  | l :: ls, s, h => by
    rw [← List.singleton_append, faceToks_append_aux, flatC_append_aux] at h
    simp only [steps, step_congr_aux pc pc' s l (fun t ht => h t (List.mem_append_left _ ht))]
    cases step pc' s l with
    | error e => rfl
    | ok s1 => exact steps_congr_aux pc pc' ls s1 (fun t ht => h t (List.mem_append_right _ ht))

theorem readObj_congr_aux (pc pc' : τ → Except Err Corner) (ls : List (Line τ α))
    (h : ∀ t ∈ flatC (faceToks ls), pc t = pc' t) : readObj pc ls = readObj pc' ls := by
  unfold readObj; rw [steps_congr_aux pc pc' ls {} h]

end congr

section bound
variable {α : Type}

theorem look_bound_aux {β : Type} {l : List β} {o : Option Nat} (h : (look l (slot o)).isSome) :
    ∀ t, o = some t → t ≤ l.length := by
  rintro t rfl
  cases t with
  | zero => omega
  | succ k =>
    rw [show slot (some (k + 1)) = some k by simp [slot]] at h
    cases hk : l[k]? with
    | none => simp [look, hk] at h
    | some x => have := lt_of_getElem?_aux hk; omega

theorem resolve_bound_aux {pv pn : List (V3 α)} {pt : List (V2 α)} {c : Corner}
    (h : (resolveCorner pv pn pt c).isSome) :
    c.v ≤ pv.length ∧ (∀ t, c.vt = some t → t ≤ pt.length) ∧ (∀ n, c.vn = some n → n ≤ pn.length) := by
  obtain ⟨r, hr⟩ := Option.isSome_iff_exists.1 h
  obtain ⟨_, h1, h2, h3⟩ := resolveCorner_some_iff.1 hr
  have := lt_of_getElem?_aux h1
  exact ⟨by omega, look_bound_aux (by rw [h2]; rfl), look_bound_aux (by rw [h3]; rfl)⟩

def CornerLe (nv nt nn : Nat) (c : Corner) : Prop :=
  c.v ≤ nv ∧ (∀ t, c.vt = some t → t ≤ nt) ∧ (∀ n, c.vn = some n → n ≤ nn)

/-- every face corner of a text the reader accepts (corner tokens = corners) lies within the text's pools -/
theorem faces_bounded_aux {ls : List (Line Corner α)} {gs : List (Group Corner α)} {libs : List String}
    (h : readObj pcId ls = .ok (gs, libs)) :
    ∀ t ∈ flatC (faceToks ls), CornerLe (poolV ls).length (poolT ls).length (poolN ls).length t := by
  intro t ht
  rw [← readObj_faces_content pcId h, flatC_flatMap_aux] at ht
  obtain ⟨g, hg, htg⟩ := List.mem_flatMap.1 ht
  have hi := readObj_corners pcId h g hg
  exact resolve_bound_aux (toks_resolve_aux pcId hi.toGData t ((mem_toks_iff_aux pcId hi t).2 htg))

theorem flatC_faceToks_map_aux {τ τ' β : Type} (ft : τ → τ') (fs : α → β) : ∀ ls : List (Line τ α),
    flatC (faceToks (ls.map (mapLine ft fs))) = (flatC (faceToks ls)).map ft
  | [] => rfl
  | l :: ls => by
    have ih := flatC_faceToks_map_aux ft fs ls
    cases l <;> simp [mapLine, faceToks, flatC, ih]

end bound

/-! ### the integer parser without the range check (a proof device: it agrees with `Atoi` on int64) -/

def intOfU (ds : List Char) : Except Err Int :=
  if ds ≠ [] ∧ ds.all ObjText.isDigit = true then .ok (digitsVal ds : Int) else .error .err

def parseCornerU (t : String) : Except Err Corner := parseCornerG intOfU t.toList

theorem intOfU_showNat_aux (k : Nat) : intOfU (showNat k) = .ok (k : Int) := by
  obtain ⟨h1, h2, h3⟩ := showNat_spec_aux k
  simp [intOfU, h3, all_digits_aux h2, h1]

theorem parseCornerU_showCorner (c : Corner) : parseCornerU (showCorner c) = .ok c := by
  simp only [parseCornerU, showCorner, String.toList_ofList]
  exact parseCornerG_showCornerL intOfU (fun _ => True) (fun k _ => intOfU_showNat_aux k) c trivial
    (fun _ _ => trivial) (fun _ _ => trivial)

theorem parseCorner_agree_aux (c : Corner) (nv nt nn : Nat) (hb : CornerLe nv nt nn c) (hv : nv < 2 ^ 63)
    (ht : nt < 2 ^ 63) (hn : nn < 2 ^ 63) : parseCorner (showCorner c) = parseCornerU (showCorner c) := by
  rw [parseCornerU_showCorner]
  simp only [parseCorner, showCorner, String.toList_ofList]
  exact parseCornerL_showCornerL c (by have := hb.1; omega) (fun t e => by have := hb.2.1 t e; omega)
    (fun n e => by have := hb.2.2 n e; omega)

section compose
variable {α : Type} [DecidableEq α]

theorem obj_roundtrip_text_ints (rt : α → α) (matFile : String) (ms : List (String × Mesh α))
    (hne : ms ≠ []) (hwf : ∀ p ∈ ms, WFMesh p.2) (hnb : NonemptyButLast ms)
    (hsv : (ms.flatMap fun p => optList p.2.pos).length < 2 ^ 63)
    (hst : (ms.flatMap fun p => optList p.2.uv).length < 2 ^ 63)
    (hsn : (ms.flatMap fun p => optList p.2.nrm).length < 2 ^ 63) :
    ∃ ls gs libs, writeObj matFile ms = .ok ls ∧
      readObj parseCorner (ls.map (mapLine showCorner rt)) = .ok (gs, libs) ∧
      RoundTripsCarry rt none ms (gs.map toMesh) = true ∧
      (NoMatlessAfterMat none ms → RoundTrips rt ms (gs.map toMesh) = true) := by
  obtain ⟨ls, gs, libs, hw, hr, hc, hs⟩ :=
    obj_roundtrip_text parseCornerU showCorner rt parseCornerU_showCorner matFile ms hne hwf hnb
  obtain ⟨ls0, gs0, hw0, hr0, _, pv0, pn0, pt0⟩ := obj_roundtrip_struct matFile ms hne hwf hnb
  have hls : ls0 = ls := by rw [hw] at hw0; cases hw0; rfl
  subst hls
  refine ⟨ls0, gs, libs, hw, ?_, hc, hs⟩
  rw [← hr]
  apply readObj_congr_aux
  intro t ht
  rw [flatC_faceToks_map_aux] at ht
  obtain ⟨t0, ht0, rfl⟩ := List.mem_map.1 ht
  have hb := faces_bounded_aux hr0 t0 ht0
  rw [pv0, pn0, pt0] at hb
  exact parseCorner_agree_aux _ _ _ _ hb hsv hst hsn

end compose

end ObjTextL
end PolyVerif
