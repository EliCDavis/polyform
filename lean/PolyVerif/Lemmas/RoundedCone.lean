/-
  The rounded cone of math/sdf/rounded_cone.go (`Gen.sdf.RoundedCone`, regenerated) in cylindrical coordinates about its
  axis: `N = |b − a|²`, `L = √N`, `h = (p − a)·(b − a)/L` (`coneH`), `ρ = √(|p − a|² − h²)` (`coneRho`), `s = (r1 − r2)/L`, `c = √(1 − s²)`,
  `ℓ = c·h − s·ρ`.
  `core` is the closure body as a function of the scalars the source computes; `core_eq_prof`: its two branch tests are
  exactly `c·L < ℓ` and `ℓ < 0` (`x ↦ sign x · x² = x·|x|` is strictly increasing, so no boundary case is lost) and its
  three values are the two sphere caps and the slanted side; `prof_le` / `prof_attained`: that profile is the least, over
  `t ∈ [0, 1]`, of the distance to the axis point at `t·L` minus the interpolated radius `r1 + t (r2 − r1)`; in 3-D that
  distance is the distance from `p` to `a + t(b − a)` (`distance_axis_point`); `prof_inside_attained`: where the profile is
  negative its zero set is reached at the exact distance, inside the half plane `ρ ≥ 0`.  Outside the guard `|r1 − r2| < L` the
  source returns the larger ball, again the least gap (`roundedCone_le_ball`, `roundedCone_attained`).
-/
import PolyVerif.Gen.Sdf
import PolyVerif.Lemmas.SdfProfile

namespace PolyVerif
namespace Cone
open Real C19

theorem sign_eq (x : ℝ) : Gen.sdf.sign x = if 0 < x then 1 else if x < 0 then -1 else 0 := by
  simp [Gen.sdf.sign]

theorem sign_mul_sq (x : ℝ) : Gen.sdf.sign x * (x * x) = x * |x| := by
  rw [sign_eq]; split_ifs with h1 h2
  · rw [abs_of_pos h1]; ring
  · rw [abs_of_neg h2]; ring
  · have : x = 0 := le_antisymm (not_lt.mp h1) (not_lt.mp h2)
    simp [this]

theorem sign_mul_pos (x : ℝ) {L : ℝ} (hL : 0 < L) : Gen.sdf.sign (x * L) = Gen.sdf.sign x := by
  have hn : x * L < 0 ↔ x < 0 := by
    constructor
    · intro h; by_contra hx; exact absurd (mul_nonneg (not_lt.mp hx) hL.le) (not_le.mpr h)
    · intro h; exact mul_neg_of_neg_of_pos h hL
  simp only [sign_eq, mul_pos_iff_of_pos_right hL, hn]

/-- `x ↦ x·|x|` (= `sign x · x²`) is strictly increasing: the squared comparisons of the source lose nothing -/
theorem mul_abs_lt_iff (x y : ℝ) : x * |x| < y * |y| ↔ x < y := by
  have mono : StrictMono fun u : ℝ => u * |u| := by
    intro u v huv
    rcases le_total 0 u with hu | hu
    · simp only [abs_of_nonneg hu, abs_of_nonneg (hu.trans huv.le)]; exact mul_self_lt_mul_self hu huv
    · rcases le_total 0 v with hv | hv
      · simp only [abs_of_nonpos hu, abs_of_nonneg hv]
        rcases hu.lt_or_eq with hu' | rfl
        · linarith [mul_pos_of_neg_of_neg hu' hu', mul_self_nonneg v]
        · linarith [mul_pos huv huv]
      · simp only [abs_of_nonpos hu, abs_of_nonpos hv]
        linarith [mul_self_lt_mul_self (neg_nonneg.mpr hv) (neg_lt_neg huv)]
  exact mono.lt_iff_lt

/-- body of the closure returned by `RoundedCone`, as a function of `N = ba·ba`, `y = pa·ba`, `x2 = |pa·N − ba·y|²` -/
noncomputable def core (N r1 r2 y x2 : ℝ) : ℝ :=
  if Gen.sdf.sign (r1 - r2) * ((r1 - r2) * (r1 - r2)) * x2
      < Gen.sdf.sign (y - N) * (N - (r1 - r2) * (r1 - r2)) * ((y - N) * (y - N) * N) then
    Real.sqrt (x2 + (y - N) * (y - N) * N) * (1 / N) - r2
  else if Gen.sdf.sign y * (N - (r1 - r2) * (r1 - r2)) * (y * y * N)
      < Gen.sdf.sign (r1 - r2) * ((r1 - r2) * (r1 - r2)) * x2 then
    Real.sqrt (x2 + y * y * N) * (1 / N) - r1
  else
    (Real.sqrt (x2 * (N - (r1 - r2) * (r1 - r2)) * (1 / N)) + y * (r1 - r2)) * (1 / N) - r1

section
variable (a b : V3 ℝ) (r1 r2 : ℝ)

/-- the regenerated definition: the nested-balls early return, then the closure body -/
theorem roundedCone_unfold :
    Gen.sdf.RoundedCone a b r1 r2 =
      if (b.Sub a).Dot (b.Sub a) - (r1 - r2) * (r1 - r2) ≤ 0 then
        (if r2 ≤ r1 then Gen.sdf.Sphere a r1 else Gen.sdf.Sphere b r2)
      else fun p =>
        core ((b.Sub a).Dot (b.Sub a)) r1 r2 ((p.Sub a).Dot (b.Sub a))
          (Gen.sdf.dot2 (((p.Sub a).Scale ((b.Sub a).Dot (b.Sub a))).Sub ((b.Sub a).Scale ((p.Sub a).Dot (b.Sub a))))) := by
  simp only [Gen.sdf.RoundedCone, core, decide_eq_true_eq, Nat.cast_one, Nat.cast_zero, RS.sqrt_eq]

/-- the source's test `a2 ≤ 0` is exactly the negation of the guard `|r1 − r2| < |b − a|` -/
theorem a2_nonpos_iff :
    (b.Sub a).Dot (b.Sub a) - (r1 - r2) * (r1 - r2) ≤ 0 ↔ ¬ |r1 - r2| < a.Distance b := by
  rw [V3.distance_eq_sqrt_dot, not_lt, Real.sqrt_le_left (abs_nonneg _), sq_abs, sub_nonpos, sq]

theorem roundedCone_eq_core (hg : |r1 - r2| < a.Distance b) (p : V3 ℝ) :
    Gen.sdf.RoundedCone a b r1 r2 p =
      core ((b.Sub a).Dot (b.Sub a)) r1 r2 ((p.Sub a).Dot (b.Sub a))
        (Gen.sdf.dot2 (((p.Sub a).Scale ((b.Sub a).Dot (b.Sub a))).Sub ((b.Sub a).Scale ((p.Sub a).Dot (b.Sub a))))) := by
  rw [roundedCone_unfold, if_neg (by rw [a2_nonpos_iff]; exact not_not.mpr hg)]

/-- nested or internally tangent balls: the early return of the source -/
theorem roundedCone_nested (hg : ¬ |r1 - r2| < a.Distance b) :
    Gen.sdf.RoundedCone a b r1 r2 = if r2 ≤ r1 then Gen.sdf.Sphere a r1 else Gen.sdf.Sphere b r2 := by
  rw [roundedCone_unfold, if_pos ((a2_nonpos_iff a b r1 r2).mpr hg)]

end

/-- the 2-D profile, parametrised by the axis length `L` and the unit vector `(s, c)` normal to the slanted side -/
noncomputable def prof (L s c r1 r2 h ρ : ℝ) : ℝ :=
  if c * L < c * h - s * ρ then Real.sqrt ((h - L) ^ 2 + ρ ^ 2) - r2
  else if c * h - s * ρ < 0 then Real.sqrt (h ^ 2 + ρ ^ 2) - r1
  else ρ * c + h * s - r1

section
variable {L s c r1 r2 h ρ τ : ℝ}

theorem a2_eq (hsc : s ^ 2 + c ^ 2 = 1) : L * L - s * L * (s * L) = L ^ 2 * c ^ 2 := by
  linear_combination (-(L ^ 2)) * hsc

theorem k_eq (hL : 0 < L) (hρ : 0 ≤ ρ) :
    Gen.sdf.sign (s * L) * (s * L * (s * L)) * (L ^ 4 * ρ ^ 2) = L ^ 6 * ((s * ρ) * |s * ρ|) := by
  rw [sign_mul_pos _ hL, abs_mul, abs_of_nonneg hρ]
  have := sign_mul_sq s
  calc _ = L ^ 6 * ρ ^ 2 * (Gen.sdf.sign s * (s * s)) := by ring
    _ = _ := by rw [this]; ring

theorem side_eq (w : ℝ) (hL : 0 < L) (hc : 0 < c) (hsc : s ^ 2 + c ^ 2 = 1) :
    Gen.sdf.sign (w * L) * (L * L - s * L * (s * L)) * (w * L * (w * L) * (L * L)) = L ^ 6 * ((c * w) * |c * w|) := by
  rw [sign_mul_pos _ hL, abs_mul, abs_of_pos hc, a2_eq hsc]
  have := sign_mul_sq w
  calc _ = L ^ 6 * c ^ 2 * (Gen.sdf.sign w * (w * w)) := by ring
    _ = _ := by rw [this]; ring

/-- first test of the source, `sign(z)·a2·z2 > k`  ⇔  `c·L < ℓ` (exactly, boundary included) -/
theorem test1_iff (hL : 0 < L) (hc : 0 < c) (hsc : s ^ 2 + c ^ 2 = 1) (hρ : 0 ≤ ρ) :
    Gen.sdf.sign (s * L) * (s * L * (s * L)) * (L ^ 4 * ρ ^ 2)
      < Gen.sdf.sign (h * L - L * L) * (L * L - s * L * (s * L)) * ((h * L - L * L) * (h * L - L * L) * (L * L))
    ↔ c * L < c * h - s * ρ := by
  have e : h * L - L * L = (h - L) * L := by ring
  rw [k_eq hL hρ, e, side_eq (h - L) hL hc hsc, mul_lt_mul_iff_right₀ (by positivity), mul_abs_lt_iff]
  constructor <;> intro hh <;> linarith

/-- second test of the source, `sign(y)·a2·y2 < k`  ⇔  `ℓ < 0` (exactly) -/
theorem test2_iff (hL : 0 < L) (hc : 0 < c) (hsc : s ^ 2 + c ^ 2 = 1) (hρ : 0 ≤ ρ) :
    Gen.sdf.sign (h * L) * (L * L - s * L * (s * L)) * (h * L * (h * L) * (L * L))
      < Gen.sdf.sign (s * L) * (s * L * (s * L)) * (L ^ 4 * ρ ^ 2)
    ↔ c * h - s * ρ < 0 := by
  rw [k_eq hL hρ, side_eq h hL hc hsc, mul_lt_mul_iff_right₀ (by positivity), mul_abs_lt_iff]
  constructor <;> intro hh <;> linarith

theorem cap_val (w ρ : ℝ) (hL : 0 < L) :
    Real.sqrt (L ^ 4 * ρ ^ 2 + w * L * (w * L) * (L * L)) * (1 / (L * L)) = Real.sqrt (w ^ 2 + ρ ^ 2) := by
  have : L ^ 4 * ρ ^ 2 + w * L * (w * L) * (L * L) = (L ^ 2) ^ 2 * (w ^ 2 + ρ ^ 2) := by ring
  rw [this, Real.sqrt_mul (sq_nonneg _), Real.sqrt_sq (sq_nonneg L)]
  field_simp

theorem side_val (h ρ : ℝ) (hL : 0 < L) (hc : 0 < c) (hsc : s ^ 2 + c ^ 2 = 1) (hρ : 0 ≤ ρ) :
    (Real.sqrt (L ^ 4 * ρ ^ 2 * (L * L - s * L * (s * L)) * (1 / (L * L))) + h * L * (s * L)) * (1 / (L * L))
      = ρ * c + h * s := by
  have : L ^ 4 * ρ ^ 2 * (L * L - s * L * (s * L)) * (1 / (L * L)) = (L ^ 2 * ρ * c) ^ 2 := by
    rw [a2_eq hsc]; field_simp
  rw [this, Real.sqrt_sq (by positivity)]
  field_simp

/-- the closure body in profile coordinates: `N = L²`, `y = h·L`, `x2 = L⁴·ρ²`, `r1 − r2 = s·L` -/
theorem core_eq_prof (hL : 0 < L) (hc : 0 < c) (hsc : s ^ 2 + c ^ 2 = 1) (hρ : 0 ≤ ρ)
    (hrr : r1 - r2 = s * L) :
    core (L * L) r1 r2 (h * L) (L ^ 4 * ρ ^ 2) = prof L s c r1 r2 h ρ := by
  unfold core prof
  rw [hrr]
  simp only [test1_iff hL hc hsc hρ, test2_iff hL hc hsc hρ]
  have e : h * L - L * L = (h - L) * L := by ring
  rw [e, cap_val (h - L) ρ hL, cap_val h ρ hL, side_val h ρ hL hc hsc hρ]

/-- Cauchy–Schwarz against the unit vector `(s, c)`: the slanted-side value never exceeds the distance to an axis point -/
theorem side_le_sqrt (hsc : s ^ 2 + c ^ 2 = 1) (w ρ : ℝ) : ρ * c + w * s ≤ Real.sqrt (w ^ 2 + ρ ^ 2) := by
  refine (le_abs_self _).trans (Real.abs_le_sqrt ?_)
  have : w ^ 2 + ρ ^ 2 - (ρ * c + w * s) ^ 2 = (w * c - ρ * s) ^ 2 := by
    linear_combination (-(w ^ 2 + ρ ^ 2)) * hsc
  linarith [sq_nonneg (w * c - ρ * s)]

/-- in the cap region `ℓ ≤ 0` the direction to the cap centre is at least as steep as the side normal: `h ≤ s·|X|` -/
theorem cap_key (hsc : s ^ 2 + c ^ 2 = 1) (hc : 0 < c) (hρ : 0 ≤ ρ) (hl : c * h - s * ρ ≤ 0) :
    h ≤ s * Real.sqrt (h ^ 2 + ρ ^ 2) := by
  set D := Real.sqrt (h ^ 2 + ρ ^ 2) with hD
  have hD0 : 0 ≤ D := Real.sqrt_nonneg _
  have hD2 : D ^ 2 = h ^ 2 + ρ ^ 2 := Real.sq_sqrt (by positivity)
  by_contra hcon
  have hlt : s * D < h := not_le.mp hcon
  rcases le_or_gt 0 s with hs | hs
  · have h0 : 0 < h := lt_of_le_of_lt (mul_nonneg hs hD0) hlt
    have h1 : (s * D) ^ 2 < h ^ 2 := pow_lt_pow_left₀ hlt (mul_nonneg hs hD0) (by norm_num)
    have h2 : (s * ρ) ^ 2 < (c * h) ^ 2 := by
      have : (c * h) ^ 2 - (s * ρ) ^ 2 = h ^ 2 - (s * D) ^ 2 := by
        rw [mul_pow s D, hD2]; linear_combination (h ^ 2) * hsc
      linarith
    have h3 : s * ρ < c * h := lt_of_pow_lt_pow_left₀ 2 (mul_nonneg hc.le h0.le) h2
    linarith
  · have hsr : s * ρ ≤ 0 := mul_nonpos_of_nonpos_of_nonneg hs.le hρ
    have hch : c * h ≤ 0 := by linarith
    have h0 : h ≤ 0 := by
      by_contra hh; exact absurd (mul_pos hc (not_le.mp hh)) (not_lt.mpr hch)
    have h1 : (-h) ^ 2 < (-(s * D)) ^ 2 := pow_lt_pow_left₀ (by linarith) (by linarith) (by norm_num)
    have h2 : (-(c * h)) ^ 2 < (-(s * ρ)) ^ 2 := by
      have : (-(s * ρ)) ^ 2 - (-(c * h)) ^ 2 = (-(s * D)) ^ 2 - (-h) ^ 2 := by
        rw [neg_sq, neg_sq, neg_sq, neg_sq, mul_pow s D, hD2]; linear_combination (-(h ^ 2)) * hsc
      linarith
    have h3 : -(c * h) < -(s * ρ) := lt_of_pow_lt_pow_left₀ 2 (by linarith) h2
    linarith

/-- in the cap region the cap centre is the best axis point: moving the centre by `τ ≥ 0` along the axis (radius
    shrinking by `τ·s`) does not get closer -/
theorem cap_le (hsc : s ^ 2 + c ^ 2 = 1) (hc : 0 < c) (hρ : 0 ≤ ρ) (hl : c * h - s * ρ ≤ 0)
    (hτ : 0 ≤ τ) : Real.sqrt (h ^ 2 + ρ ^ 2) ≤ Real.sqrt ((h - τ) ^ 2 + ρ ^ 2) + τ * s := by
  have key := cap_key hsc hc hρ hl
  set D := Real.sqrt (h ^ 2 + ρ ^ 2) with hD
  have hD2 : D ^ 2 = h ^ 2 + ρ ^ 2 := Real.sq_sqrt (by positivity)
  have : D - τ * s ≤ Real.sqrt ((h - τ) ^ 2 + ρ ^ 2) := by
    refine (le_abs_self _).trans (Real.abs_le_sqrt ?_)
    have e : (h - τ) ^ 2 + ρ ^ 2 - (D - τ * s) ^ 2 = (τ * c) ^ 2 + 2 * (τ * (s * D - h)) := by
      linear_combination (-1) * hD2 + (-(τ ^ 2)) * hsc
    linarith [sq_nonneg (τ * c), mul_nonneg hτ (sub_nonneg.mpr key)]
  linarith

/-- the profile is a lower bound of the gap between `X = (h, ρ)` and every ball centred at axis position `t·L`, `t ∈ [0, 1]`,
    with the interpolated radius `r1 + t (r2 − r1) = r1 − t·L·s` -/
theorem prof_le (hL : 0 < L) (hc : 0 < c) (hsc : s ^ 2 + c ^ 2 = 1) (hρ : 0 ≤ ρ)
    (hrr : r1 - r2 = s * L) {t : ℝ} (h0 : 0 ≤ t) (h1 : t ≤ 1) :
    prof L s c r1 r2 h ρ ≤ Real.sqrt ((h - t * L) ^ 2 + ρ ^ 2) - (r1 + t * (r2 - r1)) := by
  have hτ0 := mul_nonneg h0 hL.le
  have hτ1 := mul_le_of_le_one_left hL.le h1
  rw [show r1 + t * (r2 - r1) = r1 - t * L * s by linear_combination (-t) * hrr]
  unfold prof
  split_ifs with c1 c2
  · have := cap_le (s := -s) (h := L - h) (τ := L - t * L) (ρ := ρ) (c := c) (by rw [neg_sq]; exact hsc) hc hρ
      (by linarith) (by linarith)
    have e1 : (L - h) ^ 2 = (h - L) ^ 2 := by ring
    have e2 : (L - h - (L - t * L)) ^ 2 = (h - t * L) ^ 2 := by ring
    rw [e1, e2] at this
    linarith
  · have := cap_le (τ := t * L) hsc hc hρ c2.le hτ0
    linarith
  · have := side_le_sqrt hsc (h - t * L) ρ
    linarith

/-- … and it is attained: at `t = 1` (cap at `b`), `t = 0` (cap at `a`), `t·L = ℓ/c` (side) -/
theorem prof_attained (h ρ : ℝ) (hc : 0 < c) (hsc : s ^ 2 + c ^ 2 = 1) (hρ : 0 ≤ ρ)
    (hL : 0 < L) (hrr : r1 - r2 = s * L) :
    ∃ t, 0 ≤ t ∧ t ≤ 1 ∧ prof L s c r1 r2 h ρ = Real.sqrt ((h - t * L) ^ 2 + ρ ^ 2) - (r1 + t * (r2 - r1)) := by
  unfold prof
  split_ifs with c1 c2
  · exact ⟨1, zero_le_one, le_rfl, by rw [one_mul, one_mul]; ring_nf⟩
  · exact ⟨0, le_rfl, zero_le_one, by simp⟩
  · have hcL := mul_pos hc hL
    refine ⟨(c * h - s * ρ) / (c * L), div_nonneg (not_lt.mp c2) hcL.le,
      (div_le_one hcL).mpr (not_lt.mp c1), ?_⟩
    have eτ : (c * h - s * ρ) / (c * L) * L = (c * h - s * ρ) / c := by field_simp
    have e : (h - (c * h - s * ρ) / c) ^ 2 + ρ ^ 2 = (ρ / c) ^ 2 := by
      field_simp; linear_combination (ρ ^ 2) * hsc
    rw [eτ, e, Real.sqrt_sq (div_nonneg hρ hc.le), show r2 - r1 = -(s * L) by linarith]
    field_simp
    linear_combination ρ * hsc

end

/-! ### an interior point of the profile reaches the zero set at the exact distance, inside the half plane `ρ ≥ 0` -/

section
variable {L s c r1 r2 h ρ : ℝ}

theorem prof_capB (h1 : c * L < c * h - s * ρ) : prof L s c r1 r2 h ρ = Real.sqrt ((h - L) ^ 2 + ρ ^ 2) - r2 := if_pos h1

theorem prof_capA (h1 : ¬ c * L < c * h - s * ρ) (h2 : c * h - s * ρ < 0) :
    prof L s c r1 r2 h ρ = Real.sqrt (h ^ 2 + ρ ^ 2) - r1 := by rw [prof, if_neg h1, if_pos h2]

theorem prof_side (h1 : ¬ c * L < c * h - s * ρ) (h2 : ¬ c * h - s * ρ < 0) :
    prof L s c r1 r2 h ρ = ρ * c + h * s - r1 := by rw [prof, if_neg h1, if_neg h2]

/-- the point of the ray from the cap centre through `(x, ρ) ≠ 0` at distance `r` from the centre -/
theorem cap_scale {x ρ r : ℝ} (hD : 0 < Real.sqrt (x ^ 2 + ρ ^ 2)) (hr : 0 ≤ r) :
    Real.sqrt ((r / Real.sqrt (x ^ 2 + ρ ^ 2) * x) ^ 2 + (r / Real.sqrt (x ^ 2 + ρ ^ 2) * ρ) ^ 2) = r ∧
      (x - r / Real.sqrt (x ^ 2 + ρ ^ 2) * x) ^ 2 + (ρ - r / Real.sqrt (x ^ 2 + ρ ^ 2) * ρ) ^ 2
        = (Real.sqrt (x ^ 2 + ρ ^ 2) - r) ^ 2 := by
  have hDD : Real.sqrt (x ^ 2 + ρ ^ 2) ^ 2 = x ^ 2 + ρ ^ 2 := Real.sq_sqrt (by positivity)
  generalize Real.sqrt (x ^ 2 + ρ ^ 2) = D at hD hDD
  constructor
  · rw [show (r / D * x) ^ 2 + (r / D * ρ) ^ 2 = (r / D) ^ 2 * (x ^ 2 + ρ ^ 2) by ring, ← hDD,
      show (r / D) ^ 2 * D ^ 2 = r ^ 2 by field_simp, Real.sqrt_sq hr]
  · rw [show (x - r / D * x) ^ 2 + (ρ - r / D * ρ) ^ 2 = (1 - r / D) ^ 2 * (x ^ 2 + ρ ^ 2) by ring, ← hDD]
    field_simp

theorem sqrt_pos_of_ell {x ρ : ℝ} (h : c * x - s * ρ ≠ 0) : 0 < Real.sqrt (x ^ 2 + ρ ^ 2) := by
  apply Real.sqrt_pos.mpr
  by_contra hn
  have h0 : x ^ 2 + ρ ^ 2 = 0 := le_antisymm (not_lt.mp hn) (by positivity)
  have hx : x = 0 := pow_eq_zero_iff two_ne_zero |>.mp (le_antisymm (by linarith [sq_nonneg ρ]) (sq_nonneg x))
  have hρ : ρ = 0 := pow_eq_zero_iff two_ne_zero |>.mp (le_antisymm (by linarith [sq_nonneg x]) (sq_nonneg ρ))
  apply h; rw [hx, hρ]; ring

theorem prof_inside_attained (hL : 0 < L) (hc : 0 < c) (hsc : s ^ 2 + c ^ 2 = 1) (hρ : 0 ≤ ρ)
    (hf : prof L s c r1 r2 h ρ < 0) :
    ∃ h' ρ', 0 ≤ ρ' ∧ prof L s c r1 r2 h' ρ' = 0 ∧ (h - h') ^ 2 + (ρ - ρ') ^ 2 = prof L s c r1 r2 h ρ ^ 2 := by
  by_cases c1 : c * L < c * h - s * ρ
  · -- cap at `b`: along the ray from `(L, 0)`; the functional `ℓ − c·L` is homogeneous about `(L, 0)`
    rw [prof_capB c1] at hf ⊢
    have hD : 0 < Real.sqrt ((h - L) ^ 2 + ρ ^ 2) := sqrt_pos_of_ell (c := c) (s := s) (by linarith)
    have hr : 0 < r2 := by linarith
    obtain ⟨e1, e2⟩ := cap_scale hD hr.le
    set k := r2 / Real.sqrt ((h - L) ^ 2 + ρ ^ 2) with hk
    have hk0 : 0 < k := div_pos hr hD
    refine ⟨L + k * (h - L), k * ρ, mul_nonneg hk0.le hρ, ?_, ?_⟩
    · rw [prof_capB (by linarith [mul_pos hk0 (sub_pos.mpr c1)]), add_sub_cancel_left, e1, sub_self]
    · rw [← e2]; ring
  · by_cases c2 : c * h - s * ρ < 0
    · rw [prof_capA c1 c2] at hf ⊢
      have hD : 0 < Real.sqrt (h ^ 2 + ρ ^ 2) := sqrt_pos_of_ell (c := c) (s := s) (by linarith)
      have hr : 0 < r1 := by linarith
      obtain ⟨e1, e2⟩ := cap_scale hD hr.le
      set k := r1 / Real.sqrt (h ^ 2 + ρ ^ 2) with hk
      have hk0 : 0 < k := div_pos hr hD
      have hneg : c * (k * h) - s * (k * ρ) < 0 := by linarith [mul_pos hk0 (neg_pos.mpr c2)]
      refine ⟨k * h, k * ρ, mul_nonneg hk0.le hρ, ?_, e2⟩
      rw [prof_capA (not_lt.mpr (by linarith [mul_pos hc hL])) hneg, e1, sub_self]
    · -- slanted side: along the unit normal `(s, c)`, on which `ℓ` is constant
      rw [prof_side c1 c2] at hf ⊢
      set f := ρ * c + h * s - r1 with hfd
      have e : c * (h - f * s) - s * (ρ - f * c) = c * h - s * ρ := by ring
      refine ⟨h - f * s, ρ - f * c, by linarith [mul_pos (neg_pos.mpr hf) hc], ?_, ?_⟩
      · rw [prof_side (by rwa [e]) (by rwa [e])]
        linear_combination (-f) * hsc
      · linear_combination f ^ 2 * hsc

end

section
variable (a b : V3 ℝ) (r1 r2 : ℝ)

theorem axial_mul (p : V3 ℝ) (hL : 0 < a.Distance b) : coneH a b p * a.Distance b = (p.Sub a).Dot (b.Sub a) := by
  unfold coneH; field_simp

/-- `ρ² = |p − a|² − h²`: Pythagoras about the axis direction -/
theorem radial_sq (p : V3 ℝ) (hL : 0 < a.Distance b) :
    coneRho a b p ^ 2 = (p.Sub a).Dot (p.Sub a) - coneH a b p ^ 2 := by
  have hab : a ≠ b := fun e => hL.ne' (e ▸ V3.distance_self a)
  rw [coneRho_eq_rad hab, coneH_eq_inner, ← inner_toE, toE_sub, real_inner_self_eq_norm_sq,
    norm_sq_cyl (axisDir_norm hab)]
  ring

theorem dot2_sub_scale (u v : V3 ℝ) (N y : ℝ) :
    Gen.sdf.dot2 ((u.Scale N).Sub (v.Scale y)) = N ^ 2 * u.Dot u - 2 * N * y * u.Dot v + y ^ 2 * v.Dot v := by
  simp only [Gen.sdf.dot2, V3.Dot, V3.Sub, V3.Scale]; ring

/-- `x2 = |pa·l2 − ba·y|²` of the source is `N²·|pa|² − N·y²` -/
theorem x2_eq (p : V3 ℝ) :
    Gen.sdf.dot2 (((p.Sub a).Scale ((b.Sub a).Dot (b.Sub a))).Sub ((b.Sub a).Scale ((p.Sub a).Dot (b.Sub a))))
      = ((b.Sub a).Dot (b.Sub a)) ^ 2 * (p.Sub a).Dot (p.Sub a)
          - (b.Sub a).Dot (b.Sub a) * ((p.Sub a).Dot (b.Sub a)) ^ 2 := by
  rw [dot2_sub_scale]; ring

/-- … which is `L⁴·ρ²` -/
theorem x2_eq_radial (p : V3 ℝ) (hL : 0 < a.Distance b) :
    Gen.sdf.dot2 (((p.Sub a).Scale ((b.Sub a).Dot (b.Sub a))).Sub ((b.Sub a).Scale ((p.Sub a).Dot (b.Sub a))))
      = a.Distance b ^ 4 * coneRho a b p ^ 2 := by
  rw [x2_eq, radial_sq a b p hL, ← axial_mul a b p hL, ← V3.distance_mul_self a b]
  ring

theorem guard_facts {L r1 r2 : ℝ} (hg : |r1 - r2| < L) :
    0 < L ∧ 0 < Real.sqrt (1 - ((r1 - r2) / L) ^ 2) ∧
      ((r1 - r2) / L) ^ 2 + Real.sqrt (1 - ((r1 - r2) / L) ^ 2) ^ 2 = 1 ∧ r1 - r2 = (r1 - r2) / L * L := by
  have hL : 0 < L := lt_of_le_of_lt (abs_nonneg _) hg
  have hs : ((r1 - r2) / L) ^ 2 < 1 := by
    rw [div_pow, div_lt_one (by positivity)]
    exact sq_lt_sq.mpr (by rwa [abs_of_pos hL])
  refine ⟨hL, Real.sqrt_pos.mpr (by linarith), ?_, by field_simp⟩
  rw [Real.sq_sqrt (by linarith)]; ring

theorem roundedCone_eq_prof (hg : |r1 - r2| < a.Distance b) (p : V3 ℝ) :
    Gen.sdf.RoundedCone a b r1 r2 p =
      prof (a.Distance b) ((r1 - r2) / a.Distance b) (Real.sqrt (1 - ((r1 - r2) / a.Distance b) ^ 2)) r1 r2
        (coneH a b p) (coneRho a b p) := by
  obtain ⟨hL, hc, hsc, hrr⟩ := guard_facts hg
  rw [roundedCone_eq_core a b r1 r2 hg, x2_eq_radial a b p hL, ← axial_mul a b p hL, ← V3.distance_mul_self a b]
  exact core_eq_prof hL hc hsc (Real.sqrt_nonneg _) hrr

/-- the distance from `p` to the axis point at parameter `t`, in cylindrical coordinates -/
theorem distance_axis_point (p : V3 ℝ) (hL : 0 < a.Distance b) (t : ℝ) :
    p.Distance (segPoint a b t)
      = Real.sqrt ((coneH a b p - t * a.Distance b) ^ 2 + coneRho a b p ^ 2) := by
  rw [V3.distance_eq_sqrt, distSq_seg, radial_sq a b p hL, ← axial_mul a b p hL, ← V3.distance_mul_self a b]
  congr 1; ring

/-- lower bound: the field is below the gap to every ball `B(a + t(b − a), r1 + t(r2 − r1))`, `t ∈ [0, 1]` -/
theorem roundedCone_le_ball_guard (hg : |r1 - r2| < a.Distance b) (p : V3 ℝ)
    {t : ℝ} (h0 : 0 ≤ t) (h1 : t ≤ 1) :
    Gen.sdf.RoundedCone a b r1 r2 p ≤ p.Distance (segPoint a b t) - (r1 + t * (r2 - r1)) := by
  obtain ⟨hL, hc, hsc, hrr⟩ := guard_facts hg
  rw [roundedCone_eq_prof a b r1 r2 hg, distance_axis_point a b p hL]
  exact prof_le hL hc hsc (Real.sqrt_nonneg _) hrr h0 h1

theorem roundedCone_attained_guard (hg : |r1 - r2| < a.Distance b) (p : V3 ℝ) :
    ∃ t, 0 ≤ t ∧ t ≤ 1 ∧
      Gen.sdf.RoundedCone a b r1 r2 p = p.Distance (segPoint a b t) - (r1 + t * (r2 - r1)) := by
  obtain ⟨hL, hc, hsc, hrr⟩ := guard_facts hg
  obtain ⟨t, h0, h1, ht⟩ := prof_attained (coneH a b p) (coneRho a b p) hc hsc (Real.sqrt_nonneg _) hL hrr
  exact ⟨t, h0, h1, by rw [roundedCone_eq_prof a b r1 r2 hg, distance_axis_point a b p hL, ht]⟩

theorem axis_point_zero : segPoint a b 0 = a := by
  ext <;> simp [segPoint, V3.Add, V3.Scale]

theorem axis_point_one : segPoint a b 1 = b := by
  ext <;> simp [segPoint, V3.Add, V3.Sub, V3.Scale]

theorem distance_axis_a {t : ℝ} (h0 : 0 ≤ t) :
    (segPoint a b t).Distance a = t * a.Distance b := by
  rw [← dist_toE, toE_segPoint, add_sub_cancel_left, norm_smul, Real.norm_eq_abs, abs_of_nonneg h0, dist_toE,
    V3.distance_comm b a]

theorem distance_axis_b {t : ℝ} (h1 : t ≤ 1) :
    (segPoint a b t).Distance b = (1 - t) * a.Distance b := by
  rw [← dist_toE, toE_segPoint]
  have : toE a + t • (toE b - toE a) - toE b = (1 - t) • (toE a - toE b) := by module
  rw [this, norm_smul, Real.norm_eq_abs, abs_of_nonneg (by linarith), dist_toE]

theorem sphere_apply (c : V3 ℝ) (r : ℝ) (p : V3 ℝ) : Gen.sdf.Sphere c r p = p.Distance c - r := rfl

/-- nested balls: the larger ball's gap is below every ball gap of the family -/
theorem nested_le_ball (hg : ¬ |r1 - r2| < a.Distance b) (p : V3 ℝ)
    {t : ℝ} (h0 : 0 ≤ t) (h1 : t ≤ 1) :
    (if r2 ≤ r1 then Gen.sdf.Sphere a r1 else Gen.sdf.Sphere b r2) p
      ≤ p.Distance (segPoint a b t) - (r1 + t * (r2 - r1)) := by
  have hg' := not_lt.mp hg
  split_ifs with h
  · rw [sphere_apply]
    have tri := V3.distance_triangle p (segPoint a b t) a
    rw [distance_axis_a a b h0] at tri
    rw [abs_of_nonneg (by linarith)] at hg'
    linarith [mul_le_mul_of_nonneg_left hg' h0]
  · rw [sphere_apply]
    have tri := V3.distance_triangle p (segPoint a b t) b
    rw [distance_axis_b a b h1] at tri
    rw [abs_of_neg (by linarith)] at hg'
    linarith [mul_le_mul_of_nonneg_left hg' (sub_nonneg.mpr h1)]

theorem roundedCone_le_ball (p : V3 ℝ) {t : ℝ} (h0 : 0 ≤ t) (h1 : t ≤ 1) :
    Gen.sdf.RoundedCone a b r1 r2 p ≤ p.Distance (segPoint a b t) - (r1 + t * (r2 - r1)) := by
  by_cases hg : |r1 - r2| < a.Distance b
  · exact roundedCone_le_ball_guard a b r1 r2 hg p h0 h1
  · rw [roundedCone_nested a b r1 r2 hg]; exact nested_le_ball a b r1 r2 hg p h0 h1

/-- attained, ALL parameters (nested case: at `t = 0` or `t = 1`) -/
theorem roundedCone_attained (p : V3 ℝ) :
    ∃ t, 0 ≤ t ∧ t ≤ 1 ∧
      Gen.sdf.RoundedCone a b r1 r2 p = p.Distance (segPoint a b t) - (r1 + t * (r2 - r1)) := by
  by_cases hg : |r1 - r2| < a.Distance b
  · exact roundedCone_attained_guard a b r1 r2 hg p
  · rw [roundedCone_nested a b r1 r2 hg]
    split_ifs with h
    · exact ⟨0, le_rfl, zero_le_one, by rw [axis_point_zero, sphere_apply]; ring⟩
    · exact ⟨1, zero_le_one, le_rfl, by rw [axis_point_one, sphere_apply]; ring⟩

end

end Cone
end PolyVerif
