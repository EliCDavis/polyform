/-
  List facts behind the mesh operations: a few general ones (`filterMap`, `zip`, `drop`/`replicate`, folds of `bind`), then
  reading an array through indices (`gather`), dropping the unflagged entries and shifting the indices
  (`compact` / `keepAt`, `skipped`, `usedFlags`), index triples (`triples`, `untriples`, `flipList`), and lookup in
  an attribute list (`Attrs.find?`).  No `MeshVal` here.
-/
import PolyVerif.Model.MeshSpec

namespace PolyVerif.Mesh
variable {α β γ : Type}

theorem filterMap_length_of_all {β γ : Type} (f : β → Option γ) : ∀ (l : List β),
    l.all (fun x => (f x).isSome) = true → (l.filterMap f).length = l.length
  | [], _ => by simp
  | a :: t, h => by
    simp only [List.all_cons, Bool.and_eq_true] at h
    obtain ⟨b, hb⟩ := Option.isSome_iff_exists.mp h.1
    simp [hb, filterMap_length_of_all f t h.2]

theorem map_getElem?_replicate {idx : List Nat} {n : Nat} (z : α) (h : ∀ i ∈ idx, i < n) :
    idx.map (fun i => (List.replicate n z)[i]?) = List.replicate idx.length (some z) := by
  refine List.eq_replicate_iff.mpr ⟨by simp, fun o ho => ?_⟩
  obtain ⟨i, hi, rfl⟩ := List.mem_map.mp ho
  simp [h i hi]

theorem map_getElem?_append_left {idx : List Nat} (d e : List α) (h : ∀ i ∈ idx, i < d.length) :
    idx.map (fun i => (d ++ e)[i]?) = idx.map fun i => d[i]? :=
  List.map_congr_left fun i hi => List.getElem?_append_left (h i hi)

theorem map_getElem?_append_right (idx : List Nat) (d e : List α) :
    (idx.map (· + d.length)).map (fun i => (d ++ e)[i]?) = idx.map fun i => e[i]? := by
  rw [List.map_map]
  refine List.map_congr_left fun i _ => ?_
  simp only [Function.comp]
  rw [List.getElem?_append_right (by omega)]
  congr 1; omega

theorem foldl_bind_none {β γ : Type} (F : β → γ → Option γ) (l : List β) :
    l.foldl (fun acc x => acc.bind (F x)) none = none := by
  induction l with
  | nil => rfl
  | cons _ _ ih => exact ih

theorem zip_map_fst (a : List Nat) (T : List (Nat × Nat × Nat)) (h : a.length = T.length) : (a.zip T).map (·.1) = a :=
  List.map_fst_zip (by omega)

theorem zip_filter_length (μ : Nat) (assign : List Nat) (T : List (Nat × Nat × Nat)) (h : assign.length = T.length) :
    ((assign.zip T).filter fun e => e.1 == μ).length = (assign.filter (· == μ)).length := by
  conv => rhs; rw [← zip_map_fst assign T h, List.filter_map, List.length_map]
  rfl

theorem drop_replicate_append_ge {β : Type} (c k : Nat) (x : β) (L : List β) (h : c ≤ k) :
    (List.replicate c x ++ L).drop k = L.drop (k - c) := by
  rw [List.drop_append]
  simp [List.drop_replicate]
  omega

theorem drop_replicate_append_lt {β : Type} (c k : Nat) (x : β) (L : List β) (h : k < c) :
    (List.replicate c x ++ L).drop k = x :: (List.replicate c x ++ L).drop (k + 1) := by
  have hlen : k < (List.replicate c x ++ L).length := by simp; omega
  rw [List.drop_eq_getElem_cons hlen]
  congr 1
  rw [List.getElem_append_left (by simp; exact h)]
  simp

theorem range_map_getElem? (l : List α) : (List.range l.length).map (fun i => l[i]?) = l.map some := by
  apply List.ext_getElem?
  intro i
  by_cases h : i < l.length <;> simp [h]

theorem gather_map_some {d : List α} {idx : List Nat} (h : ∀ i ∈ idx, i < d.length) :
    (gather d idx).map some = idx.map fun i => d[i]? := by
  induction idx with
  | nil => rfl
  | cons a t ih =>
    have ha : a < d.length := h a (by simp)
    have := ih fun i hi => h i (by simp [hi])
    simp only [gather, List.filterMap_cons, List.getElem?_eq_getElem ha, List.map_cons] at this ⊢
    rw [this]

theorem gather_length {d : List α} {idx : List Nat} (h : ∀ i ∈ idx, i < d.length) :
    (gather d idx).length = idx.length := by
  simpa using congrArg List.length (gather_map_some h)

theorem gather_range (l : List α) : gather l (List.range l.length) = l :=
  (List.map_inj_right fun _ _ => Option.some.inj).mp (by rw [gather_map_some (by simp), range_map_getElem?])

/-- reading `gather d reps` through `T` is reading `d` through `T` re-pointed by `reps` -/
theorem map_gather_eq {d : List α} {reps : List Nat} (h : ∀ r ∈ reps, r < d.length) :
    ∀ (T : List Nat), (∀ c ∈ T, c < reps.length) →
      T.map (fun c => (gather d reps)[c]?) = (T.filterMap fun c => reps[c]?).map fun i => d[i]?
  | [], _ => rfl
  | c :: T, hT => by
    have hc : c < reps.length := hT c (by simp)
    have h1 := congrArg (fun l => l[c]?) (gather_map_some h)
    simp only [List.getElem?_map, List.getElem?_eq_getElem hc, Option.map_some] at h1
    have hg : c < (gather d reps).length := by rw [gather_length h]; exact hc
    rw [List.getElem?_eq_getElem hg, Option.map_some, Option.some.injEq] at h1
    simp only [List.map_cons, List.filterMap_cons, List.getElem?_eq_getElem hc, List.getElem?_eq_getElem hg, h1]
    rw [map_gather_eq h T fun c' hc' => hT c' (by simp [hc'])]

/-- `keepAt` (Model/MeshSpec) and `compact` (Model/MeshOps) are one function; the lemmas below are stated for `compact` -/
theorem keepAt_eq : @keepAt β = compact := rfl

@[simp] theorem compact_nil_left (d : List α) : compact [] d = [] := by simp [compact]
@[simp] theorem compact_nil_right (u : List Bool) : compact u ([] : List α) = [] := by simp [compact]

theorem compact_cons (b : Bool) (u : List Bool) (x : α) (d : List α) :
    compact (b :: u) (x :: d) = if b then x :: compact u d else compact u d := by
  cases b <;> simp [compact]

theorem skipped_zero (b : Bool) (u : List Bool) : skipped (b :: u) 0 = if b then 0 else 1 := by
  cases b <;> simp [skipped]

theorem skipped_succ (b : Bool) (u : List Bool) (i : Nat) :
    skipped (b :: u) (i + 1) = (if b then 0 else 1) + skipped u i := by
  cases b <;> simp [skipped] <;> omega

/-- index shifting: a kept vertex `i` is found at `i - shiftBy[i]` -/
theorem compact_getElem? : ∀ (u : List Bool) (d : List α) (i : Nat), d.length = u.length →
    u[i]? = some true → skipped u i ≤ i ∧ (compact u d)[i - skipped u i]? = d[i]?
  | [], _, i, _, h => by simp at h
  | b :: u, [], _, hl, _ => by simp at hl
  | b :: u, x :: d, 0, _, h => by
    obtain rfl : b = true := by simpa using h
    simp [skipped_zero, compact_cons]
  | b :: u, x :: d, i + 1, hl, h => by
    obtain ⟨hle, hget⟩ := compact_getElem? u d i (by simpa using hl) (by simpa using h)
    rw [skipped_succ, compact_cons]
    cases b
    · rw [show i + 1 - ((if false then 0 else 1) + skipped u i) = i - skipped u i by simp; omega]
      exact ⟨by simp; omega, by simpa using hget⟩
    · rw [show i + 1 - ((if true then 0 else 1) + skipped u i) = (i - skipped u i) + 1 by simp; omega]
      exact ⟨by simp; omega, by simpa using hget⟩

theorem compact_length : ∀ (u : List Bool) (d : List α), d.length = u.length →
    (compact u d).length = u.countP id
  | [], d, _ => by simp
  | b :: u, [], hl => by simp at hl
  | b :: u, x :: d, hl => by
    have := compact_length u d (by simpa using hl)
    rw [compact_cons]; cases b <;> simp [this]

theorem mem_of_mem_compact {u : List Bool} {d : List α} {x : α} (h : x ∈ compact u d) : x ∈ d := by
  simp only [compact, List.mem_filterMap] at h
  obtain ⟨xb, hxb, hx⟩ := h
  split at hx
  · cases hx; exact (List.of_mem_zip hxb).1
  · cases hx

theorem compact_map (f : β → γ) : ∀ (fl : List Bool) (l : List β), compact fl (l.map f) = (compact fl l).map f
  | [], l => by simp
  | _ :: _, [] => by simp
  | b :: fl, x :: l => by
    rw [List.map_cons, compact_cons, compact_cons, compact_map f fl l]; cases b <;> rfl

theorem filter_eq_compact (q : β → Bool) : ∀ (l : List β), l.filter q = compact (l.map q) l
  | [] => by simp
  | x :: l => by
    rw [List.map_cons, compact_cons, List.filter_cons, filter_eq_compact q l]

/-- every rank below the number of kept vertices is the new index of some kept vertex -/
theorem exists_kept_of_rank : ∀ (u : List Bool) (v : Nat), v < u.countP id →
    ∃ i, u[i]? = some true ∧ i - skipped u i = v
  | [], v, h => by simp at h
  | b :: u, v, h => by
    cases b
    · obtain ⟨i, hi, hv⟩ := exists_kept_of_rank u v (by simpa using h)
      exact ⟨i + 1, by simpa using hi, by rw [skipped_succ]; simp; omega⟩
    · cases v with
      | zero => exact ⟨0, by simp, by simp [skipped_zero]⟩
      | succ v' =>
        obtain ⟨i, hi, hv⟩ := exists_kept_of_rank u v' (by simp at h; omega)
        have hle := (compact_getElem? u u i rfl hi).1
        exact ⟨i + 1, by simpa using hi, by rw [skipped_succ]; simp; omega⟩

theorem usedFlags_length (n : Nat) (idx : List Nat) : (usedFlags n idx).length = n := by
  simp [usedFlags]

theorem usedFlags_getElem? {n : Nat} {idx : List Nat} {i : Nat} (hi : i ∈ idx) (hn : i < n) :
    (usedFlags n idx)[i]? = some true := by
  simp [usedFlags, List.getElem?_map, List.getElem?_range hn, hi]

theorem mem_of_usedFlags {n : Nat} {idx : List Nat} {i : Nat} (h : (usedFlags n idx)[i]? = some true) : i ∈ idx := by
  simp only [usedFlags, List.getElem?_map, Option.map_eq_some_iff] at h
  obtain ⟨j, hj, hc⟩ := h
  obtain rfl : j = i := by simpa using (List.getElem?_eq_some_iff.mp hj).2.symm
  simpa using hc

theorem length_untriples (l : List (β × β × β)) : (untriples l).length = 3 * l.length := by
  induction l with
  | nil => rfl
  | cons a t ih => simp only [untriples, List.length_cons, ih]; omega

theorem length_triples : ∀ (l : List β), (triples l).length = l.length / 3
  | [] | [_] | [_, _] => by simp [triples]
  | a :: b :: c :: rest => by simp only [triples, List.length_cons, length_triples rest]; omega

theorem mem_of_mem_triples : ∀ {l : List β} {t : β × β × β}, t ∈ triples l → t.1 ∈ l ∧ t.2.1 ∈ l ∧ t.2.2 ∈ l
  | [], _, h | [_], _, h | [_, _], _, h => by simp [triples] at h
  | a :: b :: c :: rest, t, h => by
    simp only [triples, List.mem_cons] at h
    rcases h with rfl | h
    · simp
    · have := mem_of_mem_triples h
      simp [this.1, this.2.1, this.2.2]

theorem forall_mem_untriples {P : β → Prop} {L : List (β × β × β)} :
    (∀ x ∈ untriples L, P x) ↔ ∀ t ∈ L, P t.1 ∧ P t.2.1 ∧ P t.2.2 := by
  induction L with
  | nil => simp [untriples]
  | cons a t ih =>
    obtain ⟨x, y, z⟩ := a
    simp only [untriples, List.forall_mem_cons, ih, and_assoc]

theorem untriples_append (a b : List (β × β × β)) : untriples (a ++ b) = untriples a ++ untriples b := by
  induction a with
  | nil => rfl
  | cons x t ih => simp [untriples, ih]

theorem triples_map (f : β → γ) : ∀ (l : List β),
    triples (l.map f) = (triples l).map fun t => (f t.1, f t.2.1, f t.2.2)
  | [] | [_] | [_, _] => by simp [triples]
  | a :: b :: c :: rest => by simp [triples, triples_map f rest]

theorem untriples_map (f : β → γ) (l : List (β × β × β)) :
    untriples (l.map fun t => (f t.1, f t.2.1, f t.2.2)) = (untriples l).map f := by
  induction l with
  | nil => rfl
  | cons a t ih => simp [untriples, ih]

theorem triples_untriples (l : List (β × β × β)) : triples (untriples l) = l := by
  induction l with
  | nil => rfl
  | cons a t ih => simp [untriples, triples, ih]

theorem untriples_triples : ∀ (l : List β), l.length % 3 = 0 → untriples (triples l) = l
  | [], _ => rfl
  | [_], h | [_, _], h => by simp at h
  | a :: b :: c :: rest, h => by
    simp [untriples, triples, untriples_triples rest (by simp at h; omega)]

/-- dropping whole triangles = dropping their three corners -/
theorem untriples_filter_eq_compact (q : β × β × β → Bool) : ∀ (l : List β),
    untriples ((triples l).filter q) = compact ((triples l).flatMap fun t => List.replicate 3 (q t)) l
  | [] | [_] | [_, _] => by simp [triples, untriples]
  | a :: b :: c :: rest => by
    have ih := untriples_filter_eq_compact q rest
    simp only [triples, List.filter_cons, List.flatMap_cons]
    cases h : q (a, b, c) <;> simp [untriples, ih, List.replicate, compact_cons]

theorem filter_length_eq_iff_all (q : β → Bool) (l : List β) :
    (l.filter q).length = l.length ↔ l.all q = true := by
  rw [List.all_eq_true]
  exact ⟨fun h => List.filter_eq_self.mp (List.filter_sublist.eq_of_length h),
    fun h => by rw [List.filter_eq_self.mpr h]⟩

theorem flipList_map (f : β → γ) (l : List β) : flipList (l.map f) = (flipList l).map f := by
  simp only [flipList, triples_map, List.map_map, ← untriples_map f]
  rfl

theorem flipList_flipList (l : List β) (h : l.length % 3 = 0) : flipList (flipList l) = l := by
  simp only [flipList, triples_untriples, List.map_map]
  rw [show ((fun t : β × β × β => (t.2.1, t.1, t.2.2)) ∘ fun t => (t.2.1, t.1, t.2.2)) = id from rfl,
    List.map_id, untriples_triples l h]

theorem length_flipList {l : List β} (h : l.length % 3 = 0) : (flipList l).length = l.length := by
  simp only [flipList, length_untriples, List.length_map, length_triples]; omega

theorem mem_of_mem_flipList {l : List β} : ∀ x ∈ flipList l, x ∈ l := by
  rw [flipList, forall_mem_untriples]
  intro t ht
  obtain ⟨t0, ht0, rfl⟩ := List.mem_map.mp ht
  have := mem_of_mem_triples ht0
  exact ⟨this.2.1, this.1, this.2.2⟩

namespace MeshVal
/-- `flipIdx` (Model/MeshOps) is `flipList` (Model/MeshSpec) on index lists; the lemmas above are stated for `flipList` -/
theorem flipIdx_eq_flipList (idx : List Nat) : flipIdx idx = flipList idx := rfl
end MeshVal

theorem Attrs.find?_mem {as : Attrs α} {k : AttrKey} {d : List α} (h : as.find? k = some d) : (k, d) ∈ as := by
  simp only [Attrs.find?, Option.map_eq_some_iff] at h
  obtain ⟨kd, hf, rfl⟩ := h
  obtain rfl : kd.1 = k := by simpa using List.find?_some hf
  exact List.mem_of_find?_eq_some hf

theorem Attrs.find?_isSome_of_mem {as : Attrs α} {kd : AttrKey × List α} (h : kd ∈ as) : (as.find? kd.1).isSome := by
  simp only [Attrs.find?, Option.isSome_map, List.find?_isSome]
  exact ⟨kd, h, by simp⟩

theorem Attrs.find?_nil (k : AttrKey) : Attrs.find? ([] : Attrs α) k = none := rfl

theorem Attrs.find?_cons (kd : AttrKey × List α) (as : Attrs α) (k : AttrKey) :
    Attrs.find? (kd :: as) k = if kd.1 = k then some kd.2 else Attrs.find? as k := by
  simp only [Attrs.find?, List.find?_cons]
  by_cases h : kd.1 = k
  · simp [h]
  · rw [beq_false_of_ne h, if_neg h]

theorem Attrs.find?_filter_ne (as : Attrs α) {k k' : AttrKey} (h : k' ≠ k) :
    Attrs.find? (as.filter fun kd => kd.1 != k) k' = Attrs.find? as k' := by
  induction as with
  | nil => rfl
  | cons a t ih =>
    by_cases hak : a.1 = k
    · subst hak
      simp [Attrs.find?_cons, Ne.symm h, ih]
    · simp [hak, Attrs.find?_cons, ih]

theorem Attrs.find?_filter_self (as : Attrs α) (k : AttrKey) :
    Attrs.find? (as.filter fun kd => kd.1 != k) k = none := by
  simp only [Attrs.find?, Option.map_eq_none_iff, List.find?_eq_none]
  intro kd hk
  simpa using (List.mem_filter.mp hk).2

theorem Attrs.find?_replace (as : Attrs α) (k k' : AttrKey) (data : List α) :
    Attrs.find? (as.map fun kd => if kd.1 == k then (k, data) else kd) k' =
      if k' = k then (Attrs.find? as k).map fun _ => data else Attrs.find? as k' := by
  induction as with
  | nil => simp [Attrs.find?_nil]
  | cons a t ih =>
    rw [List.map_cons, Attrs.find?_cons, Attrs.find?_cons, ih]
    by_cases hak : a.1 = k <;> by_cases hkk : k' = k <;> simp [hak, hkk, eq_comm (a := k) (b := k'), Attrs.find?_cons]

theorem Attrs.find?_snoc (as : Attrs α) (k k' : AttrKey) (data : List α) :
    Attrs.find? (as ++ [(k, data)]) k' = (Attrs.find? as k').or (if k = k' then some data else none) := by
  induction as with
  | nil => simp [Attrs.find?_cons, Attrs.find?_nil]
  | cons a t ih => rw [List.cons_append, Attrs.find?_cons, Attrs.find?_cons, ih]; split <;> simp

theorem Attrs.find?_mapVals (as : Attrs α) (g : AttrKey × List α → List α) (k : AttrKey) :
    Attrs.find? (as.map fun kd => (kd.1, g kd)) k = (Attrs.find? as k).map fun d => g (k, d) := by
  induction as with
  | nil => rfl
  | cons a t ih =>
    rw [List.map_cons, Attrs.find?_cons, Attrs.find?_cons, ih]
    split
    · rename_i h; rw [← h]; rfl
    · rfl

theorem Attrs.find?_filter_absent (as bs : Attrs α) (k : AttrKey) :
    Attrs.find? (bs.filter fun kd => !(Attrs.find? as kd.1).isSome) k =
      if (Attrs.find? as k).isSome then none else Attrs.find? bs k := by
  induction bs with
  | nil => simp [Attrs.find?_nil]
  | cons b t ih =>
    rw [List.filter_cons]
    by_cases hbk : b.1 = k
    · subst hbk; cases hp : (Attrs.find? as b.1).isSome <;> simp [-Option.not_isSome, Attrs.find?_cons, ih, hp]
    · cases hp : (Attrs.find? as b.1).isSome <;> simp [-Option.not_isSome, Attrs.find?_cons, ih, hbk]

theorem Attrs.find?_append (as bs : Attrs α) (k : AttrKey) :
    Attrs.find? (as ++ bs) k = (Attrs.find? as k).or (Attrs.find? bs k) := by
  unfold Attrs.find?
  rw [List.find?_append]
  cases List.find? (fun kd => kd.1 == k) as <;> simp

end PolyVerif.Mesh
