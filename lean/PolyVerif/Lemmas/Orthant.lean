/-
  Signed distance to the negative orthant, `G q = ‖q⁺‖ + min (max_i q_i) 0` — the common core of
  Quilez' box, rounded-box and rounded-cylinder formulas — in any dimension: its sign and zero set are those
  of `s q = max_i q_i`, it is 1-Lipschitz, and each of its levels `r ≥ 0` is reached from every point at the exact distance.
  Of `s` two facts are used: it is at least every coordinate and equal to one of them.
  The Lipschitz bound: on `s ≥ 0` the field is `‖q⁺‖`, on `s ≤ 0` it is `s q`; both are 1-Lipschitz there; a mixed pair
  is joined through a boundary point of the segment (intermediate value theorem).
-/
import PolyVerif.Lemmas.Euclid
import Mathlib.Topology.Order.IntermediateValue

namespace PolyVerif
open Real

abbrev E2 := EuclideanSpace ℝ (Fin 2)

section Coordinates
variable {ι : Type} [Fintype ι]

theorem norm_le_of_abs_le {U V : EuclideanSpace ℝ ι} (h : ∀ i, |U i| ≤ |V i|) : ‖U‖ ≤ ‖V‖ := by
  rw [EuclideanSpace.norm_eq, EuclideanSpace.norm_eq]
  exact Real.sqrt_le_sqrt (Finset.sum_le_sum fun i _ => pow_le_pow_left₀ (abs_nonneg _) (h i) 2)

theorem abs_coord_le_norm (Q : EuclideanSpace ℝ ι) (i : ι) : |Q i| ≤ ‖Q‖ := PiLp.norm_apply_le Q i

end Coordinates

theorem norm_sq_E3 (Q : E3) : ‖Q‖ ^ 2 = (Q 0) ^ 2 + (Q 1) ^ 2 + (Q 2) ^ 2 := by
  rw [EuclideanSpace.norm_eq, Real.sq_sqrt (by positivity)]
  simp [Fin.sum_univ_three]

theorem norm_sq_E2 (Q : E2) : ‖Q‖ ^ 2 = (Q 0) ^ 2 + (Q 1) ^ 2 := by
  rw [EuclideanSpace.norm_eq, Real.sq_sqrt (by positivity)]
  simp [Fin.sum_univ_two]

/-! the field in 3 and in 2 dimensions, `q⁺` and `max_i q_i` spelt out as the box and the rounded cylinder have them -/

noncomputable def pos3 (Q : E3) : E3 := !₂[max (Q 0) 0, max (Q 1) 0, max (Q 2) 0]
noncomputable def sup3 (Q : E3) : ℝ := max (Q 0) (max (Q 1) (Q 2))
noncomputable def G3 (Q : E3) : ℝ := ‖pos3 Q‖ + min (sup3 Q) 0

noncomputable def pos2 (Q : E2) : E2 := !₂[max (Q 0) 0, max (Q 1) 0]
noncomputable def sup2 (Q : E2) : ℝ := max (Q 0) (Q 1)
noncomputable def G2 (Q : E2) : ℝ := ‖pos2 Q‖ + min (sup2 Q) 0

/-! … and in any dimension -/

section Orthant
variable {ι : Type} [Fintype ι]

/-- `Q⁺`, coordinate by coordinate -/
noncomputable def posPart (Q : EuclideanSpace ℝ ι) : EuclideanSpace ℝ ι := WithLp.toLp 2 fun i => max (Q i) 0

omit [Fintype ι] in
theorem posPart_apply (Q : EuclideanSpace ℝ ι) (i : ι) : posPart Q i = max (Q i) 0 := rfl

theorem posPart_lipschitz (Q Q' : EuclideanSpace ℝ ι) : ‖posPart Q - posPart Q'‖ ≤ ‖Q - Q'‖ :=
  norm_le_of_abs_le fun i => by
    rw [PiLp.sub_apply, PiLp.sub_apply, posPart_apply, posPart_apply]; exact abs_max_sub_max_le_abs _ _ _

-- `s` is the largest coordinate (`hle`, `hat`) and `G` the orthant distance built on it (`hG`).  They are section variables:
-- each lemma takes, before its own arguments, those of `hle hat hG` (in this order) that it uses.
variable {G s : EuclideanSpace ℝ ι → ℝ} (hle : ∀ Q i, Q i ≤ s Q) (hat : ∀ Q, ∃ i, s Q = Q i)
  (hG : ∀ Q, G Q = ‖posPart Q‖ + min (s Q) 0)

omit [Fintype ι] in
include hle in
theorem posPart_of_nonpos (Q : EuclideanSpace ℝ ι) (h : s Q ≤ 0) : posPart Q = 0 := by
  ext i; rw [posPart_apply]; exact max_eq_right ((hle Q i).trans h)

include hat in
theorem sup_le_norm_posPart (Q : EuclideanSpace ℝ ι) : s Q ≤ ‖posPart Q‖ := by
  obtain ⟨i, hi⟩ := hat Q
  rw [hi]
  exact (le_max_left _ 0).trans ((le_abs_self _).trans (posPart_apply Q i ▸ abs_coord_le_norm (posPart Q) i))

include hle hat in
theorem sup_lipschitz (Q Q' : EuclideanSpace ℝ ι) : |s Q - s Q'| ≤ ‖Q - Q'‖ := by
  have key : ∀ Q Q' : EuclideanSpace ℝ ι, s Q - s Q' ≤ ‖Q - Q'‖ := fun Q Q' => by
    obtain ⟨i, hi⟩ := hat Q
    have := (le_abs_self _).trans (abs_coord_le_norm (Q - Q') i)
    rw [PiLp.sub_apply] at this
    linarith [hle Q' i]
  rw [abs_le]; constructor
  · have := key Q' Q; rw [norm_sub_rev] at this; linarith
  · exact key Q Q'

include hG in
/-- region `s ≥ 0`: `G = ‖·⁺‖` -/
theorem orthant_of_nonneg {Q : EuclideanSpace ℝ ι} (h : 0 ≤ s Q) : G Q = ‖posPart Q‖ := by
  rw [hG, min_eq_right h, add_zero]

include hle hG in
/-- region `s ≤ 0`: `G = s` -/
theorem orthant_of_nonpos {Q : EuclideanSpace ℝ ι} (h : s Q ≤ 0) : G Q = s Q := by
  rw [hG, posPart_of_nonpos hle Q h, norm_zero, zero_add, min_eq_left h]

include hle hG in
theorem orthant_neg_iff (Q : EuclideanSpace ℝ ι) : G Q < 0 ↔ s Q < 0 := by
  rcases le_total (s Q) 0 with h | h
  · rw [orthant_of_nonpos hle hG h]
  · rw [orthant_of_nonneg hG h]; exact iff_of_false (norm_nonneg _).not_gt h.not_gt

include hle hat hG

theorem orthant_eq_zero_iff (Q : EuclideanSpace ℝ ι) : G Q = 0 ↔ s Q = 0 := by
  rcases le_total (s Q) 0 with h | h
  · rw [orthant_of_nonpos hle hG h]
  · rw [orthant_of_nonneg hG h]
    exact ⟨fun e => le_antisymm ((sup_le_norm_posPart hat Q).trans e.le) h,
      fun e => by rw [← orthant_of_nonneg hG e.ge, orthant_of_nonpos hle hG e.le, e]⟩

theorem orthant_lipschitz (Q Q' : EuclideanSpace ℝ ι) : |G Q - G Q'| ≤ ‖Q - Q'‖ := by
  have hneg : ∀ {Q Q'}, s Q ≤ 0 → s Q' ≤ 0 → |G Q - G Q'| ≤ ‖Q - Q'‖ := fun h h' => by
    rw [orthant_of_nonpos hle hG h, orthant_of_nonpos hle hG h']; exact sup_lipschitz hle hat _ _
  have hpos : ∀ {Q Q'}, 0 ≤ s Q → 0 ≤ s Q' → |G Q - G Q'| ≤ ‖Q - Q'‖ := fun h h' => by
    rw [orthant_of_nonneg hG h, orthant_of_nonneg hG h']
    exact (abs_norm_sub_norm_le _ _).trans (posPart_lipschitz _ _)
  -- mixed pair: cross the boundary `s = 0` on the segment
  have hmix : ∀ {Q Q'}, s Q ≤ 0 → 0 ≤ s Q' → |G Q - G Q'| ≤ ‖Q - Q'‖ := fun {Q Q'} h h' => by
    have hsc : Continuous s :=
      (LipschitzWith.of_dist_le_mul (K := 1) fun Q Q' => by
        simpa [Real.dist_eq, dist_eq_norm] using sup_lipschitz hle hat Q Q').continuous
    have hc : Continuous fun t : ℝ => s (Q + t • (Q' - Q)) := hsc.comp (by fun_prop)
    obtain ⟨t, ⟨ht0, ht1⟩, hz⟩ := intermediate_value_Icc (by norm_num : (0:ℝ) ≤ 1) hc.continuousOn
      (show 0 ∈ Set.Icc _ _ from ⟨by simpa using h, by simpa using h'⟩)
    set B := Q + t • (Q' - Q) with hB
    have hz : s B = 0 := hz
    have n1 : ‖Q - B‖ = t * ‖Q - Q'‖ := by
      rw [show Q - B = t • (Q - Q') by rw [hB]; module, norm_smul, Real.norm_eq_abs, abs_of_nonneg ht0]
    have n2 : ‖B - Q'‖ = (1 - t) * ‖Q - Q'‖ := by
      rw [show B - Q' = (1 - t) • (Q - Q') by rw [hB]; module, norm_smul, Real.norm_eq_abs,
        abs_of_nonneg (by linarith)]
    calc |G Q - G Q'| ≤ |G Q - G B| + |G B - G Q'| := abs_sub_le _ _ _
      _ ≤ ‖Q - B‖ + ‖B - Q'‖ := add_le_add (hneg h hz.le) (hpos hz.ge h')
      _ = ‖Q - Q'‖ := by rw [n1, n2]; ring
  rcases le_total (s Q) 0 with h | h <;> rcases le_total (s Q') 0 with h' | h'
  · exact hneg h h'
  · exact hmix h h'
  · rw [abs_sub_comm, norm_sub_rev]; exact hmix h' h
  · exact hpos h h'

/-- every level `r ≥ 0` of `G` is reached from `Q` at the exact distance `|G Q − r|`, by a point none of whose coordinates
    lies below `min (Q i) 0` (so inside every domain `{Q | ∀ i, −h i ≤ Q i}`, `h ≥ 0`, that holds `Q`) -/
theorem orthant_level_attained [DecidableEq ι] (Q : EuclideanSpace ℝ ι) {r : ℝ} (hr : 0 ≤ r) :
    ∃ Q' : EuclideanSpace ℝ ι, (∀ i, min (Q i) 0 ≤ Q' i) ∧ G Q' = r ∧ ‖Q - Q'‖ = |G Q - r| := by
  obtain ⟨i, hi⟩ := hat Q
  rcases le_or_gt (s Q) 0 with hin | hout
  · -- inside: raise the largest coordinate to `r`
    refine ⟨Q + EuclideanSpace.single i (r - Q i), fun j => ?_, ?_, ?_⟩
    · rw [PiLp.add_apply, PiLp.single_apply]
      split_ifs with hj
      · subst hj; exact (min_le_left _ _).trans (by linarith [hi ▸ hin])
      · rw [add_zero]; exact min_le_left _ _
    · have hp : posPart (Q + EuclideanSpace.single i (r - Q i)) = EuclideanSpace.single i r := by
        ext j
        rw [posPart_apply, PiLp.add_apply, PiLp.single_apply, PiLp.single_apply]
        split_ifs with hj
        · subst hj; rw [add_sub_cancel, max_eq_left hr]
        · rw [add_zero]; exact max_eq_right ((hle Q j).trans hin)
      have hs : 0 ≤ s (Q + EuclideanSpace.single i (r - Q i)) := by
        refine le_trans ?_ (hle _ i)
        rw [PiLp.add_apply, PiLp.single_apply, if_pos rfl, add_sub_cancel]; exact hr
      rw [orthant_of_nonneg hG hs, hp, PiLp.norm_single, Real.norm_eq_abs, abs_of_nonneg hr]
    · rw [orthant_of_nonpos hle hG hin, sub_add_cancel_left, norm_neg, PiLp.norm_single, Real.norm_eq_abs, hi,
        abs_sub_comm]
  · -- outside: from the nearest point of the orthant, `Q − Q⁺`, along `Q⁺`
    have hN : 0 < ‖posPart Q‖ := hout.trans_le (sup_le_norm_posPart hat Q)
    set t := r / ‖posPart Q‖ with ht
    have ht0 : 0 ≤ t := div_nonneg hr hN.le
    have htN : t * ‖posPart Q‖ = r := div_mul_cancel₀ r hN.ne'
    have hc : ∀ j, (Q - (1 - t) • posPart Q) j = if 0 ≤ Q j then t * Q j else Q j := fun j => by
      rw [PiLp.sub_apply, PiLp.smul_apply, posPart_apply, smul_eq_mul]
      split_ifs with hj
      · rw [max_eq_left hj]; ring
      · rw [max_eq_right (not_le.mp hj).le]; ring
    refine ⟨Q - (1 - t) • posPart Q, fun j => ?_, ?_, ?_⟩
    · rw [hc]; split_ifs with hj
      · exact (min_le_right _ _).trans (mul_nonneg ht0 hj)
      · exact min_le_left _ _
    · have hp : posPart (Q - (1 - t) • posPart Q) = t • posPart Q := by
        ext j
        rw [posPart_apply, hc, PiLp.smul_apply, posPart_apply, smul_eq_mul]
        split_ifs with hj
        · rw [max_eq_left hj, max_eq_left (mul_nonneg ht0 hj)]
        · rw [max_eq_right (not_le.mp hj).le, mul_zero]
      have hs : 0 ≤ s (Q - (1 - t) • posPart Q) := by
        refine le_trans ?_ (hle _ i)
        rw [hc, if_pos (hi ▸ hout.le)]; exact mul_nonneg ht0 (hi ▸ hout.le)
      rw [orthant_of_nonneg hG hs, hp, norm_smul, Real.norm_eq_abs, abs_of_nonneg ht0, htN]
    · rw [orthant_of_nonneg hG hout.le, sub_sub_cancel, norm_smul, Real.norm_eq_abs, ← htN,
        show ‖posPart Q‖ - t * ‖posPart Q‖ = (1 - t) * ‖posPart Q‖ by ring, abs_mul, abs_of_pos hN]

end Orthant

/-! the two instances -/

theorem pos3_eq (Q : E3) : pos3 Q = posPart Q := by ext i; fin_cases i <;> rfl

theorem G3_eq (Q : E3) : G3 Q = ‖posPart Q‖ + min (sup3 Q) 0 := by rw [G3, pos3_eq]

theorem coord_le_sup3 (Q : E3) (i : Fin 3) : Q i ≤ sup3 Q := by
  fin_cases i
  · exact le_max_left _ _
  · exact (le_max_left _ _).trans (le_max_right _ _)
  · exact (le_max_right _ _).trans (le_max_right _ _)

theorem exists_coord_eq_sup3 (Q : E3) : ∃ i, sup3 Q = Q i := by
  rcases max_choice (Q 0) (max (Q 1) (Q 2)) with h | h
  · exact ⟨0, h⟩
  · rcases max_choice (Q 1) (Q 2) with h' | h'
    · exact ⟨1, h.trans h'⟩
    · exact ⟨2, h.trans h'⟩

theorem G3_neg_iff (Q : E3) : G3 Q < 0 ↔ sup3 Q < 0 := orthant_neg_iff coord_le_sup3 G3_eq Q

theorem G3_eq_zero_iff (Q : E3) : G3 Q = 0 ↔ sup3 Q = 0 :=
  orthant_eq_zero_iff coord_le_sup3 exists_coord_eq_sup3 G3_eq Q

theorem G3_lipschitz (Q Q' : E3) : |G3 Q - G3 Q'| ≤ ‖Q - Q'‖ :=
  orthant_lipschitz coord_le_sup3 exists_coord_eq_sup3 G3_eq Q Q'

theorem G3_level_attained (Q : E3) {r : ℝ} (hr : 0 ≤ r) :
    ∃ Q' : E3, (∀ i, min (Q i) 0 ≤ Q' i) ∧ G3 Q' = r ∧ ‖Q - Q'‖ = |G3 Q - r| :=
  orthant_level_attained coord_le_sup3 exists_coord_eq_sup3 G3_eq Q hr

theorem pos2_eq (Q : E2) : pos2 Q = posPart Q := by ext i; fin_cases i <;> rfl

theorem G2_eq (Q : E2) : G2 Q = ‖posPart Q‖ + min (sup2 Q) 0 := by rw [G2, pos2_eq]

theorem coord_le_sup2 (Q : E2) (i : Fin 2) : Q i ≤ sup2 Q := by
  fin_cases i
  · exact le_max_left _ _
  · exact le_max_right _ _

theorem exists_coord_eq_sup2 (Q : E2) : ∃ i, sup2 Q = Q i := by
  rcases max_choice (Q 0) (Q 1) with h | h
  · exact ⟨0, h⟩
  · exact ⟨1, h⟩

theorem G2_neg_iff (Q : E2) : G2 Q < 0 ↔ sup2 Q < 0 := orthant_neg_iff coord_le_sup2 G2_eq Q

theorem G2_eq_zero_iff (Q : E2) : G2 Q = 0 ↔ sup2 Q = 0 :=
  orthant_eq_zero_iff coord_le_sup2 exists_coord_eq_sup2 G2_eq Q

theorem G2_of_nonneg {Q : E2} (h : 0 ≤ sup2 Q) : G2 Q = ‖pos2 Q‖ := by rw [G2, min_eq_right h, add_zero]

theorem G2_of_nonpos {Q : E2} (h : sup2 Q ≤ 0) : G2 Q = sup2 Q := orthant_of_nonpos coord_le_sup2 G2_eq h

theorem G2_lipschitz (Q Q' : E2) : |G2 Q - G2 Q'| ≤ ‖Q - Q'‖ :=
  orthant_lipschitz coord_le_sup2 exists_coord_eq_sup2 G2_eq Q Q'

theorem G2_level_attained (Q : E2) {r : ℝ} (hr : 0 ≤ r) :
    ∃ Q' : E2, (∀ i, min (Q i) 0 ≤ Q' i) ∧ G2 Q' = r ∧ ‖Q - Q'‖ = |G2 Q - r| :=
  orthant_level_attained coord_le_sup2 exists_coord_eq_sup2 G2_eq Q hr

end PolyVerif
