/-
  C09 — table-level facts about the regenerated marching tables, each a `decide +kernel` over the
  COMPLETE finite table (256 sign patterns / 256 rows / 12 edges).  Kept in their own module so that the
  kernel evaluation is cached independently of the structural proofs that use them.  Those in namespace
  `Tab` are restated in Lemmas/MarchClosed.lean under the same name in namespace `PolyVerif.C09`.
-/
import PolyVerif.Lemmas.MarchBits
import PolyVerif.Lemmas.MarchBalance

namespace PolyVerif
namespace C09
open PolyVerif.March PolyVerif.Gen.March

/-- every row reaches the terminator at a multiple of 3 (the Go loop never indexes out of range) and
    every entry before it is a cube-edge index in [0, 12) -/
theorem table_rows_wellformed :
    triangulation.all (fun r => rowTerminates r &&
      (rowTris r).all (fun t => decide (0 ≤ t.1 ∧ t.1 < 12 ∧ 0 ≤ t.2.1 ∧ t.2.1 < 12 ∧ 0 ≤ t.2.2 ∧ t.2.2 < 12))) = true := by
  decide +kernel

/-- the model's case index of a sign pattern is the binary number of its bits (so every one of the
    256 rows is reached by exactly the pattern it is meant for) -/
theorem table_caseIndex : ∀ b0 b1 b2 b3 b4 b5 b6 b7 : Bool,
    caseIndex (bits8 b0 b1 b2 b3 b4 b5 b6 b7) =
      b0.toNat + 2 * b1.toNat + 4 * b2.toNat + 8 * b3.toNat + 16 * b4.toNat + 32 * b5.toNat + 64 * b6.toNat + 128 * b7.toNat := by
  decide +kernel

/-- every cube edge joins two corners that differ by one step along exactly one axis, and distinct cube
    edges lie on distinct lattice edges -/
theorem table_edges_are_lattice_edges :
    (List.range 12).all (fun e =>
      let a := cornerOff (cA e); let b := cornerOff (cB e)
      decide ((a.1 - b.1).natAbs + (a.2.1 - b.2.1).natAbs + (a.2.2 - b.2.2).natAbs = 1)) = true ∧
    ((List.range 12).map edgeRel).Nodup ∧
    (List.range 12).all (fun e => edgeRel e = edgeRelRaw e) = true := by decide +kernel

/-- no case draws the same directed edge twice -/
theorem table_no_duplicate_edge :
    (List.range 256).all (fun c => decide (caseSegs c).Nodup) = true := by decide +kernel

/-- the all-outside face draws nothing -/
theorem table_canon_empty : canon 0 [false, false, false, false] = [] ∧ canon 1 [false, false, false, false] = [] ∧
    canon 2 [false, false, false, false] = [] := by decide +kernel

set_option maxRecDepth 100000 in
/-- the cell identity used by the gluing theorem: own edges + canonical segments of the three low faces
    + reversed canonical segments of the three high faces is a balanced list (every edge cancels against its reverse), for all
    256 sign patterns -/
theorem table_cell_flow : ∀ b0 b1 b2 b3 b4 b5 b6 b7 : Bool,
    cancels 200 (flowList (bits8 b0 b1 b2 b3 b4 b5 b6 b7)) = true := by decide +kernel

/-- a face never carries a segment together with its reverse -/
theorem table_canon_no_antiparallel :
    (List.range 3).all (fun a => (List.range 16).all fun k =>
      (canon a (bits4 k)).all fun e => !((canon a (bits4 k)).contains (swapE e))) = true := by decide +kernel

namespace Tab

/-- shapes of the extracted literals: 256 rows of 16; 12 + 12 edge corners, all < 8; 8 corner offsets,
    all in {0,1}³ and pairwise distinct; the offsets used for sample lookup, for vertex positions and for
    the neighbour-block selection are the same list; `lookupIndex` sets bit `i` for corner `i`;
    the triangle loop stops at -1 with stride 3. -/
theorem table_shapes :
    triangulation.length = 256 ∧ triangulation.all (fun r => r.length = 16) = true ∧
    cornerIndexAFromEdge.length = 12 ∧ cornerIndexBFromEdge.length = 12 ∧
    cornerIndexAFromEdge.all (· < 8) = true ∧ cornerIndexBFromEdge.all (· < 8) = true ∧
    cubeDataIndexIncrements.length = 8 ∧
    cubeDataIndexIncrements.all (fun r => r.length = 3 ∧ r.all (fun x => x = 0 ∨ x = 1)) = true ∧
    cubeDataIndexIncrements.Nodup ∧
    cubeCornerPositions = cubeDataIndexIncrements ∧ cubeDataBlockPositions = cubeDataIndexIncrements ∧
    lookupBits = (List.range 8).map (fun i => [Int.ofNat i, Int.ofNat (2 ^ i)]) ∧
    loopTerminator = -1 ∧ loopStride = 3 := by decide +kernel

/-- every triangle vertex lies on a cube edge whose two corners have different inside/outside bits -/
theorem table_edges_cross : ∀ b0 b1 b2 b3 b4 b5 b6 b7 : Bool,
    (caseTris (caseIndex (bits8 b0 b1 b2 b3 b4 b5 b6 b7))).all (fun t =>
      [t.1, t.2.1, t.2.2].all fun e =>
        (bits8 b0 b1 b2 b3 b4 b5 b6 b7).getD (cA e) false != (bits8 b0 b1 b2 b3 b4 b5 b6 b7).getD (cB e) false) = true := by
  decide +kernel

/-- no triangle uses one cube edge twice -/
theorem table_nondegenerate :
    (List.range 256).all (fun c => (caseTris c).all fun t => t.1 != t.2.1 && t.2.1 != t.2.2 && t.2.2 != t.1) = true := by
  decide +kernel

/-- within each case every directed triangle edge not lying in a cube face is matched by its reverse
    (and by `table_no_duplicate_edge`, exactly once) -/
theorem table_interior_balanced :
    (List.range 256).all (fun c => balancedB (interiorSegs c)) = true := by decide +kernel

set_option maxRecDepth 100000 in
/-- canonical-face form: on its high face perpendicular to `a` a case draws exactly `canon a (bits of that face)`
    and on its low face exactly the reverses of `canon a (bits of that face)` -/
theorem table_face_canonical : ∀ b0 b1 b2 b3 b4 b5 b6 b7 : Bool,
    (List.range 3).all (fun a =>
      let bits := bits8 b0 b1 b2 b3 b4 b5 b6 b7
      (faceSegs (caseIndex bits) a 1).isPerm ((canon a (faceBits bits a 1)).map (shiftE (unit a))) &&
      (faceSegs (caseIndex bits) a 0).isPerm ((canon a (faceBits bits a 0)).map swapE)) = true := by
  decide +kernel

end Tab
end C09
end PolyVerif
