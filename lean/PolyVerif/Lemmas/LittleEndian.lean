/-
  Base-256 digits of a natural number, the one arithmetic fact under the fixed-width little- or big-endian fields of
  the development (`Ply.put32/get32/put64/get64`, `Stl.le16/le32/rd16/rd32`, `Splat.le32/u32le`, `Readers.le32n`,
  `Spz.le32b/leNat`).  Those definitions are written independently (UInt8 or BitVec 8, literal weights or `256 ^ k`),
  so the fact is stated on `Nat`, in the positional shape with literal weights that each of them unfolds to, and each
  region puts its own wrapper (`UInt8.toNat_ofNat'`, `BitVec.toNat_ofNat`) around it.  Core Lean only.
-/
namespace PolyVerif
namespace LE

/-- positional sum of the `k` low base-256 digits of `n` -/
def digitSum (n : Nat) : Nat → Nat
  | 0 => 0
  | k + 1 => digitSum n k + 256 ^ k * (n / 256 ^ k % 256)

theorem digitSum_eq (n k : Nat) : digitSum n k = n % 256 ^ k := by
  induction k with
  | zero => rw [digitSum, Nat.pow_zero, Nat.mod_one]
  | succ k ih => rw [digitSum, ih, Nat.mod_pow_succ]

theorem sum2 (n : Nat) : n % 256 + 256 * (n / 256 % 256) = n % 65536 := by
  have := digitSum_eq n 2
  simpa only [digitSum, Nat.reducePow, Nat.div_one, Nat.one_mul, Nat.zero_add] using this

theorem sum4 (n : Nat) :
    n % 256 + 256 * (n / 256 % 256) + 65536 * (n / 65536 % 256) + 16777216 * (n / 16777216 % 256)
      = n % 4294967296 := by
  have := digitSum_eq n 4
  simpa only [digitSum, Nat.reducePow, Nat.div_one, Nat.one_mul, Nat.zero_add] using this

theorem sum8 (n : Nat) :
    n % 256 + 256 * (n / 256 % 256) + 65536 * (n / 65536 % 256) + 16777216 * (n / 16777216 % 256)
      + 4294967296 * (n / 4294967296 % 256) + 1099511627776 * (n / 1099511627776 % 256)
      + 281474976710656 * (n / 281474976710656 % 256) + 72057594037927936 * (n / 72057594037927936 % 256)
      = n % 18446744073709551616 := by
  have := digitSum_eq n 8
  simpa only [digitSum, Nat.reducePow, Nat.div_one, Nat.one_mul, Nat.zero_add] using this

/-- the other direction at width 4: four digits are recovered from their weighted sum, which fits 32 bits -/
theorem digits4 {a b c d : Nat} (ha : a < 256) (hb : b < 256) (hc : c < 256) (hd : d < 256) :
    let v := a + 256 * b + 65536 * c + 16777216 * d
    v < 4294967296 ∧ v % 256 = a ∧ v / 256 % 256 = b ∧ v / 65536 % 256 = c ∧ v / 16777216 % 256 = d := by
  intro v; omega

theorem digits2 {a b : Nat} (ha : a < 256) (hb : b < 256) :
    let v := a + 256 * b
    v < 65536 ∧ v % 256 = a ∧ v / 256 % 256 = b := by
  intro v; omega

end LE
end PolyVerif
