/-
  For C16: `newOctree` over ℝ — the widening loop never runs, the eight octant buckets partition the elements, and the
  built tree satisfies the invariant and stores a permutation of its input (`build_spec`).
-/
import PolyVerif.Lemmas.TreeSearch
namespace PolyVerif.Tree
open Gen.geometry
variable {E : Type}

theorem widenFor_noop (item b : Box) (w : ℝ) (n : Nat)
    (h : b.Contains item.Min = true ∧ b.Contains item.Max = true) : widenFor item n (b, w) = (b, w) := by
  cases n with
  | zero => rfl
  | succ n => simp [widenFor, h.1, h.2]

variable (boxOf : E → Box)

theorem encapsulate_fold (es : List E) (b0 : Box) :
    (∀ v, b0.Contains v = true → (es.foldl (fun b e => b.EncapsulateBounds (boxOf e)) b0).Contains v = true) ∧
    (∀ e ∈ es, BoxSub (boxOf e) (es.foldl (fun b e => b.EncapsulateBounds (boxOf e)) b0)) := by
  induction es generalizing b0 with
  | nil => simp
  | cons x xs ih =>
    simp only [List.foldl_cons]
    obtain ⟨ih1, ih2⟩ := ih (b0.EncapsulateBounds (boxOf x))
    have enc := encapsulateBounds_sub b0 (boxOf x)
    refine ⟨fun v hv => ih1 v (enc.2 v hv), ?_⟩
    intro e he
    rcases List.mem_cons.mp he with rfl | he
    · exact ⟨ih1 _ enc.1.1, ih1 _ enc.1.2⟩
    · exact ih2 e he

theorem widen_fold_noop (b : Box) (w : ℝ) (es : List E)
    (h : ∀ e ∈ es, BoxSub (boxOf e) b) :
    es.foldl (fun st e => widenFor (boxOf e) widenFuel st) (b, w) = (b, w) := by
  induction es with
  | nil => rfl
  | cons x xs ih =>
    simp only [List.foldl_cons]
    rw [widenFor_noop _ _ _ _ (h x (by simp))]
    exact ih (fun e he => h e (by simp [he]))

/-- over ℝ the widening loop never runs, and the node bounds contain every element box -/
theorem boundsOf_covers (e0 : E) (es : List E) :
    ∀ e ∈ es, BoxSub (boxOf e) (boundsOf boxOf e0 es) := by
  have h := (encapsulate_fold boxOf es (boxOf e0)).2
  simp only [boundsOf]
  rw [widen_fold_noop boxOf _ _ es h]
  exact h

theorem octant_lt (c : P3) (b : Box) : octant c b < 8 := by
  simp only [octant, octreeIndex]
  split_ifs <;> omega

theorem filter_lt_succ_perm (l : List E) (f : E → Nat) (n : Nat) :
    (l.filter (fun e => decide (f e < n + 1))).Perm
      (l.filter (fun e => decide (f e < n)) ++ l.filter (fun e => f e == n)) := by
  induction l with
  | nil => simp
  | cons x xs ih =>
    by_cases h1 : f x < n
    · have h2 : f x < n + 1 := by omega
      have h3 : (f x == n) = false := by simp; omega
      simp only [List.filter_cons, h1, h2, h3, decide_true, if_true, List.cons_append, Bool.false_eq_true, if_false]
      exact List.Perm.cons x ih
    · by_cases h2 : f x = n
      · have h3 : f x < n + 1 := by omega
        have h4 : (f x == n) = true := by simp [h2]
        simp only [List.filter_cons, h1, h3, h4, decide_true, decide_false, if_true, Bool.false_eq_true, if_false]
        exact (List.Perm.cons x ih).trans List.perm_middle.symm
      · have h3 : ¬ f x < n + 1 := by omega
        have h4 : (f x == n) = false := by simp [h2]
        simp only [List.filter_cons, h1, h3, h4, decide_false, Bool.false_eq_true, if_false]
        exact ih

theorem buckets_perm (l : List E) (f : E → Nat) (n : Nat) :
    ((List.range n).flatMap (fun k => l.filter (fun e => f e == k))).Perm (l.filter (fun e => decide (f e < n))) := by
  induction n with
  | zero => simp
  | succ n ih =>
    rw [List.range_succ, List.flatMap_append]
    simp only [List.flatMap_cons, List.flatMap_nil, List.append_nil]
    exact (List.Perm.append_right _ ih).trans (filter_lt_succ_perm l f n).symm


theorem filterMap_flatMap_perm {T : Type} (ks : List Nat) (f : Nat → Option T) (g : Nat → List E) (el : T → List E)
    (h0 : ∀ k ∈ ks, f k = none → g k = [])
    (h1 : ∀ k ∈ ks, ∀ t, f k = some t → (el t).Perm (g k)) :
    ((ks.filterMap f).flatMap el).Perm (ks.flatMap g) := by
  induction ks with
  | nil => simp
  | cons k ks ih =>
    have ih' := ih (fun k' hk' => h0 k' (by simp [hk'])) (fun k' hk' => h1 k' (by simp [hk']))
    simp only [List.filterMap_cons, List.flatMap_cons]
    cases hf : f k with
    | none => rw [h0 k (by simp) hf]; simpa using ih'
    | some t =>
      simp only [List.flatMap_cons]
      exact List.Perm.append (h1 k (by simp) t hf) ih'

/-- `newOctree`, for any element type: for every list of elements with well-formed boxes
    (a box contains its own corners, i.e. non-negative extents) and every depth, `newOctree` returns nil
    exactly for the empty list, and otherwise a tree that satisfies the covering invariant and stores a
    permutation of the input -/
theorem build_spec : ∀ (d : Nat) (es : List E), (∀ e ∈ es, BoxSub (boxOf e) (boxOf e)) →
    match build boxOf d es with
    | none => es = []
    | some t => Inv (fun b e => BoxSub (boxOf e) b) t ∧ t.allElems.Perm es := by
  have leaf : ∀ (b : Box) (l : List E), (∀ e ∈ l, BoxSub (boxOf e) b) →
      Inv (fun b e => BoxSub (boxOf e) b) (Oct.node b l []) ∧ (Oct.node b l []).allElems.Perm l := by
    intro b l h
    refine ⟨Inv.node ?_ (by simp), by simp [Oct.allElems_node]⟩
    intro e he
    simp only [Oct.allElems_node, List.flatMap_nil, List.append_nil] at he
    exact h e he
  have single : ∀ e : E, BoxSub (boxOf e) (boxOf e) →
      Inv (fun b e => BoxSub (boxOf e) b) (Oct.node (boxOf e) [e] []) ∧ (Oct.node (boxOf e) [e] []).allElems.Perm [e] := by
    intro e he
    exact leaf (boxOf e) [e] (by intro e' he'; simp only [List.mem_singleton] at he'; subst he'; exact he)
  intro d
  induction d with
  | zero =>
    intro es hwf
    match es with
    | [] => simp [build]
    | [e] => simp only [build]; exact single e (hwf e (by simp))
    | e0 :: e1 :: es =>
      simp only [build]
      exact leaf _ _ (boundsOf_covers boxOf e0 (e0 :: e1 :: es))
  | succ d ih =>
    intro es hwf
    match es with
    | [] => simp [build]
    | [e] => simp only [build]; exact single e (hwf e (by simp))
    | e0 :: e1 :: es =>
      simp only [build]
      generalize hall : e0 :: e1 :: es = all at hwf ⊢
      have hb := boundsOf_covers boxOf e0 all
      generalize boundsOf boxOf e0 all = bounds at hb ⊢
      have hsub : ∀ k, ∀ e ∈ all.filter (fun e => octant bounds.Center (boxOf e) == k), BoxSub (boxOf e) (boxOf e) :=
        fun k e he => hwf e (List.mem_of_mem_filter he)
      have hk0 : ∀ k ∈ List.range 8, build boxOf d (all.filter (fun e => octant bounds.Center (boxOf e) == k)) = none →
          all.filter (fun e => octant bounds.Center (boxOf e) == k) = [] := by
        intro k _ hn
        have := ih _ (hsub k)
        rw [hn] at this; exact this
      have hk1 : ∀ k ∈ List.range 8, ∀ t, build boxOf d (all.filter (fun e => octant bounds.Center (boxOf e) == k)) = some t →
          t.allElems.Perm (all.filter (fun e => octant bounds.Center (boxOf e) == k)) := by
        intro k _ t hs
        have := ih _ (hsub k)
        rw [hs] at this; exact this.2
      have hperm : (((List.range 8).filterMap (fun k =>
            build boxOf d (all.filter (fun e => octant bounds.Center (boxOf e) == k)))).flatMap
            (fun c => c.allElems)).Perm all := by
        refine (filterMap_flatMap_perm (List.range 8)
          (fun k => build boxOf d (all.filter (fun e => octant bounds.Center (boxOf e) == k)))
          (fun k => all.filter (fun e => octant bounds.Center (boxOf e) == k))
          (fun c => c.allElems) hk0 hk1).trans ?_
        refine (buckets_perm all (fun e => octant bounds.Center (boxOf e)) 8).trans ?_
        rw [List.filter_eq_self.mpr]
        intro e _
        simpa using octant_lt bounds.Center (boxOf e)
      have hinv : ∀ c ∈ (List.range 8).filterMap (fun k =>
            build boxOf d (all.filter (fun e => octant bounds.Center (boxOf e) == k))),
            Inv (fun b e => BoxSub (boxOf e) b) c := by
        intro c hc
        obtain ⟨k, _, hk⟩ := List.mem_filterMap.mp hc
        have := ih (all.filter (fun e => octant bounds.Center (boxOf e) == k))
          (fun e he => hwf e (List.mem_of_mem_filter he))
        rw [hk] at this
        exact this.1
      generalize (List.range 8).filterMap (fun k =>
            build boxOf d (all.filter (fun e => octant bounds.Center (boxOf e) == k))) = kids at hperm hinv ⊢
      have inner : Inv (fun b e => BoxSub (boxOf e) b) (Oct.node bounds [] kids) ∧
          (Oct.node bounds [] kids).allElems.Perm all := by
        refine ⟨Inv.node ?_ hinv, by simpa [Oct.allElems_node] using hperm⟩
        intro e he
        simp only [Oct.allElems_node, List.nil_append] at he
        exact hb e (hperm.subset he)
      match kids, hperm, hinv, inner with
      | [], _, _, inner => exact inner
      | [ch], hperm, hinv, _ =>
        exact ⟨hinv ch (by simp), by simpa using hperm⟩
      | _ :: _ :: _, _, _, inner => exact inner

end PolyVerif.Tree
