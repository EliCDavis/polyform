/-
  C12 ↔ C11: the saved-graph model (`PolyVerif.Model.GraphIO`) seen as a graph of the evaluation model
  (`PolyVerif.Model.Nodes`), for an ARBITRARY numbering of the nodes, and the fact that the from-scratch value does
  not depend on the numbering.  Core Lean only (plus C11's lemma files).  Definitions used by Props/C12Artifacts.
-/
import PolyVerif.Lemmas.GraphIO
import PolyVerif.Lemmas.NodesOps

namespace PolyVerif
namespace C12
open GraphIO

variable {V J W : Type}

/-- what evaluation needs beyond the saved graph, per node TYPE: its `Process()` and its pull strategy as FUNCTIONS
    (deterministic — the property's guard) of the SHAPE of the wiring (which scalar ports are connected, how long the
    array ports are — a Go `Process()` cannot see how the harness numbers nodes) and of the pulled values; the value a
    parameter node outputs for its payload; the content of a cache nobody has filled yet -/
structure Procs (V W : Type) where
  proc : TyName → List Bool → List Nat → List (Option W) → W
  next : TyName → List Bool → List Nat → List (Option W) → Option Nat
  paramVal : TyName → Option V → W
  idle : W

def shapeS (sc : List (Option Nat)) : List Bool := sc.map Option.isSome
def shapeA (ar : List (List Nat)) : List Nat := ar.map List.length

/-- one node as C11 sees it in a FRESH application, under the numbering `σ` of node ids -/
def absNode (P : Procs V W) (E : Env V J) (σ : Id → Nat) (n : GraphIO.Node V) : Nodes.Node W :=
  match E.types n.ty with
  | none => .param P.idle 0
  | some T =>
    match T.param with
    | some _ => .param (P.paramVal n.ty (n.par.bind Param.value)) 0
    | none =>
      .struct { fn := fun sc ar vals => P.proc n.ty (shapeS sc) (shapeA ar) vals,
                next := fun sc ar es => P.next n.ty (shapeS sc) (shapeA ar) es,
                scalars := T.scal.map (fun p => (n.scal p.1).map (fun r => σ r.node)),
                arrays := T.arrs.map (fun p => (n.arrs p.1).map (fun r => σ r.node)),
                cache := P.idle, version := 0, remembered := none, flag := true }

/-- the number of node `id` in the node list -/
def idxOf (g : Graph V) (id : Id) : Nat := g.nodes.findIdx (fun n => n.id = id)

/-- the saved-graph model as a C11 graph, nodes numbered by list position (positions past the end: idle parameters) -/
def absGraph (P : Procs V W) (E : Env V J) (g : Graph V) : Nodes.Graph W := fun i =>
  match g.nodes[i]? with
  | some n => absNode P E (idxOf g) n
  | none => .param P.idle 0

/-- same static content: parameter VALUE (versions may differ), resp. processor, strategy and wiring -/
def looseEq : Nodes.Node W → Nodes.Node W → Prop
  | .param x _, .param y _ => x = y
  | .struct s, .struct t => s.fn = t.fn ∧ s.next = t.next ∧ s.scalars = t.scalars ∧ s.arrays = t.arrays
  | _, _ => False

theorem looseEq.refl (a : Nodes.Node W) : looseEq a a := by
  cases a <;> simp [looseEq]

theorem looseEq.trans {a b c : Nodes.Node W} (h1 : looseEq a b) (h2 : looseEq b c) : looseEq a c := by
  cases a <;> cases b <;> cases c <;> simp_all [looseEq]

theorem looseEq.symm {a b : Nodes.Node W} (h1 : looseEq a b) : looseEq b a := by
  cases a <;> cases b <;> simp_all [looseEq]

theorem looseEq.of_static {a b : Nodes.Node W} (h : Nodes.StaticEq a b) : looseEq a b := by
  cases a <;> cases b <;> simp_all [looseEq, Nodes.StaticEq]

/-- the runtime graph `G` HOLDS the edited graph `g` under the numbering `σ`: the runtime node of every node of `g`
    has that node's static content (caches, versions, remembered versions, flags are free) -/
def Holds (P : Procs V W) (E : Env V J) (σ : Id → Nat) (G : Nodes.Graph W) (g : Graph V) : Prop :=
  ∀ n ∈ g.nodes, looseEq (G (σ n.id)) (absNode P E σ n)

theorem abs_deps {T : NodeType} (n : GraphIO.Node V) (σ : Id → Nat) :
    (T.scal.map (fun p => (n.scal p.1).map (fun r => σ r.node))).filterMap id ++
      (T.arrs.map (fun p => (n.arrs p.1).map (fun r => σ r.node))).flatten = (n.refs T).map (fun r => σ r.node) := by
  simp only [Node.refs, List.map_append, List.filterMap_map, List.map_filterMap, List.flatMap_def, List.map_flatten,
    List.map_map]
  rfl

theorem holds_struct {P : Procs V W} {E : Env V J} {σ : Id → Nat} {G : Nodes.Graph W} {g : Graph V}
    (h : Holds P E σ G g) {d : GraphIO.Node V} (hd : d ∈ g.nodes) {T : NodeType} (hT : E.types d.ty = some T)
    (hp : T.param = none) :
    ∃ t, G (σ d.id) = .struct t ∧ t.fn = (fun sc ar vals => P.proc d.ty (shapeS sc) (shapeA ar) vals) ∧
      t.next = (fun sc ar es => P.next d.ty (shapeS sc) (shapeA ar) es) ∧
      t.scalars = T.scal.map (fun q => (d.scal q.1).map (fun r => σ r.node)) ∧
      t.arrays = T.arrs.map (fun q => (d.arrs q.1).map (fun r => σ r.node)) := by
  have e := h d hd
  simp only [absNode, hT, hp] at e
  cases hG : G (σ d.id) with
  | param x v => simp [hG, looseEq] at e
  | struct t => exact ⟨t, rfl, by simpa only [hG, looseEq] using e⟩

theorem holds_param {P : Procs V W} {E : Env V J} {σ : Id → Nat} {G : Nodes.Graph W} {g : Graph V}
    (h : Holds P E σ G g) {d : GraphIO.Node V} (hd : d ∈ g.nodes) {T : NodeType} (hT : E.types d.ty = some T)
    {k : PKind} (hp : T.param = some k) : ∃ v, G (σ d.id) = .param (P.paramVal d.ty (d.par.bind Param.value)) v := by
  have e := h d hd
  simp only [absNode, hT, hp] at e
  cases hG : G (σ d.id) with
  | struct t => simp [hG, looseEq] at e
  | param x v => exact ⟨v, by rw [show x = _ by simpa only [hG, looseEq] using e]⟩

theorem struct_deps {T : NodeType} {n : GraphIO.Node V} {σ : Id → Nat} {t : Nodes.SNode W}
    (h3 : t.scalars = T.scal.map (fun q => (n.scal q.1).map (fun r => σ r.node)))
    (h4 : t.arrays = T.arrs.map (fun q => (n.arrs q.1).map (fun r => σ r.node))) :
    t.deps = (n.refs T).map (fun r => σ r.node) := by
  simp only [Nodes.SNode.deps, h3, h4]; exact abs_deps n σ

/-- a struct node of the abstraction comes from a node of a struct type, depends on what that node references,
    and has never been processed -/
theorem absNode_struct {P : Procs V W} {E : Env V J} {σ : Id → Nat} {n : GraphIO.Node V} {s : Nodes.SNode W}
    (h : absNode P E σ n = .struct s) :
    ∃ T, E.types n.ty = some T ∧ T.param = none ∧ s.deps = (n.refs T).map (fun r => σ r.node) ∧ s.remembered = none := by
  unfold absNode at h
  cases hT : E.types n.ty <;> simp only [hT, reduceCtorEq] at h
  rename_i T
  cases hp : T.param <;> simp only [hp, reduceCtorEq, Nodes.Node.struct.injEq] at h
  subst h
  exact ⟨T, rfl, hp, struct_deps rfl rfl, rfl⟩

theorem shapes_eq {T : NodeType} (n : GraphIO.Node V) (σ τ : Id → Nat) :
    shapeS (T.scal.map (fun p => (n.scal p.1).map (fun r => σ r.node))) =
      shapeS (T.scal.map (fun p => (n.scal p.1).map (fun r => τ r.node))) ∧
    shapeA (T.arrs.map (fun p => (n.arrs p.1).map (fun r => σ r.node))) =
      shapeA (T.arrs.map (fun p => (n.arrs p.1).map (fun r => τ r.node))) := by
  constructor
  · simp only [shapeS, List.map_map]
    apply List.map_congr_left
    intro p _
    simp only [Function.comp]
    cases n.scal p.1 <;> rfl
  · simp only [shapeA, List.map_map]
    apply List.map_congr_left
    intro p _
    simp [Function.comp]

theorem ref_live {E : Env V J} {g : Graph V} {n : GraphIO.Node V} {T : NodeType} (hn : NodeWF E g n)
    (hT : E.types n.ty = some T) {r : Ref} (hr : r ∈ n.refs T) : ∃ s ∈ g.nodes, s.id = r.node := by
  simp only [Node.refs, List.mem_append, List.mem_filterMap, List.mem_flatMap] at hr
  rcases hr with ⟨p, _, hp⟩ | ⟨p, _, hp⟩
  · obtain ⟨_, _, _, s, hs', hid, _⟩ := hn.scal_ok hT hp
    exact ⟨s, hs', hid⟩
  · obtain ⟨_, _, _, s, hs', hid, _⟩ := hn.arrs_ok hT hp
    exact ⟨s, hs', hid⟩

/-- `absNode` looks at the numbering only through the node's references -/
theorem absNode_congr {P : Procs V W} {E : Env V J} {σ τ : Id → Nat} {n : GraphIO.Node V}
    (h : ∀ T, E.types n.ty = some T → ∀ r ∈ n.refs T, σ r.node = τ r.node) : absNode P E σ n = absNode P E τ n := by
  unfold absNode
  cases hT : E.types n.ty <;> simp only
  rename_i T
  cases hp : T.param <;> simp only
  have hh := h T hT
  congr 2
  · refine List.map_congr_left fun q hq => ?_
    cases hr : n.scal q.1 with
    | none => rfl
    | some r => exact congrArg some (hh r (List.mem_append_left _ (List.mem_filterMap.mpr ⟨q, hq, hr⟩)))
  · exact List.map_congr_left fun q hq => List.map_congr_left fun r hr =>
      hh r (List.mem_append_right _ (List.mem_flatMap.mpr ⟨q, hq, hr⟩))

/-- a node keeps its runtime node under a renumbering that agrees with the old one on the node and on every node of
    a graph in which the node's references resolve -/
theorem Holds.transfer {P : Procs V W} {E : Env V J} {σ τ : Id → Nat} {G : Nodes.Graph W} {g g0 : Graph V}
    (h : Holds P E σ G g) {n : GraphIO.Node V} (hn : n ∈ g.nodes) (hwf : NodeWF E g0 n)
    (hag : ∀ m ∈ g0.nodes, τ m.id = σ m.id) (hnid : τ n.id = σ n.id) : looseEq (G (τ n.id)) (absNode P E τ n) := by
  rw [hnid, absNode_congr fun T hT r hr => ?_]
  · exact h n hn
  · obtain ⟨m, hm, hid⟩ := ref_live hwf hT hr
    exact hid ▸ hag m hm

/-- two runtime graphs that hold the same edited graph: the runtime nodes of one edited node simulate each other -/
theorem Holds.simNode {P : Procs V W} {E : Env V J} {g : Graph V} (hw : WF E g) {σ1 σ2 : Id → Nat}
    {G1 G2 : Nodes.Graph W} (h1 : Holds P E σ1 G1 g) (h2 : Holds P E σ2 G2 g) {n : GraphIO.Node V} (hn : n ∈ g.nodes) :
    Nodes.SimNode (fun i j => ∃ m ∈ g.nodes, i = σ1 m.id ∧ j = σ2 m.id) (G1 (σ1 n.id)) (G2 (σ2 n.id)) := by
  obtain ⟨_, T, hT, _⟩ := hw.nodes n hn
  cases hp : T.param with
  | some kd =>
    obtain ⟨v1, e1⟩ := holds_param h1 hn hT hp
    obtain ⟨v2, e2⟩ := holds_param h2 hn hT hp
    rw [e1, e2]; rfl
  | none =>
    obtain ⟨s1, hG1, f1, n1, sc1, ar1⟩ := holds_struct h1 hn hT hp
    obtain ⟨s2, hG2, f2, n2, sc2, ar2⟩ := holds_struct h2 hn hT hp
    obtain ⟨hs, ha⟩ := shapes_eq (T := T) n σ1 σ2
    rw [hG1, hG2]
    refine ⟨by rw [f1, f2, sc1, ar1, sc2, ar2]; dsimp only; rw [hs, ha],
      by rw [n1, n2, sc1, ar1, sc2, ar2]; dsimp only; rw [hs, ha], ?_⟩
    rw [struct_deps sc1 ar1, struct_deps sc2 ar2]
    refine Nodes.All2.map_map _ _ _ fun r hr => ?_
    obtain ⟨m, hm, hid⟩ := ref_live (hw.nodes n hn) hT hr
    exact ⟨m, hm, by rw [hid], by rw [hid]⟩

/-- two runtime graphs that hold the same edited graph under two numberings give every node the same from-scratch
    value (`hr2` is not used: `evalSpec_sim` asks for a ranking of one side only) -/
theorem spec_corr {P : Procs V W} {E : Env V J} {g : Graph V} (hw : WF E g) {F : Nat}
    {σ1 σ2 : Id → Nat} {G1 G2 : Nodes.Graph W} {rank1 rank2 : Nat → Nat}
    (h1 : Holds P E σ1 G1 g) (h2 : Holds P E σ2 G2 g)
    (hr1 : Nodes.Ranked rank1 F G1) (hr2 : Nodes.Ranked rank2 F G2) :
    ∀ n ∈ g.nodes, Nodes.Spec F G1 (σ1 n.id) = Nodes.Spec F G2 (σ2 n.id) :=
  fun n hn => Nodes.evalSpec_sim (R := fun i j => ∃ m ∈ g.nodes, i = σ1 m.id ∧ j = σ2 m.id) hr1
    (fun _ _ ⟨_, hm, e1, e2⟩ => e1 ▸ e2 ▸ Holds.simNode hw h1 h2 hm) F F _ _ (hr1.1 _) (hr1.1 _) ⟨n, hn, rfl, rfl⟩

theorem findIdx_of_mem {l : List (GraphIO.Node V)} (hnd : (l.map (·.id)).Nodup) {n : GraphIO.Node V} (hn : n ∈ l) :
    l[l.findIdx (fun m => m.id = n.id)]? = some n := by
  induction l with
  | nil => cases hn
  | cons x xs ih =>
    simp only [List.map_cons, List.nodup_cons] at hnd
    rcases List.mem_cons.mp hn with rfl | hn'
    · simp [List.findIdx_cons]
    · have : x.id ≠ n.id := fun e => hnd.1 (e ▸ List.mem_map.mpr ⟨n, hn', rfl⟩)
      simp [List.findIdx_cons, this, ih hnd.2 hn']

theorem absGraph_at {P : Procs V W} {E : Env V J} {g : Graph V} (hnd : (g.nodes.map (·.id)).Nodup)
    {n : GraphIO.Node V} (hn : n ∈ g.nodes) : absGraph P E g (idxOf g n.id) = absNode P E (idxOf g) n := by
  simp only [absGraph, idxOf, findIdx_of_mem hnd hn]

theorem absGraph_holds (P : Procs V W) (E : Env V J) {g : Graph V} (hnd : (g.nodes.map (·.id)).Nodup) :
    Holds P E (idxOf g) (absGraph P E g) g := by
  intro n hn
  rw [absGraph_at hnd hn]
  exact looseEq.refl _

/-- acyclicity does not depend on the numbering either: a ranking of a runtime graph that holds `g` ranks `absGraph g` -/
theorem absGraph_ranked {P : Procs V W} {E : Env V J} {g : Graph V} (hw : WF E g) {F : Nat} {σ : Id → Nat}
    {G : Nodes.Graph W} {rank : Nat → Nat} (h : Holds P E σ G g) (hr : Nodes.Ranked rank F G) :
    Nodes.Ranked (fun i => match g.nodes[i]? with | some n => rank (σ n.id) | none => 0) F (absGraph P E g) := by
  refine ⟨?_, ?_⟩
  · intro i
    show (match g.nodes[i]? with | some n => rank (σ n.id) | none => 0) < F
    cases g.nodes[i]? with
    | none => have := hr.1 0; simp only; omega
    | some n => exact hr.1 _
  · intro i s hs d hd
    simp only [absGraph] at hs
    cases hi : g.nodes[i]? <;> simp only [hi, reduceCtorEq] at hs
    rename_i n
    have hn : n ∈ g.nodes := List.mem_of_getElem? hi
    obtain ⟨T, hT, hp, hdeps, -⟩ := absNode_struct hs
    rw [hdeps] at hd
    obtain ⟨r, hr', rfl⟩ := List.mem_map.mp hd
    obtain ⟨m, hm, hid⟩ := ref_live (hw.nodes n hn) hT hr'
    have hm' : g.nodes[idxOf g r.node]? = some m := by
      rw [← hid]; exact findIdx_of_mem hw.nodup hm
    show (match g.nodes[idxOf g r.node]? with | some n => rank (σ n.id) | none => 0) <
      (match g.nodes[i]? with | some n => rank (σ n.id) | none => 0)
    simp only [hm', hi]
    -- in the runtime graph, `σ m.id` is a dependency of `σ n.id`
    obtain ⟨t, hG, -, -, h3, h4⟩ := holds_struct h hn hT hp
    apply hr.2 _ t hG
    rw [struct_deps h3 h4, hid]
    exact List.mem_map.mpr ⟨r, hr', rfl⟩

theorem idxOf_norm (g : Graph V) : idxOf g.norm = idxOf g := by
  funext id
  simp only [idxOf, Graph.norm, List.findIdx_map]
  rfl

/-- `norm` (what a reload changes) is invisible to evaluation -/
theorem absGraph_norm (P : Procs V W) (E : Env V J) (g : Graph V) : absGraph P E g.norm = absGraph P E g := by
  funext i
  simp only [absGraph, Graph.norm, List.getElem?_map]
  cases hn : g.nodes[i]? with
  | none => rfl
  | some n =>
    simp only [Option.map_some]
    show absNode P E (idxOf g.norm) n.norm = absNode P E (idxOf g) n
    rw [idxOf_norm]
    simp only [absNode, Node.norm]
    cases hT : E.types n.ty with
    | none => rfl
    | some T =>
      simp only
      cases hk : T.param with
      | none => rfl
      | some k =>
        simp only
        congr 2
        cases n.par with
        | none => rfl
        | some p => simp [Param.norm_value]

theorem absGraph_unprocessed (P : Procs V W) (E : Env V J) (g : Graph V) :
    ∀ i s, absGraph P E g i = .struct s → s.remembered = none := by
  intro i s hs
  simp only [absGraph] at hs
  cases hn : g.nodes[i]? <;> simp only [hn, reduceCtorEq] at hs
  exact (absNode_struct hs).choose_spec.2.2.2

end C12
end PolyVerif
