/-
  The concrete transforms (Model/MeshTransforms.lean, Model/MeshMore.lean): what a successful call returned, and
  that array lengths, hence WF (C02), are preserved.
-/
import PolyVerif.Lemmas.MeshWF
import PolyVerif.Model.MeshMore

namespace PolyVerif.Mesh
open PolyVerif PolyVerif.Gen
variable {s : Type} [Scalar s]

namespace MeshVal

theorem addAt_length (ns : List (V3 s)) (i : Nat) (n : V3 s) : (addAt ns i n).length = ns.length := by
  unfold addAt; split <;> simp

theorem smoothAccum_length (pos : List (V3 s)) : ∀ (ts : List (Nat × Nat × Nat)) (ns : List (V3 s)),
    (smoothAccum pos ns ts).length = ns.length
  | [], ns => by simp [smoothAccum]
  | t :: ts, ns => by
    simp only [smoothAccum]
    split
    · exact smoothAccum_length pos ts ns
    · split
      · exact smoothAccum_length pos ts ns
      · rw [smoothAccum_length pos ts]; simp [addAt_length]

theorem flatAccum_length (pos : List (V3 s)) : ∀ (ts : List (Nat × Nat × Nat)) (ns : List (V3 s)),
    (flatAccum pos ns ts).length = ns.length
  | [], ns => by simp [flatAccum]
  | t :: ts, ns => by
    simp only [flatAccum]
    split
    · exact flatAccum_length pos ts ns
    · rw [flatAccum_length pos ts]; simp

theorem lapSweep_length (es : List (Nat × Nat)) (factor : s) (vs : List (V3 s)) :
    ∀ k, (lapSweep es factor vs k).length = vs.length
  | 0 => by simp [lapSweep]
  | k + 1 => by
    simp only [lapSweep]
    split
    · exact lapSweep_length es factor vs k
    · simp [lapSweep_length es factor vs k]

theorem lapIter_length (es : List (Nat × Nat)) (factor : s) : ∀ (n : Nat) (vs : List (V3 s)),
    (lapIter es factor n vs).length = vs.length
  | 0, vs => by simp [lapIter]
  | n + 1, vs => by simp only [lapIter]; rw [lapIter_length es factor n, lapSweep_length]

variable {m m' : MeshVal (List s)}

theorem smoothNormals_eq (hm : m.smoothNormals = some m') :
    m.topology = .triangle ∧ ∃ d, m.attr? posKey = some d ∧
      m' = m.setAttr normalKey ((smoothAccum (d.filterMap v3?) (List.replicate d.length V3.Zero) (triples m.indices)).map
              fun n => ofV3 (if isZeroV n then n else n.Normalized)) := by
  unfold smoothNormals at hm
  split at hm
  · split at hm
    · cases hm
    · exact ⟨‹_›, _, ‹_›, (Option.some.inj hm).symm⟩
  · cases hm

theorem flatNormals_eq (hm : m.flatNormals = some m') :
    m.topology = .triangle ∧ ∃ d, m.attr? posKey = some d ∧
      m' = m.setAttr normalKey ((flatAccum (d.filterMap v3?) (List.replicate d.length V3.One) (triples m.indices)).map
              fun n => ofV3 n.Normalized) := by
  unfold flatNormals at hm
  split at hm
  · split at hm
    · cases hm
    · exact ⟨‹_›, _, ‹_›, (Option.some.inj hm).symm⟩
  · cases hm

theorem laplacian_eq {name : String} {iters : Nat} {factor : s}
    (hm : m.laplacian name iters factor = some m') :
    ∃ es, m.edges = some es ∧ m.modifyAttr ⟨3, name⟩ (fun d =>
      if d.all (fun p => (v3? p).isSome) then (lapIter es factor iters (d.filterMap v3?)).map ofV3 else d) = some m' := by
  unfold laplacian at hm
  split at hm
  · cases hm
  · exact ⟨_, ‹_›, hm⟩

theorem scaleAlongNormal_eq {a n : String} {amount : s}
    (hm : m.scaleAlongNormal a n amount = some m') :
    ∃ pd nd, m.attr? ⟨3, a⟩ = some pd ∧ m.attr? ⟨3, n⟩ = some nd ∧ pd.length ≤ nd.length ∧
      m' = m.setAttr ⟨3, a⟩ (List.zipWith (alongNormal amount) pd nd) := by
  unfold scaleAlongNormal at hm
  split at hm
  · split at hm
    · cases hm
    · exact ⟨_, _, ‹_›, ‹_›, by omega, (Option.some.inj hm).symm⟩
  · cases hm

/-- on a well-formed mesh both arrays have one entry per vertex, so the operation succeeds when both exist -/
theorem scaleAlongNormal_of_wf (h : WF m) {a n : String} {pd nd : List (List s)}
    (hp : m.attr? ⟨3, a⟩ = some pd) (hn : m.attr? ⟨3, n⟩ = some nd) (amount : s) :
    m.scaleAlongNormal a n amount = some (m.setAttr ⟨3, a⟩ (List.zipWith (alongNormal amount) pd nd)) := by
  unfold scaleAlongNormal
  rw [hp, hn]
  exact if_neg (by rw [attr?_length h hp, attr?_length h hn]; omega)

end MeshVal
end PolyVerif.Mesh
