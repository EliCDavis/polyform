/-
  Lemmas about Model/Spz.lean for Props/C14 and Props/C15: what `readRaw` accepts (a whole header and the payload
  it announces), planar-array index arithmetic against the reference encoder, header round trip, 24-bit sign
  extension on BitVec 32 (through `toNat`).
-/
import PolyVerif.Lemmas.Readers

namespace PolyVerif
namespace Spz

/-! ### what `readRaw` accepts -/

theorem payloadLength_eq (h : Header) :
    payloadLength h = 16 + h.numPoints * (posBytes h + 10 + 3 * shDim h.shDegree) := by
  simp only [payloadLength, arraySizes, List.sum_cons, List.sum_nil]; ring

/-- what `spz.Read` accepts holds a whole header and at least the payload that header announces -/
theorem readRaw_ok {bs : List UInt8} {a : Arrays} (h : readRaw bs = .ok a) :
    16 ≤ bs.length ∧ a.header = parseHeader (bs.take 16) ∧ payloadLength a.header ≤ bs.length := by
  unfold readRaw at h
  split at h
  · next h16 =>
    simp only at h
    split at h
    · split at h
      · next heq =>
        cases h
        refine ⟨h16, rfl, ?_⟩
        by_contra hc
        rw [Readers.readArrays_short _ _ (by simp only [payloadLength, List.length_drop] at hc ⊢; omega)] at heq
        cases heq
      · cases h
    · cases h
  · cases h

theorem six_of_length {β : Type} (as : List β) (h : as.length = 6) :
    ∃ p a c s r t, as = [p, a, c, s, r, t] := by
  rcases as with _ | ⟨p, _ | ⟨a, _ | ⟨c, _ | ⟨s, _ | ⟨r, _ | ⟨t, _ | ⟨x, xs⟩⟩⟩⟩⟩⟩⟩ <;> simp at h
  exact ⟨p, a, c, s, r, t, rfl⟩

/-- index into planar data: byte `c` of record `i` -/
theorem byteAt_flatMap {β : Type} (ps : List β) (f : β → List UInt8) (m : Nat) (hm : ∀ p ∈ ps, (f p).length = m)
    (i : Nat) (hi : i < ps.length) (c : Nat) (hc : c < m) :
    byteAt (ps.flatMap f) (i * m + c) = byteAt (f ps[i]) c := by
  rw [byteAt, byteAt, List.getD_eq_getElem?_getD, List.getD_eq_getElem?_getD, Chunks.getElem?_flatMap f m ps hm i hi c hc]

theorem byteAt_map {β : Type} (ps : List β) (f : β → UInt8) (i : Nat) (hi : i < ps.length) :
    byteAt (ps.map f) i = f ps[i] := by
  simp [byteAt, List.getD_eq_getElem?_getD, hi]

theorem range_map_eq_map {β γ : Type} (ps : List β) (F : Nat → γ) (G : β → γ)
    (h : ∀ i (hi : i < ps.length), F i = G ps[i]) : (List.range ps.length).map F = ps.map G := by
  apply List.ext_getElem
  · simp
  · intro i h1 h2
    simp only [List.getElem_map, List.getElem_range]
    exact h i (by simpa using h2)

theorem le32b_eq_le32n (n : Nat) : le32b n = Readers.le32n n := rfl

theorem leNat_le32b (n : Nat) (h : n < 2 ^ 32) : leNat (le32b n) = n := by
  rw [le32b_eq_le32n, Readers.leNat_le32n n h]

/-- header fields fit their widths -/
def Header.inRange (h : Header) : Prop :=
  h.magic < 2 ^ 32 ∧ h.version < 2 ^ 32 ∧ h.numPoints < 2 ^ 32 ∧ h.shDegree < 256 ∧ h.fractionalBits < 256 ∧
  h.flags < 256 ∧ h.reserved < 256

theorem encHeader_length (h : Header) : (encHeader h).length = 16 := rfl

theorem parseHeader_encHeader (h : Header) (hr : h.inRange) : parseHeader (encHeader h) = h := by
  obtain ⟨magic, version, numPoints, shDegree, fractionalBits, flags, reserved⟩ := h
  obtain ⟨h1, h2, h3, h4, h5, h6, h7⟩ := hr
  simp only at h1 h2 h3 h4 h5 h6 h7
  have e1 := leNat_le32b _ h1; have e2 := leNat_le32b _ h2; have e3 := leNat_le32b _ h3
  simp only [le32b] at e1 e2 e3
  simp only [parseHeader, encHeader, le32b, List.cons_append, List.nil_append, List.take_succ_cons, List.take_zero,
    List.drop_succ_cons, List.drop_zero, e1, e2, e3]
  simp only [leNat, UInt8.toNat_ofNat']
  simp only [Header.mk.injEq, true_and]
  omega

/-- the six planar arrays of the reference encoding have the sizes the header announces -/
theorem refArrays_sizes (h : Header) (ps : List Packed) (hn : ps.length = h.numPoints) (hf : ∀ p ∈ ps, p.fits h) :
    ([ps.flatMap (·.pos), ps.map (·.alpha), ps.flatMap (·.color), ps.flatMap (·.scale),
      ps.flatMap (·.rot), ps.flatMap (·.sh)] : List (List UInt8)).map List.length = arraySizes h := by
  simp only [List.map_cons, List.map_nil, arraySizes, List.length_map,
    Chunks.length_flatMap_const (·.pos) (posBytes h) ps (fun p hp => (hf p hp).1),
    Chunks.length_flatMap_const (·.color) 3 ps (fun p hp => (hf p hp).2.1),
    Chunks.length_flatMap_const (·.scale) 3 ps (fun p hp => (hf p hp).2.2.1),
    Chunks.length_flatMap_const (·.rot) 3 ps (fun p hp => (hf p hp).2.2.2.1),
    Chunks.length_flatMap_const (·.sh) (3 * shDim h.shDegree) ps (fun p hp => (hf p hp).2.2.2.2), hn, Nat.mul_assoc]

theorem readRaw_refEncode (h : Header) (hr : h.inRange) (hv : h.valid = true) (ps : List Packed)
    (hn : ps.length = h.numPoints) (hf : ∀ p ∈ ps, p.fits h) (extra : List UInt8) :
    readRaw (refEncode h ps ++ extra) =
      .ok ⟨h, ps.flatMap (·.pos), ps.map (·.alpha), ps.flatMap (·.color), ps.flatMap (·.scale),
        ps.flatMap (·.rot), ps.flatMap (·.sh)⟩ := by
  have hl := encHeader_length h
  have ht : (refEncode h ps ++ extra).take 16 = encHeader h := by
    simp only [refEncode, List.append_assoc]
    rw [List.take_append_of_le_length (by omega), List.take_of_length_le (by omega)]
  have hd : (refEncode h ps ++ extra).drop 16 =
      ([ps.flatMap (·.pos), ps.map (·.alpha), ps.flatMap (·.color), ps.flatMap (·.scale),
        ps.flatMap (·.rot), ps.flatMap (·.sh)] : List (List UInt8)).flatten ++ extra := by
    simp only [refEncode, List.append_assoc]
    rw [← hl, List.drop_left']
    rfl
  unfold readRaw
  rw [if_pos (by simp only [List.length_append, refEncode, hl]; omega), ht, parseHeader_encHeader h hr]
  simp only [hv, if_true, hd]
  rw [← refArrays_sizes h ps hn hf, Readers.readArrays_full]

variable {α : Type} [Scalar α]

theorem decodeAlphas_eq (ps : List Packed) :
    (decodeAlphas ps.length (ps.map (·.alpha)) : List α) = ps.map fun p => alphaDec p.alpha := by
  unfold decodeAlphas
  apply range_map_eq_map
  intro i hi
  rw [byteAt_map ps _ i hi]

theorem decode3_eq (ps : List Packed) (f : Packed → List UInt8) (hm : ∀ p ∈ ps, (f p).length = 3) (i : Nat)
    (hi : i < ps.length) :
    byteAt (ps.flatMap f) (i * 3) = byteAt (f ps[i]) 0 ∧
    byteAt (ps.flatMap f) (i * 3 + 0) = byteAt (f ps[i]) 0 ∧
    byteAt (ps.flatMap f) (i * 3 + 1) = byteAt (f ps[i]) 1 ∧
    byteAt (ps.flatMap f) (i * 3 + 2) = byteAt (f ps[i]) 2 :=
  ⟨by simpa using byteAt_flatMap ps f 3 hm i hi 0 (by omega), byteAt_flatMap ps f 3 hm i hi 0 (by omega),
   byteAt_flatMap ps f 3 hm i hi 1 (by omega), byteAt_flatMap ps f 3 hm i hi 2 (by omega)⟩

theorem decodeColors_eq (ps : List Packed) (hm : ∀ p ∈ ps, p.color.length = 3) :
    (decodeColors ps.length (ps.flatMap (·.color)) : List (V3 α)) =
      ps.map fun p => ⟨colorDec (byteAt p.color 0), colorDec (byteAt p.color 1), colorDec (byteAt p.color 2)⟩ := by
  unfold decodeColors
  apply range_map_eq_map
  intro i hi
  obtain ⟨e0, _, e1, e2⟩ := decode3_eq ps (·.color) hm i hi
  simp only [e0, e1, e2]

theorem decodeScales_eq (ps : List Packed) (hm : ∀ p ∈ ps, p.scale.length = 3) :
    (decodeScales ps.length (ps.flatMap (·.scale)) : List (V3 α)) =
      ps.map fun p => ⟨scaleDec (byteAt p.scale 0), scaleDec (byteAt p.scale 1), scaleDec (byteAt p.scale 2)⟩ := by
  unfold decodeScales
  apply range_map_eq_map
  intro i hi
  obtain ⟨e0, _, e1, e2⟩ := decode3_eq ps (·.scale) hm i hi
  simp only [e0, e1, e2]

theorem decodeRotations_eq (ps : List Packed) (hm : ∀ p ∈ ps, p.rot.length = 3) :
    (decodeRotations ps.length (ps.flatMap (·.rot)) : List (V4 α)) =
      ps.map fun p => ⟨rotDec (byteAt p.rot 0), rotDec (byteAt p.rot 1), rotDec (byteAt p.rot 2),
        rotW (rotDec (byteAt p.rot 0)) (rotDec (byteAt p.rot 1)) (rotDec (byteAt p.rot 2))⟩ := by
  unfold decodeRotations
  apply range_map_eq_map
  intro i hi
  obtain ⟨_, e0, e1, e2⟩ := decode3_eq ps (·.rot) hm i hi
  simp only [e0, e1, e2]

theorem decodeSh_eq (ps : List Packed) (dim : Nat) (hm : ∀ p ∈ ps, p.sh.length = 3 * dim) :
    (decodeSh ps.length dim (ps.flatMap (·.sh)) : List (List (V3 α))) =
      (List.range dim).map fun d => ps.map fun p => shCoef p d := by
  unfold decodeSh
  apply List.map_congr_left
  intro d hd
  have hd' : d < dim := by simpa using hd
  apply range_map_eq_map
  intro i hi
  have key : ∀ c, c < 3 → byteAt (ps.flatMap (·.sh)) (d * 3 + i * 3 * dim + c) = byteAt (ps[i].sh) (d * 3 + c) := by
    intro c hc
    have : d * 3 + i * 3 * dim + c = i * (3 * dim) + (d * 3 + c) := by ring
    rw [this]
    exact byteAt_flatMap ps (·.sh) (3 * dim) hm i hi (d * 3 + c) (by omega)
  simp only [shCoef, key 0 (by omega), key 1 (by omega), key 2 (by omega)]

theorem decodePositions_eq (E : Env α) (h : Header) (ps : List Packed) (hn : ps.length = h.numPoints)
    (hm : ∀ p ∈ ps, p.pos.length = posBytes h) :
    decodePositions E h (ps.flatMap (·.pos)) = ps.map fun p => (dequant E h p).pos := by
  unfold decodePositions
  rw [← hn]
  apply range_map_eq_map
  intro i hi
  by_cases hv : h.version = 1
  · have hm6 : ∀ p ∈ ps, p.pos.length = 6 := fun p hp => by rw [hm p hp, posBytes, if_pos hv]
    have key : ∀ c, c < 6 → byteAt (ps.flatMap (·.pos)) (i * 6 + c) = byteAt (ps[i].pos) c :=
      fun c hc => byteAt_flatMap ps (·.pos) 6 hm6 i hi c hc
    have i0 : 2 * (i * 3) = i * 6 + 0 := by omega
    have i1 : 2 * (i * 3) + 1 = i * 6 + 1 := by omega
    have i2 : 2 * (i * 3 + 1) = i * 6 + 2 := by omega
    have i3 : 2 * (i * 3 + 1) + 1 = i * 6 + 3 := by omega
    have i4 : 2 * (i * 3 + 2) = i * 6 + 4 := by omega
    have i5 : 2 * (i * 3 + 2) + 1 = i * 6 + 5 := by omega
    simp only [hv, if_true, dequant, i0, i2, i4, key 0 (by omega), key 1 (by omega), key 2 (by omega),
      key 3 (by omega), key 4 (by omega), key 5 (by omega)]
  · have hm9 : ∀ p ∈ ps, p.pos.length = 9 := fun p hp => by rw [hm p hp, posBytes, if_neg hv]
    have key : ∀ c, c < 9 → byteAt (ps.flatMap (·.pos)) (i * 9 + c) = byteAt (ps[i].pos) c :=
      fun c hc => byteAt_flatMap ps (·.pos) 9 hm9 i hi c hc
    simp only [hv, if_false, dequant, key 0 (by omega), key 1 (by omega), key 2 (by omega),
      key 3 (by omega), key 4 (by omega), key 5 (by omega), key 6 (by omega), key 7 (by omega), key 8 (by omega)]

theorem and_two_pow' (w i : Nat) : w &&& 2 ^ i = if w.testBit i then 2 ^ i else 0 := by
  apply Nat.eq_of_testBit_eq; intro j
  rw [Nat.testBit_and, Nat.testBit_two_pow]
  by_cases h : i = j
  · subst h; cases hb : w.testBit i <;> simp [hb, Nat.testBit_two_pow]
  · cases hb : w.testBit i <;> simp [h, Nat.testBit_two_pow]

theorem assemble_toNat (b0 b1 b2 : BitVec 8) :
    (b0.setWidth 32 ||| (b1.setWidth 32 <<< 8) ||| (b2.setWidth 32 <<< 16)).toNat
      = b0.toNat + 256 * b1.toNat + 65536 * b2.toNat := by
  have h0 := b0.isLt; have h1 := b1.isLt; have h2 := b2.isLt
  simp only [BitVec.toNat_or, BitVec.toNat_shiftLeft, BitVec.toNat_setWidth]
  have e0 : b0.toNat % 2 ^ 32 = b0.toNat := Nat.mod_eq_of_lt (by omega)
  have e1 : (b1.toNat % 2 ^ 32) <<< 8 % 2 ^ 32 = b1.toNat <<< 8 := by
    rw [Nat.mod_eq_of_lt (by omega : b1.toNat < 2 ^ 32), Nat.shiftLeft_eq]; omega
  have e2 : (b2.toNat % 2 ^ 32) <<< 16 % 2 ^ 32 = b2.toNat <<< 16 := by
    rw [Nat.mod_eq_of_lt (by omega : b2.toNat < 2 ^ 32), Nat.shiftLeft_eq]; omega
  rw [e0, e1, e2]
  have s1 : b1.toNat <<< 8 + b0.toNat = b1.toNat <<< 8 ||| b0.toNat :=
    Nat.shiftLeft_add_eq_or_of_lt (by omega) _
  have hlt : b1.toNat <<< 8 + b0.toNat < 2 ^ 16 := by rw [Nat.shiftLeft_eq]; omega
  have s2 : b2.toNat <<< 16 + (b1.toNat <<< 8 + b0.toNat) = b2.toNat <<< 16 ||| (b1.toNat <<< 8 + b0.toNat) :=
    Nat.shiftLeft_add_eq_or_of_lt hlt _
  rw [Nat.or_comm (b0.toNat) _, ← s1, Nat.or_comm _ (b2.toNat <<< 16), ← s2]
  simp only [Nat.shiftLeft_eq]; omega

theorem sign_extend_24 (b0 b1 b2 : BitVec 8) :
    (fixed24Word b0 b1 b2).toInt =
      let v : Int := b0.toNat + 256 * b1.toNat + 65536 * b2.toNat
      if v < 2 ^ 23 then v else v - 2 ^ 24 := by
  have h0 := b0.isLt; have h1 := b1.isLt; have h2 := b2.isLt
  have hw := assemble_toNat b0 b1 b2
  simp only [fixed24Word]
  generalize hW : (b0.setWidth 32 ||| (b1.setWidth 32 <<< 8) ||| (b2.setWidth 32 <<< 16)) = w at hw
  have hwlt : w.toNat < 2 ^ 24 := by omega
  -- the test `w & 0x800000 > 0` is `2^23 ≤ w`
  have hand : (w &&& 0x800000#32).toNat = if 2 ^ 23 ≤ w.toNat then 2 ^ 23 else 0 := by
    simp only [BitVec.toNat_and, BitVec.toNat_ofNat]
    have : (8388608 : Nat) % 2 ^ 32 = 2 ^ 23 := by norm_num
    rw [this, and_two_pow']
    by_cases hb : 2 ^ 23 ≤ w.toNat
    · have : w.toNat.testBit 23 = true := by
        rw [Nat.testBit_eq_decide_div_mod_eq]; simp; omega
      rw [this, if_pos rfl, if_pos hb]
    · have : w.toNat.testBit 23 = false := by
        rw [Nat.testBit_eq_decide_div_mod_eq]; simp; omega
      rw [this, if_neg (by simp), if_neg hb]
  have hor : (w ||| 0xff000000#32).toNat = w.toNat + 0xff000000 := by
    simp only [BitVec.toNat_or, BitVec.toNat_ofNat]
    have : (4278190080 : Nat) % 2 ^ 32 = 255 <<< 24 := by decide
    rw [this, Nat.or_comm, ← Nat.shiftLeft_add_eq_or_of_lt hwlt]
    have : (255 : Nat) <<< 24 = 4278190080 := by decide
    omega
  by_cases hb : 2 ^ 23 ≤ w.toNat
  · have hgt : w &&& 0x800000#32 > 0#32 := by
      rw [gt_iff_lt, BitVec.lt_def, hand, if_pos hb]; simp
    rw [if_pos hgt, BitVec.toInt_eq_toNat_cond, hor]
    rw [if_neg (by omega), if_neg (by omega)]
    push_cast; omega
  · have hgt : ¬ (w &&& 0x800000#32 > 0#32) := by
      rw [gt_iff_lt, BitVec.lt_def, hand, if_neg hb]; simp
    rw [if_neg hgt, BitVec.toInt_eq_toNat_cond]
    rw [if_pos (by omega), if_pos (by omega)]
    omega

end Spz
end PolyVerif
