/-
  C18: every vertex of the capped cylinder (modulo its merge map, all side counts) and of the hemisphere is reached from
  the first one along edges; both are carried over from the sphere.
-/
import PolyVerif.Lemmas.SolidsTopo
import PolyVerif.Lemmas.SolidsUmbrella2
namespace PolyVerif.Solids

/-- every valid logical point of the capped cylinder is reachable from the top centre along edges: carried over from
    the 3-row sphere -/
theorem cylL_reach {S : Nat} (hS : 3 ≤ S) (p : LP) (hp : UvValid 3 S p) :
    Relation.ReflTransGen (Adj (cylL S)) (0, 0) p := by
  have adj : ∀ a b, Adj (sphereL 3 S) a b → Adj (cylL S) (cylOfSphere S a) (cylOfSphere S b) := fun a b hab => by
    obtain ⟨c, hc⟩ := mem_edges_iff_linkEdge.1 hab
    exact mem_edges_iff_linkEdge.2 ⟨_, LinkEdge.map (sphere3_to_cylL hS) hc⟩
  have h : Relation.ReflTransGen (Adj (cylL S)) (cylOfSphere S (0, 0)) (cylOfSphere S (sphereOfCyl S p)) :=
    Relation.ReflTransGen.lift (cylOfSphere S) adj _ _ (sphereL_reach (by norm_num) hS _ (sphereOfCyl_valid hS hp))
  rwa [cylOfSphere_sphereOfCyl hp] at h

theorem cylinder_reach_mod_merge {S : Nat} (hS : 3 ≤ S) {v : Nat} (hv : v < cylinderNV S false false) :
    Relation.ReflTransGen (Adj ((cylinderTris S false false).map (tmap (cylinderPt S)))) (0, 0) (cylinderPt S v) := by
  rw [cylinder_map_pt (by omega)]
  exact cylL_reach hS _ (cylinderPt_valid hS hv)

/-- for a closed list, reversing every triangle keeps the edge relation (each edge has its twin) -/
theorem adj_flip_of_closed {β : Type} {ts : List (β × β × β)} (h : Closed ts) {a b : β} (hab : Adj ts a b) :
    Adj (ts.map flipT) a b := by
  have htw := h.2.1 (a, b) hab
  unfold Adj
  rw [(edges_flip_perm ts).mem_iff]
  exact List.mem_map.2 ⟨(b, a), htw, rfl⟩

theorem hemisphere_reach {R C : Nat} (hR : 2 ≤ R) (hC : 3 ≤ C) {v : Nat} (hv : v < uvSphereNV R C) :
    Relation.ReflTransGen (Adj (hemisphereTris R C)) 0 v := by
  rw [hemisphereTris_eq_flip]
  have hcl : Closed (uvSphereTris R C) := by
    rw [uvSphereTris_eq_map hR]
    exact (sphereL_closed hR hC).map_of_injOn (UvValid R C) (sphereL_valid hR hC) (uvEnc_injOn hR hC)
  exact Relation.ReflTransGen.lift id (fun a b hab => adj_flip_of_closed hcl hab) _ _ (uvSphere_reach hR hC hv)

end PolyVerif.Solids
