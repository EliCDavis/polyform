/-
  C07 (binary STL) about Model/Stl.lean (namespace `PolyVerif.Stl`), proofs: word, record and file level of the pure layout
  (`encodeRaw` / `decodeRaw`: round trip, inverse, totality on long enough input), NaN quieting, then the
  mesh level (`WriteMesh` / `ReadMesh`).  `PolyVerif/Props/C07.lean` restates the property theorems.  Core Lean only.
-/
import PolyVerif.Model.Stl
import PolyVerif.Lemmas.LittleEndian

namespace PolyVerif
namespace StlL
open Stl

theorem le32_length (w : W32) : (le32 w).length = 4 := rfl
theorem le16_length (w : W16) : (le16 w).length = 2 := rfl

theorem rd32_le32_aux (w : W32) (r : List Byte) : rd32 (le32 w ++ r) = some (w, r) := by
  have h := (LE.sum4 w.toNat).trans (Nat.mod_eq_of_lt w.isLt)
  simp only [le32, List.cons_append, List.nil_append, rd32, BitVec.toNat_ofNat, Nat.reducePow]
  rw [h, BitVec.ofNat_toNat, BitVec.setWidth_eq]

theorem rd16_le16_aux (w : W16) (r : List Byte) : rd16 (le16 w ++ r) = some (w, r) := by
  have h := (LE.sum2 w.toNat).trans (Nat.mod_eq_of_lt w.isLt)
  simp only [le16, List.cons_append, List.nil_append, rd16, BitVec.toNat_ofNat, Nat.reducePow]
  rw [h, BitVec.ofNat_toNat, BitVec.setWidth_eq]

theorem byte_eq (b : Byte) {n : Nat} (h : n % 256 = b.toNat) : BitVec.ofNat 8 n = b :=
  BitVec.eq_of_toNat_eq (by rw [BitVec.toNat_ofNat]; exact h)

theorem rd32_inv_aux {bs : List Byte} {w : W32} {r : List Byte} (h : rd32 bs = some (w, r)) :
    bs = le32 w ++ r := by
  match bs, h with
  | b0 :: b1 :: b2 :: b3 :: r', h =>
    simp only [rd32, Option.some.injEq, Prod.mk.injEq] at h
    obtain ⟨rfl, rfl⟩ := h
    obtain ⟨hv, h0, h1, h2, h3⟩ := LE.digits4 b0.isLt b1.isLt b2.isLt b3.isLt
    simp only [le32, List.cons_append, List.nil_append, BitVec.toNat_ofNat, Nat.reducePow, Nat.mod_eq_of_lt hv,
      byte_eq _ h0, byte_eq _ h1, byte_eq _ h2, byte_eq _ h3]

theorem rd16_inv_aux {bs : List Byte} {w : W16} {r : List Byte} (h : rd16 bs = some (w, r)) :
    bs = le16 w ++ r := by
  match bs, h with
  | b0 :: b1 :: r', h =>
    simp only [rd16, Option.some.injEq, Prod.mk.injEq] at h
    obtain ⟨rfl, rfl⟩ := h
    obtain ⟨hv, h0, h1⟩ := LE.digits2 b0.isLt b1.isLt
    simp only [le16, List.cons_append, List.nil_append, BitVec.toNat_ofNat, Nat.reducePow, Nat.mod_eq_of_lt hv,
      byte_eq _ h0, byte_eq _ h1]

theorem encP3_length (v : P3 W32) : (encP3 v).length = 12 := by simp [encP3, le32_length]

theorem encTri_length (t : Tri) : (encTri t).length = 50 := by
  simp [encTri, encP3_length, le16_length]

theorem encTris_length (ts : List Tri) : (encTris ts).length = 50 * ts.length := by
  induction ts with
  | nil => rfl
  | cons t ts ih => simp [encTris, encTri_length, ih]; omega

theorem rdP3_encP3_aux (v : P3 W32) (r : List Byte) : rdP3 (encP3 v ++ r) = some (v, r) := by
  simp [rdP3, encP3, List.append_assoc, rd32_le32_aux]

theorem rdTri_encTri_aux (t : Tri) (r : List Byte) : rdTri (encTri t ++ r) = some (t, r) := by
  simp [rdTri, encTri, List.append_assoc, rdP3_encP3_aux, rd16_le16_aux]

theorem rdTris_encTris_aux (ts : List Tri) (r : List Byte) :
    rdTris ts.length (encTris ts ++ r) = some (ts, r) := by
  induction ts with
  | nil => rfl
  | cons t ts ih => simp [rdTris, encTris, List.append_assoc, rdTri_encTri_aux, ih]

theorem rdP3_inv_aux {bs : List Byte} {v : P3 W32} {r : List Byte} (h : rdP3 bs = some (v, r)) :
    bs = encP3 v ++ r := by
  simp only [rdP3, Option.bind_eq_some_iff, Prod.exists, Option.some.injEq, Prod.mk.injEq] at h
  obtain ⟨x, b1, h1, y, b2, h2, z, b3, h3, rfl, rfl⟩ := h
  rw [rd32_inv_aux h1, rd32_inv_aux h2, rd32_inv_aux h3]
  simp [encP3, List.append_assoc]

theorem rdTri_inv_aux {bs : List Byte} {t : Tri} {r : List Byte} (h : rdTri bs = some (t, r)) :
    bs = encTri t ++ r := by
  simp only [rdTri, Option.bind_eq_some_iff, Prod.exists, Option.some.injEq, Prod.mk.injEq] at h
  obtain ⟨n, b1, h1, v1, b2, h2, v2, b3, h3, v3, b4, h4, a, b5, h5, rfl, rfl⟩ := h
  rw [rdP3_inv_aux h1, rdP3_inv_aux h2, rdP3_inv_aux h3, rdP3_inv_aux h4, rd16_inv_aux h5]
  simp [encTri, List.append_assoc]

theorem rdTris_inv_aux (k : Nat) {bs : List Byte} {ts : List Tri} {r : List Byte}
    (h : rdTris k bs = some (ts, r)) : bs = encTris ts ++ r ∧ ts.length = k := by
  induction k generalizing bs ts r with
  | zero => simp only [rdTris, Option.some.injEq, Prod.mk.injEq] at h; obtain ⟨rfl, rfl⟩ := h; simp [encTris]
  | succ k ih =>
    simp only [rdTris, Option.bind_eq_some_iff, Prod.exists, Option.some.injEq, Prod.mk.injEq] at h
    obtain ⟨t, b1, h1, ts', b2, h2, rfl, rfl⟩ := h
    obtain ⟨e, hl⟩ := ih h2
    rw [rdTri_inv_aux h1, e]
    simp [encTris, List.append_assoc, hl]

/-- a record stream shorter than `50·k` bytes cannot be read as `k` records -/
theorem rdTris_short_aux (k : Nat) (bs : List Byte) (h : bs.length < 50 * k) : rdTris k bs = none := by
  cases hr : rdTris k bs with
  | none => rfl
  | some p =>
    obtain ⟨ts, r⟩ := p
    obtain ⟨e, hl⟩ := rdTris_inv_aux k hr
    have := congrArg List.length e
    simp [encTris_length, hl] at this
    omega

theorem rd32_total_aux (bs : List Byte) (h : 4 ≤ bs.length) :
    ∃ w r, rd32 bs = some (w, r) ∧ r.length + 4 = bs.length := by
  match bs, h with
  | b0 :: b1 :: b2 :: b3 :: r, _ => exact ⟨_, r, rfl, by simp⟩

theorem rd16_total_aux (bs : List Byte) (h : 2 ≤ bs.length) :
    ∃ w r, rd16 bs = some (w, r) ∧ r.length + 2 = bs.length := by
  match bs, h with
  | b0 :: b1 :: r, _ => exact ⟨_, r, rfl, by simp⟩

theorem rdP3_total_aux (bs : List Byte) (h : 12 ≤ bs.length) :
    ∃ v r, rdP3 bs = some (v, r) ∧ r.length + 12 = bs.length := by
  obtain ⟨x, r1, e1, l1⟩ := rd32_total_aux bs (by omega)
  obtain ⟨y, r2, e2, l2⟩ := rd32_total_aux r1 (by omega)
  obtain ⟨z, r3, e3, l3⟩ := rd32_total_aux r2 (by omega)
  exact ⟨⟨x, y, z⟩, r3, by simp [rdP3, e1, e2, e3], by omega⟩

theorem rdTri_total_aux (bs : List Byte) (h : 50 ≤ bs.length) :
    ∃ t r, rdTri bs = some (t, r) ∧ r.length + 50 = bs.length := by
  obtain ⟨n, r1, e1, l1⟩ := rdP3_total_aux bs (by omega)
  obtain ⟨v1, r2, e2, l2⟩ := rdP3_total_aux r1 (by omega)
  obtain ⟨v2, r3, e3, l3⟩ := rdP3_total_aux r2 (by omega)
  obtain ⟨v3, r4, e4, l4⟩ := rdP3_total_aux r3 (by omega)
  obtain ⟨a, r5, e5, l5⟩ := rd16_total_aux r4 (by omega)
  exact ⟨⟨n, v1, v2, v3, a⟩, r5, by simp [rdTri, e1, e2, e3, e4, e5], by omega⟩

theorem rdTris_total_aux (k : Nat) (bs : List Byte) (h : 50 * k ≤ bs.length) :
    ∃ ts r, rdTris k bs = some (ts, r) := by
  induction k generalizing bs with
  | zero => exact ⟨[], bs, rfl⟩
  | succ k ih =>
    obtain ⟨t, r1, ht, hl⟩ := rdTri_total_aux bs (by omega)
    obtain ⟨ts, r, hts⟩ := ih r1 (by omega)
    exact ⟨t :: ts, r, by simp [rdTris, ht, hts]⟩

/-! ### the pure layout (`encodeRaw` / `decodeRaw`): exact at the bit level -/

theorem raw_length_aux (h : Header) (ts : List Tri) : (encodeRaw h ts).length = 84 + 50 * ts.length := by
  simp [encodeRaw, h.len, le32_length, encTris_length]; omega

theorem rdHeader_aux (h : Header) (r : List Byte) : rdHeader (h.bytes ++ r) = some (h, r) := by
  obtain ⟨hb, hlen⟩ := h
  have h80 : 80 ≤ (hb ++ r).length := by simp [hlen]
  have ht : (hb ++ r).take 80 = hb := by rw [← hlen]; simp
  have hd : (hb ++ r).drop 80 = r := by rw [← hlen]; simp
  simp [rdHeader, ht, hd]; omega

theorem raw_roundtrip_trailing_aux (h : Header) (ts : List Tri) (extra : List Byte)
    (hn : ts.length < 2 ^ 32) : decodeRaw (encodeRaw h ts ++ extra) = .ok (h, ts) := by
  have hc : (BitVec.ofNat 32 ts.length).toNat = ts.length := by
    simp only [BitVec.toNat_ofNat]; omega
  simp [decodeRaw, encodeRaw, List.append_assoc, rdHeader_aux, rd32_le32_aux, hc, rdTris_encTris_aux]

theorem raw_roundtrip_aux (h : Header) (ts : List Tri) (hn : ts.length < 2 ^ 32) :
    decodeRaw (encodeRaw h ts) = .ok (h, ts) := by
  simpa using raw_roundtrip_trailing_aux h ts [] hn

example : decodeRaw (encodeRaw zeroHeader [⟨⟨1,2,3⟩,⟨4,5,6⟩,⟨7,8,9⟩,⟨10,11,0xffc00001⟩,7⟩]) =
    .ok (zeroHeader, [⟨⟨1,2,3⟩,⟨4,5,6⟩,⟨7,8,9⟩,⟨10,11,0xffc00001⟩,7⟩]) := raw_roundtrip_aux _ _ (by decide)

/-- the count field is `uint32(len)`: beyond `2^32 - 1` records the file no longer says how many
    records it holds (`2^32` records read back as none).  This is why `raw_roundtrip_aux` carries its bound. -/
theorem raw_count_wraps_aux (h : Header) (ts : List Tri) (hn : ts.length = 2 ^ 32) :
    decodeRaw (encodeRaw h ts) = .ok (h, []) := by
  have hc : (BitVec.ofNat 32 ts.length).toNat = 0 := by
    simp only [BitVec.toNat_ofNat]; omega
  simp [decodeRaw, encodeRaw, List.append_assoc, rdHeader_aux, rd32_le32_aux, hc, rdTris]

theorem rdHeader_inv_aux {bs : List Byte} {h : Header} {r : List Byte} (e : rdHeader bs = some (h, r)) :
    bs = h.bytes ++ r := by
  unfold rdHeader at e
  split at e
  · simp only [Option.some.injEq, Prod.mk.injEq] at e
    obtain ⟨rfl, rfl⟩ := e
    simp
  · cases e

theorem raw_reencode_prefix_aux {bs : List Byte} {h : Header} {ts : List Tri}
    (hd : decodeRaw bs = .ok (h, ts)) : ∃ extra, bs = encodeRaw h ts ++ extra ∧ ts.length < 2 ^ 32 := by
  unfold decodeRaw at hd
  split at hd
  · cases hd
  · rename_i h' b1 e1
    split at hd
    · cases hd
    · rename_i c b2 e2
      split at hd
      · cases hd
      · rename_i ts' b3 e3
        simp only [Except.ok.injEq, Prod.mk.injEq] at hd
        obtain ⟨rfl, rfl⟩ := hd
        obtain ⟨e, hl⟩ := rdTris_inv_aux _ e3
        have hc : BitVec.ofNat 32 ts'.length = c := by
          apply BitVec.eq_of_toNat_eq; have := c.isLt; simp only [BitVec.toNat_ofNat]; omega
        refine ⟨b3, ?_, by have := c.isLt; omega⟩
        rw [rdHeader_inv_aux e1, rd32_inv_aux e2, e]
        simp [encodeRaw, List.append_assoc, hc]

theorem raw_reencode_aux {bs : List Byte} (hwf : WellFormed bs) :
    ∃ h ts, decodeRaw bs = .ok (h, ts) ∧ encodeRaw h ts = bs := by
  obtain ⟨c, rest, hc, hlen⟩ := hwf
  have h80 : 80 ≤ bs.length := by omega
  have hrest : rest.length = 50 * c.toNat := by
    have := congrArg List.length (rd32_inv_aux hc)
    simp [le32_length, List.length_drop] at this
    omega
  obtain ⟨ts, r, hts⟩ := rdTris_total_aux c.toNat rest (by omega)
  have hdec : decodeRaw bs = .ok (⟨bs.take 80, by simp [List.length_take]; omega⟩, ts) := by
    simp [decodeRaw, rdHeader, h80, hc, hts]
  refine ⟨_, ts, hdec, ?_⟩
  obtain ⟨extra, he, _⟩ := raw_reencode_prefix_aux hdec
  have hl := congrArg List.length he
  rw [List.length_append, raw_length_aux] at hl
  obtain ⟨_, hk⟩ := rdTris_inv_aux _ hts
  have : extra = [] := List.eq_nil_of_length_eq_zero (by omega)
  rw [this, List.append_nil] at he
  exact he.symm

example : WellFormed (encodeRaw zeroHeader [⟨⟨1,2,3⟩,⟨4,5,6⟩,⟨7,8,9⟩,⟨10,11,12⟩,7⟩]) := by
  refine ⟨1, encTris [⟨⟨1,2,3⟩,⟨4,5,6⟩,⟨7,8,9⟩,⟨10,11,12⟩,7⟩], ?_, ?_⟩
  · simp [encodeRaw, zeroHeader, rd32_le32_aux]
  · rw [raw_length_aux]; rfl

theorem raw_decode_ok_iff_aux (bs : List Byte) :
    (∃ x, decodeRaw bs = .ok x) ↔ ∃ c rest, rd32 (bs.drop 80) = some (c, rest) ∧ 84 + 50 * c.toNat ≤ bs.length := by
  constructor
  · rintro ⟨⟨h, ts⟩, hd⟩
    obtain ⟨extra, he, hn⟩ := raw_reencode_prefix_aux hd
    refine ⟨BitVec.ofNat 32 ts.length, encTris ts ++ extra, ?_, ?_⟩
    · have hd : (h.bytes ++ (le32 (BitVec.ofNat 32 ts.length) ++ (encTris ts ++ extra))).drop 80
          = le32 (BitVec.ofNat 32 ts.length) ++ (encTris ts ++ extra) := by rw [← h.len]; simp
      rw [he]; simp only [encodeRaw, List.append_assoc, hd, rd32_le32_aux]
    · have := congrArg List.length he
      rw [List.length_append, raw_length_aux] at this
      simp only [BitVec.toNat_ofNat]
      have : ts.length % 2 ^ 32 = ts.length := Nat.mod_eq_of_lt hn
      omega
  · rintro ⟨c, rest, hc, hlen⟩
    have h80 : 80 ≤ bs.length := by omega
    have hrest : rest.length + 84 = bs.length := by
      have := congrArg List.length (rd32_inv_aux hc)
      simp [le32_length, List.length_drop] at this
      omega
    obtain ⟨ts, r, hts⟩ := rdTris_total_aux c.toNat rest (by omega)
    exact ⟨_, by simp [decodeRaw, rdHeader, h80, hc, hts]; rfl⟩

theorem raw_decode_short_aux (bs : List Byte) (h : bs.length < 84) : decodeRaw bs = .error .short := by
  cases hd : decodeRaw bs with
  | error e =>
    unfold decodeRaw at hd
    split at hd
    · cases hd; rfl
    · split at hd
      · cases hd; rfl
      · split at hd
        · cases hd; rfl
        · cases hd
  | ok x =>
    obtain ⟨c, rest, hc, hl⟩ := (raw_decode_ok_iff_aux bs).1 ⟨x, hd⟩
    omega

/-! ### NaN quieting by `encoding/binary` -/

theorem quiet_idem_aux (w : W32) : quiet (quiet w) = quiet w := by
  have hw := w.isLt
  by_cases h : isNaN32 w
  · by_cases h2 : w.toNat / 0x400000 % 2 = 1
    · have hq : quiet w = w := by simp [quiet, h, h2]
      rw [hq, hq]
    · have h' : 0x7f800000 < w.toNat % 0x80000000 := by simpa [isNaN32] using h
      have e : (BitVec.ofNat 32 (w.toNat + 0x400000)).toNat = w.toNat + 0x400000 := by
        simp only [BitVec.toNat_ofNat]; omega
      have hn : isNaN32 (BitVec.ofNat 32 (w.toNat + 0x400000)) = true := by
        simp only [isNaN32, e, decide_eq_true_eq]; omega
      have h3 : (BitVec.ofNat 32 (w.toNat + 0x400000)).toNat / 0x400000 % 2 = 1 := by rw [e]; omega
      have hq : quiet w = BitVec.ofNat 32 (w.toNat + 0x400000) := by
        unfold quiet; rw [if_pos h, if_neg h2]
      rw [hq]
      unfold quiet
      rw [if_pos hn, if_pos h3]
  · have hq : quiet w = w := by simp [quiet, h]
    rw [hq, hq]

theorem map_eq_self_aux {β : Type} (f : β → β) : ∀ (l : List β), (∀ t ∈ l, f t = t) → l.map f = l
  | [], _ => rfl
  | a :: l, h => by
    simp only [List.map_cons, h a (by simp), map_eq_self_aux f l (fun t ht => h t (by simp [ht]))]

theorem quietTri_idem_aux (t : Tri) : quietTri (quietTri t) = quietTri t := by
  simp [quietTri, quietV, quiet_idem_aux]

theorem quietTri_comp_aux : quietTri ∘ quietTri = quietTri := funext quietTri_idem_aux

/-- a bit pattern that is not a signalling NaN passes unchanged -/
theorem quiet_of_not_snan (w : W32) (h : isNaN32 w = false ∨ w.toNat / 0x400000 % 2 = 1) : quiet w = w := by
  unfold quiet; rcases h with h | h <;> simp [h]

theorem stl_length (h : Header) (ts : List Tri) : (encode h ts).length = 84 + 50 * ts.length := by
  simp [encode, raw_length_aux]

/-! ### C07 clause 2: byte-level round trip -/

theorem stl_roundtrip_trailing (h : Header) (ts : List Tri) (extra : List Byte)
    (hn : ts.length < 2 ^ 32) : decode (encode h ts ++ extra) = .ok (h, ts.map quietTri) := by
  simp [decode, encode, raw_roundtrip_trailing_aux h (ts.map quietTri) extra (by simpa using hn),
    Except.map, quietTri_comp_aux]

theorem stl_roundtrip (h : Header) (ts : List Tri) (hn : ts.length < 2 ^ 32) :
    decode (encode h ts) = .ok (h, ts.map quietTri) := by
  simpa using stl_roundtrip_trailing h ts [] hn

theorem stl_roundtrip_exact (h : Header) (ts : List Tri) (hn : ts.length < 2 ^ 32)
    (hq : ∀ t ∈ ts, quietTri t = t) : decode (encode h ts) = .ok (h, ts) := by
  rw [stl_roundtrip h ts hn]
  rw [map_eq_self_aux _ _ hq]

example : decode (encode zeroHeader [⟨⟨1,2,3⟩,⟨4,5,6⟩,⟨7,8,9⟩,⟨10,0x7fc00001,0xffffffff⟩,7⟩]) =
    .ok (zeroHeader, [⟨⟨1,2,3⟩,⟨4,5,6⟩,⟨7,8,9⟩,⟨10,0x7fc00001,0xffffffff⟩,7⟩]) :=
  stl_roundtrip_exact _ _ (by decide) (by decide)

theorem stl_count_wraps (h : Header) (ts : List Tri) (hn : ts.length = 2 ^ 32) :
    decode (encode h ts) = .ok (h, []) := by
  simp [decode, encode, raw_count_wraps_aux h (ts.map quietTri) (by simpa using hn), Except.map]

/-! ### C07 clause 3: read-then-write reproduces a well-formed file -/

theorem stl_reencode_prefix {bs : List Byte} {h : Header} {ts : List Tri}
    (hd : decode bs = .ok (h, ts)) :
    ∃ raw extra, bs = encodeRaw h raw ++ extra ∧ ts = raw.map quietTri ∧
      encode h ts = encodeRaw h ts ∧ ts.length < 2 ^ 32 := by
  unfold decode at hd
  cases hr : decodeRaw bs with
  | error e => rw [hr] at hd; cases hd
  | ok x =>
    obtain ⟨h', raw⟩ := x
    rw [hr] at hd
    simp only [Except.map, Except.ok.injEq, Prod.mk.injEq] at hd
    obtain ⟨rfl, rfl⟩ := hd
    obtain ⟨extra, he, hn⟩ := raw_reencode_prefix_aux hr
    exact ⟨raw, extra, he, rfl, by simp [encode, quietTri_comp_aux], by simpa using hn⟩

theorem stl_reencode {bs : List Byte} (hwf : WellFormed bs) :
    ∃ h raw, bs = encodeRaw h raw ∧ decode bs = .ok (h, raw.map quietTri) ∧
      encode h (raw.map quietTri) = encodeRaw h (raw.map quietTri) ∧
      decode (encode h (raw.map quietTri)) = decode bs ∧
      ((∀ t ∈ raw, quietTri t = t) → encode h (raw.map quietTri) = bs) := by
  obtain ⟨h, raw, hd, he⟩ := raw_reencode_aux hwf
  have hn : raw.length < 2 ^ 32 := by
    obtain ⟨_, _, hn⟩ := raw_reencode_prefix_aux hd; exact hn
  have hdec : decode bs = .ok (h, raw.map quietTri) := by simp [decode, hd, Except.map]
  refine ⟨h, raw, he.symm, hdec, by simp [encode, quietTri_comp_aux], ?_, ?_⟩
  · rw [hdec, stl_roundtrip h _ (by simpa using hn), List.map_map, quietTri_comp_aux]
  · intro hq
    have : raw.map quietTri = raw := map_eq_self_aux _ _ hq
    rw [this, encode, this, he]

example : WellFormed (encode zeroHeader [⟨⟨1,2,3⟩,⟨4,5,6⟩,⟨7,8,9⟩,⟨10,11,12⟩,7⟩]) := by
  refine ⟨1, encTris ([⟨⟨1,2,3⟩,⟨4,5,6⟩,⟨7,8,9⟩,⟨10,11,12⟩,7⟩].map quietTri), ?_, ?_⟩
  · simp [encode, encodeRaw, zeroHeader, rd32_le32_aux]
  · rw [stl_length]; rfl

theorem stl_decode_ok_iff (bs : List Byte) :
    (∃ x, decode bs = .ok x) ↔ ∃ c rest, rd32 (bs.drop 80) = some (c, rest) ∧ 84 + 50 * c.toNat ≤ bs.length := by
  rw [← raw_decode_ok_iff_aux]
  unfold decode
  cases decodeRaw bs <;> simp [Except.map]

theorem stl_decode_short (bs : List Byte) (h : bs.length < 84) : decode bs = .error .short := by
  simp [decode, raw_decode_short_aux bs h, Except.map]

/-! ### C07 clause 4: mesh level — `ReadMesh ∘ WriteMesh` -/

section mesh
variable {α : Type}

/-- index triples flattened back -/
def flat : List (Nat × Nat × Nat) → List Nat
  | [] => []
  | (a, b, c) :: r => a :: b :: c :: flat r

theorem chunks_length_aux : ∀ idx : List Nat, (chunks idx).length = idx.length / 3
  | [] => rfl
  | [_] => by simp [chunks]
  | [_, _] => by simp [chunks]
  | _ :: _ :: _ :: r => by simp [chunks, chunks_length_aux r]; omega

theorem flat_chunks_aux : ∀ idx : List Nat, idx.length % 3 = 0 → flat (chunks idx) = idx
  | [], _ => rfl
  | [_], h => by simp at h
  | [_, _], h => by simp at h
  | _ :: _ :: _ :: r, h => by simp [chunks, flat, flat_chunks_aux r (by simp at h; omega)]

theorem flat_mem_aux : ∀ (cs : List (Nat × Nat × Nat)) (t : Nat × Nat × Nat), t ∈ cs →
    t.1 ∈ flat cs ∧ t.2.1 ∈ flat cs ∧ t.2.2 ∈ flat cs
  | [], _, h => by cases h
  | (a, b, c) :: r, t, h => by
    rcases List.mem_cons.1 h with rfl | h
    · simp [flat]
    · obtain ⟨h1, h2, h3⟩ := flat_mem_aux r t h
      simp [flat, h1, h2, h3]

theorem chunks_eq_triples : ∀ idx : List Nat, triples idx = (chunks idx).map some
  | [] => rfl
  | [_] => by simp [triples, chunks]
  | [_, _] => by simp [triples, chunks]
  | a :: b :: c :: r => by
    have ih := chunks_eq_triples r
    unfold triples at ih ⊢
    have hl : (a :: b :: c :: r).length / 3 = r.length / 3 + 1 := by simp; omega
    rw [hl, List.range_succ_eq_map, List.map_cons, List.map_map, chunks, List.map_cons, ← ih]
    congr 1

theorem storedNormal_some_aux (P : Params α) (n : Nat) (ns : Option (List (P3 α)))
    (hns : ∀ l, ns = some l → l.length = n) {a b c : Nat} (ha : a < n) (hb : b < n) (hc : c < n) :
    ∃ s, storedNormal P ns a b c = some s := by
  cases ns with
  | none => exact ⟨_, rfl⟩
  | some l =>
    have hl := hns l rfl
    simp only [storedNormal, List.getElem?_eq_getElem (hl ▸ ha), List.getElem?_eq_getElem (hl ▸ hb),
      List.getElem?_eq_getElem (hl ▸ hc)]
    exact ⟨_, rfl⟩

theorem buildTris_spec_aux (P : Params α) (ps : List (P3 α)) (ns : Option (List (P3 α)))
    (hns : ∀ l, ns = some l → l.length = ps.length) :
    ∀ cs : List (Nat × Nat × Nat),
      (∀ t ∈ cs, t.1 < ps.length ∧ t.2.1 < ps.length ∧ t.2.2 < ps.length) →
      ∃ ts, buildTris P ps ns cs = .ok ts ∧ ts.length = cs.length ∧
        (corners P ts).map some = (flat cs).map (fun i => (ps[i]?).map (r32 P)) ∧
        some (cornerNormals P ts) = expectedNormals P ps ns cs ∧
        ts.any (fun t => !isZeroV t.n) = anyStored P ns cs
  | [], _ => ⟨[], rfl, rfl, rfl, rfl, rfl⟩
  | (a, b, c) :: r, h => by
    obtain ⟨ha, hb, hc⟩ := h (a, b, c) (by simp)
    obtain ⟨ts, e, hl, hc1, hc2, hc3⟩ := buildTris_spec_aux P ps ns hns r (fun t ht => h t (by simp [ht]))
    obtain ⟨s, es⟩ := storedNormal_some_aux P ps.length ns hns ha hb hc
    have ea : ps[a]? = some ps[a] := List.getElem?_eq_getElem ha
    have eb : ps[b]? = some ps[b] := List.getElem?_eq_getElem hb
    have ec : ps[c]? = some ps[c] := List.getElem?_eq_getElem hc
    refine ⟨⟨s, ps[a].map P.q32, ps[b].map P.q32, ps[c].map P.q32, 0⟩ :: ts, ?_, ?_, ?_, ?_, ?_⟩
    · simp [buildTris, ea, eb, ec, es, e]
    · simp [hl]
    · simp [corners, flat, ea, eb, ec, hc1, r32]
    · simp [cornerNormals, expectedNormals, ea, eb, ec, es, ← hc2, triNormal, r32]
    · simp [anyStored, es] at hc3 ⊢
      simp [hc3]

theorem storedNormal_quiet_aux (P : Params α) (hq : ∀ x, quiet (P.q32 x) = P.q32 x)
    (ns : Option (List (P3 α))) (a b c : Nat) (s : P3 W32) (h : storedNormal P ns a b c = some s) :
    quietV s = s := by
  unfold storedNormal at h
  split at h
  · cases h; decide
  · split at h
    · cases h; simp [quietV, P3.map, hq]
    · cases h

theorem buildTris_quiet_aux (P : Params α) (hq : ∀ x, quiet (P.q32 x) = P.q32 x) (ps : List (P3 α))
    (ns : Option (List (P3 α))) :
    ∀ (cs : List (Nat × Nat × Nat)) (ts : List Tri), buildTris P ps ns cs = .ok ts → ∀ t ∈ ts, quietTri t = t
  | [], ts, h => by
    simp only [buildTris, Except.ok.injEq] at h; subst h; intro t ht; cases ht
  | (a, b, c) :: r, ts, h => by
    unfold buildTris at h
    split at h
    · rename_i p1 p2 p3 n ts' e1 e2 e3 e4 e5
      cases h
      intro t ht
      rcases List.mem_cons.1 ht with rfl | ht
      · simp [quietTri, quietV, P3.map, hq]
        simpa [quietV] using storedNormal_quiet_aux P hq ns a b c n e4
      · exact buildTris_quiet_aux P hq ps ns r ts' e5 t ht
    · cases h

theorem stl_mesh_roundtrip [DecidableEq α] (P : Params α) (hq : ∀ x, quiet (P.q32 x) = P.q32 x)
    (m : Mesh α) (hwf : WF m) (hn : m.indices.length / 3 < 2 ^ 32) :
    ∃ bs r, writeMesh P m = .ok bs ∧ bs.length = 84 + 50 * (m.indices.length / 3) ∧
      readMesh P bs = .ok r ∧ RoundTrips P m r = true := by
  obtain ⟨h3, ps, hps, hidx, hns⟩ := hwf
  have hin : ∀ t ∈ chunks m.indices, t.1 < ps.length ∧ t.2.1 < ps.length ∧ t.2.2 < ps.length := by
    intro t ht
    obtain ⟨h1, h2, h3'⟩ := flat_mem_aux _ t ht
    rw [flat_chunks_aux _ h3] at h1 h2 h3'
    exact ⟨hidx _ h1, hidx _ h2, hidx _ h3'⟩
  obtain ⟨ts, e, hl, hc1, hc2, hc3⟩ := buildTris_spec_aux P ps m.nrm hns (chunks m.indices) hin
  rw [chunks_length_aux] at hl
  rw [flat_chunks_aux _ h3] at hc1
  have hw : writeMesh P m = .ok (encode zeroHeader ts) := by
    simp [writeMesh, writeTris, hps, e, Except.map]
  have hqt : ts.map quietTri = ts := map_eq_self_aux _ _ (buildTris_quiet_aux P hq ps m.nrm _ ts e)
  have hr : readMesh P (encode zeroHeader ts) = .ok (meshOfTris P ts) := by
    simp [readMesh, stl_roundtrip zeroHeader ts (by omega), Except.map, hqt]
  refine ⟨_, _, hw, by rw [stl_length, hl], hr, ?_⟩
  cases ts with
  | nil =>
    have h0 : m.indices.length / 3 = 0 := by simpa using hl.symm
    simp [RoundTrips, hps, meshOfTris, h0]
  | cons t ts' =>
    have hpos : m.indices.length / 3 ≠ 0 := by simp at hl; omega
    simp only [RoundTrips, hps, meshOfTris, hl, hc1, hc3, ← hc2]
    simp [hpos]

example : WF (⟨[0, 1, 2, 2, 1, 3], some [⟨0, 0, 0⟩, ⟨1, 0, 0⟩, ⟨0, 1, 0⟩, ⟨1, 1, 5⟩],
    some [⟨0, 0, 1⟩, ⟨0, 0, 1⟩, ⟨0, 0, 1⟩, ⟨0, 1, 0⟩]⟩ : Mesh Int) :=
  ⟨rfl, _, rfl, by decide, by intro ns h; cases h; rfl⟩

theorem stl_mesh_nopos (P : Params α) (m : Mesh α) (h : m.pos = none) :
    writeMesh P m = .ok (encode zeroHeader []) ∧ (encode zeroHeader []).length = 84 := by
  simp [writeMesh, writeTris, h, Except.map, stl_length]

theorem stl_mesh_oob (P : Params α) (m : Mesh α) (ps : List (P3 α)) (hp : m.pos = some ps)
    (a b c : Nat) (r : List Nat) (hi : m.indices = a :: b :: c :: r) (ha : ps.length ≤ a) :
    writeMesh P m = .error .panic := by
  have : ps[a]? = none := List.getElem?_eq_none ha
  simp [writeMesh, writeTris, hp, hi, chunks, buildTris, this, Except.map]

theorem stl_mesh_roundtrip_partial [DecidableEq α] (P : Params α) (hq : ∀ x, quiet (P.q32 x) = P.q32 x)
    (m : Mesh α) (hwf : WF m) (hn : m.indices.length / 3 < 2 ^ 32) :
    ∃ bs r, writeMesh P m = .ok bs ∧ bs.length = 84 + 50 * (m.indices.length / 3) ∧
      readMesh P bs = .ok r ∧ RoundTrips P m r = true := stl_mesh_roundtrip P hq m hwf hn

/-- the normal clause at full strength (as C07 states it): every read-back triangle has a facet normal,
    the stored one if non-zero, else the geometric one — also "when none are stored" -/
def C07_geometric_normal_full [DecidableEq α] (P : Params α) : Prop :=
  ∀ m : Mesh α, WF m → m.indices ≠ [] → m.indices.length / 3 < 2 ^ 32 →
    ∃ bs r, writeMesh P m = .ok bs ∧ readMesh P bs = .ok r ∧ FullNormals P m r = true

/-- a concrete precision bundle over `Nat` payloads (small values only: never a NaN pattern) -/
def natParams : Params Nat where
  q32 n := BitVec.ofNat 32 (n % 1000)
  up w := w.toNat
  avgNormal a _ _ := a
  flatNormal a _ _ := a

theorem natParams_hq : ∀ x, quiet (natParams.q32 x) = natParams.q32 x := by
  intro x
  have h : isNaN32 (BitVec.ofNat 32 (x % 1000)) = false := by
    simp only [isNaN32, BitVec.toNat_ofNat, decide_eq_false_iff_not]; omega
  simp [natParams, quiet, h]

/-- the hypothesis `hq` of `stl_mesh_roundtrip` is satisfiable -/
example : ∃ P : Params Nat, ∀ x, quiet (P.q32 x) = P.q32 x := ⟨natParams, natParams_hq⟩

/-- one triangle, no normal attribute -/
def noNormalsWitness : Mesh Nat := ⟨[0, 1, 2], some [⟨0, 0, 0⟩, ⟨1, 0, 0⟩, ⟨0, 1, 0⟩], none⟩

theorem noNormalsWitness_wf : WF noNormalsWitness := ⟨rfl, _, rfl, by decide, by intro ns h; cases h⟩

theorem stl_no_normals_witness :
    ∃ bs r, writeMesh natParams noNormalsWitness = .ok bs ∧ readMesh natParams bs = .ok r ∧
      RoundTrips natParams noNormalsWitness r = true ∧ r.nrm = none ∧
      FullNormals natParams noNormalsWitness r = false := by
  obtain ⟨bs, r, hw, _, hr, hrt⟩ := stl_mesh_roundtrip natParams natParams_hq noNormalsWitness noNormalsWitness_wf (by decide)
  have hany : anyStored natParams noNormalsWitness.nrm (chunks noNormalsWitness.indices) = false := by decide
  have hnone : r.nrm = none := by
    unfold RoundTrips at hrt
    simp only [noNormalsWitness] at hrt hany
    simp only [hany, Bool.and_eq_true] at hrt
    have := hrt.2
    simpa using this
  refine ⟨bs, r, hw, hr, hrt, hnone, ?_⟩
  simp [FullNormals, noNormalsWitness, hnone]

theorem stl_geometric_normal_counterexample : ¬ C07_geometric_normal_full natParams := by
  intro h
  obtain ⟨bs, r, hw, hr, hf⟩ := h noNormalsWitness noNormalsWitness_wf (by decide) (by decide)
  obtain ⟨bs', r', hw', hr', _, _, hf'⟩ := stl_no_normals_witness
  rw [hw] at hw'; cases hw'
  rw [hr] at hr'; cases hr'
  rw [hf] at hf'; cases hf'

end mesh

/-! ### NaN normals (what becomes of a facet normal whose mean is 0/0) -/

theorem isZero32_of_nan_aux (w : W32) (h : isNaN32 w = true) : isZero32 w = false := by
  have h' : 0x7f800000 < w.toNat % 0x80000000 := by simpa [isNaN32] using h
  have hm : (w &&& 0x7fffffff#32).toNat = w.toNat % 0x80000000 := by
    rw [BitVec.toNat_and]
    exact Nat.and_two_pow_sub_one_eq_mod w.toNat 31
  unfold isZero32
  apply Bool.eq_false_iff.mpr
  intro e
  have : w &&& 0x7fffffff#32 = 0#32 := by simpa using e
  rw [this] at hm
  simp at hm
  omega

/-- a stored facet normal with a NaN component is not "zero": `ReadMesh` keeps it (widened) instead of
    falling back to the geometric normal — this is what happens to the NaN that `WriteMesh` stores when the
    corner normals cancel (0/0) -/
theorem nan_normal_kept {α : Type} (P : Params α) (t : Tri)
    (h : isNaN32 t.n.x = true ∨ isNaN32 t.n.y = true ∨ isNaN32 t.n.z = true) : triNormal P t = t.n.map P.up := by
  have : isZeroV t.n = false := by
    unfold isZeroV
    rcases h with h | h | h <;> simp [isZero32_of_nan_aux _ h]
  simp [triNormal, this]

section resave
variable {α : Type}

def triplesFrom : Nat → Nat → List (Nat × Nat × Nat)
  | _, 0 => []
  | o, n + 1 => (o, o + 1, o + 2) :: triplesFrom (o + 3) n

theorem chunks_range'_aux : ∀ (n o : Nat), chunks (List.range' o (3 * n)) = triplesFrom o n
  | 0, _ => rfl
  | n + 1, o => by
    have e : 3 * (n + 1) = (3 * n + 2) + 1 := by omega
    have e1 : 3 * n + 2 = (3 * n + 1) + 1 := by omega
    rw [e, List.range'_succ, e1, List.range'_succ, List.range'_succ]
    simp only [chunks, triplesFrom]
    have := chunks_range'_aux n (o + 3)
    simp only [Nat.add_assoc] at this ⊢
    rw [this]

theorem getElem?_after_aux {β : Type} (A : List β) (x y z : β) (rest : List β) :
    (A ++ x :: y :: z :: rest)[A.length]? = some x ∧ (A ++ x :: y :: z :: rest)[A.length + 1]? = some y ∧
    (A ++ x :: y :: z :: rest)[A.length + 2]? = some z := by
  refine ⟨by simp, ?_, ?_⟩
  · rw [List.getElem?_append_right (by omega)]; simp
  · rw [List.getElem?_append_right (by omega)]; simp

theorem buildTris_resave_aux (P : Params α) (keep : Bool) : ∀ (ts : List Tri) (A B : List (P3 α)),
    A.length = B.length →
    buildTris P (A ++ corners P ts) (if keep then some (B ++ cornerNormals P ts) else none)
      (triplesFrom A.length ts.length) = .ok (ts.map (resaveTri P keep))
  | [], _, _, _ => by simp [triplesFrom, buildTris]
  | t :: ts, A, B, hl => by
    obtain ⟨a1, a2, a3⟩ := getElem?_after_aux A (t.v1.map P.up) (t.v2.map P.up) (t.v3.map P.up) (corners P ts)
    obtain ⟨b1, b2, b3⟩ := getElem?_after_aux B (triNormal P t) (triNormal P t) (triNormal P t) (cornerNormals P ts)
    have ih := buildTris_resave_aux P keep ts (A ++ [t.v1.map P.up, t.v2.map P.up, t.v3.map P.up])
      (B ++ [triNormal P t, triNormal P t, triNormal P t]) (by simp [hl])
    have eA : (A ++ [t.v1.map P.up, t.v2.map P.up, t.v3.map P.up]) ++ corners P ts = A ++ corners P (t :: ts) := by
      simp [corners]
    have eB : (B ++ [triNormal P t, triNormal P t, triNormal P t]) ++ cornerNormals P ts = B ++ cornerNormals P (t :: ts) := by
      simp [cornerNormals]
    have eL : (A ++ [t.v1.map P.up, t.v2.map P.up, t.v3.map P.up]).length = A.length + 3 := by simp
    rw [eA, eB, eL] at ih
    have hsn : storedNormal P (if keep then some (B ++ cornerNormals P (t :: ts)) else none) A.length (A.length + 1) (A.length + 2)
        = some (if keep then (P.avgNormal (triNormal P t) (triNormal P t) (triNormal P t)).map P.q32 else zeroV) := by
      cases keep with
      | false => simp [storedNormal]
      | true =>
        have c1 : (B ++ cornerNormals P (t :: ts))[A.length]? = some (triNormal P t) := by rw [hl]; exact b1
        have c2 : (B ++ cornerNormals P (t :: ts))[A.length + 1]? = some (triNormal P t) := by rw [hl]; exact b2
        have c3 : (B ++ cornerNormals P (t :: ts))[A.length + 2]? = some (triNormal P t) := by rw [hl]; exact b3
        simp only [↓reduceIte, storedNormal, c1, c2, c3]
    have d1 : (A ++ corners P (t :: ts))[A.length]? = some (t.v1.map P.up) := a1
    have d2 : (A ++ corners P (t :: ts))[A.length + 1]? = some (t.v2.map P.up) := a2
    have d3 : (A ++ corners P (t :: ts))[A.length + 2]? = some (t.v3.map P.up) := a3
    simp only [List.length_cons, triplesFrom, buildTris, d1, d2, d3, hsn, ih]
    simp [resaveTri]

theorem stl_mesh_resave (P : Params α) {bs : List Byte} {h : Header} {ts : List Tri}
    (hd : decode bs = .ok (h, ts)) : resaveMesh P bs = .ok (encode zeroHeader (resaveTris P ts)) := by
  unfold resaveMesh readMesh
  rw [hd]
  simp only [Except.map]
  cases ts with
  | nil => simp [meshOfTris, writeMesh, writeTris, resaveTris, Except.map]
  | cons t ts' =>
    have hb := buildTris_resave_aux P ((t :: ts').any fun t => !isZeroV t.n) (t :: ts') [] [] rfl
    simp only [List.nil_append, List.length_nil] at hb
    have hc : chunks (List.range (3 * (t :: ts').length)) = triplesFrom 0 (t :: ts').length := by
      rw [List.range_eq_range']; exact chunks_range'_aux _ 0
    simp only [meshOfTris, writeMesh, writeTris, hc, resaveTris]
    cases hk : ((t :: ts').any fun t => !isZeroV t.n) with
    | false => simp only [hk, Bool.false_eq_true, ↓reduceIte] at hb ⊢; rw [hb]; rfl
    | true => simp only [hk, ↓reduceIte] at hb ⊢; rw [hb]; rfl

theorem stl_mesh_resave_positions (P : Params α) (ts : List Tri)
    (hid : ∀ t ∈ ts, (t.v1.map P.up).map P.q32 = t.v1 ∧ (t.v2.map P.up).map P.q32 = t.v2 ∧ (t.v3.map P.up).map P.q32 = t.v3) :
    (resaveTris P ts).map (fun t => (t.v1, t.v2, t.v3)) = ts.map (fun t => (t.v1, t.v2, t.v3)) := by
  unfold resaveTris
  rw [List.map_map]
  apply List.map_congr_left
  intro t ht
  obtain ⟨h1, h2, h3⟩ := hid t ht
  simp [resaveTri, h1, h2, h3]

theorem stl_mesh_resave_attr (P : Params α) (ts : List Tri) : ∀ t ∈ resaveTris P ts, t.attr = 0 := by
  intro t ht
  unfold resaveTris at ht
  obtain ⟨t0, _, rfl⟩ := List.mem_map.1 ht
  rfl

end resave

end StlL
end PolyVerif
