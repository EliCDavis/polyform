/-
  Real-number facts about the vector library and the regenerated `geometry.AABB` code (`Gen/Transform.lean`) that both
  the transform algebra (C17) and the spatial indices (C16) rest on.  The AABB facts are coordinatewise: the
  one-dimensional fact is stated about reals and applied along an axis `k` that stays a variable (`co v k`, `aabb_mem`).
-/
import PolyVerif.Gen.Transform
import PolyVerif.Lemmas.RealVec
import Mathlib.Tactic

namespace PolyVerif
namespace C17
open Gen Gen.geometry

/-- the axis `FromTheta` rotates about is a unit vector -/
theorem normalized_dot_self (k : V3 ℝ) (hk : k.Dot k ≠ 0) : k.Normalized.Dot k.Normalized = 1 := V3.normalized_dot_self k hk

theorem distanceSquared_comm (a b : V3 ℝ) : a.DistanceSquared b = b.DistanceSquared a := by
  simp only [V3.DistanceSquared]; ring

theorem aabb_setMinMax_min (b : AABB ℝ) (mn mx : V3 ℝ) : (b.SetMinMax mn mx).Min = mn := by
  ext <;> simp only [AABB.SetMinMax, AABB.Min, V3.Sub, V3.Add, V3.Scale] <;> ring

theorem aabb_setMinMax_max (b : AABB ℝ) (mn mx : V3 ℝ) : (b.SetMinMax mn mx).Max = mx := by
  ext <;> simp only [AABB.SetMinMax, AABB.Max, V3.Sub, V3.Add, V3.Scale, RS.lit_eq] <;> push_cast <;> ring

/-- one early `return false` of a chain of tests -/
theorem ite_false_iff {c b : Bool} : (if c = true then false else b) = true ↔ c = false ∧ b = true := by
  cases c <;> simp

theorem aabb_contains_iff (b : AABB ℝ) (p : V3 ℝ) :
    b.Contains p = true ↔ (b.Min.x ≤ p.x ∧ b.Min.y ≤ p.y ∧ b.Min.z ≤ p.z ∧ p.x ≤ b.Max.x ∧ p.y ≤ b.Max.y ∧ p.z ≤ b.Max.z) := by
  -- `V3.X` is unfolded by `Iff.rfl` only: rewriting it first would leave it inside the `Decidable` instances
  simp only [AABB.Contains, ite_false_iff, decide_eq_false_iff_not, not_lt, and_true]
  exact Iff.rfl

inductive Axis | x | y | z

/-- the coordinate of a vector along an axis -/
def co (v : V3 ℝ) : Axis → ℝ
  | .x => v.x
  | .y => v.y
  | .z => v.z

theorem Axis.forall {P : Axis → Prop} : (∀ k, P k) ↔ P .x ∧ P .y ∧ P .z :=
  ⟨fun h => ⟨h .x, h .y, h .z⟩, fun h k => by cases k; exacts [h.1, h.2.1, h.2.2]⟩

theorem co_ext {a b : V3 ℝ} (h : ∀ k, co a k = co b k) : a = b := V3.ext (h .x) (h .y) (h .z)

theorem co_add (a b : V3 ℝ) (k : Axis) : co (a.Add b) k = co a k + co b k := by cases k <;> rfl
theorem co_sub (a b : V3 ℝ) (k : Axis) : co (a.Sub b) k = co a k - co b k := by cases k <;> rfl
theorem co_scale (a : V3 ℝ) (t : ℝ) (k : Axis) : co (a.Scale t) k = co a k * t := by cases k <;> rfl
theorem co_minVector (a b : V3 ℝ) (k : Axis) : co (minVector a b) k = min (co a k) (co b k) := by cases k <;> rfl
theorem co_maxVector (a b : V3 ℝ) (k : Axis) : co (maxVector a b) k = max (co a k) (co b k) := by cases k <;> rfl
theorem co_closestPoint (b : AABB ℝ) (v : V3 ℝ) (k : Axis) :
    co (b.ClosestPoint v) k = clamp (co v k) (co b.Min k) (co b.Max k) := by cases k <;> rfl

/-- a box is the product of the three intervals `[Min, Max]` -/
theorem aabb_mem (b : AABB ℝ) (p : V3 ℝ) : b.Contains p = true ↔ ∀ k, co b.Min k ≤ co p k ∧ co p k ≤ co b.Max k := by
  rw [aabb_contains_iff, Axis.forall]
  exact ⟨fun ⟨a, b, c, d, e, f⟩ => ⟨⟨a, d⟩, ⟨b, e⟩, ⟨c, f⟩⟩, fun ⟨⟨a, d⟩, ⟨b, e⟩, ⟨c, f⟩⟩ => ⟨a, b, c, d, e, f⟩⟩

/-- `NewAABBFromPoints` and its unrolled forms end with `NewAABB(area/2 + min, area)`, `area = max - min`: a box with
    corners `min`, `max` -/
theorem newAABB_corners (mn mx : V3 ℝ) :
    (NewAABB (((mx.Sub mn).Scale (Scalar.lit 1 2)).Add mn) (mx.Sub mn)).Min = mn ∧
    (NewAABB (((mx.Sub mn).Scale (Scalar.lit 1 2)).Add mn) (mx.Sub mn)).Max = mx := by
  constructor <;> ext <;> simp only [NewAABB, AABB.Min, AABB.Max, V3.Sub, V3.Add, V3.Scale, RS.lit_eq] <;> push_cast <;> ring

theorem aabb_encapsulatePoint_mem (b : AABB ℝ) (p q : V3 ℝ) : (b.EncapsulatePoint p).Contains q = true ↔
    ∀ k, min (co b.Min k) (co p k) ≤ co q k ∧ co q k ≤ max (co b.Max k) (co p k) := by
  simp only [aabb_mem, AABB.EncapsulatePoint, aabb_setMinMax_min, aabb_setMinMax_max, co_minVector, co_maxVector]

theorem aabb_encapsulatePoint_mono (b : AABB ℝ) (p q : V3 ℝ) (h : b.Contains q = true) :
    (b.EncapsulatePoint p).Contains q = true := by
  rw [aabb_mem] at h
  exact (aabb_encapsulatePoint_mem b p q).mpr fun k => ⟨(min_le_left _ _).trans (h k).1, (h k).2.trans (le_max_left _ _)⟩

theorem aabb_contains_of_corners {a b : AABB ℝ} (h1 : b.Contains a.Min = true) (h2 : b.Contains a.Max = true)
    (v : V3 ℝ) (hv : a.Contains v = true) : b.Contains v = true := by
  rw [aabb_mem] at *
  exact fun k => ⟨(h1 k).1.trans (hv k).1, (hv k).2.trans (h2 k).2⟩

theorem sub_le_add_of_le {x y e : ℝ} (h : x ≤ y) (he : 0 ≤ e) : x - e ≤ y + e :=
  (sub_le_self x he).trans (h.trans (le_add_of_nonneg_right he))

theorem aabb_contains_corners_of_le (b : AABB ℝ) (h : ∀ k, co b.Min k ≤ co b.Max k) :
    b.Contains b.Min = true ∧ b.Contains b.Max = true :=
  ⟨(aabb_mem _ _).mpr fun k => ⟨le_rfl, h k⟩, (aabb_mem _ _).mpr fun k => ⟨h k, le_rfl⟩⟩

theorem aabb_contains_corners (b : AABB ℝ) (hx : 0 ≤ b.extents.x) (hy : 0 ≤ b.extents.y) (hz : 0 ≤ b.extents.z) :
    b.Contains b.Min = true ∧ b.Contains b.Max = true :=
  aabb_contains_corners_of_le b <|
    Axis.forall.mpr ⟨sub_le_add_of_le le_rfl hx, sub_le_add_of_le le_rfl hy, sub_le_add_of_le le_rfl hz⟩

theorem clamp_between (p lo hi l u : ℝ) (h1 : l ≤ lo) (h2 : l ≤ hi) (h3 : hi ≤ u) :
    l ≤ clamp p lo hi ∧ clamp p lo hi ≤ u :=
  ⟨le_min (h1.trans (le_max_right _ _)) h2, (min_le_right _ _).trans h3⟩

theorem clamp_of_mem (p lo hi : ℝ) (h1 : lo ≤ p) (h2 : p ≤ hi) : clamp p lo hi = p := by
  rw [clamp, max_eq_left h1, min_eq_left h2]

theorem clamp_nearest (p lo hi y : ℝ) (h1 : lo ≤ y) (h2 : y ≤ hi) :
    (p - clamp p lo hi) * (p - clamp p lo hi) ≤ (p - y) * (p - y) := by
  apply abs_le_iff_mul_self_le.mp
  rcases le_total p lo with hp | hp
  · rw [clamp, max_eq_right hp, min_eq_left (h1.trans h2)]
    exact abs_le_abs_of_nonpos (sub_nonpos.mpr hp) (sub_le_sub_left h1 p)
  · rcases le_total p hi with hq | hq
    · rw [clamp_of_mem p lo hi hp hq, sub_self, abs_zero]; exact abs_nonneg _
    · rw [clamp, max_eq_left hp, min_eq_right hq]
      exact abs_le_abs_of_nonneg (sub_nonneg.mpr hq) (sub_le_sub_left h2 p)

theorem aabb_closestPoint_mem {a b : AABB ℝ} (h1 : b.Contains a.Min = true) (h2 : b.Contains a.Max = true) (p : V3 ℝ) :
    b.Contains (a.ClosestPoint p) = true := by
  rw [aabb_mem] at *
  exact fun k => co_closestPoint .. ▸ clamp_between _ _ _ _ _ (h1 k).1 (h2 k).1 (h2 k).2

theorem aabb_closestPoint_coords (b : AABB ℝ) (v : V3 ℝ) :
    b.ClosestPoint v = ⟨clamp v.x b.Min.x b.Max.x, clamp v.y b.Min.y b.Max.y, clamp v.z b.Min.z b.Max.z⟩ := rfl

theorem aabb_closestPoint_minimises_sq (b : AABB ℝ) (v q : V3 ℝ) (hq : b.Contains q = true) :
    (b.ClosestPoint v).DistanceSquared v ≤ q.DistanceSquared v := by
  rw [aabb_contains_iff] at hq
  obtain ⟨h1, h2, h3, h4, h5, h6⟩ := hq
  exact add_le_add (add_le_add (clamp_nearest v.x _ _ q.x h1 h4) (clamp_nearest v.y _ _ q.y h2 h5))
    (clamp_nearest v.z _ _ q.z h3 h6)

theorem convex_between (α β γ x y z q : ℝ) (ha : 0 ≤ α) (hb : 0 ≤ β) (hc : 0 ≤ γ) (hs : 0 < α + β + γ)
    (h : α * (x - q) + β * (y - q) + γ * (z - q) = 0) :
    min z (min y x) ≤ q ∧ q ≤ max z (max y x) := by
  have m1 : min z (min y x) ≤ x := (min_le_right _ _).trans (min_le_right _ _)
  have m2 : min z (min y x) ≤ y := (min_le_right _ _).trans (min_le_left _ _)
  have m3 : min z (min y x) ≤ z := min_le_left _ _
  have M1 : x ≤ max z (max y x) := (le_max_right _ _).trans (le_max_right _ _)
  have M2 : y ≤ max z (max y x) := (le_max_left _ _).trans (le_max_right _ _)
  have M3 : z ≤ max z (max y x) := le_max_left _ _
  constructor <;> refine le_of_mul_le_mul_left ?_ hs
  · linarith [mul_le_mul_of_nonneg_left m1 ha, mul_le_mul_of_nonneg_left m2 hb, mul_le_mul_of_nonneg_left m3 hc]
  · linarith [mul_le_mul_of_nonneg_left M1 ha, mul_le_mul_of_nonneg_left M2 hb, mul_le_mul_of_nonneg_left M3 hc]

theorem between_of_param (x y t : ℝ) (h0 : 0 ≤ t) (h1 : t ≤ 1) : min y x ≤ x + (y - x) * t ∧ x + (y - x) * t ≤ max y x := by
  have h1' : 0 ≤ 1 - t := sub_nonneg.mpr h1
  rw [show x + (y - x) * t = (1 - t) * x + t * y by ring]
  constructor
  · calc min y x = (1 - t) * min y x + t * min y x := by ring
      _ ≤ _ := add_le_add (mul_le_mul_of_nonneg_left (min_le_right _ _) h1') (mul_le_mul_of_nonneg_left (min_le_left _ _) h0)
  · calc (1 - t) * x + t * y ≤ (1 - t) * max y x + t * max y x :=
          add_le_add (mul_le_mul_of_nonneg_left (le_max_right _ _) h1') (mul_le_mul_of_nonneg_left (le_max_left _ _) h0)
      _ = max y x := by ring

theorem abs_le_of_mul_self_le {d r : ℝ} (hr : 0 ≤ r) (h : d * d ≤ r * r) : -r ≤ d ∧ d ≤ r :=
  abs_le.mp (abs_of_nonneg hr ▸ abs_le_iff_mul_self_le.mpr h)

end C17

namespace Tree
open Gen.geometry

theorem aabb_encapsulatePoint_contains (b : AABB ℝ) (p : V3 ℝ) :
    (b.EncapsulatePoint p).Contains p = true :=
  (C17.aabb_encapsulatePoint_mem b p p).mpr fun _ => ⟨min_le_right _ _, le_max_right _ _⟩

theorem aabb_closestPoint_in_box (b : AABB ℝ) (v : V3 ℝ)
    (hx : 0 ≤ b.extents.x) (hy : 0 ≤ b.extents.y) (hz : 0 ≤ b.extents.z) :
    b.Contains (b.ClosestPoint v) = true :=
  C17.aabb_closestPoint_mem (C17.aabb_contains_corners b hx hy hz).1 (C17.aabb_contains_corners b hx hy hz).2 v

end Tree
end PolyVerif
