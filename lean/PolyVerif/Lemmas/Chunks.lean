/-
  Records of one size laid end to end: the length of the concatenation, where record `i` starts, and reading
  all of them back by offset.  Every binary format of the development has this shape (glTF accessors and GLB words,
  `.splat` records, SPZ planar arrays, STL triangles, PLY list payloads), each with its own reader; the facts here are
  about `flatMap`/`flatten`/`drop`/`take` only and hold for any element type.  Core Lean only.
-/
namespace PolyVerif
namespace Chunks
variable {α β γ : Type}

theorem length_flatMap_const (enc : α → List β) (m : Nat) (xs : List α) (h : ∀ x ∈ xs, (enc x).length = m) :
    (xs.flatMap enc).length = xs.length * m := by
  induction xs with
  | nil => rw [List.flatMap_nil, List.length_nil, List.length_nil, Nat.zero_mul]
  | cons x xs ih =>
    rw [List.flatMap_cons, List.length_append, h x List.mem_cons_self,
      ih fun y hy => h y (List.mem_cons_of_mem _ hy), List.length_cons, Nat.succ_mul, Nat.add_comm]

theorem length_flatten_const (m : Nat) (L : List (List β)) (h : ∀ r ∈ L, r.length = m) :
    L.flatten.length = L.length * m := by
  rw [← List.flatMap_id]; exact length_flatMap_const id m L h

theorem map_length_const (m : Nat) (L : List (List β)) (h : ∀ r ∈ L, r.length = m) :
    L.map List.length = List.replicate L.length m :=
  List.map_eq_replicate_iff.mpr h

/-- record boundary `i` of `m`-sized records followed by `rest`: what is left is records `i, i+1, …` and `rest` -/
theorem drop_flatMap (enc : α → List β) (m : Nat) (rest : List β) :
    ∀ (xs : List α), (∀ x ∈ xs, (enc x).length = m) → ∀ i, i ≤ xs.length →
      (xs.flatMap enc ++ rest).drop (i * m) = (xs.drop i).flatMap enc ++ rest
  | _, _, 0, _ => by rw [Nat.zero_mul, List.drop_zero, List.drop_zero]
  | [], _, i + 1, hi => absurd hi (Nat.not_succ_le_zero i)
  | x :: xs, h, i + 1, hi => by
    rw [List.flatMap_cons, List.append_assoc, Nat.succ_mul, Nat.add_comm, ← List.drop_drop,
      List.drop_left' (h x List.mem_cons_self), List.drop_succ_cons]
    exact drop_flatMap enc m rest xs (fun y hy => h y (List.mem_cons_of_mem _ hy)) i (Nat.le_of_succ_le_succ hi)

theorem drop_flatMap_all (enc : α → List β) (m : Nat) (rest : List β) (xs : List α)
    (h : ∀ x ∈ xs, (enc x).length = m) : (xs.flatMap enc ++ rest).drop (xs.length * m) = rest := by
  rw [drop_flatMap enc m rest xs h _ (Nat.le_refl _), List.drop_length, List.flatMap_nil, List.nil_append]

/-- at offset `i * m` stands record `i`, then the later records -/
theorem drop_flatMap_get (enc : α → List β) (m : Nat) (rest : List β) (xs : List α)
    (h : ∀ x ∈ xs, (enc x).length = m) (i : Nat) (hi : i < xs.length) :
    (xs.flatMap enc ++ rest).drop (i * m) = enc xs[i] ++ ((xs.drop (i + 1)).flatMap enc ++ rest) := by
  rw [drop_flatMap enc m rest xs h i (Nat.le_of_lt hi), List.drop_eq_getElem_cons hi, List.flatMap_cons,
    List.append_assoc]

theorem chunk_flatMap (enc : α → List β) (m : Nat) (rest : List β) (xs : List α)
    (h : ∀ x ∈ xs, (enc x).length = m) (i : Nat) (hi : i < xs.length) :
    ((xs.flatMap enc ++ rest).drop (i * m)).take m = enc xs[i] := by
  rw [drop_flatMap_get enc m rest xs h i hi, List.take_left' (h _ (List.getElem_mem hi))]

/-- element `c` of record `i` -/
theorem getElem?_flatMap (enc : α → List β) (m : Nat) (xs : List α) (h : ∀ x ∈ xs, (enc x).length = m)
    (i : Nat) (hi : i < xs.length) (c : Nat) (hc : c < m) :
    (xs.flatMap enc)[i * m + c]? = (enc xs[i])[c]? := by
  have := drop_flatMap_get enc m [] xs h i hi
  rw [List.append_nil] at this
  rw [← List.getElem?_drop, this, List.append_nil,
    List.getElem?_append_left (by rw [h _ (List.getElem_mem hi)]; exact hc)]

/-- a reader that needs only the head of its input, run at every record boundary -/
theorem mapM_range_chunks (enc : α → List β) (m : Nat) (rest : List β) (xs : List α)
    (h : ∀ x ∈ xs, (enc x).length = m) (rd : List β → Option γ) (dec : α → γ)
    (hrd : ∀ x ∈ xs, ∀ tail, rd (enc x ++ tail) = some (dec x)) :
    (List.range xs.length).mapM (fun i => rd ((xs.flatMap enc ++ rest).drop (i * m))) = some (xs.map dec) := by
  induction xs with
  | nil => rfl
  | cons x xs ih =>
    have hd : ∀ i, ((x :: xs).flatMap enc ++ rest).drop ((i + 1) * m) = (xs.flatMap enc ++ rest).drop (i * m) := fun i => by
      rw [List.flatMap_cons, List.append_assoc, Nat.succ_mul, Nat.add_comm, ← List.drop_drop,
        List.drop_left' (h x List.mem_cons_self)]
    have h0 : rd (((x :: xs).flatMap enc ++ rest).drop (0 * m)) = some (dec x) := by
      rw [Nat.zero_mul, List.drop_zero, List.flatMap_cons, List.append_assoc]; exact hrd x List.mem_cons_self _
    simp only [List.length_cons, List.range_succ_eq_map, List.mapM_cons, List.mapM_map, Function.comp_def, h0, hd,
      ih (fun y hy => h y (List.mem_cons_of_mem _ hy)) (fun y hy => hrd y (List.mem_cons_of_mem _ hy)), List.map_cons]
    rfl

end Chunks
end PolyVerif
