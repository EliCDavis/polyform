/-
  C09 — balance of a list of directed edges (every edge as often as its reverse), and a decision procedure for it that the
  kernel can afford: cancel each edge against one occurrence of its reverse (about a quarter of the comparisons of the
  count-based `March.balancedB`).  Core Lean only.
-/
import PolyVerif.Model.March

namespace PolyVerif
namespace C09
open PolyVerif.March

/-- every directed edge occurs exactly as often as its reverse -/
def Balanced {V : Type} [DecidableEq V] (L : List (V × V)) : Prop := ∀ u v, L.count (u, v) = L.count (v, u)

/-- cancel the first edge against one occurrence of its reverse, and so on (`n` = fuel, the length suffices) -/
def cancels {V : Type} [DecidableEq V] : Nat → List (V × V) → Bool
  | _, [] => true
  | 0, _ :: _ => false
  | n + 1, e :: L => if e.1 = e.2 then cancels n L else L.contains (swapE e) && cancels n (L.erase (swapE e))

variable {V : Type} [DecidableEq V]

theorem count_map_swap_aux (L : List (V × V)) (u v : V) : (L.map swapE).count (u, v) = L.count (v, u) := by
  induction L with
  | nil => rfl
  | cons x L ih =>
    have : (swapE x = (u, v)) ↔ (x = (v, u)) := by cases x; simp [swapE, and_comm]
    simp only [List.map_cons, List.count_cons, ih, beq_iff_eq, this]

theorem balanced_iff_perm (L : List (V × V)) : Balanced L ↔ L.Perm (L.map swapE) := by
  rw [List.perm_iff_count]
  exact ⟨fun h e => by rw [count_map_swap_aux]; exact h e.1 e.2, fun h u v => by rw [h, count_map_swap_aux]⟩

theorem balancedB_sound_aux (L : List (V × V)) (h : balancedB L = true) : Balanced L := by
  intro u v
  unfold balancedB at h
  rw [List.all_eq_true] at h
  by_cases h1 : (u, v) ∈ L
  · simpa using h _ h1
  · by_cases h2 : (v, u) ∈ L
    · have := h _ h2; simp at this; exact this.symm
    · rw [List.count_eq_zero_of_not_mem h1, List.count_eq_zero_of_not_mem h2]

theorem balancedB_of_balanced {L : List (V × V)} (h : Balanced L) : balancedB L = true := by
  unfold balancedB; rw [List.all_eq_true]; intro e _; simpa using h e.1 e.2

theorem cancels_sound : ∀ (n : Nat) (L : List (V × V)), cancels n L = true → Balanced L := by
  intro n
  induction n with
  | zero => intro L h; cases L with
    | nil => intro u v; rfl
    | cons e L => simp [cancels] at h
  | succ n ih =>
    intro L h
    cases L with
    | nil => intro u v; rfl
    | cons e L =>
      rw [balanced_iff_perm]
      by_cases he : e.1 = e.2
      · -- a loop is its own reverse
        rw [cancels, if_pos he] at h
        have : swapE e = e := by cases e; simp only [swapE] at he ⊢; rw [he]
        rw [List.map_cons, this]
        exact ((balanced_iff_perm L).mp (ih L h)).cons e
      · rw [cancels, if_neg he, Bool.and_eq_true, List.contains_iff_mem] at h
        -- `e :: L ~ e :: swapE e :: L'`, and the reverse of that is `swapE e :: e :: reverse of L'`
        have hL := List.perm_cons_erase h.1
        have hL' := (balanced_iff_perm _).mp (ih _ h.2)
        have hs : swapE (swapE e) = e := by cases e; rfl
        refine (hL.cons e).trans (.trans ?_ ((hL.cons e).map swapE).symm)
        rw [List.map_cons, List.map_cons, hs]
        exact (List.Perm.swap _ _ _).trans ((hL'.cons e).cons (swapE e))

end C09
end PolyVerif
