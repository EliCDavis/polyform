/-
  One coordinate of the ray that starts at the clamp of a point into a box (the clamp of `x` into `[-h, h]`) and runs
  through the point: the real-number lemmas behind `C19.box_ray` (Props/C19Exact.lean).
-/
import Mathlib.Tactic
import Mathlib.Analysis.SpecialFunctions.Sqrt

namespace PolyVerif
namespace SdfExact

/-- clamp of `x` into `[-h, h]` (same expression as `boxClamp` uses) -/
noncomputable def clampH (x h : ℝ) : ℝ := max (-h) (min x h)

/-- the point at parameter `t` of the ray from the clamp of `x` through `x` (`t = 0`: the clamp, `t = 1`: `x`) -/
noncomputable def rayH (x h t : ℝ) : ℝ := clampH x h + t * (x - clampH x h)

section
variable {x h t S : ℝ}

theorem rayH_zero (x h : ℝ) : rayH x h 0 = clampH x h := by
  rw [rayH, zero_mul, add_zero]

theorem clampH_of_le (hx : |x| - h ≤ 0) : clampH x h = x := by
  have h1 : |x| ≤ h := by linarith
  obtain ⟨h2, h3⟩ := abs_le.mp h1
  unfold clampH; rw [min_eq_left h3, max_eq_right h2]

theorem rayH_of_le (t : ℝ) (hx : |x| - h ≤ 0) : rayH x h t = x := by
  unfold rayH; rw [clampH_of_le hx]; ring

/-- a coordinate outside the slab: its excess over `h` is scaled by `t` -/
theorem rayH_of_ge (hh : 0 ≤ h) (ht : 0 ≤ t) (hx : 0 ≤ |x| - h) :
    |rayH x h t| - h = t * (|x| - h) := by
  unfold rayH clampH
  rcases le_total 0 x with h0 | h0
  · rw [abs_of_nonneg h0] at hx ⊢
    rw [min_eq_right (by linarith), max_eq_right (by linarith)]
    rw [abs_of_nonneg (by nlinarith)]; ring
  · rw [abs_of_nonpos h0] at hx ⊢
    rw [min_eq_left (by linarith), max_eq_left (by linarith)]
    rw [abs_of_nonpos (by nlinarith)]; ring

/-- positive part of the excess is scaled by `t` -/
theorem rayH_pos (hh : 0 ≤ h) (ht : 0 ≤ t) :
    max (|rayH x h t| - h) 0 = t * max (|x| - h) 0 := by
  rcases le_total (|x| - h) 0 with hx | hx
  · rw [rayH_of_le t hx, max_eq_right hx]; simp
  · rw [rayH_of_ge hh ht hx, max_eq_left hx, max_eq_left (mul_nonneg ht hx)]

theorem rayH_dist (t : ℝ) (hh : 0 ≤ h) : (x - rayH x h t) ^ 2 = ((1 - t) * max (|x| - h) 0) ^ 2 := by
  have e : x - rayH x h t = (1 - t) * (x - clampH x h) := by unfold rayH; ring
  have c : |x - clampH x h| = max (|x| - h) 0 := by
    unfold clampH
    rcases le_total x (-h) with h1 | h1
    · rw [min_eq_left (by linarith), max_eq_left h1, abs_of_nonpos (by linarith), abs_of_nonpos (by linarith),
        max_eq_left (by linarith)]; ring
    · rcases le_total x h with h2 | h2
      · rw [min_eq_left h2, max_eq_right h1, sub_self, abs_zero, max_eq_right]
        rw [sub_nonpos, abs_le]; exact ⟨h1, h2⟩
      · rw [min_eq_right h2, max_eq_right (by linarith), abs_of_nonneg (by linarith), abs_of_nonneg (by linarith),
          max_eq_left (by linarith)]
  rw [e, mul_pow, mul_pow, ← c, sq_abs]

theorem sqrt_scale (ht : 0 ≤ t) : Real.sqrt (t ^ 2 * S) = t * Real.sqrt S := by
  rw [Real.sqrt_mul (sq_nonneg t), Real.sqrt_sq ht]

theorem sqrt_scale_abs (t S : ℝ) : Real.sqrt (t ^ 2 * S) = |t| * Real.sqrt S := by
  rw [Real.sqrt_mul (sq_nonneg t), Real.sqrt_sq_eq_abs]

end

end SdfExact
end PolyVerif
