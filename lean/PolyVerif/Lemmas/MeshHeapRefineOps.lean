/-
  C01 refine, part 2: `apply_pure` — every operation class refines its pure meaning — and `preserved_bounded`, through which
  `apply_all` says that it keeps the bounds invariant.
-/
import PolyVerif.Lemmas.MeshHeapRefine

namespace PolyVerif
namespace MeshHeap

variable {κ α : Type}

theorem obsMap_kind (h : Heap κ α) (r : MeshRep) (kind : Nat) :
    obsMap h ((r.maps[kind]?).getD none) = (((obs h r).attrs)[kind]?).getD [] := by
  rw [obs_attrs, List.getElem?_map]
  cases r.maps[kind]? <;> rfl

theorem obs_setKind (h : Heap κ α) (r : MeshRep) (kind id : Nat) :
    (r.maps.set kind (some id)).map (obsMap h) = (r.maps.map (obsMap h)).set kind (obsMap h (some id)) := by
  rw [List.map_set]

theorem obs_mk (h : Heap κ α) (topo : Nat) (i m : Slice) (maps : List (Option Nat)) :
    obs h ⟨topo, i, m, maps⟩ = ⟨topo, h.read i, h.read m, maps.map (obsMap h)⟩ := rfl

theorem pool_get {s : State κ α} {m : Nat} {r : MeshRep} (h : s.pool[m]? = some r) :
    (s.pool.map (obs s.heap))[m]? = some (obs s.heap r) := by simp [h]

/-- the pure meaning of an operation with one receiver and one result -/
theorem pure_one {pool : List (MeshObs κ α)} {m : Nat} {o x : MeshObs κ α} {F : MeshObs κ α → MeshObs κ α}
    (hm : pool[m]? = some o) (hx : F o = x) : (do let r ← pool[m]?; pure [F r]) = some [x] := by
  simp [hm, hx]

/-- `obs_frame` component by component, for a result that keeps some components of its receiver -/
theorem obs_after {h h' : Heap κ α} (f : Frame h.arrays.length h h') {r : MeshRep} (v : r.Valid h) :
    h'.read r.indices = (obs h r).indices ∧ h'.read r.materials = (obs h r).materials ∧
      r.maps.map (obsMap h') = (obs h r).attrs :=
  have e := obs_frame f v
  ⟨congrArg MeshObs.indices e, congrArg MeshObs.materials e, congrArg MeshObs.attrs e⟩

section
variable [DecidableEq κ]

/-- `m[name] = d`, deleted again when empty, commutes with reading the entries -/
theorem entries_insertErase {h h' : Heap κ α} (old : List (κ × Slice)) (name : κ) (d : Slice) (c : Prop) [Decidable c]
    (hr : ∀ e ∈ old, h'.read e.2 = h.read e.2) :
    (if c then erase (insert old name d) name else insert old name d).map (rd h')
      = (if c then eraseV (insertV (old.map (rd h)) name (h'.read d)) name else insertV (old.map (rd h)) name (h'.read d)) := by
  have hi : (insert old name d).map (rd h') = insertV (old.map (rd h)) name (h'.read d) := by
    rw [insert_eq, rd_eq_mp, rd_eq_mp]
    exact map_insertV_agree old name d h'.read h.read (fun e he _ => hr e he)
  split
  · rw [erase_eq, rd_eq_mp, eraseV_map, ← rd_eq_mp, hi]
  · exact hi

omit [DecidableEq κ] in
/-- replacing the map of one kind by a map object made in `g`: what the mesh shows -/
theorem setKind_obs {h g : Heap κ α} (f : Frame h.arrays.length h g) {r : MeshRep} (vr : r.Valid h)
    {es : List (κ × Slice)} (kind : Nat) :
    [({ r with maps := setKind r.maps kind (g.allocMap es).2 } : MeshRep)].map (obs (g.allocMap es).1)
      = [{ obs h r with attrs := (obs h r).attrs.set kind (es.map (rd g)) }] := by
  obtain ⟨e1, e2, e3⟩ := obs_after (f.trans (frame_allocMap f.base_le' es)) vr
  simp only [List.map_cons, List.map_nil, List.cons.injEq, and_true]
  refine (obs_mk _ _ _ _ _).trans ?_
  simp only [setKind]
  rw [e1, e2, obs_setKind, e3, obsMap_allocMap]
  rfl

/-- **every operation of the current tree refines its pure meaning**: if the heap-level operation succeeds in a bounded
    state, the pure operation applied to the pool's observable values succeeds and returns exactly the observable values of
    the meshes returned (that these are bounded again is `apply_all` at `BoundedS`) -/
theorem apply_pure (E : Env α) {s : State κ α} (bs : s.Bounded) {op : Op κ α} (hc : op.current = true)
    {h' : Heap κ α} {rs : List MeshRep} (ha : op.apply E s = some (h', rs)) :
    pureOp E (s.pool.map (obs s.heap)) op = some (rs.map (obs h')) := by
  have arg : ∀ {m : Nat} {r : MeshRep}, s.pool[m]? = some r → r.Bounded s.heap := fun hr => bs _ (List.mem_of_getElem? hr)
  cases op <;>
    simp only [Op.apply, Option.bind_eq_bind, Option.bind_eq_some_iff, Option.pure_def, Option.some.injEq, Prod.mk.injEq] at ha
  case newMesh topo idx isp mats msp attrs =>
    obtain ⟨rfl, rfl⟩ := ha
    obtain ⟨f1, b1, r1⟩ := allocSlice_spec E s.heap idx isp
    obtain ⟨f2, b2, r2⟩ := allocSlice_spec E (allocSlice E s.heap idx isp).1 mats msp
    obtain ⟨f3, b3, o3⟩ := allocMaps_spec E attrs (allocSlice E (allocSlice E s.heap idx isp).1 mats msp).1
    simp only [pureOp, List.map_cons, List.map_nil, obs, Option.some.injEq, List.cons.injEq, and_true]
    rw [read_frame_valid f3 b2.valid, r2, read_frame_valid f3 (b1.frame_size f2).valid, read_frame_valid f2 b1.valid, r1]
    congr 1
    exact o3.symm
  case setIndices m idx sp =>
    obtain ⟨r, hr, rfl, rfl⟩ := ha
    obtain ⟨f1, b1, r1⟩ := allocSlice_spec E s.heap idx sp
    obtain ⟨_, e2, e3⟩ := obs_after f1 (arg hr).valid
    refine pure_one (pool_get hr) (Eq.trans ?_ (obs_mk _ _ _ _ _).symm)
    rw [r1, e2, e3]
    rfl
  case setMaterials m mats sp =>
    obtain ⟨r, hr, rfl, rfl⟩ := ha
    obtain ⟨f1, b1, r1⟩ := allocSlice_spec E s.heap mats sp
    obtain ⟨e1, _, e3⟩ := obs_after f1 (arg hr).valid
    refine pure_one (pool_get hr) (Eq.trans ?_ (obs_mk _ _ _ _ _).symm)
    rw [r1, e1, e3]
    rfl
  case shareMaterials m src =>
    obtain ⟨r, hr, q, hq, rfl, rfl⟩ := ha
    simp only [pureOp, pool_get hr, pool_get hq, Option.bind_eq_bind, Option.bind_some, Option.pure_def, List.map_cons,
      List.map_nil]
    rfl
  case toPointCloud m pt n =>
    obtain ⟨r, hr, ha⟩ := ha
    simp only [pureOp, pool_get hr, Option.bind_eq_bind, Option.bind_some, Option.pure_def]
    have ht : (obs s.heap r).topo = r.topo := rfl
    rw [ht]
    split at ha <;> rename_i hpt <;> simp only [Option.some.injEq, Prod.mk.injEq] at ha <;> obtain ⟨rfl, rfl⟩ := ha
    · simp [hpt]
    · obtain ⟨f1, b1, r1⟩ := allocSlice_spec E s.heap ((List.range n).map E.ident) 0
      obtain ⟨_, e2, e3⟩ := obs_after f1 (arg hr).valid
      simp only [hpt, if_false, List.map_cons, List.map_nil, Option.some.injEq, List.cons.injEq, and_true]
      refine Eq.trans ?_ (obs_mk _ _ _ _ _).symm
      rw [r1, e2, e3]
  case clearAttrs m =>
    obtain ⟨r, hr, rfl, rfl⟩ := ha
    refine pure_one (pool_get hr) (Eq.trans ?_ (obs_mk _ _ _ _ _).symm)
    rw [List.map_map, obs_attrs, List.map_map]
    rfl
  case setData m kind es =>
    obtain ⟨r, hr, rfl, rfl⟩ := ha
    obtain ⟨f1, b1, o1, _⟩ := allocMapOf_spec E es s.heap
    obtain ⟨e1, e2, e3⟩ := obs_after f1 (arg hr).valid
    refine pure_one (pool_get hr) (Eq.trans ?_ (obs_mk _ _ _ _ _).symm)
    simp only [setKind]
    rw [e1, e2, obs_setKind, e3, o1]
    rfl
  case setAttr m kind name data sp =>
    obtain ⟨r, hr, rfl, rfl⟩ := ha
    obtain ⟨f1, b1, r1⟩ := allocSlice_spec E s.heap data sp
    have bk := MeshRep.All.kind (arg hr) kind
    simp only [pureOp, pool_get hr, Option.bind_eq_bind, Option.bind_some, Option.pure_def]
    rw [setKind_obs f1 (arg hr).valid kind,
      entries_insertErase (h := s.heap) _ name _ _ (fun e he => read_frame_valid f1 (bk e he).valid), r1, ← obsMap_kind]
    rfl
  case copyAttr m src kind name =>
    obtain ⟨r, hr, q, hq, rfl, rfl⟩ := ha
    -- the copied slice
    have hd : BoundedS s.heap ((lookup (s.heap.mapEntries ((q.maps[kind]?).getD none)) name).getD Slice.nil) ∧
        s.heap.read ((lookup (s.heap.mapEntries ((q.maps[kind]?).getD none)) name).getD Slice.nil)
          = (lookupV (obsMap s.heap ((q.maps[kind]?).getD none)) name).getD [] := by
      unfold obsMap
      rw [rd_eq_mp, lookupV_map, ← lookup_eq]
      cases hl : lookup (s.heap.mapEntries ((q.maps[kind]?).getD none)) name with
      | none => exact ⟨nil_bounded _, read_nil _⟩
      | some c =>
        obtain ⟨e, he, rfl⟩ := lookup_mem hl
        exact ⟨MeshRep.All.kind (arg hq) kind e he, rfl⟩
    generalize (lookup (s.heap.mapEntries ((q.maps[kind]?).getD none)) name).getD Slice.nil = d at hd ⊢
    obtain ⟨bd, rdd⟩ := hd
    simp only [pureOp, pool_get hr, pool_get hq, Option.bind_eq_bind, Option.bind_some, Option.pure_def]
    rw [setKind_obs (Frame.refl (Nat.le_refl _)) (arg hr).valid kind,
      entries_insertErase (h := s.heap) _ name d _ (fun _ _ => rfl), rdd, ← obsMap_kind s.heap r kind,
      ← obsMap_kind s.heap q kind]
    have hlen : (d.len = 0) = (((lookupV (obsMap s.heap ((q.maps[kind]?).getD none)) name).getD []).length = 0) := by
      rw [← rdd, bd.read_length]
    simp only [hlen]
    rfl
  case rebuild m topo idx isp attrs mm =>
    obtain ⟨r, hr, rfl, rfl⟩ := ha
    obtain ⟨f1, b1, r1⟩ := allocSlice_spec E s.heap idx isp
    obtain ⟨f2, b2, o2⟩ := allocMaps_spec E attrs (allocSlice E s.heap idx isp).1
    obtain ⟨_, e2, _⟩ := obs_after (f1.trans (f2.weaken f1.size_le)) (arg hr).valid
    refine pure_one (pool_get hr) (Eq.trans ?_ (obs_mk _ _ _ _ _).symm)
    rw [read_frame_valid f2 b1.valid, r1, o2]
    cases mm with
    | share => simp only; rw [e2]
    | drop => simp only; rw [read_nil]
  case readOnly m =>
    obtain ⟨r, hr, rfl, rfl⟩ := ha
    simp [pureOp, pool_get hr]
  case append m o aLen bLen =>
    obtain ⟨r, hr, q, hq, x, hx, rfl, rfl⟩ := ha
    obtain ⟨e, -⟩ := appendCopy_refine E (arg hr) (arg hq) aLen bLen
    rw [hx] at e
    simp only [pureOp, pool_get hr, pool_get hq, Option.bind_eq_bind, Option.bind_some, Option.pure_def, ← e]
    rfl
  case appendOld m o aLen bLen => simp [Op.current] at hc

theorem preserved_bounded (E : Env α) : Preserved (κ := κ) E BoundedS where
  of_bounded := id
  mono := stable_bounded
  append := fun bm bo hx => (appendCopy_refine E bm bo _ _).2 _ hx

end

end MeshHeap
end PolyVerif
