/-
  String-level facts for C12 (core Lean only): Go's string order, `%d` / `strconv.Atoi`, and `depLess` (the model of
  instance.go `dependencyNameLess`) on the names one node generates — there it is the lexicographic order of
  (lower-cased port, index); `Node-k` is injective, so the bounded search for a free id succeeds.
-/
import PolyVerif.Model.GraphIO

namespace PolyVerif
namespace GraphIO

/-! ### Go's string `<` is the lexicographic order of core `List` -/

theorem strLt_iff {a b : Name} : strLt a b = true ↔ a < b := by
  induction a generalizing b with
  | nil => cases b <;> simp [strLt]
  | cons x xs ih =>
    cases b with
    | nil => simp [strLt]
    | cons y ys =>
      rw [List.cons_lt_cons_iff, ← ih, strLt]
      by_cases hxy : x < y
      · simp [hxy]
      · by_cases hyx : y < x
        · have : x ≠ y := fun e => hxy (e ▸ hyx)
          simp [hxy, hyx, this]
        · have : x = y := Char.le_antisymm (Char.not_lt.mp hyx) (Char.not_lt.mp hxy)
          simp [this, Char.lt_irrefl]

theorem strLt_total {a b : Name} (h : a ≠ b) : strLt a b = true ∨ strLt b a = true := by
  simp only [strLt_iff]
  exact (List.le_total a b).imp (fun h1 => (List.le_iff_lt_or_eq.mp h1).resolve_right h)
    (fun h1 => (List.le_iff_lt_or_eq.mp h1).resolve_right (Ne.symm h))

/-- two strings that share a prefix `pre` compare alike with anything that does not start with `pre` -/
theorem lt_prefix {pre : Name} (x y : Name) {w : Name} (h : ¬ pre <+: w) :
    (pre ++ x < w ↔ pre ++ y < w) ∧ (w < pre ++ x ↔ w < pre ++ y) := by
  induction pre generalizing w with
  | nil => exact absurd List.nil_prefix h
  | cons c cs ih =>
    cases w with
    | nil => simp
    | cons d ds =>
      simp only [List.cons_append, List.cons_lt_cons_iff]
      by_cases hcd : c = d
      · subst hcd
        have := ih fun hp => h (List.cons_prefix_cons.mpr ⟨rfl, hp⟩)
        rw [this.1, this.2]
        exact ⟨Iff.rfl, Iff.rfl⟩
      · simp [hcd, Ne.symm hcd]

theorem digitChar_spec : ∀ d < 10,
    isDigit (digitChar d) = true ∧ (digitChar d).toNat - 48 = d ∧ digitChar d ≠ '.' ∧
      lowerC (digitChar d) = digitChar d := by
  decide

theorem digitsVal_snoc (xs : List Char) (c : Char) (acc : Nat) :
    digitsVal (xs ++ [c]) acc =
      match digitsVal xs acc with
      | some v => if isDigit c then some (v * 10 + (c.toNat - 48)) else none
      | none => none := by
  induction xs generalizing acc with
  | nil => simp [digitsVal]
  | cons x xs ih =>
    simp only [List.cons_append, digitsVal]
    split
    · exact ih _
    · rfl

theorem natDigitsF_spec (f n : Nat) (h : n < f) :
    digitsVal (natDigitsF f n) 0 = some n ∧ natDigitsF f n ≠ [] ∧
      (∀ c ∈ natDigitsF f n, isDigit c = true ∧ c ≠ '.' ∧ lowerC c = c) := by
  induction f generalizing n with
  | zero => omega
  | succ f ih =>
    unfold natDigitsF
    split
    · rename_i hlt
      obtain ⟨h1, h2, h3, h4⟩ := digitChar_spec n hlt
      refine ⟨by simp [digitsVal, h1, h2], by simp, ?_⟩
      intro c hc
      simp only [List.mem_singleton] at hc
      subst hc
      exact ⟨h1, h3, h4⟩
    · rename_i hge
      obtain ⟨i1, i2, i3⟩ := ih (n / 10) (by omega)
      obtain ⟨h1, h2, h3, h4⟩ := digitChar_spec (n % 10) (Nat.mod_lt _ (by omega))
      refine ⟨?_, by simp, ?_⟩
      · rw [digitsVal_snoc, i1]
        simp only [h1, if_true, h2]
        congr 1
        omega
      · intro c hc
        rcases List.mem_append.mp hc with hc | hc
        · exact i3 c hc
        · simp only [List.mem_singleton] at hc
          subst hc
          exact ⟨h1, h3, h4⟩

theorem natDigits_spec (n : Nat) :
    digitsVal (natDigits n) 0 = some n ∧ natDigits n ≠ [] ∧
      (∀ c ∈ natDigits n, isDigit c = true ∧ c ≠ '.' ∧ lowerC c = c) :=
  natDigitsF_spec (n + 1) n (by omega)

theorem natDigits_noDot (n : Nat) : '.' ∉ natDigits n :=
  fun h => ((natDigits_spec n).2.2 _ h).2.1 rfl

theorem lower_natDigits (n : Nat) : lower (natDigits n) = natDigits n := by
  unfold lower
  have := (natDigits_spec n).2.2
  generalize natDigits n = l at this
  induction l with
  | nil => rfl
  | cons c cs ih =>
    simp only [List.map_cons]
    rw [(this c List.mem_cons_self).2.2, ih (fun c' hc' => this c' (List.mem_cons_of_mem _ hc'))]

theorem natDigits_head (n : Nat) : ∃ c cs, natDigits n = c :: cs ∧ isDigit c = true := by
  obtain ⟨-, h2, h3⟩ := natDigits_spec n
  cases hs : natDigits n with
  | nil => exact absurd hs h2
  | cons c cs => exact ⟨c, cs, rfl, (h3 c (hs ▸ List.mem_cons_self)).1⟩

theorem natDigits_inj {a b : Nat} (h : natDigits a = natDigits b) : a = b := by
  have ha := (natDigits_spec a).1
  rw [h, (natDigits_spec b).1] at ha
  exact (Option.some.inj ha).symm

theorem arrName_inj {p : Name} {i j : Nat} (h : arrName p i = arrName p j) : i = j :=
  natDigits_inj (List.cons.inj (List.append_cancel_left h)).2

/-- strconv.Atoi reads back what `%d` printed, as long as it fits an int64 (a Go slice index always does) -/
theorem atoi_natDigits (n : Nat) (h : n < 2 ^ 63) : atoi (natDigits n) = some (n : Int) := by
  obtain ⟨c, cs, hs, hd⟩ := natDigits_head n
  have h1 := (natDigits_spec n).1
  rw [hs] at h1 ⊢
  unfold atoi
  split
  · rename_i r heq; cases heq; exact absurd hd (by decide)
  · rename_i r heq; cases heq; exact absurd hd (by decide)
  · simp [atoiU, h1, h]

theorem splitLast_noDot {s : Name} (h : '.' ∉ s) : splitLast s = none := by
  induction s with
  | nil => rfl
  | cons c cs ih =>
    have hc : c ≠ '.' := fun e => h (e ▸ List.mem_cons_self)
    have hcs : '.' ∉ cs := fun e => h (List.mem_cons_of_mem _ e)
    simp [splitLast, ih hcs, hc]

theorem splitLast_append (p : Name) {ds : Name} (h : '.' ∉ ds) : splitLast (p ++ '.' :: ds) = some (p, ds) := by
  induction p with
  | nil => simp [splitLast, splitLast_noDot h]
  | cons c cs ih => simp [splitLast, ih]

theorem splitLast_arrName (p : Name) (i : Nat) : splitLast (arrName p i) = some (p, natDigits i) :=
  splitLast_append p (natDigits_noDot i)

theorem lower_arrName (p : Name) (i : Nat) : lower (arrName p i) = lower p ++ '.' :: natDigits i := by
  simp only [arrName, lower, List.map_append, List.map_cons]
  rw [show (natDigits i).map lowerC = natDigits i from lower_natDigits i]
  rfl

/-- entries of one array input are ordered by their index, for every index a Go slice can have -/
theorem depLess_same_port (p : Name) (i j : Nat) (hi : i < 2 ^ 63) (hj : j < 2 ^ 63) :
    depLess (arrName p i) (arrName p j) = decide (i < j) := by
  unfold depLess
  rw [splitLast_arrName, splitLast_arrName]
  simp only [if_true, atoi_natDigits i hi, atoi_natDigits j hj]
  simp

/-- a dependency name: a scalar field `q`, or element `i` of array field `p` -/
inductive Code where
  | s (q : Name)
  | a (p : Name) (i : Nat)
deriving DecidableEq

def Code.render : Code → Name
  | .s q => q
  | .a p i => arrName p i

/-- what the comparator proof needs from the input ports of a node type: no dot in a (lower-cased) port name and
    no two ports that differ only by case (Go field names; checked on every registered type by the
    `c12.holds.ports_distinct` oracle).  RESTRICTION: `lower` is Go's ToLower / EqualFold only on the alphabet of
    `lowerC` (ASCII, Latin-1 letters, Greek without final sigma, Cyrillic); for port names outside it the theorems about
    `depLess` say nothing about the Go comparator (no registered type has such a name). -/
structure PortsOK (T : NodeType) : Prop where
  noDot : ∀ p ∈ T.scal.map (·.1) ++ T.arrs.map (·.1), '.' ∉ lower p
  distinct : ∀ p ∈ T.scal.map (·.1) ++ T.arrs.map (·.1), ∀ q ∈ T.scal.map (·.1) ++ T.arrs.map (·.1),
    lower p = lower q → p = q
  disjoint : ∀ p ∈ T.scal.map (·.1), p ∉ T.arrs.map (·.1)

def Code.Valid (T : NodeType) : Code → Prop
  | .s q => q ∈ T.scal.map (·.1)
  | .a p i => p ∈ T.arrs.map (·.1) ∧ i < 2 ^ 63

theorem mem_ports_of_valid {T : NodeType} {c : Code} (h : c.Valid T) :
    (match c with | .s q => q | .a p _ => p) ∈ T.scal.map (·.1) ++ T.arrs.map (·.1) := by
  cases c with
  | s q => exact List.mem_append_left _ h
  | a p i => exact List.mem_append_right _ h.1

/-! ### the comparator is the lexicographic order of (lower-cased port — with its dot for an array port —, index) -/

def Code.key : Code → Name × Nat
  | .s q => (lower q, 0)
  | .a p i => (lower p ++ ['.'], i)

def keyLt (x y : Name × Nat) : Prop := x.1 < y.1 ∨ (x.1 = y.1 ∧ x.2 < y.2)

theorem keyLt_asymm {x y : Name × Nat} (h1 : keyLt x y) (h2 : keyLt y x) : False := by
  rcases h1 with h1 | ⟨e1, h1⟩ <;> rcases h2 with h2 | ⟨e2, h2⟩
  · exact List.lt_asymm h1 h2
  · exact List.lt_irrefl _ (e2 ▸ h1)
  · exact List.lt_irrefl _ (e1 ▸ h2)
  · omega

theorem keyLt_trans {x y z : Name × Nat} (h1 : keyLt x y) (h2 : keyLt y z) : keyLt x z := by
  rcases h1 with h1 | ⟨e1, h1⟩ <;> rcases h2 with h2 | ⟨e2, h2⟩
  · exact .inl (List.lt_trans h1 h2)
  · exact .inl (e2 ▸ h1)
  · exact .inl (e1 ▸ h2)
  · exact .inr ⟨e1.trans e2, Nat.lt_trans h1 h2⟩

theorem keyLt_total {x y : Name × Nat} (h : x ≠ y) : keyLt x y ∨ keyLt y x := by
  by_cases e : x.1 = y.1
  · exact (Nat.lt_or_gt_of_ne fun e2 => h (Prod.ext e e2)).imp (.inr ⟨e, ·⟩) (.inr ⟨e.symm, ·⟩)
  · exact (strLt_total e).imp (fun h => .inl (strLt_iff.mp h)) (fun h => .inl (strLt_iff.mp h))

theorem splitFirst_noDot {p : Name} (h : '.' ∉ p) : splitFirst p = none := by
  induction p with
  | nil => rfl
  | cons c cs ih =>
    have hc : c ≠ '.' := fun e => h (e ▸ List.mem_cons_self)
    have hcs : '.' ∉ cs := fun e => h (List.mem_cons_of_mem _ e)
    simp [splitFirst, hc, ih hcs]

theorem splitFirst_dot {p : Name} (rest : Name) (h : '.' ∉ p) : splitFirst (p ++ '.' :: rest) = some (p, rest) := by
  induction p with
  | nil => simp [splitFirst]
  | cons c cs ih =>
    have hc : c ≠ '.' := fun e => h (e ▸ List.mem_cons_self)
    have hcs : '.' ∉ cs := fun e => h (List.mem_cons_of_mem _ e)
    simp [splitFirst, hc, ih hcs]

theorem prefix_dot_eq {a b r : Name} (ha : '.' ∉ a) (hb : '.' ∉ b) (h : (a ++ ['.']) <+: (b ++ '.' :: r)) : a = b := by
  obtain ⟨t, ht⟩ := h
  have := congrArg splitFirst ht
  rw [List.append_assoc, List.singleton_append, splitFirst_dot _ ha, splitFirst_dot _ hb] at this
  exact (Prod.mk.inj (Option.some.inj this)).1

theorem dot_prefix {a w : Name} (hw : '.' ∉ w) : ¬ (a ++ ['.']) <+: w :=
  fun h => hw (h.subset (by simp))

theorem depLess_key {T : NodeType} (hP : PortsOK T) {c d : Code} (hc : c.Valid T) (hd : d.Valid T) : depLess c.render d.render = true ↔ keyLt c.key d.key := by
  have hdotS : ∀ q ∈ T.scal.map (·.1), '.' ∉ q := fun q hq h =>
    hP.noDot q (List.mem_append_left _ hq) (List.mem_map.mpr ⟨'.', h, by decide⟩)
  have arr : ∀ p i, lower (arrName p i) = (lower p ++ ['.']) ++ natDigits i := fun p i => by
    rw [lower_arrName, List.append_assoc]; rfl
  cases c with
  | s q =>
    have hq : '.' ∉ lower q := hP.noDot q (List.mem_append_left _ hc)
    cases d with
    | s q' => simp [depLess, Code.render, splitLast_noDot (hdotS q hc), Code.key, keyLt, strLt_iff]
    | a p j =>
      have e := (lt_prefix (natDigits j) [] (dot_prefix (a := lower p) hq)).2
      have hne : lower q ≠ lower p ++ ['.'] := fun e => hq (e ▸ by simp)
      simpa [depLess, Code.render, splitLast_noDot (hdotS q hc), Code.key, keyLt, arr, strLt_iff, hne] using e
  | a p i =>
    have hp : '.' ∉ lower p := hP.noDot p (List.mem_append_right _ hc.1)
    cases d with
    | s q =>
      have hq : '.' ∉ lower q := hP.noDot q (List.mem_append_left _ hd)
      have e := (lt_prefix (natDigits i) [] (dot_prefix (a := lower p) hq)).1
      have hne : lower p ++ ['.'] ≠ lower q := fun e => hq (e ▸ by simp)
      simpa [depLess, Code.render, splitLast_arrName, splitLast_noDot (hdotS q hd), Code.key, keyLt, arr, strLt_iff, hne]
        using e
    | a p' j =>
      have hp' : '.' ∉ lower p' := hP.noDot p' (List.mem_append_right _ hd.1)
      by_cases hpp : lower p = lower p'
      · simp [depLess, Code.render, splitLast_arrName, hpp, atoi_natDigits _ hc.2, atoi_natDigits _ hd.2, Code.key, keyLt,
          List.lt_irrefl]
      · have n1 : ¬ (lower p ++ ['.']) <+: (lower p' ++ ['.'] ++ natDigits j) := fun h =>
          hpp (prefix_dot_eq hp hp' (by simpa using h))
        have n2 : ¬ (lower p' ++ ['.']) <+: (lower p ++ ['.']) := fun h => hpp (prefix_dot_eq hp' hp h).symm
        have e1 := (lt_prefix (natDigits i) [] n1).1
        have e2 := (lt_prefix (natDigits j) [] n2).2
        rw [List.append_nil] at e1 e2
        have hne : lower p ++ ['.'] ≠ lower p' ++ ['.'] := fun e => hpp (List.append_cancel_right e)
        simpa [depLess, Code.render, splitLast_arrName, hpp, Code.key, keyLt, arr, strLt_iff, hne] using e1.trans e2

theorem key_inj {T : NodeType} (hP : PortsOK T) {c d : Code} (hc : c.Valid T) (hd : d.Valid T)
    (h : c.key = d.key) : c = d := by
  cases c <;> cases d <;> simp only [Code.key, Prod.mk.injEq] at h
  · rw [hP.distinct _ (List.mem_append_left _ hc) _ (List.mem_append_left _ hd) h.1]
  · exact absurd (h.1 ▸ by simp) (hP.noDot _ (List.mem_append_left _ hc))
  · exact absurd (h.1 ▸ by simp) (hP.noDot _ (List.mem_append_left _ hd))
  · rw [hP.distinct _ (List.mem_append_right _ hc.1) _ (List.mem_append_right _ hd.1) (List.append_cancel_right h.1), h.2]

/-! ### node ids: `Node-k` is injective in k, so the bounded search of `firstFree` cannot exhaust its fuel -/

theorem nodeIdOf_inj {a b : Nat} (h : nodeIdOf a = nodeIdOf b) : a = b := by
  unfold nodeIdOf at h
  exact natDigits_inj (String.ofList_injective ((String.append_right_inj _).mp h))

theorem firstFree_none {ids : List Id} {fuel k : Nat} (h : firstFree ids fuel k = none) :
    ∀ j, j < fuel → nodeIdOf (k + j) ∈ ids := by
  induction fuel generalizing k with
  | zero => intro j hj; omega
  | succ f ih =>
    unfold firstFree at h
    split at h
    · rename_i hk
      intro j hj
      cases j with
      | zero => simpa using hk
      | succ j =>
        have := ih h j (by omega)
        rwa [show k + 1 + j = k + (j + 1) by omega] at this
    · cases h

/-- pigeonhole: `fuel` different candidate ids cannot all be among fewer than `fuel` used ids -/
theorem firstFree_sufficient_aux {ids : List Id} {fuel : Nat} (k : Nat) (h : ids.length < fuel) :
    ∃ id, firstFree ids fuel k = some id := by
  cases hf : firstFree ids fuel k with
  | some id => exact ⟨id, rfl⟩
  | none =>
    have hall := firstFree_none hf
    have hnd : ((List.range fuel).map (fun j => nodeIdOf (k + j))).Nodup := by
      apply List.pairwise_map.mpr
      exact (List.pairwise_lt_range (n := fuel)).imp (fun {a b} hab e => by have := nodeIdOf_inj e; omega)
    have hsub : ((List.range fuel).map (fun j => nodeIdOf (k + j))) ⊆ ids := by
      intro x hx
      obtain ⟨j, hj, rfl⟩ := List.mem_map.mp hx
      exact hall j (List.mem_range.mp hj)
    have := hnd.length_le_of_subset hsub
    simp at this
    omega

end GraphIO
end PolyVerif
