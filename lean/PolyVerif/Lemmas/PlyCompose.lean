/-
  Composition lemmas for C04 / C08: the reader model `readBody` run on a binary body, stage by stage
  (vertex loop → face loop → mesh assembly); the column a reader sitting on a writer's properties accumulates, for any
  per-scalar reading `F` (`rowOfF`, `column_of_writer`: used by the binary and the ASCII path); `UpdateMesh`; the claim
  witnesses `ClaimOK` with their decidable certificate.  Core Lean only.
-/
import PolyVerif.Model.Ply
import PolyVerif.Model.PlySpec
import PolyVerif.Lemmas.Ply

namespace PolyVerif
namespace PlyCompose
open Ply PlyLemmas

variable {α : Type}

/-- mesh assembly: `NewMesh(topo, indices)`, `UpdateMesh` of every built reader, unweld when per-corner UVs were read -/
def assemble (built : List Built) (nv : Nat) (rows : List (List (List α)))
    (idxUv : Option (List Int × List (List α))) : R (MeshVal α) :=
  let (topo, indices, uvs) := match idxUv with
    | none => (Topo.point, (List.range nv).map Int.ofNat, ([] : List (List α)))
    | some (idx, uvs) => (Topo.triangle, idx, uvs)
  let mesh := applyColumns ⟨topo, indices, [], none⟩ built rows
  if 0 < uvs.length ∧ uvs.length = indices.length then do
    let u ← unweld mesh
    pure (u.set 2 texCoordAttr uvs)
  else pure mesh

def faceStageBin (c : Coding α) (e : Endian) (fe : Option Element) (rest : Bytes) :
    R (Option (List Int × List (List α))) :=
  match fe with
  | none => .ok none
  | some f =>
    match listProps f.props with
    | none => .error .err
    | some lp =>
      if (findFaceProps lp).idxProp.isNone then .error .err else do
        let r ← readFacesBin c e lp (findFaceProps lp) f.count.toNat ⟨[0, 0, 0, 0], List.replicate 8 (c.ofInt 0)⟩ rest
        pure (some r)

theorem readBody_bin (c : Coding α) (cfg : ReaderCfg) (hdr : Header) (body : Bytes) (ve : Element)
    (ps : List (Bytes × SType)) (hfmt : hdr.format ≠ .ascii)
    (hve : findElement hdr cfg.attributeElement = some ve) (hps : scalarProps ve.props = some ps)
    (hcount : 0 ≤ ve.count) :
    readBody c cfg hdr body = (do
      let built := buildAll true ps cfg.props cfg.loadUnspecified
      let (rows, rest) ← readVertsBin c hdr.format.endian ((ps.map (fun p => p.2.size)).sum) built ve.count.toNat body
      let idxUv ← faceStageBin c hdr.format.endian (findElement hdr (nm "face")) rest
      assemble built ve.count.toNat rows idxUv) := by
  have hneg : ¬ (ve.count < 0) := by omega
  simp only [readBody, hve, hps, hneg, false_and, if_false]
  have hb : (decide (hdr.format ≠ Format.ascii)) = true := by simp [hfmt]
  cases hf : hdr.format with
  | ascii => exact absurd hf hfmt
  | le | be =>
    simp only [hf] at hb ⊢
    simp only [hb]
    cases readVertsBin c _ ((ps.map (fun p => p.2.size)).sum) (buildAll true ps cfg.props cfg.loadUnspecified) ve.count.toNat body with
    | error e => rfl
    | ok rr =>
      obtain ⟨rows, rest⟩ := rr
      simp only [bind, Except.bind, faceStageBin]
      cases findElement hdr (nm "face") with
      | none => rfl
      | some f =>
        simp only []
        cases listProps f.props with
        | none => rfl
        | some lp =>
          simp only []
          by_cases hidx : (findFaceProps lp).idxProp.isNone = true
          · simp only [hidx, if_true]
          · simp only [hidx, if_false, Bool.false_eq_true]
            cases readFacesBin c _ lp (findFaceProps lp) f.count.toNat ⟨[0, 0, 0, 0], List.replicate 8 (c.ofInt 0)⟩ rest <;> rfl


/-- the vertex properties of the written header: names and types in header order -/
def headerProps (ws : List WProp) : List (Bytes × SType) := (ws.map (fun w => w.names.map (fun n => (n, w.ty)))).flatten

theorem scalarProps_headerProps (ws : List WProp) :
    scalarProps ((ws.map WProp.props).flatten) = some (headerProps ws) := by
  induction ws with
  | nil => simp [scalarProps, headerProps]
  | cons w ws ih =>
    have := scalarProps_append _ _ _ _ (scalarProps_wprop w) ih
    simpa [headerProps] using this

theorem headerProps_types (ws : List WProp) : (headerProps ws).map (·.2) = writerTypes ws := by
  induction ws with
  | nil => simp [headerProps, writerTypes]
  | cons w ws ih =>
    simp only [headerProps, writerTypes, List.map_cons, List.flatten_cons, List.map_append] at ih ⊢
    rw [ih]; simp [Function.comp_def]

theorem findElement_vertex (cfg : WriterCfg) (m : MeshVal α) :
    findElement (writeHeader cfg m) (nm "vertex")
      = some ⟨nm "vertex", m.attrLen, ((selectWriters cfg m).map WProp.props).flatten⟩ := by
  have h1 : (nm "face" = nm "vertex") = False := by simp; decide +kernel
  by_cases htri : m.topo = .triangle <;> simp [findElement, writeHeader, htri, h1]

theorem findElement_face (cfg : WriterCfg) (m : MeshVal α) :
    findElement (writeHeader cfg m) (nm "face")
      = if m.topo = .triangle then some ⟨nm "face", triCount m, faceProps m⟩ else none := by
  have h1 : (nm "vertex" = nm "face") = False := by simp; decide +kernel
  by_cases htri : m.topo = .triangle <;> simp [findElement, writeHeader, htri, h1]

/-- what the located readers produce for one written record: for each reader the stored-precision image of the values
at its components' header positions -/
def rowOfW (c : Coding α) (tys : List SType) (bl : List (Built × List Nat)) (vals : List α) : List (List α) :=
  bl.map (fun p => p.2.filterMap (fun i =>
    match tys[i]?, vals[i]? with
    | some t, some v => some (quantBin c p.1.names.length t v)
    | _, _ => none))

section
variable (c : Coding α) (e : Endian)

theorem readBin_located_w (tys : List SType) (b : Built) (idxs : List Nat)
    (hl : Located tys b idxs) (vals : List α) (hv : vals.length = tys.length) (rec : Bytes)
    (henc : encRecordBin c e tys vals = .ok rec) (post : Bytes) :
    b.readBin c e (rec ++ post) = .ok (idxs.filterMap (fun i =>
      match tys[i]?, vals[i]? with
      | some t, some v => some (quantBin c b.names.length t v)
      | _, _ => none)) := by
  refine readBin_of_fields c e tys b idxs hl _ _ (fun i hi => ?_)
  have hf := field_at_offset c e b.names.length tys vals rec [] post i hi hv henc
  exact ⟨quantBin c b.names.length tys[i] (vals[i]'(by omega)),
    by simp [List.getElem?_eq_getElem hi, List.getElem?_eq_getElem (show i < vals.length by omega)], by simpa using hf⟩

theorem writer_vertex_block (tys : List SType) (bl : List (Built × List Nat))
    (hbl : ∀ p ∈ bl, Located tys p.1 p.2) :
    ∀ (recs : List (List α)) (encs : List Bytes) (rest : Bytes),
      All2 (fun vals rec => encRecordBin c e tys vals = .ok rec) recs encs →
      (∀ vals ∈ recs, vals.length = tys.length) →
      readVertsBin c e ((tys.map SType.size).sum) (bl.map (·.1)) recs.length (encs.flatten ++ rest)
        = .ok (recs.map (rowOfW c tys bl), rest) := by
  intro recs encs rest hall hlen
  refine readVertsBin_block c e _ _ (rowOfW c tys bl) recs encs rest (hall.imp_mem (fun vals hv rec henc => ⟨?_, ?_⟩))
  · exact encRecordBin_length c e tys vals rec (hlen vals hv) henc
  · refine mapM_readers _ _ bl (fun p hp => ?_)
    simpa using readBin_located_w c e tys p.1 p.2 (hbl p hp) vals (hlen vals hv) rec henc []

/-- reading one list property with a `uchar` count -/
theorem readListBin_uchar (item : SType) (k : UInt8) (payload rest : Bytes)
    (hlen : payload.length = k.toNat * item.size) :
    readListBin e .uchar item (k :: (payload ++ rest)) = .ok ((k.toNat : Int), payload, rest) := by
  have h1 : ¬ ((k.toNat : Int) < 0) := by omega
  have h2 : ¬ (payload.length + rest.length < payload.length) := by omega
  simp [readListBin, bind, Except.bind, pure, Except.pure, ← hlen, h1, h2]

theorem get32_words {β : Type} (e : Endian) (f : UInt32 → β) (ws : List UInt32) :
    (List.range ws.length).mapM (fun i => (get32 e (((ws.map (put32 e)).flatten).drop (i * 4))).map f)
      = some (ws.map f) := by
  have := Chunks.mapM_range_chunks (put32 e) 4 [] ws (fun w _ => put32_length e w) (fun bs => (get32 e bs).map f) f
    fun w _ tail => by rw [put32_get32, Option.map_some]
  rwa [List.append_nil, List.flatMap_def] at this

theorem listIntsBin_words (ws : List UInt32) (cap : Nat) (h : ws.length ≤ cap) :
    listIntsBin e .int ws.length ((ws.map (put32 e)).flatten) cap = some (ws.map toInt32) := by
  simp [listIntsBin, Nat.not_lt.mpr h, get32_words e toInt32 ws]

theorem listFloatsBin_words (ws : List UInt32) (cap : Nat) (h : ws.length ≤ cap) :
    listFloatsBin c e .float ws.length ((ws.map (put32 e)).flatten) cap = some (ws.map c.unf32) := by
  simp [listFloatsBin, Nat.not_lt.mpr h, get32_words e c.unf32 ws]

theorem words_length (ws : List UInt32) : ((ws.map (put32 e)).flatten).length = ws.length * 4 :=
  flatten_map_length _ 4 ws fun w _ => put32_length e w

end

/-- the list properties / scan of the face element the writer declares -/
def wlp (hasTex : Bool) : List (Bytes × SType × SType) :=
  [(nm "vertex_indices", .uchar, .int)] ++ (if hasTex then [(nm "texcoord", .uchar, .float)] else [])

theorem listProps_faceProps (m : MeshVal α) : listProps (faceProps m) = some (wlp (hasTexCoord m)) := by
  cases h : hasTexCoord m <;> simp [faceProps, h, listProps, wlp]

theorem findFaceProps_wlp (hasTex : Bool) :
    findFaceProps (wlp hasTex) = ⟨some 0, if hasTex then some 1 else none⟩ := by
  cases hasTex <;> rfl

/-- what reading one face record does to the reader's buffers, given the indices and texture coordinates read -/
def afterFaceA (f : WFace α) (b : FaceBufs α) : FaceBufs α :=
  { idx := overwrite b.idx [f.idx.1, f.idx.2.1, f.idx.2.2]
    tex := match f.uv with
      | none => b.tex
      | some uv => overwrite b.tex uv }

/-- the per-corner UVs the reader emits for a face whose six texture coordinates it read as `f.uv` -/
def faceUVA (f : WFace α) : List (List α) :=
  match f.uv with
  | none => []
  | some uv => [uv.take 2, (uv.drop 2).take 2, (uv.drop 4).take 2]

/-- a written face as the binary reader sees it: indices through `int32(uint32(·))`, texture coordinates through float32 -/
def imageFace (c : Coding α) (f : WFace α) : WFace α :=
  ⟨(toInt32 (ofInt32 f.idx.1), toInt32 (ofInt32 f.idx.2.1), toInt32 (ofInt32 f.idx.2.2)),
   f.uv.map (List.map (fun v => c.unf32 (c.f32 v)))⟩

def BufsOk (b : FaceBufs α) : Prop := b.idx.length = 4 ∧ b.tex.length = 8

theorem readFaceBin_written (c : Coding α) (e : Endian) (f : WFace α) (hasTex : Bool) (huv : UvOk hasTex f)
    (b : FaceBufs α) (rest : Bytes) :
    readFaceBin c e (wlp hasTex) ⟨some 0, if hasTex then some 1 else none⟩ b (encFaceBin c e f ++ rest)
      = .ok (3, afterFaceA (imageFace c f) b, rest) := by
  obtain ⟨⟨i0, i1, i2⟩, uv⟩ := f
  have hi := listIntsBin_words e [ofInt32 i0, ofInt32 i1, ofInt32 i2] 4 (by simp)
  have hr := fun rest => readListBin_uchar e .int 3 (([ofInt32 i0, ofInt32 i1, ofInt32 i2].map (put32 e)).flatten) rest
    (by rw [words_length]; rfl)
  cases uv with
  | none =>
    simp only [UvOk] at huv
    subst huv
    simp only [List.map_cons, List.map_nil, List.flatten_cons, List.flatten_nil, List.append_nil, List.length_cons,
      List.length_nil, List.append_assoc, Nat.zero_add, Nat.reduceAdd, UInt8.toNat_ofNat, Int.cast_ofNat_Int,
      Nat.reduceMod] at hi hr
    simp [readFaceBin, readFaceBin.go, wlp, List.zipIdx, encFaceBin, List.append_assoc, hr, hi, bind, Except.bind,
      afterFaceA, imageFace]
  | some uv =>
    simp only [UvOk] at huv
    obtain ⟨hT, hl⟩ := huv
    subst hT
    match uv, hl with
    | [v0, v1, v2, v3, v4, v5], _ =>
      have hf := listFloatsBin_words c e [c.f32 v0, c.f32 v1, c.f32 v2, c.f32 v3, c.f32 v4, c.f32 v5] 8 (by simp)
      have hr2 := readListBin_uchar e .float 6
        (([c.f32 v0, c.f32 v1, c.f32 v2, c.f32 v3, c.f32 v4, c.f32 v5].map (put32 e)).flatten) rest
        (by rw [words_length]; rfl)
      simp only [List.map_cons, List.map_nil, List.flatten_cons, List.flatten_nil, List.append_nil, List.length_cons,
        List.length_nil, List.append_assoc, Nat.zero_add, Nat.reduceAdd, UInt8.toNat_ofNat, Int.cast_ofNat_Int,
        Nat.reduceMod] at hi hf hr hr2
      simp [readFaceBin, readFaceBin.go, wlp, List.zipIdx, encFaceBin, List.append_assoc, hr, hi, hr2, hf, bind, Except.bind,
        afterFaceA, imageFace]

def faceIdx (f : WFace α) : List Int :=
  [toInt32 (ofInt32 f.idx.1), toInt32 (ofInt32 f.idx.2.1), toInt32 (ofInt32 f.idx.2.2)]

/-- the per-corner UVs the reader emits for a written face: float32 images of the three corners' coordinates -/
def faceUV (c : Coding α) (f : WFace α) : List (List α) :=
  match f.uv with
  | none => []
  | some uv =>
    let q := uv.map (fun v => c.unf32 (c.f32 v))
    [q.take 2, (q.drop 2).take 2, (q.drop 4).take 2]

section
variable (c : Coding α) (e : Endian)

theorem faceUV_image (f : WFace α) : faceUVA (imageFace c f) = faceUV c f := by
  obtain ⟨idx, uv⟩ := f
  cases uv <;> rfl

theorem faceUV_eq_map (f : WFace α) :
    faceUV c f = (faceUVA f).map (List.map (fun v => c.unf32 (c.f32 v))) := by
  obtain ⟨idx, uv⟩ := f
  cases uv <;> simp [faceUV, faceUVA, List.map_take, List.map_drop]

theorem uvOk_image (hasTex : Bool) (f : WFace α) (h : UvOk hasTex f) : UvOk hasTex (imageFace c f) := by
  obtain ⟨idx, uv⟩ := f
  cases uv <;> simpa [UvOk, imageFace] using h

theorem emitFace_afterA (f : WFace α) (hasTex : Bool) (huv : UvOk hasTex f) (b : FaceBufs α) (hb : BufsOk b) :
    emitFace 3 hasTex (afterFaceA f b) = .ok ([f.idx.1, f.idx.2.1, f.idx.2.2], faceUVA f) ∧ BufsOk (afterFaceA f b) := by
  obtain ⟨⟨i0, i1, i2⟩, uv⟩ := f
  obtain ⟨idx, tex⟩ := b
  obtain ⟨hi, ht⟩ := hb
  simp only at hi ht
  match idx, hi, tex, ht with
  | [a0, a1, a2, a3], _, [t0, t1, t2, t3, t4, t5, t6, t7], _ =>
    cases uv with
    | none =>
      simp only [UvOk] at huv
      subst huv
      simp [emitFace, afterFaceA, overwrite, faceUVA, BufsOk]
    | some uv =>
      simp only [UvOk] at huv
      obtain ⟨hT, hl⟩ := huv
      subst hT
      match uv, hl with
      | [v0, v1, v2, v3, v4, v5], _ =>
        simp [emitFace, afterFaceA, overwrite, faceUVA, BufsOk]

/-- stage 2 (face loop) on the face records the writer emits: three indices per face (as written: `int32(uint32(i))`)
and, with `texcoord`, the float32 images of the three corners' coordinates; nothing is left over -/
theorem readFacesBin_written (hasTex : Bool) :
    ∀ (fs : List (WFace α)) (b : FaceBufs α), BufsOk b → (∀ f ∈ fs, UvOk hasTex f) → ∀ (rest : Bytes),
      readFacesBin c e (wlp hasTex) ⟨some 0, if hasTex then some 1 else none⟩ fs.length b
          ((fs.map (encFaceBin c e)).flatten ++ rest)
        = .ok ((fs.map faceIdx).flatten, (fs.map (faceUV c)).flatten) := by
  intro fs
  induction fs with
  | nil => intro b _ _ rest; simp [readFacesBin]
  | cons f fs ih =>
    intro b hb huv rest
    have h1 := readFaceBin_written c e f hasTex (huv f (by simp)) b ((fs.map (encFaceBin c e)).flatten ++ rest)
    obtain ⟨h2, hb'⟩ := emitFace_afterA (imageFace c f) hasTex (uvOk_image c hasTex f (huv f (by simp))) b hb
    rw [faceUV_image] at h2
    have h3 := ih (afterFaceA (imageFace c f) b) hb' (fun g hg => huv g (by simp [hg])) rest
    have hT : (if hasTex then some 1 else (none : Option Nat)).isSome = hasTex := by cases hasTex <;> rfl
    simp only [List.map_cons, List.flatten_cons, List.length_cons, readFacesBin, List.append_assoc, h1, bind, Except.bind,
      hT, h2, h3, pure, Except.pure]
    rfl

end

theorem chunk3_flatten : ∀ (l : List Int) (tris : List (Int × Int × Int)), chunk3 l = some tris →
    l = (tris.map (fun t => [t.1, t.2.1, t.2.2])).flatten
  | [], tris, h => by simp [chunk3] at h; subst h; rfl
  | [_], _, h => by simp [chunk3] at h
  | [_, _], _, h => by simp [chunk3] at h
  | a :: b :: c :: rest, tris, h => by
    simp only [chunk3, Option.map_eq_some_iff] at h
    obtain ⟨t, ht, rfl⟩ := h
    have := chunk3_flatten rest t ht
    simp [← this]

theorem readBody_writeBody_arrays (c : Coding α) (cfg : WriterCfg) (m : MeshVal α) (body : Bytes)
    (hf : cfg.format ≠ .ascii) (hwf : m.WF = true) (h : writeBody c cfg m = .ok body)
    (bl : List (Built × List Nat))
    (hbuilt : bl.map (·.1) = buildAll true (headerProps (selectWriters cfg m)) defaultReaders true)
    (hloc : ∀ p ∈ bl, Located (writerTypes (selectWriters cfg m)) p.1 p.2) :
    ∃ (recs : List (List α)),
      (List.range m.attrLen).mapM (vertexRecord m (selectWriters cfg m)) = .ok recs ∧
      (m.topo ≠ .triangle →
        readBody c defaultReader (writeHeader cfg m) body
          = assemble (bl.map (·.1)) m.attrLen (recs.map (rowOfW c (writerTypes (selectWriters cfg m)) bl)) none) ∧
      (m.topo = .triangle → ∃ tris fs, chunk3 m.indices = some tris ∧ faceRecords m tris = .ok fs ∧
        readBody c defaultReader (writeHeader cfg m) body
          = assemble (bl.map (·.1)) m.attrLen (recs.map (rowOfW c (writerTypes (selectWriters cfg m)) bl))
              (some ((fs.map faceIdx).flatten, (fs.map (faceUV c)).flatten))) := by
  obtain ⟨recs, vbytes, fs, W⟩ := written c cfg m body hwf h
  -- stage 1: the vertex loop yields the rows and leaves exactly the face bytes; what remains of `readBody` is the face
  -- stage and the mesh assembly
  have hread : readBody c defaultReader (writeHeader cfg m) body = (do
      let idxUv ← faceStageBin c cfg.format.endian (findElement (writeHeader cfg m) (nm "face"))
        ((fs.map (encFaceBin c cfg.format.endian)).flatten)
      assemble (bl.map (·.1)) m.attrLen (recs.map (rowOfW c (writerTypes (selectWriters cfg m)) bl)) idxUv) := by
    have hfmt : (writeHeader cfg m).format = cfg.format := rfl
    have hve : findElement (writeHeader cfg m) defaultReader.attributeElement
        = some ⟨nm "vertex", m.attrLen, ((selectWriters cfg m).map WProp.props).flatten⟩ := findElement_vertex cfg m
    rw [readBody_bin c defaultReader (writeHeader cfg m) body _ (headerProps (selectWriters cfg m)) (by rw [hfmt]; exact hf)
      hve (scalarProps_headerProps _) (by simp)]
    have hsum : ((headerProps (selectWriters cfg m)).map (fun p => p.2.size)).sum
        = ((writerTypes (selectWriters cfg m)).map SType.size).sum := by
      rw [← headerProps_types]; simp [Function.comp_def]
    have hvb := writer_vertex_block c cfg.format.endian _ bl hloc recs vbytes
      ((fs.map (encFaceBin c cfg.format.endian)).flatten) (W.enc_bin hf) W.width
    simp only [hfmt, hsum, Int.toNat_natCast, ← W.len, W.body_bin hf]
    simp only [defaultReader, ← hbuilt, hvb, bind, Except.bind]
  refine ⟨recs, W.recs_ok, ?_, ?_⟩
  · intro hne
    rw [hread, findElement_face]
    simp [hne, faceStageBin, bind, Except.bind]
  · intro ht
    obtain ⟨tris, hc, hfs, hidx⟩ := W.tri ht
    refine ⟨tris, fs, hc, hfs, ?_⟩
    have hfaces := readFacesBin_written c cfg.format.endian (hasTexCoord m) fs
      ⟨[0, 0, 0, 0], List.replicate 8 (c.ofInt 0)⟩ ⟨rfl, by simp⟩ W.uv []
    simp only [List.append_nil] at hfaces
    rw [hread, findElement_face]
    simp only [ht, if_true, faceStageBin, listProps_faceProps, findFaceProps_wlp, Option.isNone_some, Bool.false_eq_true,
      if_false, Int.toNat_natCast, triCount_faces m tris fs hc hidx, hfaces, bind, Except.bind, pure, Except.pure]


def Built.key (b : Built) : Nat × Bytes := (b.names.length, b.attr)

section
variable (m : MeshVal α)

theorem set_topo (d : Nat) (n : Bytes) (data : List (List α)) :
    (m.set d n data).topo = m.topo ∧ (m.set d n data).indices = m.indices := by
  simp [MeshVal.set]

theorem find?_filter_of_imp {β : Type} (p q : β → Bool) (hpq : ∀ x, p x = true → q x = true) :
    ∀ (l : List β), (l.filter q).find? p = l.find? p := by
  intro l
  induction l with
  | nil => rfl
  | cons x l ih =>
    by_cases hq : q x = true
    · simp only [List.filter_cons, hq, if_true, List.find?_cons]
      rw [ih]
    · have hp : p x = false := by
        cases hpx : p x with
        | false => rfl
        | true => exact absurd (hpq x hpx) hq
      simp [List.filter_cons, hq, List.find?_cons, hp, ih]

theorem set_find_ne (d d0 : Nat) (n n0 : Bytes) (data : List (List α)) (hne : (d, n) ≠ (d0, n0)) :
    (m.set d n data).find d0 n0 = m.find d0 n0 := by
  have hne' : ¬ (d0 = d ∧ n0 = n) := fun ⟨h1, h2⟩ => hne (by rw [h1, h2])
  have hf := find?_filter_of_imp (fun a : Attr α => decide (a.dim = d0 ∧ a.name = n0))
    (fun a => decide (¬ (a.dim = d ∧ a.name = n)))
    (by
      intro x hx; simp at hx ⊢
      by_cases h1 : x.dim = d
      · right; intro h2; exact hne' ⟨hx.1 ▸ h1, hx.2 ▸ h2⟩
      · left; exact h1) m.attrs
  simp only [MeshVal.set, MeshVal.find]
  split
  · exact hf
  · rw [List.find?_append, hf]
    cases hm : m.attrs.find? (fun a => decide (a.dim = d0 ∧ a.name = n0)) with
    | some a => rfl
    | none =>
      have : ¬ (d = d0 ∧ n = n0) := fun ⟨h1, h2⟩ => hne (by rw [h1, h2])
      simp [this]

theorem set_find_eq (d : Nat) (n : Bytes) (data : List (List α)) (hd : data ≠ []) :
    (m.set d n data).find d n = some ⟨d, n, data⟩ := by
  have hemp : data.isEmpty = false := by cases data <;> simp_all
  simp only [MeshVal.set, MeshVal.find, hemp, Bool.false_eq_true, if_false]
  rw [List.find?_append]
  have : (m.attrs.filter (fun a => decide (¬ (a.dim = d ∧ a.name = n)))).find? (fun a => decide (a.dim = d ∧ a.name = n)) = none := by
    rw [List.find?_eq_none]
    intro x hx
    simp at hx
    have h2 := hx.2
    simp only [decide_eq_true_eq]
    intro ⟨ha, hb⟩
    rcases h2 with h | h
    · exact h ha
    · exact h hb
  rw [this]
  simp

end

def colStep (rows : List (List (List α))) (acc : MeshVal α) (x : Built × Nat) : MeshVal α :=
  acc.set x.1.names.length x.1.attr (rows.map (fun r => r.getD x.2 []))

theorem applyColumns_eq (m : MeshVal α) (built : List Built) (rows : List (List (List α))) :
    applyColumns m built rows = built.zipIdx.foldl (colStep rows) m := rfl

theorem foldl_col_topo (rows : List (List (List α))) (l : List (Built × Nat)) (acc : MeshVal α) :
    (l.foldl (colStep rows) acc).topo = acc.topo ∧ (l.foldl (colStep rows) acc).indices = acc.indices :=
  foldl_inv (fun m => m.topo = acc.topo ∧ m.indices = acc.indices) _ l acc
    (fun m x _ h => by
      have h2 := set_topo m x.1.names.length x.1.attr (rows.map (fun r => r.getD x.2 []))
      exact ⟨h2.1.trans h.1, h2.2.trans h.2⟩) ⟨rfl, rfl⟩

theorem foldl_col_other (rows : List (List (List α))) (d0 : Nat) (n0 : Bytes) (l : List (Built × Nat)) (acc : MeshVal α)
    (hl : ∀ x ∈ l, Built.key x.1 ≠ (d0, n0)) : (l.foldl (colStep rows) acc).find d0 n0 = acc.find d0 n0 :=
  foldl_inv (fun m => m.find d0 n0 = acc.find d0 n0) _ l acc
    (fun m x hx h => (set_find_ne m _ _ _ _ _ (hl x hx)).trans h) rfl

/-- the LAST reader with a key decides the attribute (`UpdateMesh` order) -/
theorem applyColumns_find (m : MeshVal α) (built : List Built) (rows : List (List (List α))) (j : Nat)
    (hj : j < built.length) (hlast : ∀ j' (hj' : j' < built.length), j < j' → Built.key built[j'] ≠ Built.key built[j])
    (hne : rows ≠ []) :
    (applyColumns m built rows).find built[j].names.length built[j].attr
      = some ⟨built[j].names.length, built[j].attr, rows.map (fun r => r.getD j [])⟩ := by
  rw [applyColumns_eq]
  have hsplit : built.zipIdx = (built.take j).zipIdx ++ (built[j], j) :: (built.drop (j + 1)).zipIdx (j + 1) := by
    have hb : built = built.take j ++ built[j] :: built.drop (j + 1) := by simp
    have key : ∀ (l pre post : List Built) (x : Built), l = pre ++ x :: post →
        l.zipIdx = pre.zipIdx ++ (x, pre.length) :: post.zipIdx (pre.length + 1) := by
      intro l pre post x hl; subst hl; simp [List.zipIdx_append, List.zipIdx_cons]
    have := key built _ _ _ hb
    simpa [Nat.min_eq_left (Nat.le_of_lt hj)] using this
  rw [hsplit, List.foldl_append, List.foldl_cons, foldl_col_other rows _ _ _ _ ?_]
  · exact set_find_eq _ _ _ _ (by cases rows with
      | nil => exact absurd rfl hne
      | cons r rs => simp)
  · intro x hx
    obtain ⟨k, hk, hke⟩ := List.getElem_of_mem hx
    simp at hk
    have : x = (built[j + 1 + k]'(by omega), j + 1 + k) := by
      rw [← hke]; simp [List.getElem_zipIdx]
    rw [this]
    exact hlast (j + 1 + k) (by omega) (by omega)


theorem headerProps_cons (w : WProp) (ws : List WProp) :
    headerProps (w :: ws) = w.names.map (fun n => (n, w.ty)) ++ headerProps ws := by simp [headerProps]

/-- header and record are parallel flattenings: the `k`-th name of writer `w` and the `k`-th component it emits sit
at the same position -/
theorem parallel_at {ws : List WProp} {parts : List (List α)}
    (hall : All2 (fun (w : WProp) (p : List α) => p.length = w.names.length) ws parts) :
    ∀ (w : WProp) (p : List α), (w, p) ∈ ws.zip parts → ∀ k (hk : k < w.names.length) (hk' : k < p.length),
      ∃ i : Nat, (headerProps ws)[i]? = some (w.names[k], w.ty) ∧ (parts.flatten)[i]? = some p[k] := by
  induction hall with
  | nil => intro w p h; simp at h
  | @cons w0 p0 ws' parts' hlen _ ih =>
    intro w p hmem k hk hk'
    simp only [List.zip_cons_cons, List.mem_cons] at hmem
    rcases hmem with heq | hmem
    · obtain ⟨rfl, rfl⟩ := Prod.mk.inj heq
      refine ⟨k, ?_, ?_⟩
      · rw [headerProps_cons, List.getElem?_append_left (by simpa using hk)]
        simp [hk]
      · rw [List.flatten_cons, List.getElem?_append_left hk']
        simp [hk']
    · obtain ⟨i, h1, h2⟩ := ih w p hmem k hk hk'
      refine ⟨w0.names.length + i, ?_, ?_⟩
      · rw [headerProps_cons, List.getElem?_append_right (by simp)]
        simpa using h1
      · rw [List.flatten_cons, List.getElem?_append_right (by omega)]
        simpa [hlen] using h2

theorem idx_unique (props : List (Bytes × SType)) (hnd : (props.map (·.1)).Nodup) (i i' : Nat) (n : Bytes) (t t' : SType)
    (h : props[i]? = some (n, t)) (h' : props[i']? = some (n, t')) : i = i' := by
  obtain ⟨hi, he⟩ := List.getElem?_eq_some_iff.mp h
  obtain ⟨hi', he'⟩ := List.getElem?_eq_some_iff.mp h'
  by_cases hii : i = i'
  · exact hii
  · exfalso
    rcases Nat.lt_or_gt_of_ne hii with hlt | hgt
    · exact (List.pairwise_iff_getElem.mp hnd) i i' (by simpa using hi) (by simpa using hi') hlt (by simp [he, he'])
    · exact (List.pairwise_iff_getElem.mp hnd) i' i (by simpa using hi') (by simpa using hi) hgt (by simp [he, he'])

theorem filterMap_eq_of_pointwise {β : Type} (f : Nat → Option β) :
    ∀ (l : List Nat) (out : List β), l.length = out.length →
      (∀ k (hk : k < l.length) (hk' : k < out.length), f l[k] = some out[k]) → l.filterMap f = out := by
  intro l
  induction l with
  | nil => intro out hl _; cases out <;> simp_all
  | cons x l ih =>
    intro out hl h
    cases out with
    | nil => simp at hl
    | cons y out =>
      have h0 := h 0 (by simp) (by simp)
      simp at h0
      have := ih out (by simpa using hl) (fun k hk hk' => by
        have := h (k + 1) (by simpa using hk) (by simpa using hk')
        simpa using this)
      simp [List.filterMap_cons, h0, this]


/-- a built reader located where its own names are in the header -/
structure LocatedNamed (props : List (Bytes × SType)) (b : Built) (idxs : List Nat) : Prop where
  loc : Located (props.map (·.2)) b idxs
  len : idxs.length = b.names.length
  named : ∀ k (hk : k < idxs.length) (hk' : k < b.names.length), (props[idxs[k]]?).map (·.1) = some b.names[k]

/-- header and record are parallel flattenings: a writer that fires emits, for vertex `v`, one component per name, and
its `k`-th name and `k`-th component sit at the same position of header and record -/
theorem writer_slot (m : MeshVal α) (hwf : m.WF = true) (v : Nat) (ws : List WProp) (vals : List α)
    (hrec : vertexRecord m ws v = .ok vals) (w : WProp) (hw : w ∈ ws) :
    ∃ comps, writerValues m w v = .ok comps ∧ comps.length = w.names.length ∧
      ∀ k (hk : k < w.names.length) (hk' : k < comps.length),
        ∃ i : Nat, (headerProps ws)[i]? = some (w.names[k], w.ty) ∧ vals[i]? = some comps[k] := by
  simp only [vertexRecord] at hrec
  cases hp : ws.mapM (fun w => writerValues m w v) with
  | error e => simp [hp, bind, Except.bind] at hrec
  | ok parts =>
    simp [hp, bind, Except.bind, pure, Except.pure] at hrec
    subst hrec
    have hall := mapM_ok_forall₂ _ _ _ hp
    have hlens : All2 (fun (w : WProp) (p : List α) => p.length = w.names.length) ws parts :=
      hall.imp (fun w p h => writerValues_length m hwf w v p h)
    obtain ⟨comps, hwv⟩ := hall.exists_left w hw
    have hzip : (w, comps) ∈ ws.zip parts := by
      clear hlens hp
      induction hall with
      | nil => simp at hw
      | @cons w0 p0 ws' parts' h0 _ ih =>
        simp at hw
        rcases hw with rfl | hw
        · rw [hwv] at h0; simp at h0; subst h0; simp
        · simp only [List.zip_cons_cons, List.mem_cons]; exact .inr (ih hw)
    exact ⟨comps, hwv, writerValues_length m hwf w v comps hwv, parallel_at hlens w comps hzip⟩

/-- what located readers produce for one written record: per reader, `F dim t v` at the header positions of its components -/
def rowOfF (F : Nat → SType → α → Option α) (tys : List SType) (bl : List (Built × List Nat)) (vals : List α) :
    List (List α) :=
  bl.map (fun p => p.2.filterMap (fun i =>
    match tys[i]?, vals[i]? with
    | some t, some v => F p.1.names.length t v
    | _, _ => none))

theorem rowOfW_eq (c : Coding α) (tys : List SType) (bl : List (Built × List Nat)) (vals : List α) :
    rowOfW c tys bl vals = rowOfF (fun d t v => some (quantBin c d t v)) tys bl vals := rfl

/-- a reader that sits on a writer's properties, at one vertex `v`: what it makes of the written record (`F` per stored
scalar) is the image `G` of exactly the components the writer emitted for `v` -/
theorem record_at (m : MeshVal α) (hwf : m.WF = true) (v : Nat) (ws : List WProp) (vals : List α)
    (hrec : vertexRecord m ws v = .ok vals) (hnd : ((headerProps ws).map (·.1)).Nodup)
    (w : WProp) (hw : w ∈ ws) (comps : List α) (hwv : writerValues m w v = .ok comps)
    (idxs : List Nat) (hlen : idxs.length = w.names.length)
    (hidx : ∀ k (hk : k < idxs.length) (hk' : k < w.names.length), ((headerProps ws)[idxs[k]]?).map (·.1) = some w.names[k])
    (F : SType → α → Option α) (G : α → α) (hF : ∀ x ∈ comps, F w.ty x = some (G x)) :
    idxs.filterMap (fun i =>
        match (writerTypes ws)[i]?, vals[i]? with
        | some t, some x => F t x
        | _, _ => none)
      = comps.map G := by
  obtain ⟨comps', hwv', hcl, hslot⟩ := writer_slot m hwf v ws vals hrec w hw
  obtain rfl : comps' = comps := by rw [hwv] at hwv'; injection hwv' with h; exact h.symm
  apply filterMap_eq_of_pointwise
  · simp [hlen, hcl]
  · intro k hk hk'
    simp only [List.length_map] at hk'
    obtain ⟨i, h1, h2⟩ := hslot k (by omega) hk'
    have hik := hidx k hk (by omega)
    cases hpi : (headerProps ws)[idxs[k]]? with
    | none => simp [hpi] at hik
    | some q =>
      simp [hpi] at hik
      have hq : (headerProps ws)[idxs[k]]? = some (w.names[k]'(by omega), q.2) := by rw [hpi, ← hik]
      have hii := idx_unique (headerProps ws) hnd i idxs[k] _ _ _ h1 hq
      rw [hii] at h1 h2
      have hty : (writerTypes ws)[idxs[k]]? = some w.ty := by
        rw [← headerProps_types, List.getElem?_map, h1]; rfl
      simp [hty, h2, hF _ (List.getElem_mem hk')]


theorem mapM_map_except {ι β γ : Type} (g : ι → R β) (f : β → γ) (l : List ι) :
    l.mapM (fun i => (g i).map f) = (l.mapM g).map (List.map f) := ListM.mapM_map_right

theorem gather_map {β γ : Type} (f : β → γ) (data : List β) (idx : List Int) :
    gather (data.map f) idx = (gather data idx).map (List.map f) := by
  simp only [gather]
  rw [← mapM_map_except]
  congr 1
  funext i
  by_cases hi : i < 0
  · simp [hi, Except.map]
  · simp only [hi, if_false, List.getElem?_toArray, List.getElem?_map]
    cases data[i.toNat]? <;> rfl

theorem gather_ok {β : Type} (data : List β) : ∀ (idx : List Int), (∀ i ∈ idx, 0 ≤ i ∧ i.toNat < data.length) →
    ∃ out, gather data idx = .ok out := by
  intro idx
  simp only [gather]
  induction idx with
  | nil => intro _; exact ⟨[], rfl⟩
  | cons i idx ih =>
    intro h
    obtain ⟨h0, h1⟩ := h i (by simp)
    obtain ⟨out, hout⟩ := ih (fun j hj => h j (by simp [hj]))
    have hi : ¬ i < 0 := by omega
    refine ⟨data[i.toNat] :: out, ?_⟩
    rw [List.mapM_cons, hout]
    simp [hi, List.getElem?_eq_getElem h1, bind, Except.bind, pure, Except.pure]

theorem quant_bin_some (c : Coding α) (f : Format) (hf : f ≠ .ascii) (dim : Nat) (t : SType) (v v' : α) (bs : Bytes)
    (h : encScalarBin c f.endian t v' = .ok bs) : quant c f dim t v = some (quantBin c dim t v) := by
  have himp : ∃ bs', encScalarBin c f.endian t v = .ok bs' := by
    cases t <;> simp [encScalarBin] at h ⊢
  obtain ⟨bs', hb⟩ := himp
  have hd := dec_enc_scalar c f.endian dim t v bs' [] [] hb
  simp only [List.nil_append, List.append_nil, List.length_nil] at hd
  cases f with
  | ascii => exact absurd rfl hf
  | le => simp [quant, hb, hd, Except.toOption]
  | be => simp [quant, hb, hd, Except.toOption]


theorem WF_len (m : MeshVal α) (h : m.WF = true) : ∀ a ∈ m.attrs, a.data.length = m.attrLen := by
  intro a ha
  simp only [MeshVal.WF, Bool.and_eq_true, List.all_eq_true, decide_eq_true_eq] at h
  exact (h.1.1.2 a ha).1.1.2

theorem WF_idx (m : MeshVal α) (h : m.WF = true) : ∀ i ∈ m.indices, 0 ≤ i ∧ i < m.attrLen := by
  intro i hi
  simp only [MeshVal.WF, Bool.and_eq_true, List.all_eq_true, decide_eq_true_eq] at h
  exact h.1.2 i hi

/-- the column a reader sitting on writer `w`'s properties accumulates over the whole vertex block: the attribute's
array, every component replaced by its image `G` -/
theorem column_of_writer (m : MeshVal α) (hwf : m.WF = true) (ws : List WProp)
    (hnd : ((headerProps ws).map (·.1)).Nodup) (recs : List (List α))
    (hrecs : (List.range m.attrLen).mapM (vertexRecord m ws) = .ok recs)
    (w : WProp) (hw : w ∈ ws) (a : Attr α) (ha : m.find w.dim w.attr = some a)
    (bl : List (Built × List Nat)) (j : Nat) (hj : j < bl.length) (hnames : bl[j].1.names = w.names)
    (hlen : bl[j].2.length = bl[j].1.names.length)
    (hnamed : ∀ k (hk : k < bl[j].2.length) (hk' : k < bl[j].1.names.length),
      ((headerProps ws)[bl[j].2[k]]?).map (·.1) = some bl[j].1.names[k])
    (F : Nat → SType → α → Option α) (G : α → α)
    (hF : ∀ comps ∈ a.data, ∀ x ∈ comps, F w.dim w.ty x = some (G x)) :
    recs.map (fun vals => (rowOfF F (writerTypes ws) bl vals).getD j []) = a.data.map (List.map G) := by
  obtain ⟨hrl, -, hrec⟩ := vertexRecords_shape m hwf ws recs hrecs
  have hal : a.data.length = m.attrLen := WF_len m hwf a (find_mem m _ _ a ha).1
  apply List.ext_getElem
  · simp [hrl, hal]
  · intro v hv hv'
    simp only [List.length_map] at hv hv'
    have hwv : writerValues m w v = .ok a.data[v] := by
      simp [writerValues, ha, List.getElem?_eq_getElem hv']
    have := record_at m hwf v ws recs[v] (hrec v hv) hnd w hw a.data[v] hwv bl[j].2 (by rw [hlen, hnames])
      (fun k hk hk' => by simpa [hnames] using hnamed k hk (by rw [hnames]; exact hk'))
      (F w.dim) G (hF _ (List.getElem_mem hv'))
    simp only [List.getElem_map, rowOfF, List.getD_eq_getElem?_getD, List.getElem?_map,
      List.getElem?_eq_getElem hj, Option.map_some, Option.getD_some]
    have hdimeq : bl[j].1.names.length = w.dim := by rw [hnames]; rfl
    simp only [hdimeq]
    exact this


/-- the face's indices are ordinary vertex numbers -/
def IdxOk (f : WFace α) : Prop :=
  ∃ a b d : Nat, f.idx = ((a : Int), (b : Int), (d : Int)) ∧ a < 2 ^ 31 ∧ b < 2 ^ 31 ∧ d < 2 ^ 31

theorem idxOk_of_wf (m : MeshVal α) (hwf : m.WF = true) (hsize : m.attrLen ≤ 2 ^ 31) (tris : List (Int × Int × Int))
    (hc : chunk3 m.indices = some tris) (fs : List (WFace α)) (hidx : fs.map (·.idx) = tris) : ∀ f ∈ fs, IdxOk f := by
  intro f hf
  have hfl := chunk3_flatten _ _ hc
  have hmem : ∀ i ∈ [f.idx.1, f.idx.2.1, f.idx.2.2], i ∈ m.indices := by
    intro i hi
    rw [hfl, ← hidx]
    simp only [List.map_map, List.mem_flatten, List.mem_map, Function.comp]
    exact ⟨[f.idx.1, f.idx.2.1, f.idx.2.2], ⟨f, hf, rfl⟩, hi⟩
  have h1 := WF_idx m hwf _ (hmem f.idx.1 (by simp))
  have h2 := WF_idx m hwf _ (hmem f.idx.2.1 (by simp))
  have h3 := WF_idx m hwf _ (hmem f.idx.2.2 (by simp))
  refine ⟨f.idx.1.toNat, f.idx.2.1.toNat, f.idx.2.2.toNat, ?_, by omega, by omega, by omega⟩
  have e0 : ((f.idx.1.toNat : Nat) : Int) = f.idx.1 := by omega
  have e1 : ((f.idx.2.1.toNat : Nat) : Int) = f.idx.2.1 := by omega
  have e2 : ((f.idx.2.2.toNat : Nat) : Int) = f.idx.2.2 := by omega
  rw [e0, e1, e2]

/-- vertex numbers below 2³¹ survive `int32(uint32(·))`: the binary reader gets back the index buffer -/
theorem faces_indices (m : MeshVal α) (hwf : m.WF = true) (hsize : m.attrLen ≤ 2 ^ 31)
    (tris : List (Int × Int × Int)) (fs : List (WFace α)) (hc : chunk3 m.indices = some tris)
    (hidx : fs.map (·.idx) = tris) : (fs.map faceIdx).flatten = m.indices := by
  rw [chunk3_flatten _ _ hc, ← hidx, List.map_map]
  congr 1
  apply List.map_congr_left
  intro f hf
  obtain ⟨a, b, d, he, ha, hb, hd⟩ := idxOk_of_wf m hwf hsize tris hc fs hidx f hf
  have hr : ∀ n : Nat, n < 2 ^ 31 → toInt32 (ofInt32 (n : Int)) = n := fun n hn => toInt32_ofInt32' _ ⟨by omega, by omega⟩
  simp only [faceIdx, Function.comp, he, hr a ha, hr b hb, hr d hd]

/-- the claim stage, as witnesses: the readers the default reader builds on the written header are located where their
names are, and every writer whose names the reader recognises (`comesBack`) has its reader, the last one with that key -/
structure ClaimOK (cfg : WriterCfg) (m : MeshVal α) (bl : List (Built × List Nat)) : Prop where
  built : bl.map (·.1) = buildAll true (headerProps (selectWriters cfg m)) defaultReaders true
  located : ∀ p ∈ bl, LocatedNamed (headerProps (selectWriters cfg m)) p.1 p.2
  demanded : ∀ w ∈ selectWriters cfg m, comesBack w = true →
    ∃ j, ∃ hj : j < bl.length, bl[j].1.attr = w.attr ∧ bl[j].1.names = w.names ∧
      ∀ j' (hj' : j' < bl.length), j < j' → Built.key bl[j'].1 ≠ Built.key bl[j].1


theorem encRecordBin_ok_at (c : Coding α) (e : Endian) : ∀ (tys : List SType) (vals : List α) (rec : Bytes),
    encRecordBin c e tys vals = .ok rec → ∀ i (hi : i < tys.length) (hv : i < vals.length),
      ∃ bs, encScalarBin c e tys[i] vals[i] = .ok bs := by
  intro tys
  induction tys with
  | nil => intro _ _ _ i hi; simp at hi
  | cons t tys ih =>
    intro vals rec henc i hi hv
    match vals, hv with
    | v :: vals, hv =>
      obtain ⟨b, r, hb, hr, -⟩ := encRecordBin_cons_ok c e t tys v vals rec henc
      cases i with
      | zero => exact ⟨b, by simpa using hb⟩
      | succ i => simpa using ih vals r hr i (by simpa using hi) (by simpa using hv)

/-- a written scalar type is one the binary writer implements (otherwise `writeBody` panics) -/
theorem written_type_implemented (c : Coding α) (e : Endian) (m : MeshVal α) (hwf : m.WF = true) (ws : List WProp)
    (vals : List α) (rec : Bytes) (v : Nat) (hrec : vertexRecord m ws v = .ok vals)
    (henc : encRecordBin c e (writerTypes ws) vals = .ok rec) (w : WProp) (hw : w ∈ ws) (hne : w.names ≠ []) :
    ∃ v' bs, encScalarBin c e w.ty v' = .ok bs := by
  obtain ⟨comps, _, hcl, hslot⟩ := writer_slot m hwf v ws vals hrec w hw
  have h0 : 0 < w.names.length := List.length_pos_iff.mpr hne
  obtain ⟨i, h1, h2⟩ := hslot 0 h0 (by omega)
  obtain ⟨hi, _⟩ := List.getElem?_eq_some_iff.mp h2
  have hty : (writerTypes ws)[i]? = some w.ty := by
    rw [← headerProps_types, List.getElem?_map, h1]; rfl
  obtain ⟨hi', hte⟩ := List.getElem?_eq_some_iff.mp hty
  obtain ⟨bs, hbs⟩ := encRecordBin_ok_at c e _ _ _ henc i hi' hi
  exact ⟨_, bs, by rw [← hte]; exact hbs⟩


theorem comesBack_names_ne (w : WProp) (h : comesBack w = true) : w.names ≠ [] := by
  intro hn
  simp only [comesBack, hn, Bool.or_eq_true, List.any_eq_true, Bool.and_eq_true, decide_eq_true_eq] at h
  rcases h with ⟨r, hr, _, h2⟩ | h
  · have : ∀ r ∈ defaultReaders, r.names ≠ [] ∧ r.names.take 3 ≠ [] := by decide +kernel
    rcases h2 with h2 | ⟨_, h2⟩
    · exact (this r hr).1 h2
    · exact (this r hr).2 h2
  · simp at h

/-- the corners of attribute `(dim, attr)` of a mesh whose array is `a.data` mapped by `g` -/
theorem cornerVals_mapped (m back : MeshVal α) (hidx : back.indices = m.indices) (d : Nat) (n : Bytes) (a : Attr α)
    (ha : m.find d n = some a) (g : List α → List α)
    (hb : back.find d n = some ⟨d, n, a.data.map g⟩) (orig : List (List α)) (ho : gather a.data m.indices = .ok orig) :
    cornerVals m d n = some orig ∧ cornerVals back d n = some (orig.map g) := by
  by_cases hemp : m.indices = []
  · have : orig = [] := by
      rw [hemp] at ho; simp [gather, pure, Except.pure] at ho; exact ho
    simp [cornerVals, hidx, hemp, this]
  · have he : m.indices.isEmpty = false := by cases hm : m.indices <;> simp_all
    simp [cornerVals, hidx, he, ha, hb, gather_map, ho, Except.map, Except.toOption]


def posOf (props : List (Bytes × SType)) (n : Bytes) : Nat := props.findIdx (fun p => p.1 = n)

def locatedNamedB (props : List (Bytes × SType)) (b : Built) (idxs : List Nat) : Bool :=
  match b.ty with
  | none => false
  | some t =>
    idxs.all (fun i => (props[i]?).map (·.2) == some t) &&
    b.offs == idxs.map (offsetOf (props.map (·.2))) &&
    idxs.length == b.names.length &&
    (idxs.zip b.names).all (fun x => (props[x.1]?).map (·.1) == some x.2)

/-- the `named` field of `LocatedNamed` / `LocatedNamedA`, from the pointwise check over `idxs.zip names` -/
theorem named_of_zip (props : List (Bytes × SType)) (idxs : List Nat) (names : List Bytes)
    (h : ∀ x ∈ idxs.zip names, (props[x.1]?).map (·.1) = some x.2) :
    ∀ k (hk : k < idxs.length) (hk' : k < names.length), (props[idxs[k]]?).map (·.1) = some names[k] := by
  intro k hk hk'
  have hmem : (idxs[k], names[k]) ∈ idxs.zip names := by
    have : (idxs.zip names)[k]'(by simp; omega) = (idxs[k], names[k]) := by simp
    rw [← this]; exact List.getElem_mem _
  exact h _ hmem

theorem locatedNamedB_sound (props : List (Bytes × SType)) (b : Built) (idxs : List Nat)
    (h : locatedNamedB props b idxs = true) : LocatedNamed props b idxs := by
  simp only [locatedNamedB] at h
  cases hty : b.ty with
  | none => simp [hty] at h
  | some t =>
    simp only [hty, Bool.and_eq_true, List.all_eq_true, beq_iff_eq] at h
    obtain ⟨⟨⟨h1, h2⟩, h3⟩, h4⟩ := h
    refine ⟨⟨⟨t, hty, ?_⟩, h2⟩, h3, ?_⟩
    · intro i hi
      have := h1 i hi
      cases hp : props[i]? with
      | none => simp [hp] at this
      | some p =>
        obtain ⟨hi', hpe⟩ := List.getElem?_eq_some_iff.mp hp
        simp [hp] at this
        exact ⟨by simpa using hi', by simp [hpe, this]⟩
    · exact named_of_zip props idxs b.names h4

def demandedB (ws : List WProp) (bl : List (Built × List Nat)) : Bool :=
  ws.all (fun w => !comesBack w ||
    (List.range bl.length).any (fun j =>
      match bl[j]? with
      | none => false
      | some p =>
        p.1.attr == w.attr && p.1.names == w.names &&
        (List.range bl.length).all (fun j' => !decide (j < j') ||
          match bl[j']? with
          | none => true
          | some p' => decide (Built.key p'.1 ≠ Built.key p.1))))

/-- the certificate: locate every built reader by name lookup and check everything `ClaimOK` asks for -/
def claimCheck (cfg : WriterCfg) (m : MeshVal α) : Option (List (Built × List Nat)) :=
  let props := headerProps (selectWriters cfg m)
  let bl := (buildAll true props defaultReaders true).map (fun b => (b, b.names.map (posOf props)))
  if bl.all (fun p => locatedNamedB props p.1 p.2) && demandedB (selectWriters cfg m) bl then some bl else none

theorem demandedB_sound (ws : List WProp) (bl : List (Built × List Nat)) (hd : demandedB ws bl = true) :
    ∀ w ∈ ws, comesBack w = true →
      ∃ j, ∃ hj : j < bl.length, bl[j].1.attr = w.attr ∧ bl[j].1.names = w.names ∧
        ∀ j' (hj' : j' < bl.length), j < j' → Built.key bl[j'].1 ≠ Built.key bl[j].1 := by
  intro w hw hcb
  simp only [demandedB, List.all_eq_true] at hd
  have := hd w hw
  simp only [hcb, Bool.not_true, Bool.false_or, List.any_eq_true, List.mem_range] at this
  obtain ⟨j, hj, hjj⟩ := this
  rw [List.getElem?_eq_getElem hj] at hjj
  simp only [Bool.and_eq_true, beq_iff_eq, List.all_eq_true, List.mem_range] at hjj
  obtain ⟨⟨ha, hn⟩, hlast⟩ := hjj
  refine ⟨j, hj, ha, hn, ?_⟩
  intro j' hj' hlt
  have := hlast j' hj'
  rw [List.getElem?_eq_getElem hj'] at this
  simpa [hlt] using this

section
variable (cfg : WriterCfg) (m : MeshVal α) (binary : Bool)

theorem claimCheck_sound (bl : List (Built × List Nat))
    (h : claimCheck cfg m = some bl) : ClaimOK cfg m bl := by
  simp only [claimCheck] at h
  split at h
  · rename_i hc
    simp at h
    subst h
    simp only [Bool.and_eq_true, List.all_eq_true] at hc
    exact ⟨by simp [Function.comp_def], fun p hp => locatedNamedB_sound _ _ _ (hc.1 p hp), demandedB_sound _ _ hc.2⟩
  · simp at h


theorem buildReader_all (props : List (Bytes × SType)) (r : RProp) (hlen : 2 ≤ r.names.length)
    (hn : r.names.Nodup) (hnd : (props.map (·.1)).Nodup) (t : SType) (idx : List Nat)
    (hl : idx.length = r.names.length)
    (hidx : ∀ k (hk : k < r.names.length), ∃ hi : idx[k]'(by omega) < props.length, props[idx[k]'(by omega)] = (r.names[k], t)) :
    buildReader binary props r = some ⟨r.attr, r.names, idx.map (locOf binary props), some t⟩ := by
  have hne : r.names ≠ [] := by intro h; rw [h] at hlen; simp at hlen
  have hb := buildVec_spec binary props r.attr r.names hn hne hnd t idx hl hidx
  obtain ⟨attr, names, ign⟩ := r
  match names, hlen with
  | a :: b :: rest, _ =>
    simp only [buildReader]
    simp only at hb
    rw [hb]

end

end PlyCompose
end PolyVerif
