/-
  C09 — the closed polyhedron of one cell: the table's triangles plus CAP triangles on the six cell faces
  (the inside part of each face, fanned from a face corner), and its signed volume at the corners of the
  parameter cube.  Core Lean only.

  Vertex ids of the cell polyhedron: `0 … 11` = the vertex on cube edge `e`, `12 + i` = cube corner `i`.
-/
import PolyVerif.Lemmas.MarchBits
import PolyVerif.Lemmas.MarchBalance

namespace PolyVerif
namespace C09
open PolyVerif.March PolyVerif.Gen.March

/-- cube edge joining two cube corners (12 = none) -/
def edgeBetween (c1 c2 : Nat) : Nat :=
  ((List.range 12).find? fun e => (cA e == c1 && cB e == c2) || (cA e == c2 && cB e == c1)).getD 12

/-- the four corners of face `(a, s)`, counter-clockwise seen from `+e_a` -/
def faceCycle (a : Nat) (s : Int) : List Pt :=
  if a = 0 then [(s, 0, 0), (s, 1, 0), (s, 1, 1), (s, 0, 1)]
  else if a = 1 then [(0, s, 0), (0, s, 1), (1, s, 1), (1, s, 0)]
  else [(0, 0, s), (1, 0, s), (1, 1, s), (0, 1, s)]

/-- … seen from OUTSIDE the cell: the high face as is, the low face reversed (same first corner) -/
def outerCycle (a : Nat) (s : Int) : List Pt :=
  match faceCycle a s with
  | [c0, c1, c2, c3] => if s = 1 then [c0, c1, c2, c3] else [c0, c3, c2, c1]
  | l => l

/-- the part of the face boundary that bounds the inside region, along one directed cube edge `p → q` -/
def edgePiece (bits : List Bool) (p q : Pt) : List (Nat × Nat) :=
  let ci := cornerAt p; let cj := cornerAt q
  let bi := bits.getD ci false; let bj := bits.getD cj false
  if bi && bj then [(12 + ci, 12 + cj)]
  else if bi then [(12 + ci, edgeBetween ci cj)]
  else if bj then [(edgeBetween ci cj, 12 + cj)]
  else []

/-- directed segments the case draws in face `(a, s)`, in cube-edge indices -/
def faceSegsIdx (c : Nat) (a : Nat) (s : Int) : List (Nat × Nat) :=
  (caseSegs c).filter fun e => onFace a s (edgeRel e.1) && onFace a s (edgeRel e.2)

/-- boundary chain of the cap on face `(a, s)`: the pieces of the four face edges next to inside corners,
    and the REVERSES of the segments the case draws in that face -/
def capChain (bits : List Bool) (a : Nat) (s : Int) : List (Nat × Nat) :=
  (match outerCycle a s with
   | [c0, c1, c2, c3] => edgePiece bits c0 c1 ++ edgePiece bits c1 c2 ++ edgePiece bits c2 c3 ++ edgePiece bits c3 c0
   | _ => [])
  ++ (faceSegsIdx (caseIndex bits) a s).map swapE

/-- cap triangles of face `(a, s)`: fan of the chain from the first corner of the face -/
def capTrisFace (bits : List Bool) (a : Nat) (s : Int) : List (Nat × Nat × Nat) :=
  let apex := 12 + cornerAt ((outerCycle a s).getD 0 (0, 0, 0))
  (capChain bits a s).filterMap fun e => if e.1 != apex && e.2 != apex then some (apex, e.1, e.2) else none

def capTris (bits : List Bool) : List (Nat × Nat × Nat) :=
  capTrisFace bits 0 0 ++ capTrisFace bits 0 1 ++ capTrisFace bits 1 0 ++ capTrisFace bits 1 1
    ++ capTrisFace bits 2 0 ++ capTrisFace bits 2 1

/-- the part of the cell polyhedron that can have volume against the cell's LOW corner: the table's triangles and the caps of
    the three HIGH faces (the caps of the three low faces lie in the coordinate planes through that corner) -/
def solidTris (bits : List Bool) : List (Nat × Nat × Nat) :=
  caseTris (caseIndex bits) ++ (capTrisFace bits 0 1 ++ capTrisFace bits 1 1 ++ capTrisFace bits 2 1)

/-- the closed polyhedron of the cell: table triangles, then caps -/
def polyTris (bits : List Bool) : List (Nat × Nat × Nat) := caseTris (caseIndex bits) ++ capTris bits

/-- cube edges whose two corners have different bits (the edges that carry a vertex) -/
def crossEdges (bits : List Bool) : List Nat :=
  (List.range 12).filter fun e => bits.getD (cA e) false != bits.getD (cB e) false

/-! ### all corners of the parameter cube at once

The volume of the cell solid is affine in the position of each edge vertex, so its sign on the parameter cube is decided by
its values at the corners, where every vertex sits at an end of its edge: up to `2 ^ 12` corners per sign pattern.  Evaluating
them one by one is what makes the kernel slow (it pays per reduction step, not per bit), so all corner values of a triangle
list are computed as ONE natural number with a 16-bit slot per corner: a triangle that does not touch edge `e` contributes the
same value to both halves of the cube, which is one multiplication by `1 + 65536 ^ 2 ^ k`.

A corner of the parameter cube is a function `hi : Nat → Bool`: `hi e` says that the vertex of cube edge `e` sits at the high
end of its edge.  A slot holds `Σ (3 + det)` over the triangle list, at most `6 · length`; the sweep checks `length < 10000`, so
slots never carry into one another. -/

/-- position of vertex `id`, an edge vertex sitting at the high (`hi`) or low end of its edge, as a lattice point -/
def vposIk (hi : Bool) (id : Nat) : Pt :=
  if id < 12 then
    let k : Int := if hi then 1 else 0
    let l := edgeRel id
    let u := unit l.2
    (l.1.1 + k * u.1, l.1.2.1 + k * u.2.1, l.1.2.2 + k * u.2.2)
  else cornerOff (id - 12)

def det3I (a b c : Pt) : Int :=
  a.1 * (b.2.1 * c.2.2 - b.2.2 * c.2.1) - a.2.1 * (b.1 * c.2.2 - b.2.2 * c.1) + a.2.2 * (b.1 * c.2.1 - b.2.1 * c.1)

/-- `3 + det` of triangle `t` at the corner where exactly the edge vertices with `hi e` are at the high end
    (`|det| ≤ 3` for lattice points of the unit cube, so nothing is cut off) -/
def triVal (t : Nat × Nat × Nat) (hi : Nat → Bool) : Nat :=
  (3 + det3I (vposIk (hi t.1) t.1) (vposIk (hi t.2.1) t.2.1) (vposIk (hi t.2.2) t.2.2)).toNat

def setHi (hi : Nat → Bool) (e : Nat) : Nat → Bool := fun i => i == e || hi i

/-- the corner reached from `hi` by moving up those edges of `E` that `g` selects -/
def reach (E : List Nat) (hi g : Nat → Bool) : Nat → Bool := fun i => hi i || (decide (i ∈ E) && g i)

/-- the values of `f` at all corners of the parameter cube over the edges `E` that lie above `hi` (the edges of `E` moved up
    or not, everything else as in `hi`), one slot per corner: the low half of the slots has the head of `E` at its low end -/
def pack (f : (Nat → Bool) → Nat) : List Nat → (Nat → Bool) → Nat
  | [], hi => f hi
  | e :: r, hi => pack f r hi + 65536 ^ (2 ^ r.length) * pack f r (setHi hi e)

/-- `pack (triVal t)`, branching only on the (at most three) edges the triangle touches -/
def packTri (t : Nat × Nat × Nat) : List Nat → (Nat → Bool) → Nat
  | [], hi => triVal t hi
  | e :: r, hi =>
    if e = t.1 ∨ e = t.2.1 ∨ e = t.2.2 then packTri t r hi + 65536 ^ (2 ^ r.length) * packTri t r (setHi hi e)
    else packTri t r hi * (1 + 65536 ^ (2 ^ r.length))

/-- slot-wise sum of `3 + det` over a triangle list: six times its signed volume against the cell's low corner, shifted by
    `3 · length`, at every corner -/
def packTris (E : List Nat) : List (Nat × Nat × Nat) → Nat
  | [] => 0
  | t :: r => packTri t E (fun _ => false) + packTris E r

/-- `p` holds in every one of the `2 ^ d` slots -/
def allSlots (p : Nat → Bool) : Nat → Nat → Bool
  | 0, X => p X
  | d + 1, X => allSlots p d (X % 65536 ^ (2 ^ d)) && allSlots p d (X / 65536 ^ (2 ^ d))

theorem pack_add (f g : (Nat → Bool) → Nat) (E : List Nat) : ∀ hi,
    pack (fun h => f h + g h) E hi = pack f E hi + pack g E hi := by
  induction E with
  | nil => intro hi; rfl
  | cons e r ih => intro hi; simp only [pack, ih, Nat.mul_add]; omega

theorem pack_zero (E : List Nat) : ∀ hi, pack (fun _ => 0) E hi = 0 := by
  induction E with
  | nil => intro hi; rfl
  | cons e r ih => intro hi; simp [pack, ih]

theorem setHi_comm (hi : Nat → Bool) (a b : Nat) : setHi (setHi hi a) b = setHi (setHi hi b) a := by
  funext i; simp only [setHi]; cases (i == a) <;> cases (i == b) <;> simp

theorem pack_setHi (f : (Nat → Bool) → Nat) (e : Nat) (E : List Nat) : ∀ hi,
    pack f E (setHi hi e) = pack (fun h => f (setHi h e)) E hi := by
  induction E with
  | nil => intro hi; rfl
  | cons a r ih => intro hi; simp only [pack, ← ih, setHi_comm hi e a]

theorem packTri_eq (t : Nat × Nat × Nat) (E : List Nat) : ∀ hi, packTri t E hi = pack (triVal t) E hi := by
  induction E with
  | nil => intro hi; rfl
  | cons e r ih =>
    intro hi
    by_cases he : e = t.1 ∨ e = t.2.1 ∨ e = t.2.2
    · simp only [packTri, pack, ih, if_pos he]
    · -- `triVal t` does not look at edge `e`
      have h1 : ∀ x i, i ≠ e → setHi x e i = x i := fun x i hi => by simp [setHi, hi]
      have : (fun h => triVal t (setHi h e)) = triVal t := by
        funext x
        simp only [triVal, h1 x _ (fun h => he (Or.inl h.symm)), h1 x _ (fun h => he (Or.inr (Or.inl h.symm))),
          h1 x _ (fun h => he (Or.inr (Or.inr h.symm)))]
      simp only [packTri, pack, ih, if_neg he, pack_setHi, this]
      rw [Nat.mul_add, Nat.mul_one, Nat.mul_comm]

theorem packTris_eq (E : List Nat) (T : List (Nat × Nat × Nat)) :
    packTris E T = pack (fun h => (T.map fun t => triVal t h).sum) E (fun _ => false) := by
  induction T with
  | nil => simp [packTris, pack_zero]
  | cons t T ih => simp only [packTris, List.map_cons, List.sum_cons, pack_add, ih, packTri_eq]

theorem pack_lt (f : (Nat → Bool) → Nat) (hf : ∀ h, f h < 65536) (E : List Nat) : ∀ hi, pack f E hi < 65536 ^ (2 ^ E.length) := by
  induction E with
  | nil => intro hi; simpa [pack] using hf hi
  | cons e r ih =>
    intro hi
    have h1 := ih hi
    have h2 := ih (setHi hi e)
    rw [pack, List.length_cons, Nat.pow_succ 2, Nat.pow_mul, Nat.pow_two]
    generalize 65536 ^ (2 ^ r.length) = K at *
    calc _ < K + K * pack f r (setHi hi e) := by omega
      _ = K * (pack f r (setHi hi e) + 1) := by rw [Nat.mul_add, Nat.mul_one, Nat.add_comm]
      _ ≤ K * K := Nat.mul_le_mul_left K h2

theorem reach_congr (E : List Nat) (hi : Nat → Bool) {g g' : Nat → Bool} (h : ∀ i ∈ E, g i = g' i) : reach E hi g = reach E hi g' := by
  funext i; by_cases hiE : i ∈ E <;> simp [reach, hiE, h]

theorem reach_cons (e : Nat) (r : List Nat) (hi g : Nat → Bool) :
    reach (e :: r) hi g = if g e then reach r (setHi hi e) g else reach r hi g := by
  funext i
  by_cases hie : i = e
  · subst hie; cases hg : g i <;> simp [reach, setHi, hg]
  · have : (i == e) = false := by simpa using hie
    cases hg : g e <;> simp [reach, setHi, this, hie]

/-- the slot test sees exactly the corners of the parameter cube -/
theorem allSlots_pack (p : Nat → Bool) (f : (Nat → Bool) → Nat) (hf : ∀ h, f h < 65536) (E : List Nat) (hE : E.Nodup) : ∀ hi,
    allSlots p E.length (pack f E hi) = true ↔ ∀ g, p (f (reach E hi g)) = true := by
  induction E with
  | nil =>
    intro hi
    have : ∀ g, reach [] hi g = hi := fun g => by funext i; simp [reach]
    simp [allSlots, pack, this]
  | cons e r ih =>
    intro hi
    obtain ⟨her, hr⟩ := List.nodup_cons.mp hE
    have hK : 0 < 65536 ^ (2 ^ r.length) := Nat.pow_pos (by decide)
    have hlt := pack_lt f hf r hi
    -- the low half of the slots is `pack f r hi`, the high half `pack f r (setHi hi e)`
    simp only [allSlots, pack, List.length_cons, Bool.and_eq_true, Nat.add_mul_mod_self_left, Nat.mod_eq_of_lt hlt,
      Nat.add_mul_div_left _ _ hK, Nat.div_eq_of_lt hlt, Nat.zero_add, ih hr, reach_cons]
    constructor
    · rintro ⟨h0, h1⟩ g
      cases hg : g e
      · simpa using h0 g
      · simpa using h1 g
    · intro h
      have key : ∀ (b : Bool) (h0 g : Nat → Bool), reach r h0 g = reach r h0 (fun i => if i = e then b else g i) :=
        fun b h0 g => reach_congr r _ (fun i hir => by rw [if_neg (fun h : i = e => her (h ▸ hir))])
      refine ⟨fun g => ?_, fun g => ?_⟩
      · have := h (fun i => if i = e then false else g i)
        rwa [if_pos rfl, if_neg Bool.false_ne_true, ← key] at this
      · have := h (fun i => if i = e then true else g i)
        rwa [if_pos rfl, if_pos rfl, ← key] at this

/-- the coordinates of a lattice point of the unit cube -/
def unitPt (p : Pt) : Bool := (p.1 == 0 || p.1 == 1) && (p.2.1 == 0 || p.2.1 == 1) && (p.2.2 == 0 || p.2.2 == 1)

namespace Tab

/-- all twenty vertices of the cell polyhedron are lattice points of the unit cube, at either end of their edge -/
theorem table_vertices_unit : (List.range 20).all (fun id => unitPt (vposIk false id) && unitPt (vposIk true id)) = true := by
  decide +kernel

end Tab

/-- every triangle of the cell polyhedron has three different corners (ids < 20) and every edge vertex it uses lies on a
    sign-changing cube edge -/
def polyWF (bits : List Bool) : Bool :=
  (polyTris bits).all fun t =>
    t.1 != t.2.1 && t.1 != t.2.2 && t.2.1 != t.2.2 && t.1 < 20 && t.2.1 < 20 && t.2.2 < 20 &&
    [t.1, t.2.1, t.2.2].all fun i => decide (12 ≤ i) || (crossEdges bits).contains i

/-- `p` holds of `Σ (3 + det)` over the cell solid at every corner of the parameter cube -/
def solidSlots (p : Nat → Bool) (bits : List Bool) : Bool :=
  allSlots p (crossEdges bits).length (packTris (crossEdges bits) (solidTris bits))

/-- what the sweep establishes for one sign pattern: the cell polyhedron is well formed and closed (every directed edge
    cancels against its reverse); `0 ≤ 6·volume` of the cell solid at EVERY corner of the parameter cube and `0 < 6·volume` at
    SOME corner unless no corner of the cell is inside -/
def cellOK (bits : List Bool) : Bool :=
  polyWF bits && cancels 200 ((polyTris bits).flatMap triEdges) && decide ((solidTris bits).length < 10000) &&
  solidSlots (Nat.ble (3 * (solidTris bits).length)) bits &&
  (bits.all (!·) || !solidSlots (fun x => Nat.ble x (3 * (solidTris bits).length)) bits)

namespace Tab

set_option maxRecDepth 100000 in
/-- all 256 sign patterns (36 450 corners of parameter cubes in all).  One sweep, because the triangle lists are the expensive
    part and are shared by the five checks. -/
theorem table_cell_solid : ∀ b0 b1 b2 b3 b4 b5 b6 b7 : Bool, cellOK (bits8 b0 b1 b2 b3 b4 b5 b6 b7) = true := by
  decide +kernel

end Tab
end C09
end PolyVerif
