/-
  `V3 ℝ` as a reader of the Go vector package thinks of it: extensionality, the polynomial operations as one simp set
  (`v3`), and the facts about `Length`, `Normalized`, `DivByConstant`, `Distance` that every property over ℝ needs —
  each once, in the model's own vocabulary, with no import beyond `Real.sqrt`.
-/
import PolyVerif.Lemmas.RealScalar
import PolyVerif.Lemmas.V3Attr
import Mathlib.Tactic

namespace PolyVerif

attribute [ext] V3 V2
attribute [v3] V3.New V3.X V3.Y V3.Z V3.Add V3.Sub V3.Scale V3.Dot V3.Cross V3.MultByVector V3.DivByConstant V3.LengthSquared
  V3.DistanceSquared V3.Fill V3.Flip V3.Zero V3.One V3.Right V3.Up V3.Forward V3.XY V3.XZ V3.YZ
  V2.New V2.X V2.Y V2.Add V2.Sub V2.Scale V2.Dot V2.LengthSquared

namespace V3
variable (a b v w : V3 ℝ) (k L : ℝ)

@[simp] theorem Zero_eq : (V3.Zero : V3 ℝ) = ⟨0, 0, 0⟩ := by simp only [V3.Zero, Nat.cast_zero]
@[simp] theorem Sub_zero : v.Sub ⟨0, 0, 0⟩ = v := by ext <;> simp only [v3, sub_zero]
@[simp] theorem zero_Add : (⟨0, 0, 0⟩ : V3 ℝ).Add v = v := by ext <;> simp only [v3, zero_add]
@[simp] theorem Add_Sub_cancel_left : (a.Add v).Sub a = v := by ext <;> simp only [v3, add_sub_cancel_left]

theorem length_eq_sqrt_dot : v.Length = Real.sqrt (v.Dot v) := rfl

theorem dot_comm : a.Dot b = b.Dot a := by simp only [v3]; ring

theorem dot_self_nonneg : 0 ≤ v.Dot v :=
  add_nonneg (add_nonneg (mul_self_nonneg _) (mul_self_nonneg _)) (mul_self_nonneg _)

/-- a sum of three squares vanishes only if each does -/
theorem dot_self_eq_zero {v : V3 ℝ} : v.Dot v = 0 ↔ v = ⟨0, 0, 0⟩ := by
  constructor
  · intro h
    have hx := mul_self_nonneg v.x; have hy := mul_self_nonneg v.y; have hz := mul_self_nonneg v.z
    simp only [V3.Dot] at h
    ext <;> apply mul_self_eq_zero.mp <;> linarith
  · rintro rfl; simp only [V3.Dot, mul_zero, add_zero]

theorem dot_self_pos_of_ne {v : V3 ℝ} (h : v ≠ ⟨0, 0, 0⟩) : 0 < v.Dot v :=
  lt_of_le_of_ne (dot_self_nonneg v) fun e => h (dot_self_eq_zero.mp e.symm)

theorem length_mul_self : v.Length * v.Length = v.Dot v := Real.mul_self_sqrt (dot_self_nonneg v)

theorem length_pos_iff : 0 < v.Length ↔ 0 < v.Dot v := Real.sqrt_pos

theorem length_pos {v : V3 ℝ} (h : v ≠ ⟨0, 0, 0⟩) : 0 < v.Length := (length_pos_iff v).mpr (dot_self_pos_of_ne h)

theorem length_eq_one {v : V3 ℝ} (h : v.Dot v = 1) : v.Length = 1 := by rw [length_eq_sqrt_dot, h, Real.sqrt_one]

theorem dot_scale_scale : (v.Scale k).Dot (w.Scale L) = k * L * v.Dot w := by simp only [v3]; ring

theorem scale_dot : (v.Scale k).Dot w = k * v.Dot w := by simp only [v3]; ring

theorem scale_eq_zero {v : V3 ℝ} {k : ℝ} : v.Scale k = ⟨0, 0, 0⟩ ↔ v = ⟨0, 0, 0⟩ ∨ k = 0 := by
  rw [← dot_self_eq_zero, dot_scale_scale, mul_eq_zero, mul_self_eq_zero, dot_self_eq_zero, or_comm]

theorem length_scale {k : ℝ} (hk : 0 ≤ k) : (v.Scale k).Length = k * v.Length := by
  rw [length_eq_sqrt_dot, dot_scale_scale, ← sq, Real.sqrt_mul (sq_nonneg k), Real.sqrt_sq hk, length_eq_sqrt_dot]

theorem divByConstant_eq_scale : v.DivByConstant L = v.Scale (1 / L) := by ext <;> simp only [v3, mul_one_div]

theorem length_divByConstant {L : ℝ} (hL : 0 < L) : (v.DivByConstant L).Length = v.Length / L := by
  rw [divByConstant_eq_scale, length_scale v (one_div_pos.mpr hL).le, one_div_mul_eq_div]

theorem normalized_eq_scale : v.Normalized = v.Scale (1 / v.Length) := divByConstant_eq_scale v _

theorem normalized_dot : v.Normalized.Dot w = v.Dot w / v.Length := by
  simp only [V3.Normalized, v3]; ring

/-- a non-zero vector normalises to unit length -/
theorem normalized_length {v : V3 ℝ} (h : v ≠ ⟨0, 0, 0⟩) : v.Normalized.Length = 1 := by
  rw [V3.Normalized, length_divByConstant v (length_pos h), div_self (length_pos h).ne']

theorem normalized_dot_self (h : v.Dot v ≠ 0) : v.Normalized.Dot v.Normalized = 1 := by
  rw [normalized_dot, dot_comm, normalized_dot, div_div, length_mul_self, div_self h]

/-- over ℝ a unit vector is its own normalisation -/
theorem normalized_of_unit {v : V3 ℝ} (h : v.Dot v = 1) : v.Normalized = v := by
  rw [normalized_eq_scale, length_eq_one h]; ext <;> simp only [v3, div_one, mul_one]

end V3
end PolyVerif
