/-
  C01, second part: what the operations of Model/MeshHeap.lean RETURN, as pure functions of the observable values of
  their arguments (up to `appendCopy_refine`; every operation: `apply_pure` in MeshHeapRefineOps.lean), under the bounds
  invariant `BoundedS` (every slice lies inside its array, so it reads exactly `len` cells).  Core Lean only.
-/
import PolyVerif.Lemmas.MeshHeap

namespace PolyVerif
namespace MeshHeap

variable {κ α : Type}

/-- overwriting `vs` at position `off+p` of an array, seen through the window `[off, off+len)` -/
theorem list_splice (c vs : List α) (off p len : Nat) (h1 : off + len ≤ c.length) (h2 : p + vs.length ≤ len) :
    (((c.take (off + p) ++ vs ++ c.drop (off + p + vs.length)).take c.length).drop off).take len
      = ((c.drop off).take len).take p ++ vs ++ ((c.drop off).take len).drop (p + vs.length) := by
  have hX : (c.take (off + p) ++ vs ++ c.drop (off + p + vs.length)).length = c.length := by
    simp only [List.length_append, List.length_take, List.length_drop]; omega
  rw [← hX, List.take_length]
  have hlt : (c.take (off + p)).length = off + p := by rw [List.length_take]; omega
  rw [List.append_assoc, List.drop_append_of_le_length (by omega), List.drop_take]
  have e1 : off + p - off = p := by omega
  have e2 : c.drop (off + p + vs.length) = (c.drop off).drop (p + vs.length) := by
    rw [List.drop_drop]; congr 1; omega
  rw [e1, e2]
  have hD : len ≤ (c.drop off).length := by rw [List.length_drop]; omega
  generalize c.drop off = D at *
  rw [← List.append_assoc, List.take_append]
  have hl : (D.take p ++ vs).length = p + vs.length := by
    rw [List.length_append, List.length_take]; omega
  rw [List.take_of_length_le (by omega), hl, List.take_take, List.drop_take]
  have : min p len = p := by omega
  rw [this]

theorem write_keeps_length (c vs : List α) (i : Nat) :
    ((c.take i ++ vs ++ c.drop (i + vs.length)).take c.length).length = c.length := by
  simp only [List.length_take, List.length_append, List.length_drop]; omega

theorem BoundedS.read_length {h : Heap κ α} {s : Slice} (b : BoundedS h s) : (h.read s).length = s.len := by
  obtain ⟨hl, hc | ⟨a, ha, hb⟩⟩ := b
  · have : s.len = 0 := by omega
    simp [Heap.read, this]
  · simp only [Heap.read, Heap.array, ha, Option.getD_some, List.length_take, List.length_drop]; omega

theorem BoundedS.lt {h : Heap κ α} {s : Slice} (b : BoundedS h s) : s.arr < h.arrays.length ∨ s.len = 0 := by
  have v := b.valid
  rcases v.2 with h0 | h1
  · right; have := v.1; omega
  · left; exact h1

/-- writes keep every array's length, so every bounded slice stays bounded -/
theorem BoundedS.write {h : Heap κ α} {s : Slice} (b : BoundedS h s) (a i : Nat) (vs : List α) :
    BoundedS (h.write a i vs) s := by
  refine ⟨b.1, ?_⟩
  rcases b.2 with h0 | ⟨c, hc, hb⟩
  · exact Or.inl h0
  · right
    simp only [Heap.write, List.getElem?_modify, hc, Option.map_eq_map, Option.map_some]
    by_cases e : a = s.arr
    · refine ⟨(c.take i ++ vs ++ c.drop (i + vs.length)).take c.length, by simp [e], ?_⟩
      rw [write_keeps_length]; exact hb
    · exact ⟨c, by simp [e], hb⟩

theorem BoundedS.alloc {h : Heap κ α} {s : Slice} (b : BoundedS h s) (c : List α) : BoundedS (h.alloc c).1 s :=
  b.frame_size (frame_alloc (Nat.le_refl _) c)

/-- two slices cannot disturb one another: one of them has no capacity, or they live in different arrays -/
def Disj (s t : Slice) : Prop := s.cap = 0 ∨ t.cap = 0 ∨ s.arr ≠ t.arr

theorem read_write_other {h : Heap κ α} {t : Slice} {a : Nat} (ht : t.len = 0 ∨ t.arr ≠ a) (i : Nat) (vs : List α) :
    (h.write a i vs).read t = h.read t := by
  rcases ht with h0 | h1
  · simp [Heap.read, h0]
  · have : a ≠ t.arr := fun e => h1 e.symm
    simp only [Heap.read, Heap.array, Heap.write, List.getElem?_modify]
    cases h.arrays[t.arr]? <;> simp [this]

theorem read_write_self {h : Heap κ α} {s : Slice} (b : BoundedS h s) (p : Nat) (vs : List α)
    (hp : p + vs.length ≤ s.len) :
    (h.write s.arr (s.off + p) vs).read s = (h.read s).take p ++ vs ++ (h.read s).drop (p + vs.length) := by
  obtain ⟨hl, hc | ⟨c, hc, hb⟩⟩ := b
  · have h0 : s.len = 0 := by omega
    have hv : vs = [] := by cases vs with
      | nil => rfl
      | cons _ _ => simp at hp; omega
    simp [Heap.read, h0, hv]
  · simp only [Heap.read, Heap.array, Heap.write, List.getElem?_modify, hc, Option.map_eq_map, Option.map_some,
      if_true, Option.getD_some]
    exact list_splice c vs s.off p s.len (by omega) hp

theorem read_alloc {h : Heap κ α} {t : Slice} (b : BoundedS h t) (c : List α) : (h.alloc c).1.read t = h.read t :=
  read_frame_valid (frame_alloc (Nat.le_refl _) c) b.valid

/-- what Go's `append` onto a fresh, bounded slice does: the result reads `old ++ vs`, is again fresh and bounded, and
    no bounded slice living elsewhere notices -/
structure AppendPost (base : Nat) (h : Heap κ α) (s : Slice) (vs : List α) (r : Heap κ α × Slice) : Prop where
  frame : Frame base h r.1
  fresh : Fresh base r.2
  bounded : BoundedS r.1 r.2
  read : r.1.read r.2 = h.read s ++ vs
  others : ∀ t, BoundedS h t → (BoundedS r.1 t ∧ (Disj t s → r.1.read t = h.read t ∧ Disj t r.2))

theorem read_nil (h : Heap κ α) : h.read Slice.nil = [] := by simp [Heap.read, Slice.nil]

/-- allocation order is separation: what was bounded before cannot be disturbed through what was allocated after -/
theorem BoundedS.disj_fresh {h : Heap κ α} {t s : Slice} (bt : BoundedS h t) (fs : Fresh h.arrays.length s) : Disj t s := by
  rcases bt.valid.2 with h0 | h1
  · exact Or.inl h0
  · exact Or.inr (fs.symm.imp id fun f e => Nat.lt_irrefl _ (Nat.lt_of_lt_of_le (e ▸ h1) f))

section
variable (E : Env α) {base : Nat}

theorem AppendPost.trans {h : Heap κ α} {s : Slice} {vs ws : List α} {r1 r2 : Heap κ α × Slice}
    (p1 : AppendPost base h s vs r1) (p2 : AppendPost base r1.1 r1.2 ws r2) : AppendPost base h s (vs ++ ws) r2 := by
  refine ⟨p1.frame.trans p2.frame, p2.fresh, p2.bounded, by rw [p2.read, p1.read, List.append_assoc], fun t bt => ?_⟩
  obtain ⟨b1, o1⟩ := p1.others t bt
  obtain ⟨b2, o2⟩ := p2.others t b1
  exact ⟨b2, fun d => ⟨((o2 (o1 d).2).1).trans (o1 d).1, (o2 (o1 d).2).2⟩⟩

/-- building a slice from nothing: no bounded slice of the old heap notices -/
theorem AppendPost.of_nil {h : Heap κ α} {vs : List α} {r : Heap κ α × Slice} (p : AppendPost base h Slice.nil vs r) :
    r.1.read r.2 = vs ∧ ∀ t, BoundedS h t → BoundedS r.1 t ∧ r.1.read t = h.read t ∧ Disj t r.2 :=
  ⟨by rw [p.read, read_nil]; rfl, fun t bt =>
    ⟨(p.others t bt).1, ((p.others t bt).2 (Or.inr (Or.inl rfl))).1, ((p.others t bt).2 (Or.inr (Or.inl rfl))).2⟩⟩

/-- `make`: a new array `c`, seen through a slice of its first `n` cells -/
theorem alloc_post {h : Heap κ α} (hb : base ≤ h.arrays.length) (c : List α) {n cap : Nat} (hn : n ≤ cap)
    (hc : cap ≤ c.length) : AppendPost base h Slice.nil (c.take n) ((h.alloc c).1, ⟨h.arrays.length, 0, n, cap⟩) :=
  ⟨frame_alloc hb c, Or.inl hb, ⟨hn, Or.inr ⟨c, alloc_get h c, by simpa using hc⟩⟩, by rw [alloc_read, read_nil]; rfl,
    fun t bt => ⟨bt.alloc c, fun _ => ⟨read_alloc bt c, bt.disj_fresh (Or.inl (Nat.le_refl _))⟩⟩⟩

theorem goAppend_refine {h : Heap κ α} (hb : base ≤ h.arrays.length) {s : Slice}
    (fs : Fresh base s) (bs : BoundedS h s) (vs : List α) : AppendPost base h s vs (goAppend E h s vs) := by
  obtain ⟨f, fr, _⟩ := goAppend_spec E hb fs bs.valid vs
  cases vs with
  | nil =>
    exact ⟨Frame.refl hb, fs, bs, by simp [goAppend], fun t bt => ⟨bt, fun d => ⟨rfl, d⟩⟩⟩
  | cons v vs =>
    refine ⟨f, fr, ?_, ?_, ?_⟩
    all_goals simp only [goAppend]
    all_goals split
    all_goals rename_i hfit
    · have hcap : s.cap ≠ 0 := by simp at hfit; omega
      have b2 : BoundedS h { s with len := s.len + (v :: vs).length } :=
        ⟨hfit, bs.2.imp id id⟩
      exact b2.write _ _ _
    · refine ⟨by simp, Or.inr ⟨_, alloc_get _ _, ?_⟩⟩
      simp [bs.read_length]; omega
    · have b2 : BoundedS h { s with len := s.len + (v :: vs).length } := ⟨hfit, bs.2.imp id id⟩
      have := read_write_self b2 s.len (v :: vs) (Nat.le_refl _)
      simp only at this
      rw [this]
      have e1 : (h.read { s with len := s.len + (v :: vs).length }).take s.len = h.read s := by
        simp only [Heap.read, List.take_take]
        congr 1; omega
      have e2 : (h.read { s with len := s.len + (v :: vs).length }).drop (s.len + (v :: vs).length) = [] := by
        apply List.drop_of_length_le
        rw [b2.read_length]
        exact Nat.le_refl _
      rw [e1, e2, List.append_nil]
    · rw [alloc_read]
      exact List.take_left' (by simp [bs.read_length])
    · intro t bt
      refine ⟨bt.write _ _ _, fun d => ?_⟩
      have hcap : s.cap ≠ 0 := by simp at hfit; omega
      rcases d with d | d | d
      · have : t.len = 0 := by have := bt.1; omega
        exact ⟨read_write_other (Or.inl this) _ _, Or.inl d⟩
      · exact absurd d hcap
      · exact ⟨read_write_other (Or.inr d) _ _, Or.inr (Or.inr d)⟩
    · intro t bt
      exact ⟨bt.alloc _, fun _ => ⟨read_alloc bt _, bt.disj_fresh (Or.inl (Nat.le_refl _))⟩⟩

theorem appendZeros_refine (n : Nat) : ∀ {h : Heap κ α} (_ : base ≤ h.arrays.length) {s : Slice}
    (_ : Fresh base s) (_ : BoundedS h s), AppendPost base h s (List.replicate n E.zero) (appendZeros E h s n) := by
  induction n with
  | zero =>
    intro h hb s fs bs
    exact ⟨Frame.refl hb, fs, bs, by simp [appendZeros], fun t bt => ⟨bt, fun d => ⟨rfl, d⟩⟩⟩
  | succ n ih =>
    intro h hb s fs bs
    have p1 := goAppend_refine E hb fs bs [E.zero]
    exact p1.trans (ih p1.frame.base_le' p1.fresh p1.bounded)

end

/-! ### association lists: the heap-level ones are the generic ones, and they commute with reading -/
section assoc
variable [DecidableEq κ] {β γ : Type}

theorem hasKey_eq (es : List (κ × Slice)) (k : κ) : hasKey es k = hasKeyV es k := rfl
theorem lookup_eq (es : List (κ × Slice)) (k : κ) : lookup es k = lookupV es k := rfl
theorem insert_eq (es : List (κ × Slice)) (k : κ) (s : Slice) : insert es k s = insertV es k s := rfl
theorem erase_eq (es : List (κ × Slice)) (k : κ) : erase es k = eraseV es k := rfl

/-- apply `g` to the value of an entry -/
def mp (g : β → γ) (e : κ × β) : κ × γ := (e.1, g e.2)

theorem hasKeyV_map (g : β → γ) (es : List (κ × β)) (k : κ) : hasKeyV (es.map (mp g)) k = hasKeyV es k := by
  simp [hasKeyV, List.any_map, mp, Function.comp_def]

theorem lookupV_map (g : β → γ) (es : List (κ × β)) (k : κ) : lookupV (es.map (mp g)) k = (lookupV es k).map g := by
  induction es with
  | nil => simp [lookupV]
  | cons e rest ih =>
    simp only [lookupV, List.map_cons, List.find?_cons, mp] at ih ⊢
    split <;> simp_all

theorem eraseV_map (g : β → γ) (es : List (κ × β)) (k : κ) : (eraseV es k).map (mp g) = eraseV (es.map (mp g)) k := by
  simp [eraseV, List.filter_map, mp, Function.comp_def]

/-- mapping two key-preserving functions that agree off key `k` over an insertion at `k` -/
theorem map_insertV_agree (es : List (κ × β)) (k : κ) (v : β) (f g : β → γ)
    (hag : ∀ e ∈ es, e.1 ≠ k → f e.2 = g e.2) :
    (insertV es k v).map (mp f) = insertV (es.map (mp g)) k (f v) := by
  unfold insertV
  rw [hasKeyV_map]
  split
  · rw [List.map_map, List.map_map]
    apply List.map_congr_left
    intro e he
    by_cases hk : e.1 = k
    · simp [mp, hk]
    · simp [mp, hk, hag e he hk]
  · rename_i hf
    have hne := hasKeyV_false (es := es) (k := k) (by simpa using hf)
    rw [List.map_append]
    congr 1
    apply List.map_congr_left
    intro e he
    simp [mp, hag e he (hne e he)]

end assoc

section
variable (E : Env α) {base : Nat}

theorem rd_eq_mp (h : Heap κ α) : rd h = mp (h.read) := rfl

/-- invariant of `finalData`: every slice fresh and bounded; slices under different keys cannot disturb one another -/
def FinInv (base : Nat) (h : Heap κ α) (fin : List (κ × Slice)) : Prop :=
  (∀ e ∈ fin, Fresh base e.2 ∧ BoundedS h e.2) ∧ (∀ e ∈ fin, ∀ f ∈ fin, e.1 ≠ f.1 → Disj e.2 f.2)

theorem FinInv.finOK {base : Nat} {h : Heap κ α} {fin : List (κ × Slice)} (inv : FinInv base h fin) : FinOK base h fin :=
  fun e he => ⟨(inv.1 e he).1, (inv.1 e he).2.valid⟩

theorem Disj.symm {s t : Slice} (d : Disj s t) : Disj t s := by
  rcases d with d | d | d
  · exact Or.inr (Or.inl d)
  · exact Or.inl d
  · exact Or.inr (Or.inr (fun e => d e.symm))

/-- argument entries: they live below `base` (or have no capacity) and are bounded -/
def ArgOK (base : Nat) (h : Heap κ α) (es : List (κ × Slice)) : Prop :=
  ∀ e ∈ es, (e.2.arr < base ∨ e.2.cap = 0) ∧ BoundedS h e.2

theorem ArgOK.frame {h h' : Heap κ α} (f : Frame base h h') {es : List (κ × Slice)} (a : ArgOK base h es) :
    ArgOK base h' es ∧ es.map (rd h') = es.map (rd h) := by
  refine ⟨fun e he => ⟨(a e he).1, (a e he).2.frame f (a e he).1⟩, ?_⟩
  apply List.map_congr_left
  intro e he
  simp only [rd]
  congr 1
  apply read_frame f
  rcases (a e he).1 with h1 | h1
  · exact Or.inl h1
  · right; have := (a e he).2.1; omega

theorem ArgOK.tail {h : Heap κ α} {e : κ × Slice} {es : List (κ × Slice)} (a : ArgOK base h (e :: es)) :
    ArgOK base h es := fun x hx => a x (List.mem_cons_of_mem _ hx)

/-- one destination cell of the first loop of `appendData` -/
theorem dataA_cell {h : Heap κ α} (hb : base ≤ h.arrays.length) (s : Slice) (bs : BoundedS h s)
    (bLen : Nat) (keep : Bool) :
    AppendPost base h Slice.nil (if keep then h.read s else h.read s ++ List.replicate bLen E.zero)
      (if keep then ((h.alloc (h.read s ++ List.replicate bLen E.zero)).1, (⟨h.arrays.length, 0, s.len, s.len + bLen⟩ : Slice))
       else appendZeros E (h.alloc (h.read s ++ List.replicate bLen E.zero)).1 ⟨h.arrays.length, 0, s.len, s.len + bLen⟩ bLen) := by
  have p0 := alloc_post hb (h.read s ++ List.replicate bLen E.zero) (Nat.le_add_right s.len bLen) (by simp [bs.read_length])
  rw [List.take_left' bs.read_length] at p0
  cases keep with
  | true => exact p0
  | false => exact p0.trans (appendZeros_refine E bLen p0.frame.base_le' p0.fresh p0.bounded)

theorem MapRefB.argOK {h : Heap κ α} {m : Option Nat} (b : MapRefB h m) : ArgOK h.arrays.length h (h.mapEntries m) := by
  intro e he
  have be := MapRef.All.entries b e he
  refine ⟨?_, be⟩
  rcases be.valid.2 with h0 | h1
  · exact Or.inr h0
  · exact Or.inl h1

theorem obsMap_headKind (h : Heap κ α) (os : List (Option Nat)) : obsMap h (headKind os) = headV (os.map (obsMap h)) := by
  cases os <;> rfl

theorem headKind_B {h : Heap κ α} {os : List (Option Nat)} (b : ∀ m ∈ os, MapRefB h m) : MapRefB h (headKind os) := by
  cases os with
  | nil => trivial
  | cons m _ => exact b m (List.mem_cons_self ..)

/-- `twoAppends` builds its result from nothing, so frame and freshness from the size at call time say all there is to say
    about every older slice (`frame_size`, `read_frame_valid`, `disj_fresh`) -/
theorem twoAppends_refine {g : Heap κ α} {x y : Slice} (bx : BoundedS g x) (by_ : BoundedS g y) :
    Frame g.arrays.length g (twoAppends E g x y).1 ∧ Fresh g.arrays.length (twoAppends E g x y).2 ∧
      BoundedS (twoAppends E g x y).1 (twoAppends E g x y).2 ∧
      (twoAppends E g x y).1.read (twoAppends E g x y).2 = g.read x ++ g.read y := by
  let g2 := (g.alloc (List.replicate (x.len + y.len) E.zero)).1
  let t1 := goAppend E g2 ⟨g.arrays.length, 0, 0, x.len + y.len⟩ (g2.read x)
  have p0 := alloc_post (Nat.le_refl g.arrays.length) (List.replicate (x.len + y.len) E.zero) (n := 0) (cap := x.len + y.len)
    (Nat.zero_le _) (by simp)
  have p1 := p0.trans (goAppend_refine E p0.frame.base_le' p0.fresh p0.bounded (g2.read x))
  have p2 := p1.trans (goAppend_refine E p1.frame.base_le' p1.fresh p1.bounded (t1.1.read y))
  have hx : g2.read x = g.read x := read_frame_valid p0.frame bx.valid
  have hy : t1.1.read y = g.read y := read_frame_valid p1.frame by_.valid
  exact ⟨p2.frame, p2.fresh, p2.bounded, p2.of_nil.1.trans (by rw [hx, hy]; rfl)⟩

theorem read_sub (h : Heap κ α) (s : Slice) (p cap' : Nat) :
    h.read ⟨s.arr, s.off + p, s.len - p, cap'⟩ = (h.read s).drop p := by
  simp only [Heap.read, List.drop_take, List.drop_drop]

/-- the in-place index shift of `Append` on a bounded slice -/
theorem shiftTail_refine {g : Heap κ α} {s : Slice} (bs : BoundedS g s) (p n : Nat) (hp : p ≤ s.len) :
    (shiftTail E g s p n).read s = (g.read s).take p ++ ((g.read s).drop p).map (E.shift n) ∧
    (shiftTail E g s p n).maps = g.maps ∧
    ∀ t, BoundedS g t → BoundedS (shiftTail E g s p n) t ∧ (Disj t s → (shiftTail E g s p n).read t = g.read t) := by
  refine ⟨?_, rfl, ?_⟩
  · simp only [shiftTail, read_sub]
    have hl : (((g.read s).drop p).map (E.shift n)).length = s.len - p := by
      simp [bs.read_length]
    rw [read_write_self bs p _ (by rw [hl]; omega), hl]
    have : (g.read s).drop (p + (s.len - p)) = [] := by
      apply List.drop_of_length_le; rw [bs.read_length]; omega
    rw [this, List.append_nil]
  · intro t bt
    refine ⟨bt.write _ _ _, fun d => ?_⟩
    simp only [shiftTail]
    rcases d with d | d | d
    · exact read_write_other (Or.inl (by have := bt.1; omega)) _ _
    · have h0 : s.len = 0 := by have := bs.1; omega
      have : g.read ⟨s.arr, s.off + p, s.len - p, s.cap - p⟩ = [] := by
        simp [Heap.read, h0]
      rw [this]
      simp only [List.map_nil]
      simp only [Heap.read, Heap.array, Heap.write, List.getElem?_modify]
      cases g.arrays[t.arr]? <;> simp
    · exact read_write_other (Or.inr d) _ _

end

section fin
variable [DecidableEq κ] (E : Env α) {base : Nat}

/-- `finalData[k] = s2` in a heap where the other keys' slices still read the same -/
theorem fin_step {h h' : Heap κ α} {fin : List (κ × Slice)} {k : κ} {s2 : Slice}
    (inv : FinInv base h fin)
    (pres : ∀ e ∈ fin, e.1 ≠ k → BoundedS h' e.2 ∧ h'.read e.2 = h.read e.2 ∧ Disj e.2 s2)
    (fs : Fresh base s2) (bs : BoundedS h' s2) :
    FinInv base h' (insert fin k s2) ∧ (insert fin k s2).map (rd h') = insertV (fin.map (rd h)) k (h'.read s2) := by
  refine ⟨⟨?_, ?_⟩, ?_⟩
  · intro e he
    rw [insert_eq] at he
    rcases mem_insertV he with ⟨h1, h2⟩ | rfl
    · exact ⟨(inv.1 e h1).1, (pres e h1 h2).1⟩
    · exact ⟨fs, bs⟩
  · intro e he f hf hne
    rw [insert_eq] at he hf
    rcases mem_insertV he with ⟨e1, e2⟩ | rfl <;> rcases mem_insertV hf with ⟨f1, f2⟩ | rfl
    · exact inv.2 e e1 f f1 hne
    · exact (pres e e1 e2).2.2
    · exact (pres f f1 f2).2.2.symm
    · exact absurd rfl hne
  · rw [insert_eq, rd_eq_mp, rd_eq_mp]
    exact map_insertV_agree fin k s2 h'.read h.read (fun e he hk => (pres e he hk).2.1)

theorem appendDataA_refine (b : List (κ × Slice)) (bv : List (κ × List α))
    (hbv : ∀ k, hasKeyV bv k = hasKey b k) (bLen : Nat) (as : List (κ × Slice)) :
    ∀ {h : Heap κ α} (_ : base ≤ h.arrays.length) {fin : List (κ × Slice)} (_ : FinInv base h fin) (_ : ArgOK base h as),
    Frame base h (appendDataA E b bLen h as fin).1 ∧
      FinInv base (appendDataA E b bLen h as fin).1 (appendDataA E b bLen h as fin).2 ∧
      (appendDataA E b bLen h as fin).2.map (rd (appendDataA E b bLen h as fin).1)
        = pureDataA E bv bLen (as.map (rd h)) (fin.map (rd h)) := by
  induction as with
  | nil => intro h hb fin inv _; exact ⟨Frame.refl hb, inv, rfl⟩
  | cons e rest ih =>
    intro h hb fin inv args
    have p := dataA_cell E hb e.2 (args e (List.mem_cons_self ..)).2 bLen (hasKey b e.1)
    simp only [appendDataA]
    generalize (if hasKey b e.1 then ((h.alloc (h.read e.2 ++ List.replicate bLen E.zero)).1,
        (⟨h.arrays.length, 0, e.2.len, e.2.len + bLen⟩ : Slice))
      else appendZeros E (h.alloc (h.read e.2 ++ List.replicate bLen E.zero)).1
        ⟨h.arrays.length, 0, e.2.len, e.2.len + bLen⟩ bLen) = r at p ⊢
    obtain ⟨inv', hmap⟩ := fin_step (k := e.1) inv (fun x hx _ => p.of_nil.2 x.2 (inv.1 x hx).2) p.fresh p.bounded
    obtain ⟨args', hargs⟩ := ArgOK.frame p.frame args.tail
    obtain ⟨f2, inv2, h2⟩ := ih p.frame.base_le' inv' args'
    refine ⟨p.frame.trans f2, inv2, ?_⟩
    rw [h2, hargs, hmap, p.of_nil.1]
    simp only [List.map_cons, pureDataA, rd, hbv]

/-- one destination cell of the second loop of `appendData` -/
theorem dataB_cell {h : Heap κ α} (hb : base ≤ h.arrays.length) {fin : List (κ × Slice)}
    (inv : FinInv base h fin) (k : κ) (data : Slice) (hd : (data.arr < base ∨ data.cap = 0) ∧ BoundedS h data) (aLen : Nat) :
    let r0 := match lookup fin k with
      | some c => (h, c)
      | none => appendZeros E h Slice.nil aLen
    let r := goAppend E r0.1 r0.2 (r0.1.read data)
    Frame base h r.1 ∧ Fresh base r.2 ∧ BoundedS r.1 r.2 ∧
      r.1.read r.2 = (match lookupV (fin.map (rd h)) k with
                      | some c => c
                      | none => List.replicate aLen E.zero) ++ h.read data ∧
      ∀ x ∈ fin, x.1 ≠ k → BoundedS r.1 x.2 ∧ r.1.read x.2 = h.read x.2 ∧ Disj x.2 r.2 := by
  intro r0 r
  have hl : lookupV (fin.map (rd h)) k = (lookup fin k).map h.read := by
    rw [rd_eq_mp, lookupV_map, lookup_eq]
  have hdl : data.arr < base ∨ data.len = 0 := hd.1.imp id (fun h0 => by have := hd.2.1; omega)
  cases hc : lookup fin k with
  | some c =>
    have hc' : lookupV fin k = some c := hc
    obtain ⟨e', he', hk', rfl⟩ := lookupV_mem hc'
    obtain ⟨fc, bc⟩ := inv.1 e' he'
    have p := goAppend_refine E hb fc bc (h.read data)
    have er : r = goAppend E h e'.2 (h.read data) := by simp only [r, r0, hc]
    rw [er, hl, hc]
    refine ⟨p.frame, p.fresh, p.bounded, p.read, fun x hx hne => ?_⟩
    obtain ⟨b1, o1⟩ := p.others x.2 (inv.1 x hx).2
    exact ⟨b1, o1 (inv.2 x hx e' he' (by rw [hk']; exact hne))⟩
  | none =>
    have pz := appendZeros_refine E aLen hb (nil_fresh base) (nil_bounded h)
    have hrd : (appendZeros E h Slice.nil aLen).1.read data = h.read data := read_frame pz.frame hdl
    have p := pz.trans (goAppend_refine E pz.frame.base_le' pz.fresh pz.bounded (h.read data))
    have er : r = goAppend E (appendZeros E h Slice.nil aLen).1 (appendZeros E h Slice.nil aLen).2 (h.read data) := by
      simp only [r, r0, hc, hrd]
    rw [er, hl, hc]
    exact ⟨p.frame, p.fresh, p.bounded, p.of_nil.1, fun x hx _ => p.of_nil.2 x.2 (inv.1 x hx).2⟩

theorem appendDataB_refine (aLen : Nat) (bs : List (κ × Slice)) :
    ∀ {h : Heap κ α} (_ : base ≤ h.arrays.length) {fin : List (κ × Slice)} (_ : FinInv base h fin) (_ : ArgOK base h bs),
    Frame base h (appendDataB E aLen h bs fin).1 ∧
      FinInv base (appendDataB E aLen h bs fin).1 (appendDataB E aLen h bs fin).2 ∧
      (appendDataB E aLen h bs fin).2.map (rd (appendDataB E aLen h bs fin).1)
        = pureDataB E aLen (bs.map (rd h)) (fin.map (rd h)) := by
  induction bs with
  | nil => intro h hb fin inv _; exact ⟨Frame.refl hb, inv, rfl⟩
  | cons e rest ih =>
    intro h hb fin inv args
    obtain ⟨f1, fr, br, rr, oth⟩ := dataB_cell E hb inv e.1 e.2 (args e (List.mem_cons_self ..)) aLen
    simp only [appendDataB]
    generalize (goAppend E (match lookup fin e.1 with
        | some c => (h, c)
        | none => appendZeros E h Slice.nil aLen).1 (match lookup fin e.1 with
        | some c => (h, c)
        | none => appendZeros E h Slice.nil aLen).2 ((match lookup fin e.1 with
        | some c => (h, c)
        | none => appendZeros E h Slice.nil aLen).1.read e.2)) = r at f1 fr br rr oth ⊢
    obtain ⟨inv', hmap⟩ := fin_step (k := e.1) inv oth fr br
    obtain ⟨args', hargs⟩ := ArgOK.frame f1 args.tail
    obtain ⟨f2, inv2, h2⟩ := ih f1.base_le' inv' args'
    refine ⟨f1.trans f2, inv2, ?_⟩
    rw [h2, hargs, hmap, rr]
    rfl

theorem appendKind_refine (aLen bLen : Nat) {h : Heap κ α} {ma mb : Option Nat}
    (Ba : MapRefB h ma) (Bb : MapRefB h mb) :
    Frame h.arrays.length h (appendKind E false aLen bLen h ma mb).1 ∧
      MapRefB (appendKind E false aLen bLen h ma mb).1 (some (appendKind E false aLen bLen h ma mb).2) ∧
      obsMap (appendKind E false aLen bLen h ma mb).1 (some (appendKind E false aLen bLen h ma mb).2)
        = pureKind E aLen bLen (obsMap h ma) (obsMap h mb) := by
  simp only [appendKind, Bool.false_eq_true, if_false]
  have hbv : ∀ k, hasKeyV ((h.mapEntries mb).map (rd h)) k = hasKey (h.mapEntries mb) k := by
    intro k; rw [rd_eq_mp, hasKeyV_map, hasKey_eq]
  obtain ⟨f1, inv1, m1⟩ := appendDataA_refine E (h.mapEntries mb) _ hbv bLen (h.mapEntries ma) (Nat.le_refl _)
    (fin := []) ⟨fun e he => by simp at he, fun e he => by simp at he⟩ Ba.argOK
  obtain ⟨argsB, hB⟩ := ArgOK.frame f1 Bb.argOK
  obtain ⟨f2, inv2, m2⟩ := appendDataB_refine E aLen (h.mapEntries mb) f1.base_le' inv1 argsB
  refine ⟨(f1.trans f2).trans (frame_allocMap f2.base_le' _), allocMap_all fun e he => (inv2.1 e he).2, ?_⟩
  rw [obsMap_allocMap, m2, hB, m1]
  rfl

theorem appendMapsB_refine (aLen bLen : Nat) (os : List (Option Nat)) :
    ∀ {h : Heap κ α} (_ : ∀ m ∈ os, MapRefB h m),
    Frame h.arrays.length h (appendMapsB E false aLen bLen h os).1 ∧
      (∀ m ∈ (appendMapsB E false aLen bLen h os).2, MapRefB (appendMapsB E false aLen bLen h os).1 m) ∧
      (appendMapsB E false aLen bLen h os).2.map (obsMap (appendMapsB E false aLen bLen h os).1)
        = pureMapsB E aLen bLen (os.map (obsMap h)) := by
  induction os with
  | nil => intro h _; exact ⟨Frame.refl (Nat.le_refl _), fun m hm => by simp [appendMapsB] at hm, rfl⟩
  | cons mb os ih =>
    intro h B
    obtain ⟨f1, b1, o1⟩ := appendKind_refine E aLen bLen (h := h) (ma := none) (mb := mb) trivial (B mb (List.mem_cons_self ..))
    obtain ⟨B', hB'⟩ := mapsB_frame f1 (fun m hm => B m (List.mem_cons_of_mem _ hm))
    obtain ⟨f2, b2, o2⟩ := ih B'
    simp only [appendMapsB]
    refine ⟨f1.trans (f2.weaken f1.size_le), ?_, ?_⟩
    · intro m hm
      rcases List.mem_cons.mp hm with rfl | hm
      · exact MapRef.All.mono stable_bounded f2 (m := some _) b1
      · exact b2 m hm
    · simp only [List.map_cons, pureMapsB]
      rw [o2, hB', obsMap_frame f2 b1.valid, o1]
      rfl

theorem appendMaps_refine (aLen bLen : Nat) (ms : List (Option Nat)) :
    ∀ (os : List (Option Nat)) {h : Heap κ α} (_ : ∀ m ∈ ms, MapRefB h m) (_ : ∀ m ∈ os, MapRefB h m),
    Frame h.arrays.length h (appendMaps E false aLen bLen h ms os).1 ∧
      (∀ m ∈ (appendMaps E false aLen bLen h ms os).2, MapRefB (appendMaps E false aLen bLen h ms os).1 m) ∧
      (appendMaps E false aLen bLen h ms os).2.map (obsMap (appendMaps E false aLen bLen h ms os).1)
        = pureMaps E aLen bLen (ms.map (obsMap h)) (os.map (obsMap h)) := by
  induction ms with
  | nil => intro os h _ Bo; simp only [appendMaps, List.map_nil, pureMaps]; exact appendMapsB_refine E aLen bLen os Bo
  | cons ma ms ih =>
    intro os h Bm Bo
    obtain ⟨f1, b1, o1⟩ := appendKind_refine E aLen bLen (h := h) (ma := ma) (mb := headKind os)
      (Bm ma (List.mem_cons_self ..)) (headKind_B Bo)
    obtain ⟨Bm', hBm'⟩ := mapsB_frame f1 (fun m hm => Bm m (List.mem_cons_of_mem _ hm))
    obtain ⟨Bo', hBo'⟩ := mapsB_frame f1 (ms := os.tail) (fun m hm => Bo m (List.mem_of_mem_tail hm))
    obtain ⟨f2, b2, o2⟩ := ih os.tail Bm' Bo'
    simp only [appendMaps]
    refine ⟨f1.trans (f2.weaken f1.size_le), ?_, ?_⟩
    · intro m hm
      rcases List.mem_cons.mp hm with rfl | hm
      · exact MapRef.All.mono stable_bounded f2 (m := some _) b1
      · exact b2 m hm
    · simp only [List.map_cons, pureMaps]
      rw [o2, hBm', hBo', obsMap_frame f2 b1.valid, o1, obsMap_headKind, List.map_tail]

/-- **`Append` refines its pure meaning**: the observable value of what `appendCopy` returns is `pureAppend` of the
    observable values of its arguments — whatever the heap looks like, wherever the arrays are, whatever the growth policy;
    and the mesh returned is again bounded -/
theorem appendCopy_refine (E : Env α) {h : Heap κ α} {m o : MeshRep} (bm : m.Bounded h) (bo : o.Bounded h)
    (aLen bLen : Nat) :
    (appendCopy E h m o aLen bLen).map (fun x => obs x.1 x.2) = pureAppend E aLen bLen (obs h m) (obs h o) ∧
    ∀ x ∈ appendCopy E h m o aLen bLen, x.2.Bounded x.1 := by
  rw [appendCopy_eq]
  unfold pureAppend
  have ht : ∀ r : MeshRep, (obs h r).topo = r.topo := fun _ => rfl
  rw [ht, ht]
  split
  · exact ⟨rfl, fun x hx => by cases hx⟩
  · simp only [Option.map_some, Option.some.injEq]
    -- four stages, each a frame from the size of the heap it starts in: maps, indices, materials, index shift
    obtain ⟨fm, bM, oM⟩ := appendMaps_refine E aLen bLen m.maps o.maps bm.2.2 bo.2.2
    generalize appendMaps E false aLen bLen h m.maps o.maps = rm at fm bM oM ⊢
    obtain ⟨fA, frA, bA, rA⟩ := twoAppends_refine E (bm.1.frame_size fm) (bo.1.frame_size fm)
    generalize twoAppends E rm.1 m.indices o.indices = t2 at fA frA bA rA ⊢
    have fmA := fm.trans (fA.weaken fm.size_le)
    obtain ⟨fB, frB, bB, rB⟩ := twoAppends_refine E (bm.2.1.frame_size fmA) (bo.2.1.frame_size fmA)
    generalize twoAppends E t2.1 m.materials o.materials = u2 at fB frB bB rB ⊢
    have bt2 := bA.frame_size fB
    obtain ⟨rS, mS, oS⟩ := shiftTail_refine E bt2 m.indices.len aLen (by
      rw [← bA.read_length, rA, List.length_append, (bm.1.frame_size fm).read_length]; omega)
    have fS := (shiftTail_spec E (fA.trans (fB.weaken fA.size_le)).base_le' frA bt2.valid m.indices.len aLen).1
    -- everything made by the first stage lies below all that the later stages touch
    have fAS := (fA.trans (fB.weaken fA.size_le)).trans fS
    obtain ⟨bM', oM'⟩ := mapsB_frame fAS bM
    refine ⟨?_, fun x hx => ?_⟩
    · show (⟨m.topo, _, _, _⟩ : MeshObs κ α) = _
      simp only [obs]
      rw [rS, read_frame_valid fB bA.valid, rA, read_frame_valid fm bm.1.valid, read_frame_valid fm bo.1.valid,
        List.take_left' bm.1.read_length, List.drop_left' bm.1.read_length,
        (oS _ bB).2 (bA.disj_fresh frB).symm, rB, read_frame_valid fmA bm.2.1.valid, read_frame_valid fmA bo.2.1.valid]
      congr 1
      exact oM'.trans oM
    · cases hx
      exact ⟨(oS _ bt2).1, (oS _ bB).1, bM'⟩


end fin

section
set_option linter.unusedSectionVars false
variable [DecidableEq κ]

theorem attrLen_obs {h : Heap κ α} {r : MeshRep} (b : r.Bounded h) : attrLen h r = attrLenObs (obs h r) := by
  have key : (obs h r).attrs.reverse.flatMap id = (r.maps.reverse.flatMap fun m => h.mapEntries m).map (rd h) := by
    rw [obs_attrs, ← List.map_reverse, List.flatMap_map, List.map_flatMap]
    rfl
  unfold attrLen attrLenObs
  rw [key]
  cases hl : (r.maps.reverse.flatMap fun m => h.mapEntries m) with
  | nil => rfl
  | cons e rest =>
    simp only [List.map_cons, rd]
    have he : e ∈ (r.maps.reverse.flatMap fun m => h.mapEntries m) := by rw [hl]; exact List.mem_cons_self ..
    obtain ⟨m, hm, hem⟩ := List.mem_flatMap.mp he
    exact (MapRef.All.entries (b.2.2 m (List.mem_reverse.mp hm)) e hem).read_length.symm

end

end MeshHeap
end PolyVerif
