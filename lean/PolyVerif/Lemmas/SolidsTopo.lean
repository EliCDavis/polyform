/-
  C18: the boxes are vertex-manifold and connected (the executable predicates of `Model/SolidsTopo.lean`, by `decide` on
  the complete tables); the UV sphere is connected for ALL rows, cols, as reachability of every vertex from the top pole
  along edges (`Relation.ReflTransGen (Adj ..)`).
-/
import PolyVerif.Model.SolidsTopo
import PolyVerif.Lemmas.Solids
import PolyVerif.Gen.CubeTable
import Mathlib.Logic.Relation
namespace PolyVerif.Solids

theorem cubeWelded_vm : VertexManifold (unflat Gen.CubeTable.cubeVertIndices) := by
  unfold VertexManifold Umbrella; decide +kernel
set_option maxRecDepth 20000 in
theorem cubeWelded_conn : Connected (unflat Gen.CubeTable.cubeVertIndices) := by unfold Connected; decide

theorem cubeQuads_vm : VertexManifold (cubeQuadsTris.map (tmap cubeQuadsPt)) := by
  unfold VertexManifold Umbrella; decide +kernel
set_option maxRecDepth 20000 in
theorem cubeQuads_conn : Connected (cubeQuadsTris.map (tmap cubeQuadsPt)) := by unfold Connected; decide

def Adj {β : Type} (ts : List (β × β × β)) (a b : β) : Prop := (a, b) ∈ edges ts

/-- every valid logical point of the sphere is reachable from the top pole along edges -/
theorem sphereL_reach {R C : Nat} (hR : 2 ≤ R) (hC : 3 ≤ C) (p : LP) (hp : UvValid R C p) :
    Relation.ReflTransGen (Adj (sphereL R C)) (0, 0) p := by
  have ring1 : ∀ c, c < C → Relation.ReflTransGen (Adj (sphereL R C)) (0, 0) (1, c) := by
    intro c hc
    obtain ⟨hp', h2⟩ := prevCol_spec hc
    refine Relation.ReflTransGen.single ?_
    refine mem_edges_sphereL.2 (Or.inl ⟨(c + C - 1) % C, hp', ?_⟩)
    simp [fanE, h2]
  have col : ∀ ρ, 1 ≤ ρ → ρ < R → ∀ c, c < C → Relation.ReflTransGen (Adj (sphereL R C)) (0, 0) (ρ, c) := by
    intro ρ h1
    induction ρ, h1 using Nat.le_induction with
    | base => intro _ c hc; exact ring1 c hc
    | succ ρ h1 ih =>
      intro h2 c hc
      refine Relation.ReflTransGen.tail (ih (by omega) c hc) ?_
      -- edge (ρ, c) → (ρ+1, c): the second edge of `quadE` at ring ρ, previous column
      obtain ⟨hp', hq⟩ := prevCol_spec hc
      refine mem_edges_sphereL.2 (Or.inr ⟨ρ - 1, by omega, (c + C - 1) % C, hp', ?_⟩)
      have e1 : ρ - 1 + 1 = ρ := by omega
      have e2 : ρ - 1 + 2 = ρ + 1 := by omega
      simp [quadE, hq, e1, e2]
  rcases hp with rfl | rfl | ⟨h1, h2, h3⟩
  · exact Relation.ReflTransGen.refl
  · -- bottom pole: the last edge of `fanE` at `i = 0`, `((R-1, (0+1)%C), (R,0))`
    refine Relation.ReflTransGen.tail (col (R - 1) (by omega) (by omega) ((0 + 1) % C) (Nat.mod_lt _ (by omega))) ?_
    refine mem_edges_sphereL.2 (Or.inl ⟨0, by omega, ?_⟩)
    simp [fanE]
  · obtain ⟨ρ, c⟩ := p
    exact col ρ h1 h2 c h3

theorem adj_map {β γ : Type} (f : β → γ) (ts : List (β × β × β)) {a b : β} (h : Adj ts a b) :
    Adj (ts.map (tm f)) (f a) (f b) := by
  unfold Adj at *; rw [edges_map]; exact List.mem_map.2 ⟨(a, b), h, rfl⟩

/-- the welded UV sphere is connected, all sizes: every vertex id is reached from vertex 0 (the top pole) along edges -/
theorem uvSphere_reach {R C : Nat} (hR : 2 ≤ R) (hC : 3 ≤ C) {v : Nat} (hv : v < uvSphereNV R C) :
    Relation.ReflTransGen (Adj (uvSphereTris R C)) 0 v := by
  obtain ⟨pv, ev⟩ := uvEnc_uvDec hR hC hv
  have h := sphereL_reach hR hC _ pv
  rw [uvSphereTris_eq_map hR, ← ev, ← uvEnc_top R C]
  exact Relation.ReflTransGen.lift (uvEnc R C) (fun a b hab => adj_map _ _ hab) _ _ h

end PolyVerif.Solids
