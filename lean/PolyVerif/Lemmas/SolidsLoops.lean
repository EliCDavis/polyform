/-
  C18: the index lists and vertex counts of `Model/Solids.lean` EQUAL the interpretation (`Model/LoopIR.lean`) of the
  loop programs that engine F extracts from /repo `modeling/primitives/{sphere,hemisphere,circle,cylinder}.go` on every
  run (`Gen/PrimLoops.lean`), for ALL parameter values.  A changed loop bound or index expression in the Go source
  changes the generated program and breaks the corresponding `*_run` theorem at `lake build`.

  Method: unfold the interpreter on the concrete program (variable lookups evaluate, `upd_app`), turn every
  `for` into a `flatMap` over `List.range` (`foldl_push`), compare with the model's `flatMap`s termwise (`omega`).
-/
import PolyVerif.Gen.PrimLoops
import PolyVerif.Lemmas.Solids
import PolyVerif.Lemmas.Chunks
namespace PolyVerif.Solids
open PolyVerif.LoopIR

theorem foldl_push (s n : Nat) (g : Nat → List Nat) (st0 : St) :
    (List.range n).foldl (fun st i => upd st s (st s ++ g i)) st0 = upd st0 s (st0 s ++ (List.range n).flatMap g) := by
  induction n with
  | zero => funext j; simp only [List.range_zero, List.foldl_nil, List.flatMap_nil, List.append_nil, upd]; split <;> simp_all
  | succ n ih =>
    rw [List.range_succ, List.foldl_append, ih]
    simp [List.flatMap_append, List.append_assoc]

/-- the vertex slice of a `m × c` grid loop nest that pushes one placeholder per vertex -/
theorem length_grid (m c : Nat) :
    (List.flatMap (fun _ : Nat => List.flatMap (fun _ : Nat => [0]) (List.range c)) (List.range m)).length = m * c := by
  rw [Chunks.length_flatMap_const _ c _ (fun _ _ => by rw [Chunks.length_flatMap_const _ 1 _ (fun _ _ => rfl)]; simp)]; simp

theorem foldl_const_fn {σ : Type} (l : List Nat) (st : σ) : l.foldl (fun st _ => st) st = st := by
  induction l with
  | nil => rfl
  | cons a l ih => simp [ih]

theorem upd_app {β : Type} (f : Nat → β) (k : Nat) (v : β) (j : Nat) : upd f k v j = if j = k then v else f j := rfl

theorem uvSphere_run (rows cols : Nat) :
    Gen.PrimLoops.uvSphere.indices [rows, cols] = flat (uvSphereTris rows cols) ∧
    Gen.PrimLoops.uvSphere.nverts [rows, cols] = uvSphereNV rows cols := by
  simp only [Prog.indices, Prog.nverts, Prog.run, Gen.PrimLoops.uvSphere, exec, evalE, Prog.env, List.map_cons, List.map_nil,
    upd_app, upd_upd, List.getD_cons_zero, List.getD_cons_succ, if_false, Nat.reduceEqDiff, ↓reduceIte, OfNat.ofNat_ne_zero, OfNat.zero_ne_ofNat, OfNat.ofNat_ne_one, OfNat.one_ne_ofNat, one_ne_zero, zero_ne_one, Nat.add_zero, Nat.sub_zero, Nat.zero_add,
    Bool.false_eq_true]
  simp only [List.append_assoc, foldl_push, upd_app, upd_upd, Nat.reduceEqDiff, ↓reduceIte, List.replicate_zero,
    List.nil_append, List.cons_append, zero_ne_one, one_ne_zero]
  constructor
  · simp only [List.length_cons, length_grid, flat, uvSphereTris, uvBottom, List.flatMap_append, List.flatMap_assoc, List.flatMap_cons,
      List.flatMap_nil, List.cons_append, List.nil_append, List.append_nil]
    congr 1
    refine List.flatMap_congr fun i _ => ?_
    simp only [List.cons.injEq, and_true, true_and]
    omega
  · simp only [List.length_cons, List.length_append, length_grid, List.length_nil, uvSphereNV]


theorem hemisphere_run (rows cols : Nat) :
    Gen.PrimLoops.hemisphere.indices [rows, cols] = flat (hemisphereTris rows cols) ∧
    Gen.PrimLoops.hemisphere.nverts [rows, cols] = uvSphereNV rows cols := by
  simp only [Prog.indices, Prog.nverts, Prog.run, Gen.PrimLoops.hemisphere, exec, evalE, Prog.env, List.map_cons, List.map_nil,
    upd_app, upd_upd, List.getD_cons_zero, List.getD_cons_succ, Nat.reduceEqDiff, ↓reduceIte, OfNat.zero_ne_ofNat,
    OfNat.one_ne_ofNat, Nat.add_zero, Nat.sub_zero, Nat.zero_add, Bool.false_eq_true]
  simp only [List.append_assoc, foldl_push, upd_app, upd_upd, ↓reduceIte, List.replicate_zero,
    List.nil_append, List.cons_append, zero_ne_one, one_ne_zero]
  constructor
  · simp only [List.length_cons, length_grid, flat, hemisphereTris, uvBottom, List.flatMap_append, List.flatMap_assoc, List.flatMap_cons,
      List.flatMap_nil, List.cons_append, List.nil_append, List.append_nil]
    congr 1
    refine List.flatMap_congr fun i _ => ?_
    simp only [List.cons.injEq, and_true, true_and]
    omega
  · simp only [List.length_cons, List.length_append, length_grid, List.length_nil, uvSphereNV]

theorem circle_run (sides : Nat) :
    Gen.PrimLoops.circle.indices [sides] = flat (circleTris sides) ∧
    Gen.PrimLoops.circle.nverts [sides] = circleNV sides := by
  simp only [Prog.indices, Prog.nverts, Prog.run, Gen.PrimLoops.circle, exec, evalE, Prog.env, List.map_cons, List.map_nil,
    upd_app, upd_upd, List.getD_cons_zero, List.getD_cons_succ, Nat.reduceEqDiff, ↓reduceIte, OfNat.zero_ne_ofNat,
    OfNat.one_ne_ofNat, Nat.add_zero, Nat.sub_zero, Nat.zero_add, Bool.false_eq_true]
  simp only [List.append_assoc, foldl_push, foldl_const_fn, upd_app, upd_upd, ↓reduceIte, List.replicate_zero,
    List.nil_append, List.cons_append, zero_ne_one, one_ne_zero, Nat.reduceEqDiff, OfNat.ofNat_ne_zero, OfNat.zero_ne_ofNat,
    OfNat.ofNat_ne_one, OfNat.one_ne_ofNat]
  constructor
  · simp only [flat, circleTris, List.flatMap_append, List.flatMap_map, List.flatMap_cons, List.flatMap_nil, List.append_nil]
    congr 1
    refine List.flatMap_congr fun i _ => ?_
    simp only [List.cons.injEq, and_true, true_and]
    omega
  · simp [circleNV]

theorem cylinderSide_run (sides : Nat) :
    Gen.PrimLoops.cylinder.indices [sides] = flat (cylinderSideTris sides) ∧
    Gen.PrimLoops.cylinder.nverts [sides] = cylinderSideNV sides := by
  simp only [Prog.indices, Prog.nverts, Prog.run, Gen.PrimLoops.cylinder, exec, evalE, Prog.env, List.map_cons, List.map_nil,
    upd_app, upd_upd, List.getD_cons_zero, List.getD_cons_succ, Nat.reduceEqDiff, ↓reduceIte, OfNat.zero_ne_ofNat,
    OfNat.one_ne_ofNat, Nat.add_zero, Nat.sub_zero, Nat.zero_add, Bool.false_eq_true]
  simp only [List.append_assoc, foldl_push, foldl_const_fn, upd_app, upd_upd, ↓reduceIte, List.replicate_zero,
    List.nil_append, List.cons_append, zero_ne_one, one_ne_zero, Nat.reduceEqDiff, OfNat.ofNat_ne_zero, OfNat.zero_ne_ofNat,
    OfNat.ofNat_ne_one, OfNat.one_ne_ofNat]
  constructor
  · simp only [flat, cylinderSideTris, List.flatMap_assoc, List.flatMap_cons, List.flatMap_nil, List.append_nil,
      List.cons_append, List.nil_append, Nat.add_sub_cancel]
    refine List.flatMap_congr fun i _ => ?_
    simp only [List.cons.injEq, and_true, true_and]
    omega
  · simp [cylinderSideNV]


/-! ### guards -/

theorem uvSphere_admits (rows cols : Nat) : Gen.PrimLoops.uvSphere.admits [rows, cols] = uvAdmissible rows cols := by
  simp only [Prog.admits, Gen.PrimLoops.uvSphere, List.all_cons, List.all_nil, evalE, Prog.env, List.getD_cons_zero,
    List.getD_cons_succ, uvAdmissible, Bool.and_true]
  by_cases h1 : cols < 3 <;> by_cases h2 : rows < 2 <;> simp [h1, h2] <;> omega

theorem hemisphere_admits (rows cols : Nat) : Gen.PrimLoops.hemisphere.admits [rows, cols] = uvAdmissible rows cols := by
  simp only [Prog.admits, Gen.PrimLoops.hemisphere, List.all_cons, List.all_nil, evalE, Prog.env, List.getD_cons_zero,
    List.getD_cons_succ, uvAdmissible, Bool.and_true]
  by_cases h1 : cols < 3 <;> by_cases h2 : rows < 2 <;> simp [h1, h2] <;> omega

theorem circle_admits (sides : Nat) : Gen.PrimLoops.circle.admits [sides] = decide (3 ≤ sides) := by
  simp only [Prog.admits, Gen.PrimLoops.circle, List.all_cons, List.all_nil, evalE, Prog.env, List.getD_cons_zero,
    Bool.and_true]
  by_cases h1 : sides < 3 <;> simp [h1] <;> omega

/-! ### the unwelded sphere: loop-carried `len(finalVerts)` -/

theorem upd_swap {β : Type} (f : Nat → β) {k j : Nat} (h : k ≠ j) (a b c : β) :
    upd (upd (upd f k a) j b) k c = upd (upd f k c) j b := by
  funext x; simp only [upd]; split <;> split <;> simp_all

/-- a loop that appends `A i` (of constant length `k`) to slice `s` and then `B (len s before) i` to slice `t` -/
theorem foldl_push2 (s t : Nat) (hst : s ≠ t) (k : Nat) (A : Nat → List Nat) (hA : ∀ i, (A i).length = k)
    (B : Nat → Nat → List Nat) (n : Nat) (st0 : St) :
    (List.range n).foldl (fun st i => upd (upd st s (st s ++ A i)) t (st t ++ B (st s).length i)) st0 =
      upd (upd st0 s (st0 s ++ (List.range n).flatMap A)) t
        (st0 t ++ (List.range n).flatMap (fun i => B ((st0 s).length + k * i) i)) := by
  induction n with
  | zero =>
    funext x; simp only [List.range_zero, List.foldl_nil, List.flatMap_nil, List.append_nil, upd]
    split <;> [simp_all; (split <;> simp_all)]
  | succ n ih =>
    rw [List.range_succ, List.foldl_append, ih]
    have hts : t ≠ s := fun h => hst h.symm
    have hl : ((List.range n).flatMap A).length = k * n := by
      rw [Chunks.length_flatMap_const _ k _ (fun i _ => hA i), List.length_range, Nat.mul_comm]
    simp only [List.foldl_cons, List.foldl_nil, upd_same, upd_ne _ _ hst, upd_ne _ _ hts, List.flatMap_append,
      List.flatMap_cons, List.flatMap_nil, List.append_nil, List.append_assoc, List.length_append, hl]
    funext x; simp only [upd]
    split <;> [rfl; (split <;> rfl)]

/-- blocks of `k` consecutive values -/
theorem flatMap_range_block {β : Type} (k n : Nat) (f : Nat → β) :
    (List.range n).flatMap (fun i => (List.range k).map (fun t => f (k * i + t))) = (List.range (k * n)).map f := by
  induction n with
  | zero => simp
  | succ n ih =>
    rw [List.range_succ, List.flatMap_append, ih, Nat.mul_succ, List.range_add, List.map_append, List.map_map]
    simp [Function.comp]

/-- a double loop `j < m`, `i < c` is a single loop over `q = j*c + i < m*c` -/
theorem flatMap_range_prod {β : Type} (m c : Nat) (g : Nat → List β) :
    (List.range m).flatMap (fun j => (List.range c).flatMap (fun i => g (j * c + i))) =
      (List.range (m * c)).flatMap g := by
  induction m with
  | zero => simp
  | succ m ih =>
    rw [List.range_succ, List.flatMap_append, ih, Nat.succ_mul, List.range_add, List.flatMap_append, List.flatMap_map]
    simp

/-- `UVSphereUnwelded`: the index buffer, and the `finalVerts` slice (for every final vertex the index into
    `calculatedPositions` it is a copy of), of the extracted loops -/
theorem unwelded_run (rows cols : Nat) :
    Gen.PrimLoops.uvSphereUnwelded.indices [rows, cols] = flat (uvSphereUnweldedTris rows cols) ∧
    Gen.PrimLoops.uvSphereUnwelded.run [rows, cols] 1 =
      (List.range (uvUnweldedNV rows cols)).map (uvUnweldedSrc rows cols) := by
  have hv : (List.foldl (fun st i => List.foldl (fun st i => upd st 0 (st 0 ++ [0])) st (List.range cols))
      (upd (fun x => []) 0 (List.replicate 0 0 ++ [0])) (List.range (rows - 1)) 0).length = uvBottom rows cols := by
    simp only [foldl_push, upd_app, ↓reduceIte, List.replicate_zero, List.nil_append, List.length_append,
      List.length_cons, List.length_nil]
    rw [length_grid]
    simp [uvBottom]
  simp only [Prog.indices, Prog.run, Gen.PrimLoops.uvSphereUnwelded, exec, evalE, Prog.env, List.map_cons,
    List.map_nil, upd_app, upd_upd, List.getD_cons_zero, List.getD_cons_succ, Nat.reduceEqDiff, ↓reduceIte,
    OfNat.zero_ne_ofNat, OfNat.one_ne_ofNat, OfNat.ofNat_ne_zero, OfNat.ofNat_ne_one, Nat.add_zero, Nat.sub_zero,
    Nat.zero_add, Bool.false_eq_true, List.length_append, List.length_cons, List.length_nil]
  simp only [upd_swap _ (show (1 : Nat) ≠ 2 by decide), upd_upd, Nat.reduceAdd, List.append_assoc, List.cons_append,
    List.nil_append, Nat.add_assoc, Nat.add_sub_cancel]
  generalize hv1 : (List.foldl (fun st i => List.foldl (fun st i => upd st 0 (st 0 ++ [0])) st (List.range cols))
      (upd (fun x => []) 0 (List.replicate 0 0 ++ [0])) (List.range (rows - 1)) 0).length = v1i
  generalize (List.foldl (fun st i => List.foldl (fun st i => upd st 0 (st 0 ++ [0])) st (List.range cols))
      (upd (fun x => []) 0 (List.replicate 0 0 ++ [0])) (List.range (rows - 1))) = P
  have inner := fun (i : Nat) (st : St) => foldl_push2 1 2 (by decide) 4
    (fun i_1 => [i * cols + (1 + i_1), i * cols + (1 + (i_1 + 1) % cols), (i + 1) * cols + (1 + (i_1 + 1) % cols),
      (i + 1) * cols + (1 + i_1)]) (fun _ => rfl)
    (fun L _ => [L, L + 4 - 3, L + 4 - 2, L, L + 4 - 2, L + 4 - 1]) cols st
  have fan := fun (st : St) => foldl_push2 1 2 (by decide) 6
    (fun i => [0, (i + 1) % cols + 1, i + 1, v1i, i + (cols * (rows - 2) + 1), (i + 1) % cols + (cols * (rows - 2) + 1)])
    (fun _ => rfl)
    (fun L _ => [L, L + 3 - 2, L + 3 - 1, L + 6 - 3, L + 6 - 2, L + 6 - 1]) cols st
  simp only [inner, fan]
  have outer := fun (st : St) => foldl_push2 1 2 (by decide) (4 * cols)
    (fun i => List.flatMap (fun i_1 => [i * cols + (1 + i_1), i * cols + (1 + (i_1 + 1) % cols),
      (i + 1) * cols + (1 + (i_1 + 1) % cols), (i + 1) * cols + (1 + i_1)]) (List.range cols))
    (fun i => by rw [Chunks.length_flatMap_const _ 4 _ (fun _ _ => rfl), List.length_range, Nat.mul_comm])
    (fun L _ => List.flatMap (fun i => [L + 4 * i, L + 4 * i + 4 - 3, L + 4 * i + 4 - 2, L + 4 * i, L + 4 * i + 4 - 2,
      L + 4 * i + 4 - 1]) (List.range cols)) (rows - 2) st
  simp only [outer, upd_app, upd_upd, ↓reduceIte, Nat.reduceEqDiff, OfNat.ofNat_ne_one, OfNat.one_ne_ofNat,
    List.replicate_zero, List.nil_append, List.length_nil, Nat.zero_add, List.length_append]
  subst hv1
  rw [hv]
  refine ⟨?_, ?_⟩
  · have hfl : (List.flatMap (fun i => [0, (i + 1) % cols + 1, i + 1, uvBottom rows cols, i + (cols * (rows - 2) + 1),
        (i + 1) % cols + (cols * (rows - 2) + 1)]) (List.range cols)).length = 6 * cols := by
      rw [Chunks.length_flatMap_const _ 6 _ (fun _ _ => rfl), List.length_range, Nat.mul_comm]
    simp only [hfl, flat, uvSphereUnweldedTris, List.flatMap_append, List.flatMap_assoc, List.flatMap_cons,
      List.flatMap_nil, List.cons_append, List.nil_append, List.append_nil]
    congr 1
    refine List.flatMap_congr fun j _ => List.flatMap_congr fun i _ => ?_
    have e : 4 * cols * j = 4 * (j * cols) := by ring
    simp only [List.cons.injEq, and_true, true_and, e]
    omega
  · -- right-hand side: split the range into the fan blocks of 6 and the quad blocks of 4
    rw [uvUnweldedNV, List.range_add, List.map_append, List.map_map, ← flatMap_range_block 6 cols,
      ← flatMap_range_block 4 ((rows - 2) * cols), ← flatMap_range_prod (rows - 2) cols]
    congr 1
    · refine List.flatMap_congr fun i hi => ?_
      have hi := List.mem_range.1 hi
      have e0 := @src_fan rows cols i 0 hi (by omega)
      have e1 := @src_fan rows cols i 1 hi (by omega)
      have e2 := @src_fan rows cols i 2 hi (by omega)
      have e3 := @src_fan rows cols i 3 hi (by omega)
      have e4 := @src_fan rows cols i 4 hi (by omega)
      have e5 := @src_fan rows cols i 5 hi (by omega)
      simp only [Nat.add_zero] at e0
      simp only [List.range_succ, List.range_zero, List.nil_append, List.cons_append, List.map_cons, List.map_nil,
        Nat.add_zero, e0, e1, e2, e3, e4, e5, Nat.add_assoc]
    · refine List.flatMap_congr fun j _ => List.flatMap_congr fun i hi => ?_
      have hi := List.mem_range.1 hi
      have e0 := @src_quad rows cols j i 0 hi (by omega)
      have e1 := @src_quad rows cols j i 1 hi (by omega)
      have e2 := @src_quad rows cols j i 2 hi (by omega)
      have e3 := @src_quad rows cols j i 3 hi (by omega)
      simp only [Nat.add_zero] at e0
      simp only [List.range_succ, List.range_zero, List.nil_append, List.cons_append, List.map_cons, List.map_nil,
        Function.comp, Nat.add_zero, ← Nat.add_assoc, e0, e1, e2, e3]

theorem unwelded_nverts (rows cols : Nat) :
    Gen.PrimLoops.uvSphereUnwelded.nverts [rows, cols] = uvUnweldedNV rows cols := by
  rw [Prog.nverts, show Gen.PrimLoops.uvSphereUnwelded.verts = 1 from rfl, (unwelded_run rows cols).2, List.length_map,
    List.length_range]

end PolyVerif.Solids
