/-
  Helper lemmas for C01 (core Lean only).

  The predicates, what each is for, and which implies which:
    `Frame base h h'`     h' extends h: arrays below `base` and all maps of h are untouched — what an operation does to the heap
    `Slice.Valid h s`     (model) within its capacity, its array exists — enough for `obs` to survive a frame (`obs_frame`)
    `BoundedS h s`        lies inside its array, so it reads exactly `len` cells — needed to say WHAT is read; `BoundedS.valid`
    `MapRef.All P`, `MeshRep.All P`, `State.All P`: a slice predicate `P` lifted to the entries of a map object, to the slices
                          and maps of a mesh, to the meshes of a pool.  There is ONE such tower: the model's `MapRef.Valid`,
                          `MeshRep.Valid`, `State.Valid` are it at `Slice.Valid`, and `MapRefB`, `MeshRep.Bounded`,
                          `State.Bounded` are it at `BoundedS`, by unfolding; so what holds storey by storey is stated for `P`
                          (`All.frame`, `.imp`, `.mono`, `.entries`, `.kind`, `allocMap_all`, `setKind_all`), and
                          `MapRefB.valid`, `MeshRep.Bounded.valid`, `State.Bounded.valid` are `imp` along `BoundedS.valid`
    `Stable P`            `P` survives a frame from the size of the heap; `Preserved E P`: moreover every bounded slice has `P`
                          and `Append` hands `P` on — what `apply_all` asks of `P`; `preserved_valid`, and `preserved_bounded`
                          in MeshHeapRefineOps.lean
    `Fresh base s`        array allocated at or after `base` (or no capacity): writing through `s` keeps `Frame base`
    `FreshMap base mbase h m`  map object allocated at or after `mbase` whose entries are `Fresh base`;
    `NewMap`              = `MapRef.Valid` ∧ `FreshMap`
    `FinOK base h fin`    the map `Append` is building: every entry `Fresh` ∧ `Valid`
    in MeshHeapRefine.lean: `Disj` (two slices cannot disturb one another), `FinInv` (entries `Fresh` ∧ `BoundedS`, pairwise
                          `Disj`; `FinInv.finOK`), `ArgOK` (argument entries: below `base`, bounded), `AppendPost` (what one
                          `append` onto a fresh bounded slice does)
  Two chains of lemmas follow the functions of `Append` (`goAppend`, `appendZeros`, `appendDataA/B`, `appendKind`,
  `appendMaps(B)`, `appendCopy`): `…_spec` here needs nothing of the arguments and gives frame, validity and freshness (the
  frame of `apply_all`, `preserved_valid`, and the freshness `class_realises` quotes); `…_refine` in MeshHeapRefine.lean needs
  bounded arguments and says what the result shows (`op_refines`, `preserved_bounded`).  The allocating functions have one
  lemma each (`allocSlice_spec` … `allocMaps_spec`).  `Op.apply` is analysed twice: `apply_all` here — every operation only
  allocates, whatever the state (`apply_frame`), and its results have every `Preserved` predicate the pool has, which at
  `Slice.Valid` is what `history_immutable` needs and at `BoundedS` is `run_bounded` — and `apply_pure` in
  MeshHeapRefineOps.lean, the equation with `pureOp`.
-/
import PolyVerif.Model.MeshPure

namespace PolyVerif
namespace MeshHeap

variable {κ α : Type}

/-- `h'` is `h` with (possibly) more arrays and maps, where no array below `base` and no existing map was written -/
structure Frame (base : Nat) (h h' : Heap κ α) : Prop where
  base_le : base ≤ h.arrays.length
  size_le : h.arrays.length ≤ h'.arrays.length
  arr_eq : ∀ i, i < base → h'.arrays[i]? = h.arrays[i]?
  msize_le : h.maps.length ≤ h'.maps.length
  maps_eq : ∀ i, i < h.maps.length → h'.maps[i]? = h.maps[i]?

theorem Frame.refl {base : Nat} {h : Heap κ α} (hb : base ≤ h.arrays.length) : Frame base h h :=
  ⟨hb, Nat.le_refl _, fun _ _ => rfl, Nat.le_refl _, fun _ _ => rfl⟩

theorem Frame.trans {base : Nat} {h1 h2 h3 : Heap κ α} (a : Frame base h1 h2) (b : Frame base h2 h3) :
    Frame base h1 h3 :=
  ⟨a.base_le, Nat.le_trans a.size_le b.size_le,
   fun i hi => (b.arr_eq i hi).trans (a.arr_eq i hi),
   Nat.le_trans a.msize_le b.msize_le,
   fun i hi => (b.maps_eq i (Nat.lt_of_lt_of_le hi a.msize_le)).trans (a.maps_eq i hi)⟩

theorem Frame.base_le' {base : Nat} {h h' : Heap κ α} (f : Frame base h h') : base ≤ h'.arrays.length :=
  Nat.le_trans f.base_le f.size_le

theorem Frame.weaken {base base' : Nat} {h h' : Heap κ α} (f : Frame base h h') (hle : base' ≤ base) : Frame base' h h' :=
  ⟨Nat.le_trans hle f.base_le, f.size_le, fun i hi => f.arr_eq i (Nat.lt_of_lt_of_le hi hle), f.msize_le, f.maps_eq⟩

theorem frame_alloc {base : Nat} {h : Heap κ α} (hb : base ≤ h.arrays.length) (c : List α) :
    Frame base h (h.alloc c).1 := by
  refine ⟨hb, by simp [Heap.alloc], ?_, by simp [Heap.alloc], fun _ _ => by simp [Heap.alloc]⟩
  intro i hi
  simp only [Heap.alloc]
  exact List.getElem?_append_left (by omega)

theorem frame_allocMap {base : Nat} {h : Heap κ α} (hb : base ≤ h.arrays.length) (es : List (κ × Slice)) :
    Frame base h (h.allocMap es).1 := by
  refine ⟨hb, by simp [Heap.allocMap], fun _ _ => by simp [Heap.allocMap], by simp [Heap.allocMap], ?_⟩
  intro i hi
  simp only [Heap.allocMap]
  exact List.getElem?_append_left hi

theorem frame_write {base : Nat} {h : Heap κ α} (hb : base ≤ h.arrays.length) (a i : Nat) (vs : List α)
    (ha : base ≤ a) : Frame base h (h.write a i vs) := by
  refine ⟨hb, by simp [Heap.write], ?_, by simp [Heap.write], fun _ _ => by simp [Heap.write]⟩
  intro j hj
  simp only [Heap.write, List.getElem?_modify]
  have : a ≠ j := by omega
  simp [this]

@[simp] theorem write_size (h : Heap κ α) (a i : Nat) (vs : List α) :
    (h.write a i vs).arrays.length = h.arrays.length := by simp [Heap.write]

@[simp] theorem alloc_size (h : Heap κ α) (c : List α) :
    (h.alloc c).1.arrays.length = h.arrays.length + 1 := by simp [Heap.alloc]

/-- the slice points into an array allocated at or after `base`, or has no array at all -/
def Fresh (base : Nat) (s : Slice) : Prop := base ≤ s.arr ∨ s.cap = 0

theorem Fresh.weaken {base base' : Nat} {s : Slice} (f : Fresh base s) (hle : base' ≤ base) : Fresh base' s :=
  f.imp (Nat.le_trans hle) id

theorem Slice.Valid.mono {h h' : Heap κ α} {s : Slice} (v : s.Valid h) (hs : h.arrays.length ≤ h'.arrays.length) :
    s.Valid h' := by
  obtain ⟨a, b⟩ := v
  exact ⟨a, b.imp id (fun x => Nat.lt_of_lt_of_le x hs)⟩

theorem nil_valid (h : Heap κ α) : Slice.nil.Valid h := ⟨Nat.le_refl _, Or.inl rfl⟩
theorem nil_fresh (base : Nat) : Fresh base Slice.nil := Or.inr rfl

/-- Go `append` onto a fresh-or-nil slice touches nothing below `base`; the result is again fresh and valid -/
theorem goAppend_spec (E : Env α) {base : Nat} {h : Heap κ α} (hb : base ≤ h.arrays.length) {s : Slice}
    (fs : Fresh base s) (vs_ : s.Valid h) (vs : List α) :
    Frame base h (goAppend E h s vs).1 ∧ Fresh base (goAppend E h s vs).2 ∧
      (goAppend E h s vs).2.Valid (goAppend E h s vs).1 := by
  cases vs with
  | nil => exact ⟨Frame.refl hb, fs, vs_⟩
  | cons v vs =>
    simp only [goAppend]
    split
    · rename_i hfit
      have hcap : s.cap ≠ 0 := by simp at hfit; omega
      have harr : base ≤ s.arr := fs.resolve_right hcap
      refine ⟨frame_write hb _ _ _ harr, Or.inl harr, ?_⟩
      refine ⟨hfit, ?_⟩
      rw [write_size]
      exact vs_.2
    · refine ⟨frame_alloc hb _, Or.inl hb, ?_⟩
      refine ⟨by simp, Or.inr ?_⟩
      simp

theorem appendZeros_spec (E : Env α) {base : Nat} (n : Nat) : ∀ {h : Heap κ α} (_ : base ≤ h.arrays.length) {s : Slice}
    (_ : Fresh base s) (_ : s.Valid h),
    Frame base h (appendZeros E h s n).1 ∧ Fresh base (appendZeros E h s n).2 ∧
      (appendZeros E h s n).2.Valid (appendZeros E h s n).1 := by
  induction n with
  | zero => intro h hb s fs vs; exact ⟨Frame.refl hb, fs, vs⟩
  | succ n ih =>
    intro h hb s fs vs
    obtain ⟨f1, fr1, v1⟩ := goAppend_spec E hb fs vs [E.zero]
    obtain ⟨f2, fr2, v2⟩ := ih f1.base_le' fr1 v1
    exact ⟨f1.trans f2, fr2, v2⟩

theorem read_frame {base : Nat} {h h' : Heap κ α} (f : Frame base h h') {s : Slice}
    (hs : s.arr < base ∨ s.len = 0) : h'.read s = h.read s := by
  cases hs with
  | inl hlt => simp [Heap.read, Heap.array, f.arr_eq _ hlt]
  | inr h0 => simp [Heap.read, h0]

theorem read_frame_valid {h h' : Heap κ α} (f : Frame h.arrays.length h h') {s : Slice}
    (v : s.Valid h) : h'.read s = h.read s := by
  apply read_frame f
  obtain ⟨a, b⟩ := v
  cases b with
  | inl c => right; omega
  | inr c => left; exact c

/-- the slice lies inside its backing array (or has no capacity at all) -/
def BoundedS (h : Heap κ α) (s : Slice) : Prop :=
  s.len ≤ s.cap ∧ (s.cap = 0 ∨ ∃ a, h.arrays[s.arr]? = some a ∧ s.off + s.cap ≤ a.length)

theorem BoundedS.valid {h : Heap κ α} {s : Slice} (b : BoundedS h s) : s.Valid h := by
  refine ⟨b.1, b.2.imp id ?_⟩
  rintro ⟨a, ha, _⟩
  exact (List.getElem?_eq_some_iff.mp ha).1

theorem nil_bounded (h : Heap κ α) : BoundedS h Slice.nil := ⟨Nat.le_refl _, Or.inl rfl⟩

theorem BoundedS.frame {base : Nat} {h h' : Heap κ α} (f : Frame base h h') {s : Slice} (b : BoundedS h s)
    (hs : s.arr < base ∨ s.cap = 0) : BoundedS h' s := by
  refine ⟨b.1, ?_⟩
  rcases b.2 with h0 | ⟨a, ha, hb⟩
  · exact Or.inl h0
  · rcases hs with h1 | h1
    · exact Or.inr ⟨a, by rw [f.arr_eq _ h1]; exact ha, hb⟩
    · exact Or.inl h1

theorem BoundedS.frame_size {h h' : Heap κ α} (f : Frame h.arrays.length h h') {s : Slice} (b : BoundedS h s) :
    BoundedS h' s :=
  b.frame f (b.valid.2.symm.imp id id)

theorem alloc_get (h : Heap κ α) (c : List α) : (h.alloc c).1.arrays[h.arrays.length]? = some c := by
  simp [Heap.alloc]

theorem alloc_read (h : Heap κ α) (c : List α) (n cap : Nat) :
    (h.alloc c).1.read ⟨h.arrays.length, 0, n, cap⟩ = c.take n := by
  unfold Heap.read Heap.array
  simp only [alloc_get, Option.getD_some, List.drop_zero]

def rd (h : Heap κ α) (e : κ × Slice) : κ × List α := (e.1, h.read e.2)

def obsMap (h : Heap κ α) (m : Option Nat) : List (κ × List α) := (h.mapEntries m).map (rd h)

theorem obs_attrs (h : Heap κ α) (r : MeshRep) : (obs h r).attrs = r.maps.map (obsMap h) := rfl

/-! ### one tower over a slice predicate

`MapRef.Valid`, `MeshRep.Valid`, `State.Valid` (model) and `MapRefB`, `MeshRep.Bounded`, `State.Bounded` ARE, by unfolding,
`MapRef.All`, `MeshRep.All`, `State.All` at `Slice.Valid` and at `BoundedS`; what does not depend on the predicate is proved
here once and used at both.  Trap: `MapRef.Valid h m` and `MapRefB h m` unfold to a `match` on `m`, which Lean does not
see through when it has to FIND `P` or `m`; so a lemma of the tower is applied to such a hypothesis under its full name
(`MapRef.All.entries b`, not `b.entries`), with `(P := …)` or `(m := some _)` where the expected type does not fix them. -/

def MapRef.All (P : Slice → Prop) (h : Heap κ α) : Option Nat → Prop
  | none => True
  | some i => i < h.maps.length ∧ ∀ e ∈ (h.maps[i]?).getD [], P e.2

def MeshRep.All (P : Heap κ α → Slice → Prop) (h : Heap κ α) (r : MeshRep) : Prop :=
  P h r.indices ∧ P h r.materials ∧ ∀ m ∈ r.maps, MapRef.All (P h) h m

def State.All (P : Heap κ α → Slice → Prop) (s : State κ α) : Prop := ∀ r ∈ s.pool, r.All P s.heap

/-- a map reference whose entries are all bounded -/
def MapRefB (h : Heap κ α) : Option Nat → Prop
  | none => True
  | some i => i < h.maps.length ∧ ∀ e ∈ (h.maps[i]?).getD [], BoundedS h e.2

/-- a mesh representation all of whose slices are bounded -/
def MeshRep.Bounded (h : Heap κ α) (r : MeshRep) : Prop :=
  BoundedS h r.indices ∧ BoundedS h r.materials ∧ ∀ m ∈ r.maps, MapRefB h m

/-- every pool mesh bounded -/
def State.Bounded (s : State κ α) : Prop := ∀ r ∈ s.pool, r.Bounded s.heap

/-- a map reference in `h` whose entries have `P` is, in every heap extending `h`, one whose entries have `Q`, if `P` slices
    have `Q` there: the one way from storey to storey, for a change of heap (`mono`) and for a change of predicate (`imp`) -/
theorem MapRef.All.frame {P Q : Slice → Prop} {base : Nat} {h h' : Heap κ α} (f : Frame base h h') (hpq : ∀ s, P s → Q s)
    {m : Option Nat} (a : MapRef.All P h m) : MapRef.All Q h' m := by
  cases m with
  | none => trivial
  | some i =>
    refine ⟨Nat.lt_of_lt_of_le a.1 f.msize_le, ?_⟩
    rw [f.maps_eq i a.1]
    exact fun e he => hpq _ (a.2 e he)

theorem MeshRep.All.frame {P Q : Heap κ α → Slice → Prop} {base : Nat} {h h' : Heap κ α} (f : Frame base h h')
    (hpq : ∀ s, P h s → Q h' s) {r : MeshRep} (a : r.All P h) : r.All Q h' :=
  ⟨hpq _ a.1, hpq _ a.2.1, fun m hm => (a.2.2 m hm).frame f hpq⟩

theorem MapRef.All.imp {P Q : Slice → Prop} (hpq : ∀ s, P s → Q s) {h : Heap κ α} {m : Option Nat}
    (a : MapRef.All P h m) : MapRef.All Q h m := a.frame (Frame.refl (Nat.zero_le _)) hpq

theorem MeshRep.All.imp {P Q : Heap κ α → Slice → Prop} {h : Heap κ α} (hpq : ∀ s, P h s → Q h s) {r : MeshRep}
    (a : r.All P h) : r.All Q h := a.frame (Frame.refl (Nat.zero_le _)) hpq

/-- the predicate survives allocation (and writes into what was allocated since) -/
def Stable (P : Heap κ α → Slice → Prop) : Prop :=
  ∀ (h h' : Heap κ α) (s : Slice), Frame h.arrays.length h h' → P h s → P h' s

theorem stable_valid : Stable (κ := κ) (α := α) Slice.Valid := fun _ _ _ f v => v.mono f.size_le

theorem stable_bounded : Stable (κ := κ) (α := α) BoundedS := fun _ _ _ f b => b.frame_size f

theorem MapRef.All.mono {P : Heap κ α → Slice → Prop} (hm : Stable P) {h h' : Heap κ α} (f : Frame h.arrays.length h h')
    {m : Option Nat} (a : MapRef.All (P h) h m) : MapRef.All (P h') h' m := a.frame f fun s => hm h h' s f

theorem MeshRep.All.mono {P : Heap κ α → Slice → Prop} (hm : Stable P) {h h' : Heap κ α} (f : Frame h.arrays.length h h')
    {r : MeshRep} (a : r.All P h) : r.All P h' := a.frame f fun s => hm h h' s f

theorem MapRef.All.entries {P : Slice → Prop} {h : Heap κ α} {m : Option Nat} (a : MapRef.All P h m) :
    ∀ e ∈ h.mapEntries m, P e.2 := by
  cases m with
  | none => intro e he; simp [Heap.mapEntries] at he
  | some i => exact a.2

/-- the entries of the map of one kind of a mesh -/
theorem MeshRep.All.kind {P : Heap κ α → Slice → Prop} {h : Heap κ α} {r : MeshRep} (a : r.All P h) (kind : Nat) :
    ∀ e ∈ h.mapEntries ((r.maps[kind]?).getD none), P h e.2 := by
  cases hk : r.maps[kind]? with
  | none => intro e he; simp [Heap.mapEntries] at he
  | some m => exact (a.2.2 m (List.mem_of_getElem? hk)).entries

theorem mem_setKind {maps : List (Option Nat)} {kind id : Nat} {m : Option Nat} (hm : m ∈ setKind maps kind id) :
    m ∈ maps ∨ m = some id := List.mem_or_eq_of_mem_set hm

theorem MapRefB.valid {h : Heap κ α} {m : Option Nat} (b : MapRefB h m) : MapRef.Valid h m :=
  MapRef.All.imp (P := BoundedS h) (fun _ => BoundedS.valid) b

theorem MeshRep.Bounded.valid {h : Heap κ α} {r : MeshRep} (b : r.Bounded h) : r.Valid h :=
  MeshRep.All.imp (fun _ => BoundedS.valid) b

theorem State.Bounded.valid {s : State κ α} (b : s.Bounded) : s.Valid := fun r hr => (b r hr).valid

/-! what a valid map or mesh shows survives any heap change that leaves the arrays and maps existing at the time alone -/

theorem mapEntries_frame {base : Nat} {h h' : Heap κ α} (f : Frame base h h') {m : Option Nat}
    (v : MapRef.Valid h m) : h'.mapEntries m = h.mapEntries m := by
  cases m with
  | none => rfl
  | some i => simp [Heap.mapEntries, f.maps_eq i v.1]

theorem obsMap_frame {h h' : Heap κ α} (f : Frame h.arrays.length h h') {m : Option Nat} (v : MapRef.Valid h m) :
    obsMap h' m = obsMap h m := by
  unfold obsMap
  rw [mapEntries_frame f v]
  exact List.map_congr_left fun e he => by rw [rd, rd, read_frame_valid f (MapRef.All.entries v e he)]

theorem obs_frame {h h' : Heap κ α} (f : Frame h.arrays.length h h') {r : MeshRep} (v : r.Valid h) :
    obs h' r = obs h r := by
  simp only [obs, read_frame_valid f v.1, read_frame_valid f v.2.1]
  congr 1
  exact List.map_congr_left fun m hm => obsMap_frame f (v.2.2 m hm)

theorem mapsB_frame {h h' : Heap κ α} (f : Frame h.arrays.length h h') {ms : List (Option Nat)}
    (b : ∀ m ∈ ms, MapRefB h m) : (∀ m ∈ ms, MapRefB h' m) ∧ ms.map (obsMap h') = ms.map (obsMap h) :=
  ⟨fun m hm => MapRef.All.mono stable_bounded f (b m hm), List.map_congr_left fun m hm => obsMap_frame f (b m hm).valid⟩

section maps

/-- a map object allocated at or after `mbase`, present in `h'`, all of whose entries are `Fresh base` -/
def FreshMap (base mbase : Nat) (h' : Heap κ α) (m : Option Nat) : Prop :=
  ∃ id, m = some id ∧ mbase ≤ id ∧ id < h'.maps.length ∧ ∀ e ∈ h'.mapEntries (some id), Fresh base e.2

theorem FreshMap.mono {base mbase b2 : Nat} {h h' : Heap κ α} {m : Option Nat} (fm : FreshMap base mbase h m)
    (f : Frame b2 h h') : FreshMap base mbase h' m := by
  obtain ⟨id, rfl, h1, h2, h3⟩ := fm
  refine ⟨id, rfl, h1, Nat.lt_of_lt_of_le h2 f.msize_le, ?_⟩
  intro e he
  apply h3 e
  simpa [Heap.mapEntries, f.maps_eq id h2] using he

theorem FreshMap.weaken {base base' mbase mbase' : Nat} {h : Heap κ α} {m : Option Nat} (fm : FreshMap base mbase h m)
    (hb : base' ≤ base) (hm : mbase' ≤ mbase) : FreshMap base' mbase' h m := by
  obtain ⟨id, rfl, h1, h2, h3⟩ := fm
  exact ⟨id, rfl, Nat.le_trans hm h1, h2, fun e he => (h3 e he).weaken hb⟩

theorem allocMap_entries (h : Heap κ α) (es : List (κ × Slice)) :
    (h.allocMap es).1.mapEntries (some (h.allocMap es).2) = es := by
  simp [Heap.mapEntries, Heap.allocMap]

theorem allocMap_all {Q : Slice → Prop} {h : Heap κ α} {es : List (κ × Slice)} (v : ∀ e ∈ es, Q e.2) :
    MapRef.All Q (h.allocMap es).1 (some (h.allocMap es).2) :=
  ⟨by simp [Heap.allocMap], fun e he => v e (allocMap_entries h es ▸ he)⟩

theorem allocMap_fresh {base mbase : Nat} {h : Heap κ α} (hm : mbase ≤ h.maps.length) {es : List (κ × Slice)}
    (v : ∀ e ∈ es, Fresh base e.2) : FreshMap base mbase (h.allocMap es).1 (some (h.allocMap es).2) :=
  ⟨_, rfl, hm, by simp [Heap.allocMap], fun e he => v e (allocMap_entries h es ▸ he)⟩

theorem obsMap_allocMap (h : Heap κ α) (es : List (κ × Slice)) :
    obsMap (h.allocMap es).1 (some (h.allocMap es).2) = es.map (rd h) := by
  unfold obsMap
  rw [allocMap_entries]
  rfl

section
variable (E : Env α) {base mbase : Nat}

theorem allocSlice_spec (h : Heap κ α) (vs : List α) (sp : Nat) :
    Frame h.arrays.length h (allocSlice E h vs sp).1 ∧ BoundedS (allocSlice E h vs sp).1 (allocSlice E h vs sp).2 ∧
      (allocSlice E h vs sp).1.read (allocSlice E h vs sp).2 = vs := by
  refine ⟨frame_alloc (Nat.le_refl _) _, ⟨by simp [allocSlice], Or.inr ⟨_, alloc_get _ _, by simp [allocSlice]⟩⟩, ?_⟩
  simp only [allocSlice]
  rw [alloc_read]
  exact List.take_left' rfl

theorem allocSlice_fresh (h : Heap κ α) (vs : List α) (sp : Nat) :
    Fresh h.arrays.length (allocSlice E h vs sp).2 := Or.inl (Nat.le_refl _)

theorem allocEntries_spec (es : List (κ × List α × Nat)) : ∀ (h : Heap κ α),
    Frame h.arrays.length h (allocEntries E h es).1 ∧
      (∀ e ∈ (allocEntries E h es).2, BoundedS (allocEntries E h es).1 e.2 ∧ Fresh h.arrays.length e.2) ∧
      (allocEntries E h es).1.maps = h.maps ∧ (allocEntries E h es).2.map (rd (allocEntries E h es).1) = entriesV es := by
  induction es with
  | nil => intro h; exact ⟨Frame.refl (Nat.le_refl _), fun e he => by simp [allocEntries] at he, rfl, rfl⟩
  | cons e rest ih =>
    intro h
    obtain ⟨f1, b1, r1⟩ := allocSlice_spec E h e.2.1 e.2.2
    obtain ⟨f2, b2, m2, r2⟩ := ih (allocSlice E h e.2.1 e.2.2).1
    simp only [allocEntries]
    refine ⟨f1.trans (f2.weaken f1.size_le), ?_, m2, ?_⟩
    · intro x hx
      rcases List.mem_cons.mp hx with rfl | hx
      · exact ⟨b1.frame_size f2, allocSlice_fresh E h _ _⟩
      · exact ⟨(b2 x hx).1, (b2 x hx).2.weaken f1.size_le⟩
    · simp only [List.map_cons, entriesV, rd] at r2 ⊢
      rw [r2, read_frame_valid f2 b1.valid, r1]

theorem allocMapOf_spec (es : List (κ × List α × Nat)) (h : Heap κ α) :
    Frame h.arrays.length h (allocMapOf E h es).1 ∧ MapRefB (allocMapOf E h es).1 (some (allocMapOf E h es).2) ∧
      obsMap (allocMapOf E h es).1 (some (allocMapOf E h es).2) = entriesV es ∧
      FreshMap h.arrays.length h.maps.length (allocMapOf E h es).1 (some (allocMapOf E h es).2) := by
  obtain ⟨f1, b1, m1, r1⟩ := allocEntries_spec E es h
  simp only [allocMapOf]
  exact ⟨f1.trans (frame_allocMap f1.base_le' _), allocMap_all fun e he => (b1 e he).1, (obsMap_allocMap _ _).trans r1,
    allocMap_fresh (Nat.le_of_eq (congrArg List.length m1.symm)) (fun e he => (b1 e he).2)⟩

theorem allocMaps_spec (ess : List (List (κ × List α × Nat))) : ∀ (h : Heap κ α),
    Frame h.arrays.length h (allocMaps E h ess).1 ∧
      (∀ m ∈ (allocMaps E h ess).2, MapRefB (allocMaps E h ess).1 m ∧
        FreshMap h.arrays.length h.maps.length (allocMaps E h ess).1 m) ∧
      (allocMaps E h ess).2.map (obsMap (allocMaps E h ess).1) = ess.map entriesV := by
  induction ess with
  | nil => intro h; exact ⟨Frame.refl (Nat.le_refl _), fun e he => by simp [allocMaps] at he, rfl⟩
  | cons es rest ih =>
    intro h
    obtain ⟨f1, b1, o1, fm1⟩ := allocMapOf_spec E es h
    obtain ⟨f2, b2, o2⟩ := ih (allocMapOf E h es).1
    simp only [allocMaps]
    refine ⟨f1.trans (f2.weaken f1.size_le), ?_, ?_⟩
    · intro x hx
      rcases List.mem_cons.mp hx with rfl | hx
      · exact ⟨MapRef.All.mono stable_bounded f2 (m := some _) b1, fm1.mono f2⟩
      · exact ⟨(b2 x hx).1, (b2 x hx).2.weaken f1.size_le f1.msize_le⟩
    · simp only [List.map_cons]
      rw [o2, obsMap_frame f2 b1.valid, o1]

theorem frame_write_nil {h : Heap κ α} (hb : base ≤ h.arrays.length) (a i : Nat) :
    Frame base h (h.write a i []) := by
  refine ⟨hb, by simp [Heap.write], ?_, by simp [Heap.write], fun _ _ => by simp [Heap.write]⟩
  intro j _
  simp only [Heap.write, List.getElem?_modify]
  cases h.arrays[j]? <;> simp

theorem shiftTail_spec {h : Heap κ α} (hb : base ≤ h.arrays.length) {s : Slice}
    (fs : Fresh base s) (vs : s.Valid h) (from_ n : Nat) :
    Frame base h (shiftTail E h s from_ n) ∧ (shiftTail E h s from_ n).arrays.length = h.arrays.length := by
  refine ⟨?_, by simp [shiftTail]⟩
  cases fs with
  | inl ha => exact frame_write hb _ _ _ ha
  | inr hc =>
    have hl : s.len = 0 := by have := vs.1; omega
    simp only [shiftTail, Heap.read, hl, Nat.zero_sub, List.take_zero, List.map_nil]
    exact frame_write_nil hb _ _

/-- `dst := make([]T, 0, len(x)+len(y)); dst = append(dst, x...); dst = append(dst, y...)` -/
def twoAppends (g : Heap κ α) (x y : Slice) : Heap κ α × Slice :=
  let g2 := (g.alloc (List.replicate (x.len + y.len) E.zero)).1
  let t1 := goAppend E g2 ⟨g.arrays.length, 0, 0, x.len + y.len⟩ (g2.read x)
  goAppend E t1.1 t1.2 (t1.1.read y)

theorem twoAppends_spec {g : Heap κ α} (hb : base ≤ g.arrays.length) (x y : Slice) :
    Frame base g (twoAppends E g x y).1 ∧ Fresh base (twoAppends E g x y).2 ∧
      (twoAppends E g x y).2.Valid (twoAppends E g x y).1 := by
  let g2 := (g.alloc (List.replicate (x.len + y.len) E.zero)).1
  let t1 := goAppend E g2 ⟨g.arrays.length, 0, 0, x.len + y.len⟩ (g2.read x)
  have f0 : Frame base g g2 := frame_alloc hb _
  obtain ⟨f1, fr1, v1⟩ := goAppend_spec E f0.base_le' (s := ⟨g.arrays.length, 0, 0, x.len + y.len⟩) (Or.inl hb)
    ⟨Nat.zero_le _, Or.inr (by simp [g2])⟩ (g2.read x)
  obtain ⟨f2, fr2, v2⟩ := goAppend_spec E f1.base_le' fr1 v1 (t1.1.read y)
  exact ⟨(f0.trans f1).trans f2, fr2, v2⟩

variable [DecidableEq κ]

theorem hasKeyV_false {es : List (κ × β)} {k : κ} (h : hasKeyV es k = false) : ∀ e ∈ es, e.1 ≠ k := by
  intro e he hk
  have : hasKeyV es k = true := by
    simp only [hasKeyV, List.any_eq_true]
    exact ⟨e, he, by simp [hk]⟩
  rw [h] at this; cases this

theorem mem_insertV {es : List (κ × β)} {k : κ} {v : β} {e : κ × β} (h : e ∈ insertV es k v) :
    (e ∈ es ∧ e.1 ≠ k) ∨ e = (k, v) := by
  unfold insertV at h
  split at h
  · rw [List.mem_map] at h
    obtain ⟨x, hx, rfl⟩ := h
    by_cases hk : x.1 = k
    · right; simp [hk]
    · left; simp [hk, hx]
  · rename_i hf
    rw [List.mem_append] at h
    rcases h with h | h
    · left; exact ⟨h, hasKeyV_false (by simpa using hf) e h⟩
    · right; simpa using h

theorem mem_insert {es : List (κ × Slice)} {k : κ} {s : Slice} {e : κ × Slice} (h : e ∈ insert es k s) :
    e ∈ es ∨ e = (k, s) :=
  (mem_insertV h).imp And.left id

theorem mem_erase {es : List (κ × Slice)} {k : κ} {e : κ × Slice} (h : e ∈ erase es k) : e ∈ es :=
  (List.mem_filter.mp h).1

theorem lookupV_mem {es : List (κ × β)} {k : κ} {c : β} (h : lookupV es k = some c) : ∃ e ∈ es, e.1 = k ∧ e.2 = c := by
  unfold lookupV at h
  cases hf : es.find? (fun e => e.1 == k) with
  | none => simp [hf] at h
  | some e =>
    simp [hf] at h
    have := List.find?_some hf
    exact ⟨e, List.mem_of_find?_eq_some hf, by simpa using this, h⟩

theorem lookup_mem {es : List (κ × Slice)} {k : κ} {c : Slice} (h : lookup es k = some c) : ∃ e ∈ es, e.2 = c :=
  (lookupV_mem h).imp fun _ he => ⟨he.1, he.2.2⟩

/-- `m[name] = d`, deleted again when `d` is empty (`SetFloatNAttribute`): old entries and at most the new one -/
theorem mem_insertErase {old : List (κ × Slice)} {name : κ} {d : Slice} {c : Prop} [Decidable c] {e : κ × Slice}
    (he : e ∈ (if c then erase (insert old name d) name else insert old name d)) : e ∈ old ∨ e = (name, d) := by
  apply mem_insert
  split at he
  · exact mem_erase he
  · exact he

/-! ### `Append`, whatever its arguments: only arrays allocated here are written, what is returned is valid and fresh -/

/-- every slice of a map under construction is fresh (or nil) and valid -/
def FinOK (base : Nat) (h : Heap κ α) (fin : List (κ × Slice)) : Prop :=
  ∀ e ∈ fin, Fresh base e.2 ∧ e.2.Valid h

omit [DecidableEq κ] in
theorem FinOK.mono {h h' : Heap κ α} {fin : List (κ × Slice)} (a : FinOK base h fin)
    (hs : h.arrays.length ≤ h'.arrays.length) : FinOK base h' fin :=
  fun e he => ⟨(a e he).1, (a e he).2.mono hs⟩

theorem FinOK.insert {h : Heap κ α} {fin : List (κ × Slice)} (a : FinOK base h fin)
    {k : κ} {s : Slice} (fs : Fresh base s) (vs : s.Valid h) : FinOK base h (insert fin k s) := by
  intro e he
  cases mem_insert he with
  | inl h1 => exact a e h1
  | inr h1 => subst h1; exact ⟨fs, vs⟩

theorem appendDataA_spec (b : List (κ × Slice)) (bLen : Nat) (a : List (κ × Slice)) :
    ∀ {h : Heap κ α} (_ : base ≤ h.arrays.length) {fin : List (κ × Slice)} (_ : FinOK base h fin),
    Frame base h (appendDataA E b bLen h a fin).1 ∧
      FinOK base (appendDataA E b bLen h a fin).1 (appendDataA E b bLen h a fin).2 := by
  induction a with
  | nil => intro h hb fin ok; exact ⟨Frame.refl hb, ok⟩
  | cons e rest ih =>
    intro h hb fin ok
    simp only [appendDataA]
    have f1 : Frame base h (h.alloc (h.read e.2 ++ List.replicate bLen E.zero)).1 := frame_alloc hb _
    have fc : Fresh base (⟨h.arrays.length, 0, e.2.len, e.2.len + bLen⟩ : Slice) := Or.inl hb
    have vc : Slice.Valid (h.alloc (h.read e.2 ++ List.replicate bLen E.zero)).1
        (⟨h.arrays.length, 0, e.2.len, e.2.len + bLen⟩ : Slice) := ⟨by simp, Or.inr (by simp)⟩
    split
    · obtain ⟨f2, ok2⟩ := ih f1.base_le' (FinOK.insert (k := e.1) (ok.mono f1.size_le) fc vc)
      exact ⟨f1.trans f2, ok2⟩
    · obtain ⟨fz, frz, vz⟩ := appendZeros_spec E bLen f1.base_le' fc vc
      obtain ⟨f2, ok2⟩ := ih fz.base_le' (FinOK.insert (k := e.1) (ok.mono (f1.trans fz).size_le) frz vz)
      exact ⟨(f1.trans fz).trans f2, ok2⟩

theorem appendDataB_spec (aLen : Nat) (b : List (κ × Slice)) :
    ∀ {h : Heap κ α} (_ : base ≤ h.arrays.length) {fin : List (κ × Slice)} (_ : FinOK base h fin),
    Frame base h (appendDataB E aLen h b fin).1 ∧
      FinOK base (appendDataB E aLen h b fin).1 (appendDataB E aLen h b fin).2 := by
  induction b with
  | nil => intro h hb fin ok; exact ⟨Frame.refl hb, ok⟩
  | cons e rest ih =>
    intro h hb fin ok
    simp only [appendDataB]
    split
    · rename_i c hc
      obtain ⟨e', he', rfl⟩ := lookup_mem hc
      obtain ⟨fc, vc⟩ := ok e' he'
      obtain ⟨f1, fr1, v1⟩ := goAppend_spec E hb fc vc (h.read e.2)
      obtain ⟨f2, ok2⟩ := ih f1.base_le' (FinOK.insert (k := e.1) (ok.mono f1.size_le) fr1 v1)
      exact ⟨f1.trans f2, ok2⟩
    · obtain ⟨fz, frz, vz⟩ := appendZeros_spec E aLen hb (nil_fresh base) (nil_valid h)
      obtain ⟨f1, fr1, v1⟩ := goAppend_spec E fz.base_le' frz vz ((appendZeros E h Slice.nil aLen).1.read e.2)
      obtain ⟨f2, ok2⟩ := ih f1.base_le' (FinOK.insert (k := e.1) (ok.mono (fz.trans f1).size_le) fr1 v1)
      exact ⟨(fz.trans f1).trans f2, ok2⟩

omit [DecidableEq κ] in
theorem FinOK.nil (base : Nat) (h : Heap κ α) : FinOK base h ([] : List (κ × Slice)) := fun _ he => by simp at he

theorem appendKind_spec (aLen bLen : Nat) {h : Heap κ α} (hb : base ≤ h.arrays.length)
    (hm : mbase ≤ h.maps.length) (ma mb : Option Nat) :
    Frame base h (appendKind E false aLen bLen h ma mb).1 ∧
      MapRef.Valid (appendKind E false aLen bLen h ma mb).1 (some (appendKind E false aLen bLen h ma mb).2) ∧
      FreshMap base mbase (appendKind E false aLen bLen h ma mb).1 (some (appendKind E false aLen bLen h ma mb).2) := by
  simp only [appendKind, Bool.false_eq_true, if_false]
  obtain ⟨f1, ok1⟩ := appendDataA_spec E (h.mapEntries mb) bLen (h.mapEntries ma) hb (FinOK.nil base h)
  obtain ⟨f2, ok2⟩ := appendDataB_spec E aLen (h.mapEntries mb) f1.base_le' ok1
  exact ⟨(f1.trans f2).trans (frame_allocMap f2.base_le' _), allocMap_all (fun e he => (ok2 e he).2),
    allocMap_fresh (Nat.le_trans hm (f1.trans f2).msize_le) (fun e he => (ok2 e he).1)⟩

/-- a map made by this `Append`, seen in a later heap -/
def NewMap (base mbase : Nat) (h : Heap κ α) (m : Option Nat) : Prop := MapRef.Valid h m ∧ FreshMap base mbase h m

omit [DecidableEq κ] in
theorem NewMap.mono {h h' : Heap κ α} {m : Option Nat} (n : NewMap base mbase h m) (f : Frame base h h') :
    NewMap base mbase h' m := ⟨MapRef.All.frame (P := Slice.Valid h) f (fun _ v => v.mono f.size_le) n.1, n.2.mono f⟩

theorem appendMapsB_spec (aLen bLen : Nat) (os : List (Option Nat)) :
    ∀ {h : Heap κ α} (_ : base ≤ h.arrays.length) (_ : mbase ≤ h.maps.length),
    Frame base h (appendMapsB E false aLen bLen h os).1 ∧
      ∀ m ∈ (appendMapsB E false aLen bLen h os).2, NewMap base mbase (appendMapsB E false aLen bLen h os).1 m := by
  induction os with
  | nil => intro h hb _; exact ⟨Frame.refl hb, fun m hx => by simp [appendMapsB] at hx⟩
  | cons mb os ih =>
    intro h hb hm
    simp only [appendMapsB]
    obtain ⟨f1, v1⟩ := appendKind_spec E aLen bLen hb hm none mb
    obtain ⟨f2, v2⟩ := ih f1.base_le' (Nat.le_trans hm f1.msize_le)
    refine ⟨f1.trans f2, fun m hx => ?_⟩
    rcases List.mem_cons.mp hx with rfl | hx
    · exact NewMap.mono v1 f2
    · exact v2 m hx

theorem appendMaps_spec (aLen bLen : Nat) (ms : List (Option Nat)) :
    ∀ (os : List (Option Nat)) {h : Heap κ α} (_ : base ≤ h.arrays.length) (_ : mbase ≤ h.maps.length),
    Frame base h (appendMaps E false aLen bLen h ms os).1 ∧ ms.length ≤ (appendMaps E false aLen bLen h ms os).2.length ∧
      ∀ m ∈ (appendMaps E false aLen bLen h ms os).2, NewMap base mbase (appendMaps E false aLen bLen h ms os).1 m := by
  induction ms with
  | nil =>
    intro os h hb hm
    simp only [appendMaps]
    exact ⟨(appendMapsB_spec E aLen bLen os hb hm).1, Nat.zero_le _, (appendMapsB_spec E aLen bLen os hb hm).2⟩
  | cons ma ms ih =>
    intro os h hb hm
    simp only [appendMaps]
    obtain ⟨f1, v1⟩ := appendKind_spec E aLen bLen hb hm ma (headKind os)
    obtain ⟨f2, l2, v2⟩ := ih os.tail f1.base_le' (Nat.le_trans hm f1.msize_le)
    refine ⟨f1.trans f2, Nat.succ_le_succ l2, fun m hx => ?_⟩
    rcases List.mem_cons.mp hx with rfl | hx
    · exact NewMap.mono v1 f2
    · exact v2 m hx

/-- `appendCopy` step by step: the maps, the index copy, the material copy, the index shift -/
theorem appendCopy_eq (h : Heap κ α) (m o : MeshRep) (aLen bLen : Nat) :
    appendCopy E h m o aLen bLen = if m.topo ≠ o.topo then none else
      let rm := appendMaps E false aLen bLen h m.maps o.maps
      let t := twoAppends E rm.1 m.indices o.indices
      let u := twoAppends E t.1 m.materials o.materials
      some (shiftTail E u.1 t.2 m.indices.len aLen, { topo := m.topo, indices := t.2, materials := u.2, maps := rm.2 }) :=
  rfl

/-- `Mesh.Append` as it is now writes only into arrays it allocated itself, and returns a valid mesh all of whose slices and
    maps (objects and entries) it allocated itself -/
theorem appendCopy_spec {h h' : Heap κ α} {m o r : MeshRep} {aLen bLen : Nat} {base mbase : Nat}
    (hb : base ≤ h.arrays.length) (hm : mbase ≤ h.maps.length) (hr : appendCopy E h m o aLen bLen = some (h', r)) :
    Frame base h h' ∧ r.Valid h' ∧ r.topo = m.topo ∧ Fresh base r.indices ∧ Fresh base r.materials ∧
      m.maps.length ≤ r.maps.length ∧ ∀ x ∈ r.maps, FreshMap base mbase h' x := by
  rw [appendCopy_eq] at hr
  split at hr
  · cases hr
  · simp only [Option.some.injEq, Prod.mk.injEq] at hr
    obtain ⟨rfl, rfl⟩ := hr
    obtain ⟨fm, lm, vm⟩ := appendMaps_spec E aLen bLen m.maps o.maps hb hm
    generalize appendMaps E false aLen bLen h m.maps o.maps = rm at fm lm vm ⊢
    obtain ⟨fA, ft, vt⟩ := twoAppends_spec E fm.base_le' m.indices o.indices
    generalize twoAppends E rm.1 m.indices o.indices = t2 at fA ft vt ⊢
    obtain ⟨fB, fu, vu⟩ := twoAppends_spec E fA.base_le' m.materials o.materials
    generalize twoAppends E t2.1 m.materials o.materials = u2 at fB fu vu ⊢
    have vt' : t2.2.Valid u2.1 := vt.mono fB.size_le
    obtain ⟨fS, hsz⟩ := shiftTail_spec E fB.base_le' ft vt' m.indices.len aLen
    have rest := (fA.trans fB).trans fS
    exact ⟨fm.trans rest, ⟨vt'.mono (Nat.le_of_eq hsz.symm), vu.mono (Nat.le_of_eq hsz.symm),
      fun x hx => ((vm x hx).mono rest).1⟩, rfl, ft, fu, lm, fun x hx => ((vm x hx).mono rest).2⟩

/-- what the operations need of a slice predicate to hand it on: whatever is bounded has it, it survives allocation, and
    `Append` returns it when its arguments have it -/
structure Preserved (P : Heap κ α → Slice → Prop) : Prop where
  of_bounded : ∀ {h s}, BoundedS h s → P h s
  mono : Stable P
  append : ∀ {h h' m o r aLen bLen}, m.All P h → o.All P h → appendCopy E h m o aLen bLen = some (h', r) → r.All P h'

variable {P : Heap κ α → Slice → Prop}

/-- the receiver with the map of one kind replaced by a map object made in `g` (a heap that only allocated since `h`) -/
theorem setKind_all (hP : Preserved E P) {h g : Heap κ α} (f : Frame h.arrays.length h g) {r : MeshRep} (vr : r.All P h)
    {es : List (κ × Slice)} (ves : ∀ e ∈ es, P g e.2) (kind : Nat) :
    ∀ x ∈ [({ r with maps := setKind r.maps kind (g.allocMap es).2 } : MeshRep)], x.All P (g.allocMap es).1 := by
  have vr' := vr.mono hP.mono (f.trans (frame_allocMap f.base_le' es))
  refine List.forall_mem_singleton.mpr ⟨vr'.1, vr'.2.1, fun m hm => ?_⟩
  rcases mem_setKind hm with h1 | rfl
  · exact vr'.2.2 m h1
  · exact allocMap_all fun e he => hP.mono _ _ _ (frame_allocMap (Nat.le_refl _) es) (ves e he)

/-- **every operation of the current tree only allocates** (no hypothesis on the state), **and hands on every preserved
    slice predicate**: the meshes it returns are valid if the pool is (`preserved_valid`), bounded if the pool is
    (`preserved_bounded`) -/
theorem apply_all (hP : Preserved E P) {s : State κ α} {op : Op κ α} (hc : op.current = true)
    {h' : Heap κ α} {rs : List MeshRep} (ha : op.apply E s = some (h', rs)) :
    Frame s.heap.arrays.length s.heap h' ∧ (s.All P → ∀ r ∈ rs, r.All P h') := by
  have arg : s.All P → ∀ {m : Nat} {r : MeshRep}, s.pool[m]? = some r → r.All P s.heap :=
    fun ps _ _ hr => ps _ (List.mem_of_getElem? hr)
  have made : ∀ {h : Heap κ α} {m : Option Nat}, MapRefB h m → MapRef.All (P h) h m := fun b => MapRef.All.imp (fun _ => hP.of_bounded) b
  cases op <;>
    simp only [Op.apply, Option.bind_eq_bind, Option.bind_eq_some_iff, Option.pure_def, Option.some.injEq, Prod.mk.injEq] at ha
  case newMesh topo idx isp mats msp attrs =>
    obtain ⟨rfl, rfl⟩ := ha
    obtain ⟨f1, b1, _⟩ := allocSlice_spec E s.heap idx isp
    obtain ⟨f2, b2, _⟩ := allocSlice_spec E (allocSlice E s.heap idx isp).1 mats msp
    obtain ⟨f3, b3, _⟩ := allocMaps_spec E attrs (allocSlice E (allocSlice E s.heap idx isp).1 mats msp).1
    exact ⟨f1.trans ((f2.trans (f3.weaken f2.size_le)).weaken f1.size_le), fun _ => List.forall_mem_singleton.mpr
      ⟨hP.of_bounded ((b1.frame_size f2).frame_size f3), hP.of_bounded (b2.frame_size f3), fun m hm => made (b3 m hm).1⟩⟩
  case setIndices m idx sp =>
    obtain ⟨r, hr, rfl, rfl⟩ := ha
    obtain ⟨f1, b1, _⟩ := allocSlice_spec E s.heap idx sp
    refine ⟨f1, fun ps => ?_⟩
    have vr := (arg ps hr).mono hP.mono f1
    exact List.forall_mem_singleton.mpr ⟨hP.of_bounded b1, vr.2.1, vr.2.2⟩
  case setMaterials m mats sp =>
    obtain ⟨r, hr, rfl, rfl⟩ := ha
    obtain ⟨f1, b1, _⟩ := allocSlice_spec E s.heap mats sp
    refine ⟨f1, fun ps => ?_⟩
    have vr := (arg ps hr).mono hP.mono f1
    exact List.forall_mem_singleton.mpr ⟨vr.1, hP.of_bounded b1, vr.2.2⟩
  case shareMaterials m src =>
    obtain ⟨r, hr, q, hq, rfl, rfl⟩ := ha
    exact ⟨Frame.refl (Nat.le_refl _), fun ps => List.forall_mem_singleton.mpr ⟨(arg ps hr).1, (arg ps hq).2.1, (arg ps hr).2.2⟩⟩
  case toPointCloud m pt n =>
    obtain ⟨r, hr, ha⟩ := ha
    split at ha <;> simp only [Option.some.injEq, Prod.mk.injEq] at ha <;> obtain ⟨rfl, rfl⟩ := ha
    · exact ⟨Frame.refl (Nat.le_refl _), fun ps => List.forall_mem_singleton.mpr (arg ps hr)⟩
    · obtain ⟨f1, b1, _⟩ := allocSlice_spec E s.heap ((List.range n).map E.ident) 0
      refine ⟨f1, fun ps => ?_⟩
      have vr := (arg ps hr).mono hP.mono f1
      exact List.forall_mem_singleton.mpr ⟨hP.of_bounded b1, vr.2.1, vr.2.2⟩
  case clearAttrs m =>
    obtain ⟨r, hr, rfl, rfl⟩ := ha
    refine ⟨Frame.refl (Nat.le_refl _), fun ps => List.forall_mem_singleton.mpr ⟨(arg ps hr).1, (arg ps hr).2.1, fun mm hmm => ?_⟩⟩
    obtain ⟨_, _, rfl⟩ := List.mem_map.mp hmm
    trivial
  case setData m kind es =>
    obtain ⟨r, hr, rfl, rfl⟩ := ha
    obtain ⟨f1, b1, _⟩ := allocMapOf_spec E es s.heap
    refine ⟨f1, fun ps => ?_⟩
    have vr := (arg ps hr).mono hP.mono f1
    refine List.forall_mem_singleton.mpr ⟨vr.1, vr.2.1, fun m hm => ?_⟩
    rcases mem_setKind hm with h1 | rfl
    · exact vr.2.2 m h1
    · exact made b1
  case setAttr m kind name data sp =>
    obtain ⟨r, hr, rfl, rfl⟩ := ha
    obtain ⟨f1, b1, _⟩ := allocSlice_spec E s.heap data sp
    refine ⟨f1.trans (frame_allocMap f1.base_le' _), fun ps => setKind_all E hP f1 (arg ps hr) (fun e he => ?_) kind⟩
    rcases mem_insertErase he with h1 | rfl
    · exact hP.mono _ _ _ f1 ((arg ps hr).kind kind e h1)
    · exact hP.of_bounded b1
  case copyAttr m src kind name =>
    obtain ⟨r, hr, q, hq, rfl, rfl⟩ := ha
    refine ⟨frame_allocMap (Nat.le_refl _) _,
      fun ps => setKind_all E hP (Frame.refl (Nat.le_refl _)) (arg ps hr) (fun e he => ?_) kind⟩
    rcases mem_insertErase he with h1 | rfl
    · exact (arg ps hr).kind kind e h1
    · cases hl : lookup (s.heap.mapEntries ((q.maps[kind]?).getD none)) name with
      | none => exact hP.of_bounded (nil_bounded _)
      | some c =>
        obtain ⟨e, he, rfl⟩ := lookup_mem hl
        exact (arg ps hq).kind kind e he
  case rebuild m topo idx isp attrs mm =>
    obtain ⟨r, hr, rfl, rfl⟩ := ha
    obtain ⟨f1, b1, _⟩ := allocSlice_spec E s.heap idx isp
    obtain ⟨f2, b2, _⟩ := allocMaps_spec E attrs (allocSlice E s.heap idx isp).1
    have f := f1.trans (f2.weaken f1.size_le)
    refine ⟨f, fun ps => List.forall_mem_singleton.mpr ⟨hP.of_bounded (b1.frame_size f2), ?_, fun m hm => made (b2 m hm).1⟩⟩
    cases mm with
    | share => exact ((arg ps hr).mono hP.mono f).2.1
    | drop => exact hP.of_bounded (nil_bounded _)
  case readOnly m =>
    obtain ⟨r, hr, rfl, rfl⟩ := ha
    exact ⟨Frame.refl (Nat.le_refl _), fun _ x hx => by simp at hx⟩
  case append m o aLen bLen =>
    obtain ⟨r, hr, q, hq, x, hx, rfl, rfl⟩ := ha
    exact ⟨(appendCopy_spec E (Nat.le_refl _) (Nat.le_refl s.heap.maps.length)
      (show appendCopy E s.heap r q aLen bLen = some (x.1, x.2) from hx)).1,
      fun ps => List.forall_mem_singleton.mpr (hP.append (arg ps hr) (arg ps hq) hx)⟩
  case appendOld m o aLen bLen => simp [Op.current] at hc

theorem preserved_valid : Preserved (κ := κ) E Slice.Valid where
  of_bounded := BoundedS.valid
  mono := stable_valid
  append := fun _ _ hx => (appendCopy_spec E (Nat.le_refl _) (Nat.le_refl _) hx).2.1

/-- every operation of the current tree writes only into arrays it allocated itself and never into an existing map,
    whatever the state it is applied in -/
theorem apply_frame {s : State κ α} {op : Op κ α} (hc : op.current = true) {h' : Heap κ α} {rs : List MeshRep}
    (ha : op.apply E s = some (h', rs)) : Frame s.heap.arrays.length s.heap h' :=
  (apply_all E (preserved_valid E) hc ha).1

end

/-! three statements that carry the key instance although they do not look at keys -/
section
set_option linter.unusedSectionVars false
variable [DecidableEq κ]

theorem MapRefB.entries {h : Heap κ α} {m : Option Nat} (b : MapRefB h m) : ∀ e ∈ h.mapEntries m, BoundedS h e.2 :=
  MapRef.All.entries b

theorem allocMap_bounded {h : Heap κ α} {s : Slice} (es : List (κ × Slice)) :
    BoundedS (h.allocMap es).1 s ↔ BoundedS h s := Iff.rfl

theorem allocMap_read (h : Heap κ α) (es : List (κ × Slice)) (s : Slice) : (h.allocMap es).1.read s = h.read s := rfl

end

end maps

end MeshHeap
end PolyVerif
