/-
  C09 — the solid of one marching cell: the table's triangles closed off by cap triangles on the cell faces
  (`Lemmas/MarchVolume.lean`) has signed volume ≥ 0 for every position of the edge vertices, > 0 in the open parameter cube
  unless the cell is all outside; the cell polyhedron is closed; the caps of the low faces carry no volume.

  The volume is affine in each vertex parameter, so its sign is decided at the corners of the parameter cube, and those are
  what `Tab.table_cell_solid` evaluates.
-/
import PolyVerif.Lemmas.MarchVolume
import PolyVerif.Lemmas.MarchCaps
import PolyVerif.Lemmas.Triple

namespace PolyVerif
namespace C09
open PolyVerif.March PolyVerif.Gen.March

/-- a lattice point / offset as a real vector -/
noncomputable def ptR (q : Pt) : V3 ℝ := ⟨(q.1 : ℝ), (q.2.1 : ℝ), (q.2.2 : ℝ)⟩

/-- `det (a, b, c)`: six times the signed volume of the tetrahedron spanned by `a`, `b`, `c` and the origin -/
noncomputable def det3 (a b c : V3 ℝ) : ℝ := V3.Dot a (V3.Cross b c)

/-! ### a multi-affine function takes its sign from the corners of the cube -/

/-- parameter assignment with one entry replaced -/
def upd (τ : Nat → ℝ) (e : Nat) (x : ℝ) : Nat → ℝ := fun i => if i = e then x else τ i

/-- `f` is affine in parameter `e` -/
def AffineIn (f : (Nat → ℝ) → ℝ) (e : Nat) : Prop :=
  ∀ τ x, f (upd τ e x) = (1 - x) * f (upd τ e 0) + x * f (upd τ e 1)

/-- the corner of the parameter cube over `E` that `g` selects (1 where `g` holds); parameters outside `E` as in `τ` -/
noncomputable def corner (τ : Nat → ℝ) (E : List Nat) (g : Nat → Bool) : Nat → ℝ :=
  fun i => if i ∈ E then (if g i then 1 else 0) else τ i

theorem upd_self_aux (τ : Nat → ℝ) (e : Nat) : upd τ e (τ e) = τ := by
  funext i; unfold upd; split_ifs with h <;> simp [h]

theorem corner_nil_aux (τ : Nat → ℝ) (g : Nat → Bool) : corner τ [] g = τ := by
  funext i; simp [corner]

theorem corner_split_aux (τ : Nat → ℝ) {e : Nat} {r : List Nat} (her : e ∉ r) (b : Bool) (g : Nat → Bool) :
    corner (upd τ e (if b then 1 else 0)) r g = corner τ (e :: r) (fun i => if i = e then b else g i) := by
  funext i
  by_cases hie : i = e
  · subst hie; simp [corner, upd, her]
  · simp [corner, upd, hie]

/-- a multi-affine function that is ≥ 0 at the corners of the cube is ≥ 0 on the closed cube -/
theorem multiaffine_nonneg_aux (f : (Nat → ℝ) → ℝ) (E : List Nat) (hE : E.Nodup) (hA : ∀ e ∈ E, AffineIn f e) :
    ∀ τ : Nat → ℝ, (∀ e ∈ E, 0 ≤ τ e ∧ τ e ≤ 1) → (∀ g, 0 ≤ f (corner τ E g)) → 0 ≤ f τ := by
  induction E with
  | nil => intro τ _ h; simpa [corner_nil_aux] using h (fun _ => false)
  | cons e r ih =>
    intro τ hτ hc
    obtain ⟨her, hr⟩ := List.nodup_cons.mp hE
    have side : ∀ b : Bool, 0 ≤ f (upd τ e (if b then 1 else 0)) := fun b =>
      ih hr (fun e' he' => hA e' (List.mem_cons_of_mem _ he')) _
        (fun e' he' => by
          have hne : e' ≠ e := fun h => her (h ▸ he')
          simpa [upd, hne] using hτ e' (List.mem_cons_of_mem _ he'))
        (fun g => by rw [corner_split_aux τ her b g]; exact hc _)
    have h0 := side false
    have h1 := side true
    simp only [Bool.false_eq_true, if_false, if_true] at h0 h1
    have hx := hτ e List.mem_cons_self
    have := hA e List.mem_cons_self τ (τ e)
    rw [upd_self_aux] at this
    rw [this]
    have a1 : 0 ≤ 1 - τ e := by linarith [hx.2]
    nlinarith [mul_nonneg a1 h0, mul_nonneg hx.1 h1]

/-- … and > 0 in the open cube as soon as one corner value is positive -/
theorem multiaffine_pos_aux (f : (Nat → ℝ) → ℝ) (E : List Nat) (hE : E.Nodup) (hA : ∀ e ∈ E, AffineIn f e) :
    ∀ τ : Nat → ℝ, (∀ e ∈ E, 0 < τ e ∧ τ e < 1) → (∀ g, 0 ≤ f (corner τ E g)) → (∃ g, 0 < f (corner τ E g)) → 0 < f τ := by
  induction E with
  | nil => intro τ _ _ h; obtain ⟨g, hp⟩ := h; simpa [corner_nil_aux] using hp
  | cons e r ih =>
    intro τ hτ hc hp
    obtain ⟨her, hr⟩ := List.nodup_cons.mp hE
    have hA' : ∀ e' ∈ r, AffineIn f e' := fun e' he' => hA e' (List.mem_cons_of_mem _ he')
    have hst : ∀ (b : Bool), ∀ e' ∈ r, 0 < upd τ e (if b then 1 else 0) e' ∧ upd τ e (if b then 1 else 0) e' < 1 := by
      intro b e' he'
      have hne : e' ≠ e := fun h => her (h ▸ he')
      simpa [upd, hne] using hτ e' (List.mem_cons_of_mem _ he')
    have hcs : ∀ (b : Bool) (g : Nat → Bool), 0 ≤ f (corner (upd τ e (if b then 1 else 0)) r g) :=
      fun b g => by rw [corner_split_aux τ her b g]; exact hc _
    have side : ∀ b : Bool, 0 ≤ f (upd τ e (if b then 1 else 0)) := fun b =>
      multiaffine_nonneg_aux f r hr hA' _ (fun e' he' => ⟨(hst b e' he').1.le, (hst b e' he').2.le⟩) (hcs b)
    -- the positive corner lies on one of the two sides
    obtain ⟨g, hpos⟩ := hp
    have hg : corner τ (e :: r) g = corner (upd τ e (if g e then 1 else 0)) r g := by
      rw [corner_split_aux τ her (g e) g]; congr 1; funext i; split_ifs with h <;> simp [h]
    have pside := ih hr hA' _ (hst (g e)) (hcs (g e)) ⟨g, hg ▸ hpos⟩
    have n0 := side false
    have n1 := side true
    simp only [Bool.false_eq_true, if_false, if_true] at n0 n1
    have hx := hτ e List.mem_cons_self
    have := hA e List.mem_cons_self τ (τ e)
    rw [upd_self_aux] at this
    rw [this]
    have a1 : 0 < 1 - τ e := by linarith [hx.2]
    cases hge : g e <;> simp only [hge, Bool.false_eq_true, if_false, if_true] at pside
    · nlinarith [mul_pos a1 pside, mul_nonneg hx.1.le n1]
    · nlinarith [mul_nonneg a1.le n0, mul_pos hx.1 pside]

/-! ### the real volume of a triangle list of the cell polyhedron -/

/-- position of polyhedron vertex `id` under the parameter assignment `τ` (`τ e` = position of the vertex of cube edge `e`
    between the low (0) and the high (1) end of the edge) -/
noncomputable def vposR (τ : Nat → ℝ) (id : Nat) : V3 ℝ :=
  if id < 12 then V3.Add (ptR (edgeRel id).1) (V3.Scale (ptR (unit (edgeRel id).2)) (τ id)) else ptR (cornerOff (id - 12))

/-- six times the signed volume of a triangle list against the cell's low corner -/
noncomputable def vol6R (T : List (Nat × Nat × Nat)) (τ : Nat → ℝ) : ℝ :=
  (T.map fun t => det3 (vposR τ t.1) (vposR τ t.2.1) (vposR τ t.2.2)).sum

theorem vposR_upd_ne_aux (τ : Nat → ℝ) (e : Nat) (x : ℝ) (id : Nat) (h : id ≠ e) : vposR (upd τ e x) id = vposR τ id := by
  simp [vposR, upd, h]

/-- the one vertex that parameter `e` moves, moves along a line -/
theorem vposR_upd_self_aux (τ : Nat → ℝ) (e : Nat) (x : ℝ) :
    vposR (upd τ e x) e = ((vposR (upd τ e 0) e).Scale (1 - x)).Add ((vposR (upd τ e 1) e).Scale x) := by
  simp only [vposR, upd, if_true]
  split_ifs <;> ext <;> simp only [v3] <;> ring

/-- at most one corner of the triangle depends on `e`; bring it to the front and use linearity there -/
theorem det_affine_aux (t : Nat × Nat × Nat) (hd : t.1 ≠ t.2.1 ∧ t.1 ≠ t.2.2 ∧ t.2.1 ≠ t.2.2) (e : Nat) :
    AffineIn (fun τ => det3 (vposR τ t.1) (vposR τ t.2.1) (vposR τ t.2.2)) e := by
  intro τ x
  obtain ⟨i, j, k⟩ := t
  simp only [det3] at hd ⊢
  by_cases hi : i = e
  · subst hi
    simp only [vposR_upd_ne_aux τ i _ j (Ne.symm hd.1), vposR_upd_ne_aux τ i _ k (Ne.symm hd.2.1)]
    rw [vposR_upd_self_aux, V3.triple_lerp]
  · by_cases hj : j = e
    · subst hj
      simp only [vposR_upd_ne_aux τ j _ i hi, vposR_upd_ne_aux τ j _ k (Ne.symm hd.2.2)]
      rw [vposR_upd_self_aux, V3.triple_lerp_mid]
    · by_cases hk : k = e
      · subst hk
        simp only [vposR_upd_ne_aux τ k _ i hi, vposR_upd_ne_aux τ k _ j hj]
        rw [vposR_upd_self_aux, V3.triple_lerp_right]
      · simp only [vposR_upd_ne_aux τ e _ i hi, vposR_upd_ne_aux τ e _ j hj, vposR_upd_ne_aux τ e _ k hk]
        ring

theorem vol6R_affine_aux (T : List (Nat × Nat × Nat))
    (hd : ∀ t ∈ T, t.1 ≠ t.2.1 ∧ t.1 ≠ t.2.2 ∧ t.2.1 ≠ t.2.2) (e : Nat) : AffineIn (vol6R T) e := by
  induction T with
  | nil => intro τ x; simp [vol6R]
  | cons t T ih =>
    intro τ x
    have h1 := det_affine_aux t (hd t List.mem_cons_self) e τ x
    have h2 := ih (fun t' ht' => hd t' (List.mem_cons_of_mem _ ht')) τ x
    simp only [vol6R, List.map_cons, List.sum_cons] at h2 ⊢
    simp only at h1
    rw [h1, h2]; ring

/-! ### value at a corner = the kernel-evaluated natural number -/

theorem vposR_corner_aux (σ : Nat → ℝ) (h : Nat → Bool) (id : Nat)
    (hσ : id < 12 → σ id = if h id then 1 else 0) : vposR σ id = ptR (vposIk (h id) id) := by
  unfold vposR vposIk
  by_cases h12 : id < 12
  · simp only [h12, if_true, hσ h12, ptR, V3.Add, V3.Scale, V3.mk.injEq]
    cases h id <;> simp
  · simp only [h12, if_false]

theorem det3_cast_aux (a b c : Pt) : det3 (ptR a) (ptR b) (ptR c) = ((det3I a b c : Int) : ℝ) := by
  simp only [det3, det3I, ptR, V3.Dot, V3.Cross]; push_cast; ring

/-- `|det| ≤ 3` for lattice points of the unit cube: each 2×2 minor is a difference of two products in `{0, 1}` -/
theorem det3I_bound_aux (a b c : Pt) (ha : unitPt a = true) (hb : unitPt b = true) (hc : unitPt c = true) :
    -3 ≤ det3I a b c ∧ det3I a b c ≤ 3 := by
  have prod : ∀ x y : Int, (x = 0 ∨ x = 1) → (y = 0 ∨ y = 1) → 0 ≤ x * y ∧ x * y ≤ 1 := by
    rintro x y (rfl | rfl) (rfl | rfl) <;> simp
  simp only [unitPt, Bool.and_eq_true, Bool.or_eq_true, beq_iff_eq] at ha hb hc
  obtain ⟨⟨a1, a2⟩, a3⟩ := ha
  obtain ⟨⟨b1, b2⟩, b3⟩ := hb
  obtain ⟨⟨c1, c2⟩, c3⟩ := hc
  have p1 := prod _ _ b2 c3; have p2 := prod _ _ b3 c2; have p3 := prod _ _ b1 c3
  have p4 := prod _ _ b3 c1; have p5 := prod _ _ b1 c2; have p6 := prod _ _ b2 c1
  unfold det3I
  rcases a1 with h1 | h1 <;> rcases a2 with h2 | h2 <;> rcases a3 with h3 | h3 <;> rw [h1, h2, h3] <;> omega

theorem vposIk_unit_aux (hi : Bool) (id : Nat) (h : id < 20) : unitPt (vposIk hi id) = true := by
  have T := Tab.table_vertices_unit
  rw [List.all_eq_true] at T
  have := T id (List.mem_range.mpr h)
  rw [Bool.and_eq_true] at this
  cases hi
  · exact this.1
  · exact this.2

theorem triVal_le_aux (t : Nat × Nat × Nat) (hid : t.1 < 20 ∧ t.2.1 < 20 ∧ t.2.2 < 20) (h : Nat → Bool) :
    ((triVal t h : Nat) : Int) = 3 + det3I (vposIk (h t.1) t.1) (vposIk (h t.2.1) t.2.1) (vposIk (h t.2.2) t.2.2) ∧ triVal t h ≤ 6 := by
  have := det3I_bound_aux _ _ _ (vposIk_unit_aux (h t.1) _ hid.1) (vposIk_unit_aux (h t.2.1) _ hid.2.1)
    (vposIk_unit_aux (h t.2.2) _ hid.2.2)
  unfold triVal
  omega

theorem triVal_sum_le_aux (T : List (Nat × Nat × Nat)) (hT : ∀ t ∈ T, t.1 < 20 ∧ t.2.1 < 20 ∧ t.2.2 < 20) (h : Nat → Bool) :
    (T.map fun t => triVal t h).sum ≤ 6 * T.length := by
  induction T with
  | nil => simp
  | cons t T ih =>
    have := (triVal_le_aux t (hT t List.mem_cons_self) h).2
    have := ih (fun t' ht' => hT t' (List.mem_cons_of_mem _ ht'))
    simp only [List.map_cons, List.sum_cons, List.length_cons]; omega

/-- six times the volume at the corner `h` of the parameter cube, read off the `triVal` sum -/
theorem vol6R_corner_aux (T : List (Nat × Nat × Nat)) (σ : Nat → ℝ) (h : Nat → Bool)
    (hT : ∀ t ∈ T, (t.1 < 20 ∧ t.2.1 < 20 ∧ t.2.2 < 20) ∧
      ∀ id, (id = t.1 ∨ id = t.2.1 ∨ id = t.2.2) → id < 12 → σ id = if h id then 1 else 0) :
    vol6R T σ = (((T.map fun t => triVal t h).sum : Nat) : ℝ) - 3 * T.length := by
  induction T with
  | nil => simp [vol6R]
  | cons t T ih =>
    obtain ⟨hid, ht⟩ := hT t List.mem_cons_self
    have ih1 := ih (fun t' ht' => hT t' (List.mem_cons_of_mem _ ht'))
    have hv' : ((triVal t h : Nat) : ℝ) = 3 + det3 (vposR σ t.1) (vposR σ t.2.1) (vposR σ t.2.2) := by
      rw [vposR_corner_aux σ h t.1 (ht _ (Or.inl rfl)), vposR_corner_aux σ h t.2.1 (ht _ (Or.inr (Or.inl rfl))),
        vposR_corner_aux σ h t.2.2 (ht _ (Or.inr (Or.inr rfl))), det3_cast_aux]
      exact_mod_cast (triVal_le_aux t hid h).1
    simp only [vol6R, List.map_cons, List.sum_cons, List.length_cons] at ih1 ⊢
    rw [ih1]; push_cast; linarith

/-! ### what the sweep `Tab.table_cell_solid` says, fact by fact, for any sign pattern that passes it -/

theorem solid_sub_poly_aux (bits : List Bool) (t : Nat × Nat × Nat) (h : t ∈ solidTris bits) : t ∈ polyTris bits := by
  simp only [solidTris, polyTris, capTris, List.mem_append] at h ⊢
  tauto

/-- `Σ (3 + det)` over the cell solid at the corner of the parameter cube that `g` selects -/
def cornerSum (bits : List Bool) (g : Nat → Bool) : Nat :=
  ((solidTris bits).map fun t => triVal t (reach (crossEdges bits) (fun _ => false) g)).sum

theorem corner_eq_reach (τ : Nat → ℝ) (E : List Nat) (g : Nat → Bool) {i : Nat} (hi : i ∈ E) :
    corner τ E g i = if reach E (fun _ => false) g i then 1 else 0 := by
  simp [corner, reach, hi]

section cellOK
variable {bits : List Bool} (h : cellOK bits = true)
include h

theorem cellOK_closed : cancels 200 ((polyTris bits).flatMap triEdges) = true := by
  simp only [cellOK, Bool.and_eq_true] at h; exact h.1.1.1.2

theorem cellOK_len : (solidTris bits).length < 10000 := by
  simp only [cellOK, Bool.and_eq_true, decide_eq_true_eq] at h; exact h.1.1.2

theorem cellOK_slots_nonneg : solidSlots (Nat.ble (3 * (solidTris bits).length)) bits = true := by
  simp only [cellOK, Bool.and_eq_true] at h; exact h.1.2

theorem cellOK_slot_pos (hin : bits.all (!·) = false) :
    solidSlots (fun x => Nat.ble x (3 * (solidTris bits).length)) bits = false := by
  simp only [cellOK, Bool.and_eq_true, Bool.or_eq_true, Bool.not_eq_true'] at h
  exact h.2.resolve_left (by rw [hin]; exact Bool.false_ne_true)

/-- every triangle of the cell polyhedron has three different corners with ids < 20, and its edge vertices lie on
    sign-changing cube edges -/
theorem poly_wf_aux : ∀ t ∈ polyTris bits,
    (t.1 ≠ t.2.1 ∧ t.1 ≠ t.2.2 ∧ t.2.1 ≠ t.2.2) ∧ (t.1 < 20 ∧ t.2.1 < 20 ∧ t.2.2 < 20) ∧
    ∀ id, (id = t.1 ∨ id = t.2.1 ∨ id = t.2.2) → id < 12 → id ∈ crossEdges bits := by
  simp only [cellOK, Bool.and_eq_true] at h
  have wf := h.1.1.1.1
  rw [polyWF, List.all_eq_true] at wf
  intro t ht
  have := wf t ht
  simp only [Bool.and_eq_true, bne_iff_ne, ne_eq, decide_eq_true_eq, List.all_cons, List.all_nil, Bool.and_true,
    Bool.or_eq_true, List.contains_iff_mem] at this
  obtain ⟨⟨⟨⟨⟨⟨d1, d2⟩, d3⟩, l1⟩, l2⟩, l3⟩, c1, c2, c3⟩ := this
  refine ⟨⟨d1, d2, d3⟩, ⟨l1, l2, l3⟩, ?_⟩
  rintro id (rfl | rfl | rfl) h12
  · exact c1.resolve_left (by omega)
  · exact c2.resolve_left (by omega)
  · exact c3.resolve_left (by omega)

/-- a slot test holds iff it holds of the `triVal` sum at every corner of the parameter cube -/
theorem solidSlots_iff (p : Nat → Bool) : solidSlots p bits = true ↔ ∀ g, p (cornerSum bits g) = true := by
  have wf := fun t ht => poly_wf_aux h t (solid_sub_poly_aux _ t ht)
  have hlen := cellOK_len h
  rw [solidSlots, packTris_eq]
  exact allSlots_pack p _ (fun k => by have := triVal_sum_le_aux _ (fun t ht => (wf t ht).2.1) k; omega) _
    (List.Nodup.filter _ List.nodup_range) _

/-- six times the volume of the cell solid at a corner of the parameter cube is that corner's sum minus `3 · length` -/
theorem solid_corner_volume (τ : Nat → ℝ) (g : Nat → Bool) :
    vol6R (solidTris bits) (corner τ (crossEdges bits) g) = (cornerSum bits g : ℝ) - 3 * (solidTris bits).length :=
  vol6R_corner_aux _ _ _ fun t ht =>
    have wf := poly_wf_aux h t (solid_sub_poly_aux _ t ht)
    ⟨wf.2.1, fun id hid h12 => corner_eq_reach τ _ g (wf.2.2 id hid h12)⟩

theorem solid_corner_nonneg (τ : Nat → ℝ) (g : Nat → Bool) : 0 ≤ vol6R (solidTris bits) (corner τ (crossEdges bits) g) := by
  have := Nat.le_of_ble_eq_true ((solidSlots_iff h _).mp (cellOK_slots_nonneg h) g)
  rw [solid_corner_volume h, sub_nonneg]
  exact_mod_cast this

theorem solid_volume_nonneg (τ : Nat → ℝ) (hτ : ∀ e ∈ crossEdges bits, 0 ≤ τ e ∧ τ e ≤ 1) : 0 ≤ vol6R (solidTris bits) τ :=
  multiaffine_nonneg_aux (vol6R (solidTris bits)) (crossEdges bits) (List.Nodup.filter _ List.nodup_range)
    (fun e _ => vol6R_affine_aux _ (fun t ht => (poly_wf_aux h t (solid_sub_poly_aux _ t ht)).1) e) τ hτ (solid_corner_nonneg h τ)

theorem solid_volume_pos (hin : bits.all (!·) = false) (τ : Nat → ℝ) (hτ : ∀ e ∈ crossEdges bits, 0 < τ e ∧ τ e < 1) :
    0 < vol6R (solidTris bits) τ := by
  refine multiaffine_pos_aux (vol6R (solidTris bits)) (crossEdges bits) (List.Nodup.filter _ List.nodup_range)
    (fun e _ => vol6R_affine_aux _ (fun t ht => (poly_wf_aux h t (solid_sub_poly_aux _ t ht)).1) e) τ hτ (solid_corner_nonneg h τ) ?_
  -- some slot exceeds `3 · length`
  have P := cellOK_slot_pos h hin
  rw [← Bool.not_eq_true, solidSlots_iff h, not_forall] at P
  obtain ⟨g, hg⟩ := P
  refine ⟨g, ?_⟩
  have : 3 * (solidTris bits).length < cornerSum bits g := by
    by_contra hle
    exact hg (Nat.ble_eq_true_of_le (Nat.le_of_not_lt hle))
  rw [solid_corner_volume h, sub_pos]
  exact_mod_cast this

end cellOK

/-- **The cell solid has non-negative volume for all interpolation parameters.**  For every sign pattern and every
    position `τ e ∈ [0, 1]` of the vertex of each sign-changing cube edge `e` (0 = low end, 1 = high end), six times the
    signed volume — against the cell's low corner — of the table's triangles together with the cap triangles of the three
    high faces is ≥ 0.  (Multi-affine in the ≤ 12 parameters; the 36 450 corner values are kernel-evaluated.) -/
theorem cell_volume_nonneg (b0 b1 b2 b3 b4 b5 b6 b7 : Bool) (τ : Nat → ℝ)
    (hτ : ∀ e ∈ crossEdges (bits8 b0 b1 b2 b3 b4 b5 b6 b7), 0 ≤ τ e ∧ τ e ≤ 1) :
    0 ≤ vol6R (solidTris (bits8 b0 b1 b2 b3 b4 b5 b6 b7)) τ :=
  solid_volume_nonneg (Tab.table_cell_solid b0 b1 b2 b3 b4 b5 b6 b7) τ hτ

/-- non-vacuity: one inside corner, every vertex at the middle of its edge -/
example : 0 ≤ vol6R (solidTris (bits8 true false false false false false false false)) (fun _ => 1 / 2) :=
  cell_volume_nonneg _ _ _ _ _ _ _ _ _ (fun _ _ => by norm_num)

/-- **Strict positivity.**  If at least one corner of the cell is inside and every vertex lies strictly inside its edge, the
    cell solid has positive volume. -/
theorem cell_volume_pos (b0 b1 b2 b3 b4 b5 b6 b7 : Bool) (hmix : (b0 || b1 || b2 || b3 || b4 || b5 || b6 || b7) = true)
    (τ : Nat → ℝ) (hτ : ∀ e ∈ crossEdges (bits8 b0 b1 b2 b3 b4 b5 b6 b7), 0 < τ e ∧ τ e < 1) :
    0 < vol6R (solidTris (bits8 b0 b1 b2 b3 b4 b5 b6 b7)) τ := by
  refine solid_volume_pos (Tab.table_cell_solid b0 b1 b2 b3 b4 b5 b6 b7) ?_ τ hτ
  simp only [bits8, List.all_cons, List.all_nil, Bool.and_true, ← Bool.not_or, ← Bool.or_assoc, hmix, Bool.not_true]

/-! ### the cell polyhedron is closed; the low-face caps carry no volume -/

/-- **The cell polyhedron is closed**: for every sign pattern, every directed edge of `polyTris` (table triangles + the six
    caps) occurs exactly as often as its reverse -/
theorem poly_closed (b0 b1 b2 b3 b4 b5 b6 b7 : Bool) :
    Balanced ((polyTris (bits8 b0 b1 b2 b3 b4 b5 b6 b7)).flatMap triEdges) :=
  cancels_sound _ _ (cellOK_closed (Tab.table_cell_solid b0 b1 b2 b3 b4 b5 b6 b7))

noncomputable def coordR (a : Nat) (v : V3 ℝ) : ℝ := if a = 0 then v.x else if a = 1 then v.y else v.z

theorem det3_planar_aux (a : Nat) (ha : a < 3) (u v w : V3 ℝ) (hu : coordR a u = 0) (hv : coordR a v = 0) (hw : coordR a w = 0) :
    det3 u v w = 0 := by
  interval_cases a <;> simp only [coordR] at hu hv hw <;> norm_num at hu hv hw <;>
    simp only [det3, V3.Dot, V3.Cross, hu, hv, hw] <;> ring

theorem vposR_planar_aux (τ : Nat → ℝ) (a : Nat) (ha : a < 3) (id : Nat)
    (h : (if id < 12 then decide ((edgeRel id).2 < 3) && (edgeRel id).2 != a && coord a (edgeRel id).1 == 0 else coord a (cornerOff (id - 12)) == 0) = true) :
    coordR a (vposR τ id) = 0 := by
  unfold vposR
  by_cases h12 : id < 12
  · simp only [h12, if_true, Bool.and_eq_true, bne_iff_ne, ne_eq, beq_iff_eq] at h ⊢
    obtain ⟨⟨h3, hax⟩, hlo⟩ := h
    simp only [decide_eq_true_eq] at h3
    generalize (edgeRel id).2 = ax at h3 hax ⊢
    interval_cases a <;> simp only [coord] at hlo <;> norm_num at hlo <;> interval_cases ax <;>
      simp_all [coordR, V3.Add, V3.Scale, ptR, unit]
  · simp only [h12, if_false, beq_iff_eq] at h ⊢
    interval_cases a <;> simp only [coord] at h <;> norm_num at h <;> simp [coordR, ptR, h]

theorem vol6R_append_aux (T U : List (Nat × Nat × Nat)) (τ : Nat → ℝ) : vol6R (T ++ U) τ = vol6R T τ + vol6R U τ :=
  triSum_append (vposR τ) T U

/-- a low-face cap carries no volume against the cell's low corner -/
theorem low_cap_volume_zero (b0 b1 b2 b3 b4 b5 b6 b7 : Bool) (a : Nat) (ha : a < 3) (τ : Nat → ℝ) :
    vol6R (capTrisFace (bits8 b0 b1 b2 b3 b4 b5 b6 b7) a 0) τ = 0 := by
  have T := Tab.table_low_caps_planar b0 b1 b2 b3 b4 b5 b6 b7
  rw [List.all_eq_true] at T
  have Ta := T a (List.mem_range.mpr ha)
  rw [List.all_eq_true] at Ta
  unfold vol6R
  apply List.sum_eq_zero
  intro x hx
  obtain ⟨t, ht, rfl⟩ := List.mem_map.mp hx
  have := Ta t ht
  simp only [List.all_cons, List.all_nil, Bool.and_true, Bool.and_eq_true, decide_eq_true_eq] at this
  obtain ⟨⟨_, p1⟩, ⟨_, p2⟩, ⟨_, p3⟩⟩ := this
  exact det3_planar_aux a ha _ _ _ (vposR_planar_aux τ a ha _ p1) (vposR_planar_aux τ a ha _ p2) (vposR_planar_aux τ a ha _ p3)

/-- hence the volume of the closed cell polyhedron is the volume of `solidTris` -/
theorem poly_volume_eq_solid (b0 b1 b2 b3 b4 b5 b6 b7 : Bool) (τ : Nat → ℝ) :
    vol6R (polyTris (bits8 b0 b1 b2 b3 b4 b5 b6 b7)) τ = vol6R (solidTris (bits8 b0 b1 b2 b3 b4 b5 b6 b7)) τ := by
  simp only [polyTris, solidTris, capTris, vol6R_append_aux,
    low_cap_volume_zero b0 b1 b2 b3 b4 b5 b6 b7 0 (by decide) τ, low_cap_volume_zero b0 b1 b2 b3 b4 b5 b6 b7 1 (by decide) τ,
    low_cap_volume_zero b0 b1 b2 b3 b4 b5 b6 b7 2 (by decide) τ]
  ring

end C09
end PolyVerif
