/-
  C18 over ℝ: the surface of revolution over a profile polyline `ρ ↦ (x ρ, y ρ)`, `ρ = 0..R`, with `x 0 = x R = 0`, on the
  logical grid `sphereL R C` (capped cylinder: `cylL S`, the 3-row grid with the side quads split along the other diagonal).
  Every triangle of the grid has determinant `x k · sweep ρ · sin(2π/C)` against any centre on the axis, `sweep ρ` being
  twice the area the profile segment `ρ → ρ+1` sweeps about that centre.  So the faces point outward when the profile runs
  clockwise about the centre, the enclosed volume is a sum over the profile, and distinct logical points sit at distinct
  positions when the profile points are distinct.  Sphere, hemisphere and cylinder are the half circle, "cap centre,
  quarter circle, pole" and the rectangle (`Lemmas/SolidsGeom.lean`).
-/
import PolyVerif.Lemmas.Solids
import PolyVerif.Lemmas.Triple
import Mathlib.Analysis.SpecialFunctions.Trigonometric.Angle
namespace PolyVerif.Solids
open Real

theorem det3_rot (a b c : V3 ℝ) : det3 a b c = det3 b c a := V3.triple_rot a b c

theorem sum_map_const {β : Type} (l : List β) (f : β → ℝ) (c : ℝ) (h : ∀ x ∈ l, f x = c) :
    (l.map f).sum = l.length * c := by
  induction l with
  | nil => simp
  | cons a l ih =>
    simp only [List.map_cons, List.sum_cons, List.length_cons, Nat.cast_succ]
    rw [h a (by simp), ih (fun x hx => h x (by simp [hx]))]; ring

theorem sum_flatMap' {β : Type} (l : List β) (h : β → List ℝ) :
    (l.flatMap h).sum = (l.map fun a => (h a).sum).sum := by
  induction l with
  | nil => simp
  | cons a l ih => simp [List.flatMap_cons, List.sum_append, ih]

/-! ### azimuth of a column -/

noncomputable def thetaOf (C c : Nat) : ℝ := 2 * π * (c : ℝ) / (C : ℝ)

theorem sin_dtheta_succ {C : Nat} (hC : 3 ≤ C) (i : Nat) : sin (thetaOf C (i + 1) - thetaOf C i) = sin (2 * π / C) := by
  have hC0 : (C : ℝ) ≠ 0 := by positivity
  congr 1; simp only [thetaOf]; push_cast; field_simp; ring

theorem sin_dtheta_wrap {C : Nat} (hC : 3 ≤ C) : sin (thetaOf C 0 - thetaOf C (C - 1)) = sin (2 * π / C) := by
  have hC0 : (C : ℝ) ≠ 0 := by positivity
  rw [← sin_add_two_pi]
  congr 1
  have : ((C - 1 : ℕ) : ℝ) = (C : ℝ) - 1 := by rw [Nat.cast_sub (by omega)]; simp
  simp only [thetaOf, this]; push_cast; field_simp; ring

/-- from a column to the next one round the ring -/
theorem sin_dtheta {C i : Nat} (hC : 3 ≤ C) (hi : i < C) :
    sin (thetaOf C ((i + 1) % C) - thetaOf C i) = sin (2 * π / C) := by
  rcases nextCol_cases hi with ⟨h, _⟩ | ⟨h, h'⟩
  · rw [h, sin_dtheta_succ hC]
  · obtain rfl : i = C - 1 := by omega
    rw [h, sin_dtheta_wrap hC]

theorem sin_dtheta_pos {C : Nat} (hC : 3 ≤ C) : 0 < sin (2 * π / C) := by
  have hC3 : (3 : ℝ) ≤ C := by exact_mod_cast hC
  apply sin_pos_of_pos_of_lt_pi
  · positivity
  · rw [div_lt_iff₀ (by positivity)]; nlinarith [pi_pos]

/-- columns `c, c' < C` with the same direction are the same column -/
theorem theta_inj {C c c' : Nat} (hC : 1 ≤ C) (hc : c < C) (hc' : c' < C)
    (h1 : cos (thetaOf C c) = cos (thetaOf C c')) (h2 : sin (thetaOf C c) = sin (thetaOf C c')) : c = c' := by
  have hC0 : (C : ℝ) ≠ 0 := by positivity
  have h := Real.Angle.cos_sin_inj h1 h2
  rw [Real.Angle.angle_eq_iff_two_pi_dvd_sub] at h
  obtain ⟨k, hk⟩ := h
  have hk' : ((c : ℝ) - c') = k * C := by
    have hπ : π ≠ 0 := pi_ne_zero
    unfold thetaOf at hk
    field_simp at hk
    linarith
  have hkz : ((c : ℤ) - c') = k * C := by exact_mod_cast hk'
  have : ((c : ℤ) - c') = 0 := Int.eq_zero_of_abs_lt_dvd ⟨k, by rw [hkz, mul_comm]⟩ (by rw [abs_lt]; omega)
  omega

/-! ### one ring, one band -/

/-- the profile point `(x, y)` turned about the y axis to azimuth `θ` -/
noncomputable def rpt (x y θ : ℝ) : V3 ℝ := ⟨x * cos θ, y, x * sin θ⟩

theorem rpt_axis (y θ θ' : ℝ) : rpt 0 y θ = rpt 0 y θ' := by simp [rpt]

/-- column `k ≤ C` sits where column `k % C` does (the seam) -/
theorem rpt_theta_mod {C k : Nat} {x y : ℝ} (hk : k ≤ C) : rpt x y (thetaOf C (k % C)) = rpt x y (thetaOf C k) := by
  rcases Nat.lt_or_eq_of_le hk with h | rfl
  · rw [Nat.mod_eq_of_lt h]
  · rcases Nat.eq_zero_or_pos k with rfl | h
    · rfl
    · have : (k : ℝ) ≠ 0 := by positivity
      simp [rpt, thetaOf, mul_div_cancel_right₀ _ this]

/-- running the ring the other way round: column `C − k` sits at azimuth `−θ_k` -/
theorem rpt_theta_compl {C k : Nat} {x y : ℝ} (hC : 1 ≤ C) (hk : k ≤ C) :
    rpt x y (thetaOf C (C - k)) = rpt x y (-thetaOf C k) := by
  have hC0 : (C : ℝ) ≠ 0 := by positivity
  have e : thetaOf C (C - k) = 2 * π - thetaOf C k := by
    unfold thetaOf; rw [Nat.cast_sub hk]; field_simp
  simp [rpt, e, sin_two_pi_sub, cos_two_pi_sub]

theorem rpt_lengthSquared (x y θ : ℝ) : (rpt x y θ).LengthSquared = x ^ 2 + y ^ 2 := by
  simp only [rpt, V3.LengthSquared]
  linear_combination x ^ 2 * sin_sq_add_cos_sq θ

/-- the band lemma: a triangle with two corners on the ring through `(x1, y1)` (azimuths `θ1`, `θ2`) and the third on the
    ring through `(x2, y2)`, above either of them -/
theorem det_band (x1 y1 x2 y2 θ1 θ2 θ3 : ℝ) (h : θ3 = θ1 ∨ θ3 = θ2) :
    det3 (rpt x1 y1 θ1) (rpt x1 y1 θ2) (rpt x2 y2 θ3) = x1 * (x2 * y1 - x1 * y2) * sin (θ2 - θ1) := by
  rcases h with rfl | rfl <;> simp only [det3, rpt, V3.Dot, V3.Cross, sin_sub] <;> ring

/-! ### the grid -/

/-- position of a logical point on the surface of revolution over the profile `ρ ↦ (x ρ, y ρ)` with `C` columns -/
noncomputable def revPos (x y : Nat → ℝ) (C : Nat) (p : LP) : V3 ℝ := rpt (x p.1) (y p.1) (thetaOf C p.2)

/-- moving the centre along the axis moves the profile -/
theorem revPos_sub_axis (x y : Nat → ℝ) (C : Nat) (t : ℝ) (p : LP) :
    (revPos x y C p).Sub ⟨0, t, 0⟩ = revPos x (fun ρ => y ρ - t) C p := by
  simp [revPos, rpt, V3.Sub]

/-- `x (ρ+1)·y ρ − x ρ·y (ρ+1)`: twice the signed area the profile segment `ρ → ρ+1` sweeps about the centre -/
def sweep (x y : Nat → ℝ) (ρ : Nat) : ℝ := x (ρ + 1) * y ρ - x ρ * y (ρ + 1)

theorem sweep_sub_axis (x y : Nat → ℝ) (t : ℝ) (ρ : Nat) :
    sweep x (fun k => y k - t) ρ = sweep x y ρ - t * (x (ρ + 1) - x ρ) := by
  simp only [sweep]; ring

noncomputable def rdet (x y : Nat → ℝ) (C : Nat) (t : LP × LP × LP) : ℝ :=
  det3 (revPos x y C t.1) (revPos x y C t.2.1) (revPos x y C t.2.2)

theorem rdet_rot (x y : Nat → ℝ) (C : Nat) (a b c : LP) : rdet x y C (a, b, c) = rdet x y C (b, c, a) := det3_rot _ _ _

theorem rdet_flip (x y : Nat → ℝ) (C : Nat) (t : LP × LP × LP) : rdet x y C (flipT t) = -rdet x y C t :=
  V3.triple_swap _ _ _

/-- band `ρ`, column `i`, the triangle with two corners on ring `ρ`; its third corner is over either of them, or a pole -/
theorem rdet_up (x y : Nat → ℝ) {C i : Nat} (hC : 3 ≤ C) (hi : i < C) (ρ c : Nat)
    (h : x (ρ + 1) = 0 ∨ c = i ∨ c = (i + 1) % C) :
    rdet x y C ((ρ, i), (ρ, (i + 1) % C), (ρ + 1, c)) = x ρ * sweep x y ρ * sin (2 * π / C) := by
  simp only [rdet, revPos, sweep]
  rcases h with h | rfl | rfl
  · rw [h, rpt_axis _ _ (thetaOf C i), det_band _ _ _ _ _ _ _ (Or.inl rfl), sin_dtheta hC hi]
  · rw [det_band _ _ _ _ _ _ _ (Or.inl rfl), sin_dtheta hC hi]
  · rw [det_band _ _ _ _ _ _ _ (Or.inr rfl), sin_dtheta hC hi]

/-- band `ρ`, column `i`, the triangle with two corners on ring `ρ + 1` -/
theorem rdet_dn (x y : Nat → ℝ) {C i : Nat} (hC : 3 ≤ C) (hi : i < C) (ρ c : Nat)
    (h : x ρ = 0 ∨ c = i ∨ c = (i + 1) % C) :
    rdet x y C ((ρ, c), (ρ + 1, (i + 1) % C), (ρ + 1, i)) = x (ρ + 1) * sweep x y ρ * sin (2 * π / C) := by
  rw [rdet_rot]
  simp only [rdet, revPos, sweep]
  have e : sin (thetaOf C i - thetaOf C ((i + 1) % C)) = -sin (2 * π / C) := by
    rw [← sin_dtheta hC hi, ← sin_neg]; congr 1; ring
  rcases h with h | rfl | rfl
  · rw [h, rpt_axis _ _ (thetaOf C i), det_band _ _ _ _ _ _ _ (Or.inr rfl), e]; ring
  · rw [det_band _ _ _ _ _ _ _ (Or.inr rfl), e]; ring
  · rw [det_band _ _ _ _ _ _ _ (Or.inl rfl), e]; ring

/-- every triangle of the grid: its determinant is `x k · sweep ρ · sin(2π/C)` for its band `ρ` and the ring `k` (one of
    the band's two, never a pole) that holds two of its corners -/
theorem sphereL_rdet {R C : Nat} (x y : Nat → ℝ) (hR : 2 ≤ R) (hC : 3 ≤ C) (h0 : x 0 = 0) (hxR : x R = 0)
    {t : LP × LP × LP} (ht : t ∈ sphereL R C) :
    ∃ ρ k, ρ < R ∧ 1 ≤ k ∧ k < R ∧ rdet x y C t = x k * sweep x y ρ * sin (2 * π / C) := by
  rcases (mem_sphereL_ring (by omega)).1 ht with ⟨i, hi, rfl⟩ | ⟨ρ, i, rfl, hi, rfl⟩ | ⟨ρ, i, h1, h2, hi, rfl | rfl⟩
  · exact ⟨0, 1, by omega, le_refl 1, by omega, rdet_dn x y hC hi 0 0 (Or.inl h0)⟩
  · exact ⟨ρ, ρ, by omega, by omega, by omega, by rw [rdet_rot]; exact rdet_up x y hC hi ρ 0 (Or.inl hxR)⟩
  · exact ⟨ρ, ρ, by omega, h1, by omega, rdet_up x y hC hi ρ _ (Or.inr (Or.inr rfl))⟩
  · exact ⟨ρ, ρ + 1, by omega, by omega, h2, rdet_dn x y hC hi ρ _ (Or.inr (Or.inl rfl))⟩

/-- the capped cylinder's grid: the same with `R = 3`; the side triangles have their third corner over the other end of
    the ring edge -/
theorem cylL_rdet {S : Nat} (x y : Nat → ℝ) (hS : 3 ≤ S) (h0 : x 0 = 0) (hx3 : x 3 = 0)
    {t : LP × LP × LP} (ht : t ∈ cylL S) :
    ∃ ρ k, ρ < 3 ∧ 1 ≤ k ∧ k < 3 ∧ rdet x y S t = x k * sweep x y ρ * sin (2 * π / S) := by
  rcases mem_cylL.1 ht with ⟨i, hi, rfl | rfl⟩ | ⟨i, hi, rfl⟩ | ⟨m, hm, rfl⟩
  · exact ⟨1, 1, by omega, by omega, by omega, by
      rw [rdet_rot]; exact rdet_up x y hS hi 1 _ (Or.inr (Or.inl rfl))⟩
  · exact ⟨1, 2, by omega, by omega, by omega, by
      rw [rdet_rot]; exact rdet_dn x y hS hi 1 _ (Or.inr (Or.inr rfl))⟩
  · exact ⟨0, 1, by omega, by omega, by omega, by
      rw [rdet_rot]; exact rdet_dn x y hS hi 0 0 (Or.inl h0)⟩
  · exact ⟨2, 2, by omega, by omega, by omega, by
      rw [rdet_rot, rdet_rot]; exact rdet_up x y hS hm 2 0 (Or.inl hx3)⟩

/-- outward: a profile that runs clockwise about the centre (every segment sweeps positive area) with its inner points
    off the axis -/
theorem rev_outward {R C : Nat} {x y : Nat → ℝ} (hC : 3 ≤ C) (hx : ∀ k, 1 ≤ k → k < R → 0 < x k)
    (hw : ∀ ρ < R, 0 < sweep x y ρ) {t : LP × LP × LP}
    (h : ∃ ρ k, ρ < R ∧ 1 ≤ k ∧ k < R ∧ rdet x y C t = x k * sweep x y ρ * sin (2 * π / C)) : 0 < rdet x y C t := by
  obtain ⟨ρ, k, hρ, h1, h2, e⟩ := h
  rw [e]
  exact mul_pos (mul_pos (hx k h1 h2) (hw ρ hρ)) (sin_dtheta_pos hC)

/-- volume: six times the enclosed volume is `C·sin(2π/C)` times the sum over the bands of `(x ρ + x (ρ+1))·sweep ρ`
    (pole bands: one term) -/
theorem sphereL_rdet_sum {R C : Nat} (x y : Nat → ℝ) (hR : 2 ≤ R) (hC : 3 ≤ C) (h0 : x 0 = 0) (hxR : x R = 0) :
    triSum (revPos x y C) (sphereL R C) = C * sin (2 * π / C) *
      (x 1 * sweep x y 0 + x (R - 1) * sweep x y (R - 1) +
        ((List.range (R - 2)).map fun j => (x (j + 1) + x (j + 2)) * sweep x y (j + 1)).sum) := by
  change ((sphereL R C).map (rdet x y C)).sum = _
  simp only [sphereL, List.map_append, List.sum_append, List.map_flatMap, sum_flatMap', List.map_cons, List.map_nil,
    List.sum_cons, List.sum_nil, add_zero]
  have hf : ∀ i ∈ List.range C, rdet x y C ((0, 0), (1, (i + 1) % C), (1, i)) +
      rdet x y C ((R, 0), (R - 1, i), (R - 1, (i + 1) % C)) =
        sin (2 * π / C) * (x 1 * sweep x y 0 + x (R - 1) * sweep x y (R - 1)) := fun i hi => by
    have hi := List.mem_range.1 hi
    have hb := rdet_up x y hC hi (R - 1) 0 (Or.inl (by rwa [show R - 1 + 1 = R by omega]))
    rw [show R - 1 + 1 = R by omega, ← rdet_rot] at hb
    rw [rdet_dn x y hC hi 0 0 (Or.inl h0), hb]; ring
  have hs : ∀ j : Nat, ∀ i ∈ List.range C, rdet x y C ((j + 1, i), (j + 1, (i + 1) % C), (j + 2, (i + 1) % C)) +
      rdet x y C ((j + 1, i), (j + 2, (i + 1) % C), (j + 2, i)) =
        sin (2 * π / C) * ((x (j + 1) + x (j + 2)) * sweep x y (j + 1)) := fun j i hi => by
    have hi := List.mem_range.1 hi
    rw [rdet_up x y hC hi (j + 1) _ (Or.inr (Or.inr rfl)), rdet_dn x y hC hi (j + 1) _ (Or.inr (Or.inl rfl))]; ring
  rw [sum_map_const _ _ _ hf]
  simp only [fun j => sum_map_const _ _ _ (hs j), List.length_range, List.sum_map_mul_left]
  ring

theorem cylL_rdet_sum {S : Nat} (x y : Nat → ℝ) (hS : 3 ≤ S) (h0 : x 0 = 0) (hx3 : x 3 = 0) :
    triSum (revPos x y S) (cylL S) = S * sin (2 * π / S) *
      (x 1 * sweep x y 0 + (x 1 + x 2) * sweep x y 1 + x 2 * sweep x y 2) := by
  change ((cylL S).map (rdet x y S)).sum = _
  simp only [cylL, List.map_append, List.sum_append, List.map_flatMap, sum_flatMap', List.map_cons, List.map_nil,
    List.sum_cons, List.sum_nil, add_zero, List.map_map]
  rw [sum_map_const _ _ (sin (2 * π / S) * ((x 1 + x 2) * sweep x y 1)) fun i hi => ?side,
    sum_map_const _ _ (sin (2 * π / S) * (x 1 * sweep x y 0)) fun i hi => ?top,
    sum_map_const _ _ (sin (2 * π / S) * (x 2 * sweep x y 2)) fun k hk => ?bot, List.length_range]
  · ring
  case side =>
    have hi := List.mem_range.1 hi
    rw [rdet_rot, rdet_up x y hS hi 1 _ (Or.inr (Or.inl rfl)), rdet_rot, rdet_dn x y hS hi 1 _ (Or.inr (Or.inr rfl))]
    ring
  case top =>
    simp only [Function.comp]
    rw [rdet_rot, rdet_dn x y hS (List.mem_range.1 hi) 0 0 (Or.inl h0)]; ring
  case bot =>
    have hk := List.mem_range.1 hk
    simp only [Function.comp]
    rw [rdet_rot, rdet_rot, rdet_up x y hS (show S - 1 - k < S by omega) 2 0 (Or.inl hx3)]; ring

/-- merge exactness: distinct logical points sit at distinct positions as soon as the two poles differ and the inner
    profile points are off the axis and pairwise distinct -/
theorem revPos_inj {R C : Nat} {x y : Nat → ℝ} (hC : 1 ≤ C) (h0 : x 0 = 0) (hxR : x R = 0)
    (hx : ∀ k, 1 ≤ k → k < R → 0 < x k) (hpole : y 0 ≠ y R)
    (hin : ∀ k k', 1 ≤ k → k < R → 1 ≤ k' → k' < R → x k = x k' → y k = y k' → k = k')
    {p q : LP} (hp : UvValid R C p) (hq : UvValid R C q) (h : revPos x y C p = revPos x y C q) : p = q := by
  have nonneg : ∀ {p : LP}, UvValid R C p → 0 ≤ x p.1 := by
    rintro p (rfl | rfl | ⟨a, b, _⟩)
    exacts [h0.ge, hxR.ge, (hx _ a b).le]
  -- equal positions are equally far from the axis
  have hxx : x p.1 = x q.1 := by
    have e := congrArg V3.LengthSquared h
    simp only [revPos, rpt_lengthSquared] at e
    simp only [revPos, rpt, V3.mk.injEq] at h
    exact (pow_left_inj₀ (nonneg hp) (nonneg hq) two_ne_zero).1 (by rw [h.2.1] at e; linarith)
  simp only [revPos, rpt, V3.mk.injEq] at h
  obtain ⟨hcx, hy, hsx⟩ := h
  rcases hp with rfl | rfl | ⟨p1, p2, p3⟩ <;> rcases hq with rfl | rfl | ⟨q1, q2, q3⟩
  · rfl
  · exact absurd hy hpole
  · rw [h0] at hxx; exact absurd hxx (hx _ q1 q2).ne
  · exact absurd hy.symm hpole
  · rfl
  · rw [hxR] at hxx; exact absurd hxx (hx _ q1 q2).ne
  · rw [h0] at hxx; exact absurd hxx (hx _ p1 p2).ne'
  · rw [hxR] at hxx; exact absurd hxx (hx _ p1 p2).ne'
  · obtain ⟨ρ, c⟩ := p
    obtain ⟨ρ', c'⟩ := q
    simp only at p1 p2 p3 q1 q2 q3 hcx hsx hxx hy
    obtain rfl := hin ρ ρ' p1 p2 q1 q2 hxx hy
    have hne : x ρ ≠ 0 := (hx ρ p1 p2).ne'
    rw [theta_inj hC p3 q3 (mul_left_cancel₀ hne hcx) (mul_left_cancel₀ hne hsx)]

end PolyVerif.Solids
