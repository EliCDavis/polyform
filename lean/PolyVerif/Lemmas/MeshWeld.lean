/-
  Weld (C02, C03): weld = re-point every surviving corner at the representative of its key class and drop the
  vertices no longer referenced.  `weld_eq` says what the model returns; well-formedness, the corner content,
  "every vertex referenced" and the algorithm-independent contract `WeldSpec` follow from it.
-/
import PolyVerif.Lemmas.MeshCorners

namespace PolyVerif.Mesh
variable {α : Type}

namespace MeshVal
section weld
variable {K : Type} [DecidableEq K]

/-- `acc` lists, for the vertices `pre` seen so far, every key once, with the index of the first vertex carrying it -/
def FirstsInv (key : α → K) (pre : List α) (acc : List (K × Nat)) : Prop :=
  (∀ c ∈ acc, (∃ x, pre[c.2]? = some x ∧ key x = c.1) ∧ ∀ j, j < c.2 → ∀ y, pre[j]? = some y → key y ≠ c.1) ∧
  ∀ y ∈ pre, acc.any (fun c => c.1 == key y) = true

section
variable (key : α → K) (d : List α)

theorem firstsAux_inv : ∀ (xs pre : List α) (acc : List (K × Nat)), FirstsInv key pre acc →
    FirstsInv key (pre ++ xs) (firstsAux key xs pre.length acc)
  | [], pre, acc, h => by simpa [firstsAux] using h
  | x :: xs, pre, acc, ⟨hacc, hcov⟩ => by
    -- entries already in `acc` stay first occurrences in the extended prefix
    have hacc' : ∀ c ∈ acc, (∃ x', (pre ++ [x])[c.2]? = some x' ∧ key x' = c.1) ∧
        ∀ j, j < c.2 → ∀ y, (pre ++ [x])[j]? = some y → key y ≠ c.1 := by
      intro c hc
      obtain ⟨⟨x', hx', hk'⟩, hmin⟩ := hacc c hc
      have hlt : c.2 < pre.length := (List.getElem?_eq_some_iff.mp hx').1
      refine ⟨⟨x', by rw [List.getElem?_append_left hlt]; exact hx', hk'⟩, fun j hj y hy => ?_⟩
      rw [List.getElem?_append_left (by omega)] at hy
      exact hmin j hj y hy
    simp only [firstsAux]
    rw [show pre ++ x :: xs = (pre ++ [x]) ++ xs by simp, show pre.length + 1 = (pre ++ [x]).length by simp]
    split
    · rename_i hany
      refine firstsAux_inv xs (pre ++ [x]) acc ⟨hacc', fun y hy => ?_⟩
      rcases List.mem_append.mp hy with hy | hy
      · exact hcov y hy
      · rw [List.mem_singleton.mp hy]; exact hany
    · rename_i hany
      refine firstsAux_inv xs (pre ++ [x]) _ ⟨fun c hc => ?_, fun y hy => ?_⟩
      · rcases List.mem_append.mp hc with hc | hc
        · exact hacc' c hc
        · rw [List.mem_singleton.mp hc]
          refine ⟨⟨x, by simp, rfl⟩, fun j hj y hy hkey => ?_⟩
          rw [List.getElem?_append_left hj] at hy
          exact hany (by simpa [show key y = key x from hkey] using hcov y (List.mem_of_getElem? hy))
      · rw [List.any_append, Bool.or_eq_true]
        rcases List.mem_append.mp hy with hy | hy
        · exact Or.inl (hcov y hy)
        · right; simp [List.mem_singleton.mp hy]

theorem firsts_inv : FirstsInv key d (firsts key d) := by
  have := firstsAux_inv key d [] [] ⟨fun _ h => (nomatch h), fun _ h => (nomatch h)⟩
  rwa [List.nil_append] at this

/-- each class representative carries the class key, and is the *first* vertex with that key -/
theorem firsts_spec : ∀ c ∈ firsts key d,
    (∃ x, d[c.2]? = some x ∧ key x = c.1) ∧ ∀ j, j < c.2 → ∀ y, d[j]? = some y → key y ≠ c.1 :=
  (firsts_inv key d).1

theorem classOf_isSome_of_mem {x : α} (hx : x ∈ d) :
    (classOf (firsts key d) (key x)).isSome := by
  rw [classOf, List.findIdx?_isSome]
  exact (firsts_inv key d).2 x hx

/-- a triangle survives welding exactly when its three corners have pairwise distinct keys -/
theorem weldTri_isSome_iff (t : Nat × Nat × Nat) {x y z : α}
    (hx : d[t.1]? = some x) (hy : d[t.2.1]? = some y) (hz : d[t.2.2]? = some z) :
    (weldTri key d (firsts key d) t).isSome ↔ (key x ≠ key y ∧ key x ≠ key z ∧ key y ≠ key z) := by
  obtain ⟨a, ha⟩ := Option.isSome_iff_exists.mp (classOf_isSome_of_mem key d (List.mem_of_getElem? hx))
  obtain ⟨b, hb⟩ := Option.isSome_iff_exists.mp (classOf_isSome_of_mem key d (List.mem_of_getElem? hy))
  obtain ⟨c, hc⟩ := Option.isSome_iff_exists.mp (classOf_isSome_of_mem key d (List.mem_of_getElem? hz))
  unfold weldTri
  simp only [hx, hy, hz]
  by_cases hd : key x = key y ∨ key x = key z ∨ key y = key z
  · simp only [hd, if_true]
    constructor
    · intro h; simp at h
    · intro h; rcases hd with hd | hd | hd
      · exact absurd hd h.1
      · exact absurd hd h.2.1
      · exact absurd hd h.2.2
  · simp only [hd, if_false, ha, hb, hc]
    constructor
    · intro _
      refine ⟨fun h => hd (Or.inl h), fun h => hd (Or.inr (Or.inl h)), fun h => hd (Or.inr (Or.inr h))⟩
    · intro _; simp


theorem firsts_bound : ∀ c ∈ firsts key d, c.2 < d.length := fun c hc =>
  let ⟨⟨_, hx, _⟩, _⟩ := firsts_spec key d c hc
  (List.getElem?_eq_some_iff.mp hx).1

theorem reps_eq_findIdx {kv : K} {a : Nat} (h : classOf (firsts key d) kv = some a) :
    ((firsts key d).map (·.2))[a]? = d.findIdx? fun y => decide (key y = kv) := by
  obtain ⟨ha, hk, _⟩ := List.findIdx?_eq_some_iff_getElem.mp h
  have hk' : ((firsts key d)[a]).1 = kv := by simpa using hk
  obtain ⟨⟨x, hx, hxk⟩, hmin⟩ := firsts_spec key d _ (List.getElem_mem ha)
  rw [List.getElem?_map, List.getElem?_eq_getElem ha, Option.map_some]
  obtain ⟨hlt, hget⟩ := List.getElem?_eq_some_iff.mp hx
  refine (List.findIdx?_eq_some_iff_getElem.mpr ⟨hlt, by rw [hget, hxk, hk']; simp, fun j hj => ?_⟩).symm
  have := hmin j hj d[j] (List.getElem?_eq_getElem (by omega))
  rw [hk'] at this
  simpa using this

/-- per triangle, the model and the algorithm-independent description agree -/
theorem weldTri_agree (t : Nat × Nat × Nat)
    (h1 : t.1 < d.length) (h2 : t.2.1 < d.length) (h3 : t.2.2 < d.length) :
    (weldTri key d (firsts key d) t = none → distinctKeys key d t = false) ∧
    ∀ t', weldTri key d (firsts key d) t = some t' → distinctKeys key d t = true ∧
      [t'.1, t'.2.1, t'.2.2].filterMap (fun c => ((firsts key d).map (·.2))[c]?) =
        [t.1, t.2.1, t.2.2].filterMap (firstOfClass key d) := by
  have hx := List.getElem?_eq_getElem h1
  have hy := List.getElem?_eq_getElem h2
  have hz := List.getElem?_eq_getElem h3
  have hsurv := weldTri_isSome_iff key d t hx hy hz
  have hdk : distinctKeys key d t =
      decide (key d[t.1] ≠ key d[t.2.1] ∧ key d[t.1] ≠ key d[t.2.2] ∧ key d[t.2.1] ≠ key d[t.2.2]) := by
    simp [distinctKeys, hx, hy, hz]
  rw [hdk]
  refine ⟨fun hw => decide_eq_false fun hd => by simpa [hw] using hsurv.mpr hd, fun t' hw => ?_⟩
  have hd := hsurv.mp (by simp [hw])
  refine ⟨decide_eq_true hd, ?_⟩
  unfold weldTri at hw
  simp only [hx, hy, hz] at hw
  rw [if_neg (by simpa [not_or] using hd)] at hw
  split at hw
  · rename_i a b c ha hb hc
    cases hw
    simp only [List.filterMap_cons, List.filterMap_nil, reps_eq_findIdx key d ha, reps_eq_findIdx key d hb,
      reps_eq_findIdx key d hc, firstOfClass, hx, hy, hz]
  · cases hw

theorem weldRepIdx_eq_weldReindex (idx : List Nat) (h : ∀ i ∈ idx, i < d.length) :
    weldRepIdx key d idx = weldReindex key d idx := by
  have hT : ∀ t ∈ triples idx, t.1 < d.length ∧ t.2.1 < d.length ∧ t.2.2 < d.length := fun t ht =>
    let hm := mem_of_mem_triples ht; ⟨h _ hm.1, h _ hm.2.1, h _ hm.2.2⟩
  unfold weldRepIdx weldReindex
  dsimp only
  generalize triples idx = L at hT ⊢
  induction L with
  | nil => rfl
  | cons t L ih =>
    have ih := ih fun t' ht' => hT t' (by simp [ht'])
    obtain ⟨h1, h2, h3⟩ := hT t (by simp)
    obtain ⟨hnone, hsome⟩ := weldTri_agree key d t h1 h2 h3
    rw [List.filterMap_cons, List.filter_cons]
    cases hw : weldTri key d (firsts key d) t with
    | none => rw [hnone hw]; exact ih
    | some t' =>
      obtain ⟨hdk, heq⟩ := hsome t' hw
      rw [hdk, if_pos rfl]
      show ([t'.1, t'.2.1, t'.2.2] ++ untriples _).filterMap _ = ([t.1, t.2.1, t.2.2] ++ untriples _).filterMap _
      rw [List.filterMap_append, List.filterMap_append, heq, ih]

end

/-- the mesh before the unused class representatives are dropped: one vertex per key class (its first vertex),
    the surviving triangles re-pointed at class numbers -/
def weldClasses (m : MeshVal α) (key : α → K) (d : List α) : MeshVal α :=
  { topology := m.topology
    indices := untriples ((triples m.indices).filterMap (weldTri key d (firsts key d)))
    materials := []
    attrs := mapAttrs (fun vals => gather vals ((firsts key d).map (·.2))) m.attrs }

section
variable {m m' : MeshVal α} {k : AttrKey}

theorem weld_eq {key : α → K} (hw : m.weld k key = some m') :
    m.topology = .triangle ∧ ∃ d, m.attr? k = some d ∧
      m' = (weldClasses m key d).compactVertices (usedFlags (firsts key d).length (weldClasses m key d).indices) := by
  unfold weld at hw
  split at hw
  · split at hw
    · cases hw
    · exact ⟨‹_›, _, ‹_›, (Option.some.inj hw).symm⟩
  · cases hw

theorem classOf_lt {cls : List (K × Nat)} {k : K} {a : Nat} (h : classOf cls k = some a) : a < cls.length :=
  (List.findIdx?_eq_some_iff_getElem.mp h).1

theorem weldTri_lt {key : α → K} {d : List α} {cls : List (K × Nat)} {t t' : Nat × Nat × Nat}
    (h : weldTri key d cls t = some t') : t'.1 < cls.length ∧ t'.2.1 < cls.length ∧ t'.2.2 < cls.length := by
  unfold weldTri at h
  split at h
  · dsimp only at h
    split at h
    · cases h
    · split at h
      · cases h
        exact ⟨classOf_lt ‹_›, classOf_lt ‹_›, classOf_lt ‹_›⟩
      · cases h
  · cases h

theorem weldClasses_lt (m : MeshVal α) (key : α → K) (d : List α) :
    ∀ i ∈ (weldClasses m key d).indices, i < (firsts key d).length := by
  rw [weldClasses, forall_mem_untriples]
  intro t' ht'
  obtain ⟨t, _, ht⟩ := List.mem_filterMap.mp ht'
  exact weldTri_lt ht

theorem reps_lt (h : WF m) {d : List α} (hd : m.attr? k = some d) (key : α → K) :
    ∀ kd ∈ m.attrs, ∀ i ∈ (firsts key d).map (·.2), i < kd.2.length := by
  intro kd hk i hi
  obtain ⟨c, hc, rfl⟩ := List.mem_map.mp hi
  rw [h.1 kd hk, ← attr?_length h hd]; exact firsts_bound key d c hc

theorem weldClasses_rebuilt (h : WF m) (ht : m.topology = .triangle) {d : List α}
    (hd : m.attr? k = some d) (key : α → K) :
    WF (weldClasses m key d) ∧ (weldClasses m key d).attrLen = (firsts key d).length :=
  rebuilt (fun kd hk => by rw [gather_length (reps_lt h hd key kd hk), List.length_map]) (weldClasses_lt m key d)
    (fun ha => absurd ha (List.ne_nil_of_mem (Attrs.find?_mem hd)))
    (by rw [ht]; show (untriples _).length % 3 = 0; rw [length_untriples]; omega) _

theorem weldClasses_corners (h : WF m) {d : List α} (hd : m.attr? k = some d)
    (key : α → K) : (weldClasses m key d).corners = (m.setIndices (weldRepIdx key d m.indices)).corners :=
  corners_mapAttrs (m := m.setIndices (weldRepIdx key d m.indices)) _ _ fun kd hk =>
    map_gather_eq (reps_lt h hd key kd hk) _ fun c hc => by simpa using weldClasses_lt m key d c hc

/-- Weld keeps, for every surviving corner, the attribute tuple of its class representative, in
    order: the result has the corners of the input re-indexed by `weldRepIdx`. -/
theorem weld_corners (h : WF m) {key : α → K}
    (hw : m.weld k key = some m') :
    ∃ d, m.attr? k = some d ∧ m'.topology = m.topology ∧ m'.materials = [] ∧
      m'.corners = (m.setIndices (weldRepIdx key d m.indices)).corners := by
  obtain ⟨ht, d, hd, rfl⟩ := weld_eq hw
  obtain ⟨hw', hal⟩ := weldClasses_rebuilt h ht hd key
  refine ⟨d, hd, rfl, rfl, ?_⟩
  rw [← hal, compactVertices_corners hw' _ (usedFlags_length _ _) (usedFlags_used hw')]
  exact weldClasses_corners h hd key

theorem weld_allReferenced (h : WF m) {key : α → K}
    (hw : m.weld k key = some m') : AllReferenced m' := by
  obtain ⟨ht, d, hd, rfl⟩ := weld_eq hw
  obtain ⟨hw', hal⟩ := weldClasses_rebuilt h ht hd key
  rw [← hal]
  exact compactVertices_allReferenced hw'

end

theorem weld_spec [DecidableEq α] {m m' : MeshVal α} (h : WF m) {k : AttrKey} {key : α → K}
    (hw : m.weld k key = some m') : WeldSpec k key m m' := by
  obtain ⟨d, hd, ht, hmat, hc⟩ := weld_corners h hw
  refine ⟨ht, hmat, weld_allReferenced h hw, ?_⟩
  rw [hd]
  show m'.corners = _
  rw [hc, weldRepIdx_eq_weldReindex key d m.indices fun i hi => by rw [attr?_length h hd]; exact h.2.1 i hi]

end weld
end MeshVal
end PolyVerif.Mesh
