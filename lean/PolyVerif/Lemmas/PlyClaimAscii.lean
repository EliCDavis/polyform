/-
  C04 — the ASCII claim stage (`ClaimOKA`) from the header-level guards `claimGuard` + `asciiGuard` (core Lean only).
-/
import PolyVerif.Lemmas.PlyClaim
import PolyVerif.Lemmas.PlyAscii

namespace PolyVerif
namespace PlyClaim
open Ply PlyLemmas PlyCompose PlyAscii

theorem locatedA_of_good (ws : List WProp) (hnd : (wsNames ws).Nodup) (b : Built) (h : Good false ws b) :
    LocatedNamedA (headerProps ws) b (b.names.map (posOf (headerProps ws))) := by
  obtain ⟨w, hw, hsub, hoffs, hty⟩ := h
  rw [← wsProps_eq]
  refine ⟨⟨?_, ?_⟩, by simp, ?_⟩
  · rw [hoffs]
    apply List.ext_getElem (by simp)
    intro k hk hk'
    simp only [List.getElem_map]
    obtain ⟨h1, _⟩ := writer_positions ws hnd w hw b.names hsub k (by simpa using hk)
    exact locOf_ascii _ _ (by omega)
  · intro i hi
    obtain ⟨n, hn, rfl⟩ := List.mem_map.mp hi
    obtain ⟨k, hk, rfl⟩ := List.getElem_of_mem hn
    obtain ⟨h1, h2⟩ := writer_positions ws hnd w hw b.names hsub k hk
    refine ⟨by simpa using h1, ?_⟩
    simp only [List.getElem_map, h2]
    rcases hty with h | ⟨_, h, hne⟩
    · rw [h]; simp
    · rw [h]; simp [hne]
  · intro k hk hk'
    obtain ⟨h1, h2⟩ := writer_positions ws hnd w hw b.names hsub k hk'
    simp [List.getElem?_eq_getElem h1, h2]

/-- the ASCII claim stage from the header-level guards: `ClaimOKA`, the hypothesis of the composed ASCII round-trip theorems,
with the reader list `buildAll` itself as witness -/
theorem claimOKA_of_guard {α : Type} (cfg : WriterCfg) (m : MeshVal α)
    (hnd : (wsNames (selectWriters cfg m)).Nodup) (hg : claimGuard (selectWriters cfg m) = true)
    (hA : asciiGuard (selectWriters cfg m) = true) :
    ClaimOKA cfg m ((buildAll false (headerProps (selectWriters cfg m)) defaultReaders true).map
      (fun b => (b, b.names.map (posOf (headerProps (selectWriters cfg m)))))) := by
  obtain ⟨h1, h2, h3⟩ := claim_of_guard_ws false (selectWriters cfg m) hnd hg (fun _ => hA)
  refine ⟨by simp [Function.comp_def], ?_, ?_⟩
  · intro p hp
    obtain ⟨b, hb, rfl⟩ := List.mem_map.mp hp
    exact locatedA_of_good _ hnd b (h1 b hb)
  · intro w hw hcb
    obtain ⟨b, hb, ha, hn⟩ := h3 w hw hcb
    obtain ⟨j, hj, hje, hlast⟩ := demanded_of_keys _ (fun b => b.names.map (posOf (headerProps (selectWriters cfg m)))) h2 b hb
    exact ⟨j, hj, by rw [hje]; exact ha, by rw [hje]; exact hn, hlast⟩

end PlyClaim
end PolyVerif
