/-
  Lemmas about `Spz.halfToFloat` (Model/Spz.lean, the transcription of /repo/formats/spz/util.go that the
  C15 driver runs for every version-1 position) for Props/C15Half: bit fields on `BitVec 16`; the value as an
  integer numerator over 2^25, which is the instance `(P, c) = (2^10, 2^25)` of Lemmas/FloatFormat.lean below the
  sign bit (`num_eq`, `ulpExp_eq`, `val_eq`; `num_mask` removes the sign bit), whence consecutive patterns and
  monotonicity, as for binary32 in Lemmas/Binary32.lean; and a reference round-to-nearest-even encoder (the repository
  has no float → half encoder: `spz.Write` writes a header only), whose error bounds are those of the format's
  `Nearest` (`encodeMag_isNearest`).
-/
import PolyVerif.Model.SpzHalf
import PolyVerif.Lemmas.RealScalar
import PolyVerif.Lemmas.FloatFormat

namespace PolyVerif
namespace Half
open Spz Scalar

/-! ### bit fields (definitions in Model/SpzHalf.lean) -/

/-- `signMul` -/
def sgnR (h : Nat) : ℝ := if h / 32768 % 2 = 1 then -1 else 1

theorem exp_bits (h : BitVec 16) : ((h >>> 10) &&& 0x1f#16).toNat = h.toNat / 1024 % 32 := by
  rw [BitVec.toNat_and, BitVec.toNat_ushiftRight, Nat.shiftRight_eq_div_pow]
  exact Nat.and_two_pow_sub_one_eq_mod _ 5

theorem man_bits (h : BitVec 16) : (h &&& 0x3ff#16).toNat = h.toNat % 1024 := by
  rw [BitVec.toNat_and]
  exact Nat.and_two_pow_sub_one_eq_mod _ 10

theorem sign_bits (h : BitVec 16) : ((h >>> 15) &&& 0x1#16).toNat = h.toNat / 32768 % 2 := by
  rw [BitVec.toNat_and, BitVec.toNat_ushiftRight, Nat.shiftRight_eq_div_pow]
  exact Nat.and_two_pow_sub_one_eq_mod _ 1

theorem msb_bits (h : BitVec 16) : h.msb = decide (h.toNat / 32768 % 2 = 1) := by
  rw [BitVec.msb_eq_decide]; have := h.isLt; congr 1; simp only [eq_iff_iff]; omega

theorem exp_field (h : BitVec 16) : (h.extractLsb' 10 5).toNat = h.toNat / 1024 % 32 := by
  rw [BitVec.extractLsb'_toNat, Nat.shiftRight_eq_div_pow]

theorem man_field (h : BitVec 16) : (h.extractLsb' 0 10).toNat = h.toNat % 1024 := by
  rw [BitVec.extractLsb'_toNat, Nat.shiftRight_eq_div_pow]; simp

/-- the operator form and the div/mod form (the one the driver runs) are the same function -/
theorem halfToFloatBits_eq {α : Type} [Scalar α] (E : Env α) (h : BitVec 16) :
    halfToFloatBits E h = halfToFloat E h.toNat := by
  have e1 : ((h >>> 10) &&& 0x1f#16 = 0#16) ↔ h.toNat / 1024 % 32 = 0 := by
    rw [← BitVec.toNat_inj, exp_bits]; rfl
  have e2 : ((h >>> 10) &&& 0x1f#16 = 31#16) ↔ h.toNat / 1024 % 32 = 31 := by
    rw [← BitVec.toNat_inj, exp_bits]; rfl
  have e3 : ((h >>> 15) &&& 0x1#16 = 1#16) ↔ h.toNat / 32768 % 2 = 1 := by
    rw [← BitVec.toNat_inj, sign_bits]; rfl
  have e4 : (h &&& 0x3ff#16 = 0#16) ↔ h.toNat % 1024 = 0 := by
    rw [← BitVec.toNat_inj, man_bits]; rfl
  simp only [halfToFloatBits, halfToFloat, e1, e2, e3, ne_eq, e4, exp_bits, man_bits]

/-! ### the value of a finite pattern as an integer over 2^25 -/

/-- the arithmetic of the decoder at ℝ: `math.Pow(2.0, k)` is the real power -/
def RealEnv (E : Env ℝ) : Prop := ∀ k : Int, E.pow2 k = (2 : ℝ) ^ k

theorem halfToFloat_finite (E : Env ℝ) (hE : RealEnv E) (h : Nat) (he : expOf h ≠ 31) :
    halfToFloat E h = sgnR h * ((num h : ℝ) / 2 ^ 25) := by
  unfold halfToFloat
  simp only [natF, Nat.cast_one, Nat.cast_ofNat]
  unfold expOf at he
  by_cases h0 : h / 1024 % 32 = 0
  · simp only [h0, if_true, num, expOf, manOf, sgnR]
    rw [hE, show ((-14 : ℤ)) = -((14 : ℕ) : ℤ) by norm_num, zpow_neg, zpow_natCast]
    split_ifs <;> · push_cast; ring
  · simp only [h0, he, if_false, num, expOf, manOf, sgnR]
    rw [hE, zpow_sub₀ (by norm_num : (2 : ℝ) ≠ 0), zpow_natCast,
      show ((15 : ℤ)) = ((15 : ℕ) : ℤ) by norm_num, zpow_natCast]
    split_ifs <;> · push_cast; field_simp; ring

theorem expOf_lt (h : Nat) (hh : h < 32768) : expOf h = h / 1024 := by unfold expOf; omega

/-- exponent of the unit in the last place (over 2^25): `max e 1` -/
def ulpExp (h : Nat) : Nat := max (expOf h) 1

/-- below the sign bit the fixed definitions are the format `(P, c) = (2^10, 2^25)` of Lemmas/FloatFormat.lean -/
theorem num_eq (h : Nat) (hh : h < 32768) : num h = FloatFormat.num 1024 h := by
  unfold num manOf; rw [expOf_lt h hh]; rfl

theorem ulpExp_eq (h : Nat) (hh : h < 32768) : ulpExp h = FloatFormat.ulpExp 1024 h := by
  unfold ulpExp; rw [expOf_lt h hh]; rfl

/-- consecutive non-negative finite patterns differ by exactly one unit in the last place of the lower one -/
theorem num_succ (h : Nat) (hh : h + 1 < 31744) : num (h + 1) = num h + 2 ^ ulpExp h := by
  rw [num_eq _ (by omega), num_eq h (by omega), ulpExp_eq h (by omega)]; exact FloatFormat.num_succ (by norm_num) h

theorem num_strictMono {a b : Nat} (hab : a < b) (hb : b < 31744) : num a < num b := by
  rw [num_eq a (by omega), num_eq b (by omega)]; exact FloatFormat.num_strictMono (by norm_num) hab

theorem num_mono {a b : Nat} (hab : a ≤ b) (hb : b < 31744) : num a ≤ num b := by
  rw [num_eq a (by omega), num_eq b (by omega)]; exact (FloatFormat.num_strictMono (by norm_num)).monotone hab

theorem num_injective {a b : Nat} (ha : a < 31744) (hb : b < 31744) (h : num a = num b) : a = b := by
  rw [num_eq a (by omega), num_eq b (by omega)] at h; exact (FloatFormat.num_strictMono (by norm_num)).injective h

theorem ulpExp_mono {a b : Nat} (hab : a ≤ b) (hb : b < 32768) : ulpExp a ≤ ulpExp b := by
  rw [ulpExp_eq a (by omega), ulpExp_eq b hb]; exact FloatFormat.ulpExp_mono hab

theorem num_zero : num 0 = 0 := by decide
theorem num_max : num 31743 = 65504 * 2 ^ 25 := by decide
theorem num_top : num 31744 = 65536 * 2 ^ 25 := by decide

/-- the magnitude does not see the sign bit -/
theorem num_mask (h : Nat) : num (h % 32768) = num h := by
  unfold num expOf manOf
  rw [Nat.mod_mod_of_dvd h (by norm_num : 1024 ∣ 32768), Nat.mod_mul_right_div_self h 1024 32, Nat.mod_mod]

/-- every finite magnitude has an 11-bit significand: `num h = s·2^k` with `s < 2^11`, `1 ≤ k ≤ 30` -/
theorem num_dyadic (h : Nat) (he : expOf h ≠ 31) :
    ∃ s k : Nat, s < 2 ^ 11 ∧ 1 ≤ k ∧ k ≤ 30 ∧ num h = s * 2 ^ k := by
  have hlt : h % 32768 < 32768 := Nat.mod_lt _ (by norm_num)
  obtain ⟨s, hs, -, e⟩ := FloatFormat.num_sig (P := 1024) (by norm_num) (h % 32768)
  rw [← num_eq _ hlt, num_mask, ← ulpExp_eq _ hlt] at e
  exact ⟨s, _, hs, le_max_right _ _, by unfold ulpExp expOf at *; omega, e⟩

/-! ### magnitudes as reals, reference encoder (round to nearest, ties to the even pattern) -/

/-- magnitude of a non-negative finite pattern -/
noncomputable def val (h : Nat) : ℝ := (num h : ℝ) / 2 ^ 25

theorem val_nonneg (h : Nat) : 0 ≤ val h := by unfold val; positivity

theorem val_zero : val 0 = 0 := by simp [val, num_zero]
theorem val_max : val 31743 = 65504 := by rw [val, num_max]; norm_num
theorem val_top : val 31744 = 65536 := by rw [val, num_top]; norm_num

theorem val_eq (h : Nat) (hh : h < 32768) : val h = FloatFormat.val 1024 (2 ^ 25) h := by
  unfold val; rw [num_eq h hh]; rfl

theorem val_mono {a b : Nat} (hab : a ≤ b) (hb : b < 31744) : val a ≤ val b := by
  unfold val; gcongr; exact num_mono hab hb

theorem val_strictMono {a b : Nat} (hab : a < b) (hb : b < 31744) : val a < val b := by
  unfold val; gcongr; exact num_strictMono hab hb

theorem val_succ (h : Nat) (hh : h + 1 < 31744) : val (h + 1) = val h + 2 ^ ulpExp h / 2 ^ 25 := by
  unfold val; rw [num_succ h hh]; push_cast; ring

open Classical in
/-- the greatest non-negative finite pattern whose value is `≤ x` (pattern 0 when there is none) -/
noncomputable def floorPat (x : ℝ) : Nat := Nat.findGreatest (fun k => val k ≤ x) 31743

open Classical in
/-- reference encoder for magnitudes: the nearer of the two neighbouring patterns, ties to the even pattern
    (IEEE roundTiesToEven on `0 ≤ x ≤ 65504`; beyond the largest finite value it saturates, which is why the
    theorems carry the range as a guard) -/
noncomputable def encodeMag (x : ℝ) : Nat :=
  let h := floorPat x
  if h = 31743 then h else
  let lo := x - val h
  let hi := val (h + 1) - x
  if lo < hi then h else if hi < lo then h + 1 else if h % 2 = 0 then h else h + 1

/-- reference float → half encoder -/
noncomputable def encode (x : ℝ) : Nat := if x < 0 then 32768 + encodeMag (-x) else encodeMag x

theorem floorPat_le (x : ℝ) : floorPat x ≤ 31743 := Nat.findGreatest_le _

theorem floorPat_val_le (x : ℝ) (hx : 0 ≤ x) : val (floorPat x) ≤ x := by
  classical
  exact Nat.findGreatest_spec (P := fun k => val k ≤ x) (Nat.zero_le 31743) (by simpa [val_zero] using hx)

theorem lt_val_floorPat_succ (x : ℝ) (h : floorPat x < 31743) : x < val (floorPat x + 1) := by
  classical
  have := Nat.findGreatest_is_greatest (P := fun k => val k ≤ x) (n := 31743) (k := floorPat x + 1)
    (Nat.lt_succ_self _) (by omega)
  exact lt_of_not_ge this

theorem le_floorPat (x : ℝ) (k : Nat) (hk : k ≤ 31743) (h : val k ≤ x) : k ≤ floorPat x := by
  classical
  exact Nat.le_findGreatest (P := fun k => val k ≤ x) hk h

theorem floorPat_val (h : Nat) (hh : h ≤ 31743) : floorPat (val h) = h := by
  apply le_antisymm
  · by_contra hc
    have hlt : h < floorPat (val h) := by omega
    have := val_strictMono hlt (by have := floorPat_le (val h); omega)
    have h2 := floorPat_val_le (val h) (val_nonneg h)
    linarith
  · exact le_floorPat _ h hh (le_refl _)

/-- the encoder picks a nearest neighbour in the sense of Lemmas/FloatFormat.lean; at the top pattern the bracket's
    upper end is the would-be next value `val 0x7c00 = 65536` -/
theorem encodeMag_isNearest (x : ℝ) (hx : 0 ≤ x) (hx2 : x ≤ 65504) :
    FloatFormat.Nearest 1024 (2 ^ 25) x (floorPat x) (encodeMag x) := by
  have hfl := floorPat_le x
  have hlo := floorPat_val_le x hx
  by_cases hm : floorPat x = 31743
  · refine .of_eq (v := val) (val_eq _ (by omega)) (val_eq _ (by omega)) hlo ?_ (Or.inl ⟨?_, ?_⟩)
    · rw [hm, val_top]; linarith
    · simp only [encodeMag, hm, if_true]
    · rw [hm, val_max, val_top]; linarith
  · refine .of_eq (v := val) (val_eq _ (by omega)) (val_eq _ (by omega)) hlo (lt_val_floorPat_succ x (by omega)) ?_
    simp only [encodeMag, hm, if_false]
    split_ifs with c1 c2 c3
    · exact Or.inl ⟨rfl, c1.le⟩
    · exact Or.inr ⟨rfl, c2.le⟩
    · exact Or.inl ⟨rfl, not_lt.mp c2⟩
    · exact Or.inr ⟨rfl, not_lt.mp c1⟩

theorem encodeMag_le (x : ℝ) : encodeMag x ≤ 31743 := by
  have := floorPat_le x
  unfold encodeMag
  simp only []
  split_ifs <;> omega

theorem encodeMag_nearest (x : ℝ) (hx : 0 ≤ x) (hx2 : x ≤ 65504) (k : Nat) (hk : k ≤ 31743) :
    |val (encodeMag x) - x| ≤ |val k - x| := by
  have := encodeMag_le x
  rw [val_eq _ (by omega), val_eq k (by omega)]
  exact (encodeMag_isNearest x hx hx2).le_all (by norm_num) (by positivity) k

theorem encodeMag_half_ulp (x : ℝ) (hx : 0 ≤ x) (hx2 : x ≤ 65504) :
    |val (encodeMag x) - x| ≤ 2 ^ ulpExp (floorPat x) / 2 ^ 26 := by
  have := encodeMag_le x
  have := floorPat_le x
  rw [val_eq _ (by omega), ulpExp_eq _ (by omega), show (2 : ℝ) ^ 26 = 2 ^ 25 * 2 by norm_num, ← div_div]
  exact (encodeMag_isNearest x hx hx2).half_ulp (by norm_num)

/-- the encoder is a left inverse of the decoder on `0 … 0x7bff`: a half is reproduced exactly -/
theorem encodeMag_val (h : Nat) (hh : h ≤ 31743) : encodeMag (val h) = h := by
  have hN := encodeMag_isNearest (val h) (val_nonneg h) (by rw [← val_max]; exact val_mono hh (by norm_num))
  rw [val_eq h (by omega)] at hN ⊢
  exact hN.exact (by norm_num) (by positivity)

/-- NORMAL RANGE `2^−14 = val 0x0400 ≤ x`: relative error `2^−11` -/
theorem encodeMag_relative (x : ℝ) (hx : 1 / 2 ^ 14 ≤ x) (hx2 : x ≤ 65504) :
    |val (encodeMag x) - x| ≤ x / 2 ^ 11 := by
  have := encodeMag_le x
  have hnorm : FloatFormat.val 1024 (2 ^ 25) 1024 ≤ x := by
    rw [← val_eq _ (by norm_num), val, show num 1024 = 2 ^ 11 by decide]; exact le_trans (le_of_eq (by norm_num)) hx
  rw [val_eq _ (by omega)]
  exact le_trans ((encodeMag_isNearest x (le_trans (by positivity) hx) hx2).relative (by norm_num) (by positivity) hnorm)
    (le_of_eq (by norm_num))

/-- a finite pattern decodes to sign times the magnitude of the pattern below the sign bit -/
theorem halfToFloat_sign_val (E : Env ℝ) (hE : RealEnv E) (h : Nat) (he : expOf h ≠ 31) :
    halfToFloat E h = sgnR h * val (h % 32768) := by
  rw [halfToFloat_finite E hE h he, val, num_mask]

theorem halfToFloat_val (E : Env ℝ) (hE : RealEnv E) (h : Nat) (hh : h < 31744) : halfToFloat E h = val h := by
  rw [halfToFloat_sign_val E hE h (by unfold expOf; omega), sgnR, if_neg (by omega), one_mul, Nat.mod_eq_of_lt (by omega)]

theorem halfToFloat_neg_val (E : Env ℝ) (hE : RealEnv E) (h : Nat) (hh : h < 31744) :
    halfToFloat E (32768 + h) = -val h := by
  rw [halfToFloat_sign_val E hE _ (by unfold expOf; omega), sgnR, if_pos (by omega), neg_one_mul,
    show (32768 + h) % 32768 = h by omega]

/-- a finite 16-bit pattern is a non-negative finite pattern, possibly with the sign bit added -/
theorem finite_split (k : Nat) (hk : k < 65536) (he : expOf k ≠ 31) :
    k < 31744 ∨ ∃ k', k' < 31744 ∧ k = 32768 + k' := by
  unfold expOf at he
  by_cases c : k < 32768
  · left; omega
  · right; exact ⟨k - 32768, by omega, by omega⟩

theorem encode_finite (x : ℝ) : expOf (encode x) ≠ 31 := by
  have := encodeMag_le (-x)
  have := encodeMag_le x
  unfold encode expOf
  split_ifs <;> omega

/-- decoding the encoder's pattern: the sign of `x` times the value of the pattern chosen for `|x|` -/
theorem halfToFloat_encode (E : Env ℝ) (hE : RealEnv E) (x : ℝ) :
    halfToFloat E (encode x) = (if x < 0 then -1 else 1) * val (encodeMag |x|) := by
  unfold encode
  split_ifs with c
  · rw [halfToFloat_neg_val E hE _ (by have := encodeMag_le (-x); omega), abs_of_neg c, neg_one_mul]
  · rw [halfToFloat_val E hE _ (by have := encodeMag_le x; omega), abs_of_nonneg (not_lt.mp c), one_mul]

/-- the signed error is the error of the magnitude (`_root_.abs x` is `|x|`: nested bars do not parse) -/
theorem abs_decode_encode (E : Env ℝ) (hE : RealEnv E) (x : ℝ) :
    |halfToFloat E (encode x) - x| = |val (encodeMag (_root_.abs x)) - _root_.abs x| := by
  rw [halfToFloat_encode E hE, FloatFormat.abs_signed_sub]

theorem decode_nearest (E : Env ℝ) (hE : RealEnv E) (x : ℝ) (hx : |x| ≤ 65504) (k : Nat) (hk : k < 65536)
    (he : expOf k ≠ 31) : |halfToFloat E (encode x) - x| ≤ |halfToFloat E k - x| := by
  rw [abs_decode_encode E hE x]
  have key : ∃ k', k' ≤ 31743 ∧ |halfToFloat E k| = val k' := by
    rcases finite_split k hk he with c | ⟨k', c, e⟩
    · exact ⟨k, by omega, by rw [halfToFloat_val E hE k c, abs_of_nonneg (val_nonneg k)]⟩
    · exact ⟨k', by omega, by rw [e, halfToFloat_neg_val E hE k' c, abs_neg, abs_of_nonneg (val_nonneg k')]⟩
  obtain ⟨k', hk', e⟩ := key
  calc |val (encodeMag (_root_.abs x)) - _root_.abs x| ≤ |val k' - _root_.abs x| := encodeMag_nearest (_root_.abs x) (abs_nonneg x) hx k' hk'
    _ = |_root_.abs (halfToFloat E k) - _root_.abs x| := by rw [e]
    _ ≤ |halfToFloat E k - x| := abs_abs_sub_abs_le_abs_sub _ _

theorem encode_decode_id (E : Env ℝ) (hE : RealEnv E) (h : Nat) (hh : h < 65536) (he : expOf h ≠ 31)
    (hz : h ≠ 32768) : encode (halfToFloat E h) = h := by
  rcases finite_split h hh he with c | ⟨k', c, e⟩
  · rw [halfToFloat_val E hE h c]
    unfold encode
    rw [if_neg (not_lt.mpr (val_nonneg h)), encodeMag_val h (by omega)]
  · subst e
    have hk : 0 < k' := by omega
    have hp : 0 < val k' := by have := val_strictMono hk c; rwa [val_zero] at this
    rw [halfToFloat_neg_val E hE k' c]
    unfold encode
    rw [if_pos (by linarith), neg_neg, encodeMag_val k' (by omega)]

end Half
end PolyVerif
