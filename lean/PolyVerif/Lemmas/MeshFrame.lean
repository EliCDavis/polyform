/-
  C03 lemmas: `SetFloatNAttribute(k, ·)` leaves every other attribute array alone (frame), and attribute `k`
  reads back as the new array.
-/
import PolyVerif.Lemmas.MeshWF

namespace PolyVerif.Mesh
variable {α : Type}

namespace MeshVal

/-- frame: `SetFloatNAttribute(k, ·)` does not touch any other attribute array -/
theorem setAttr_attr?_ne (m : MeshVal α) {k k' : AttrKey} (data : List α) (h : k' ≠ k) :
    (m.setAttr k data).attr? k' = m.attr? k' := by
  simp only [setAttr, attr?]
  split
  · exact Attrs.find?_filter_ne _ h
  · split
    · rw [Attrs.find?_replace, if_neg h]
    · rw [Attrs.find?_snoc, if_neg (Ne.symm h), Option.or_none]

/-- the attribute itself: the new array, or no entry at all when the new array is empty -/
theorem setAttr_attr?_self (m : MeshVal α) (k : AttrKey) (data : List α) :
    (m.setAttr k data).attr? k = if data.isEmpty then none else some data := by
  simp only [setAttr, attr?]
  split
  · exact Attrs.find?_filter_self _ _
  · split
    · rename_i hh
      obtain ⟨d, hd⟩ := Option.isSome_iff_exists.mp hh
      rw [Attrs.find?_replace, if_pos rfl, hd]; rfl
    · rename_i hh
      rw [Attrs.find?_snoc, if_pos rfl, Option.not_isSome_iff_eq_none.mp hh]; rfl

theorem setAttr_frame (m : MeshVal α) (k : AttrKey) (data : List α) :
    (m.setAttr k data).topology = m.topology ∧ (m.setAttr k data).indices = m.indices ∧
    (m.setAttr k data).materials = m.materials := ⟨rfl, rfl, rfl⟩

end MeshVal
end PolyVerif.Mesh
