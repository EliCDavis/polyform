/-
  C05, write then read: the reader, run over `objText`, accepts it and returns one group per mesh with the expected names, face
  lines and material ranges (`obj_roundtrip_struct`); with the groups' tables that is the round-trip predicate (`obj_roundtrip_carry`,
  `obj_roundtrip`), also through a text layer (`obj_roundtrip_text`) and for read → write → read (`obj_reload`).  With the closed
  witnesses of the shared-offset defect and of the two known deviations, and the reader's material invariant.  Core Lean only.
-/
import PolyVerif.Lemmas.ObjWritten
import PolyVerif.Lemmas.ObjTransport

set_option linter.unusedSimpArgs false
set_option linter.unusedSectionVars false

namespace PolyVerif
namespace ObjL
open Obj

section roundtrip
variable {α : Type}

theorem addCorner_ok_aux (s : RState Corner α) (g : Group Corner α) (c : Corner) (h : Resolves s.pv s.pn s.pt c) :
    ∃ p g', addCorner pcId s g c = .ok (p, g') := by
  obtain ⟨r, hr⟩ := Option.isSome_iff_exists.1 h
  rw [addCorner_eq]
  split
  · exact ⟨_, _, rfl⟩
  · simp only [pcId, hr]; exact ⟨_, _, rfl⟩

theorem step_face_aux (s : RState Corner α) (a b c : Corner)
    (ha : Resolves s.pv s.pn s.pt a) (hb : Resolves s.pv s.pn s.pt b) (hc : Resolves s.pv s.pn s.pt c) :
    ∃ g3 t, step pcId s (.f a b c) = .ok (pushFace s g3 t (a, b, c)) := by
  obtain ⟨p1, g1, e1⟩ := addCorner_ok_aux s { s.cur with mats := carryMats s.cur.mats s.inEffect } a ha
  obtain ⟨p2, g2, e2⟩ := addCorner_ok_aux s g1 b hb
  obtain ⟨p3, g3, e3⟩ := addCorner_ok_aux s g2 c hc
  exact ⟨g3, _, step_face_eq pcId e1 e2 e3⟩

theorem carryMats_idem_aux (mats : List (String × Nat)) (ie : Option String) :
    carryMats (carryMats mats ie) ie = carryMats mats ie := by
  unfold carryMats
  by_cases h : mats = []
  · cases ie <;> simp [h]
  · simp [h]

theorem steps_faces_aux (mk : Nat → Corner) : ∀ (ts : List (Nat × Nat × Nat)) (s : RState Corner α),
    (∀ i ∈ flatTris ts, Resolves s.pv s.pn s.pt (mk i)) →
    ∃ g', steps pcId s (faceLines mk ts) = .ok { s with since := s.since + ts.length, cur := g' } ∧
      g'.name = s.cur.name ∧ g'.ftoks = s.cur.ftoks ++ cornerTriples mk ts ∧
      g'.tris.length = s.cur.tris.length + ts.length ∧
      g'.mats = (if ts = [] then s.cur.mats else carryMats s.cur.mats s.inEffect)
  | [], s, _ => ⟨s.cur, by simp [faceLines, steps], rfl, by simp [cornerTriples], rfl, by simp⟩
  | (a, b, c) :: ts, s, h => by
    obtain ⟨g1, t1, e1⟩ := step_face_aux s (mk a) (mk b) (mk c) (h a (by simp [flatTris])) (h b (by simp [flatTris]))
      (h c (by simp [flatTris]))
    obtain ⟨g2, e2, n2, f2, t2, m2⟩ := steps_faces_aux mk ts (pushFace s g1 t1 (mk a, mk b, mk c))
      (fun i hi => h i (by simp [flatTris, hi]))
    refine ⟨g2, ?_, n2, ?_, ?_, ?_⟩
    · simp only [faceLines, List.map_cons, steps, e1]
      simp only [faceLines] at e2
      rw [e2]
      simp only [pushFace, List.length_cons]
      congr 2
      omega
    · simp [f2, pushFace, cornerTriples]
    · simp [t2, pushFace]; omega
    · rw [m2]
      by_cases hts : ts = [] <;> simp [hts, pushFace, carryMats_idem_aux]

theorem steps_append_aux {τ : Type} [DecidableEq τ] (pc : τ → Except Err Corner) :
    ∀ (a b : List (Line τ α)) (s s1 : RState τ α), steps pc s a = .ok s1 → steps pc s (a ++ b) = steps pc s1 b
  | [], b, s, s1, h => by simp only [steps, Except.ok.injEq] at h; subst h; rfl
  | l :: a, b, s, s1, h => by
    simp only [steps, List.cons_append] at h ⊢
    split at h
    · cases h
    · rename_i s' e
      exact steps_append_aux pc a b s' s1 h

theorem closeMats_concat_aux (X : List (String × Nat)) (m : String) (n : Nat) :
    closeMats (X ++ [(m, 0)]) n = X ++ [(m, n)] := by
  unfold closeMats
  by_cases h : n > 0
  · simp [h, setLast_concat_aux]
  · have : n = 0 := by omega
    simp [this]

/-- the ranges of a mesh, read into a working group that has no pending "Default" range: afterwards the
    closed ranges are the previously closed ones followed by the mesh's ranges -/
theorem steps_ranges_aux (mk : Nat → Corner) : ∀ (mats : List (Option String × Nat)) (ts : List (Nat × Nat × Nat))
    (s : RState Corner α),
    (s.cur.mats = [] → s.since = 0) → (mats.map (·.2)).sum = ts.length → (∀ p ∈ mats, matName p.1 ≠ "") →
    (∀ i ∈ flatTris ts, Resolves s.pv s.pn s.pt (mk i)) →
    ∃ g' c', steps pcId s (rangeLines mk mats ts) =
        .ok { s with since := c', inEffect := lastMat mats s.inEffect, cur := g' } ∧
      g'.name = s.cur.name ∧ g'.ftoks = s.cur.ftoks ++ cornerTriples mk ts ∧
      g'.tris.length = s.cur.tris.length + ts.length ∧
      (g'.mats = [] → c' = 0) ∧
      closeMats g'.mats c' = closeMats s.cur.mats s.since ++ mats.map (fun p => (matName p.1, p.2))
  | [], ts, s, hdef, hsum, _, _ => by
    have : ts = [] := List.eq_nil_of_length_eq_zero (by simpa using hsum.symm)
    subst this
    exact ⟨s.cur, s.since, rfl, rfl, by simp [cornerTriples], rfl, hdef, by simp⟩
  | (m1, n) :: ms, ts, s, hdef, hsum, hnames, hres => by
    simp only [List.map_cons, List.sum_cons] at hsum
    have hn : (ts.take n).length = n := by simp [List.length_take]; omega
    have hname : matName m1 ≠ "" := hnames (m1, n) (by simp)
    have hmats1 : (if s.since > 0 then (if s.cur.mats = [] then [("Default", s.since)] else setLast s.cur.mats s.since)
        else s.cur.mats) = closeMats s.cur.mats s.since := by
      unfold closeMats
      by_cases hp : s.since > 0
      · have hne : s.cur.mats ≠ [] := fun h => by have := hdef h; omega
        simp [hp, hne]
      · simp [hp]
    let g1 : Group Corner α := { s.cur with mats := closeMats s.cur.mats s.since ++ [(matName m1, 0)] }
    let s1 : RState Corner α := { s with since := 0, inEffect := some (matName m1), cur := g1 }
    have e1 : step pcId s (.usemtl (matName m1)) = .ok s1 := by
      simp only [step, hname, ↓reduceIte, hmats1, s1, g1]
    obtain ⟨g2, e2, n2, f2, t2, m2⟩ := steps_faces_aux mk (ts.take n) s1
      (fun i hi => hres i (by rw [flatTris_take_drop_aux n]; exact List.mem_append_left _ hi))
    have hm2 : g2.mats = closeMats s.cur.mats s.since ++ [(matName m1, 0)] := by
      rw [m2]; split
      · rfl
      · simp [carryMats, s1, g1]
    obtain ⟨g3, c3, e3, n3, f3, t3, hd3, hc3⟩ := steps_ranges_aux mk ms (ts.drop n)
      { s1 with since := s1.since + (ts.take n).length, cur := g2 }
      (fun h => by rw [hm2] at h; simp at h)
      (by simp [List.length_drop]; omega) (fun p hp => hnames p (by simp [hp]))
      (fun i hi => hres i (by rw [flatTris_take_drop_aux n]; exact List.mem_append_right _ hi))
    refine ⟨g3, c3, ?_, ?_, ?_, ?_, hd3, ?_⟩
    · simp only [rangeLines, steps, e1]
      rw [steps_append_aux pcId _ _ _ _ e2, e3]
      simp only [lastMat_cons_aux, s1]
    · simp [n3, n2, s1, g1]
    · simp only [f3, f2, s1, g1, cornerTriples, List.append_assoc, ← List.map_append, List.take_append_drop]
    · simp only [t3, t2, s1, g1, List.length_drop]; omega
    · rw [hc3]
      simp only [hm2, s1, hn, Nat.zero_add, closeMats_concat_aux, List.map_cons, List.append_assoc, List.cons_append,
        List.nil_append]

def Fresh (s : RState Corner α) : Prop :=
  s.cur.mats = [] ∧ s.since = 0 ∧ s.cur.tris = [] ∧ s.cur.ftoks = []

theorem steps_body_aux (s : RState Corner α) (vo to no : Nat) (m : Mesh α) (hw : WFMesh m)
    (hp : PoolsFor s.pv s.pn s.pt vo to no m) (hf : Fresh s) :
    ∃ g' c', steps pcId s (bodyLines vo to no m) =
        .ok { s with since := c', inEffect := lastMat m.mats s.inEffect, cur := g' } ∧
      g'.name = s.cur.name ∧
      g'.ftoks = cornerTriples (mkCorner m.uv.isSome m.nrm.isSome vo to no) (triplesOf m.idx) ∧
      g'.tris.length = m.idx.length / 3 ∧
      closeMats g'.mats c' = expMats s.inEffect m := by
  obtain ⟨hm0, hs0, ht0, hf0⟩ := hf
  have hres : ∀ i ∈ flatTris (triplesOf m.idx), Resolves s.pv s.pn s.pt (mkCorner m.uv.isSome m.nrm.isSome vo to no i) := by
    rw [flat_triplesOf_aux m.idx hw.len3]; exact fun i hi => res_mk_aux hp hw hi
  have hlen := triplesOf_length_aux m.idx
  unfold bodyLines
  by_cases hm : m.mats = []
  · obtain ⟨g', e, n, f, t, mm⟩ := steps_faces_aux (mkCorner m.uv.isSome m.nrm.isSome vo to no) (triplesOf m.idx) s hres
    refine ⟨g', s.since + (triplesOf m.idx).length, ?_, n, by simp [f, hf0], by simp [t, ht0, hlen], ?_⟩
    · simp only [hm, ↓reduceIte, e, lastMat, List.getLast?_nil]
    · rw [mm, hs0, hlen, hm0]
      unfold expMats closeMats carryMats
      simp only [hm, ↓reduceIte, Nat.zero_add]
      by_cases h0 : m.idx.length / 3 = 0
      · have : triplesOf m.idx = [] := List.eq_nil_of_length_eq_zero (by rw [hlen]; exact h0)
        cases s.inEffect <;> simp [this, h0]
      · have : triplesOf m.idx ≠ [] := fun h => h0 (by rw [← hlen, h]; rfl)
        cases s.inEffect with
        | none => simp [this]
        | some a =>
          have hp0 : m.idx.length / 3 > 0 := by omega
          simp [this, h0, hp0, setLast]
  · have hs : (m.mats.map (·.2)).sum = (triplesOf m.idx).length := by
      rcases hw.mats with h' | h'
      · exact absurd h' hm
      · rw [hlen]; exact h'
    obtain ⟨g', c', e, n, f, t, _, hc⟩ := steps_ranges_aux (mkCorner m.uv.isSome m.nrm.isSome vo to no) m.mats
      (triplesOf m.idx) s (fun _ => hs0) hs hw.names hres
    refine ⟨g', c', ?_, n, by simp [f, hf0], by simp [t, ht0, hlen], ?_⟩
    · simp only [hm, ↓reduceIte, e]
    · rw [hc, hm0]
      simp [expMats, hm, closeMats]

theorem steps_groups_aux (multi : Bool) : ∀ (rest : List (String × Mesh α)) (name : String) (m : Mesh α)
    (s : RState Corner α) (vo to no : Nat),
    WFMesh m → (∀ p ∈ rest, WFMesh p.2) → NonemptyButLast ((name, m) :: rest) → (rest ≠ [] → multi = true) →
    PoolsAll s.pv s.pn s.pt vo to no ((name, m) :: rest) → Fresh s → s.cur.name = name →
    ∃ s', steps pcId s (bodyLines vo to no m ++
        groupLines multi (vo + optLen m.pos) (to + optLen m.uv) (no + optLen m.nrm) rest) = .ok s' ∧
      (finish s').1.map sumG = s.done.map sumG ++ expSum vo to no s.inEffect ((name, m) :: rest) ∧
      (finish s').2 = s.libs
  | [], name, m, s, vo, to, no, hw, _, _, _, hp, hf, hn => by
    obtain ⟨g', c', e, n, f, t, hc⟩ := steps_body_aux s vo to no m hw hp.1 hf
    refine ⟨{ s with since := c', inEffect := lastMat m.mats s.inEffect, cur := g' }, ?_, ?_, rfl⟩
    · simp only [groupLines, List.append_nil]; exact e
    · simp [finish, sumG, expSum, n, f, hc, hn]
  | (name', m') :: rest, name, m, s, vo, to, no, hw, hws, hnb, hmulti, hp, hf, hn => by
    obtain ⟨g', c', e, n, f, t, hc⟩ := steps_body_aux s vo to no m hw hp.1 hf
    have hmt : multi = true := hmulti (by simp)
    subst hmt
    have hne : m.idx ≠ [] := hnb.1
    have hpos : m.idx.length / 3 ≠ 0 := by
      have h3 := hw.len3
      have : m.idx.length ≠ 0 := fun h => hne (List.eq_nil_of_length_eq_zero h)
      omega
    have htris : g'.tris ≠ [] := fun h => hpos (by rw [← t, h]; rfl)
    -- the `g` line of the next mesh flushes this one
    let s2 : RState Corner α :=
      { s with since := 0, inEffect := lastMat m.mats s.inEffect,
               done := s.done ++ [{ g' with mats := closeMats g'.mats c' }], cur := { name := name' } }
    have e2 : step pcId { s with since := c', inEffect := lastMat m.mats s.inEffect, cur := g' } (.g name') = .ok s2 := by
      simp only [step, htris, ne_eq, not_false_eq_true, ↓reduceIte, s2]
    obtain ⟨s', e3, hfin, hlibs⟩ := steps_groups_aux true rest name' m' s2
      (vo + optLen m.pos) (to + optLen m.uv) (no + optLen m.nrm)
      (hws (name', m') (by simp)) (fun p hp' => hws p (by simp [hp'])) hnb.2
      (fun _ => rfl) hp.2 ⟨rfl, rfl, rfl, rfl⟩ rfl
    refine ⟨s', ?_, ?_, by rw [hlibs]⟩
    · rw [steps_append_aux pcId _ _ _ _ e]
      simp only [groupLines, gLine, Bool.true_or, ↓reduceIte, List.append_assoc, List.cons_append,
        List.nil_append, steps, e2]
      exact e3
    · rw [hfin]
      simp [s2, sumG, expSum, n, f, hc, hn]

theorem obj_roundtrip_struct (matFile : String) (ms : List (String × Mesh α)) (hne : ms ≠ [])
    (hwf : ∀ p ∈ ms, WFMesh p.2) (hnb : NonemptyButLast ms) :
    ∃ ls gs, writeObj matFile ms = .ok ls ∧
      readObj pcId ls = .ok (gs, if matFile = "" then [] else [matFile]) ∧
      gs.map sumG = expSum 0 0 0 none ms ∧
      poolV ls = ms.flatMap (fun p => optList p.2.pos) ∧ poolN ls = ms.flatMap (fun p => optList p.2.nrm) ∧
      poolT ls = ms.flatMap (fun p => optList p.2.uv) := by
  have hw := writeObj_eq_aux matFile ms (fun p hp => (hwf p hp).writable)
  obtain ⟨pv, pn, pt⟩ := pool_objText_aux matFile ms
  obtain ⟨⟨name, m⟩, rest, rfl⟩ := List.exists_cons_of_ne_nil hne
  let multi := decide (((name, m) :: rest).length > 1)
  have hmulti : rest ≠ [] → multi = true := by
    intro h; cases rest with
    | nil => exact absurd rfl h
    | cons q r => simp [multi]
  let s0 : RState Corner α := { libs := if matFile = "" then [] else [matFile] }
  have eh : steps pcId ({} : RState Corner α) (headerLines matFile) = .ok s0 := by
    unfold headerLines
    by_cases hf : matFile = "" <;> simp [hf, steps, step, s0]
  have ed := (steps_attr_aux pcId _ s0 (isAttr_dataLines_aux ((name, m) :: rest))).1
  obtain ⟨d1, d2, d3⟩ := pool_data_aux ((name, m) :: rest)
  rw [d1, d2, d3] at ed
  -- the first `g` line (if any) only names the still empty working group
  let s1 : RState Corner α := { s0 with
      pv := s0.pv ++ ((name, m) :: rest).flatMap (fun p => optList p.2.pos),
      pn := s0.pn ++ ((name, m) :: rest).flatMap (fun p => optList p.2.nrm),
      pt := s0.pt ++ ((name, m) :: rest).flatMap (fun p => optList p.2.uv) }
  let s2 : RState Corner α := { s1 with cur := { s1.cur with name := name } }
  have eg : steps pcId s1 (gLine multi name) = .ok s2 := by
    unfold gLine
    by_cases hg : (multi || decide (name ≠ "")) = true
    · rw [if_pos hg]; simp [steps, step, s2, s1, s0]
    · have : name = "" := by
        simp only [Bool.or_eq_true, decide_eq_true_eq, not_or, Decidable.not_not] at hg; exact hg.2
      rw [if_neg hg]; simp [steps, s2, s1, s0, this]
  have hpools : PoolsAll s2.pv s2.pn s2.pt 0 0 0 ((name, m) :: rest) := by
    simpa [s2, s1, s0] using poolsAll_aux ((name, m) :: rest) [] [] []
  obtain ⟨s', eb, hfin, hlibs⟩ := steps_groups_aux multi rest name m s2 0 0 0 (hwf (name, m) (by simp))
    (fun p hp => hwf p (by simp [hp])) hnb hmulti hpools ⟨rfl, rfl, rfl, rfl⟩ rfl
  refine ⟨_, (finish s').1, hw, ?_, ?_, pv, pn, pt⟩
  · unfold readObj objText
    rw [List.append_assoc, steps_append_aux pcId _ _ _ _ eh, steps_append_aux pcId _ _ _ _ ed]
    simp only [groupLines, List.append_assoc]
    rw [steps_append_aux pcId _ _ _ _ eg, eb]
    simp only [Except.ok.injEq]
    rw [show finish s' = ((finish s').1, (finish s').2) from rfl, hlibs]
  · rw [hfin]; simp [s2, s1, s0]

section predicate

theorem v3map_id_aux (v : V3 α) : V3.map (fun x => x) v = v := by cases v; rfl
theorem v2map_id_aux (v : V2 α) : V2.map (fun x => x) v = v := by cases v; rfl

theorem filterMap_none_aux {β γ : Type} (f : β → Option γ) : ∀ l : List β, (∀ t ∈ l, f t = none) → l.filterMap f = []
  | [], _ => rfl
  | a :: l, h => by
    simp [List.filterMap_cons, h a (by simp), filterMap_none_aux f l (fun t ht => h t (by simp [ht]))]

/-- `f` is the identity, but a parameter: the goals have `V3.map id` / `V2.map id`, which is not syntactically `id` -/
theorem attrMatches_some_aux {β : Type} [DecidableEq β] (f : β → β) (hf : ∀ x, f x = x) (idx ridx : List Nat)
    (a b : List β) (hin : ∀ i ∈ idx, i < a.length)
    (h : ridx.map (fun i => b[i]?) = idx.map (fun i => a[i]?)) :
    attrMatches f idx ridx (some a) (some b) = true := by
  have hw : idx.map (fun i => (a[i]?).map f) = idx.map (fun i => a[i]?) := by
    apply List.map_congr_left
    intro i _
    cases a[i]? <;> simp [hf]
  unfold attrMatches
  simp only [hw, h, Bool.and_eq_true, List.all_eq_true, List.mem_map, forall_exists_index, and_imp,
    forall_apply_eq_imp_iff₂, beq_self_eq_true, and_true]
  intro i hi
  simp [List.getElem?_eq_getElem (hin i hi)]

/-- one attribute (texture coordinates or normals) of a group read back from mesh lines `idx.map mk`: if the
    mesh has the array `src` (at pool offset `off`, every corner's slot being `some (i+off)`), the group's
    table is complete and carries, corner by corner, the source entries; if the mesh lacks it, the table is
    empty and dropped -/
theorem attr_matches_aux {β : Type} [DecidableEq β] (f : β → β) (hf : ∀ x, f x = x) (pool : List β) (off : Nat)
    (idx : List Nat) (mk : Nat → Corner) (sl : Corner → Option Nat) (g : Group Corner α) (tbl : List β)
    (htbl : tbl.map some = (g.toks.filterMap sl).map (fun i => pool[i]?))
    (hf' : Aligned g.toks g.tris g.ftoks)
    (hflat : flatC g.ftoks = idx.map mk) (htoks : ∀ t ∈ g.toks, ∃ i ∈ idx, t = mk i) (hne : g.toks ≠ [])
    (src : Option (List β))
    (hsome : ∀ l, src = some l → ∀ i ∈ idx, sl (mk i) = some (i + off) ∧ i < l.length ∧ pool[i + off]? = l[i]?)
    (hnone : src = none → ∀ i ∈ idx, sl (mk i) = none) :
    attrMatches f idx (flatTris g.tris) src (keepIfComplete g.toks.length tbl) = true := by
  cases src with
  | none =>
    have h0 : g.toks.filterMap sl = [] := filterMap_none_aux sl g.toks fun t ht => by
      obtain ⟨i, hi, rfl⟩ := htoks t ht; exact hnone rfl i hi
    rw [h0] at htbl
    have : tbl = [] := by simpa using htbl
    simp [this, keepIfComplete, attrMatches]
  | some l =>
    obtain ⟨hc1, hc2⟩ := table_complete_aux sl pool tbl g.toks htbl
    have hl := hc1.2 fun t ht => by
      obtain ⟨i, hi, rfl⟩ := htoks t ht; rw [(hsome l rfl i hi).1]; rfl
    have hne' : tbl ≠ [] := fun e => hne (List.eq_nil_of_length_eq_zero (by rw [← hl, e]; rfl))
    simp only [keepIfComplete, hne', ne_eq, not_false_eq_true, hl, and_self, ↓reduceIte]
    refine attrMatches_some_aux f hf _ _ _ _ (fun i hi => (hsome l rfl i hi).2.1) ?_
    rw [flat_lookup_aux (hc2 hl) g.tris g.ftoks hf', hflat, List.map_map]
    exact List.map_congr_left fun i hi => by
      obtain ⟨e1, _, e3⟩ := hsome l rfl i hi; simp [e1, e3]

theorem group_matches_aux [DecidableEq α] (PV PN : List (V3 α)) (PT : List (V2 α)) (vo to no : Nat)
    (carry : Option String) (m : Mesh α) (g : Group Corner α) (hw : WFMesh m)
    (hp : PoolsFor PV PN PT vo to no m) (hi : GInv pcId PV PN PT g)
    (hft : g.ftoks = cornerTriples (mkCorner m.uv.isSome m.nrm.isSome vo to no) (triplesOf m.idx))
    (hmats : g.mats = expMats carry m) :
    MeshMatches id m (expectMats carry m) (toMesh g).2 = true := by
  obtain ⟨ps, hps, hlt⟩ := hw.pos
  have h3 := hw.len3
  have hridx : (flatTris g.tris).length = m.idx.length := by
    have hl := congrArg List.length hi.hf
    simp only [List.length_map, hft, cornerTriples, triplesOf_length_aux] at hl
    rw [flatTris_len_eq_aux, hl]; omega
  have hmats' : (g.mats.map fun (p : String × Nat) => ((some p.1 : Option String), p.2)) = expectMats carry m := by
    rw [hmats]; exact expectMats_eq_aux carry m h3
  have hvl : g.verts.length = g.toks.length := by simpa using congrArg List.length hi.hv
  -- the group's tokens are the mesh's corners
  have hflat : flatC g.ftoks = m.idx.map (mkCorner m.uv.isSome m.nrm.isSome vo to no) := by
    rw [hft, flatC_cornerTriples_aux, flat_triplesOf_aux m.idx h3]
  have htoks : ∀ t ∈ g.toks, ∃ i ∈ m.idx, t = mkCorner m.uv.isSome m.nrm.isSome vo to no i := by
    intro t ht
    obtain ⟨i, hi', e⟩ := List.mem_map.1 (hflat ▸ (mem_toks_iff_aux pcId hi t).1 ht)
    exact ⟨i, hi', e.symm⟩
  unfold MeshMatches
  simp only [toMesh, hridx, hmats', beq_self_eq_true, Bool.true_and]
  by_cases hidx : m.idx = []
  · -- no triangle: no token, no table
    have ht0 : g.toks = [] := List.eq_nil_iff_forall_not_mem.2 fun t ht => by
      obtain ⟨i, hi', _⟩ := htoks t ht; rw [hidx] at hi'; cases hi'
    have hv0 : g.verts = [] := by simpa [ht0] using hi.hv
    have hn0 : g.normals = [] := by simpa [ht0] using hi.hn
    have hu0 : g.uvs = [] := by simpa [ht0] using hi.ht
    simp [hidx, hv0, hn0, hu0, optOfList, keepIfComplete]
  · simp only [hidx, ↓reduceIte, Bool.and_eq_true]
    -- the first index finds a token, so the tables are not empty
    have hne : g.toks ≠ [] := by
      obtain ⟨i, r, hir⟩ := List.exists_cons_of_ne_nil hidx
      obtain ⟨p, hp'⟩ := ftoks_in_toks_aux pcId hi (t := mkCorner m.uv.isSome m.nrm.isSome vo to no i)
        (by rw [hflat, hir]; simp)
      exact List.ne_nil_of_mem (List.mem_of_getElem? hp')
    have hvne : g.verts ≠ [] := fun e => hne (List.eq_nil_of_length_eq_zero (by rw [← hvl, e]; rfl))
    refine ⟨⟨?_, ?_⟩, ?_⟩
    · -- positions
      rw [hps]
      simp only [optOfList, hvne, ↓reduceIte]
      refine attrMatches_some_aux _ v3map_id_aux _ _ _ _ hlt ?_
      rw [flat_lookup_aux hi.hv g.tris g.ftoks hi.hf, hflat, List.map_map]
      refine List.map_congr_left fun i hi' => ?_
      simp [vOf, mkCorner, show i + 1 + vo - 1 = i + vo by omega, hp.1 ps hps i (hlt i hi')]
    · rw [hvl]
      exact attr_matches_aux _ v2map_id_aux PT to m.idx _ (fun c => slot c.vt) g g.uvs hi.ht hi.hf hflat htoks hne m.uv
        (fun us hu i hi' => ⟨by simp [mkCorner, hu, slot], hw.uv us hu i hi', hp.2.1 us hu i (hw.uv us hu i hi')⟩)
        (fun hu i _ => by simp [mkCorner, hu, slot])
    · rw [hvl]
      exact attr_matches_aux _ v3map_id_aux PN no m.idx _ (fun c => slot c.vn) g g.normals hi.hn hi.hf hflat htoks hne m.nrm
        (fun ns hn i hi' => ⟨by simp [mkCorner, hn, slot], hw.nrm ns hn i hi', hp.2.2 ns hn i (hw.nrm ns hn i hi')⟩)
        (fun hn i _ => by simp [mkCorner, hn, slot])

theorem roundTripsCarry_of_summary_aux [DecidableEq α] (PV PN : List (V3 α)) (PT : List (V2 α)) :
    ∀ (ms : List (String × Mesh α)) (gs : List (Group Corner α)) (vo to no : Nat) (carry : Option String),
    (∀ p ∈ ms, WFMesh p.2) → PoolsAll PV PN PT vo to no ms → (∀ g ∈ gs, GInv pcId PV PN PT g) →
    gs.map sumG = expSum vo to no carry ms → RoundTripsCarry id carry ms (gs.map toMesh) = true
  | [], [], _, _, _, _, _, _, _, _ => rfl
  | [], _ :: _, _, _, _, _, _, _, _, h => by simp [expSum] at h
  | _ :: _, [], _, _, _, _, _, _, _, h => by
    rename_i p _ ; obtain ⟨name, m⟩ := p; simp [expSum] at h
  | (name, m) :: ms, g :: gs, vo, to, no, carry, hwf, hp, hi, h => by
    simp only [List.map_cons, expSum, List.cons.injEq, sumG, Prod.mk.injEq] at h
    obtain ⟨⟨hname, hft, hmats⟩, hrest⟩ := h
    have hg := group_matches_aux PV PN PT vo to no carry m g (hwf (name, m) (by simp)) hp.1 (hi g (by simp)) hft hmats
    have hr := roundTripsCarry_of_summary_aux PV PN PT ms gs _ _ _ _ (fun p hp' => hwf p (by simp [hp'])) hp.2
      (fun g' hg' => hi g' (by simp [hg'])) hrest
    simp only [List.map_cons, RoundTripsCarry, Bool.and_eq_true, beq_iff_eq]
    refine ⟨⟨?_, hg⟩, ?_⟩
    · simp [toMesh, hname]
    · rw [nextCarry_eq_aux]; exact hr

/-- no mesh without material ranges (but with faces) comes after a mesh with ranges — outside this class the
    reader's carried material shows up (known deviation `roundtrip_matless_after_mat`) -/
def NoMatlessAfterMat : Option String → List (String × Mesh α) → Prop
  | _, [] => True
  | carry, (_, m) :: rest => (m.mats = [] → m.idx ≠ [] → carry = none) ∧ NoMatlessAfterMat (lastMat m.mats carry) rest

theorem strict_of_carry_aux [DecidableEq α] {rt : α → α} : ∀ (ms gs : List (String × Mesh α)) (carry : Option String),
    NoMatlessAfterMat carry ms → RoundTripsCarry rt carry ms gs = true → RoundTrips rt ms gs = true
  | [], [], _, _, _ => rfl
  | [], _ :: _, _, _, h => by simp [RoundTripsCarry] at h
  | _ :: _, [], _, _, h => by simp [RoundTripsCarry] at h
  | (name, m) :: ms, r :: gs, carry, hn, h => by
    simp only [RoundTripsCarry, Bool.and_eq_true] at h
    obtain ⟨⟨h1, h2⟩, h3⟩ := h
    rw [nextCarry_eq_aux] at h3
    have ih := strict_of_carry_aux ms gs _ hn.2 h3
    have hm : expectMats carry m = writtenMats m := by
      unfold expectMats
      by_cases hmm : m.mats = []
      · by_cases hi : m.idx = []
        · cases carry <;> simp [hmm, hi, writtenMats]
        · rw [hn.1 hmm hi]; simp [hmm, writtenMats]
      · simp [hmm]
    unfold RoundTrips at ih ⊢
    simp only [List.length_cons, List.zip_cons_cons, List.all_cons, Bool.and_eq_true, beq_iff_eq] at ih ⊢
    refine ⟨by omega, ⟨?_, ?_⟩, ih.2⟩
    · simpa using h1
    · rw [← hm]; exact h2

theorem obj_roundtrip_carry [DecidableEq α] (matFile : String) (ms : List (String × Mesh α)) (hne : ms ≠ [])
    (hwf : ∀ p ∈ ms, WFMesh p.2) (hnb : NonemptyButLast ms) :
    ∃ ls gs libs, writeObj matFile ms = .ok ls ∧ readObj pcId ls = .ok (gs, libs) ∧
      RoundTripsCarry id none ms (gs.map toMesh) = true := by
  obtain ⟨ls, gs, hw, hr, hs, pv, pn, pt⟩ := obj_roundtrip_struct matFile ms hne hwf hnb
  refine ⟨ls, gs, _, hw, hr, ?_⟩
  have hinv := readObj_corners pcId hr
  rw [pv, pn, pt] at hinv
  have hpools := poolsAll_aux ms [] [] []
  simp only [List.nil_append, List.length_nil] at hpools
  exact roundTripsCarry_of_summary_aux _ _ _ ms gs 0 0 0 none hwf hpools hinv hs

theorem obj_roundtrip [DecidableEq α] (matFile : String) (ms : List (String × Mesh α)) (hne : ms ≠ [])
    (hwf : ∀ p ∈ ms, WFMesh p.2) (hnb : NonemptyButLast ms) (hmat : NoMatlessAfterMat none ms) :
    ∃ ls gs libs, writeObj matFile ms = .ok ls ∧ readObj pcId ls = .ok (gs, libs) ∧
      RoundTrips id ms (gs.map toMesh) = true := by
  obtain ⟨ls, gs, libs, hw, hr, hc⟩ := obj_roundtrip_carry matFile ms hne hwf hnb
  exact ⟨ls, gs, libs, hw, hr, strict_of_carry_aux ms _ none hmat hc⟩

end predicate

end roundtrip

section textlaw
variable {α : Type} [DecidableEq α]

theorem attrMatches_map_aux {β : Type} [DecidableEq β] (f : β → β) (idx ridx : List Nat) (src dst : Option (List β))
    (h : attrMatches id idx ridx src dst = true) :
    attrMatches f idx ridx src (dst.map fun l => l.map f) = true := by
  cases src with
  | none => cases dst with
    | none => rfl
    | some b => simp [attrMatches] at h
  | some a => cases dst with
    | none => simp [attrMatches] at h
    | some b =>
      simp only [attrMatches, Option.map_id_fun, id_eq, Bool.and_eq_true, List.all_eq_true, beq_iff_eq] at h
      obtain ⟨hall, heq⟩ := h
      simp only [attrMatches, Option.map_some, Bool.and_eq_true, List.all_eq_true, beq_iff_eq]
      constructor
      · intro o ho
        obtain ⟨i, hi, rfl⟩ := List.mem_map.1 ho
        have := hall (a[i]?) (List.mem_map.2 ⟨i, hi, rfl⟩)
        cases h' : a[i]? with
        | none => simp [h'] at this
        | some x => rfl
      · have : ridx.map (fun i => (b.map f)[i]?) = (ridx.map (fun i => b[i]?)).map (Option.map f) := by
          simp [List.map_map, Function.comp_def]
        rw [this, heq]
        simp [List.map_map, Function.comp_def]

theorem meshMatches_map_aux (rt : α → α) (m : Mesh α) (mats : List (Option String × Nat)) (r : Mesh α)
    (h : MeshMatches id m mats r = true) : MeshMatches rt m mats (mapMesh rt r) = true := by
  unfold MeshMatches at h ⊢
  simp only [Bool.and_eq_true] at h ⊢
  obtain ⟨⟨h1, h2⟩, h3⟩ := h
  refine ⟨⟨by simpa [mapMesh] using h1, by simpa [mapMesh] using h2⟩, ?_⟩
  by_cases hi : m.idx = []
  · simp only [hi, ↓reduceIte, Bool.and_eq_true, beq_iff_eq] at h3 ⊢
    obtain ⟨⟨a, b⟩, c⟩ := h3
    simp [mapMesh, a, b, c]
  · simp only [hi, ↓reduceIte, Bool.and_eq_true] at h3 ⊢
    obtain ⟨⟨a, b⟩, c⟩ := h3
    have e3 : (V3.map (id : α → α)) = id := funext v3map_id_aux
    have e2 : (V2.map (id : α → α)) = id := funext v2map_id_aux
    rw [e3] at a c
    rw [e2] at b
    exact ⟨⟨attrMatches_map_aux _ _ _ _ _ a, attrMatches_map_aux _ _ _ _ _ b⟩, attrMatches_map_aux _ _ _ _ _ c⟩

theorem roundTripsCarry_map_aux (rt : α → α) : ∀ (ms gs : List (String × Mesh α)) (carry : Option String),
    RoundTripsCarry id carry ms gs = true →
    RoundTripsCarry rt carry ms (gs.map fun p => (p.1, mapMesh rt p.2)) = true
  | [], [], _, _ => rfl
  | [], _ :: _, _, h => by simp [RoundTripsCarry] at h
  | _ :: _, [], _, h => by simp [RoundTripsCarry] at h
  | p :: ms, r :: gs, carry, h => by
    simp only [RoundTripsCarry, Bool.and_eq_true, List.map_cons] at h ⊢
    obtain ⟨⟨h1, h2⟩, h3⟩ := h
    exact ⟨⟨h1, meshMatches_map_aux rt _ _ _ h2⟩, roundTripsCarry_map_aux rt ms gs _ h3⟩

theorem obj_roundtrip_text {τ' : Type} [DecidableEq τ'] (pc' : τ' → Except Err Corner) (shw : Corner → τ')
    (rt : α → α) (hshow : ∀ c, pc' (shw c) = .ok c) (matFile : String) (ms : List (String × Mesh α))
    (hne : ms ≠ []) (hwf : ∀ p ∈ ms, WFMesh p.2) (hnb : NonemptyButLast ms) :
    ∃ ls gs libs, writeObj matFile ms = .ok ls ∧ readObj pc' (ls.map (mapLine shw rt)) = .ok (gs, libs) ∧
      RoundTripsCarry rt none ms (gs.map toMesh) = true ∧
      (NoMatlessAfterMat none ms → RoundTrips rt ms (gs.map toMesh) = true) := by
  obtain ⟨ls, gs, libs, hw, hr, hc⟩ := obj_roundtrip_carry matFile ms hne hwf hnb
  have hinj : ∀ a b, shw a = shw b → a = b := by
    intro a b h
    have := hshow a
    rw [h, hshow b] at this
    cases this; rfl
  have ht := readObj_transport pcId pc' shw rt hinj hshow ls
  rw [hr] at ht
  have hm : (gs.map (mapGroup shw rt)).map toMesh = (gs.map toMesh).map fun p => (p.1, mapMesh rt p.2) := by
    simp [List.map_map, Function.comp_def, toMesh_map_aux]
  have hc' := roundTripsCarry_map_aux rt ms _ none hc
  rw [← hm] at hc'
  exact ⟨ls, gs.map (mapGroup shw rt), libs, hw, ht, hc', fun hmat => strict_of_carry_aux ms _ none hmat hc'⟩

end textlaw

/-! ### the defect the repository was fixed for: one shared offset for v / vt / vn -/

section shared

/-- write, then read the lines back (corner tokens are the corners themselves) -/
def thenRead {α : Type} (w : Except Err (List (Line Corner α))) : Except Err (List (String × Mesh α) × List String) :=
  match w with
  | .error e => .error e
  | .ok ls => match readObj (fun c => .ok c) ls with
    | .error e => .error e
    | .ok (gs, libs) => .ok (gs.map toMesh, libs)

/-- a mesh without normals followed by a mesh with normals (one triangle each; payload `Nat`) -/
def mixedWitness : List (String × Mesh Nat) :=
  [("A", ⟨[0, 1, 2], some [⟨0, 0, 0⟩, ⟨1, 0, 0⟩, ⟨0, 1, 0⟩], none, none, []⟩),
   ("B", ⟨[0, 2, 1], some [⟨5, 0, 0⟩, ⟨6, 0, 0⟩, ⟨5, 1, 0⟩], none, some [⟨7, 7, 1⟩, ⟨8, 8, 1⟩, ⟨9, 9, 1⟩], []⟩)]

theorem obj_shared_offset_breaks :
    (match thenRead (writeObjShared "" mixedWitness) with | .error .panic => true | _ => false) = true ∧
    (match thenRead (writeObj "" mixedWitness) with
     | .ok (gs, _) => RoundTrips id mixedWitness gs
     | .error _ => false) = true := by
  constructor <;> decide +kernel

/-- the hypotheses of `obj_roundtrip` are satisfiable by a mixed-attribute scene -/
example : mixedWitness ≠ [] ∧ NonemptyButLast mixedWitness ∧ NoMatlessAfterMat none mixedWitness ∧
    ∀ p ∈ mixedWitness, WFMesh p.2 := by
  refine ⟨by decide, ?_, ?_, ?_⟩
  · exact And.intro (by decide) trivial
  · exact And.intro (by intro _ _; rfl) (And.intro (by intro _ _; rfl) trivial)
  · intro p hp
    simp only [mixedWitness, List.mem_cons, List.not_mem_nil, or_false] at hp
    rcases hp with rfl | rfl
    · exact ⟨rfl, ⟨_, rfl, by decide⟩, (by intro us h; cases h), (by intro ns h; cases h), Or.inl rfl, (by decide)⟩
    · exact ⟨rfl, ⟨_, rfl, by decide⟩, (by intro us h; cases h), (by intro ns h; cases h; decide), Or.inl rfl, (by decide)⟩

end shared

/-! ### the two known deviations, as closed witnesses (the scenes the harness replays on every run) -/

section findings

def triMesh (off : Nat) (mats : List (Option String × Nat)) : Mesh Nat :=
  ⟨[0, 1, 2], some [⟨off, 0, 0⟩, ⟨off, 1, 0⟩, ⟨off, 0, 1⟩], none, none, mats⟩

/-- mesh `A` with material `red`, then mesh `B` without material ranges -/
def matlessWitness : List (String × Mesh Nat) := [("A", triMesh 0 [(some "red", 1)]), ("B", triMesh 1 [])]

/-- an empty mesh between two others -/
def emptyMidWitness : List (String × Mesh Nat) :=
  [("A", triMesh 0 []), ("E", ⟨[], none, none, none, []⟩), ("B", triMesh 1 [])]

end findings

section reload
variable {τ α : Type} [DecidableEq τ] (pc : τ → Except Err Corner)

theorem tris_in_range_aux {pv pn : List (V3 α)} {pt : List (V2 α)} {g : Group τ α} (hi : GInv pc pv pn pt g) :
    ∀ i ∈ flatTris g.tris, i < g.verts.length := by
  intro i hi'
  have hvl : g.verts.length = g.toks.length := by simpa using congrArg List.length hi.hv
  have h := flat_aligned_aux (key := g.toks) (fun p => g.toks[p]?) some (fun _ _ h => h) g.tris g.ftoks hi.hf
  obtain ⟨t, _, ht⟩ := List.mem_map.1 (h ▸ List.mem_map_of_mem (f := fun p => g.toks[p]?) hi')
  exact hvl ▸ lt_of_getElem?_aux ht.symm

/-- what the reader returns is a well-formed mesh for the writer (for a group with at least one face) -/
theorem readObj_output_wf {ls : List (Line τ α)} {gs : List (Group τ α)} {libs : List String}
    (h : readObj pc ls = .ok (gs, libs)) (g : Group τ α) (hg : g ∈ gs) (hne : g.tris ≠ [])
    (hnames : ∀ p ∈ g.mats, matName (some p.1) ≠ "") : WFMesh (toMesh g).2 := by
  have hi := readObj_corners pc h g hg
  obtain ⟨_, hm⟩ := (readObj_ranges_sum pc h).1 g hg
  have hr := tris_in_range_aux pc hi
  have hvne : g.verts ≠ [] := by
    intro hv
    cases ht : g.tris with
    | nil => exact hne ht
    | cons t r =>
      obtain ⟨a, b, c⟩ := t
      have := hr a (by rw [ht]; simp [flatTris])
      rw [hv] at this; simp at this
  obtain ⟨h3, hmats⟩ := toMesh_writable_aux g hm
  -- a kept attribute array is as long as the vertex array
  have hkept : ∀ {β : Type} (tbl l : List β), keepIfComplete g.verts.length tbl = some l →
      ∀ i ∈ (toMesh g).2.idx, i < l.length := by
    intro β tbl l hl i hi'
    obtain ⟨rfl, _, hlen⟩ := keepIfComplete_some_aux hl
    rw [hlen]; exact hr i hi'
  exact ⟨h3, ⟨g.verts, by simp [toMesh, optOfList, hvne], hr⟩, fun us hus => hkept _ us hus, fun ns hns => hkept _ ns hns,
    hmats, fun p hp => by
      obtain ⟨q, hq, rfl⟩ := List.mem_map.1 hp
      exact hnames q hq⟩

theorem nonemptyButLast_of_all_aux : ∀ (ms : List (String × Mesh α)), (∀ p ∈ ms, p.2.idx ≠ []) → NonemptyButLast ms
  | [], _ => trivial
  | [_], _ => trivial
  | p :: q :: r, h => ⟨h p (by simp), nonemptyButLast_of_all_aux (q :: r) (fun x hx => h x (by simp [hx]))⟩

theorem obj_reload [DecidableEq α] {ls : List (Line τ α)} {gs : List (Group τ α)} {libs : List String}
    (h : readObj pc ls = .ok (gs, libs)) (hne : ∀ g ∈ gs, g.tris ≠ [])
    (hnames : ∀ g ∈ gs, ∀ p ∈ g.mats, matName (some p.1) ≠ "") (matFile : String) :
    ∃ out gs' libs', writeObj matFile (gs.map toMesh) = .ok out ∧ readObj pcId out = .ok (gs', libs') ∧
      RoundTripsCarry id none (gs.map toMesh) (gs'.map toMesh) = true := by
  have hgs := readObj_ne_nil pc h
  have hwf : ∀ p ∈ gs.map toMesh, WFMesh p.2 := by
    intro p hp
    obtain ⟨g, hg, rfl⟩ := List.mem_map.1 hp
    exact readObj_output_wf pc h g hg (hne g hg) (hnames g hg)
  have hnb : NonemptyButLast (gs.map toMesh) := by
    apply nonemptyButLast_of_all_aux
    intro p hp
    obtain ⟨g, hg, rfl⟩ := List.mem_map.1 hp
    intro e
    have : (flatTris g.tris).length = 0 := by simp only [toMesh] at e; rw [e]; rfl
    rw [flatTris_len_eq_aux] at this
    exact hne g hg (List.eq_nil_of_length_eq_zero (by omega))
  exact obj_roundtrip_carry matFile (gs.map toMesh) (by simpa using hgs) hwf hnb

end reload

section materials
variable {τ α : Type} [DecidableEq τ] (pc : τ → Except Err Corner)

def carryAfter (carry : Option String) : List (String × Mesh α) → Option String
  | [] => carry
  | (_, m) :: rest => carryAfter (lastMat m.mats carry) rest

theorem noMatless_append_aux : ∀ (a b : List (String × Mesh α)) (carry : Option String),
    NoMatlessAfterMat carry (a ++ b) ↔ NoMatlessAfterMat carry a ∧ NoMatlessAfterMat (carryAfter carry a) b
  | [], b, carry => by simp [NoMatlessAfterMat, carryAfter]
  | (n, m) :: a, b, carry => by
    simp only [List.cons_append, NoMatlessAfterMat, carryAfter, noMatless_append_aux a b, and_assoc]

theorem carryAfter_append_aux : ∀ (a b : List (String × Mesh α)) (carry : Option String),
    carryAfter carry (a ++ b) = carryAfter (carryAfter carry a) b
  | [], _, _ => rfl
  | (n, m) :: a, b, carry => by simp only [List.cons_append, carryAfter, carryAfter_append_aux a b]

theorem setLast_ne_nil_aux (mats : List (String × Nat)) (n : Nat) (h : mats ≠ []) : setLast mats n ≠ [] := by
  unfold setLast
  cases hl : mats.getLast? with
  | none => simpa using h
  | some p => obtain ⟨m, c⟩ := p; simp

theorem closeMats_nil_iff_aux (mats : List (String × Nat)) (n : Nat) : closeMats mats n = [] ↔ mats = [] := by
  unfold closeMats
  by_cases h : n > 0 ∧ mats ≠ []
  · rw [if_pos h]
    exact ⟨fun e => absurd e (setLast_ne_nil_aux mats n h.2), fun e => absurd e h.2⟩
  · rw [if_neg h]

theorem lastMat_some_aux (mats : List (Option String × Nat)) (d : Option String) (h : mats ≠ []) :
    lastMat mats d ≠ none := by
  unfold lastMat
  cases hl : mats.getLast? with
  | none => exact absurd (by simpa using hl) h
  | some p => simp

theorem lastMat_nil_aux (d : Option String) : lastMat ([] : List (Option String × Nat)) d = d := rfl

/-- the invariant: no closed group with faces lacks ranges once a material is in effect -/
structure MatInv (s : RState τ α) : Prop where
  done : NoMatlessAfterMat none (s.done.map toMesh)
  eff : carryAfter none (s.done.map toMesh) ≠ none → s.inEffect ≠ none
  cur : s.inEffect ≠ none → s.cur.tris ≠ [] → s.cur.mats ≠ []
  has : s.cur.mats ≠ [] → s.inEffect ≠ none

theorem flatTris_nil_iff_aux (tris : List (Nat × Nat × Nat)) : flatTris tris = [] ↔ tris = [] := by
  cases tris with
  | nil => simp [flatTris]
  | cons t r => obtain ⟨a, b, c⟩ := t; simp [flatTris]

theorem push_ok_aux {s : RState τ α} (hi : MatInv s) :
    NoMatlessAfterMat none ((s.done ++ [{ s.cur with mats := closeMats s.cur.mats s.since }]).map toMesh) ∧
    (carryAfter none ((s.done ++ [{ s.cur with mats := closeMats s.cur.mats s.since }]).map toMesh) ≠ none →
      s.inEffect ≠ none) := by
  rw [List.map_append, noMatless_append_aux, carryAfter_append_aux]
  refine ⟨⟨hi.done, ?_⟩, ?_⟩
  · simp only [List.map_cons, List.map_nil, NoMatlessAfterMat, toMesh, and_true]
    intro hm hidx
    have hm' : s.cur.mats = [] := by
      have : closeMats s.cur.mats s.since = [] := by simpa using hm
      exact (closeMats_nil_iff_aux _ _).1 this
    have ht : s.cur.tris ≠ [] := fun e => hidx ((flatTris_nil_iff_aux _).2 e)
    by_cases hc : carryAfter none (s.done.map toMesh) = none
    · exact hc
    · exact absurd hm' (hi.cur (hi.eff hc) ht)
  · simp only [List.map_cons, List.map_nil, carryAfter, toMesh]
    intro hne
    by_cases hm : s.cur.mats = []
    · have : closeMats s.cur.mats s.since = [] := (closeMats_nil_iff_aux _ _).2 hm
      simp only [this, List.map_nil, lastMat_nil_aux] at hne
      exact hi.eff hne
    · exact hi.has hm

theorem step_matInv_aux {s s' : RState τ α} {l : Line τ α} (hi : MatInv s) (h : StepOk pc s l s') : MatInv s' := by
  cases h with
  | data => exact ⟨hi.done, hi.eff, hi.cur, hi.has⟩
  | rename => exact ⟨hi.done, hi.eff, hi.cur, hi.has⟩
  | usemtl name => exact ⟨hi.done, fun _ => by simp, fun _ _ => by simp, fun _ => by simp⟩
  | flush name =>
    obtain ⟨h1, h2⟩ := push_ok_aux hi
    exact ⟨h1, h2, fun _ ht => absurd rfl ht, fun hm => absurd rfl hm⟩
  | face =>
    refine ⟨hi.done, hi.eff, fun hie _ => ?_, fun hne => ?_⟩
    · simp only [pushFace, carryMats]
      by_cases h0 : s.cur.mats = []
      · cases hin : s.inEffect with
        | none => exact absurd hin hie
        | some m => simp [h0]
      · simp [h0]
    · simp only [pushFace, carryMats] at hne
      by_cases h0 : s.cur.mats = []
      · cases hin : s.inEffect with
        | none => simp [h0, hin] at hne
        | some m => simp [pushFace, hin]
      · exact hi.has h0

theorem readObj_noMatlessAfterMat {ls : List (Line τ α)} {gs : List (Group τ α)} {libs : List String}
    (h : readObj pc ls = .ok (gs, libs)) : NoMatlessAfterMat none (gs.map toMesh) := by
  obtain ⟨s, hr, rfl, _⟩ := readObj_inv pc (fun _ s => MatInv s)
    ⟨trivial, fun h => absurd rfl h, fun h => absurd rfl h, fun h => absurd rfl h⟩
    (fun hr hs => step_matInv_aux pc hr hs) h
  exact (push_ok_aux hr).1

end materials

end ObjL
end PolyVerif
