/-
  C02 — `triangulation.BowyerWatson` returns a well-formed mesh.
  Reuses the C20 model `PolyVerif/Model/Delaunay.lean` of /repo modeling/triangulation/bowyer_watson.go and its theorem
  `C20.bw_indices_lt` (no super-triangle vertex survives), for every point function, every enumeration order of
  the triangle map (`env`, no assumption) and every number of points.
-/
import PolyVerif.Props.C20
import PolyVerif.Props.C02
import PolyVerif.Model.ConstrainedBW

namespace PolyVerif.C02
open PolyVerif.Mesh PolyVerif.Mesh.MeshVal PolyVerif.Delaunay

variable {α : Type} {R : Type} [CommRing R] [LinearOrder R] [IsStrictOrderedRing R]

/-- `BowyerWatson(points)`: the mesh carries `n = len(points)` vertices (Position, TexCoord arrays of length `n`,
    bowyer_watson.go:373-383) and its index buffer lists triangles of the final triangulation map in whatever order and
    multiplicity the Go `for triangle := range triangulation` yields them (`tris`: any list of members of `bw P env n`;
    `env` is the enumeration used INSIDE the algorithm for the bad-triangle scan). Every index is `< n`, the count is a
    multiple of 3. NOTE: `C20.bw_indices_lt` reflects only the final filter "drop every triangle touching a
    super-triangle vertex" together with "n vertices" — not the insertion algorithm. -/
theorem bowyerWatson_wf (P : Nat → Pt R) (env : List Tri → List Tri) (n : Nat) (tris : List Tri)
    (htris : ∀ t ∈ tris, t ∈ bw P env n) {m : MeshVal α} (h : IsPrim m n (untriples tris)) : WF m := by
  refine prim_wf h (forall_mem_untriples.mpr fun t ht => C20.bw_indices_lt P env n t (htris t ht)) ?_
  rw [length_untriples]; omega

/-- the public entry point: `none` = fewer than 3 points (panic) -/
theorem bowyerWatson_entry_wf {K : Type} [Field K] [LinearOrder K] [IsStrictOrderedRing K]
    (env : List Tri → List Tri) (pts : List (Pt K)) {res : List Tri}
    (hb : bowyerWatson env pts = some res) (tris : List Tri) (htris : ∀ t ∈ tris, t ∈ res)
    {m : MeshVal α} (h : IsPrim m pts.length (untriples tris)) : WF m := by
  unfold bowyerWatson at hb
  split at hb
  · cases hb; exact bowyerWatson_wf _ env _ tris htris h
  · cases hb

example : ∃ tris, bowyerWatson id [((0 : ℚ), (0 : ℚ)), (4, 0), (0, 3), (5, 5)] = some tris := ⟨_, rfl⟩

/-! ### ConstrainedBowyerWatson: what WF needs, from the structure of its clipping / final assembly step -/

open PolyVerif.CBW in
/-- one clipping event appends two points and only triangles on old corners and the two new points -/
theorem applyClip_inv {s : State} {c : Clip} (hc : ∀ i ∈ c.corners, i < s.pts)
    (ha : ∀ t ∈ s.added, t.1 < s.pts ∧ t.2.1 < s.pts ∧ t.2.2 < s.pts) :
    (applyClip s c).pts = s.pts + 2 ∧
    ∀ t ∈ (applyClip s c).added, t.1 < s.pts + 2 ∧ t.2.1 < s.pts + 2 ∧ t.2.2 < s.pts + 2 := by
  refine ⟨by cases c <;> rfl, fun t ht => ?_⟩
  have hold : t ∈ s.added → t.1 < s.pts + 2 ∧ t.2.1 < s.pts + 2 ∧ t.2.2 < s.pts + 2 := fun h => by
    have := ha t h; omega
  cases c with
  | one pc ccw =>
    have := hc pc (by simp [Clip.corners])
    rcases List.mem_cons.mp ht with rfl | ht
    · cases ccw <;> exact ⟨by simp; omega, by simp, by simp⟩
    · exact hold ht
  | two a b =>
    have h1 := hc a (by simp [Clip.corners])
    have h2 := hc b (by simp [Clip.corners])
    rcases List.mem_cons.mp ht with rfl | ht
    · exact ⟨by simp; omega, by simp, by simp; omega⟩
    · rcases List.mem_cons.mp ht with rfl | ht
      · exact ⟨by simp, by simp, by simp; omega⟩
      · exact hold ht

open PolyVerif.CBW in
theorem cbw_run_inv (n : Nat) : ∀ (clips : List Clip) (s : State), n ≤ s.pts →
    (∀ t ∈ s.added, t.1 < s.pts ∧ t.2.1 < s.pts ∧ t.2.2 < s.pts) → (∀ c ∈ clips, ∀ i ∈ c.corners, i < n) →
    (clips.foldl applyClip s).pts = s.pts + 2 * clips.length ∧
    ∀ t ∈ (clips.foldl applyClip s).added, t.1 < (clips.foldl applyClip s).pts ∧
      t.2.1 < (clips.foldl applyClip s).pts ∧ t.2.2 < (clips.foldl applyClip s).pts
  | [], s, _, ha, _ => ⟨rfl, ha⟩
  | c :: cs, s, hn, ha, hc => by
    obtain ⟨hp, hb⟩ := applyClip_inv (fun i hi => Nat.lt_of_lt_of_le (hc c (by simp) i hi) hn) ha
    have ih := cbw_run_inv n cs (applyClip s c) (by omega) (by rw [hp]; exact hb) fun c' h' => hc c' (by simp [h'])
    exact ⟨by rw [List.foldl_cons, ih.1, hp, List.length_cons]; omega, ih.2⟩

/-- **ConstrainedBowyerWatson is well-formed**: `kept` are the triangles that survive from `bowyerWatson(points)` (indices
    `< n`, C20), `clips` the clipping events in the order they happen (corner indices `< n`: they are corners of
    triangulation triangles); the mesh has one vertex per point of the final list (`n + 2·|clips|`) and any selection, in any
    order, of kept and added triangles (both are Go maps) as its index buffer. -/
theorem constrainedBowyerWatson_wf (n : Nat) (kept : List CBW.Tri) (clips : List CBW.Clip)
    (hk : ∀ t ∈ kept, t.1 < n ∧ t.2.1 < n ∧ t.2.2 < n) (hc : ∀ c ∈ clips, ∀ i ∈ c.corners, i < n)
    (tris : List CBW.Tri) (ht : ∀ t ∈ tris, t ∈ kept ∨ t ∈ (CBW.run n clips).added)
    {m : MeshVal α} (h : IsPrim m (n + 2 * clips.length) (untriples tris)) : WF m := by
  have hinv := cbw_run_inv n clips ⟨n, []⟩ (Nat.le_refl _) (by simp) hc
  refine prim_wf h (forall_mem_untriples.mpr fun t htm => ?_) (by rw [length_untriples]; omega)
  rcases ht t htm with h1 | h1
  · have := hk t h1; omega
  · have := hinv.2 t h1
    rwa [hinv.1] at this

example : (CBW.run 5 [.one 2 true, .two 0 4]).pts = 9 ∧
    (CBW.run 5 [.one 2 true, .two 0 4]).added = [(0, 7, 4), (7, 8, 4), (2, 5, 6)] := by decide +kernel

end PolyVerif.C02
