/-
  C01 — Mesh values are immutable: derivations never disturb an existing mesh.

  Theorems about the heap-level model `PolyVerif.MeshHeap` (Model/MeshHeap.lean): meshes are
  slices + map references into a heap, `obs` reads what a mesh reports, operations are the
  memory-behaviour classes of modeling/mesh.go + meshops, Go's `append` has an arbitrary growth
  policy.  All statements are for every environment `E` (zero value, index shift, growth policy),
  every attribute-name type `κ`, every cell type `α`, every heap, pool and history.
  Helper lemmas live in Lemmas/MeshHeap.lean.
-/
import PolyVerif.Lemmas.MeshHeap
import PolyVerif.Gen.C01Stores

namespace PolyVerif
namespace C01
open MeshHeap

variable {κ α : Type} [DecidableEq κ]

-- `vs` is not used in this and the next theorem: `apply_frame` asks nothing of the state
set_option linter.unusedVariables false in
/-- **op_frame.** (Unguarded: holds for ragged meshes and for EVERY value `Append`/`ToPointCloud` carry as the resolution of
    `AttributeLength()` — whatever the index shift or padding, nothing existing is written.)  Every operation of the current tree (`Op.current`: everything except the pre-74db58f
    `appendOld`) leaves the observable value of EVERY valid mesh representation of the heap — pool member
    or not, argument or not — exactly as it was. -/
theorem op_frame (E : Env α) (s : State κ α) (vs : s.Valid) (op : Op κ α) (hc : op.current = true)
    (h' : Heap κ α) (rs : List MeshRep) (ha : op.apply E s = some (h', rs))
    (r : MeshRep) (vr : r.Valid s.heap) : obs h' r = obs s.heap r :=
  obs_frame (apply_frame E hc ha) vr

set_option linter.unusedVariables false in
/-- **op_writes_fresh_only.** The same fact at the level of memory: an operation of the current tree changes no
    array that existed before the call and no existing map object; it only allocates. -/
theorem op_writes_fresh_only (E : Env α) (s : State κ α) (vs : s.Valid) (op : Op κ α) (hc : op.current = true)
    (h' : Heap κ α) (rs : List MeshRep) (ha : op.apply E s = some (h', rs)) :
    (∀ i, i < s.heap.arrays.length → h'.arrays[i]? = s.heap.arrays[i]?) ∧
    (∀ i, i < s.heap.maps.length → h'.maps[i]? = s.heap.maps[i]?) :=
  ⟨(apply_frame E hc ha).arr_eq, (apply_frame E hc ha).maps_eq⟩

/-- the pool extended by the results of an operation has, in the new heap, every slice predicate the operations hand on -/
theorem apply_pool (E : Env α) {P : Heap κ α → Slice → Prop} (hP : Preserved E P) {s : State κ α} (ps : s.All P)
    {op : Op κ α} (hc : op.current = true) {h' : Heap κ α} {rs : List MeshRep} (ha : op.apply E s = some (h', rs)) :
    (⟨h', s.pool ++ rs⟩ : State κ α).All P := by
  obtain ⟨f, v⟩ := apply_all E hP hc ha
  intro r hr
  rcases List.mem_append.mp hr with h1 | h1
  · exact (ps r h1).mono hP.mono f
  · exact v ps r h1

theorem step_all (E : Env α) {P : Heap κ α → Slice → Prop} (hP : Preserved E P) (s : State κ α) (ps : s.All P)
    (op : Op κ α) (hc : op.current = true) : (step E s op).All P := by
  unfold step
  cases ha : op.apply E s with
  | none => exact ps
  | some x => exact apply_pool E hP ps hc ha

/-- results of an operation are valid meshes of the new heap, and the pool stays valid -/
theorem step_valid (E : Env α) (s : State κ α) (vs : s.Valid) (op : Op κ α) (hc : op.current = true) :
    (step E s op).Valid :=
  step_all E (preserved_valid E) s vs op hc

/-- one step: the pool only grows at the end, and every valid mesh keeps its value -/
theorem step_immutable (E : Env α) (s : State κ α) (vs : s.Valid) (op : Op κ α) (hc : op.current = true) :
    (∃ rs, (step E s op).pool = s.pool ++ rs) ∧
    ∀ r, r.Valid s.heap → obs (step E s op).heap r = obs s.heap r := by
  unfold step
  cases ha : op.apply E s with
  | none => exact ⟨⟨[], by simp⟩, fun _ _ => rfl⟩
  | some x =>
    obtain ⟨h', rs⟩ := x
    exact ⟨⟨rs, rfl⟩, fun r vr => op_frame E s vs op hc h' rs ha r vr⟩

/-- what every current operation preserves holds along every history of current operations -/
theorem run_induction (E : Env α) {P : State κ α → Prop}
    (hstep : ∀ s op, P s → op.current = true → P (step E s op)) (ops : List (Op κ α)) :
    ∀ (s : State κ α), P s → (∀ op ∈ ops, op.current = true) → P (run E s ops) := by
  induction ops with
  | nil => intro s hs _; exact hs
  | cons op rest ih =>
    intro s hs hc
    exact ih (step E s op) (hstep s op hs (hc op (List.mem_cons_self ..))) (fun o ho => hc o (List.mem_cons_of_mem _ ho))

theorem run_all (E : Env α) {P : Heap κ α → Slice → Prop} (hP : Preserved E P) (ops : List (Op κ α)) :
    ∀ (s : State κ α), s.All P → (∀ op ∈ ops, op.current = true) → (run E s ops).All P :=
  run_induction E (fun s op ps hc => step_all E hP s ps op hc) ops

theorem run_valid (E : Env α) (ops : List (Op κ α)) : ∀ (s : State κ α), s.Valid →
    (∀ op ∈ ops, op.current = true) → (run E s ops).Valid :=
  run_all E (preserved_valid E) ops

/-- what immutability of a history means: split the history anywhere; every mesh that is in the pool at the
    split is still there, in the same position, at the end, and reports exactly the value it reported then -/
def Immutable (E : Env α) (s0 : State κ α) (pre post : List (Op κ α)) : Prop :=
  ∀ (i : Nat) (r : MeshRep), (run E s0 pre).pool[i]? = some r →
    (run E (run E s0 pre) post).pool[i]? = some r ∧
    obs (run E (run E s0 pre) post).heap r = obs (run E s0 pre).heap r

/-- **history_immutable.** For EVERY finite history of current operations, each picking its arguments anywhere in
    the pool of live meshes (so several derivations branching off one base are included), starting from any valid
    state (in particular the empty one), for every growth policy of `append`, every pool size, every mesh size and
    attribute mix: every mesh that ever entered the pool reports at the end exactly what it reported when it entered
    (and at every moment in between: `post` is arbitrary). -/
theorem history_immutable (E : Env α) (s0 : State κ α) (v0 : s0.Valid) (pre post : List (Op κ α))
    (hc : ∀ op ∈ pre ++ post, op.current = true) : Immutable E s0 pre post := by
  intro i r hr
  have hpre := run_valid E pre s0 v0 (fun o ho => hc o (List.mem_append_left _ ho))
  -- along `post`: the state stays valid, `r` keeps its place in the pool and reports what it reported after `pre`
  refine (run_induction E (P := fun t => t.Valid ∧ t.pool[i]? = some r ∧ obs t.heap r = obs (run E s0 pre).heap r)
    (fun t op ⟨vt, ht, et⟩ hop => ?_) post _ ⟨hpre, hr, rfl⟩ (fun o ho => hc o (List.mem_append_right _ ho))).2
  obtain ⟨⟨rs, hp⟩, himm⟩ := step_immutable E t vt op hop
  exact ⟨step_valid E t vt op hop, by rw [hp, List.getElem?_append_left (List.getElem?_eq_some_iff.mp ht).1]; exact ht,
    (himm r (vt r (List.mem_of_getElem? ht))).trans et⟩

omit [DecidableEq κ] in
theorem empty_all (P : Heap κ α → Slice → Prop) : (⟨Heap.empty, []⟩ : State κ α).All P := fun _ hr => by simp at hr

omit [DecidableEq κ] in
/-- the empty state is valid: a program that creates all its meshes itself needs no hypothesis at all -/
theorem empty_valid : (⟨Heap.empty, []⟩ : State κ α).Valid := empty_all _

/-- The statement over merely `Valid` states (kept for reference; NOT claimed: a `Valid` state may contain slices that run
    past the end of their array, which read fewer cells than `len`).  The theorem that IS proved is
    `derivations_commute` in Props/C01Refine.lean: the same conclusion for every `State.Bounded` state, and
    `derivations_commute_reachable` for every state reachable from the empty one (where `Bounded` is an invariant). -/
def derivations_commute_full (E : Env α) : Prop :=
  ∀ (s : State κ α), s.Valid → ∀ (o1 o2 : Op κ α), o1.current = true → o2.current = true →
  ∀ h1 r1 h2 r2 h12 r2' h21 r1',
    o1.apply E s = some (h1, [r1]) → o2.apply E s = some (h2, [r2]) →
    o2.apply E ⟨h1, s.pool ++ [r1]⟩ = some (h12, [r2']) →
    o1.apply E ⟨h2, s.pool ++ [r2]⟩ = some (h21, [r1']) →
    obs h12 r1 = obs h21 r1' ∧ obs h12 r2' = obs h21 r2

/-- **derivations_commute_partial.** The part of the statement that is about interference: in either order, the
    derivation performed first is not influenced by the one performed second, and the base (every mesh of the pool)
    is influenced by neither.  The other half — the value an operation returns does not depend on where the heap happens
    to put its arrays (`obs h1 r1 = obs h21 r1'`) — is `op_refines` / `derivations_commute` in Props/C01Refine.lean. -/
theorem derivations_commute_partial (E : Env α) (s : State κ α) (vs : s.Valid) (o1 o2 : Op κ α)
    (c1 : o1.current = true) (c2 : o2.current = true)
    (h1 : Heap κ α) (r1 : MeshRep) (h2 : Heap κ α) (r2 : MeshRep)
    (h12 : Heap κ α) (r2' : MeshRep) (h21 : Heap κ α) (r1' : MeshRep)
    (a1 : o1.apply E s = some (h1, [r1])) (a2 : o2.apply E s = some (h2, [r2]))
    (a12 : o2.apply E ⟨h1, s.pool ++ [r1]⟩ = some (h12, [r2']))
    (a21 : o1.apply E ⟨h2, s.pool ++ [r2]⟩ = some (h21, [r1'])) :
    obs h12 r1 = obs h1 r1 ∧ obs h21 r2 = obs h2 r2 ∧
    ∀ r ∈ s.pool, obs h12 r = obs s.heap r ∧ obs h21 r = obs s.heap r := by
  have vs1 := apply_pool E (preserved_valid E) vs c1 a1
  have vs2 := apply_pool E (preserved_valid E) vs c2 a2
  have old1 : ∀ r ∈ s.pool, r.Valid h1 := fun r hr => vs1 r (List.mem_append_left _ hr)
  have old2 : ∀ r ∈ s.pool, r.Valid h2 := fun r hr => vs2 r (List.mem_append_left _ hr)
  refine ⟨op_frame E _ vs1 o2 c2 h12 _ a12 r1 (vs1 r1 (by simp)), op_frame E _ vs2 o1 c1 h21 _ a21 r2 (vs2 r2 (by simp)),
    fun r hr => ⟨?_, ?_⟩⟩
  · rw [op_frame E _ vs1 o2 c2 h12 _ a12 r (old1 r hr)]
    exact op_frame E s vs o1 c1 h1 _ a1 r (vs r hr)
  · rw [op_frame E _ vs2 o1 c1 h21 _ a21 r (old2 r hr)]
    exact op_frame E s vs o2 c2 h2 _ a2 r (vs r hr)

/-! ### second tie (engine F): the store sites of the source, regenerated on every run -/

/-- store sites named here are not stores into the memory of an existing mesh (reviewed by hand; the only exclusions):
    * `flattenSkeletonToNodes` (formats/gltf/write.go) adds an offset IN PLACE to the slice `Skeleton.Children(i)` returns,
      i.e. to the skeleton's own joint table — animation data, not a mesh value (reported as an observation in notes/C01.md);
    * `obj.Load` (formats/obj/fs.go) sets the material pointers of the meshes it has just read, before returning them. -/
def knownNonMesh : List (String × String) :=
  [("flattenSkeletonToNodes", "children"), ("Load", "meshes[meshI].Mesh.Materials()[matI]")]

/-- **store_sites_fresh.** Every syntactic store site (`x[i] = v`, `append(x, …)`, `copy(x, …)`, `delete`, `sort.*`, field
    stores through pointers) of modeling/mesh.go, tri/line/point.go, meshops, repeat, primitives, the ply/obj/stl/splat/spz writers and — with the `*Writer`'s own state exempted — formats/gltf
    — `Gen.C01Stores.sites`, extracted from the working tree by go/facts/c01.go before this file is compiled — stores into
    memory that the extractor's conservative provenance analysis shows to be allocated by the same call.  This is the
    source-level counterpart of `op_writes_fresh_only`; an in-place write added to these files makes this theorem fail. -/
theorem store_sites_fresh :
    ∀ s ∈ Gen.C01Stores.sites, s.fresh = true ∨ (s.fn, s.base) ∈ knownNonMesh := by decide +kernel

/-- the scan is not vacuous: it saw `Append`, `appendData`, the weld, an attribute transformer and a primitive -/
theorem store_sites_cover :
    100 ≤ Gen.C01Stores.sites.length ∧
    (["Mesh.Append", "appendData", "Mesh.WeldByFloat3Attribute", "Mesh.Translate", "Unweld", "RemovedUnreferencedVertices",
      "FlipTriangleWinding", "Mesh.ToPointCloud"].all fun f => Gen.C01Stores.sites.any fun s => s.fn == f) = true := by
  decide +kernel

/-! ### the defect repaired by 74db58f, as a theorem about the in-place `Append` -/

/-- growth policy used in the witness: double what is needed (Go does this for small slices) -/
def E0 : Env Nat := ⟨0, fun n x => x + n, id, fun _ need => need⟩

/-- four point clouds, one index and one value of attribute `7` each, all arrays exactly full;
    then `t := base.Append(a)` (must reallocate: leaves spare capacity) and `x := t.Append(b)` (fits: in place) -/
def witnessPre (app : Nat → Nat → Nat → Nat → Op Nat Nat) : List (Op Nat Nat) :=
  [ .newMesh 1 [0] 0 [] 0 [[(7, [100], 0)]],
    .newMesh 1 [0] 0 [] 0 [[(7, [200], 0)]],
    .newMesh 1 [0] 0 [] 0 [[(7, [300], 0)]],
    .newMesh 1 [0] 0 [] 0 [[(7, [400], 0)]],
    app 0 1 1 1,  -- t  = pool[4]   (both have one vertex: AttributeLength() = 1)
    app 4 2 2 1 ] -- x  = pool[5]   (t has two vertices)

/-- `y := t.Append(c)`: a second derivation from the same `t` -/
def witnessPost (app : Nat → Nat → Nat → Nat → Op Nat Nat) : List (Op Nat Nat) := [ app 4 3 2 1 ]

def s00 : State Nat Nat := ⟨Heap.empty, []⟩

/-- **appendInPlace_breaks.** With the in-place `Append` (modeling/mesh.go before 74db58f) there IS a history
    violating immutability: `t := base.Append(a); x := t.Append(b); y := t.Append(c)` — `y` rewrites `x`'s tail
    (the attribute value `x` reports changes from 300 to 400; see the example below). -/
theorem appendInPlace_breaks : ¬ Immutable E0 s00 (witnessPre .appendOld) (witnessPost .appendOld) := by
  intro H
  have h5 := H 5
  revert h5
  decide +kernel

/-- the concrete damage: `x` reported indices `[0,1,2]`, attribute `[100,200,300]`; after `y` is derived it reports `400` -/
example :
    ((run E0 s00 (witnessPre .appendOld)).pool[5]?).map (obs (run E0 s00 (witnessPre .appendOld)).heap)
      = some ⟨1, [0, 1, 2], [], [[(7, [100, 200, 300])]]⟩ ∧
    ((run E0 s00 (witnessPre .appendOld)).pool[5]?).map
        (obs (run E0 (run E0 s00 (witnessPre .appendOld)) (witnessPost .appendOld)).heap)
      = some ⟨1, [0, 1, 2], [], [[(7, [100, 200, 400])]]⟩ := by decide +kernel

/-- non-vacuity of `history_immutable`: the same history with the current `Append` satisfies its hypotheses,
    runs to a pool of seven meshes, and `x` keeps its value -/
example : Immutable E0 s00 (witnessPre .append) (witnessPost .append) :=
  history_immutable E0 s00 empty_valid _ _ (by decide)

example :
    (run E0 (run E0 s00 (witnessPre .append)) (witnessPost .append)).pool.length = 7 ∧
    ((run E0 s00 (witnessPre .append)).pool[5]?).map
        (obs (run E0 (run E0 s00 (witnessPre .append)) (witnessPost .append)).heap)
      = some ⟨1, [0, 1, 2], [], [[(7, [100, 200, 300])]]⟩ := by decide +kernel

/-- both calls of one order succeed with exactly one result each (decidable form of the hypotheses of
    `derivations_commute_partial`) -/
def appliesInOrder (E : Env α) (s : State κ α) (o1 o2 : Op κ α) : Bool :=
  match o1.apply E s with
  | some (h1, [r1]) =>
    (match o2.apply E ⟨h1, s.pool ++ [r1]⟩ with
     | some (_, [_]) => true
     | _ => false)
  | _ => false

theorem appliesInOrder_spec (E : Env α) (s : State κ α) (o1 o2 : Op κ α) (h : appliesInOrder E s o1 o2 = true) :
    ∃ h1 r1 h12 r2', o1.apply E s = some (h1, [r1]) ∧ o2.apply E ⟨h1, s.pool ++ [r1]⟩ = some (h12, [r2']) := by
  unfold appliesInOrder at h
  split at h
  · rename_i h1 r1 e1
    split at h
    · rename_i h12 r2 e2
      exact ⟨h1, r1, h12, r2, e1, e2⟩
    · cases h
  · cases h

/-- non-vacuity of `derivations_commute_partial`: after the four `newMesh` steps of the witness, `o1 = base.Append(a)` and
    `o2 = base.Append(b)` satisfy ALL FOUR hypotheses of the theorem (`apply = some (h, [r])` in `s`, and each after the
    other), with a valid `s` -/
example :
    let s := run E0 s00 ((witnessPre .append).take 4)
    let o1 : Op Nat Nat := .append 0 1 1 1
    let o2 : Op Nat Nat := .append 0 2 1 1
    s.Valid ∧ ∃ h1 r1 h2 r2 h12 r2' h21 r1',
      o1.apply E0 s = some (h1, [r1]) ∧ o2.apply E0 s = some (h2, [r2]) ∧
      o2.apply E0 ⟨h1, s.pool ++ [r1]⟩ = some (h12, [r2']) ∧
      o1.apply E0 ⟨h2, s.pool ++ [r2]⟩ = some (h21, [r1']) := by
  intro s o1 o2
  refine ⟨run_valid E0 _ s00 empty_valid (by decide), ?_⟩
  obtain ⟨h1, r1, h12, r2', a1, a12⟩ := appliesInOrder_spec E0 s o1 o2 (by decide +kernel)
  obtain ⟨h2, r2, h21, r1', a2, a21⟩ := appliesInOrder_spec E0 s o2 o1 (by decide +kernel)
  exact ⟨h1, r1, h2, r2, h12, r2', h21, r1', a1, a2, a12, a21⟩

end C01
end PolyVerif
