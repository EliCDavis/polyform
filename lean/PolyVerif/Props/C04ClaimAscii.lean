/-
  C04 — the ASCII claim stage from header-level guards; the ASCII round trip and the three-encodings corollary from
  file bytes WITHOUT claim hypotheses (under the named law bundle `GoFloatText`).

  ASCII adds one guard to `claimGuard`: `asciiGuard ws` — every `uchar` writer is claimed as a whole by a VECTOR reader
  (`red green blue` …).  It excludes exactly the known finding C04-ascii-uchar-scalar: the ASCII scalar reader never learns
  the property's type and does not divide by 255.
-/
import PolyVerif.Lemmas.PlyClaim
import PolyVerif.Lemmas.PlyClaimAscii
import PolyVerif.Props.C04Ascii
import PolyVerif.Props.C04Claim

namespace PolyVerif
namespace C04
open Ply PlyLemmas PlyHeader PlyCompose PlyAscii PlyClaim

variable {α : Type}

/-- the ASCII reader list on the written header, each reader paired with the header positions (= columns) of its names -/
def claimedOfA (cfg : WriterCfg) (m : MeshVal α) : List (Built × List Nat) :=
  (buildAll false (headerProps (selectWriters cfg m)) defaultReaders true).map
    (fun b => (b, b.names.map (posOf (headerProps (selectWriters cfg m)))))

/-- `ClaimOKA` — the claim-stage hypothesis of the ASCII round-trip theorems — FROM THE GUARDS -/
theorem ply_claim_oka_from_guard (c : Coding α) (cfg : WriterCfg) (m : MeshVal α) (body : Bytes)
    (h : writeBody c cfg m = .ok body) (hg : claimGuard (selectWriters cfg m) = true)
    (hA : asciiGuard (selectWriters cfg m) = true) :
    ClaimOKA cfg m (claimedOfA cfg m) := by
  have hnd := (names_of_writeBody_ok c cfg m body h).2
  rw [← wsProps_eq, wsProps_names] at hnd
  exact claimOKA_of_guard cfg m hnd hg hA

/-- THE ASCII ROUND TRIP FROM FILE BYTES, CLOSED (no claim witnesses, no certificate), under the law bundle `L`:
guards of `ply_roundtrip_ascii_bytes_partial` with `ClaimOKA` replaced by the header-level guards -/
theorem ply_roundtrip_ascii_bytes_closed_partial [BEq α] [LawfulBEq α] (c : Coding α) (L : GoFloatText c)
    (cfg : WriterCfg) (m : MeshVal α) (bytes : Bytes) (hf : cfg.format = .ascii) (hwf : m.WF = true)
    (h : writeMesh c cfg m = .ok bytes)
    (hg : claimGuard (selectWriters cfg m) = true) (hA : asciiGuard (selectWriters cfg m) = true)
    (htys : m.attrLen = 0 ∨ writerTypes (selectWriters cfg m) ≠ [])
    (hpoint : m.topo = .point → m.indices = (List.range m.attrLen).map Int.ofNat)
    (hsize : m.attrLen ≤ 2 ^ 31) (hidx : m.indices.length < 2 ^ 63)
    (huri : ∀ u, m.texURI = some u → CommentOK (nm "TextureFile " ++ u)) (hrange : InRangeMesh L m) :
    ∃ back, readMesh c defaultReader bytes = .ok back ∧ RoundTrips c cfg m back = true := by
  obtain ⟨body, hbody, _, _⟩ := ply_written_header_parses c cfg m bytes h huri
    (Nat.lt_of_le_of_lt hsize (by decide +kernel)) hidx
  exact ply_roundtrip_ascii_bytes_partial c L cfg m bytes hf hwf h htys hpoint hsize hidx huri hrange
    (claimedOfA cfg m) (ply_claim_oka_from_guard c cfg m body hbody hg hA)

/-- THE THREE ENCODINGS AGREE, CLOSED: `ply_encodings_agree_partial` with both claim stages derived from the guards
(the writers that fire do not depend on the format) -/
theorem ply_encodings_agree_closed_partial [BEq α] [LawfulBEq α] (c : Coding α) (L : GoFloatText c) (props : List WProp)
    (wu : Bool) (m : MeshVal α) (ba bl bb : Bytes) (hwf : m.WF = true)
    (ha : writeMesh c ⟨.ascii, props, wu⟩ m = .ok ba) (hl : writeMesh c ⟨.le, props, wu⟩ m = .ok bl)
    (hb : writeMesh c ⟨.be, props, wu⟩ m = .ok bb)
    (hgd : claimGuard (selectWriters ⟨.ascii, props, wu⟩ m) = true)
    (hA : asciiGuard (selectWriters ⟨.ascii, props, wu⟩ m) = true)
    (htys : m.attrLen = 0 ∨ writerTypes (selectWriters ⟨.ascii, props, wu⟩ m) ≠ [])
    (hpoint : m.topo = .point → m.indices = (List.range m.attrLen).map Int.ofNat)
    (hsize : m.attrLen ≤ 2 ^ 31) (hidx : m.indices.length < 2 ^ 63)
    (huri : ∀ u, m.texURI = some u → CommentOK (nm "TextureFile " ++ u)) (hrange : InRangeMesh L m)
    (hg : AgreeGuards c L props wu m) :
    ∃ ma ml mb, readMesh c defaultReader ba = .ok ma ∧ readMesh c defaultReader bl = .ok ml ∧
      readMesh c defaultReader bb = .ok mb ∧
      RoundTrips c ⟨.ascii, props, wu⟩ m ma = true ∧ RoundTrips c ⟨.le, props, wu⟩ m ml = true ∧
      RoundTrips c ⟨.be, props, wu⟩ m mb = true ∧
      SameContent ⟨.ascii, props, wu⟩ m ma ml ∧ SameContent ⟨.le, props, wu⟩ m ml mb := by
  obtain ⟨bodyA, hbodyA, _, _⟩ := ply_written_header_parses c _ m ba ha huri (Nat.lt_of_le_of_lt hsize (by decide +kernel)) hidx
  obtain ⟨bodyL, hbodyL, _, _⟩ := ply_written_header_parses c _ m bl hl huri (Nat.lt_of_le_of_lt hsize (by decide +kernel)) hidx
  exact ply_encodings_agree_partial c L props wu m ba bl bb hwf ha hl hb htys hpoint hsize hidx huri hrange
    (claimedOfA ⟨.ascii, props, wu⟩ m) (ply_claim_oka_from_guard c _ m bodyA hbodyA hgd hA)
    (claimedOf ⟨.le, props, wu⟩ m) (ply_claim_ok_from_guard c _ m bodyL hbodyL hgd) hg

theorem exMesh_guardA : asciiGuard (selectWriters (defaultWriter .ascii) exMesh) = true := by decide +kernel

example : asciiGuard (selectWriters (defaultWriter .ascii) exMesh) = true := exMesh_guardA
example : asciiGuard (selectWriters exCfg exCloud) = true := by decide +kernel

/-- the ASCII guard fails for an 8-bit SCALAR writer (known finding C04-ascii-uchar-scalar) -/
example : asciiGuard [⟨nm "q", [nm "q"], .uchar⟩] = false := by decide +kernel

example : ∃ back, readMesh toyCodingA defaultReader ((writeMesh toyCodingA (defaultWriter .ascii) exMesh).toOption.getD [])
      = .ok back ∧ RoundTrips toyCodingA (defaultWriter .ascii) exMesh back = true :=
  ply_roundtrip_ascii_bytes_closed_partial toyCodingA toyLaw (defaultWriter .ascii) exMesh _ rfl exMesh_wf exMesh_bytesA
    exMesh_guard exMesh_guardA (by decide +kernel) (by decide +kernel) (by decide +kernel) (by decide +kernel) (fun _ hu => nomatch hu)
    (fun _ _ _ _ _ _ => trivial)

end C04
end PolyVerif
