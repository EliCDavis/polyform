/-
  C11 — node outputs are never stale; nodes recompute only when an input changed; version +1 per
  execution.
  Model: PolyVerif/Model/Nodes.lean (mirrors /repo/nodes/struct_node.go, value_node.go,
  generator/parameter/value.go).  Lemmas: PolyVerif/Lemmas/Nodes*.lean.

  All theorems are for an arbitrary value type `V`, arbitrary processor functions `fn`, every graph
  `g0` satisfying `Init F g0` (acyclic with fewer than `F` levels — `F` is the evaluation fuel, any
  number; ids are just names — and nothing processed yet) and EVERY history `ops : List (Op V)` of
  parameter updates, scalar re-wirings, array add/remove and reads of arbitrary nodes (rejected
  calls included; they leave the state alone) that keeps the graph acyclic (`Valid F g0 ops`; like
  the Go API the model has no cycle check, and a cycle makes `Outdated()` recurse forever).
  PROCESSORS MAY SKIP INPUTS AND PULL THEM IN ANY ORDER (`SNode.next`, a pull STRATEGY: from the
  wiring and the entries pulled so far it names the next dependency to pull, or stops — a later
  dependency first, an early return on a nil port, decisions on values read so far; at most one
  pull per dependency slot; `fn` gets `none` for an input it did not pull, and the from-scratch
  evaluation `Spec` follows the same strategy).  Freshness (`read_fresh`,
  `processed_is_fresh`), the frame, "executes only if outdated", `exec_only_if_changed` and the
  version accounting are proved for EVERY processor.  The guard `ReadsAll g0` (every `Process()`
  pulls all its wired inputs) is a hypothesis ONLY of the theorems that need a node to be
  `Processed` right after it executed: `reads_idempotent`, `executed_then_processed`,
  `reexecution_needs_change`.  For a processor that skips a stale struct input they are FALSE of
  the code and of the model alike (`skipping_processor_spurious`, `no_spurious_full_false`; known
  finding C11-skipping-processor): the unread dependency stays `Stale`, `Outdated()` stays true,
  the node re-executes on every read (its value stays right).
  `valid_fixed_numbering`: histories in which every new connection goes to a node of smaller rank
  in one fixed ranking (e.g. smaller id) are valid.
-/
import PolyVerif.Lemmas.NodesOps

namespace PolyVerif
namespace C11
open Nodes
variable {V : Type} {F : Nat}

/-- the ghost-free inductive invariant (I1 ∧ I2 ∧ guard) holds in every reachable state -/
theorem reachable_inv (g0 : Graph V) (h0 : Init F g0) (ops : List (Op V)) (hv : Valid F g0 ops) :
    Inv F (run F g0 ops).1 :=
  run_inv h0.inv ops hv

/-- `Spec` is evaluation from scratch: it satisfies the recursive equation that mentions only parameter
    values, processors and wiring -/
theorem spec_is_from_scratch (g : Graph V) (hac : Acyclic F g) (i : Nat) :
    Spec F g i = match g i with
      | .param x _ => x
      | .struct s => s.fn s.scalars s.arrays
          (specPullS (Spec F g) (s.next s.scalars s.arrays) s.deps s.deps.length (List.replicate s.deps.length none)) := by
  obtain ⟨rank, hwf⟩ := hac
  exact Spec_eq g hwf i

/-- a processor that reads all its inputs (strategy `nextAll`) gets an entry for every dependency -/
theorem spec_reads_all (ev : Nat → V) (ds : List Nat) :
    ∀ x ∈ specPullS ev nextAll ds ds.length (List.replicate ds.length none), x.isNone = false :=
  nextAll_fills ev ds ds.length _ (by simp) (by simp [List.countP_replicate])

/-- likewise `Outdated` is `Struct.Outdated()`: the fuel never runs out on an acyclic graph -/
theorem outdated_is_outdated (g : Graph V) (hac : Acyclic F g) (i : Nat) :
    Outdated F g i = match g i with
      | .param _ _ => false
      | .struct s => match s.remembered with
        | none => true
        | some rv => s.flag || mismatch g (Outdated F g) s.deps rv := by
  obtain ⟨rank, hwf⟩ := hac
  exact Outdated_eq g hwf i

/-- and `Eval` is `Struct.Value()` (`if Outdated() { process() }`), for ANY processor (skipping ones
    included): `process()` pulls the inputs the strategy `next` selects, stores `fn`, bumps the version,
    remembers the dependency versions -/
theorem eval_is_value (g : Graph V) (hac : Acyclic F g) (i : Nat) :
    Eval F g i = match g i with
      | .param _ _ => (g, [])
      | .struct s =>
        if Outdated F g i then
          let r := pullS (Eval F) (s.next s.scalars s.arrays) s.deps s.deps.length g
            (List.replicate s.deps.length none)
          (r.1.set i (.struct (s.executed r.1 r.2.1)), r.2.2 ++ [(i, s.version + 1)])
        else (g, []) := by
  obtain ⟨rank, hwf⟩ := hac
  exact Eval_eq g hwf i

/-- a sufficient condition for the guard on histories: one ranking for the whole history (for
    instance "every dependency has a smaller id"); the guard itself allows the ranking to change
    from call to call -/
theorem valid_fixed_numbering (rank : Nat → Nat) (g0 : Graph V) (hwf : Ranked rank F g0) (ops : List (Op V))
    (hops : ∀ op ∈ ops, opRanked rank op) : Valid F g0 ops :=
  (valid_of_fixed_rank hwf ops hops).1

/-- a message that does not decode (`parameter.Value.ApplyMessage` returns the error before writing)
    changes nothing: not the value, not the version, no dependant; so by `read_fresh` every later
    read still returns the from-scratch value of the UNCHANGED parameter valuation -/
theorem rejected_message_noop (g : Graph V) (p : Nat) : step F g (.rejectedMessage p) = (g, []) := rfl

/-- what `Eval_ok` says of a read after any valid history -/
theorem read_ok (g0 : Graph V) (h0 : Init F g0) (ops : List (Op V)) (hv : Valid F g0 ops) (i : Nat) :
    EvalOK F (run F g0 ops).1 i (step F (run F g0 ops).1 (.read i)) :=
  step_read (F := F) (run F g0 ops).1 i ▸ Eval_ok i _ (run_inv h0.inv ops hv)

/-- **never stale**, for EVERY processor (skipping ones included; no `ReadsAll`): after any history,
    the value `Value()` of any node returns is the from-scratch value of the current graph.  The
    statement is about the value returned by the read (which executes the node when it is
    outdated), not about the node being `Processed` afterwards — a skipping processor may be
    outdated again at once -/
theorem read_fresh (g0 : Graph V) (h0 : Init F g0) (ops : List (Op V)) (hv : Valid F g0 ops) (i : Nat) :
    val (step F (run F g0 ops).1 (.read i)).1 i = Spec F (run F g0 ops).1 i :=
  (read_ok g0 h0 ops hv i).value

/-- in every reachable state, every node that reports `Processed` holds the from-scratch value
    (so a read that does not execute is fresh as well) — for every processor -/
theorem processed_is_fresh (g0 : Graph V) (h0 : Init F g0) (ops : List (Op V)) (hv : Valid F g0 ops) (j : Nat)
    (hj : Outdated F (run F g0 ops).1 j = false) : val (run F g0 ops).1 j = Spec F (run F g0 ops).1 j :=
  val_eq_spec (run_inv h0.inv ops hv) hj

/-- evaluation changes no parameter, processor or wiring, only nodes that were outdated and lie in
    the cone of the node read, and executes only such nodes (I3) -/
theorem eval_frame (g0 : Graph V) (h0 : Init F g0) (ops : List (Op V)) (hv : Valid F g0 ops) (i : Nat) :
    SameStatic (step F (run F g0 ops).1 (.read i)).1 (run F g0 ops).1 ∧
    (∀ k, Outdated F (run F g0 ops).1 k = false → (step F (run F g0 ops).1 (.read i)).1 k = (run F g0 ops).1 k) ∧
    (∀ k, ¬ Reach (run F g0 ops).1 i k → (step F (run F g0 ops).1 (.read i)).1 k = (run F g0 ops).1 k) ∧
    (∀ e ∈ (step F (run F g0 ops).1 (.read i)).2, Reach (run F g0 ops).1 i e.1) :=
  have hok := read_ok g0 h0 ops hv i
  ⟨hok.evo.static, hok.evo.keep, hok.frame, fun e he => (hok.log e he).1⟩

/-- **a second read executes nothing** (and changes nothing) — for processors that read all their
    wired inputs (`ReadsAll`; proved part of `C11_no_spurious_full`, which is false without it) -/
theorem reads_idempotent (g0 : Graph V) (h0 : Init F g0) (hra : ReadsAll g0) (ops : List (Op V)) (hv : Valid F g0 ops)
    (i : Nat) :
    step F (step F (run F g0 ops).1 (.read i)).1 (.read i) = ((step F (run F g0 ops).1 (.read i)).1, []) := by
  have hok := read_ok g0 h0 ops hv i
  obtain ⟨rank', hwf'⟩ := hok.inv.wf
  rw [step_read]
  exact Eval_idle hwf' (hok.fresh (run_readsAll hra ops))

/-- a node executes during a read only if it was outdated — for every processor -/
theorem exec_only_if_outdated (g0 : Graph V) (h0 : Init F g0) (ops : List (Op V)) (hv : Valid F g0 ops) (i : Nat)
    (e : Nat × Nat) (he : e ∈ (step F (run F g0 ops).1 (.read i)).2) :
    Outdated F (run F g0 ops).1 e.1 = true :=
  ((read_ok g0 h0 ops hv i).log e he).2

/-- a node that executed during a read is `Processed` afterwards — for processors that read all
    their wired inputs (`ReadsAll`); false for a processor that skipped a stale struct input -/
theorem executed_then_processed (g0 : Graph V) (h0 : Init F g0) (hra : ReadsAll g0) (ops : List (Op V))
    (hv : Valid F g0 ops) (i : Nat) (e : Nat × Nat) (he : e ∈ (step F (run F g0 ops).1 (.read i)).2) :
    Outdated F (step F (run F g0 ops).1 (.read i)).1 e.1 = false :=
  (read_ok g0 h0 ops hv i).logFresh (run_readsAll hra ops) e he

/-- **recompute only on change** — for every processor: once node `j` is processed (in particular right after it
    executed), no history that neither updates a parameter in `j`'s dependency cone nor re-wires a
    node of that cone (`j` itself included) executes `j` again, whatever is read, and `j` stays
    processed.  (What a skipping processor lacks is the hypothesis: after executing it need not be
    `Processed` — `executed_then_processed` needs `ReadsAll`.) -/
theorem exec_only_if_changed (g0 : Graph V) (h0 : Init F g0) (ops : List (Op V)) (hv : Valid F g0 ops) (j : Nat)
    (hj : Outdated F (run F g0 ops).1 j = false) (ops2 : List (Op V)) (hv2 : Valid F (run F g0 ops).1 ops2)
    (hq : Untouched F (run F g0 ops).1 ops2 j) :
    cnt (run F (run F g0 ops).1 ops2).2 j = 0 ∧ Outdated F (run F (run F g0 ops).1 ops2).1 j = false := by
  have := untouched_run (run_inv h0.inv ops hv) hj ops2 hv2 hq
  exact ⟨this.2, this.1⟩

/-- the same, from execution to execution, again for processors that read all their wired inputs
    (`ReadsAll`): if `j` executed in a read and the following history
    `ops2` (any reads included) does not touch `j`'s cone, `j` does not execute in `ops2` -/
theorem reexecution_needs_change (g0 : Graph V) (h0 : Init F g0) (hra : ReadsAll g0) (ops : List (Op V))
    (hv : Valid F g0 ops) (i j : Nat)
    (hex : 0 < cnt (step F (run F g0 ops).1 (.read i)).2 j) (ops2 : List (Op V))
    (hv2 : Valid F (step F (run F g0 ops).1 (.read i)).1 ops2)
    (hq : Untouched F (step F (run F g0 ops).1 (.read i)).1 ops2 j) :
    cnt (run F (step F (run F g0 ops).1 (.read i)).1 ops2).2 j = 0 := by
  obtain ⟨e, he, hej⟩ := List.countP_pos_iff.1 hex
  have hf := executed_then_processed g0 h0 hra ops hv i e he
  rw [eq_of_beq hej] at hf
  exact (untouched_run (read_ok g0 h0 ops hv i).inv hf ops2 hv2 hq).2

/-- **version = number of executions**, for every processor: along every history the version of every node grows by
    exactly the number of its executions in the log plus, for a parameter, the number of accepted
    updates — and by nothing else -/
theorem version_counts_executions (g0 : Graph V) (h0 : Init F g0) (ops : List (Op V)) (hv : Valid F g0 ops) (k : Nat) :
    ver (run F g0 ops).1 k = ver g0 k + cnt (run F g0 ops).2 k + setCount F g0 ops k :=
  version_run h0.inv ops hv k

/-- for a struct node the version counts its executions and nothing else -/
theorem struct_version_counts_executions (g0 : Graph V) (h0 : Init F g0) (ops : List (Op V)) (hv : Valid F g0 ops)
    (k : Nat) (s : SNode V) (hk : g0 k = .struct s) :
    ver (run F g0 ops).1 k = s.version + cnt (run F g0 ops).2 k := by
  rw [version_run h0.inv ops hv k, setCount_struct g0 ops k (by simp [hk, isParam])]
  simp [ver, hk]

/-- one step: +1 per execution, +1 for an accepted `Set` of that parameter, otherwise unchanged -/
theorem version_step_exact (g0 : Graph V) (h0 : Init F g0) (ops : List (Op V)) (hv : Valid F g0 ops) (op : Op V)
    (k : Nat) :
    ver (step F (run F g0 ops).1 op).1 k
      = ver (run F g0 ops).1 k + cnt (step F (run F g0 ops).1 op).2 k + bumps (run F g0 ops).1 op k :=
  version_step (run_inv h0.inv ops hv) op k

/-- **version accounting for parameter messages**, at the level of `Set`: a message accepted by
    `parameter.Value.ApplyMessage` (`= .setParam`, like `ValueNode.Set`) bumps the version of that
    parameter by exactly one — also when the value is unchanged — and no other version; a message
    the decoder rejects (`.rejectedMessage`) bumps nothing; neither executes anything.  Together
    with `version_counts_executions` (where `setCount` counts exactly the accepted messages / Sets):
    parameter version = initial + accepted messages, struct version = initial + executions -/
theorem message_version_accounting (g0 : Graph V) (h0 : Init F g0) (ops : List (Op V)) (hv : Valid F g0 ops)
    (p k : Nat) (v : V) :
    ver (step F (run F g0 ops).1 (.rejectedMessage p)).1 k = ver (run F g0 ops).1 k ∧
    (step F (run F g0 ops).1 (.rejectedMessage p)).2 = [] ∧
    ver (step F (run F g0 ops).1 (.setParam p v)).1 k
      = ver (run F g0 ops).1 k + (if p = k ∧ isParam ((run F g0 ops).1 p) = true then 1 else 0) ∧
    (step F (run F g0 ops).1 (.setParam p v)).2 = [] := by
  have hinv := run_inv h0.inv ops hv
  have hlog : (step F (run F g0 ops).1 (.setParam p v)).2 = [] := by
    simp only [step, step?]
    cases (run F g0 ops).1 p <;> rfl
  refine ⟨rfl, rfl, ?_, hlog⟩
  rw [version_step hinv (.setParam p v) k, hlog]
  simp [cnt, bumps]

/-- the index `sn.depVersions[i]` in `Outdated()` never panics: whenever the flag is clear the
    remembered list has one entry per dependency (and each is `≤` the dependency's version) -/
theorem remembered_length (g0 : Graph V) (h0 : Init F g0) (ops : List (Op V)) (hv : Valid F g0 ops) (i : Nat)
    (s : SNode V) (rv : List Nat) (hs : (run F g0 ops).1 i = .struct s) (hr : s.remembered = some rv)
    (hf : s.flag = false) :
    rv.length = s.deps.length ∧ All2 (fun d r => r ≤ ver (run F g0 ops).1 d) s.deps rv := by
  have h := (run_inv h0.inv ops hv).rem i s rv hs hr hf
  exact ⟨h.length_eq.symm, h⟩

/-- the executable cone used by the driver's `no_spurious` oracle is the cone `Reach` of the theorems -/
theorem inCone_iff_reach (g : Graph V) (hac : Acyclic F g) (j k : Nat) : inCone F g j k = true ↔ Reach g j k := by
  obtain ⟨rank, hwf⟩ := hac
  exact inCone_iff hwf F j k (hwf.1 j)

/-! ### the pre-2752e26 defect: dependencies enumerated in map order -/

/-- with an enumeration that may be permuted between calls, a node that has just executed
    (remembered versions = current versions, in the order of that call) is reported outdated by
    the very next `Outdated()` although nothing changed: closed witness with two parameter
    dependencies at versions 1 and 2 -/
theorem permuted_deps_spurious :
    ∃ (g : Graph Nat) (s : SNode Nat) (ds ds' : List Nat),
      ds'.Perm ds ∧ s.flag = false ∧ s.remembered = some (ds.map (ver g)) ∧
      outdatedEnum g s ds = false ∧ outdatedEnum g s ds' = true := by
  refine ⟨fun j => .param 0 (j + 1),
    { fn := fun _ _ _ => 0, scalars := [some 0, some 1], arrays := [], cache := 0, version := 1,
      remembered := some [1, 2], flag := false }, [0, 1], [1, 0], List.Perm.swap _ _ _, rfl, rfl, ?_, ?_⟩
  · simp [outdatedEnum, mismatch, ver]
  · simp [outdatedEnum, mismatch, ver]

/-- with the sorted (stable) enumeration the same situation is not outdated: for parameter
    dependencies, remembering the current versions in enumeration order gives "not outdated" -/
theorem stable_deps_not_spurious (g : Graph V) (s : SNode V) (ds : List Nat)
    (hr : s.remembered = some (ds.map (ver g))) (hf : s.flag = false) : outdatedEnum g s ds = false := by
  simp [outdatedEnum, hr, hf, mismatch_map_ver]

/-- (partial: one node over parameter dependencies) even the pre-2752e26 code was never stale at such a node: if the
    versions remembered at the last execution (enumeration `ds`, state `g0`) are matched by a later
    `Outdated()` call that enumerates ANY permutation `ds'` in a later state `g` (versions only grow),
    then no dependency version changed in between — a permuted vector equal to the remembered one
    has the same sum -/
theorem permuted_deps_still_fresh_partial (g0 g : Graph V) (s : SNode V) (ds ds' : List Nat)
    (hperm : ds'.Perm ds) (hrem : s.remembered = some (ds.map (ver g0)))
    (hmono : ∀ d ∈ ds, ver g0 d ≤ ver g d) (hno : outdatedEnum g s ds' = false) :
    ∀ d ∈ ds, ver g d = ver g0 d := by
  simp only [outdatedEnum, hrem, Bool.or_eq_false_iff] at hno
  have hlen : ds'.length = (ds.map (ver g0)).length := by simp [hperm.length_eq]
  have h1 := mismatch_false_map g _ ds' _ hno.2 hlen
  have h2 : (ds'.map (ver g)).sum = (ds.map (ver g)).sum := (hperm.map (ver g)).sum_nat
  rw [h1] at h2
  intro d hd
  exact (sum_eq_pointwise ds (ver g0) (ver g) hmono h2 d hd).symm

/-- the hypotheses are satisfiable with a genuinely permuted enumeration (equal versions) -/
example : outdatedEnum (fun _ => (.param 0 3 : Node Nat))
    { fn := fun _ _ _ => 0, scalars := [some 0, some 1], arrays := [], cache := 0, version := 1,
      remembered := some ([0, 1].map (ver (fun _ => (.param 0 3 : Node Nat)))), flag := false } [1, 0] = false := by
  decide

/-! ### processors that skip a wired input: the clause "recompute only on change" is false -/

/-- the clause without the guard on processors: a second read executes nothing, for every
    processor (the conjunct `reads_idempotent` proves under `ReadsAll`) -/
def C11_no_spurious_full : Prop :=
  ∀ (F : Nat) (g0 : Graph Nat), Init F g0 → ∀ (ops : List (Op Nat)), Valid F g0 ops → ∀ i : Nat,
    step F (step F (run F g0 ops).1 (.read i)).1 (.read i) = ((step F (run F g0 ops).1 (.read i)).1, [])

/-- X = node 0 (parameter, value 0), node 1 a parameter, Y = node 2 (struct over node 1),
    A = node 3 with ports (X, Y): `Process()` reads X, and reads Y only when X > 0 -/
def skipG : Graph Nat := fun i =>
  match i with
  | 0 => .param 0 0
  | 1 => .param 7 0
  | 2 => .struct { fn := fun _ _ vs => vs.foldl (fun a o => a + o.getD 0) 1, scalars := [some 1], arrays := [], cache := 0,
                   version := 0, remembered := none, flag := false }
  | 3 => .struct { fn := fun _ _ vs => match vs with
                            | [some x, some y] => x + y + 1
                            | [some x, none] => x + 1
                            | _ => 0,
                   next := fun _ _ es => match es with
                            | [none, _] => some 0                              -- pull X first
                            | [some x, none] => if x > 0 then some 1 else none -- pull Y only when X > 0
                            | _ => none,
                   scalars := [some 0, some 2], arrays := [], cache := 0,
                   version := 0, remembered := none, flag := false }
  | _ => .param 0 0

theorem skipG_init : Init 4 skipG := by
  refine ⟨⟨fun i => if i < 4 then i else 0, ranked_of_check 4 ?_ ?_ (by decide)⟩, ?_⟩
  · intro i; show (if i < 4 then i else 0) < 4; split <;> omega
  · intro i hi
    match i, hi with
    | n+4, _ => rfl
  · intro i s hs
    match i with
    | 0 | 1 | n+4 => cases hs
    | 2 | 3 => cases hs; rfl

/-- **known finding C11-skipping-processor, in the model of the code**: five idle reads of A — no
    parameter update, no re-wiring in between — execute A five times and take its version from 0
    to 5; Y, which `Process()` never pulls while X ≤ 0, is never executed and stays `Stale`, and
    `dep.State() != Processed` keeps A outdated.  The values stay correct (`= Spec`). -/
theorem skipping_processor_spurious :
    (run 4 skipG [.read 3, .read 3, .read 3, .read 3, .read 3]).2 = [(3, 1), (3, 2), (3, 3), (3, 4), (3, 5)] ∧
    ver (run 4 skipG [.read 3, .read 3, .read 3, .read 3, .read 3]).1 3 = 5 ∧
    Outdated 4 (run 4 skipG [.read 3, .read 3, .read 3, .read 3, .read 3]).1 3 = true ∧
    Outdated 4 (run 4 skipG [.read 3, .read 3, .read 3, .read 3, .read 3]).1 2 = true ∧
    val (run 4 skipG [.read 3, .read 3, .read 3, .read 3, .read 3]).1 3
      = Spec 4 (run 4 skipG [.read 3, .read 3, .read 3, .read 3, .read 3]).1 3 := by decide

/-- hence the unguarded clause is false -/
theorem no_spurious_full_false : ¬ C11_no_spurious_full := by
  intro h
  have h1 := congrArg Prod.snd (h 4 skipG skipG_init [] trivial 3)
  revert h1
  decide

/-- … while freshness and version accounting hold for it as for any processor: `read_fresh` and
    `version_counts_executions` apply to `skipG` (no `ReadsAll` in their hypotheses) -/
example (ops : List (Op Nat)) (hops : ∀ op ∈ ops, (∃ i, op = .read i) ∨ ∃ p v, op = .setParam p v) :
    val (step 4 (run 4 skipG ops).1 (.read 3)).1 3 = Spec 4 (run 4 skipG ops).1 3 ∧
    ver (run 4 skipG ops).1 3 = ver skipG 3 + cnt (run 4 skipG ops).2 3 + setCount 4 skipG ops 3 := by
  obtain ⟨rank, hr⟩ := skipG_init.1
  have hv : Valid 4 skipG ops := (valid_of_fixed_rank hr ops (by
    intro op hop
    rcases hops op hop with ⟨i, rfl⟩ | ⟨p, v, rfl⟩ <;> trivial)).1
  exact ⟨read_fresh skipG skipG_init ops hv 3, version_counts_executions skipG skipG_init ops hv 3⟩

/-- with X > 0 the same processor behaves: the second read executes nothing -/
example : (run 4 skipG [.setParam 0 5, .read 3, .read 3]).2 = [(2, 1), (3, 1)] := by decide

/-! ### non-vacuity: a diamond over two parameters with a shared node and an array port -/

def sum3 : List (Option Nat) → List (List Nat) → List (Option Nat) → Nat :=
  fun _ _ vs => vs.foldl (fun a o => a + o.getD 0) 1

def mk (sc : List (Option Nat)) (ar : List (List Nat)) : Node Nat :=
  .struct { fn := sum3, scalars := sc, arrays := ar, cache := 0, version := 0, remembered := none, flag := false }

/-- 0,1 parameters; 2 = f(0,1); 3 = f(2, nil); 4 = f(2,3 ; [0,2]) -/
def diamond : Graph Nat := fun i =>
  match i with
  | 0 => .param 5 0
  | 1 => .param 7 0
  | 2 => mk [some 0, some 1] []
  | 3 => mk [some 2, none] []
  | 4 => mk [some 2, some 3] [[0, 2]]
  | _ => .param 0 0

/-- ranking of the example: the id, for the five nodes -/
def rk (i : Nat) : Nat := if i < 5 then i else 0

theorem diamond_params (ops : List (Op Nat)) (i : Nat) (hi : 5 ≤ i) : isParam ((run 5 diamond ops).1 i) = true := by
  rw [run_isParam]
  match i with
  | n+5 => rfl

theorem diamond_ranked : Ranked rk 5 diamond :=
  ranked_of_check 5 (by intro i; simp only [rk]; split <;> omega) (diamond_params []) (by decide)

/-- the struct nodes of the example: nothing processed yet, processors that read all their inputs -/
theorem diamond_struct {i : Nat} {s : SNode Nat} (hs : diamond i = .struct s) :
    s.remembered = none ∧ s.next = fun _ _ es => nextAll es := by
  match i with
  | 0 | 1 | n+5 => cases hs
  | 2 | 3 | 4 => cases hs; exact ⟨rfl, rfl⟩

theorem diamond_init : Init 5 diamond :=
  ⟨⟨rk, diamond_ranked⟩, fun _ _ hs => (diamond_struct hs).1⟩

theorem diamond_readsAll : ReadsAll diamond :=
  fun _ _ hs => (diamond_struct hs).2

def history : List (Op Nat) :=
  [.read 4, .setParam 0 9, .read 3, .setInput 3 1 (some 1), .arrayRemove 4 0 0, .read 4, .arrayAdd 4 0 3, .read 4]

theorem history_valid : Valid 5 diamond history :=
  valid_fixed_numbering rk diamond diamond_ranked history (by decide)

example : val (step 5 (run 5 diamond history).1 (.read 4)).1 4 = Spec 5 (run 5 diamond history).1 4 :=
  read_fresh diamond diamond_init history history_valid 4

example : (run 5 diamond history).2 = [(2, 1), (3, 1), (4, 1), (2, 2), (3, 2), (3, 3), (4, 2), (4, 3)] := by decide

example : Spec 5 (run 5 diamond history).1 4 = 85 := by decide

/-- first hypothesis of `exec_only_if_changed` on a concrete instance: node 3 is processed after reading it -/
example : Outdated 5 (run 5 diamond [.read 3]).1 3 = false := by decide

/-- a history that re-wires node 4 and reads 2 and 4 -/
def history2 : List (Op Nat) := [.arrayAdd 4 0 1, .read 4, .setInput 4 0 none, .read 2, .read 4]

/-- the other hypotheses: it is valid and does not touch the cone {3,2,0,1} of node 3 -/
example : Valid 5 (run 5 diamond [.read 3]).1 history2 ∧ Untouched 5 (run 5 diamond [.read 3]).1 history2 3 := by
  have hr := (valid_of_fixed_rank diamond_ranked [.read 3] (by decide)).2
  have hops : ∀ op ∈ history2, opRanked rk op := by decide
  refine ⟨(valid_of_fixed_rank hr history2 hops).1, untouched_of_above hr 3 history2 hops ?_⟩
  intro op hop
  simp only [history2, List.mem_cons, List.not_mem_nil, or_false] at hop
  rcases hop with rfl | rfl | rfl | rfl | rfl <;> simp [opNode, rk]

/-- and indeed node 3 is not executed by that history, while node 4 is (twice) -/
example : (run 5 (run 5 diamond [.read 3]).1 history2).2 = [(4, 1), (4, 2)] := by decide

/-- a history that NO fixed numbering admits, but that is valid: 3 depends on 2, the edge is removed,
    then 2 is made to depend on 3 (the guard lets the ranking change from call to call) -/
def flip : List (Op Nat) :=
  [.read 4, .setInput 3 0 none, .setInput 4 0 none, .arrayRemove 4 0 1, .setInput 2 0 (some 3), .arrayAdd 4 0 2, .read 4]

example : (run 5 diamond flip).2 = [(2, 1), (3, 1), (4, 1), (3, 2), (2, 2), (4, 2)] ∧
    Spec 5 (run 5 diamond flip).1 4 = 16 ∧ val (run 5 diamond flip).1 4 = 16 := by decide

/-- the ranking after the edges 3 → 2, 4 → 2 are gone: 3 below 2 -/
def rk2 (i : Nat) : Nat := if i = 3 then 1 else if i = 2 then 2 else if i = 4 then 3 else 0

/-- its validity: the ranking `rk` (ids) serves until the edges are removed, `rk2` afterwards; no
    single ranking serves both `3 → 2` (initially) and `2 → 3` (at the end) -/
example : Valid 5 diamond flip := by
  have h1 := valid_of_fixed_rank diamond_ranked [.read 4, .setInput 3 0 none, .setInput 4 0 none, .arrayRemove 4 0 1]
    (by decide)
  have hr2 : Ranked rk2 5 (run 5 diamond [.read 4, .setInput 3 0 none, .setInput 4 0 none, .arrayRemove 4 0 1]).1 := by
    apply ranked_of_check 5
    · intro i; simp only [rk2]; split <;> (try split) <;> (try split) <;> omega
    · exact diamond_params _
    · decide
  have h2 := valid_of_fixed_rank hr2 [.setInput 2 0 (some 3), .arrayAdd 4 0 2, .read 4]
    (by decide)
  exact ⟨h1.1.1, h1.1.2.1, h1.1.2.2.1, h1.1.2.2.2.1, h2.1.1, h2.1.2.1, h2.1.2.2.1, trivial⟩

end C11
end PolyVerif
