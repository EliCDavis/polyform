/-
  C14 — Truncated model files are rejected; no hang, no fabricated geometry.

  Theorems about the reader models of `Model/Readers.lean`, `Model/Spz.lean`, `Model/Splat.lean`:
  for every valid file of the format (given by its reference encoding) and every cut position,
  the reader applied to the prefix reports an error — or, where the property allows it, returns
  exactly the data wholly present.  Binary formats: every byte position.  ASCII bodies (PLY ascii,
  PTS): every token boundary, at the line/token level the scanner delivers (a cut inside a number
  yields a different valid number: outside the property's quantifier).

  Lemmas about the single loops are in `Lemmas/Readers.lean`.
-/
import PolyVerif.Lemmas.Spz

namespace PolyVerif
namespace C14
open Readers Spz Splat

/-! ## binary STL -/

theorem stl_exact (hdr : List UInt8) (tris : List (List UInt8)) (hh : hdr.length = 80)
    (ht : ∀ t ∈ tris, t.length = 50) (hn : tris.length < 2 ^ 32) :
    Exact .anywhere readStl (stlFile hdr tris) (fun _ => .ok tris) (.error .short) := by
  have hH := readArrays_exact [hdr, le32n tris.length]
  have hT := readArrays_exact tris
  rw [Chunks.map_length_const 50 tris ht] at hT
  simp only [List.map_cons, List.map_nil, hh, le32n_length, List.flatten_cons, List.flatten_nil,
    List.append_nil] at hH
  rw [stlFile]
  exact .append (fun rest => by simp only [readStl, hH.full, leNat_le32n _ hn, hT.full])
    (fun d hd => by simp only [readStl, hH.cut d hd])
    (fun d hd => by simp only [readStl, hH.full, leNat_le32n _ hn, hT.cut d hd])

theorem stl_full (hdr : List UInt8) (tris : List (List UInt8)) (hh : hdr.length = 80)
    (ht : ∀ t ∈ tris, t.length = 50) (hn : tris.length < 2 ^ 32) :
    readStl (stlFile hdr tris) = .ok tris :=
  (stl_exact hdr tris hh ht hn).whole

theorem stl_prefix_rejected (hdr : List UInt8) (tris : List (List UInt8)) (hh : hdr.length = 80)
    (ht : ∀ t ∈ tris, t.length = 50) (hn : tris.length < 2 ^ 32)
    (k : Nat) (hk : k < (stlFile hdr tris).length) :
    readStl ((stlFile hdr tris).take k) = .error .short :=
  (stl_exact hdr tris hh ht hn).cut_take hk

example : ∃ hdr : List UInt8, ∃ tris : List (List UInt8), hdr.length = 80 ∧ (∀ t ∈ tris, t.length = 50) ∧
    tris.length < 2 ^ 32 ∧ tris ≠ [] :=
  ⟨List.replicate 80 0, [List.replicate 50 7], by simp, by simp, by simp, by simp⟩

/-! ## .splat: record-streamed -/

/-- cut after `k` bytes: exactly the first `⌊k/32⌋` records, the `ErrUnexpectedEOF` flag iff `32 ∤ k`,
    after `⌊k/32⌋ + 1` reads -/
theorem splat_prefix (rs : List Rec) (k : Nat) (hk : k ≤ (rs.flatMap encRec).length) :
    readRecs ((rs.flatMap encRec).take k) = ⟨rs.take (k / 32), decide (k % 32 ≠ 0), k / 32 + 1⟩ := by
  rw [flatMap_encRec_length] at hk
  induction rs generalizing k with
  | nil =>
    have : k = 0 := by simpa using hk
    subst this
    rw [readRecs]; simp
  | cons r rs ih =>
    have hl := encRec_length r
    rw [List.flatMap_cons]
    by_cases h32 : 32 ≤ k
    · have e : (encRec r ++ rs.flatMap encRec).take k = encRec r ++ (rs.flatMap encRec).take (k - 32) := by
        rw [List.take_append, List.take_of_length_le (by omega), hl]
      rw [e, readRecs_append, ih (k - 32) (by simp only [List.length_cons] at hk; omega)]
      have h1 : k / 32 = (k - 32) / 32 + 1 := by omega
      have h2 : k % 32 = (k - 32) % 32 := by omega
      simp only [h1, h2, List.take_succ_cons]
    · have e : (encRec r ++ rs.flatMap encRec).take k = (encRec r).take k := by
        rw [List.take_append_of_le_length (by omega)]
      rw [e]
      by_cases hz : k = 0
      · subst hz; rw [readRecs]; simp
      · rw [readRecs_shortList _ (by
          intro hnil; have := congrArg List.length hnil; simp [hl] at this; omega) (by simp [hl]; omega)]
        have h1 : k / 32 = 0 := by omega
        have h2 : k % 32 ≠ 0 := by omega
        simp [h1, h2]

/-- the same at the level of `splat.Read` on a written cloud: the decoded splats are those of the records
    wholly contained in the prefix, in order -/
theorem splat_prefix_read {α : Type} [Scalar α] (E : Splat.Env α) (cloud : List (Splat.Splat α)) (k : Nat)
    (hk : k ≤ (Splat.write E cloud).length) :
    Splat.read E ((Splat.write E cloud).take k) =
      ((cloud.take (k / 32)).map (fun s => decSplat E (encSplat E s)), decide (k % 32 ≠ 0)) := by
  simp only [Splat.read, Splat.write] at *
  rw [splat_prefix _ k hk]
  simp [List.map_take, Function.comp_def]

/-! ## SPZ (decompressed stream) -/

/-- a stream exactly as long as its header announces: every strict prefix is rejected -/
theorem spz_prefix (bs : List UInt8) (h16 : 16 ≤ bs.length)
    (hlen : bs.length = payloadLength (parseHeader (bs.take 16)))
    (k : Nat) (hk : k < bs.length) : ∃ e, readRaw (bs.take k) = .error e := by
  cases hr : readRaw (bs.take k) with
  | error e => exact ⟨e, rfl⟩
  | ok a =>
    obtain ⟨hk16, hh, hp⟩ := readRaw_ok hr
    rw [List.length_take] at hk16 hp
    rw [hh, List.take_take, Nat.min_eq_left (by omega), ← hlen] at hp
    omega

/-- ... and the complete stream (valid header) is accepted with every array of the declared length -/
theorem spz_complete (bs : List UInt8) (h16 : 16 ≤ bs.length)
    (hv : (parseHeader (bs.take 16)).valid = true)
    (hlen : payloadLength (parseHeader (bs.take 16)) ≤ bs.length) :
    ∃ a, readRaw bs = .ok a ∧ a.header = parseHeader (bs.take 16) ∧
      a.positions.length = a.header.numPoints * posBytes a.header ∧ a.alphas.length = a.header.numPoints ∧
      a.colors.length = a.header.numPoints * 3 ∧ a.scales.length = a.header.numPoints * 3 ∧
      a.rotations.length = a.header.numPoints * 3 ∧
      a.sh.length = a.header.numPoints * 3 * shDim a.header.shDegree := by
  obtain ⟨as, r, h1, h2, _⟩ := readArrays_ok (arraySizes (parseHeader (bs.take 16))) (bs.drop 16)
    (by simp only [List.length_drop, payloadLength] at *; omega)
  simp only [arraySizes] at h2
  obtain ⟨p, a, c, s, ro, sh, rfl⟩ := six_of_length as (by have := congrArg List.length h2; simpa using this)
  simp only [List.map_cons, List.map_nil, List.cons.injEq, and_true] at h2
  obtain ⟨e1, e2, e3, e4, e5, e6⟩ := h2
  refine ⟨⟨parseHeader (bs.take 16), p, a, c, s, ro, sh⟩, ?_, rfl, e1, e2, e3, e4, e5, e6⟩
  unfold readRaw
  rw [if_pos h16]; simp only [hv, if_true, h1]

/-! ## PLY -/

/-- a cut anywhere inside the header (before the newline that ends `end_header`) is rejected,
    whatever the header says and whatever the encoding -/
theorem ply_header_cut (L : Lex) (h : Hdr) (ls : List (List UInt8)) (hls : HeaderLines ls) (body : List UInt8)
    (k : Nat) (hk : k < (headerText ls).length) :
    readPly L h ((headerText ls ++ body).take k) = .error .short := by
  simp only [readPly, List.take_append_of_le_length (Nat.le_of_lt hk), (skipHeader_exact ls hls).cut_take hk]

/-- a binary PLY file: header lines, fixed-size vertex records, face records in the reference encoding -/
structure BinFile where
  ls : List (List UInt8)
  vs : List (List UInt8)
  fs : List (List ListInst)

def BinFile.body (be : Bool) (h : Hdr) (x : BinFile) : List UInt8 :=
  x.vs.flatten ++ (match h.face with | none => [] | some f => encFaces be f x.fs)

def BinFile.bytes (be : Bool) (h : Hdr) (x : BinFile) : List UInt8 := headerText x.ls ++ x.body be h

/-- the file is what the header `h` describes -/
def BinFile.ok (h : Hdr) (x : BinFile) : Prop :=
  HeaderLines x.ls ∧ h.vcount = x.vs.length ∧ (∀ v ∈ x.vs, v.length = h.vsize) ∧
  (match h.face with
   | none => x.fs = []
   | some f => f.count = x.fs.length ∧ ∀ y ∈ x.fs, FaceOk f y)

def BinFile.mesh (be : Bool) (h : Hdr) (x : BinFile) : BinMesh :=
  ⟨x.vs, match h.face with
         | none => []
         | some f => x.fs.map fun xs => ⟨facePoints f xs, encLists be f.lists xs⟩⟩

theorem ply_binary_body_exact (be : Bool) (h : Hdr) (x : BinFile) (hx : x.ok h) :
    Exact .anywhere (readPlyBinBody h be) (x.body be h) (fun _ => .ok (x.mesh be h)) (.error .short) := by
  obtain ⟨_, hc, hv, hf⟩ := hx
  have hA := readArrays_exact x.vs
  rw [Chunks.map_length_const h.vsize x.vs hv, ← hc] at hA
  unfold BinFile.body BinFile.mesh
  cases hface : h.face with
  | none =>
    exact .append (fun rest => by simp only [readPlyBinBody, hA.full, hface])
      (fun d hd => by simp only [readPlyBinBody, hA.cut d hd]) (fun _ hd => (Cut.nil _ hd).elim)
  | some f =>
    rw [hface] at hf
    have hB := binFaces_exact be f x.fs hf.2
    rw [← hf.1] at hB
    exact .append (fun rest => by simp only [readPlyBinBody, hA.full, hface, hB.full])
      (fun d hd => by simp only [readPlyBinBody, hA.cut d hd])
      (fun d hd => by simp only [readPlyBinBody, hA.full, hface, hB.cut d hd])

/-- binary PLY (either byte order): trailing bytes are ignored, and every cut fails as a short read -/
theorem ply_binary_exact (L : Lex) (be : Bool) (h : Hdr) (hfmt : h.fmt = if be then .be else .le)
    (x : BinFile) (hx : x.ok h) :
    Exact .anywhere (readPly L h) (x.bytes be h) (fun _ => .ok (.bin (x.mesh be h))) (.error .short) := by
  have hS := skipHeader_exact x.ls hx.1
  have hB := ply_binary_body_exact be h x hx
  exact .append (fun rest => by cases be <;> simp only [readPly, hS.full, hfmt, hB.full] <;> rfl)
    (fun d hd => by simp only [readPly, hS.cut d hd])
    (fun d hd => by cases be <;> simp only [readPly, hS.full, hfmt, hB.cut d hd] <;> rfl)

/-- binary PLY (either byte order): the complete file is read back as its vertex and face records -/
theorem ply_binary_full (L : Lex) (be : Bool) (h : Hdr) (hfmt : h.fmt = if be then .be else .le)
    (x : BinFile) (hx : x.ok h) :
    readPly L h (x.bytes be h) = .ok (.bin (x.mesh be h)) :=
  (ply_binary_exact L be h hfmt x hx).whole

/-- binary PLY: every strict prefix — header cut or body short — is rejected -/
theorem ply_binary_prefix_rejected (L : Lex) (be : Bool) (h : Hdr) (hfmt : h.fmt = if be then .be else .le)
    (x : BinFile) (hx : x.ok h) (k : Nat) (hk : k < (x.bytes be h).length) :
    ∃ e, readPly L h ((x.bytes be h).take k) = .error e :=
  ⟨_, (ply_binary_exact L be h hfmt x hx).cut_take hk⟩

/-- ASCII PLY body, line/token level.  `vs`: vertex lines, `fl`: face lines, as the writer produces them. -/
def AsciiOk (L : Lex) (h : Hdr) (vs fl : List Line) : Prop :=
  h.vcount = vs.length ∧ (∀ l ∈ vs, VLineOk L h.nprops l) ∧
  (match h.face with
   | none => fl = []
   | some f => f.count = fl.length ∧ ∀ l ∈ fl, FLineOk L f l)

def asciiMesh (L : Lex) (h : Hdr) (vs fl : List Line) : AsciiMesh :=
  ⟨vs.map (·.toks), match h.face with
                     | none => []
                     | some f => fl.map fun l => (linePoints L f l, l.toks)⟩

theorem ply_ascii_exact (L : Lex) (h : Hdr) (vs fl : List Line) (hx : AsciiOk L h vs fl) :
    Exact (.lines PartialOf) (readPlyAsciiBody L h) (vs ++ fl) (fun _ => .ok (asciiMesh L h vs fl))
      (.error .short) := by
  obtain ⟨hc, hv, hf⟩ := hx
  have hV := asciiVerts_exact L h.nprops vs hv
  rw [← hc] at hV
  unfold asciiMesh
  cases hface : h.face with
  | none =>
    rw [hface] at hf; subst hf
    exact .append (fun rest => by simp only [readPlyAsciiBody, hV.full, hface])
      (fun d hd => by simp only [readPlyAsciiBody, hV.cut d hd]) (fun _ hd => (Cut.nil _ hd).elim)
  | some f =>
    rw [hface] at hf
    have hF := asciiFaces_exact L f fl hf.2
    rw [← hf.1] at hF
    exact .append (fun rest => by simp only [readPlyAsciiBody, hV.full, hface, hF.full])
      (fun d hd => by simp only [readPlyAsciiBody, hV.cut d hd])
      (fun d hd => by simp only [readPlyAsciiBody, hV.full, hface, hF.cut d hd])

/-- the complete body — also when only the final line break is missing: the scanner delivers the same
    lines — is read back as its lines -/
theorem ply_ascii_full (L : Lex) (h : Hdr) (vs fl : List Line) (hx : AsciiOk L h vs fl) :
    readPlyAsciiBody L h (vs ++ fl) = .ok (asciiMesh L h vs fl) :=
  (ply_ascii_exact L h vs fl hx).whole

/-- ASCII PLY: a cut at any token boundary that loses at least one token — the first `j` lines complete,
    then nothing (`d = none`: cut at a line break) or a line holding a strict non-empty part of the tokens
    of line `j` — is rejected -/
theorem ply_ascii_prefix (L : Lex) (h : Hdr) (vs fl : List Line) (hx : AsciiOk L h vs fl)
    (j : Nat) (hj : j < (vs ++ fl).length) (d : Option Line) (hd : ∀ x, d = some x → PartialOf x (vs ++ fl)[j]) :
    readPlyAsciiBody L h ((vs ++ fl).take j ++ d.toList) = .error .short :=
  (ply_ascii_exact L h vs fl hx).cut _ ⟨j, hj, d, rfl, hd⟩

/-! ### ASCII PLY at the byte level (writer-shaped text) -/

/-- BYTE level, ASCII PLY body as the writer prints it (tokens joined by single spaces, one line per
    record): the complete text — and the text without its final line feed — scans to the lines. -/
theorem ply_ascii_bytes_complete (init : List (List Tok)) (last : List Tok)
    (hclean : ∀ ts ∈ init ++ [last], ∀ t ∈ ts, CleanTok t) (hlast : last ≠ []) :
    scanLines (renderLines (init ++ [last])) = (init ++ [last]).map mkLine ∧
    scanLines (renderLines init ++ joinSp last) = (init ++ [last]).map mkLine := by
  have hl : ∀ t ∈ last, CleanTok t := hclean last (by simp)
  constructor
  · simpa using scanLines_render (init ++ [last]) hclean [] (by simp) (by simp)
  · simpa [cutLine_of_ne hlast, mkLine] using
      scanLines_cut init (fun ts hts => hclean ts (List.mem_append_left _ hts)) last hl false (by simp)

/-- BYTE level, ASCII PLY: the body text cut at any token boundary that loses at least one token — after
    `j` complete lines and the first `t` tokens of line `j` (`t` < its token count), with or without the
    separating space — is rejected by the body reader run on what the scanner delivers. -/
theorem ply_ascii_prefix_bytes (L : Lex) (h : Hdr) (vls fls : List (List Tok))
    (hclean : ∀ ts ∈ vls ++ fls, ∀ t ∈ ts, CleanTok t)
    (hx : AsciiOk L h (vls.map mkLine) (fls.map mkLine))
    (j : Nat) (hj : j < (vls ++ fls).length) (t : Nat) (ht : t < ((vls ++ fls)[j]).length)
    (sp : Bool) (hsp : sp = true → 0 < t) :
    readPlyAsciiBody L h (scanLines (renderLines ((vls ++ fls).take j) ++
      (joinSp (((vls ++ fls)[j]).take t) ++ (if sp then [32] else [])))) = .error .short := by
  have hl := hclean _ (List.getElem_mem hj)
  rw [scanLines_cut _ (.take hclean j) _ (fun x hx' => hl x (List.mem_of_mem_take hx')) sp
      (fun hs => take_ne_nil (hsp hs) ht), List.map_take, List.map_append]
  have hjm : j < (vls.map mkLine ++ fls.map mkLine).length := by simpa using hj
  refine ply_ascii_prefix L h _ _ hx j hjm _ (fun x hx' => ?_)
  rw [show (vls.map mkLine ++ fls.map mkLine)[j] = mkLine (vls ++ fls)[j] by simp [← List.map_append]]
  exact cutLine_partial hl ht hx'

/-- BYTE level, ASCII PLY: the cut right after the LAST token of a non-final line `j` (before its line feed) —
    the scanner still delivers line `j` complete, but lines are missing — is rejected. -/
theorem ply_ascii_prefix_bytes_eol (L : Lex) (h : Hdr) (vls fls : List (List Tok))
    (hclean : ∀ ts ∈ vls ++ fls, ∀ t ∈ ts, CleanTok t)
    (hx : AsciiOk L h (vls.map mkLine) (fls.map mkLine))
    (j : Nat) (hj : j + 1 < (vls ++ fls).length) (hne : (vls ++ fls)[j] ≠ []) :
    readPlyAsciiBody L h (scanLines (renderLines ((vls ++ fls).take j) ++ joinSp ((vls ++ fls)[j]))) =
      .error .short := by
  rw [(ply_ascii_bytes_complete _ _ (CleanText.take_snoc hclean (by omega)) hne).2,
    ← List.take_succ_eq_append_getElem (by omega), List.map_take, List.map_append]
  have := ply_ascii_prefix L h (vls.map mkLine) (fls.map mkLine) hx (j + 1) (by simpa using hj) none
    (fun _ h => by cases h)
  rwa [Option.toList_none, List.append_nil] at this

/-- the whole ASCII file: after a complete header the reader is the body reader on what the scanner
    delivers from the remaining bytes — so `ply_ascii_prefix_bytes` / `ply_ascii_bytes_complete` speak
    about `readPly` on `headerText ls ++ (cut body text)`, and `ply_header_cut` covers the rest -/
theorem ply_ascii_file (L : Lex) (h : Hdr) (hfmt : h.fmt = .ascii) (ls : List (List UInt8)) (hls : HeaderLines ls)
    (bodyText : List UInt8) :
    readPly L h (headerText ls ++ bodyText) = (readPlyAsciiBody L h (scanLines bodyText)).map .ascii := by
  simp only [readPly, (skipHeader_exact ls hls).full, hfmt]

/-! ## PTS (line/token level) -/

/-- a PTS file: the count line, then `n` point lines of `fpp` fields each -/
def PtsOk (L : Lex) (fpp : Nat) (c : Line) (pl : List Line) : Prop :=
  L.atoi? c.raw = some (pl.length : Int) ∧ ∀ l ∈ pl, PLineOk L fpp l

/-- after the count line and the first point line the remaining point lines are read exactly, a damaged line
    being one with fewer fields -/
theorem pts_exact (L : Lex) (fpp : Nat) (c l : Line) (pl : List Line) (hx : PtsOk L fpp c (l :: pl)) :
    Exact (.lines fun x _ => ∃ t, 0 < t ∧ t < fpp ∧ x.toks.length = t) (fun ls => readPtsLines L (c :: l :: ls)) pl
      (fun _ => .ok ((l :: pl).map fun l => ptsPoint l.toks)) (.error .short) := by
  obtain ⟨hc, hp⟩ := hx
  have hq := ptsLoop_exact L fpp pl fun x hx => hp x (List.mem_cons_of_mem _ hx)
  have hs : ∀ ls, readPtsLines L (c :: l :: ls) =
      match ptsLoop L ls pl.length (some fpp) with
      | .error e => .error e
      | .ok ps => .ok (ptsPoint l.toks :: ps) := fun ls => by
    simp only [readPtsLines, hc]
    rw [if_neg (by omega)]
    simp only [Int.toNat_natCast, List.length_cons,
      ptsLoop_step L fpp l _ _ none (hp l List.mem_cons_self) (Or.inl rfl)]
    rfl
  exact ⟨fun rest => by simp only [hs, hq.full, List.map_cons], fun d hd => by simp only [hs, hq.cut d hd]⟩

theorem pts_full (L : Lex) (fpp : Nat) (c : Line) (pl : List Line) (hx : PtsOk L fpp c pl) :
    readPtsLines L (c :: pl) = .ok (pl.map fun l => ptsPoint l.toks) := by
  cases pl with
  | nil => simp [readPtsLines, hx.1, ptsLoop]
  | cons l pl => exact (pts_exact L fpp c l pl hx).whole

/-- the count line alone while points are declared -/
theorem pts_count_line_alone (L : Lex) (fpp : Nat) (c : Line) (pl : List Line) (hx : PtsOk L fpp c pl)
    (hne : pl ≠ []) : readPtsLines L [c] = .error .short := by
  obtain ⟨hc, hp⟩ := hx
  simp only [readPtsLines, hc]
  rw [if_neg (by omega)]
  cases pl with
  | nil => exact absurd rfl hne
  | cons l pl => simp [ptsLoop]

/-- the count line, `j ≥ 1` complete point lines, then nothing or a shorter line -/
theorem pts_lines_cut (L : Lex) (fpp : Nat) (c : Line) (pl : List Line) (hx : PtsOk L fpp c pl)
    (j : Nat) (hj1 : 1 ≤ j) (hj : j < pl.length) (d : Option Line)
    (hd : ∀ x, d = some x → ∃ t, 0 < t ∧ t < fpp ∧ x.toks.length = t) :
    readPtsLines L (c :: (pl.take j ++ d.toList)) = .error .short := by
  obtain ⟨j', rfl⟩ : ∃ j', j = j' + 1 := ⟨j - 1, by omega⟩
  cases pl with
  | nil => simp at hj
  | cons l pl => exact (pts_exact L fpp c l pl hx).cut _ ⟨j', Nat.lt_of_succ_lt_succ hj, d, rfl, hd⟩

/-- a cut inside the first point line -/
theorem pts_first_line_cut (L : Lex) (fpp : Nat) (c : Line) (pl : List Line) (hx : PtsOk L fpp c pl)
    (l : Line) (hl : pl.head? = some l) (d : Line) (hd : ∃ t, 0 < t ∧ t < fpp ∧ d.toks = l.toks.take t) :
    (∃ e, readPtsLines L [c, d] = .error e) ∨
    (pl = [l] ∧ 3 ≤ d.toks.length ∧ readPtsLines L [c, d] = .ok [ptsPoint d.toks]) := by
  obtain ⟨hc, hp⟩ := hx
  obtain ⟨t, ht0, ht, hdt⟩ := hd
  cases pl with
  | nil => simp at hl
  | cons l' pl =>
    simp only [List.head?_cons, Option.some.injEq] at hl
    subst hl
    obtain ⟨hlen, h3, _⟩ := hp l' List.mem_cons_self
    have hdl : d.toks.length = t := by rw [hdt, List.length_take]; omega
    simp only [readPtsLines, hc]
    rw [if_neg (by omega)]
    simp only [Int.toNat_natCast, List.length_cons, ptsLoop]
    have hne : d.toks.isEmpty = false := by
      cases hd' : d.toks with
      | nil => simp [hd'] at hdl; omega
      | cons a b => rfl
    simp only [hne, Bool.false_eq_true, if_false]
    by_cases ht3 : d.toks.length < 3
    · left; rw [if_pos ht3]; exact ⟨_, rfl⟩
    · rw [if_neg ht3]
      by_cases hok : ptsTokensOk L d.toks = true
      · simp only [hok, Bool.not_true, Bool.false_eq_true, if_false]
        cases pl with
        | nil => right; refine ⟨rfl, by omega, ?_⟩; simp [ptsLoop]
        | cons l2 pl => left; simp [ptsLoop]
      · left; simp only [hok, Bool.not_false, if_true]; exact ⟨_, rfl⟩

/-- PTS, cut at a token boundary that loses at least one token:
    * nothing left, or the count line alone while points are declared → error;
    * the count line, `j ≥ 1` complete point lines, then nothing or a shorter line → error;
    * a cut inside the FIRST point line: error, unless that line still has ≥ 3 fields and is the only
      point declared — then (the format has no field count: such a file is a valid one-point file) the
      result is that single point built from the tokens present (`ptsPoint_restriction`: every
      component is the full point's or absent). -/
theorem pts_prefix (L : Lex) (fpp : Nat) (c : Line) (pl : List Line) (hx : PtsOk L fpp c pl) :
    readPtsLines L [] = .error .malformed ∧
    (pl ≠ [] → readPtsLines L [c] = .error .short) ∧
    (∀ j, 1 ≤ j → j < pl.length → ∀ d : Option Line,
      (∀ x, d = some x → ∃ t, 0 < t ∧ t < fpp ∧ x.toks.length = t) →
      ∃ e, readPtsLines L (c :: (pl.take j ++ d.toList)) = .error e) ∧
    (∀ l, pl.head? = some l → ∀ d : Line, (∃ t, 0 < t ∧ t < fpp ∧ d.toks = l.toks.take t) →
      (∃ e, readPtsLines L [c, d] = .error e) ∨
      (pl = [l] ∧ 3 ≤ d.toks.length ∧ readPtsLines L [c, d] = .ok [ptsPoint d.toks])) :=
  ⟨rfl, pts_count_line_alone L fpp c pl hx, fun j hj1 hj d hd => ⟨_, pts_lines_cut L fpp c pl hx j hj1 hj d hd⟩,
    pts_first_line_cut L fpp c pl hx⟩

/-- BYTE level, PTS text as written (count line, then one line per point, single spaces): cut after the
    count line, `j ≥ 1` complete point lines and the first `t` tokens of point line `j` (fewer than its
    fields; with or without the separating space; `t = 0`: cut at the line break) → rejected. -/
theorem pts_prefix_bytes (L : Lex) (fpp : Nat) (ctok : Tok) (pls : List (List Tok))
    (hc : CleanTok ctok) (hclean : ∀ ts ∈ pls, ∀ t ∈ ts, CleanTok t)
    (hx : PtsOk L fpp (mkLine [ctok]) (pls.map mkLine))
    (j : Nat) (hj1 : 1 ≤ j) (hj : j < pls.length) (t : Nat) (ht : t < fpp)
    (sp : Bool) (hsp : sp = true → 0 < t) :
    ∃ e, readPts L (renderLines ([ctok] :: pls.take j) ++
      (joinSp ((pls[j]).take t) ++ (if sp then [32] else []))) = .error e := by
  have hl := hclean _ (List.getElem_mem hj)
  have hlen : (pls[j]).length = fpp := by
    simpa [mkLine] using (hx.2 (mkLine pls[j]) (List.mem_map_of_mem (List.getElem_mem hj))).1
  unfold readPts
  rw [scanLines_cut _ (.cons hc.line (.take hclean j)) _ (fun x hx' => hl x (List.mem_of_mem_take hx')) sp
      (fun hs => take_ne_nil (hsp hs) (hlen ▸ ht)), List.map_cons, List.map_take]
  refine ⟨_, pts_lines_cut L fpp (mkLine [ctok]) (pls.map mkLine) hx j hj1 (by simpa using hj) _ (fun x hx' => ?_)⟩
  obtain ⟨_, t', h0, ht', hxt⟩ := cutLine_partial hl (hlen ▸ ht) hx'
  exact ⟨t', h0, hlen ▸ ht', by rw [hxt, List.length_take]; exact Nat.min_eq_left ht'.le⟩

/-- BYTE level, PTS: nothing at all, or the count line alone (with or without its line feed) while points
    are declared → rejected -/
theorem pts_count_line_bytes (L : Lex) (fpp : Nat) (ctok : Tok) (pls : List (List Tok)) (hc : CleanTok ctok)
    (hx : PtsOk L fpp (mkLine [ctok]) (pls.map mkLine)) (hne : pls ≠ []) :
    readPts L [] = .error .malformed ∧ readPts L ctok = .error .short ∧ readPts L (ctok ++ [10]) = .error .short := by
  have hkey := pts_count_line_alone L fpp (mkLine [ctok]) (pls.map mkLine) hx (by simpa using hne)
  obtain ⟨h1, h2⟩ := ply_ascii_bytes_complete [] [ctok] (CleanText.cons hc.line .nil) (by simp)
  refine ⟨rfl, ?_, ?_⟩
  · unfold readPts; rw [show ctok = renderLines [] ++ joinSp [ctok] from rfl, h2]; exact hkey
  · unfold readPts; rw [show ctok ++ [10] = renderLines ([] ++ [[ctok]]) by simp [renderLines, joinSp], h1]; exact hkey

/-- BYTE level, PTS: cut right after the last token of point line `j` (before its line feed) while more
    points are declared → rejected (`j = 0` included) -/
theorem pts_prefix_bytes_eol (L : Lex) (fpp : Nat) (ctok : Tok) (pls : List (List Tok))
    (hc : CleanTok ctok) (hclean : ∀ ts ∈ pls, ∀ t ∈ ts, CleanTok t)
    (hx : PtsOk L fpp (mkLine [ctok]) (pls.map mkLine))
    (j : Nat) (hj : j + 1 < pls.length) (hne : pls[j] ≠ []) :
    ∃ e, readPts L (renderLines ([ctok] :: pls.take j) ++ joinSp pls[j]) = .error e := by
  unfold readPts
  rw [(ply_ascii_bytes_complete ([ctok] :: pls.take j) pls[j]
      (CleanText.cons hc.line (.take_snoc hclean (by omega))) hne).2,
    List.cons_append, ← List.take_succ_eq_append_getElem (by omega), List.map_cons, List.map_take]
  have := pts_lines_cut L fpp (mkLine [ctok]) (pls.map mkLine) hx (j + 1) (by omega) (by simpa using hj)
    none (fun _ h => by cases h)
  rw [Option.toList_none, List.append_nil] at this
  exact ⟨_, this⟩

/-- BYTE level, PTS: a cut inside the FIRST point line after `t ≥ 1` of its tokens (with or without the
    separating space): rejected — or, when that line is the only point declared and at least 3 tokens
    remain, exactly the one point built from the tokens present (see `ptsPoint_restriction`; the text is
    then itself a valid one-point PTS file with fewer fields). -/
theorem pts_first_line_bytes (L : Lex) (fpp : Nat) (ctok : Tok) (l : List Tok) (rest : List (List Tok))
    (hc : CleanTok ctok) (hcl : ∀ t ∈ l, CleanTok t)
    (hx : PtsOk L fpp (mkLine [ctok]) ((l :: rest).map mkLine))
    (t : Nat) (ht0 : 0 < t) (ht : t < fpp) (sp : Bool) :
    (∃ e, readPts L (renderLines [[ctok]] ++ (joinSp (l.take t) ++ (if sp then [32] else []))) = .error e) ∨
    (rest = [] ∧ 3 ≤ t ∧
      readPts L (renderLines [[ctok]] ++ (joinSp (l.take t) ++ (if sp then [32] else []))) =
        .ok [ptsPoint (l.take t)]) := by
  have hlen : l.length = fpp := by simpa [mkLine] using (hx.2 (mkLine l) (by simp)).1
  have hne : l.take t ≠ [] := take_ne_nil ht0 (hlen ▸ ht)
  unfold readPts
  rw [scanLines_cut _ (.cons hc.line .nil) _ (fun x hx' => hcl x (List.mem_of_mem_take hx')) sp (fun _ => hne),
    cutLine_of_ne hne]
  rcases pts_first_line_cut L fpp (mkLine [ctok]) ((l :: rest).map mkLine) hx (mkLine l) (by simp)
    ⟨joinSp (l.take t) ++ (if sp then [32] else []), l.take t⟩ ⟨t, ht0, ht, rfl⟩ with ⟨e, he⟩ | ⟨h1, h2, h3⟩
  · exact Or.inl ⟨e, he⟩
  · refine Or.inr ⟨by simpa using h1, ?_, h3⟩
    rw [show (Line.toks ⟨joinSp (l.take t) ++ (if sp then [32] else []), l.take t⟩) = l.take t from rfl,
      List.length_take] at h2
    omega

/-- the point built from the first `t ≥ 3` tokens of a line: exactly those tokens — position = tokens 0–2,
    intensity = token 3 iff it is among them, colour = tokens 4–6 iff all of them are; absent otherwise.
    Nothing is defaulted: an absent field is `none` (in the Go reader: the attribute is not set on the mesh,
    `readIntensity` / `readColor` stay false — reader.go:112-125), never a zero. -/
theorem ptsPoint_take_exact (toks : List Tok) (t : Nat) (h3 : 3 ≤ t) (ht : t ≤ toks.length) :
    ptsPoint (toks.take t) =
      { pos := toks.take 3,
        intensity := if 3 < t then toks[3]? else none,
        color := if 6 < t then some ((toks.drop 4).take 3) else none } := by
  simp only [ptsPoint, List.length_take, Nat.min_eq_left ht, List.take_take, Nat.min_eq_left h3]
  congr 1
  · split
    · rw [List.getElem?_take]; simp; omega
    · rfl
  · split
    · congr 1
      rw [List.drop_take, List.take_take]; congr 1; omega
    · rfl

/-- DECISION on the one-point case (C14, "data wholly present in the prefix"): whenever the reader accepts a PTS
    text cut inside its first point line, the file declares exactly one point and the record returned consists of
    exactly the tokens present — see `ptsPoint_take_exact` — with every other field ABSENT. -/
theorem pts_one_point_exact (L : Lex) (fpp : Nat) (ctok : Tok) (l : List Tok) (rest : List (List Tok))
    (hc : CleanTok ctok) (hcl : ∀ t ∈ l, CleanTok t)
    (hx : PtsOk L fpp (mkLine [ctok]) ((l :: rest).map mkLine))
    (t : Nat) (ht0 : 0 < t) (ht : t < fpp) (sp : Bool) (m : List PtsPoint)
    (hok : readPts L (renderLines [[ctok]] ++ (joinSp (l.take t) ++ (if sp then [32] else []))) = .ok m) :
    rest = [] ∧ 3 ≤ t ∧
    m = [{ pos := l.take 3,
           intensity := if 3 < t then l[3]? else none,
           color := if 6 < t then some ((l.drop 4).take 3) else none }] := by
  have hlen : l.length = fpp := by
    have := (hx.2 (mkLine l) (by simp)).1
    simpa [mkLine] using this
  rcases pts_first_line_bytes L fpp ctok l rest hc hcl hx t ht0 ht sp with ⟨e, he⟩ | ⟨h1, h2, h3⟩
  · rw [he] at hok; cases hok
  · rw [h3] at hok
    simp only [Except.ok.injEq] at hok
    refine ⟨h1, h2, ?_⟩
    rw [← hok, ptsPoint_take_exact l t h2 (by omega)]

/-! ## iteration counts: every loop consumes input

  Each reader is a total function whose loops are structural recursions on the input.  The counters are
  threaded through the same recursions (`xI = (x, iterations)`, `Model/Readers.lean`): every statement below
  first says that the instrumented function returns exactly the reader's result, then bounds the count. -/

theorem reader_steps_linear_splat (bs : List UInt8) : (readRecs bs).steps ≤ bs.length / 32 + 1 := by
  induction bs using readRecs.induct with
  | case1 => rw [readRecs]; simp
  | case2 bs h hd => rw [readRecs]; simp [h, hd]
  | case3 bs h r hd ih =>
    rw [readRecs]; simp only [h, hd, dite_false]
    have hl := decRec_some_length hd
    simp only [List.length_take] at hl
    simp only [List.length_drop] at ih
    omega

/-- the sequence of exact reads (STL header/count/records, PLY binary vertex records, the six SPZ arrays):
    the instrumented function computes `readArrays`'s result, makes at most one read per requested buffer
    (SPZ: ≤ 6 whatever the header says, also for degree 0 / zero points) and at most
    `bytes + 1 + (number of zero-size buffers)` reads (PLY vertex loop with a non-empty record: ≤ bytes + 1) -/
theorem reader_steps_linear_arrays (sizes : List Nat) (bs : List UInt8) :
    (readArraysI sizes bs).1 = readArrays sizes bs ∧
    (readArraysI sizes bs).2 ≤ sizes.length ∧
    (readArraysI sizes bs).2 ≤ bs.length + 1 + zeroSizes sizes :=
  readArraysI_spec sizes bs

theorem reader_steps_linear_ascii_verts (L : Lex) (np : Nat) (ls : List Line) (n : Nat) :
    (asciiVertsI L np ls n).1 = asciiVerts L np ls n ∧ (asciiVertsI L np ls n).2 ≤ ls.length + 1 :=
  asciiVertsI_spec L np ls n

theorem reader_steps_linear_ascii_faces (L : Lex) (f : FaceHdr) (ls : List Line) (n : Nat) :
    (asciiFacesI L f ls n).1 = asciiFaces L f ls n ∧ (asciiFacesI L f ls n).2 ≤ ls.length + 1 :=
  asciiFacesI_spec L f ls n

theorem reader_steps_linear_pts_loop (L : Lex) (ls : List Line) (n : Nat) (o : Option Nat) :
    (ptsLoopI L ls n o).1 = ptsLoop L ls n o ∧ (ptsLoopI L ls n o).2 ≤ ls.length + 1 :=
  ptsLoopI_spec L ls n o

/-! ### one assembled statement per format: the WHOLE read (PLY: header scan aside)

  `readXI` runs the instrumented loops exactly as `readX` runs the plain ones; every statement says that its
  first component is the reader's result and bounds its second component — the total number of loop iterations
  (reads, records, faces, list reads, bytes scanned, bytes split into fields, lines, list readers per line) —
  linearly in the number of input bytes, for ALL inputs (valid, cut or garbage).  Not counted: the validation of
  a token's number syntax (`goFloatOk`/`goInt?`: structural recursions over the token's bytes).
  SPZ has no instrumented `readRaw`: its statement is about `readArraysI` on the arguments `readRaw` passes, and about
  `readRaw` separately. -/

theorem reader_steps_linear_stl (bs : List UInt8) :
    (readStlI bs).1 = readStl bs ∧ (readStlI bs).2 ≤ bs.length + 3 :=
  ⟨readStlI_fst bs, readStlI_bound bs⟩

/-- SPZ (decompressed stream): one header read and at most six array reads whatever the header says; and when the
    read succeeds the announced payload is present, so the dequantisation loops (five of `numPoints` iterations,
    `shDim` of `numPoints` iterations) are bounded by the number of bytes -/
theorem reader_steps_linear_spz (bs : List UInt8) :
    (readArraysI (arraySizes (parseHeader (bs.take 16))) (bs.drop 16)).1 =
        readArrays (arraySizes (parseHeader (bs.take 16))) (bs.drop 16) ∧
    (readArraysI (arraySizes (parseHeader (bs.take 16))) (bs.drop 16)).2 ≤ 6 ∧
    ∀ a, readRaw bs = .ok a → payloadLength a.header ≤ bs.length ∧
      a.header.numPoints * (5 + shDim a.header.shDegree) ≤ bs.length := by
  refine ⟨(readArraysI_spec _ _).1, (readArraysI_spec (arraySizes (parseHeader (bs.take 16))) (bs.drop 16)).2.1, ?_⟩
  intro a ha
  obtain ⟨_, _, hp⟩ := readRaw_ok ha
  refine ⟨hp, le_trans ?_ hp⟩
  rw [payloadLength_eq]
  exact le_trans (Nat.mul_le_mul_left _ (by omega)) (Nat.le_add_left _ _)

theorem reader_steps_linear_ply_binary (h : Hdr) (be : Bool) (body : List UInt8) :
    (readPlyBinBodyI h be body).1 = readPlyBinBody h be body ∧
    (1 ≤ h.vsize → (readPlyBinBodyI h be body).2 ≤ 3 * body.length + 3) :=
  ⟨readPlyBinBodyI_fst h be body, readPlyBinBodyI_bound h be body⟩

theorem reader_steps_linear_ply_ascii (L : Lex) (h : Hdr) (body : List UInt8) :
    (readPlyAsciiBytesI L h body).1 = readPlyAsciiBody L h (scanLines body) ∧
    (readPlyAsciiBytesI L h body).2 ≤ 9 * body.length + 9 :=
  ⟨readPlyAsciiBytesI_fst L h body, readPlyAsciiBytesI_bound L h body⟩

theorem reader_steps_linear_pts (L : Lex) (bs : List UInt8) :
    (readPtsI L bs).1 = readPts L bs ∧ (readPtsI L bs).2 ≤ 4 * bs.length + 4 :=
  ⟨readPtsI_fst L bs, readPtsI_bound L bs⟩

/-- the scanner delivers at most one line per byte (plus a final unterminated one) -/
theorem scanLines_length (bs : List UInt8) : (scanLines bs).length ≤ bs.length + 1 :=
  (scanLines_tokens bs).1

/-! ## no placeholder: an `ok` on a cut file is (a prefix-restriction of) the full decode

  For the ASCII formats see `ply_ascii_prefix` (always an error) and `pts_prefix` (error, or the one
  restricted point of `ptsPoint_restriction`). -/

theorem no_placeholder_stl_eq (hdr : List UInt8) (tris : List (List UInt8)) (hh : hdr.length = 80)
    (ht : ∀ t ∈ tris, t.length = 50) (hn : tris.length < 2 ^ 32) (k : Nat) (m : List (List UInt8))
    (h : readStl ((stlFile hdr tris).take k) = .ok m) : m = tris := by
  rw [(stl_exact hdr tris hh ht hn).take k] at h
  split at h <;> cases h
  rfl

theorem no_placeholder_splat_eq (rs : List Rec) (k : Nat) :
    (readRecs ((rs.flatMap encRec).take k)).recs <+: rs := by
  by_cases hk : k ≤ (rs.flatMap encRec).length
  · rw [splat_prefix rs k hk]; exact List.take_prefix _ _
  · rw [List.take_of_length_le (by omega), readRecs_flatMap]

theorem no_placeholder_spz_eq (bs : List UInt8) (h16 : 16 ≤ bs.length)
    (hlen : bs.length = payloadLength (parseHeader (bs.take 16))) (k : Nat) (a : Arrays)
    (h : readRaw (bs.take k) = .ok a) : readRaw bs = .ok a := by
  by_cases hk : k < bs.length
  · obtain ⟨e, he⟩ := spz_prefix bs h16 hlen k hk
    rw [he] at h; cases h
  · rwa [List.take_of_length_le (by omega)] at h

theorem no_placeholder_ply_binary_eq (L : Lex) (be : Bool) (h : Hdr) (hfmt : h.fmt = if be then .be else .le)
    (x : BinFile) (hx : x.ok h) (k : Nat) (m : PlyMesh)
    (hm : readPly L h ((x.bytes be h).take k) = .ok m) : m = .bin (x.mesh be h) := by
  rw [(ply_binary_exact L be h hfmt x hx).take k] at hm
  split at hm <;> cases hm
  rfl

theorem no_placeholder_ply_ascii_eq (L : Lex) (h : Hdr) (vs fl : List Line) (hx : AsciiOk L h vs fl)
    (j : Nat) (hj : j ≤ (vs ++ fl).length) (d : Option Line)
    (hd : ∀ x, d = some x → ∃ hj' : j < (vs ++ fl).length, PartialOf x (vs ++ fl)[j]) (m : AsciiMesh)
    (hm : readPlyAsciiBody L h ((vs ++ fl).take j ++ d.toList) = .ok m) : m = asciiMesh L h vs fl := by
  by_cases hlt : j < (vs ++ fl).length
  · rw [ply_ascii_prefix L h vs fl hx j hlt d (fun x hx' => (hd x hx').2)] at hm; cases hm
  · have hjl : j = (vs ++ fl).length := by omega
    cases d with
    | some x => obtain ⟨hj', _⟩ := hd x rfl; omega
    | none =>
      rw [hjl, List.take_length, Option.toList_none, List.append_nil, ply_ascii_full L h vs fl hx] at hm
      cases hm; rfl

/-! ### … stated through `Readers.prefixOf`, the predicate the oracle `c14.holds.prefix_only` evaluates -/

/-- a one-attribute summary is a (complete) prefix-restriction of itself -/
theorem prefixOf_self_single {V P : Type} [DecidableEq V] [DecidableEq P] (mode : Mode) (n : String)
    (vs : List V) (ps : List P) : prefixOf mode (⟨[(n, vs)], ps⟩ : Summary V P) ⟨[(n, vs)], ps⟩ = true := by
  simp [prefixOf, List.lookup]

def stlSummary (tris : List (List UInt8)) : Summary (List UInt8) Unit := ⟨[("triangle", tris)], []⟩
def splatSummary (rs : List Rec) : Summary Rec Unit := ⟨[("record", rs)], []⟩
def spzSummary (a : Arrays) : Summary (List UInt8) Unit :=
  ⟨[("arrays", [a.positions, a.alphas, a.colors, a.scales, a.rotations, a.sh])], []⟩
def binSummary (m : BinMesh) : Summary (List UInt8) (List UInt8) := ⟨[("vertex", m.verts)], m.faces.map (·.raw)⟩
def asciiSummary (m : AsciiMesh) : Summary (List Tok) (Nat × List Tok) := ⟨[("vertex", m.verts)], m.faces⟩

theorem no_placeholder_stl (hdr : List UInt8) (tris : List (List UInt8)) (hh : hdr.length = 80)
    (ht : ∀ t ∈ tris, t.length = 50) (hn : tris.length < 2 ^ 32) (k : Nat) (m : List (List UInt8))
    (h : readStl ((stlFile hdr tris).take k) = .ok m) :
    prefixOf .complete (stlSummary m) (stlSummary tris) = true := by
  rw [no_placeholder_stl_eq hdr tris hh ht hn k m h]; exact prefixOf_self_single _ _ _ _

theorem no_placeholder_splat (rs : List Rec) (k : Nat) :
    prefixOf .streamed (splatSummary (readRecs ((rs.flatMap encRec).take k)).recs) (splatSummary rs) = true := by
  have := no_placeholder_splat_eq rs k
  simp [prefixOf, splatSummary, List.lookup, List.isPrefixOf_iff_prefix, this]

theorem no_placeholder_spz (bs : List UInt8) (h16 : 16 ≤ bs.length)
    (hlen : bs.length = payloadLength (parseHeader (bs.take 16))) (k : Nat) (a : Arrays)
    (h : readRaw (bs.take k) = .ok a) :
    ∃ x, readRaw bs = .ok x ∧ prefixOf .complete (spzSummary a) (spzSummary x) = true :=
  ⟨a, no_placeholder_spz_eq bs h16 hlen k a h, prefixOf_self_single _ _ _ _⟩

theorem no_placeholder_ply_binary (L : Lex) (be : Bool) (h : Hdr) (hfmt : h.fmt = if be then .be else .le)
    (x : BinFile) (hx : x.ok h) (k : Nat) (m : BinMesh)
    (hm : readPly L h ((x.bytes be h).take k) = .ok (.bin m)) :
    prefixOf .complete (binSummary m) (binSummary (x.mesh be h)) = true := by
  have := no_placeholder_ply_binary_eq L be h hfmt x hx k _ hm
  simp only [PlyMesh.bin.injEq] at this
  rw [this]; exact prefixOf_self_single _ _ _ _

theorem no_placeholder_ply_ascii (L : Lex) (h : Hdr) (vs fl : List Line) (hx : AsciiOk L h vs fl)
    (j : Nat) (hj : j ≤ (vs ++ fl).length) (d : Option Line)
    (hd : ∀ x, d = some x → ∃ hj' : j < (vs ++ fl).length, PartialOf x (vs ++ fl)[j]) (m : AsciiMesh)
    (hm : readPlyAsciiBody L h ((vs ++ fl).take j ++ d.toList) = .ok m) :
    prefixOf .complete (asciiSummary m) (asciiSummary (asciiMesh L h vs fl)) = true := by
  rw [no_placeholder_ply_ascii_eq L h vs fl hx j hj d hd m hm]; exact prefixOf_self_single _ _ _ _

/-- the pinned (pre-bd55314) face loop makes no progress at end of input: the state steps to itself,
    forever — the hang the property forbids.  (The repaired loop is `asciiFaces`: `[] ↦ error`.) -/
theorem ascii_eof_loop_no_progress (count i : Nat) (h : i < count) :
    oldFaceLoopStep count ([], i) = some ([], i) := by
  simp [oldFaceLoopStep, Nat.not_le.mpr h]

/-! ## non-vacuity: concrete files satisfying the hypotheses -/

section examples

def exHdrBin : Hdr := ⟨.le, 1, 12, 3, some ⟨1, [⟨1, 4⟩], 0, none⟩⟩
def exBin : BinFile := ⟨[[112, 108, 121]], [List.replicate 12 1], [[(3, List.replicate 12 0)]]⟩

example : exBin.ok exHdrBin := by
  refine ⟨?_, rfl, ?_, rfl, ?_⟩
  · intro l hl; simp only [exBin, List.mem_singleton] at hl; subst hl; decide
  · intro v hv; simp only [exBin, List.mem_singleton] at hv; subst hv; rfl
  · intro y hy; simp only [exBin, List.mem_singleton] at hy; subst hy
    refine ⟨⟨⟨Or.inl ⟨rfl, by decide⟩, rfl⟩, trivial⟩, 3, rfl, Or.inl rfl⟩

def exHdrAscii : Hdr := ⟨.ascii, 1, 12, 3, some ⟨1, [⟨1, 4⟩], 0, none⟩⟩
def exV : Line := ⟨[49, 46, 53, 32, 45, 50, 32, 51, 101, 50], [[49, 46, 53], [45, 50], [51, 101, 50]]⟩
def exF : Line := ⟨[51, 32, 48, 32, 49, 32, 50], [[51], [48], [49], [50]]⟩

example : AsciiOk goLex exHdrAscii [exV] [exF] := by
  refine ⟨rfl, ?_, rfl, ?_⟩
  · intro l hl; simp only [List.mem_singleton] at hl; subst hl; exact ⟨by decide, by decide, by decide⟩
  · intro l hl; simp only [List.mem_singleton] at hl; subst hl
    refine ⟨by decide, [⟨[51], [[48], [49], [50]]⟩], rfl, ⟨by decide, by decide, trivial⟩, by decide, 3, by decide, Or.inl rfl⟩

/-- a cut after the second token of the face line -/
example : PartialOf ⟨[51, 32, 48], [[51], [48]]⟩ exF := ⟨by decide, 2, by decide, by decide, by decide⟩

def exC : Line := ⟨[49], [[49]]⟩
def exP : Line := ⟨[49, 32, 50, 32, 51, 32, 57, 32, 49, 48, 32, 50, 48, 32, 51, 48], [[49], [50], [51], [57], [49, 48], [50, 48], [51, 48]]⟩

example : PtsOk goLex 7 exC [exP] := by
  refine ⟨by decide, ?_⟩
  intro l hl; simp only [List.mem_singleton] at hl; subst hl; exact ⟨by decide, by decide, by decide⟩

/-- an SPZ stream exactly as long as its header announces (version 2, one point, degree 0: 16 + 19 bytes) -/
def exSpz : List UInt8 := Spz.encHeader ⟨Spz.magicNum, 2, 1, 0, 12, 0, 0⟩ ++ List.replicate 19 7

example : 16 ≤ exSpz.length ∧ exSpz.length = payloadLength (parseHeader (exSpz.take 16)) ∧
    (parseHeader (exSpz.take 16)).valid = true := by decide

/-- writer-shaped lines: clean tokens, `mkLine` -/
example : (∀ ts ∈ [exV.toks] ++ [exF.toks], ∀ t ∈ ts, CleanTok t) ∧
    AsciiOk goLex exHdrAscii ([exV.toks].map mkLine) ([exF.toks].map mkLine) := by
  refine ⟨?_, rfl, ?_, rfl, ?_⟩
  · intro ts hts t ht
    simp only [List.cons_append, List.nil_append, List.mem_cons, List.not_mem_nil, or_false] at hts
    rcases hts with rfl | rfl <;>
      (simp only [exV, exF, List.mem_cons, List.not_mem_nil, or_false] at ht
       rcases ht with rfl | rfl | rfl | rfl <;> exact ⟨by decide, by decide⟩)
  · intro l hl; simp only [List.map_cons, List.map_nil, List.mem_singleton] at hl; subst hl
    exact ⟨by decide, by decide, by decide⟩
  · intro l hl; simp only [List.map_cons, List.map_nil, List.mem_singleton] at hl; subst hl
    refine ⟨by decide, [⟨[51], [[48], [49], [50]]⟩], rfl, ⟨by decide, by decide, trivial⟩, by decide, 3, by decide, Or.inl rfl⟩

end examples

end C14
end PolyVerif
