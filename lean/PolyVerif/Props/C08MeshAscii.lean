/-
  C08 — ASCII files of the reference ("spec") encoding, from FILE BYTES, under the NAMED LAW BUNDLE
  `GoFloatText` (what strconv does to the float texts; hypothesis, not an axiom — see Lemmas/PlyAscii.lean) plus
  `SpecIntText` (`strconv.ParseFloat(s, 32)` accepts the decimal text of a PLY `int`).  No float-text law is needed for the
  face lines (integers only).  Same reader model as the driver's `c08.read` (`Ply.readMesh`), same `refEncode`.
-/
import PolyVerif.Props.C08Mesh
import PolyVerif.Lemmas.PlyFacesAscii

namespace PolyVerif
namespace C08
open Ply PlySpec PlyLemmas PlyCompose PlyHeader PlyAscii PlyFaces PlyFacesAscii PlyFacesTexAscii

variable {α : Type}

theorem specBody_ascii_lines (c : Coding α) (f : SpecFile α) (hf : f.format = .ascii) :
    specBody c f = flatLines (vertLines c f.verts ++
      (match f.face with | none => [] | some fe => PlyFacesAscii.faceLines c fe fe.faces)) := by
  cases hface : f.face <;>
    simp [specBody, hf, hface, flatLines, vertLines, PlyFacesAscii.faceLines, faceToksRef, joinWords, sp, List.map_map,
      Function.comp_def]

/-- STAGE 1 COMPOSED (ASCII): the vertex loop on the reference text body decodes the data of exactly the components each
located reader claims and hands exactly the face lines to the face stage -/
theorem ply_spec_readback_vertex_ascii (c : Coding α) (L : GoFloatText c) (Z : SpecIntText c) (f : SpecFile α)
    (hf : f.format = .ascii) (hprops : f.vprops ≠ [])
    (htyped : ∀ r ∈ f.verts, r.map Datum.ty = f.vprops.map (·.ty))
    (hrange : ∀ r ∈ f.verts, ∀ d ∈ r, Datum.InRange c L Z d)
    (bl : List (Built × List Nat))
    (hbuilt : bl.map (·.1) = buildAll false (specProps f) defaultReaders true)
    (hloc : ∀ p ∈ bl, LocatedA (f.vprops.map (·.ty)) p.1 p.2) :
    readBody c defaultReader (specHdr f) (specBody c f) = (do
      let idxUv ← faceStageAscii c (findElement (specHdr f) (nm "face"))
        (match f.face with | none => [] | some fe => PlyFacesAscii.faceLines c fe fe.faces)
      assemble (bl.map (·.1)) f.verts.length (f.verts.map (rowOfS c L Z bl)) idxUv) := by
  have htys : f.vprops.map (·.ty) ≠ [] := by simpa using hprops
  have hvne : ∀ r ∈ f.verts, r ≠ [] := by
    intro r hr h0
    have := htyped r hr
    rw [h0] at this
    exact htys this.symm
  have hfl : ∀ l ∈ (match f.face with | none => [] | some fe => PlyFacesAscii.faceLines c fe fe.faces), PLine l := by
    cases hface : f.face with
    | none => intro l hl; simp at hl
    | some fe => exact faceLines_pline_of_tok c fe fe.faces (fun _ => L.tokF)
  have hpl : ∀ l ∈ vertLines c f.verts ++ (match f.face with | none => [] | some fe => PlyFacesAscii.faceLines c fe fe.faces),
      PLine l := by
    intro l hl
    rcases List.mem_append.mp hl with h | h
    · exact vertLines_pline c L f.verts hvne l h
    · exact hfl l h
  have hve : findElement (specHdr f) defaultReader.attributeElement = _ := findElement_spec_vertex f
  have hfmt : (specHdr f).format = .ascii := hf
  rw [readBody_ascii c defaultReader (specHdr f) (specBody c f) _ (specProps f) hfmt hve (scalarProps_spec f) (by simp),
    specBody_ascii_lines c f hf, scanLines_flat _ hpl, filter_nonempty_plines _ hpl]
  have hlen : (specProps f).length = (f.vprops.map (·.ty)).length := by simp [specProps]
  have hvb := spec_vertex_block_ascii c L Z (f.vprops.map (·.ty)) htys bl hloc f.verts
    (match f.face with | none => [] | some fe => PlyFacesAscii.faceLines c fe fe.faces) htyped hrange
  simp only [Int.toNat_natCast, defaultReader, ← hbuilt, hlen, hvb, bind, Except.bind]

/-- ASCII POINT-CLOUD FILES FROM FILE BYTES (any property order / type mix / extra properties, located readers) -/
theorem ply_reads_spec_pointcloud_ascii_bytes (c : Coding α) (L : GoFloatText c) (Z : SpecIntText c) (f : SpecFile α)
    (hok : SpecHeaderOK f) (hf : f.format = .ascii) (hprops : f.vprops ≠ []) (hface : f.face = none)
    (htyped : ∀ r ∈ f.verts, r.map Datum.ty = f.vprops.map (·.ty))
    (hrange : ∀ r ∈ f.verts, ∀ d ∈ r, Datum.InRange c L Z d)
    (bl : List (Built × List Nat))
    (hbuilt : bl.map (·.1) = buildAll false (specProps f) defaultReaders true)
    (hloc : ∀ p ∈ bl, LocatedA (f.vprops.map (·.ty)) p.1 p.2) :
    readMesh c defaultReader (refEncode c f)
      = .ok (applyColumns ⟨.point, (List.range f.verts.length).map Int.ofNat, [], none⟩ (bl.map (·.1))
          (f.verts.map (rowOfS c L Z bl))) := by
  rw [readMesh_refEncode c f hok, ply_spec_readback_vertex_ascii c L Z f hf hprops htyped hrange bl hbuilt hloc,
    findElement_spec_face, hface]
  simp [faceStageAscii, assemble, bind, Except.bind, pure, Except.pure]

/-- the vertex side of an ASCII reference file as the theorems about face elements take it: at least one property, typed
records with data inside the law bundles, `bl` the readers `MeshReader.Read` builds, each located -/
structure VertexSideA (c : Coding α) (L : GoFloatText c) (Z : SpecIntText c) (f : SpecFile α)
    (bl : List (Built × List Nat)) : Prop where
  props : f.vprops ≠ []
  typed : ∀ r ∈ f.verts, r.map Datum.ty = f.vprops.map (·.ty)
  range : ∀ r ∈ f.verts, ∀ d ∈ r, Datum.InRange c L Z d
  built : bl.map (·.1) = buildAll false (specProps f) defaultReaders true
  loc : ∀ p ∈ bl, LocatedA (f.vprops.map (·.ty)) p.1 p.2

/-- STAGES 1 AND 2 COMPOSED (ASCII): with a face element, the face loop runs on exactly the face lines -/
theorem readBody_spec_ascii (c : Coding α) (L : GoFloatText c) (Z : SpecIntText c) (f : SpecFile α) (fe : SpecFaceElem α)
    (hf : f.format = .ascii) (hface : f.face = some fe) (bl : List (Built × List Nat)) (hv : VertexSideA c L Z f bl) :
    readBody c defaultReader (specHdr f) (specBody c f) = (do
      let r ← readFacesAscii c (lpOf fe) (findFaceProps (lpOf fe)) fe.faces.length
        ⟨[0, 0, 0, 0], List.replicate 8 (c.ofInt 0)⟩ (PlyFacesAscii.faceLines c fe fe.faces)
      assemble (bl.map (·.1)) f.verts.length (f.verts.map (rowOfS c L Z bl)) (some r)) := by
  rw [ply_spec_readback_vertex_ascii c L Z f hf hv.props hv.typed hv.range bl hv.built hv.loc, findElement_spec_face,
    hface]
  simp only [Option.map_some, faceStageAscii, listProps_lists, Int.toNat_natCast, idxProp_lists, Bool.false_eq_true,
    if_false, bind, Except.bind, pure, Except.pure]
  cases readFacesAscii c (lpOf fe) (findFaceProps (lpOf fe)) fe.faces.length
    ⟨[0, 0, 0, 0], List.replicate 8 (c.ofInt 0)⟩ (PlyFacesAscii.faceLines c fe fe.faces) <;> rfl

/-- the text encoding: the texture coordinates come back exactly as stored (`parse64_showF`); an index list of more than
4 entries is an error of the list reader itself -/
theorem asciiCodec (c : Coding α) (L : GoFloatText c) (Z : SpecIntText c) (f : SpecFile α) (fe : SpecFaceElem α)
    (hf : f.format = .ascii) (hface : f.face = some fe) (bl : List (Built × List Nat)) (hv : VertexSideA c L Z f bl) :
    FaceCodec c f fe (bl.map (·.1)) (f.verts.map (rowOfS c L Z bl)) SpecFace.uv
      (lineStep c (lpOf fe) (findFaceProps (lpOf fe))) (fun fc s => intercalate sp (faceToksRef c fe fc) :: s) [] where
  body := by
    rw [readBody_spec_ascii c L Z f fe hf hface bl hv, readFacesAscii_eq, texProp_lists, foldr_faceLines, List.append_nil]
  fan := fun fc h => lineStep_fan c fe (fun _ v => ⟨L.tokF v, L.parse64_showF v⟩) fc h
  other := fun htex fc hok b s => by
    have hno : ¬ fe.tex.isSome := by simp [htex]
    rw [lineStep_ref c fe (fun h => absurd h hno)]
    by_cases h4 : fc.verts.length ≤ 4
    · exact .inr ⟨_, by rw [readFaceAscii_ref c fe fc hok h4 (fun h => absurd h hno)]; rfl⟩
    · exact .inl (by rw [readFaceAscii_ref_long c fe htex fc hok (by omega)]; rfl)

/-- ASCII MESH FILES FROM FILE BYTES: the ASCII variant of `ply_reads_spec_mesh_bytes` — index list `vertex_indices` /
`vertex_index` declared with ANY count and index type (ASCII tokens do not depend on them), optional unrecognised list
before / after, no texcoord, triangles and quads → triangle mesh with the fan triangles in file order; the vertex side
as in the ASCII point-cloud theorem -/
theorem ply_reads_spec_mesh_ascii_bytes (c : Coding α) (L : GoFloatText c) (Z : SpecIntText c) (f : SpecFile α)
    (fe : SpecFaceElem α) (hok : SpecHeaderOK f) (hf : f.format = .ascii) (hprops : f.vprops ≠ [])
    (hface : f.face = some fe) (htex : fe.tex = none)
    (henc : ∀ fc ∈ fe.faces, FaceEncOK fe fc) (hsize : ∀ fc ∈ fe.faces, TriOrQuad fc)
    (htyped : ∀ r ∈ f.verts, r.map Datum.ty = f.vprops.map (·.ty))
    (hrange : ∀ r ∈ f.verts, ∀ d ∈ r, Datum.InRange c L Z d)
    (bl : List (Built × List Nat))
    (hbuilt : bl.map (·.1) = buildAll false (specProps f) defaultReaders true)
    (hloc : ∀ p ∈ bl, LocatedA (f.vprops.map (·.ty)) p.1 p.2) :
    readMesh c defaultReader (refEncode c f)
      = .ok (applyColumns ⟨.triangle, fanIdx fe.faces, [], none⟩ (bl.map (·.1)) (f.verts.map (rowOfS c L Z bl))) :=
  (readMesh_refEncode c f hok).trans
    ((asciiCodec c L Z f fe hf hface bl ⟨hprops, htyped, hrange, hbuilt, hloc⟩).reads_mesh htex henc hsize)

/-- ASCII: A FACE OF ANOTHER SIZE IS REJECTED (0, 1, 2 indices: the size check; ≥ 5: the ASCII list reader's `Int` fails —
an error here, not ignored as in binary) -/
theorem ply_spec_mesh_other_size_rejected_ascii (c : Coding α) (L : GoFloatText c) (Z : SpecIntText c) (f : SpecFile α)
    (fe : SpecFaceElem α) (hok : SpecHeaderOK f) (hf : f.format = .ascii) (hprops : f.vprops ≠ [])
    (hface : f.face = some fe) (htex : fe.tex = none) (henc : ∀ fc ∈ fe.faces, FaceEncOK fe fc)
    (pre : List (SpecFace α)) (bad : SpecFace α) (post : List (SpecFace α)) (hfaces : fe.faces = pre ++ bad :: post)
    (hpre : ∀ fc ∈ pre, TriOrQuad fc) (hbad : ¬ TriOrQuad bad)
    (htyped : ∀ r ∈ f.verts, r.map Datum.ty = f.vprops.map (·.ty))
    (hrange : ∀ r ∈ f.verts, ∀ d ∈ r, Datum.InRange c L Z d)
    (bl : List (Built × List Nat))
    (hbuilt : bl.map (·.1) = buildAll false (specProps f) defaultReaders true)
    (hloc : ∀ p ∈ bl, LocatedA (f.vprops.map (·.ty)) p.1 p.2) :
    readMesh c defaultReader (refEncode c f) = .error .err := by
  have henc' : ∀ fc ∈ pre ++ bad :: post, FaceEncOK fe fc := hfaces ▸ henc
  exact (readMesh_refEncode c f hok).trans
    ((asciiCodec c L Z f fe hf hface bl ⟨hprops, htyped, hrange, hbuilt, hloc⟩).rejects htex pre bad post hfaces
      (fun fc h => ⟨henc' fc (by simp [h]), hpre fc h⟩) (henc' bad (by simp)) hbad)

/-! ### non-vacuity: the mesh of `exMesh`, ASCII, with non-negative data (the toy coding parses digits only) -/

def toyIntLaw : SpecIntText toyCodingA where
  inRangeZ := fun i => 0 ≤ i
  imgZ := fun i => i.toNat % 2 ^ 32
  parse32_showInt := by
    intro i hi
    obtain ⟨n, rfl⟩ := Int.eq_ofNat_of_zero_le hi
    obtain ⟨ds, hds, _, hp⟩ := showNat_spec n
    show (parseDigits (showInt (n : Int)) 0).map (fun n => n % 2 ^ 32) = some ((n : Int).toNat % 2 ^ 32)
    rw [showInt_nat, hds, hp]; rfl

def exMeshA : SpecFile Nat :=
  { exMesh with
    format := .ascii,
    vprops := [⟨nm "z", .float, false⟩, ⟨nm "q", .double, true⟩, ⟨nm "x", .float, false⟩, ⟨nm "y", .float, true⟩],
    verts := [[.f32 3, .f64 255, .f32 1, .f32 2], [.f32 6, .f64 0, .f32 4, .f32 5], [.f32 9, .f64 51, .f32 7, .f32 8],
      [.f32 12, .f64 102, .f32 10, .f32 11]] }

def exBlA : List (Built × List Nat) :=
  [(⟨positionAttr, [nm "x", nm "y", nm "z"], [2, 3, 0], some .float⟩, [2, 3, 0]),
   (⟨nm "q", [nm "q"], [1], none⟩, [1])]

theorem exMeshA_hdr : SpecHeaderOK exMeshA where
  names := by decide
  items := exFile_hdr.items
  nverts := by decide
  nfaces := by intro fe h; simp only [exMeshA, exMesh, Option.some.injEq] at h; subst h; decide

theorem exMeshA_typed : ∀ r ∈ exMeshA.verts, r.map Datum.ty = exMeshA.vprops.map (·.ty) := by decide

theorem exMeshA_range : ∀ r ∈ exMeshA.verts, ∀ d ∈ r, Datum.InRange toyCodingA toyLaw toyIntLaw d := by
  intro r hr d hd
  simp only [exMeshA, List.mem_cons, List.not_mem_nil, or_false] at hr
  rcases hr with rfl | rfl | rfl | rfl <;>
    (simp only [List.mem_cons, List.not_mem_nil, or_false] at hd
     rcases hd with rfl | rfl | rfl | rfl <;> trivial)

theorem exBlA_built : exBlA.map (·.1) = buildAll false (specProps exMeshA) defaultReaders true := by decide +kernel

theorem exBlA_located : ∀ p ∈ exBlA, LocatedA (exMeshA.vprops.map (·.ty)) p.1 p.2 := by
  intro p hp
  simp only [exBlA, List.mem_cons, List.not_mem_nil, or_false] at hp
  rcases hp with rfl | rfl <;> exact (locatedNamedAB_sound (specProps exMeshA) _ _ (by decide +kernel)).loc

example : readMesh toyCodingA defaultReader (refEncode toyCodingA exMeshA)
    = .ok (applyColumns ⟨.triangle, [0, 1, 2, 3, 2, 1, 3, 1, 0], [], none⟩ (exBlA.map (·.1))
        (exMeshA.verts.map (rowOfS toyCodingA toyLaw toyIntLaw exBlA))) :=
  ply_reads_spec_mesh_ascii_bytes toyCodingA toyLaw toyIntLaw exMeshA exMesh.exFaces exMeshA_hdr rfl (by decide) rfl rfl
    exMesh_ok.enc exFaces_sizes exMeshA_typed exMeshA_range exBlA exBlA_built exBlA_located

/-- the same vertex data as an ASCII point cloud -/
example : ∃ m, readMesh toyCodingA defaultReader (refEncode toyCodingA { exMeshA with face := none }) = .ok m :=
  ⟨_, ply_reads_spec_pointcloud_ascii_bytes toyCodingA toyLaw toyIntLaw { exMeshA with face := none }
    ⟨exMeshA_hdr.names, exFile_hdr.items, by decide, by intro fe h; simp at h⟩
    rfl (by decide) rfl exMeshA_typed exMeshA_range exBlA exBlA_built exBlA_located⟩

/-- the ASCII file with a pentagon in second place is rejected -/
example : readMesh toyCodingA defaultReader (refEncode toyCodingA
      { exMeshA with face := some { exMesh.exFaces with faces := [⟨[0, 1, 2], [], []⟩, ⟨[0, 1, 2, 3, 0], [], [5]⟩, ⟨[1, 2, 3], [], []⟩] } })
    = .error .err :=
  ply_spec_mesh_other_size_rejected_ascii toyCodingA toyLaw toyIntLaw _ _
    ⟨exMeshA_hdr.names, exFile_hdr.items, by decide, by intro fe h; simp only [Option.some.injEq] at h; subst h; decide⟩
    rfl (by decide) rfl rfl exPenta_ok.enc
    [⟨[0, 1, 2], [], []⟩] ⟨[0, 1, 2, 3, 0], [], [5]⟩ [⟨[1, 2, 3], [], []⟩] rfl exPenta_pre
    (by simp [TriOrQuad]) exMeshA_typed exMeshA_range exBlA exBlA_built exBlA_located

end C08
end PolyVerif
