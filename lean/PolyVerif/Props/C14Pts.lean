/-
  C14 — the decisions of the PTS reader model are the decisions of the source (engine F tie, regenerated on every run).

  `PolyVerif/Gen/PtsSkeleton.lean` is regenerated by `./check C14` from /repo/formats/pts/reader.go (go/facts mode c14.pts):
  the statements before the line loop, the loop condition, every `if` of the per-line body with what its branch does
  (`return-error`, or the variables it stores and the fields of the line it parses — a parse error that is not followed by
  `if err != nil { return nil, err }` is flagged), and the error checks after the loop.  The theorems about the PTS reader
  (`pts_*`, `reader_steps_linear_pts`, `large_cut_pts`) are stated about the model in
  `PolyVerif/Model/Readers.lean`, which transcribes exactly these decisions; `pts_skeleton_from_source` pins them.  Dropping the
  completeness check after the loop, comparing with another bound, accepting short lines or ignoring a parse error breaks a
  named theorem before any sample runs.  (Core Lean only.)
-/
import PolyVerif.Gen.PtsSkeleton

namespace PolyVerif
namespace C14
open PolyVerif.Gen

/-- the count line is parsed with `Atoi` and a bad count is an error; the loop runs while there is a line AND fewer than the
    declared number of points have been read; per line: empty → error, fewer than 3 fields → error, a field count different
    from the first line's → error, positions from fields 0–2, intensity from field 3, colour from fields 4–6, every parse error
    returned; after the loop: scanner error → error, FEWER POINTS THAN DECLARED → error -/
theorem pts_skeleton_from_source :
    PtsSkeleton.loopCond = "scanner.Scan() && curLine < parsedCount" ∧
    PtsSkeleton.lineSteps =
      ["line := strings.TrimSpace(scanner.Text())",
       "if line == \"\" => return-error",
       "contents := strings.Fields(line)",
       "if len(contents) < 3 => return-error",
       "if curLine == 0 => store fieldsPerPoint from ",
       "else if len(contents) != fieldsPerPoint => return-error",
       "if len(contents) > 2 => store pos,readVerts[curLine] from contents[0],contents[1],contents[2]",
       "if len(contents) > 3 => store i,intensity[curLine],readIntensity from contents[3]",
       "if len(contents) > 6 => store pos,readColor,readColors[curLine] from contents[4],contents[5],contents[6]",
       "curLine++"] ∧
    PtsSkeleton.afterLoop =
      ["if scanner.Err() != nil => return-error", "if curLine < parsedCount => return-error"] := ⟨rfl, rfl, rfl⟩

/-- the count comes from the first line through `strconv.Atoi`, and its error is returned -/
theorem pts_count_from_source :
    "parsedCount, err := strconv.Atoi(countText)" ∈ PtsSkeleton.beforeLoop ∧
    "if err != nil => return-error" ∈ PtsSkeleton.beforeLoop := by decide

end C14
end PolyVerif
