/-
  C06 — pairing two lists position by position (a Prop-valued `allZip`).
-/
import PolyVerif.Model.GltfSpec

namespace PolyVerif
namespace C06
open Gltf

def Zip {α β} (R : α → β → Prop) : List α → List β → Prop
  | [], [] => True
  | a :: l, b :: r => R a b ∧ Zip R l r
  | _, _ => False

section
universe u v
variable {α : Type u} {β : Type v} {R : α → β → Prop}

theorem zip_imp {R' : α → β → Prop} (h : ∀ a b, R a b → R' a b) : ∀ {l : List α} {r : List β}, Zip R l r → Zip R' l r
  | [], [], _ => trivial
  | _ :: _, _ :: _, hz => ⟨h _ _ hz.1, zip_imp h hz.2⟩
  | [], _ :: _, hz => hz.elim
  | _ :: _, [], hz => hz.elim

theorem zip_snoc : ∀ {l : List α} {r : List β} {a : α} {b : β}, Zip R l r → R a b → Zip R (l ++ [a]) (r ++ [b])
  | [], [], _, _, _, hab => ⟨hab, trivial⟩
  | _ :: _, _ :: _, _, _, hz, hab => ⟨hz.1, zip_snoc hz.2 hab⟩
  | [], _ :: _, _, _, hz, _ => hz.elim
  | _ :: _, [], _, _, hz, _ => hz.elim

theorem zip_length : ∀ {l : List α} {r : List β}, Zip R l r → l.length = r.length
  | [], [], _ => rfl
  | _ :: _, _ :: _, hz => by simp [zip_length hz.2]
  | [], _ :: _, hz => hz.elim
  | _ :: _, [], hz => hz.elim

theorem allZip_of_zip {p : α → β → Bool} (h : ∀ a b, R a b → p a b = true) :
    ∀ {l : List α} {r : List β}, Zip R l r → allZip p l r = true
  | [], [], _ => rfl
  | _ :: _, _ :: _, hz => by simp [allZip, h _ _ hz.1, allZip_of_zip h hz.2]
  | [], _ :: _, hz => hz.elim
  | _ :: _, [], hz => hz.elim

theorem zip_mem_right : ∀ {l : List α} {r : List β}, Zip R l r → ∀ b ∈ r, ∃ a ∈ l, R a b
  | [], [], _, b, hb => by cases hb
  | _ :: _, _ :: _, hz, b, hb => by
    simp only [List.mem_cons] at hb
    rcases hb with rfl | hb
    · exact ⟨_, by simp, hz.1⟩
    · obtain ⟨a, ha, hr⟩ := zip_mem_right hz.2 b hb
      exact ⟨a, by simp [ha], hr⟩
  | [], _ :: _, hz, _, _ => hz.elim
  | _ :: _, [], hz, _, _ => hz.elim

/-- a Boolean test that, on related pairs, says the same as a property of the left element holds of all pairs iff the
    property holds of every left element -/
theorem zip_allZip_iff {q : α → β → Bool} {P : α → Prop} (h : ∀ a b, R a b → (q a b = true ↔ P a)) :
    ∀ {l : List α} {r : List β}, Zip R l r → (allZip q l r = true ↔ ∀ a ∈ l, P a)
  | [], [], _ => by simp [allZip]
  | a :: l, b :: r, hz => by
    simp only [allZip, Bool.and_eq_true, List.mem_cons, forall_eq_or_imp, h a b hz.1, zip_allZip_iff h hz.2]
  | [], _ :: _, hz => hz.elim
  | _ :: _, [], hz => hz.elim

theorem zip_of_forall_map : ∀ (L : List (α × β)), (∀ p ∈ L, R p.1 p.2) → Zip R (L.map Prod.fst) (L.map Prod.snd)
  | [], _ => trivial
  | p :: L, h => ⟨h p (by simp), zip_of_forall_map L (fun q hq => h q (by simp [hq]))⟩

theorem zip_mem_zip : ∀ {l : List α} {r : List β}, Zip R l r → ∀ p ∈ l.zip r, R p.1 p.2
  | [], [], _, p, hp => by cases hp
  | _ :: _, _ :: _, hz, p, hp => by
    simp only [List.zip_cons_cons, List.mem_cons] at hp
    rcases hp with rfl | hp
    · exact hz.1
    · exact zip_mem_zip hz.2 p hp
  | [], _ :: _, hz, _, _ => hz.elim
  | _ :: _, [], hz, _, _ => hz.elim

end

/-- sorting both sides by keys that agree on related elements keeps them related position by position -/
theorem zip_mergeSort {α β} {R : α → β → Prop} (ka : α → String) (kb : β → String) (hk : ∀ a b, R a b → ka a = kb b)
    {l : List α} {r : List β} (hz : Zip R l r) :
    Zip R (l.mergeSort (fun x y => !(ka y < ka x))) (r.mergeSort (fun x y => !(kb y < kb x))) := by
  have hlen := zip_length hz
  have hmem := zip_mem_zip hz
  have e1 : (l.zip r).map Prod.fst = l := List.map_fst_zip (by omega)
  have e2 : (l.zip r).map Prod.snd = r := List.map_snd_zip (by omega)
  have s1 : ((l.zip r).mergeSort (fun p q => !(ka q.1 < ka p.1))).map Prod.fst = l.mergeSort (fun x y => !(ka y < ka x)) := by
    rw [List.map_mergeSort (s := fun x y => !(ka y < ka x)) (fun _ _ _ _ => rfl), e1]
  have s2 : ((l.zip r).mergeSort (fun p q => !(ka q.1 < ka p.1))).map Prod.snd = r.mergeSort (fun x y => !(kb y < kb x)) := by
    rw [List.map_mergeSort (s := fun x y => !(kb y < kb x)) (fun p hp q hq => by rw [hk _ _ (hmem p hp), hk _ _ (hmem q hq)]), e2]
  rw [← s1, ← s2]
  exact zip_of_forall_map _ (fun p hp => hmem p (List.mem_mergeSort.mp hp))

end C06
end PolyVerif
