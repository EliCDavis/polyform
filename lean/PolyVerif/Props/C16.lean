/-
  C16 — Spatial index queries agree with exhaustive search.

  Model: `PolyVerif/Model/Tree.lean` (octree.go, bvh.go, hit.go transcribed; AABB code from
  `Gen/Transform.lean`, regenerated from /repo on every run).  Scalar: ℝ.

  For EVERY tree with the invariant `Covers` (every node's box contains the box of every element at or below it) — not
  only the ones `newOctree` builds — each pruned query returns exactly the exhaustive scan of `allElems`; `newOctree`
  (every element list, every depth) builds a `Covers` tree storing a permutation of the input; a covering BVH answers
  `Hit` as the hit list does.
-/
import PolyVerif.Lemmas.TreeTri

namespace PolyVerif
namespace C16
open PolyVerif.Tree Gen.geometry

variable {B E P K : Type}

/-- for `q` inside box `b`, `b.ClosestPoint p` is at least as close to `p` as `q` is -/
theorem aabb_lower_bound (b : Box) (p q : P3) (hq : b.Contains q = true) :
    (b.ClosestPoint p).DistanceSquared p ≤ q.DistanceSquared p :=
  C17.aabb_closestPoint_minimises_sq b p q hq

example : (⟨⟨0, 0, 0⟩, ⟨1, 1, 1⟩⟩ : Box).Contains ⟨1, 0, -1⟩ = true := by
  rw [C17.aabb_contains_iff]; norm_num [AABB.Min, AABB.Max, V3.Sub, V3.Add]

theorem aabb_contains_mono {a b : Box} (h : BoxSub a b) (v : P3) (hv : a.Contains v = true) :
    b.Contains v = true := C17.aabb_contains_of_corners h.1 h.2 v hv

/-- the distance from a point to a box does not grow when the box grows -/
theorem aabb_distance_mono {a b : Box} (h : BoxSub a b) (p : P3) :
    (b.ClosestPoint p).Distance p ≤ (a.ClosestPoint p).Distance p :=
  Real.sqrt_le_sqrt (C17.aabb_closestPoint_minimises_sq b p _ (C17.aabb_closestPoint_mem h.1 h.2 p))

/-- the slab test (`IntersectsRayInRange`, with its `kEpsilon` widening as in the source) is monotone
    in the box: whatever ray and range it accepts for a box it accepts for every containing box -/
theorem slab_mono {a b : Box} (h : BoxSub a b) (o d : P3) (mn mx : ℝ)
    (ha : intersectsRayInRange a o d mn mx = true) : intersectsRayInRange b o d mn mx = true :=
  Tree.slab_mono h o d mn mx ha

example : BoxSub (⟨⟨0, 0, 0⟩, ⟨1, 1, 1⟩⟩ : Box) ⟨⟨1, 0, 0⟩, ⟨2, 1, 3⟩⟩ := by
  constructor <;> rw [C17.aabb_contains_iff] <;> norm_num [AABB.Min, AABB.Max, V3.Sub, V3.Add]

/-- If the ray `o + t·d` — any direction, axis-parallel ones included — is inside box `a` at some
    parameter `t` of a non-empty range `[mn, mx]`, the slab test (ε-widened, strict) accepts `a` for that range, and
    with `slab_mono` every box containing `a`.  This is what justifies the primitive hypothesis of the BVH
    theorems for a primitive whose hit point lies in its own box. -/
theorem slab_sound (a b : Box) (hab : BoxSub a b) (o d : P3) (mn mx t : ℝ)
    (hr : mn < mx) (h1 : mn ≤ t) (h2 : t ≤ mx)
    (hin : a.Contains (o.Add (d.Scale t)) = true) : intersectsRayInRange b o d mn mx = true :=
  Tree.slab_mono hab o d mn mx (slab_sound_aux a o d mn mx t hr h1 h2 hin)

/-- an axis-parallel ray through the unit box is accepted (the case the plain `1/0 = 0` reading would lose) -/
example : intersectsRayInRange (⟨⟨0, 0, 0⟩, ⟨1, 1, 1⟩⟩ : Box) ⟨0, 0, -5⟩ ⟨0, 0, 1⟩ 0 100 = true := by
  refine slab_sound_aux _ _ _ 0 100 5 (by norm_num) (by norm_num) (by norm_num) ?_
  rw [C17.aabb_contains_iff]; norm_num [AABB.Min, AABB.Max, V3.Sub, V3.Add, V3.Scale]

example : (⟨⟨0, 0, 0⟩, ⟨1, 1, 1⟩⟩ : Box).Contains ((⟨-3, -3, -3⟩ : P3).Add ((⟨1, 1, 1⟩ : P3).Scale 3)) = true := by
  rw [C17.aabb_contains_iff]; norm_num [AABB.Min, AABB.Max, V3.Sub, V3.Add, V3.Scale]

/-- growing a box by `EncapsulateBounds` keeps what it contained and adds the other box -/
theorem aabb_encapsulate_contains (a b : Box) :
    BoxSub b (a.EncapsulateBounds b) ∧ ∀ v, a.Contains v = true → (a.EncapsulateBounds b).Contains v = true :=
  encapsulateBounds_sub a b

/-- `Covers t`: the bounds of every node contain the box of every element stored at or below it -/
def Covers (t : Oct Box (Elem ℝ)) : Prop := Inv (fun b e => BoxSub e.box b) t

/-- Shape of `ElementsWithinRange` / `ElementsIntersectingRay`: if accepting an element forbids pruning
    any node related to it, the pruned recursion returns exactly the filtered element list. -/
theorem pruned_eq_scan (R : B → E → Prop) (prune : B → Bool) (accept : E → Bool)
    (h : ∀ b e, R b e → accept e = true → prune b = false) :
    ∀ t : Oct B E, Inv R t → t.pruned prune accept = t.allElems.filter accept := by
  intro t
  induction t using Oct.induct' with
  | h b es cs ih =>
    intro hinv
    have hroot := hinv.root
    have hch := hinv.children
    simp only [Oct.pruned]
    by_cases hp : prune b = true
    · simp only [hp, if_true]
      symm
      rw [List.filter_eq_nil_iff]
      intro e he hacc
      have := h b e (hroot e he) hacc
      rw [this] at hp; cases hp
    · have hp' : prune b = false := by simpa using hp
      simp only [hp', Bool.false_eq_true, if_false]
      rw [Oct.allElems_node, List.filter_append, List.filter_flatMap]
      congr 1
      exact ListM.flatMap_congr (fun c hc => ih c hc (hch c hc))

/-- A child of `ElementsContainingPoint` is entered the way `ElementsWithinRange` enters any node, its own bounds tested
    first: below the root the two recursions are the same function. -/
theorem containing_child_eq_pruned (inB : B → Bool) (accept : E → Bool) : ∀ c : Oct B E,
    (if inB c.bounds then c.containing inB accept else []) = c.pruned (fun b => !inB b) accept := by
  intro c
  induction c using Oct.induct' with
  | h b es cs ih =>
    rw [show (Oct.node b es cs).bounds = b from rfl]
    simp only [Oct.containing, Oct.pruned]
    cases inB b with
    | false => rfl
    | true => simp only [if_true, Bool.not_true, Bool.false_eq_true, if_false]; rw [ListM.flatMap_congr ih]

/-- Shape of `ElementsContainingPoint`: the root is not tested, a child is entered only if its bounds pass. -/
theorem containing_eq_scan_generic (R : B → E → Prop) (inB : B → Bool) (accept : E → Bool)
    (h : ∀ b e, R b e → accept e = true → inB b = true) :
    ∀ t : Oct B E, Inv R t → t.containing inB accept = t.allElems.filter accept
  | .node b es cs, hinv => by
    simp only [Oct.containing, containing_child_eq_pruned]
    rw [Oct.allElems_node, List.filter_append, List.filter_flatMap]
    congr 1
    exact ListM.flatMap_congr fun c hc =>
      pruned_eq_scan R _ accept (fun b e hr ha => by rw [h b e hr ha]; rfl) c (hinv.children c hc)

/-- `ElementsContainingPoint` returns exactly the elements (in stored order) whose box contains `v` -/
theorem containing_eq_scan (t : Oct Box (Elem ℝ)) (ht : Covers t) (v : P3) :
    elementsContainingPoint t v = ((t.allElems.filter (fun e => e.box.Contains v)).map Elem.id) := by
  unfold elementsContainingPoint
  rw [containing_eq_scan_generic (fun (b : Box) (e : Elem ℝ) => BoxSub e.box b) _ _ _ t ht]
  intro b e hsub hacc
  exact aabb_contains_mono hsub v hacc

/-- `ElementsWithinRange` returns exactly the elements whose box is within distance `r` of `p` -/
theorem withinRange_eq_scan (t : Oct Box (Elem ℝ)) (ht : Covers t) (p : P3) (r : ℝ) :
    elementsWithinRange t p r =
      ((t.allElems.filter (fun e => decide ((e.box.ClosestPoint p).Distance p ≤ r))).map Elem.id) := by
  unfold elementsWithinRange
  rw [pruned_eq_scan (fun (b : Box) (e : Elem ℝ) => BoxSub e.box b) _ _ _ t ht]
  intro b e hsub hacc
  have h1 := aabb_distance_mono hsub p
  simp only [decide_eq_true_eq] at hacc
  simp only [decide_eq_false_iff_not, not_lt]
  linarith

theorem pruned_ray_eq_scan (t : Oct Box (Elem ℝ)) (ht : Covers t) {o d : P3} {mn mx : ℝ} :
    t.pruned (fun b => !intersectsRayInRange b o d mn mx) (fun e => intersectsRayInRange e.box o d mn mx) =
      t.allElems.filter (fun e => intersectsRayInRange e.box o d mn mx) :=
  pruned_eq_scan (fun (b : Box) (e : Elem ℝ) => BoxSub e.box b) _ _
    (fun _ _ hsub hacc => by rw [Tree.slab_mono hsub o d mn mx hacc]; rfl) t ht

/-- `ElementsIntersectingRay` returns exactly the elements whose box passes the slab test -/
theorem rayElements_eq_scan (t : Oct Box (Elem ℝ)) (ht : Covers t) (o d : P3) (mn mx : ℝ) :
    elementsIntersectingRay t o d mn mx =
      ((t.allElems.filter (fun e => intersectsRayInRange e.box o d mn mx)).map Elem.id) := by
  rw [elementsIntersectingRay, pruned_ray_eq_scan t ht]

/-- `OctTree.ClosestPoint` over any linearly ordered key: if every node's key is a lower bound for the keys of
    the elements at or below it, the best-first search returns an element of minimal key together with that
    element's closest point; it returns nothing only for a tree without elements.  (Which of several elements
    of equal minimal key is returned is left open — "ties aside".) -/
theorem closest_eq_scan_generic [LinearOrder K] (keyB : B → K) (cp : E → P) (keyP : P → K) (t : Oct B E)
    (ht : Inv (fun b e => keyB b ≤ keyP (cp e)) t) :
    match t.closest ltK keyB cp keyP with
    | none => t.allElems = []
    | some (e, pt) => e ∈ t.allElems ∧ pt = cp e ∧ ∀ e' ∈ t.allElems, keyP (cp e) ≤ keyP (cp e') := by
  have h := bestFirst_spec keyB cp keyP (t.weight + 1) [Item.cell (keyB t.bounds) t]
    (by intro i hi; rw [List.mem_singleton.mp hi]; exact ⟨rfl, ht⟩) (by simp [Item.wt])
  rwa [List.flatMap_singleton] at h

/-- `Line3D.ClosestPointOnLine` returns an end point or a point `a + (b-a)·t` with `0 ≤ t ≤ 1` -/
theorem seg_cp_cases (a b v : P3) :
    (NewLine3D a b).ClosestPointOnLine v = b ∨ (NewLine3D a b).ClosestPointOnLine v = a ∨
    ∃ t : ℝ, 0 ≤ t ∧ t ≤ 1 ∧ (NewLine3D a b).ClosestPointOnLine v = a.Add ((b.Sub a).Scale t) :=
  closestPointOnLine_cases a b v

/-- `scopedTri.ClosestPoint` (plane projection if `PointInSide` — all three pairs of normals agree — accepts it,
    else the nearest of the closest points on the three edges) of a non-degenerate triangle lies in the triangle's
    bounding box.  (It needs all three pairs: with only two compared, a projection outside the triangle can be accepted.) -/
theorem tri_closest_in_box (a b c v : P3) (hnd : 0 < ((b.Sub a).Cross (c.Sub a)).LengthSquared) :
    (aabbFromPoints3 a b c).Contains (triClosestPoint a b c v) = true := by
  unfold triClosestPoint
  by_cases hin : triPointInSide a b c ((NewPlaneFromPoints a b c).ClosestPoint v) = true
  · simp only [hin, if_true]
    exact tri_proj_in_box a b c v hnd hin
  · have hin' : triPointInSide a b c ((NewPlaneFromPoints a b c).ClosestPoint v) = false := by simpa using hin
    simp only [hin', Bool.false_eq_true, if_false]
    generalize (NewPlaneFromPoints a b c).ClosestPoint v = q
    split_ifs
    · exact (tri_box_mem ..).mpr fun k => between3_of_between_ab _ _ _ _ (seg_cp_between a b q k)
    · exact (tri_box_mem ..).mpr fun k => between3_of_between_bc _ _ _ _ (seg_cp_between b c q k)
    · exact (tri_box_mem ..).mpr fun k => between3_of_between_ca _ _ _ _ (seg_cp_between c a q k)

example : 0 < (((⟨1, 0, 0⟩ : P3).Sub ⟨0, 0, 0⟩).Cross ((⟨0, 1, 0⟩ : P3).Sub ⟨0, 0, 0⟩)).LengthSquared := by
  norm_num [V3.Sub, V3.Cross, V3.LengthSquared]

/-- the bounding boxes of points, segments and triangles are well formed (contain their own corners) -/
theorem prim_box_wf (p : Prim ℝ) (hbox : ∀ b, p = .box b → 0 ≤ b.extents.x ∧ 0 ≤ b.extents.y ∧ 0 ≤ b.extents.z) :
    BoxSub p.boundingBox p.boundingBox := by
  cases p with
  | point q =>
    constructor <;> rw [C17.aabb_contains_iff] <;>
      simp [Prim.boundingBox, NewAABB, AABB.Min, AABB.Max, V3.Sub, V3.Add, V3.Scale, V3.Zero]
  | seg a b =>
    exact boxSub_refl_of_le fun k => by
      rw [Prim.boundingBox, seg_box_min, seg_box_max, C17.co_minVector, C17.co_maxVector]; exact min_le_max
  | box b =>
    obtain ⟨h1, h2, h3⟩ := hbox b rfl
    exact C17.aabb_contains_corners b h1 h2 h3
  | tri a b c =>
    exact boxSub_refl_of_le fun k => by
      rw [Prim.boundingBox, tri_box_min, tri_box_max, C17.co_minVector, C17.co_maxVector]
      exact (min_le_left _ _).trans (le_max_left _ _)

/-- the closest point of a point / non-degenerate segment / well-formed box / non-degenerate triangle element lies
    in the element's own bounding box — the hypothesis of `closest_eq_scan` for all four element kinds.
    `_hseg` is not needed by the real-number argument (over ℝ `x/0 = 0` makes the closest point of `seg a a` the point
    `a`), but for a zero-length segment the Go code divides by the length 0 and returns NaN, so the real-number
    reading says nothing about it: such segments are excluded from the statement. -/
theorem prim_closest_in_box (p : Prim ℝ) (v : P3)
    (hbox : ∀ b, p = .box b → 0 ≤ b.extents.x ∧ 0 ≤ b.extents.y ∧ 0 ≤ b.extents.z)
    (htri : ∀ a b c, p = .tri a b c → 0 < ((b.Sub a).Cross (c.Sub a)).LengthSquared)
    (_hseg : ∀ a b, p = .seg a b → a ≠ b) :
    p.boundingBox.Contains (p.closestPoint v) = true := by
  cases p with
  | tri a b c => exact tri_closest_in_box a b c v (htri a b c rfl)
  | point q =>
    rw [C17.aabb_contains_iff]
    simp [Prim.boundingBox, Prim.closestPoint, NewAABB, AABB.Min, AABB.Max, V3.Sub, V3.Add, V3.Scale, V3.Zero]
  | box b =>
    obtain ⟨h1, h2, h3⟩ := hbox b rfl
    exact Tree.aabb_closestPoint_in_box b v h1 h2 h3
  | seg a b =>
    exact (seg_box_mem ..).mpr (seg_cp_between a b v)

/-- `OctTree.ClosestPoint` on a tree with `Covers`, whose elements' closest points lie in their boxes (`hprim`;
    discharged by `prim_closest_in_box` for non-degenerate elements — a zero-length segment, whose Go closest point is
    NaN, is outside the real-number reading):
    the returned index is that of an element minimising the (squared) distance to `v`, the returned point is that
    element's closest point; `none` (Go: `-1`) only for a tree without elements. -/
theorem closest_eq_scan (t : Oct Box (Elem ℝ)) (ht : Covers t) (v : P3)
    (hprim : ∀ e ∈ t.allElems, e.box.Contains (e.prim.closestPoint v) = true) :
    match closestPoint t v with
    | none => t.allElems = []
    | some (i, pt) => ∃ e ∈ t.allElems, e.id = i ∧ pt = e.prim.closestPoint v ∧
        ∀ e' ∈ t.allElems, pt.DistanceSquared v ≤ (e'.prim.closestPoint v).DistanceSquared v := by
  have hinv : Inv (fun (b : Box) (e : Elem ℝ) =>
      (b.ClosestPoint v).DistanceSquared v ≤ (e.prim.closestPoint v).DistanceSquared v) t := by
    refine Inv.imp (R := fun (b : Box) (e : Elem ℝ) => BoxSub e.box b)
      (Q := fun e => e.box.Contains (e.prim.closestPoint v) = true) ?_ t ht hprim
    intro b e hsub hq
    exact C17.aabb_closestPoint_minimises_sq b v _ (aabb_contains_mono hsub _ hq)
  have h := closest_eq_scan_generic (fun (b : Box) => (b.ClosestPoint v).DistanceSquared v)
    (fun (e : Elem ℝ) => e.prim.closestPoint v) (fun (pt : P3) => pt.DistanceSquared v) t hinv
  have hlt : (fun (a b : ℝ) => decide (a < b)) = (ltK : ℝ → ℝ → Bool) := by
    funext a b; simp only [ltK]
  unfold closestPoint
  rw [hlt]
  revert h
  cases Oct.closest ltK (fun (b : Box) => (b.ClosestPoint v).DistanceSquared v)
    (fun (e : Elem ℝ) => e.prim.closestPoint v) (fun (pt : P3) => pt.DistanceSquared v) t with
  | none => intro h; simpa using h
  | some r =>
    obtain ⟨e, pt⟩ := r
    intro h
    obtain ⟨h1, h2, h3⟩ := h
    simp only [Option.map_some]
    exact ⟨e, h1, rfl, h2, fun e' he' => by rw [h2]; exact h3 e' he'⟩

theorem mem_mkElems {ps : List (Prim ℝ)} {e : Elem ℝ} (he : e ∈ mkElems ps) :
    e.prim ∈ ps ∧ e.box = e.prim.boundingBox := by
  simp only [mkElems, List.mem_map] at he
  obtain ⟨⟨p, i⟩, hpi, rfl⟩ := he
  exact ⟨(List.of_mem_zip hpi).1, rfl⟩

/-- For EVERY list of elements (with well-formed boxes) and EVERY depth — 0 and the automatic
    depth included — `NewOctreeWithDepth` returns nil only for the empty list, and otherwise a tree that
    satisfies `Covers` and stores each input element exactly once (a permutation of the input).
    Octant assignment, depth cut-off and single-child collapse are those of the code. -/
theorem build_covers (ps : List (Prim ℝ)) (depth : Nat)
    (hwf : ∀ p ∈ ps, BoxSub p.boundingBox p.boundingBox) :
    match newOctreeWithDepth ps depth with
    | none => ps = []
    | some t => Covers t ∧ t.allElems.Perm (mkElems ps) := by
  have h := build_spec (Elem.box (α := ℝ)) depth (mkElems ps)
    (fun e he => by
      obtain ⟨h1, h2⟩ := mem_mkElems he
      rw [h2]; exact hwf _ h1)
  unfold newOctreeWithDepth Covers
  revert h
  cases build Elem.box depth (mkElems ps) with
  | none =>
    intro h
    simp only [mkElems, List.map_eq_nil_iff, List.zip_eq_nil_iff, List.range_eq_nil,
      List.length_eq_zero_iff, or_self] at h
    exact h
  | some t => exact id

example : ∀ p ∈ [Prim.point (⟨0, 0, 0⟩ : P3), Prim.seg ⟨1, 2, 3⟩ ⟨0, 5, 1⟩], BoxSub p.boundingBox p.boundingBox := by
  intro p _; exact prim_box_wf p (by intro b hb; simp_all)

/-- End to end, for the trees the code builds: each pruned query answers a permutation of the exhaustive scan
    over the INPUT list (element `i` of the input has index `i`). -/
theorem octree_queries_eq_scan_of_input (ps : List (Prim ℝ)) (depth : Nat)
    (hwf : ∀ p ∈ ps, BoxSub p.boundingBox p.boundingBox) (t : Oct Box (Elem ℝ))
    (ht : newOctreeWithDepth ps depth = some t) (v o d : P3) (r mn mx : ℝ) :
    (elementsContainingPoint t v).Perm (((mkElems ps).filter (fun e => e.box.Contains v)).map Elem.id) ∧
    (elementsWithinRange t v r).Perm
      (((mkElems ps).filter (fun e => decide ((e.box.ClosestPoint v).Distance v ≤ r))).map Elem.id) ∧
    (elementsIntersectingRay t o d mn mx).Perm
      (((mkElems ps).filter (fun e => intersectsRayInRange e.box o d mn mx)).map Elem.id) := by
  have h := build_covers ps depth hwf
  rw [ht] at h
  obtain ⟨hc, hp⟩ := h
  rw [containing_eq_scan t hc, withinRange_eq_scan t hc, rayElements_eq_scan t hc]
  exact ⟨(hp.filter _).map _, (hp.filter _).map _, (hp.filter _).map _⟩

/-- With a callback that records the index and leaves the range alone,
    `TraverseIntersectingRay` visits exactly the elements `ElementsIntersectingRay` returns, in the same order
    (hence, by `rayElements_eq_scan`, exactly the exhaustive scan on a `Covers` tree). -/
theorem traverse_visits_all_hits (t : Oct Box (Elem ℝ)) (o d : P3) (mn mx : ℝ) :
    traverseIntersectingRay t o d mn mx = elementsIntersectingRay t o d mn mx := by
  unfold traverseIntersectingRay elementsIntersectingRay
  rw [traverse_eq_pruned (fun (b : Box) lo hi => intersectsRayInRange b o d lo hi)
    (fun (e : Elem ℝ) lo hi => intersectsRayInRange e.box o d lo hi) Elem.id (mn, mx) t []]
  simp

/-- `TraverseIntersectingRay` with a MONOTONE callback — one that records the index and may move `*min`/`*max`, but only
    into the current range and never inside `[mn*, mx*]` (e.g. shortening `*max` to the nearest hit found so far, with
    `mx*` the final nearest distance): on a `Covers` tree with well-formed element boxes it visits ONLY elements whose box
    the slab test accepts for the initial range, and it visits EVERY element whose box the slab test accepts for
    `[mn*, mx*]`.  (`sh` is the callback's effect on the range; it may depend on the element and on everything visited so far.) -/
theorem traverse_monotone_callback (t : Oct Box (Elem ℝ)) (ht : Covers t)
    (hwf : ∀ e ∈ t.allElems, BoxSub e.box e.box) (o d : P3)
    (sh : Elem ℝ → ℝ × ℝ → List (Elem ℝ) → ℝ × ℝ) (rstar r0 : ℝ × ℝ) (hsh : MonoCallback sh rstar)
    (h0 : rsub rstar r0) :
    let visited := t.traverse (fun b lo hi => intersectsRayInRange b o d lo hi)
      (fun e lo hi => intersectsRayInRange e.box o d lo hi) (fun e r a => (sh e r a, e :: a)) r0 []
    (∀ e ∈ visited, e ∈ t.allElems ∧ intersectsRayInRange e.box o d r0.1 r0.2 = true) ∧
    (∀ e ∈ t.allElems, intersectsRayInRange e.box o d rstar.1 rstar.2 = true → e ∈ visited) := by
  have h := traverse_mono_sandwich (fun (b : Box) lo hi => intersectsRayInRange b o d lo hi)
    (fun (e : Elem ℝ) lo hi => intersectsRayInRange e.box o d lo hi) sh rstar r0 hsh
    (fun (b : Box) (e : Elem ℝ) => BoxSub e.box b)
    (fun b e hsub r hacc => Tree.slab_mono hsub o d r.1 r.2 hacc) t ht
    (fun e he r r' hr hacc => slab_mono_range (hwf e he) o d r.1 r.2 r'.1 r'.2 hr.1 hr.2 hacc)
    r0 [] h0 (rsub_refl r0)
  obtain ⟨_, h2, h3⟩ := h
  refine ⟨fun e he => ?_, h3⟩
  rcases h2 e he with h | h
  · cases h
  · exact h

/-- a callback that shortens `*max` to a recorded distance but never below `m` is monotone w.r.t. `[mn, m]` -/
example (dist : Elem ℝ → ℝ) (mn m : ℝ) :
    MonoCallback (fun e (r : ℝ × ℝ) (_ : List (Elem ℝ)) => (r.1, min r.2 (max (dist e) m))) (mn, m) := by
  intro e rng acc h
  refine ⟨⟨le_refl _, min_le_left _ _⟩, ⟨h.1, le_min h.2 (le_max_right _ _)⟩⟩

variable {H : Type}

/-- For EVERY BVH whose node boxes cover the boxes of the primitives below them (`BInv` — in particular for
    every outcome of the random axis choice and of the unstable sort), `BVHNode.Hit` returns the same hit flag
    and the same distance as `HitList.Hit` run over the tree's primitives in leaf order, for every range.
    Geometry is abstract: all that is used of a primitive is that when its `Hit` succeeds within a range, the
    slab test accepts its box for that range; all that is used of the box test is monotonicity (`slab_mono`).
    `hprim` is asked for EVERY range, the empty-interior ones `mx ≤ mn` included, which the real slab test rejects
    while a sphere can be hit at exactly `mn = mx` (`bvh_differs_on_point_range`): for real primitives use
    `RPrims.bvh_hit_eq_list_nonempty` (ranges `mn < mx`, hypotheses for the leaves only). -/
theorem bvh_hit_eq_list (sub : B → B → Prop) (boxH : H → B) (slab : B → K → K → Bool)
    (primHit : H → K → K → Option K)
    (hmono : ∀ a b mn mx, sub a b → slab a mn mx = true → slab b mn mx = true)
    (hprim : ∀ h mn mx d, primHit h mn mx = some d → slab (boxH h) mn mx = true)
    (t : Bvh B H) (ht : BInv sub boxH t) (mn mx : K) :
    t.hit slab primHit mn mx = listHit primHit t.leaves mn mx := by
  rw [Bvh.hit_eq_run, listHit_eq_foldl,
    Bvh.run_eq_foldl slab primHit mn sub boxH (fun _ => True) t ht (fun _ _ _ _ => trivial) ?_ _ trivial]
  intro b st _ hs h _ hsub
  simp only [hitStep]
  cases hp : primHit h mn st.2 with
  | none => rfl
  | some d => rw [hmono _ _ mn st.2 hsub (hprim h mn st.2 d hp)] at hs; cases hs

/-- the same with the real box test of `geometry.AABB` for a ray `(o, d)` -/
theorem bvh_hit_eq_list_aabb (boxH : H → Box) (o d : P3) (primHit : H → ℝ → ℝ → Option ℝ)
    (hprim : ∀ h mn mx dist, primHit h mn mx = some dist → intersectsRayInRange (boxH h) o d mn mx = true)
    (t : Bvh Box H) (ht : BInv BoxSub boxH t) (mn mx : ℝ) :
    t.hit (fun b lo hi => intersectsRayInRange b o d lo hi) primHit mn mx = listHit primHit t.leaves mn mx :=
  bvh_hit_eq_list BoxSub boxH _ primHit (fun _ _ mn mx hs ha => Tree.slab_mono hs o d mn mx ha) hprim t ht mn mx

/-- `HitList.Hit` answers the NEAREST of the individual hits (and misses only if every primitive misses),
    for primitives that report their first hit `f h` beyond `mn` exactly when it is within the range. -/
theorem hitlist_nearest [LinearOrder K] (f : H → Option K) (primHit : H → K → K → Option K) (mn : K)
    (hc : ∀ h mx, primHit h mn mx = (f h).bind (fun d => if d ≤ mx then some d else none))
    (hs : List H) (mx : K) :
    (listHit primHit hs mn mx = none → ∀ h ∈ hs, primHit h mn mx = none) ∧
    (∀ d, listHit primHit hs mn mx = some d →
      (∃ h ∈ hs, primHit h mn mx = some d) ∧ ∀ h ∈ hs, ∀ d', primHit h mn mx = some d' → d ≤ d') :=
  listHit_spec f primHit mn hs (fun h _ => hc h) mx

/-- BVH against an exhaustive `HitList` in ANY order (and with any multiplicities — a one-object span stores
    the object as both children): same flag, same nearest distance. -/
theorem bvh_hit_eq_hitlist_any_order [LinearOrder K] (sub : B → B → Prop) (boxH : H → B)
    (slab : B → K → K → Bool) (f : H → K → Option K) (primHit : H → K → K → Option K)
    (hmono : ∀ a b mn mx, sub a b → slab a mn mx = true → slab b mn mx = true)
    (hprim : ∀ h mn mx d, primHit h mn mx = some d → slab (boxH h) mn mx = true)
    (hc : ∀ h mn mx, primHit h mn mx = (f h mn).bind (fun d => if d ≤ mx then some d else none))
    (t : Bvh B H) (ht : BInv sub boxH t) (objs : List H) (hobjs : ∀ h, h ∈ objs ↔ h ∈ t.leaves) (mn mx : K) :
    t.hit slab primHit mn mx = listHit primHit objs mn mx := by
  rw [bvh_hit_eq_list sub boxH slab primHit hmono hprim t ht mn mx]
  exact (listHit_congr_mem (fun h => f h mn) primHit mn objs t.leaves (fun h _ mx => hc h mn mx) hobjs mx).symm

/-- Nearest ray hit through the OCTREE (`rendering.Tree.Hit`, tree.go, and `rendering.Mesh.Hit2`: collect
    `ElementsIntersectingRay`, then the `HitList` loop over those): on a `Covers` tree it returns the same flag and
    distance as the `HitList` loop over ALL elements — for primitives that hit only where the slab test accepts their
    box and report their first hit exactly when it is within the range. -/
theorem octree_hit_eq_hitlist (t : Oct Box (Elem ℝ)) (ht : Covers t) (o d : P3)
    (f : Elem ℝ → Option ℝ) (primHit : Elem ℝ → ℝ → ℝ → Option ℝ) (mn mx : ℝ)
    (hprim : ∀ e ∈ t.allElems, ∀ dist, primHit e mn mx = some dist → intersectsRayInRange e.box o d mn mx = true)
    (hc : ∀ e ∈ t.allElems, ∀ mx', primHit e mn mx' = (f e).bind (fun x => if x ≤ mx' then some x else none)) :
    listHit primHit (t.pruned (fun b => !intersectsRayInRange b o d mn mx)
      (fun e => intersectsRayInRange e.box o d mn mx)) mn mx = listHit primHit t.allElems mn mx := by
  rw [pruned_ray_eq_scan t ht]
  refine listHit_congr_hits f primHit mn _ _ (fun e he => hc e (he.elim List.mem_of_mem_filter id)) mx ?_
  intro e dist hp
  rw [List.mem_filter, and_iff_left_iff_imp]
  exact fun he => hprim e he dist hp

/-- `NewBVHTree` (any axis choices, any outcome of the unstable sort: `reorder` is an arbitrary function returning a
    permutation) builds, for every non-empty object list, a tree whose boxes cover (`BInv`) and whose primitives
    are exactly the given objects. -/
theorem bvh_build_covers (sub : B → B → Prop) (boxH : H → B) (union : B → B → B) (reorder : List H → List H)
    (hre : ∀ l, (reorder l).Perm l) (hun : ∀ a b, sub a (union a b) ∧ sub b (union a b))
    (htrans : ∀ a b c, sub a b → sub b c → sub a c)
    (hs : List H) (hne : hs ≠ []) :
    ∃ t, bvhBuild reorder boxH union hs.length hs = some t ∧ BInv sub boxH t ∧ (∀ h, h ∈ t.leaves ↔ h ∈ hs) := by
  obtain ⟨t, h1, h2, h3, _⟩ := bvhBuild_spec sub boxH union reorder hre hun htrans hs.length hs hne le_rfl
  exact ⟨t, h1, h2, h3⟩

/-- the box a BVH node gets: `NewEmptyAABB` + two `EncapsulateBounds` (bvh.go:108-110) -/
noncomputable def bvhUnion (a b : Box) : Box := ((NewEmptyAABB : Box).EncapsulateBounds a).EncapsulateBounds b

/-- End to end for the BVH with the real box code: for every non-empty list of primitives with well-formed boxes,
    every axis/sort outcome, every ray and range, `BVHNode.Hit` on the built tree = `HitList.Hit` on the
    original list (flag and nearest distance), for primitives that hit only inside their box and report
    their first hit exactly when it is within the range. -/
theorem bvh_built_hit_eq_hitlist (boxH : H → Box) (reorder : List H → List H) (hre : ∀ l, (reorder l).Perm l)
    (o d : P3) (f : H → ℝ → Option ℝ) (primHit : H → ℝ → ℝ → Option ℝ)
    (hprim : ∀ h mn mx dist, primHit h mn mx = some dist → intersectsRayInRange (boxH h) o d mn mx = true)
    (hc : ∀ h mn mx, primHit h mn mx = (f h mn).bind (fun x => if x ≤ mx then some x else none))
    (objs : List H) (hne : objs ≠ []) (hwf : ∀ h ∈ objs, BoxSub (boxH h) (boxH h)) (mn mx : ℝ) :
    ∃ t, bvhBuild reorder boxH bvhUnion objs.length objs = some t ∧
      t.hit (fun b lo hi => intersectsRayInRange b o d lo hi) primHit mn mx = listHit primHit objs mn mx := by
  obtain ⟨t, h1, h2, h3⟩ := bvh_build_covers BoxSub boxH bvhUnion reorder hre
    emptyEncapsulate_sub (fun _ _ _ => boxSub_trans) objs hne
  refine ⟨t, h1, ?_⟩
  exact bvh_hit_eq_hitlist_any_order BoxSub boxH _ f primHit
    (fun _ _ mn mx hs ha => Tree.slab_mono hs o d mn mx ha) hprim hc t h2 objs (fun h => (h3 h).symm) mn mx

/-- the two primitive hypotheses of the BVH theorems (`hprim`: a hit implies the real slab test accepts the box;
    `hc`: the first hit is reported exactly when within the range) are jointly satisfiable with the real box test:
    a primitive with the unit box, hit at parameter 5 by the axis-parallel ray from (0,0,−5) along +z -/
example :
    let boxH : Unit → Box := fun _ => ⟨⟨0, 0, 0⟩, ⟨1, 1, 1⟩⟩
    let f : Unit → ℝ → Option ℝ := fun _ mn => if mn < 5 then some 5 else none
    let primHit : Unit → ℝ → ℝ → Option ℝ := fun h mn mx => (f h mn).bind (fun x => if x ≤ mx then some x else none)
    (∀ h mn mx dist, primHit h mn mx = some dist → intersectsRayInRange (boxH h) ⟨0, 0, -5⟩ ⟨0, 0, 1⟩ mn mx = true) ∧
    (∀ h mn mx, primHit h mn mx = (f h mn).bind (fun x => if x ≤ mx then some x else none)) := by
  intro boxH f primHit
  refine ⟨?_, fun _ _ _ => rfl⟩
  intro h mn mx dist hp
  simp only [primHit, f] at hp
  by_cases h5 : mn < 5
  · simp only [h5, if_true, Option.bind_some] at hp
    by_cases hm : (5 : ℝ) ≤ mx
    · refine slab_sound_aux _ _ _ mn mx 5 (lt_of_lt_of_le h5 hm) h5.le hm ?_
      rw [C17.aabb_contains_iff]; norm_num [boxH, AABB.Min, AABB.Max, V3.Sub, V3.Add, V3.Scale]
    · simp [hm] at hp
  · simp [h5] at hp

/-- a covering BVH over two "primitives" on the integers (box = interval, slab = overlap with the range) -/
example : BInv (fun (a b : Int × Int) => b.1 ≤ a.1 ∧ a.2 ≤ b.2) (fun (h : Int × Int) => h)
    (Bvh.node (0, 9) (.leaf (0, 3)) (.leaf (5, 9))) := by
  refine BInv.node ?_ (BInv.leaf _) (BInv.leaf _)
  intro h hh
  simp [Bvh.leaves] at hh
  rcases hh with rfl | rfl <;> decide

/-- End to end for `ClosestPoint`: on the tree `NewOctreeWithDepth` builds from ANY non-empty list of points, segments,
    well-formed boxes and non-degenerate triangles (no zero-length segment), at ANY depth, `OctTree.ClosestPoint` returns the index of an input
    element that minimises the distance over the whole input, together with that element's closest point. -/
theorem octree_closest_eq_scan_of_input (ps : List (Prim ℝ)) (depth : Nat)
    (hbox : ∀ p ∈ ps, ∀ b, p = .box b → 0 ≤ b.extents.x ∧ 0 ≤ b.extents.y ∧ 0 ≤ b.extents.z)
    (htri : ∀ p ∈ ps, ∀ a b c, p = .tri a b c → 0 < ((b.Sub a).Cross (c.Sub a)).LengthSquared)
    (hseg : ∀ p ∈ ps, ∀ a b, p = .seg a b → a ≠ b)
    (t : Oct Box (Elem ℝ)) (ht : newOctreeWithDepth ps depth = some t) (v : P3) :
    ∃ i pt, closestPoint t v = some (i, pt) ∧ ∃ e ∈ mkElems ps, e.id = i ∧ pt = e.prim.closestPoint v ∧
      ∀ e' ∈ mkElems ps, pt.DistanceSquared v ≤ (e'.prim.closestPoint v).DistanceSquared v := by
  have hb := build_covers ps depth (fun p hp => prim_box_wf p (hbox p hp))
  rw [ht] at hb
  obtain ⟨hc, hp⟩ := hb
  have hprim : ∀ e ∈ t.allElems, e.box.Contains (e.prim.closestPoint v) = true := by
    intro e he
    obtain ⟨h1, h2⟩ := mem_mkElems (hp.subset he)
    rw [h2]
    exact prim_closest_in_box e.prim v (hbox _ h1) (htri _ h1) (hseg _ h1)
  have h := closest_eq_scan t hc v hprim
  revert h
  cases hcl : closestPoint t v with
  | none =>
    intro h
    simp only at h
    have : mkElems ps = [] := by
      have := hp.symm.subset
      rw [h] at this
      exact List.eq_nil_iff_forall_not_mem.mpr (fun e he => by simpa using this he)
    have hps : ps = [] := by
      simp only [mkElems, List.map_eq_nil_iff, List.zip_eq_nil_iff, List.range_eq_nil,
        List.length_eq_zero_iff, or_self] at this
      exact this
    subst hps
    simp [newOctreeWithDepth, mkElems, build] at ht
  | some r =>
    obtain ⟨i, pt⟩ := r
    intro h
    obtain ⟨e, he, hid, hpt, hmin⟩ := h
    exact ⟨i, pt, rfl, e, hp.subset he, hid, hpt, fun e' he' => hmin e' (hp.symm.subset he')⟩

/-! ### the on-face corner of the slab test, both IEEE outcomes

`intersectsRayInRange` reads a zero direction component with the origin EXACTLY on the ε-widened face as IEEE `-0`
does (reject); `intersectsRayInRangePos` reads it as `+0` does (`0·Inf = NaN` compares false: accept).  Everywhere else
the two agree.  Both readings are monotone in the box, so the tree = scan theorems hold for either. -/

/-- the `+0` reading of the slab test is monotone in the box and in the range -/
theorem slab_mono_posZero {a b : Box} (h : BoxSub a b) (o d : P3) (mn mx : ℝ)
    (ha : intersectsRayInRangePos a o d mn mx = true) : intersectsRayInRangePos b o d mn mx = true :=
  slab3_mono slabComponentPos slabComponentPos_axisMono h o d mn mx mn mx le_rfl le_rfl ha

/-- the `+0` reading accepts whatever the `-0` reading accepts (they differ only on the faces) -/
theorem slab_posZero_of_negZero (b : Box) (o d : P3) (mn mx : ℝ) (h : intersectsRayInRange b o d mn mx = true) :
    intersectsRayInRangePos b o d mn mx = true := by
  have key : ∀ o d tmin tmax lo hi : ℝ, (slabComponent o d tmin tmax lo hi).1 = false →
      slabComponentPos o d tmin tmax lo hi = slabComponent o d tmin tmax lo hi := by
    intro o d tmin tmax lo hi hf
    by_cases hd : d = 0
    · subst hd
      by_cases hin : lo < o ∧ o < hi
      · rw [slabComponent_zero_in _ _ _ _ _ hin.1 hin.2]
        simp [slabComponentPos, hin.1.le, hin.2.le]
      · rw [slabComponent_zero_out _ _ _ _ _ hin] at hf; cases hf
    · simp [slabComponentPos, hd, slabComponent_ne _ _ _ _ _ _ hd]
  rw [intersectsRayInRange_eq_slab3, slab3_eq_true] at h
  obtain ⟨hx, hy, hz⟩ := h
  rw [intersectsRayInRangePos, slab3_eq_true]
  simp only [key _ _ _ _ _ _ hx, key _ _ _ _ _ _ hy, key _ _ _ _ _ _ hz]
  exact ⟨hx, hy, hz⟩

/-- `ElementsIntersectingRay` = exhaustive scan under the `+0` reading as well -/
theorem rayElements_eq_scan_posZero (t : Oct Box (Elem ℝ)) (ht : Covers t) (o d : P3) (mn mx : ℝ) :
    t.pruned (fun b => !intersectsRayInRangePos b o d mn mx) (fun e => intersectsRayInRangePos e.box o d mn mx) =
      t.allElems.filter (fun e => intersectsRayInRangePos e.box o d mn mx) := by
  refine pruned_eq_scan (fun (b : Box) (e : Elem ℝ) => BoxSub e.box b) _ _ ?_ t ht
  intro b e hsub hacc
  simp [slab_mono_posZero hsub o d mn mx hacc]

/-- on the face itself the two readings do differ: one axis, zero direction component, origin `1 + 1e-10` on the
    widened upper face of the slab `[0 - 1e-10, 1 + 1e-10]`, range `[0, 100]` -/
example : (slabComponentPos (1 + (kEps : ℝ)) 0 0 100 (0 - (kEps : ℝ)) (1 + (kEps : ℝ))).1 = false ∧
    (slabComponent (1 + (kEps : ℝ)) 0 0 100 (0 - (kEps : ℝ)) (1 + (kEps : ℝ))).1 = true := by
  have keps : (0 : ℝ) < kEps := by simp [kEps]
  constructor
  · have h : (-(kEps : ℝ) ≤ 1 + (kEps : ℝ)) := by linarith
    simp only [slabComponentPos, if_true, zero_sub, le_refl, and_true, h]
    norm_num
  · exact slabComponent_zero_out _ _ _ _ _ (by intro h; exact lt_irrefl _ h.2)

/-- a tree satisfying `Covers` in which pruning actually matters (two leaves under one root) -/
noncomputable def exTree : Oct Box (Elem ℝ) :=
  .node ⟨⟨1, 0, 0⟩, ⟨2, 1, 1⟩⟩ []
    [.node ⟨⟨0, 0, 0⟩, ⟨1, 1, 1⟩⟩ [⟨.point ⟨0, 0, 0⟩, ⟨⟨0, 0, 0⟩, ⟨1, 1, 1⟩⟩, 0⟩] [],
     .node ⟨⟨2, 0, 0⟩, ⟨1, 1, 1⟩⟩ [⟨.point ⟨2, 0, 0⟩, ⟨⟨2, 0, 0⟩, ⟨1, 1, 1⟩⟩, 1⟩] []]

example : Covers exTree := by
  have sub : ∀ a b : Box, (b.Min.x ≤ a.Min.x ∧ b.Min.y ≤ a.Min.y ∧ b.Min.z ≤ a.Min.z ∧ a.Min.x ≤ b.Max.x ∧ a.Min.y ≤ b.Max.y ∧ a.Min.z ≤ b.Max.z) →
      (b.Min.x ≤ a.Max.x ∧ b.Min.y ≤ a.Max.y ∧ b.Min.z ≤ a.Max.z ∧ a.Max.x ≤ b.Max.x ∧ a.Max.y ≤ b.Max.y ∧ a.Max.z ≤ b.Max.z) → BoxSub a b := by
    intro a b h1 h2; exact ⟨(C17.aabb_contains_iff _ _).mpr h1, (C17.aabb_contains_iff _ _).mpr h2⟩
  unfold Covers exTree
  refine Inv.node ?_ ?_
  · intro e he
    simp [Oct.allElems] at he
    rcases he with rfl | rfl <;> apply sub <;> norm_num [AABB.Min, AABB.Max, V3.Sub, V3.Add]
  · intro c hc
    simp at hc
    rcases hc with rfl | rfl <;> refine Inv.node ?_ (by simp) <;> intro e he <;> simp [Oct.allElems] at he <;>
      subst he <;> apply sub <;> norm_num [AABB.Min, AABB.Max, V3.Sub, V3.Add]

end C16
end PolyVerif
