/-
  C18 — the per-vertex mesh operations behind the cap / quad placement, regenerated.

  `Cylinder.ToMesh` places its caps with `Mesh.Translate` (mesh.go) and `meshops.RotateAttribute3DTransformer`
  (→ `RotateAttribute3D`, meshops/rotate_attribute.go); `Model/SolidsAssembly.lean` interprets an extracted `Placement`
  as "`Quaternion.Rotate` per vector, then `Add` per vertex".  Engine F (`go/facts c18.meshops`) reads the two Go
  functions, REFUSES them unless each is exactly one loop over ALL elements of one float3 attribute that writes one
  expression back to the same attribute, and regenerates that expression (`Gen/PrimMeshOps.lean`).  Here the interpreter's
  placement is proved to be the composition of the regenerated per-vertex operations, for every scalar.
-/
import PolyVerif.Model.SolidsAssembly
import PolyVerif.Gen.PrimMeshOps

namespace PolyVerif
namespace C18
open Solids LoopIR Gen
variable {α : Type} [Scalar α]

/-- mesh.go `Mesh.Translate`: the regenerated loop body `oldData[i].Add(v)` is the `Add` the interpreter uses; the
    attribute it rewrites is the position attribute -/
theorem translate_from_source (x v : V3 α) :
    Gen.PrimMeshOps.translateVertex x v = x.Add v ∧ Gen.PrimMeshOps.translateAttribute = "PositionAttribute" :=
  ⟨rfl, rfl⟩

/-- rotate_attribute.go `RotateAttribute3D`: the regenerated loop body `q.Rotate(oldData.At(i))` is the regenerated
    quaternion rotation the interpreter uses -/
theorem rotateAttribute_from_source (q : Gen.quaternion.Quaternion α) (x : V3 α) :
    Gen.PrimMeshOps.rotateVertex q x = q.Rotate x := rfl

/-- **placement of positions = regenerated `RotateAttribute3D` body, then regenerated `Mesh.Translate` body** (each only
    where the extracted `Placement` has that step) -/
theorem placePos_from_source (fpar fenv : Nat → α) (p : Placement) (x : V3 α) :
    placePos fpar fenv p x =
      (let x1 := match p.rotPos with
        | none => x
        | some (θ, ax) => Gen.PrimMeshOps.rotateVertex (quaternion.FromTheta (evalFE fpar fenv θ) (evalVE fpar fenv ax)) x
       match p.translate with
       | none => x1
       | some t => Gen.PrimMeshOps.translateVertex x1 (evalVE fpar fenv t)) := rfl

/-- placement of normals = regenerated `RotateAttribute3D` body (normals are never translated) -/
theorem placeNrm_from_source (fpar fenv : Nat → α) (p : Placement) (n : V3 α) :
    placeNrm fpar fenv p n =
      (match p.rotNrm with
       | none => n
       | some (θ, ax) => Gen.PrimMeshOps.rotateVertex (quaternion.FromTheta (evalFE fpar fenv θ) (evalVE fpar fenv ax)) n) := rfl

end C18
end PolyVerif
