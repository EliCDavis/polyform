/-
  C15 — the .splat record encoder of the hand model IS the write sequence of the source (engine F tie, regenerated on every
  run).

  `PolyVerif/Gen/SplatRecord.lean` is regenerated by `./check C15` from /repo/formats/splat/write.go (go/facts mode
  c15.splatrecord): one iteration of the record loop of `splat.Write`, translated into a Lean definition over the codec
  environment — the argument of every `writer.Float32` / `writer.Byte` call in source order, with the local vector chains
  (`Scale(SH_C0).Add(Fill(0.5)).Clamp(0, 1)`, `Scale(128).Add(Fill(128)).Clamp(0, 255)`) read componentwise, the sigmoid of
  the opacity, `float32(·)` as `E.to32` and `byte(·)` as `byteOf (E.trunc ·)`.  Every C15 .splat theorem is stated about
  `PolyVerif/Model/Splat.lean`; `encSplat_from_source` proves its `encSplat` (quantisers included) equal to the regenerated
  sequence for every environment and splat, by `rfl`, and `encRec_from_source` that the 32 bytes of a record are that
  sequence serialised little endian.  A changed quantiser constant, clamp bound, field order, a dropped clamp or a swapped
  attribute breaks a named theorem before any sample runs.  (Core Lean only.)
-/
import PolyVerif.Model.Splat
import PolyVerif.Gen.SplatRecord

namespace PolyVerif
namespace C15
open Splat Scalar
open PolyVerif.Gen

variable {α : Type} [Scalar α]

/-- the fields of a record in file order: six 32-bit words, then eight bytes -/
def recSeq (r : Rec) : List (UInt32 ⊕ UInt8) :=
  [.inl r.p0, .inl r.p1, .inl r.p2, .inl r.s0, .inl r.s1, .inl r.s2,
   .inr r.c0, .inr r.c1, .inr r.c2, .inr r.al, .inr r.r0, .inr r.r1, .inr r.r2, .inr r.r3]

/-- what the `bitlib` little-endian writer appends for one call -/
def serialise : List (UInt32 ⊕ UInt8) → List UInt8
  | [] => []
  | .inl w :: rest => le32 w ++ serialise rest
  | .inr b :: rest => b :: serialise rest

/-- the model's per-splat encoder — every quantiser of it — is one iteration of the record loop of `splat.Write` as
    written, for every codec environment and every splat -/
theorem encSplat_from_source (E : Env α) (s : Splat α) :
    SplatRecord.writeSeq E s = recSeq (encSplat E s) := rfl

/-- the 32 bytes of a record are the regenerated write sequence serialised little endian -/
theorem encRec_from_source (E : Env α) (s : Splat α) :
    serialise (SplatRecord.writeSeq E s) = encRec (encSplat E s) := by
  rw [encSplat_from_source]
  simp [recSeq, serialise, encRec]

/-- the model's per-record decoder — every dequantiser of it — is one iteration of the record loop of `splat.Read` as
    written (words and bytes at the offsets the source reads, `float64(byte)/255`, `((·) − 0.5)/SH_C0`, `−log(1/a − 1)`,
    `(b − 128)/128`, `log` of the scales), for every codec environment and record; the five slices are checked by the
    extractor to be stored under the right attribute names -/
theorem decSplat_from_source (E : Env α) (r : Rec) :
    SplatRecord.readSplat E r = decSplat E r := rfl

/-- records are read through a 32-byte buffer -/
theorem splat_read_buffer_from_source : SplatRecord.readBuffer = "make([]byte, 32)" := rfl

/-- the record loop of `splat.Read` stops at the first failed `io.ReadFull` of 32 bytes; a clean end of input (`io.EOF`: zero
    bytes of a further record) is not an error, a partial record (`io.ErrUnexpectedEOF`) is — the exact prefix law of C14
    (`floor(k/32)` records, error iff 32 does not divide k) -/
theorem splat_read_loop_from_source :
    SplatRecord.readAfterLoop = ["if err == io.EOF { err = nil }", "return <cloud>, err"] := rfl

/-- the spherical-harmonics constant and the byte order of the writer -/
theorem splat_constants_from_source :
    SplatRecord.shC0Literal = "0.28209479177387814" ∧
    SplatRecord.writerCtor = "bitlib.NewWriter(out, binary.LittleEndian)" := ⟨rfl, rfl⟩

/-- every record is 32 bytes: six words and eight bytes -/
theorem splat_record_32 (E : Env α) (s : Splat α) : (serialise (SplatRecord.writeSeq E s)).length = 32 := by
  rw [encRec_from_source]
  simp [encRec, le32]

end C15
end PolyVerif
