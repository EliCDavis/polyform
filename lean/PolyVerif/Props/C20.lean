/-
  C20 — 2-D triangulation is a consistently wound Delaunay triangulation of the input.
  Theorems about the model `PolyVerif/Model/Delaunay.lean` of
  /repo/modeling/triangulation/bowyer_watson.go.

  PARTIAL: the property's main claim — Bowyer–Watson with this finite super-triangle returns a non-overlapping,
  empty-circumcircle triangulation for EVERY point set in general position — is NOT proved here; it is stated as
  `def C20_full : Prop` and left open.  What is proved: the sign convention of the in-circle determinant, invariants of
  the algorithm model (vertices, index range, winding — non-strict `orient ≤ 0`; strictness is decided per run by
  `windingOk`), adequacy of the super-triangle, and the SOUNDNESS OF THE EXECUTABLE CHECKERS that the driver applies,
  in exact arithmetic, to each output of the real implementation (sound per input, sampled over inputs).
  Also: the result does not depend on Go's map iteration order (`bw_order_independent`), and the empty-circumcircle and
  strict-winding clauses hold of the model under ONE combinatorial hypothesis, `CavityDisc`, decided per run by `cavityDiscOk`
  (`bw_delaunay_of_cavityDisc`).
  `bw_vertices_are_inputs` and `vertices_check_sound` are definitional (the model builds the vertex list by the same
  map the checker compares with).
-/
import PolyVerif.Lemmas.Cavity
import PolyVerif.Lemmas.InCircle

set_option linter.unusedSectionVars false

namespace PolyVerif
namespace C20
open Delaunay

/-- the vertex checker (run on raw float64 bit patterns) accepts exactly the list `(xᵢ, 0, yᵢ)` -/
theorem vertices_check_sound {α : Type} [Zero α] [BEq α] [LawfulBEq α]
    (pts : List (Pt α)) (out : List (α × α × α)) (h : verticesOk pts out = true) :
    out.length = pts.length ∧
      ∀ i (hi : i < pts.length) (ho : i < out.length), out[i] = ((pts[i]).1, 0, (pts[i]).2) := by
  have e : out = bwVertices pts := by simpa [verticesOk] using h
  subst e
  refine ⟨by simp [bwVertices], ?_⟩
  intro i hi ho
  simp [bwVertices]

example : verticesOk [((1 : Nat), 2), (3, 4)] [(1, 0, 2), (3, 0, 4)] = true := by decide

theorem indices_check_sound (n : Nat) (tris : List Tri) (h : indicesOk n tris = true) :
    ∀ t ∈ tris, t.1 < n ∧ t.2.1 < n ∧ t.2.2 < n := by
  intro t ht
  have := (List.all_eq_true.mp h) t ht
  simpa [Bool.and_eq_true, and_assoc] using this

example : indicesOk 3 [(0, 1, 2), (2, 1, 0)] = true := by decide

section Ring
variable {R : Type} [CommRing R] [LinearOrder R] [IsStrictOrderedRing R]

/-- winding checker: every triangle is strictly clockwise (one winding, non-zero area) -/
theorem winding_check_sound (P : Nat → Pt R) (tris : List Tri) (h : windingOk P tris = true) :
    ∀ t ∈ tris, orient (P t.1) (P t.2.1) (P t.2.2) < 0 := by
  intro t ht
  have := (List.all_eq_true.mp h) t ht
  simpa using this

example : windingOk (fun i => [((0 : ℤ), (0 : ℤ)), (0, 3), (4, 0)].getD i (0, 0)) [(0, 1, 2)] = true := by
  decide

example : inCircleDet ((0 : ℤ), (0 : ℤ)) (0, 2) (2, 0) (1, 1) = (2 - dist2 (1, 1) (1, 1)) * orient ((0 : ℤ), (0 : ℤ)) (0, 2) (2, 0) :=
  inCircleDet_on_circle _ _ _ _ (1, 1) 2 (by decide) (by decide) (by decide)

section
omit [LinearOrder R] [IsStrictOrderedRing R]

/-- homogeneity: scaling all coordinates by `s` scales `orient` by `s²` (the driver evaluates the
    checkers on integers `2^E · x`) -/
theorem orient_smul (s : R) (a b c : Pt R) :
    orient (s * a.1, s * a.2) (s * b.1, s * b.2) (s * c.1, s * c.2) = s ^ 2 * orient a b c := by
  simp only [orient]; ring

theorem inCircleDet_smul (s : R) (a b c p : Pt R) :
    inCircleDet (s * a.1, s * a.2) (s * b.1, s * b.2) (s * c.1, s * c.2) (s * p.1, s * p.2)
      = s ^ 4 * inCircleDet a b c p := by
  simp only [inCircleDet]; ring

end

theorem delaunay_check_raw (P : Nat → Pt R) (n : Nat) (tris : List Tri) (h : delaunayOk P n tris = true) :
    ∀ t ∈ tris, ∀ i < n, ¬ inCircleDet (P t.1) (P t.2.1) (P t.2.2) (P i) < 0 := by
  intro t ht i hi
  have h1 := (List.all_eq_true.mp h) t ht
  have h2 := (List.all_eq_true.mp h1) i (List.mem_range.mpr hi)
  simpa [insideCirc] using h2

/-- **delaunay_check_sound**: if the winding checker and the all-pairs Delaunay checker accept, no
    circumcircle of an output triangle strictly contains an input point -/
theorem delaunay_check_sound (P : Nat → Pt R) (n : Nat) (tris : List Tri)
    (hw : windingOk P tris = true) (hd : delaunayOk P n tris = true) :
    ∀ t ∈ tris, ∀ i < n, ¬ StrictlyInsideCircumcircle (P t.1) (P t.2.1) (P t.2.2) (P i) := by
  intro t ht i hi hin
  exact delaunay_check_raw P n tris hd t ht i hi
    (inCircle_neg_of_inside _ _ _ _ (winding_check_sound P tris hw t ht) hin)

example : let P : Nat → Pt ℤ := fun i => [((0 : ℤ), (0 : ℤ)), (0, 3), (4, 0), (5, 5)].getD i (0, 0)
    windingOk P [(0, 1, 2)] = true ∧ delaunayOk P 4 [(0, 1, 2)] = true := by decide

/-- `q` is strictly inside the clockwise triangle `t`: strictly on the inner side of its three edges -/
def StrictlyInside (P : Nat → Pt R) (t : Tri) (q : Pt R) : Prop :=
  orient (P t.1) (P t.2.1) q < 0 ∧ orient (P t.2.1) (P t.2.2) q < 0 ∧ orient (P t.2.2) (P t.1) q < 0

theorem sepEdge_sound (P : Nat → Pt R) (t u : Tri) (h : sepEdge P t u = true) (q : Pt R)
    (ht : StrictlyInside P t q) (hu : StrictlyInside P u q) : False := by
  obtain ⟨e, he, hs⟩ := List.any_eq_true.mp h
  simp only [Bool.and_eq_true, Bool.not_eq_true', decide_eq_false_iff_not] at hs
  obtain ⟨⟨s1, s2⟩, s3⟩ := hs
  have := sep_key (P e.1) (P e.2) (P u.1) (P u.2.1) (P u.2.2) q s1 s2 s3 hu.1 hu.2.1 hu.2.2
  rcases mem_edges.mp he with rfl | rfl | rfl
  · exact this ht.1
  · exact this ht.2.1
  · exact this ht.2.2

/-- two triangles overlap: they have a common strictly interior point -/
def Overlap (P : Nat → Pt R) (t u : Tri) : Prop := ∃ q : Pt R, StrictlyInside P t q ∧ StrictlyInside P u q

/-- **overlap_check_sound**: if the separating-edge checker accepts, no two triangles of the list
    (at different positions) have a common strictly interior point -/
theorem overlap_check_sound (P : Nat → Pt R) (tris : List Tri) (h : noOverlapOk P tris = true) :
    tris.Pairwise (fun t u => ¬ Overlap P t u) := by
  induction tris with
  | nil => exact List.Pairwise.nil
  | cons t ts ih =>
    simp only [noOverlapOk, Bool.and_eq_true] at h
    refine List.Pairwise.cons ?_ (ih h.2)
    intro u hu ⟨q, hqt, hqu⟩
    have := (List.all_eq_true.mp h.1) u hu
    simp only [sepOk, Bool.or_eq_true] at this
    rcases this with h1 | h1
    · exact sepEdge_sound P t u h1 q hqt hqu
    · exact sepEdge_sound P u t h1 q hqu hqt

example : let P : Nat → Pt ℤ := fun i => [((0 : ℤ), (0 : ℤ)), (0, 3), (4, 0), (5, 5)].getD i (0, 0)
    noOverlapOk P [(0, 1, 2), (1, 3, 2)] = true := by decide

end Ring

section Field
variable {K : Type} [Field K] [LinearOrder K] [IsStrictOrderedRing K]

/-- **inCircle_iff**: for a clockwise triangle the Go determinant is negative exactly when the point is
    strictly inside the circumcircle -/
theorem inCircle_iff (a b c p : Pt K) (hcw : orient a b c < 0) :
    inCircleDet a b c p < 0 ↔ StrictlyInsideCircumcircle a b c p := by
  constructor
  · intro hd
    obtain ⟨o, hb, hc⟩ := circumcentre_exists a b c hcw.ne
    refine ⟨o, dist2 o a, rfl, hb, hc, ?_⟩
    rw [inCircleDet_on_circle a b c p o (dist2 o a) rfl hb hc] at hd
    by_contra hn
    push Not at hn
    have : 0 ≤ (dist2 o a - dist2 o p) * orient a b c :=
      mul_nonneg_of_nonpos_of_nonpos (by linarith) hcw.le
    linarith
  · exact inCircle_neg_of_inside a b c p hcw

example : orient ((0 : ℚ), (0 : ℚ)) (0, 2) (2, 0) < 0 := by norm_num [orient]

end Field

/-- **bw_vertices_are_inputs**: `BowyerWatson` emits one vertex per input point, vertex `i` = `(xᵢ, 0, yᵢ)` -/
theorem bw_vertices_are_inputs {α : Type} [Zero α] (pts : List (Pt α)) :
    (bwVertices pts).length = pts.length ∧
      ∀ i (hi : i < pts.length), (bwVertices pts)[i]'(by simpa [bwVertices] using hi) = ((pts[i]).1, 0, (pts[i]).2) := by
  refine ⟨by simp [bwVertices], ?_⟩
  intro i hi
  simp [bwVertices]

section Ring
variable {R : Type} [CommRing R] [LinearOrder R] [IsStrictOrderedRing R]

/-- **bw_indices_lt**: no super-triangle vertex survives — for every point function, every map
    enumeration `env` (no assumption on it at all) and every `n` -/
theorem bw_indices_lt (P : Nat → Pt R) (env : List Tri → List Tri) (n : Nat) :
    ∀ t ∈ bw P env n, t.1 < n ∧ t.2.1 < n ∧ t.2.2 < n := by
  intro t ht
  simp only [bw, List.mem_filter, touchesSuper, Bool.not_eq_true', Bool.or_eq_false_iff,
    decide_eq_false_iff_not, Nat.not_le] at ht
  exact ⟨ht.2.1.1, ht.2.1.2, ht.2.2⟩

/-- the triangle added by `fillHole` is never counter-clockwise (the winding fix-up) -/
theorem fanTri_not_ccw (P : Nat → Pt R) (e : Edge) (pi : Nat) :
    orient (P (fanTri P e pi).1) (P (fanTri P e pi).2.1) (P (fanTri P e pi).2.2) ≤ 0 := by
  unfold fanTri
  split
  · rename_i h
    simp only [ccw, decide_eq_true_eq] at h
    have : orient (P e.1) (P pi) (P e.2) = - orient (P e.1) (P e.2) (P pi) := by
      simp only [orient]; ring
    simp only [this]; linarith
  · rename_i h
    simp only [ccw, decide_eq_true_eq, not_lt] at h
    exact h

/-- no fix-up when the new point is on the inner side of the edge (or on its line) -/
theorem fanTri_of_nonpos {P : Nat → Pt R} {e : Edge} {pi : Nat} (h : orient (P e.1) (P e.2) (P pi) ≤ 0) :
    fanTri P e pi = (e.1, e.2, pi) := by
  simp only [fanTri, ccw, decide_eq_true_eq, not_lt.mpr h, if_false]

/-- the inserted point is a corner of its own fan triangle -/
theorem fanTri_corner (P : Nat → Pt R) (e : Edge) (pi : Nat) : insideCirc P (fanTri P e pi) (P pi) = false := by
  simp only [insideCirc, decide_eq_false_iff_not]
  unfold fanTri
  split
  · rw [(inCircleDet_corner _ _ _).2.1]; exact lt_irrefl _
  · rw [(inCircleDet_corner _ _ _).2.2]; exact lt_irrefl _

/-- the state of the triangulation after the first `k` insertions -/
def stateAt (P : Nat → Pt R) (env : List Tri → List Tri) (n k : Nat) : List Tri :=
  (List.range k).foldl (step P env) [(n, n + 1, n + 2)]

theorem stateAt_succ (P : Nat → Pt R) (env : List Tri → List Tri) (n k : Nat) :
    stateAt P env n (k + 1) = step P env (stateAt P env n k) k := by
  simp [stateAt, List.range_succ, List.foldl_append]

/-- the induction over the run that every invariant below goes through -/
theorem stateAt_rec (P : Nat → Pt R) (env : List Tri → List Tri) (n : Nat) (I : Nat → List Tri → Prop)
    (h0 : I 0 [(n, n + 1, n + 2)])
    (hs : ∀ k < n, I k (stateAt P env n k) → I (k + 1) (step P env (stateAt P env n k) k)) :
    ∀ k ≤ n, I k (stateAt P env n k) := by
  intro k
  induction k with
  | zero => exact fun _ => h0
  | succ k ih => intro hk; rw [stateAt_succ]; exact hs k (by omega) (ih (by omega))

/-- invariant rule for ANY enumeration: `Q` holds of the super-triangle and of every triangle `fillHole` can add to a
    state satisfying `Q` ⇒ `Q` holds of every triangle of the final state -/
theorem loop_inv (P : Nat → Pt R) (env : List Tri → List Tri) (n : Nat) (Q : Tri → Prop) (h0 : Q (n, n + 1, n + 2))
    (hq : ∀ k < n, (∀ t ∈ stateAt P env n k, Q t) →
      ∀ e ∈ polygon (badTris P env (stateAt P env n k) k), Q (fanTri P e k)) :
    ∀ t ∈ bwLoop P env n, Q t :=
  stateAt_rec P env n (fun _ S => ∀ t ∈ S, Q t) (fun _ ht => List.mem_singleton.mp ht ▸ h0)
    (fun k hk ih t ht => (mem_step_imp P env ht).elim (ih t) fun ⟨e, he, h⟩ => h ▸ hq k hk ih e he) n le_rfl

/-- **bw_not_ccw**: if the super-triangle is not counter-clockwise, no triangle of any state of the
    insertion loop, hence no output triangle, is counter-clockwise — for every enumeration `env` -/
theorem bw_not_ccw (P : Nat → Pt R) (env : List Tri → List Tri) (n : Nat)
    (hsuper : orient (P n) (P (n + 1)) (P (n + 2)) ≤ 0) :
    ∀ t ∈ bw P env n, orient (P t.1) (P t.2.1) (P t.2.2) ≤ 0 :=
  fun t ht => loop_inv P env n (fun t => orient (P t.1) (P t.2.1) (P t.2.2) ≤ 0) hsuper
    (fun k _ _ e _ => fanTri_not_ccw P e k) t (List.mem_filter.mp ht).1

/-- every index used in any state of the loop is a valid index into the `n + 3` points
    (so the model's total lookup `pointFn` is never asked for a point that does not exist);
    needs only that the enumeration `env` invents no triangles -/
theorem bw_all_indices_lt (P : Nat → Pt R) (env : List Tri → List Tri) (n : Nat)
    (henv : ∀ l, env l ⊆ l) :
    ∀ t ∈ bwLoop P env n, t.1 < n + 3 ∧ t.2.1 < n + 3 ∧ t.2.2 < n + 3 := by
  refine loop_inv P env n (fun t => t.1 < n + 3 ∧ t.2.1 < n + 3 ∧ t.2.2 < n + 3) (by simp) ?_
  intro k hk h e he
  obtain ⟨t, htb, hte⟩ := mem_polygon he
  have ht := h t (henv _ (List.mem_filter.mp htb).1)
  rw [mem_edges] at hte
  have he' : e.1 < n + 3 ∧ e.2 < n + 3 := by
    rcases hte with rfl | rfl | rfl <;> simp <;> omega
  unfold fanTri
  split <;> simp <;> omega

/-- all output triangles have ONE winding, strictly, unless their three points are collinear -/
theorem bw_cw_of_not_collinear (P : Nat → Pt R) (env : List Tri → List Tri) (n : Nat)
    (hsuper : orient (P n) (P (n + 1)) (P (n + 2)) ≤ 0) :
    ∀ t ∈ bw P env n, orient (P t.1) (P t.2.1) (P t.2.2) ≠ 0 → orient (P t.1) (P t.2.1) (P t.2.2) < 0 :=
  fun t ht hne => lt_of_le_of_ne (bw_not_ccw P env n hsuper t ht) hne

end Ring

section Field
variable {K : Type} [Field K] [LinearOrder K] [IsStrictOrderedRing K]

omit [Field K] [LinearOrder K] [IsStrictOrderedRing K] in
/-- a fold that at each step keeps one of its two values, the one `r`-below both, ends `r`-below the start value and every
    element (`minOf` with `≤`, `maxOf` with `≥`) -/
theorem foldl_pick_le (r : K → K → Prop) (hr : ∀ a, r a a) (ht : ∀ a b c, r a b → r b c → r a c)
    (f : K → K → K) (hf : ∀ m v, r (f m v) m ∧ r (f m v) v) (x : K) (xs : List K) :
    ∀ v ∈ x :: xs, r (xs.foldl f x) v := by
  induction xs generalizing x with
  | nil => intro v hv; rw [List.mem_singleton.mp hv]; exact hr _
  | cons w ws ih =>
    intro v hv
    have h0 := ih (f x w)
    rcases List.mem_cons.mp hv with rfl | hv
    · exact ht _ _ _ (h0 _ List.mem_cons_self) (hf _ _).1
    · rcases List.mem_cons.mp hv with rfl | hv
      · exact ht _ _ _ (h0 _ List.mem_cons_self) (hf _ _).2
      · exact h0 v (List.mem_cons_of_mem _ hv)

theorem minOf_le_mem (x : K) (xs : List K) : ∀ v ∈ x :: xs, minOf x xs ≤ v :=
  foldl_pick_le (· ≤ ·) le_refl (fun _ _ _ => le_trans) _ (fun m v => by
    split
    · exact ⟨le_of_lt ‹_›, le_rfl⟩
    · exact ⟨le_rfl, not_lt.mp ‹_›⟩) x xs

theorem le_maxOf_mem (x : K) (xs : List K) : ∀ v ∈ x :: xs, v ≤ maxOf x xs :=
  foldl_pick_le (· ≥ ·) le_refl (fun _ _ _ h1 h2 => le_trans h2 h1) _ (fun m v => by
    split
    · exact ⟨le_of_lt ‹_›, le_rfl⟩
    · exact ⟨le_rfl, not_lt.mp ‹_›⟩) x xs

/-- adequacy of the (fixed) super-triangle: every point of the bounding box is strictly inside it -/
theorem superTriangle_contains_box (minX maxX minY maxY qx qy : K) (hw : minX < maxX)
    (h1 : minX ≤ qx) (h2 : qx ≤ maxX) (h3 : minY ≤ qy) (h4 : qy ≤ maxY) :
    let xm := (minX + maxX) / 2
    let l : Pt K := (xm - (maxX - minX) * 20, minY - 2)
    let t : Pt K := (xm, maxY + (maxY - minY) * 20 + 2)
    let r : Pt K := (xm + (maxX - minX) * 20, minY - 2)
    orient l t (qx, qy) < 0 ∧ orient t r (qx, qy) < 0 ∧ orient r l (qx, qy) < 0 := by
  intro xm l t r
  simp only [orient, xm, l, t, r]
  have hh : minY ≤ maxY := le_trans h3 h4
  have hW := sub_nonneg.mpr hw.le
  -- each is linear in `qx`, `qy` and the products below
  have p0 := mul_nonneg hW (sub_nonneg.mpr hh)
  have p1 := mul_nonneg hW (sub_nonneg.mpr h3)
  have p2 := mul_nonneg hW (sub_nonneg.mpr h4)
  refine ⟨?_, ?_, ?_⟩
  · linarith [mul_nonneg (sub_nonneg.mpr h1) (sub_nonneg.mpr hh)]
  · linarith [mul_nonneg (sub_nonneg.mpr h2) (sub_nonneg.mpr hh)]
  · linarith

/-- **superTriangle_contains**: with positive width, every input point lies strictly inside the
    (clockwise) super-triangle -/
theorem superTriangle_contains (p : Pt K) (ps : List (Pt K))
    (hw : minOf p.1 (ps.map (·.1)) < maxOf p.1 (ps.map (·.1))) :
    ∃ l t r, superTriangle p ps = [l, t, r] ∧
      ∀ q ∈ p :: ps, orient l t q < 0 ∧ orient t r q < 0 ∧ orient r l q < 0 := by
  refine ⟨_, _, _, rfl, ?_⟩
  intro q hq
  have h1 : q.1 ∈ p.1 :: ps.map (·.1) := List.mem_map_of_mem (f := (·.1)) hq
  have h2 : q.2 ∈ p.2 :: ps.map (·.2) := List.mem_map_of_mem (f := (·.2)) hq
  have := superTriangle_contains_box _ _ _ _ q.1 q.2 hw (minOf_le_mem _ _ _ h1) (le_maxOf_mem _ _ _ h1)
    (minOf_le_mem _ _ _ h2) (le_maxOf_mem _ _ _ h2)
  push_cast
  exact this

/-- the super-triangle `[left, top, right]` is strictly clockwise as soon as the input has positive width: the first input
    point is inside it -/
theorem superTriangle_cw (p : Pt K) (ps : List (Pt K))
    (hw : minOf p.1 (ps.map (·.1)) < maxOf p.1 (ps.map (·.1))) :
    ∃ l t r, superTriangle p ps = [l, t, r] ∧ orient l t r < 0 :=
  let ⟨l, t, r, hs, hc⟩ := superTriangle_contains p ps hw
  ⟨l, t, r, hs, cw_of_inside (hc p List.mem_cons_self)⟩

example : minOf (0 : ℚ) ([((4 : ℚ), (0 : ℚ)), (0, 3)].map (·.1)) < maxOf (0 : ℚ) ([((4 : ℚ), (0 : ℚ)), (0, 3)].map (·.1)) := by
  norm_num [minOf, maxOf]

theorem pointFn_input (p : Pt K) (ps : List (Pt K)) (i : Nat) (hi : i < (p :: ps).length) :
    pointFn p ps i = (p :: ps)[i] := by
  simp only [pointFn, List.getD_eq_getElem?_getD]
  rw [List.getElem?_append_left hi, List.getElem?_eq_getElem hi]; rfl

theorem pointFn_super (p : Pt K) (ps : List (Pt K)) (l t r : Pt K) (h : superTriangle p ps = [l, t, r]) :
    pointFn p ps (p :: ps).length = l ∧ pointFn p ps ((p :: ps).length + 1) = t ∧
      pointFn p ps ((p :: ps).length + 2) = r := by
  simp only [pointFn, List.getD_eq_getElem?_getD, h]
  refine ⟨?_, ?_, ?_⟩ <;> rw [List.getElem?_append_right (by omega)] <;> simp

/-- fewer than three points: panic; otherwise an answer whose indices are all `< n` -/
theorem bowyerWatson_spec (env : List Tri → List Tri) (pts : List (Pt K)) :
    (pts.length < 3 → bowyerWatson env pts = none) ∧
    (∀ tris, bowyerWatson env pts = some tris →
      3 ≤ pts.length ∧ ∀ t ∈ tris, t.1 < pts.length ∧ t.2.1 < pts.length ∧ t.2.2 < pts.length) := by
  constructor
  · intro h
    match pts, h with
    | [], _ => rfl
    | [_], _ => rfl
    | [_, _], _ => rfl
    | _ :: _ :: _ :: _, h => simp at h; omega
  · intro tris h
    match pts, h with
    | p :: q :: r :: rest, h =>
      simp only [bowyerWatson, Option.some.injEq] at h
      subst h
      exact ⟨by simp, bw_indices_lt _ env _⟩

/-- the only answer `bowyerWatson` gives -/
theorem bowyerWatson_eq_some {env : List Tri → List Tri} {p : Pt K} {ps : List (Pt K)} {tris : List Tri}
    (h : bowyerWatson env (p :: ps) = some tris) : tris = bw (pointFn p ps) env (p :: ps).length := by
  match ps, h with
  | q :: r :: rest, h => exact (Option.some.inj h).symm

/-- public entry point: with positive width every output triangle is not counter-clockwise -/
theorem bowyerWatson_not_ccw (env : List Tri → List Tri) (p : Pt K) (ps : List (Pt K)) (tris : List Tri)
    (h : bowyerWatson env (p :: ps) = some tris)
    (hw : minOf p.1 (ps.map (·.1)) < maxOf p.1 (ps.map (·.1))) :
    ∀ t ∈ tris, orient (pointFn p ps t.1) (pointFn p ps t.2.1) (pointFn p ps t.2.2) ≤ 0 := by
  rw [bowyerWatson_eq_some h]
  obtain ⟨l, t, r', hs, ho⟩ := superTriangle_cw p ps hw
  obtain ⟨h0, h1, h2⟩ := pointFn_super p ps l t r' hs
  apply bw_not_ccw
  rw [h0, h1, h2]; exact ho.le

example : (bowyerWatson id [((0 : ℚ), (0 : ℚ)), (4, 0), (0, 3)]).isSome = true := rfl

/-- **bw_order_independent_partial**: the bad-triangle SET of an insertion does not depend on the order
    in which the Go map is enumerated (the hole boundary is computed from it by `polygon`) -/
theorem bw_order_independent_partial (P : Nat → Pt K) (env : List Tri → List Tri)
    (henv : ∀ l, (env l).Perm l) (tris : List Tri) (pi : Nat) :
    (badTris P env tris pi).Perm (badTris P id tris pi) := by
  unfold badTris
  exact (henv tris).filter _

/-- what one run of the oracle establishes about an implementation output `tris` -/
theorem c20_checkers_sound (P : Nat → Pt K) (n : Nat) (tris : List Tri)
    (h : (indicesOk n tris && windingOk P tris && delaunayOk P n tris && noOverlapOk P tris) = true) :
    (∀ t ∈ tris, t.1 < n ∧ t.2.1 < n ∧ t.2.2 < n) ∧
    (∀ t ∈ tris, orient (P t.1) (P t.2.1) (P t.2.2) < 0) ∧
    tris.Pairwise (fun t u => ¬ Overlap P t u) ∧
    (∀ t ∈ tris, ∀ i < n, ¬ StrictlyInsideCircumcircle (P t.1) (P t.2.1) (P t.2.2) (P i)) := by
  simp only [Bool.and_eq_true] at h
  obtain ⟨⟨⟨h1, h2⟩, h3⟩, h4⟩ := h
  exact ⟨indices_check_sound n tris h1, winding_check_sound P tris h2, overlap_check_sound P tris h4,
    delaunay_check_sound P n tris h2 h3⟩

/-- general position of the first `n` points: no three collinear, no four cocircular -/
def GeneralPosition (P : Nat → Pt K) (n : Nat) : Prop :=
  (∀ i j k, i < j → j < k → k < n → orient (P i) (P j) (P k) ≠ 0) ∧
  (∀ i j k l, i < j → j < k → k < l → l < n → inCircleDet (P i) (P j) (P k) (P l) ≠ 0)

/-- The full property about the model of `bowyerWatson` — **NOT proved** (correctness of Bowyer–Watson
    with a finite super-triangle).  Its clauses are decided per run by the verified checkers above,
    applied to the implementation's output. -/
def C20_full (K : Type) [Field K] [LinearOrder K] [IsStrictOrderedRing K] : Prop :=
  ∀ (env : List Tri → List Tri), (∀ l, (env l).Perm l) →
  ∀ (p : Pt K) (ps : List (Pt K)), 2 ≤ ps.length →
    GeneralPosition (pointFn p ps) (ps.length + 1) →
    ∃ tris, bowyerWatson env (p :: ps) = some tris ∧
      (∀ t ∈ tris, t.1 < ps.length + 1 ∧ t.2.1 < ps.length + 1 ∧ t.2.2 < ps.length + 1) ∧
      (∀ t ∈ tris, orient (pointFn p ps t.1) (pointFn p ps t.2.1) (pointFn p ps t.2.2) < 0) ∧
      tris.Pairwise (fun t u => ¬ Overlap (pointFn p ps) t u) ∧
      (∀ t ∈ tris, ∀ i < ps.length + 1,
        ¬ StrictlyInsideCircumcircle (pointFn p ps t.1) (pointFn p ps t.2.1) (pointFn p ps t.2.2) (pointFn p ps i))

end Field

/-- one insertion step: bad set and hole-boundary edge set are the same for every map order -/
theorem bw_hole_order_independent {K : Type} [Field K] [LinearOrder K] [IsStrictOrderedRing K]
    (P : Nat → Pt K) (env : List Tri → List Tri) (henv : ∀ l, (env l).Perm l)
    (tris : List Tri) (hn : tris.Nodup) (pi : Nat) (e : Edge) :
    e ∈ polygon (badTris P env tris pi) ↔ e ∈ polygon (badTris P id tris pi) :=
  bw_polygon_order_independent (bw_order_independent_partial P env henv tris pi)
    (((henv tris).nodup_iff.mpr hn).filter _) e

example : polygon [(0, 1, 2), (2, 1, 3)] = [(0, 1), (2, 0), (1, 3), (3, 2)] := by decide

section Order
variable {R : Type} [CommRing R] [LinearOrder R] [IsStrictOrderedRing R]

theorem contains_iff_mem (l : List Tri) (t : Tri) : l.contains t = true ↔ t ∈ l := by
  simp

/-- **bw_order_independent**: the triangle set Bowyer–Watson ends with does not depend on Go's map iteration order.
    For ANY two enumerations (each a permutation at every use), every point function and every `n`, the final states
    of the insertion loop — and the outputs after removing the super-triangle's triangles — are duplicate-free and
    permutations of each other, as lists of index TRIPLES (the corner order of each triangle included: it is fixed by
    the directed boundary edge and the winding fix-up, not by the enumeration). -/
theorem bw_order_independent (P : Nat → Pt R) (env env' : List Tri → List Tri)
    (henv : ∀ l, (env l).Perm l) (henv' : ∀ l, (env' l).Perm l) (n : Nat) :
    (bwLoop P env n).Perm (bwLoop P env' n) ∧ (bw P env n).Nodup ∧ (bw P env n).Perm (bw P env' n) := by
  obtain ⟨h1, h2⟩ := loop_perm P env env' henv henv' (List.range n) [(n, n + 1, n + 2)] [(n, n + 1, n + 2)]
    (List.nodup_singleton _) (List.Perm.refl _)
  exact ⟨h2, h1.filter _, h2.filter _⟩

end Order

/-- the public entry point: two runs with different map orders return permutations of one another -/
theorem bowyerWatson_order_independent {K : Type} [Field K] [LinearOrder K] [IsStrictOrderedRing K]
    (env env' : List Tri → List Tri) (henv : ∀ l, (env l).Perm l) (henv' : ∀ l, (env' l).Perm l)
    (pts : List (Pt K)) :
    match bowyerWatson env pts, bowyerWatson env' pts with
    | some a, some b => a.Nodup ∧ a.Perm b
    | none, none => True
    | _, _ => False := by
  match pts with
  | [] => simp [bowyerWatson]
  | [_] => simp [bowyerWatson]
  | [_, _] => simp [bowyerWatson]
  | p :: q :: r :: rest =>
    simp only [bowyerWatson]
    have := bw_order_independent (pointFn p (q :: r :: rest)) env env' henv henv' (p :: q :: r :: rest).length
    exact ⟨this.2.1, this.2.2⟩

section Fan
variable {R : Type} [CommRing R] [LinearOrder R] [IsStrictOrderedRing R]

theorem stateAt_n (P : Nat → Pt R) (env : List Tri → List Tri) (n : Nat) : stateAt P env n n = bwLoop P env n := rfl

/-- the executable checkers of Model/Delaunay run on `stateAtE`: the same states, enumerated in list order -/
theorem stateAtE_eq (P : Nat → Pt R) (n k : Nat) : stateAtE P n k = stateAt P id n k := rfl

/-- `FanEmpty`, a condition on the states the loop reaches: whenever point `k` is inserted, the new fan triangle over each
    boundary edge of the cavity has none of the EARLIER points strictly inside its circumcircle.  With `FanPositive` it
    gives the empty-circumcircle clause (`bw_empty_circumcircles`); both follow from `CavityDisc`
    (`fan_hypotheses_of_cavityDisc`), and each is decided per run by `fanEmptyOk` / `fanPositiveOk`. -/
def FanEmpty (P : Nat → Pt R) (env : List Tri → List Tri) (n : Nat) : Prop :=
  ∀ k < n, ∀ e ∈ polygon ((stateAt P env n k).filter (fun t => insideCirc P t (P k))),
    (e.1 == k || e.2 == k) = false → ∀ j < k, insideCirc P (fanTri P e k) (P j) = false

/-- `FanPositive`: the inserted point lies strictly on the inner side (clockwise convention: `orient < 0`) of every
    directed boundary edge of its cavity — the cavity is strictly star-shaped around it. -/
def FanPositive (P : Nat → Pt R) (env : List Tri → List Tri) (n : Nat) : Prop :=
  ∀ k < n, ∀ e ∈ polygon ((stateAt P env n k).filter (fun t => insideCirc P t (P k))),
    (e.1 == k || e.2 == k) = false → orient (P e.1) (P e.2) (P k) < 0

section
-- Arguments of every lemma of this section: `P env n` for the first two, `P env henv n` after `include henv`.
variable (P : Nat → Pt R) (env : List Tri → List Tri) (henv : ∀ l, (env l).Perm l) (n : Nat)

include henv

theorem stateAt_nodup (k : Nat) :
    (stateAt P env n k).Nodup :=
  (loop_perm P env env henv henv (List.range k) _ _ (List.nodup_singleton _) (List.Perm.refl _)).1

/-- the same triangle by triangle: a property `I k` that holds of the super-triangle, is kept by the triangles that survive
    insertion `k`, and holds of the new fan triangles (in a state all of whose triangles have it), holds in every state -/
theorem stateAt_induction (I : Nat → Tri → Prop) (h0 : I 0 (n, n + 1, n + 2))
    (hkeep : ∀ k < n, ∀ t, I k t → insideCirc P t (P k) = false → I (k + 1) t)
    (hfan : ∀ k < n, (∀ t ∈ stateAt P env n k, I k t) →
      ∀ e ∈ polygon ((stateAt P env n k).filter (fun t => insideCirc P t (P k))),
        (e.1 == k || e.2 == k) = false → I (k + 1) (fanTri P e k)) :
    ∀ k ≤ n, ∀ t ∈ stateAt P env n k, I k t := by
  refine stateAt_rec P env n (fun k S => ∀ t ∈ S, I k t) (fun t ht => List.mem_singleton.mp ht ▸ h0) ?_
  intro k hk ih t ht
  rcases ((step_spec P env henv _ (stateAt_nodup P env henv n k) k).2 t).mp ht with ⟨hold, hout⟩ | ⟨e, he, hc, rfl⟩
  · exact hkeep k hk t (ih t hold) hout
  · exact hfan k hk ih e he hc

/-- the Delaunay invariant of the insertion loop, given `FanEmpty`: after `k` insertions no triangle of the state
    has one of the first `k` points strictly inside its circumcircle (`det < 0`) -/
theorem delaunay_inv_of_fanEmpty (hfan : FanEmpty P env n) :
    ∀ k ≤ n, ∀ t ∈ stateAt P env n k, ∀ j < k, insideCirc P t (P j) = false :=
  stateAt_induction P env henv n (fun k t => ∀ j < k, insideCirc P t (P j) = false)
    (fun j hj => absurd hj (Nat.not_lt_zero j))
    (fun _ _ _ ih hout j hj => (Nat.lt_succ_iff_lt_or_eq.mp hj).elim (ih j) fun e => e ▸ hout)
    (fun k hk _ e he hc j hj =>
      (Nat.lt_succ_iff_lt_or_eq.mp hj).elim (hfan k hk e he hc j) fun e' => e' ▸ fanTri_corner P e k)

/-- **bw_delaunay_of_fanEmpty**: under `FanEmpty`, no output triangle (indeed no triangle of the final state, those touching
    the super-triangle included) has an input point strictly inside its circumcircle — for every enumeration order -/
theorem bw_delaunay_of_fanEmpty (hfan : FanEmpty P env n) :
    ∀ t ∈ bw P env n, ∀ j < n, ¬ inCircleDet (P t.1) (P t.2.1) (P t.2.2) (P j) < 0 := by
  intro t ht j hj
  have hl : t ∈ stateAt P env n n := (List.mem_filter.mp ht).1
  have := delaunay_inv_of_fanEmpty P env henv n hfan n le_rfl t hl j hj
  simpa [insideCirc] using this

/-- the winding invariant, strict, given `FanPositive`: every triangle of every state is strictly clockwise
    (one winding, positive area) if the super-triangle is -/
theorem winding_inv_of_fanPositive (hsuper : orient (P n) (P (n + 1)) (P (n + 2)) < 0) (hfan : FanPositive P env n) :
    ∀ k ≤ n, ∀ t ∈ stateAt P env n k, orient (P t.1) (P t.2.1) (P t.2.2) < 0 :=
  stateAt_induction P env henv n (fun _ t => orient (P t.1) (P t.2.1) (P t.2.2) < 0) hsuper
    (fun _ _ _ ih _ => ih)
    (fun k hk _ e he hc => by rw [fanTri_of_nonpos (hfan k hk e he hc).le]; exact hfan k hk e he hc)

/-- **bw_strict_winding_of_fanPositive**: under `FanPositive` every output triangle is strictly clockwise -/
theorem bw_strict_winding_of_fanPositive (hsuper : orient (P n) (P (n + 1)) (P (n + 2)) < 0) (hfan : FanPositive P env n) :
    ∀ t ∈ bw P env n, orient (P t.1) (P t.2.1) (P t.2.2) < 0 := by
  intro t ht
  exact winding_inv_of_fanPositive P env henv n hsuper hfan n le_rfl t (List.mem_filter.mp ht).1

end

/-- the empty-circumcircle clause under `FanPositive` and `FanEmpty`.  The weakest of three statements of that clause:
    `bw_empty_circumcircles_of_edgePaired` assumes `EdgePaired` instead, `bw_delaunay_of_cavityDisc` (the result) only `CavityDisc`. -/
theorem bw_empty_circumcircles (P : Nat → Pt R) (env : List Tri → List Tri) (henv : ∀ l, (env l).Perm l) (n : Nat)
    (hsuper : orient (P n) (P (n + 1)) (P (n + 2)) < 0) (hpos : FanPositive P env n) (hemp : FanEmpty P env n) :
    ∀ t ∈ bw P env n, ∀ j < n, ¬ StrictlyInsideCircumcircle (P t.1) (P t.2.1) (P t.2.2) (P j) := by
  intro t ht j hj hin
  exact bw_delaunay_of_fanEmpty P env henv n hemp t ht j hj
    (inCircle_neg_of_inside _ _ _ _ (bw_strict_winding_of_fanPositive P env henv n hsuper hpos t ht) hin)

end Fan

/-- three input points and a clockwise super-triangle around them, over ℤ -/
def exP : Nat → Pt ℤ := fun i => [((0 : ℤ), (0 : ℤ)), (4, 1), (1, 3), (-100, -10), (2, 200), (100, -10)].getD i (0, 0)

example : orient (exP 3) (exP 4) (exP 5) < 0 := by decide
example : FanPositive exP id 3 := by unfold FanPositive; decide
example : FanEmpty exP id 3 := by unfold FanEmpty; decide
example : bw exP id 3 = [(1, 0, 2)] := by decide

/-- the executable forms (run by the driver on the model's own states `stateAtE = stateAt · id`, exact arithmetic) decide
    the two conditions -/
theorem fanPositive_check_sound {R : Type} [CommRing R] [LinearOrder R] [IsStrictOrderedRing R]
    (P : Nat → Pt R) (n : Nat) (h : fanPositiveOk P n = true) : FanPositive P id n := by
  intro k hk e he hc
  have h1 := (List.all_eq_true.mp h) k (List.mem_range.mpr hk)
  have h2 := (List.all_eq_true.mp h1) e he
  simpa [hc] using h2

theorem fanEmpty_check_sound {R : Type} [CommRing R] [LinearOrder R] [IsStrictOrderedRing R]
    (P : Nat → Pt R) (n : Nat) (h : fanEmptyOk P n = true) : FanEmpty P id n := by
  intro k hk e he hc j hj
  have h1 := (List.all_eq_true.mp h) k (List.mem_range.mpr hk)
  have h2 := (List.all_eq_true.mp h1) e he
  simp only [hc, Bool.false_or] at h2
  have h3 := (List.all_eq_true.mp h2) j (List.mem_range.mpr hj)
  simpa using h3

example : fanPositiveOk exP 3 = true ∧ fanEmptyOk exP 3 = true := by decide

section Structure
variable {R : Type} [CommRing R] [LinearOrder R] [IsStrictOrderedRing R]

/-- the geometric content of `FanPositive` at one boundary edge: if the bad triangle `T = (a,b,c)` has, across its edge
    `a b`, a clockwise neighbour `T' = (b,a,q)` that is NOT bad, and the pair is locally Delaunay, then the inserted
    point is strictly on `T`'s side of the directed edge `a b`. -/
theorem boundary_edge_inner (a b c q p : Pt R) (hT : orient a b c < 0) (hT' : orient b a q < 0)
    (hloc : ¬ inCircleDet b a q c < 0) (hbad : inCircleDet a b c p < 0) (hnb : ¬ inCircleDet b a q p < 0) :
    orient a b p < 0 := by
  by_contra hp
  exact hnb (two_circle a b c q p hT hT' hloc hbad hp)

example : orient ((0 : ℤ), (0 : ℤ)) (0, 2) (2, 0) < 0 ∧ orient ((0 : ℤ), (2 : ℤ)) (0, 0) (-3, 1) < 0 ∧
    ¬ inCircleDet ((0 : ℤ), (2 : ℤ)) (0, 0) (-3, 1) (2, 0) < 0 ∧ inCircleDet ((0 : ℤ), (0 : ℤ)) (0, 2) (2, 0) (1, 1) < 0 ∧
    ¬ inCircleDet ((0 : ℤ), (2 : ℤ)) (0, 0) (-3, 1) (1, 1) < 0 := by decide

/-- pencil of circles through `a b`, T's side: `T = (a,b,c)` clockwise, `p` strictly inside circ(T) and strictly on T's side,
    `x` on T's side or on the line, `x` not strictly inside circ(T) ⇒ `x` not strictly inside circ(a,b,p) -/
theorem fan_empty_same_side (a b c p x : Pt R) (hc : orient a b c < 0) (hp : orient a b p < 0) (hx : orient a b x ≤ 0)
    (hin : inCircleDet a b c p < 0) (hout : ¬ inCircleDet a b c x < 0) : ¬ inCircleDet a b p x < 0 := by
  intro hneg
  -- D(p,x) O(c) − D(c,x) O(p) + D(c,p) O(x) = 0, and under the hypotheses the three terms are > 0, ≥ 0, ≥ 0
  have id := pencil_identity a b c p x
  rw [inCircleDet_swap34 a b c x] at id
  have h1 := mul_pos_of_neg_of_neg hneg hc
  have h2 := mul_nonneg (not_lt.mp hout) (neg_pos.mpr hp).le
  have h3 := mul_nonneg_of_nonpos_of_nonpos hin.le hx
  linarith

/-- pencil of circles through `a b`, the neighbour's side: `N = (b,a,q)` clockwise, `p` strictly on the other side and not
    strictly inside circ(N), `x` on N's side or on the line and not strictly inside circ(N) ⇒ `x` not strictly inside circ(a,b,p) -/
theorem fan_empty_other_side (a b q p x : Pt R) (hq : orient b a q < 0) (hp : orient a b p < 0) (hx : 0 ≤ orient a b x)
    (hpn : ¬ inCircleDet b a q p < 0) (hxn : ¬ inCircleDet b a q x < 0) : ¬ inCircleDet a b p x < 0 := by
  intro hneg
  -- D(p,x) O(q) − D(q,x) O(p) + D(q,p) O(x) = 0 with terms < 0, ≤ 0, ≤ 0
  have id := pencil_identity a b q p x
  rw [inCircleDet_swap34 a b q x] at id
  rw [orient_swap12] at hq
  rw [inCircleDet_swap12] at hpn hxn
  have h1 := mul_neg_of_neg_of_pos hneg (neg_neg_iff_pos.mp hq)
  have h2 := mul_nonneg (not_lt.mp hxn) (neg_pos.mpr hp).le
  have h3 := mul_nonneg (not_lt.mp hpn) hx
  linarith

/-- the points present after `k` insertions: the first `k` inputs and the three super-triangle vertices -/
def Present (n k j : Nat) : Prop := j < k ∨ j = n ∨ j = n + 1 ∨ j = n + 2

/-- every input point is strictly inside the (clockwise) super-triangle — `superTriangle_contains` for the model's own
    super-triangle -/
def InputsInSuper (P : Nat → Pt R) (n : Nat) : Prop :=
  ∀ j < n, orient (P n) (P (n + 1)) (P j) < 0 ∧ orient (P (n + 1)) (P (n + 2)) (P j) < 0 ∧
    orient (P (n + 2)) (P n) (P j) < 0

/-- `EdgePaired` (combinatorial): every state the loop reaches is `Paired` — every directed edge of every triangle is a
    super-triangle boundary edge or has its reverse in some triangle of the state.  It implies `FanPositive` and `FanEmpty`
    (`fanPositive_of_edgePaired`, `fanEmpty_of_edgePaired`) and follows from `CavityDisc` (`edgePaired_of_cavityDisc`). -/
def EdgePaired (P : Nat → Pt R) (env : List Tri → List Tri) (n : Nat) : Prop :=
  ∀ k < n, ∀ t ∈ stateAt P env n k, ∀ e ∈ edges t,
    isSuperEdge n e ∨ ∃ u ∈ stateAt P env n k, (e.2, e.1) ∈ edges u

/-- the state invariant: strictly clockwise triangles, Delaunay w.r.t. every present point (super vertices included),
    only present vertices -/
def StateInv (P : Nat → Pt R) (n k : Nat) (S : List Tri) : Prop :=
  ∀ t ∈ S, orient (P t.1) (P t.2.1) (P t.2.2) < 0 ∧
    (∀ j, Present n k j → ¬ inCircleDet (P t.1) (P t.2.1) (P t.2.2) (P j) < 0) ∧
    Present n k t.1 ∧ Present n k t.2.1 ∧ Present n k t.2.2

theorem edgePaired_iff (P : Nat → Pt R) (env : List Tri → List Tri) (n : Nat) :
    EdgePaired P env n ↔ ∀ k < n, Paired n (stateAt P env n k) := Iff.rfl

/-- `CavityDisc` (combinatorial/topological), THE ONE HYPOTHESIS OF THE MAIN RESULT `bw_delaunay_of_cavityDisc` that is not
    proved: at every insertion the boundary of the cavity has in- and out-degree one at each of its vertices.  Decided per
    run by `cavityDiscOk` (`cavityDisc_check_sound`). -/
def CavityDisc (P : Nat → Pt R) (env : List Tri → List Tri) (n : Nat) : Prop :=
  ∀ k < n, DiscAt (polygon ((stateAt P env n k).filter (fun t => insideCirc P t (P k))))

/-- the vertex opposite a directed edge of a triangle: seen from the edge, the triangle has the same two predicates -/
theorem edge_opp (P : Nat → Pt R) (t : Tri) (e : Edge) (he : e ∈ edges t) :
    ∃ c, (c = t.1 ∨ c = t.2.1 ∨ c = t.2.2) ∧
      orient (P e.1) (P e.2) (P c) = orient (P t.1) (P t.2.1) (P t.2.2) ∧
      ∀ x, inCircleDet (P e.1) (P e.2) (P c) x = inCircleDet (P t.1) (P t.2.1) (P t.2.2) x := by
  obtain ⟨t1, t2, t3⟩ := t
  rcases mem_edges.mp he with rfl | rfl | rfl
  · exact ⟨t3, by simp, rfl, fun _ => rfl⟩
  · exact ⟨t1, by simp, (orient_rot _ _ _).1, fun x => (inCircleDet_rot _ _ _ x).1⟩
  · exact ⟨t2, by simp, (orient_rot _ _ _).2, fun x => (inCircleDet_rot _ _ _ x).2⟩

theorem no_both_dirs (P : Nat → Pt R) (t : Tri) (h : orient (P t.1) (P t.2.1) (P t.2.2) ≠ 0) (a b : Nat)
    (h1 : (a, b) ∈ edges t) (h2 : (b, a) ∈ edges t) : False := by
  obtain ⟨t1, t2, t3⟩ := t
  simp only [edges, List.mem_cons, List.not_mem_nil, or_false, Prod.mk.injEq] at h1 h2
  apply h
  rcases h1 with ⟨rfl, rfl⟩ | ⟨rfl, rfl⟩ | ⟨rfl, rfl⟩ <;> rcases h2 with ⟨h3, h4⟩ | ⟨h3, h4⟩ | ⟨h3, h4⟩ <;>
    (try subst h3) <;> (try subst h4) <;> simp only [orient] <;> ring

theorem present_succ {n k j : Nat} : Present n (k + 1) j ↔ Present n k j ∨ j = k := by
  unfold Present; omega

theorem present_mono {n k j : Nat} (h : Present n k j) : Present n (k + 1) j := present_succ.mpr (Or.inl h)

theorem not_present_self {n k : Nat} (hk : k < n) : ¬ Present n k k := by
  unfold Present; omega

/-- the end points of an edge of a state are present -/
theorem StateInv.edge_present {P : Nat → Pt R} {n k : Nat} {S : List Tri} (hS : StateInv P n k S) {t : Tri} (ht : t ∈ S)
    {e : Edge} (he : e ∈ edges t) : Present n k e.1 ∧ Present n k e.2 := by
  obtain ⟨p1, p2, p3⟩ := (hS t ht).2.2
  obtain ⟨h1 | h1 | h1, h2 | h2 | h2⟩ := edge_verts t e he <;> rw [h1, h2] <;> exact ⟨‹_›, ‹_›⟩

/-- a triangle of a state seen from one of its directed edges `e`, `c` the vertex opposite: `(e.1, e.2, c)` is clockwise, `c` is
    present, no present point is strictly inside its circle, and the triangle's in-circle test is that of `(e.1, e.2, c)` -/
theorem StateInv.from_edge {P : Nat → Pt R} {n k : Nat} {S : List Tri} (hS : StateInv P n k S) {t : Tri} (ht : t ∈ S)
    {e : Edge} (he : e ∈ edges t) :
    ∃ c, Present n k c ∧ orient (P e.1) (P e.2) (P c) < 0 ∧
      (∀ j, Present n k j → ¬ inCircleDet (P e.1) (P e.2) (P c) (P j) < 0) ∧
      ∀ x, insideCirc P t x = true ↔ inCircleDet (P e.1) (P e.2) (P c) x < 0 := by
  obtain ⟨c, hc, hor, hdet⟩ := edge_opp P t e he
  obtain ⟨h1, h2, p1, p2, p3⟩ := hS t ht
  refine ⟨c, ?_, hor.trans_lt h1, fun j hj => ?_, fun x => ?_⟩
  · rcases hc with rfl | rfl | rfl <;> assumption
  · rw [hdet]; exact h2 j hj
  · rw [hdet, insideCirc, decide_eq_true_eq]

section
-- Arguments of every lemma of this section, before its own: `P n hsuper` (`stateInv_zero`), `P n hsuper hin` (the next
-- two), and `P env henv n hsuper hin` — clockwise super-triangle, inputs inside it, enumerations are permutations — after
-- `include henv`.
variable (P : Nat → Pt R) (env : List Tri → List Tri) (henv : ∀ l, (env l).Perm l) (n : Nat)
  (hsuper : orient (P n) (P (n + 1)) (P (n + 2)) < 0) (hin : InputsInSuper P n)
include hsuper

theorem stateInv_zero : StateInv P n 0 [(n, n + 1, n + 2)] := by
  intro t ht
  rw [List.mem_singleton.mp ht]
  have hc := inCircleDet_corner (P n) (P (n + 1)) (P (n + 2))
  refine ⟨hsuper, ?_, Or.inr (Or.inl rfl), Or.inr (Or.inr (Or.inl rfl)), Or.inr (Or.inr (Or.inr rfl))⟩
  rintro j (hj | rfl | rfl | rfl)
  · omega
  · rw [hc.1]; exact lt_irrefl _
  · rw [hc.2.1]; exact lt_irrefl _
  · rw [hc.2.2]; exact lt_irrefl _

include hin

/-- the present points lie in the closed super-triangle: the inputs strictly inside (`hin`), its own corners on two of its
    lines and on the inner side of the third -/
theorem present_in_super (k : Nat) (hk : k ≤ n) (j : Nat) (hj : Present n k j) :
    orient (P n) (P (n + 1)) (P j) ≤ 0 ∧ orient (P (n + 1)) (P (n + 2)) (P j) ≤ 0 ∧ orient (P (n + 2)) (P n) (P j) ≤ 0 := by
  obtain ⟨r1, r2⟩ := orient_rot (P n) (P (n + 1)) (P (n + 2))
  rcases hj with hj | rfl | rfl | rfl
  · exact ⟨(hin j (by omega)).1.le, (hin j (by omega)).2.1.le, (hin j (by omega)).2.2.le⟩
  · exact ⟨(orient_self _ _).1.le, (r1.trans_lt hsuper).le, (orient_self _ _).2.le⟩
  · exact ⟨(orient_self _ _).2.le, (orient_self _ _).1.le, (r2.trans_lt hsuper).le⟩
  · exact ⟨hsuper.le, (orient_self _ _).2.le, (orient_self _ _).1.le⟩

/-- a present point is never strictly beyond a boundary edge of the super-triangle -/
theorem present_super_side (k : Nat) (hk : k ≤ n) (e : Edge) (he : isSuperEdge n e) (j : Nat) (hj : Present n k j) :
    orient (P e.1) (P e.2) (P j) ≤ 0 := by
  obtain ⟨h1, h2, h3⟩ := present_in_super P n hsuper hin k hk j hj
  rcases he with rfl | rfl | rfl
  · exact h1
  · exact h2
  · exact h3

/-- **cavity_edge**: in a state satisfying the invariant whose edges are paired, every boundary edge `e` of the cavity of
    the next point `p = P k` has `p` strictly on its inner side (`FanPositive` at `e`), the fan triangle `(e.1, e.2, k)` has no
    present point strictly inside its circumcircle (`FanEmpty` at `e`), and its end points are present -/
theorem cavity_edge (k : Nat) (hk : k < n) (S : List Tri) (hn : S.Nodup) (hinv : StateInv P n k S)
    (hpair : Paired n S)
    (e : Edge) (he : e ∈ polygon (S.filter (fun t => insideCirc P t (P k)))) :
    orient (P e.1) (P e.2) (P k) < 0 ∧
    (∀ j, Present n k j → ¬ inCircleDet (P e.1) (P e.2) (P k) (P j) < 0) ∧
    Present n k e.1 ∧ Present n k e.2 := by
  obtain ⟨⟨T, hT, heT⟩, hrev⟩ := polygon_sub_boundary (hn.filter _)
    (fun t ht a b => no_both_dirs P t (hinv t (List.mem_filter.mp ht).1).1.ne a b) he
  obtain ⟨hTS, hTbad⟩ := List.mem_filter.mp hT
  obtain ⟨c, pc, hcw, houtT, hTc⟩ := hinv.from_edge hTS heT
  obtain ⟨pa, pb⟩ := hinv.edge_present hTS heT
  have hbadc := (hTc _).mp hTbad
  rcases hpair T hTS e heT with hse | ⟨u, huS, hue⟩
  · -- a boundary edge of the super-triangle: the point is inside the super-triangle, nothing lies beyond the edge
    have hp : orient (P e.1) (P e.2) (P k) < 0 := by
      rcases hse with rfl | rfl | rfl
      · exact (hin k hk).1
      · exact (hin k hk).2.1
      · exact (hin k hk).2.2
    exact ⟨hp, fun j hj => fan_empty_same_side _ _ _ _ _ hcw hp
      (present_super_side P n hsuper hin k hk.le e hse j hj) hbadc (houtT j hj), pa, pb⟩
  · -- the neighbour `u` across the edge, seen from the reversed edge with apex `q`, is not bad
    obtain ⟨q, -, hqcw, houtu, huq⟩ := hinv.from_edge huS hue
    have hnb : ¬ inCircleDet (P e.2) (P e.1) (P q) (P k) < 0 := fun hub =>
      hrev ⟨u, List.mem_filter.mpr ⟨huS, (huq _).mpr hub⟩, hue⟩
    have hp : orient (P e.1) (P e.2) (P k) < 0 := boundary_edge_inner _ _ _ _ _ hcw hqcw (houtu c pc) hbadc hnb
    refine ⟨hp, fun j hj => ?_, pa, pb⟩
    rcases le_total (orient (P e.1) (P e.2) (P j)) 0 with hx | hx
    · exact fan_empty_same_side _ _ _ _ _ hcw hp hx hbadc (houtT j hj)
    · exact fan_empty_other_side _ _ _ _ _ hqcw hp hx hnb (houtu j hj)

include henv

/-- what one insertion does to a state satisfying the invariant whose edges are paired: the fan triangles are exactly
    `(e.1, e.2, k)` for the boundary edges `e` of the cavity, and the invariant is kept -/
theorem stateInv_step (k : Nat) (hkn : k < n) (S : List Tri) (hnod : S.Nodup) (hS : StateInv P n k S) (hX : Paired n S) :
    (∀ t, t ∈ step P env S k ↔ (t ∈ S ∧ insideCirc P t (P k) = false) ∨
        ∃ e ∈ polygon (S.filter (fun t => insideCirc P t (P k))), t = (e.1, e.2, k)) ∧
    StateInv P n (k + 1) (step P env S k) := by
  have hce := cavity_edge P n hsuper hin k hkn S hnod hS hX
  have hmem : ∀ t, t ∈ step P env S k ↔ (t ∈ S ∧ insideCirc P t (P k) = false) ∨
      ∃ e ∈ polygon (S.filter (fun t => insideCirc P t (P k))), t = (e.1, e.2, k) := by
    intro t
    rw [(step_spec P env henv S hnod k).2 t]
    refine or_congr Iff.rfl (exists_congr fun e => and_congr_right fun he => ?_)
    have h1 : e.1 ≠ k := fun h => not_present_self hkn (h ▸ (hce e he).2.2.1)
    have h2 : e.2 ≠ k := fun h => not_present_self hkn (h ▸ (hce e he).2.2.2)
    rw [fanTri_of_nonpos (hce e he).1.le]; simp [h1, h2]
  refine ⟨hmem, fun t ht => ?_⟩
  rcases (hmem t).mp ht with ⟨hold, hkeep⟩ | ⟨e, he, rfl⟩
  · obtain ⟨a, b, c1, c2, c3⟩ := hS t hold
    refine ⟨a, fun j hj => ?_, present_mono c1, present_mono c2, present_mono c3⟩
    rcases present_succ.mp hj with hj | rfl
    · exact b j hj
    · simpa [insideCirc] using hkeep
  · obtain ⟨a, b, c1, c2⟩ := hce e he
    refine ⟨a, fun j hj => ?_, present_mono c1, present_mono c2, present_succ.mpr (Or.inr rfl)⟩
    rcases present_succ.mp hj with hj | rfl
    · exact b j hj
    · rw [(inCircleDet_corner _ _ _).2.2]; exact lt_irrefl _

theorem stateInv_of_edgePaired (hpair : EdgePaired P env n) :
    ∀ k ≤ n, StateInv P n k (stateAt P env n k) :=
  stateAt_rec P env n (StateInv P n) (stateInv_zero P n hsuper) fun k hk ih =>
    (stateInv_step P env henv n hsuper hin k hk _ (stateAt_nodup P env henv n k) ih (hpair k hk)).2

/-- pairing and uniqueness of directed edges survive an insertion whose cavity boundary is a disc boundary: the geometry
    (`stateInv_step`) says that the new triangles are the fan `(e.1, e.2, k)` over the hole boundary, the rest is `fan_pairing` -/
theorem pairing_step (k : Nat) (hkn : k < n) (S : List Tri) (hnod : S.Nodup) (hS : StateInv P n k S) (hX : Paired n S) (hU : EdgeUnique S)
    (hD : DiscAt (polygon (S.filter (fun t => insideCirc P t (P k))))) :
    Paired n (step P env S k) ∧ EdgeUnique (step P env S k) := by
  refine fan_pairing (B := fun t => insideCirc P t (P k)) (stateInv_step P env henv n hsuper hin k hkn S hnod hS hX).1
    (mem_polygon_iff_boundary (hnod.filter _)
      (fun t ht a b => no_both_dirs P t (hS t (List.mem_filter.mp ht).1).1.ne a b)
      (EdgeUnique.sublist hU fun t ht => (List.mem_filter.mp ht).1))
    (fun t ht e he => ?_) hX hU hD
  obtain ⟨p1, p2⟩ := hS.edge_present ht he
  exact ⟨fun h => not_present_self hkn (h ▸ p1), fun h => not_present_self hkn (h ▸ p2)⟩

/-- both geometric hypotheses follow from the combinatorial one -/
theorem fanPositive_of_edgePaired (hpair : EdgePaired P env n) :
    FanPositive P env n := by
  intro k hk e he _
  exact (cavity_edge P n hsuper hin k hk _ (stateAt_nodup P env henv n k)
    (stateInv_of_edgePaired P env henv n hsuper hin hpair k hk.le) (hpair k hk) e he).1

theorem fanEmpty_of_edgePaired (hpair : EdgePaired P env n) :
    FanEmpty P env n := by
  intro k hk e he _ j hj
  have hce := cavity_edge P n hsuper hin k hk _ (stateAt_nodup P env henv n k)
    (stateInv_of_edgePaired P env henv n hsuper hin hpair k hk.le) (hpair k hk) e he
  rw [fanTri_of_nonpos hce.1.le, insideCirc, decide_eq_false_iff_not]
  exact hce.2.1 j (Or.inl hj)

/-- **bw_delaunay_of_edgePaired**: for a clockwise super-triangle strictly containing the inputs, and every map order: if the
    states' edges are paired (`EdgePaired`, combinatorial), then NO triangle of the final state — hence no output triangle — has
    an input point (or a super-triangle vertex) strictly inside its circumcircle, and every one is strictly clockwise. -/
theorem bw_delaunay_of_edgePaired (hpair : EdgePaired P env n) :
    ∀ t ∈ bw P env n, orient (P t.1) (P t.2.1) (P t.2.2) < 0 ∧
      ∀ j < n, ¬ inCircleDet (P t.1) (P t.2.1) (P t.2.2) (P j) < 0 := by
  intro t ht
  have hl : t ∈ stateAt P env n n := (List.mem_filter.mp ht).1
  obtain ⟨i1, i3, _⟩ := stateInv_of_edgePaired P env henv n hsuper hin hpair n le_rfl t hl
  exact ⟨i1, fun j hj => i3 j (Or.inl hj)⟩

/-- the full structural invariant along the run, from `CavityDisc` alone -/
theorem structure_of_cavityDisc (hdisc : CavityDisc P env n) :
    ∀ k ≤ n, StateInv P n k (stateAt P env n k) ∧ Paired n (stateAt P env n k) ∧ EdgeUnique (stateAt P env n k) := by
  refine stateAt_rec P env n (fun k S => StateInv P n k S ∧ Paired n S ∧ EdgeUnique S)
    ⟨stateInv_zero P n hsuper, ?_, ?_⟩ ?_
  · intro t ht e he
    rw [List.mem_singleton.mp ht] at he
    exact Or.inl (mem_edges.mp he)
  · intro t ht u hu e _ _
    rw [List.mem_singleton.mp ht, List.mem_singleton.mp hu]
  · rintro k hkn ⟨hS, hX, hU⟩
    have hnod := stateAt_nodup P env henv n k
    exact ⟨(stateInv_step P env henv n hsuper hin k hkn _ hnod hS hX).2,
      pairing_step P env henv n hsuper hin k hkn _ hnod hS hX hU (hdisc k hkn)⟩

theorem edgePaired_of_cavityDisc (hdisc : CavityDisc P env n) :
    EdgePaired P env n :=
  fun k hk => (structure_of_cavityDisc P env henv n hsuper hin hdisc k hk.le).2.1

end

/-- the empty-circumcircle clause under `EdgePaired`; superseded in strength by `bw_delaunay_of_cavityDisc` -/
theorem bw_empty_circumcircles_of_edgePaired (P : Nat → Pt R) (env : List Tri → List Tri) (henv : ∀ l, (env l).Perm l)
    (n : Nat) (hsuper : orient (P n) (P (n + 1)) (P (n + 2)) < 0) (hin : InputsInSuper P n)
    (hpair : EdgePaired P env n) :
    ∀ t ∈ bw P env n, ∀ j < n, ¬ StrictlyInsideCircumcircle (P t.1) (P t.2.1) (P t.2.2) (P j) := by
  intro t ht j hj hins
  obtain ⟨h1, h2⟩ := bw_delaunay_of_edgePaired P env henv n hsuper hin hpair t ht
  exact h2 j hj (inCircle_neg_of_inside _ _ _ _ h1 hins)

/-- **bw_delaunay_of_cavityDisc**, THE RESULT about the model's triangulation: clockwise super-triangle strictly containing the inputs, any map order.  If at every
    insertion the cavity boundary has in- and out-degree one at each vertex (`CavityDisc`: the ONE remaining, purely
    combinatorial hypothesis), then every output triangle is strictly clockwise (one winding, positive area) and has no
    input point strictly inside its circumcircle.  `FanPositive` and `FanEmpty` are not hypotheses: they are proved
    along the way (`cavity_edge`). -/
theorem bw_delaunay_of_cavityDisc (P : Nat → Pt R) (env : List Tri → List Tri) (henv : ∀ l, (env l).Perm l) (n : Nat)
    (hsuper : orient (P n) (P (n + 1)) (P (n + 2)) < 0) (hin : InputsInSuper P n) (hdisc : CavityDisc P env n) :
    ∀ t ∈ bw P env n, orient (P t.1) (P t.2.1) (P t.2.2) < 0 ∧
      (∀ j < n, ¬ inCircleDet (P t.1) (P t.2.1) (P t.2.2) (P j) < 0) ∧
      (∀ j < n, ¬ StrictlyInsideCircumcircle (P t.1) (P t.2.1) (P t.2.2) (P j)) := by
  intro t ht
  have hp := edgePaired_of_cavityDisc P env henv n hsuper hin hdisc
  obtain ⟨h1, h2⟩ := bw_delaunay_of_edgePaired P env henv n hsuper hin hp t ht
  exact ⟨h1, h2, fun j hj hins => h2 j hj (inCircle_neg_of_inside _ _ _ _ h1 hins)⟩

/-- `FanPositive` and `FanEmpty` follow from `CavityDisc` -/
theorem fan_hypotheses_of_cavityDisc (P : Nat → Pt R) (env : List Tri → List Tri) (henv : ∀ l, (env l).Perm l) (n : Nat)
    (hsuper : orient (P n) (P (n + 1)) (P (n + 2)) < 0) (hin : InputsInSuper P n) (hdisc : CavityDisc P env n) :
    FanPositive P env n ∧ FanEmpty P env n :=
  ⟨fanPositive_of_edgePaired P env henv n hsuper hin (edgePaired_of_cavityDisc P env henv n hsuper hin hdisc),
   fanEmpty_of_edgePaired P env henv n hsuper hin (edgePaired_of_cavityDisc P env henv n hsuper hin hdisc)⟩

end Structure

section PublicEntry
variable {K : Type} [Field K] [LinearOrder K] [IsStrictOrderedRing K]

/-- the model's own point function puts every input strictly inside its (clockwise) super-triangle, for inputs of positive width -/
theorem pointFn_inputsInSuper (p : Pt K) (ps : List (Pt K))
    (hw : minOf p.1 (ps.map (·.1)) < maxOf p.1 (ps.map (·.1))) :
    orient (pointFn p ps (p :: ps).length) (pointFn p ps ((p :: ps).length + 1)) (pointFn p ps ((p :: ps).length + 2)) < 0 ∧
    InputsInSuper (pointFn p ps) (p :: ps).length := by
  obtain ⟨l, t, r, hs, hc⟩ := superTriangle_contains p ps hw
  obtain ⟨h0, h1, h2⟩ := pointFn_super p ps l t r hs
  rw [h0, h1, h2]
  refine ⟨cw_of_inside (hc p List.mem_cons_self), fun j hj => ?_⟩
  rw [h0, h1, h2, pointFn_input p ps j hj]
  exact hc _ (List.getElem_mem hj)

/-- **bowyerWatson_delaunay_of_cavityDisc**: the public entry point of the model, any map order, any input of positive
    width: under `CavityDisc` every output triangle is strictly clockwise and has no input point strictly inside its
    circumcircle. -/
theorem bowyerWatson_delaunay_of_cavityDisc (env : List Tri → List Tri) (henv : ∀ l, (env l).Perm l)
    (p : Pt K) (ps : List (Pt K)) (tris : List Tri) (h : bowyerWatson env (p :: ps) = some tris)
    (hw : minOf p.1 (ps.map (·.1)) < maxOf p.1 (ps.map (·.1)))
    (hdisc : CavityDisc (pointFn p ps) env (p :: ps).length) :
    ∀ t ∈ tris, orient (pointFn p ps t.1) (pointFn p ps t.2.1) (pointFn p ps t.2.2) < 0 ∧
      ∀ j < (p :: ps).length,
        ¬ StrictlyInsideCircumcircle (pointFn p ps t.1) (pointFn p ps t.2.1) (pointFn p ps t.2.2) (pointFn p ps j) := by
  rw [bowyerWatson_eq_some h]
  obtain ⟨hsup, hin⟩ := pointFn_inputsInSuper p ps hw
  intro t ht
  obtain ⟨a, _, c⟩ := bw_delaunay_of_cavityDisc (pointFn p ps) env henv _ hsup hin hdisc t ht
  exact ⟨a, c⟩
end PublicEntry

/-- the executable form decides the remaining hypothesis (for the enumeration order `id`) -/
theorem cavityDisc_check_sound {R : Type} [CommRing R] [LinearOrder R] [IsStrictOrderedRing R]
    (P : Nat → Pt R) (n : Nat) (h : cavityDiscOk P n = true) : CavityDisc P id n := by
  intro k hk
  have h1 := (List.all_eq_true.mp h) k (List.mem_range.mpr hk)
  simp only [discOk, Bool.and_eq_true, List.all_eq_true, List.any_eq_true, beq_iff_eq, Bool.or_eq_true,
    Bool.not_eq_true', beq_eq_false_iff_ne, ne_eq] at h1
  obtain ⟨⟨⟨a, b⟩, c⟩, d⟩ := h1
  refine ⟨fun e he => ?_, fun e he => ?_, fun e he f hf hef => ?_, fun e he f hf hef => ?_⟩
  · obtain ⟨f, hf, hf1⟩ := a e he; exact ⟨f, hf, hf1⟩
  · obtain ⟨f, hf, hf1⟩ := b e he; exact ⟨f, hf, hf1⟩
  · rcases c e he f hf with h | h
    · exact absurd hef h
    · exact h
  · rcases d e he f hf with h | h
    · exact absurd hef h
    · exact h

/-- the hypotheses of `bw_delaunay_of_cavityDisc` are satisfiable: the 3-point instance `exP` (super-triangle strictly
    clockwise, inputs strictly inside it, every cavity a disc) -/
example : orient (exP 3) (exP 4) (exP 5) < 0 ∧ InputsInSuper exP 3 ∧ CavityDisc exP id 3 := by
  refine ⟨by decide, ?_, cavityDisc_check_sound exP 3 (by decide)⟩
  unfold InputsInSuper; decide

/-! ### the witness of the known finding C20-float-incircle-tight-cluster is in general position

Input (insertion order): (352,320), (432,−480), (−880,288), (0,0), (3,1)·2⁻⁴⁶, (1,4)·2⁻⁴⁶, (864,−32); below on the common
scale 2⁴⁶ (the predicates are homogeneous: `orient_smul`, `inCircleDet_smul`).  No three points are collinear and no four
cocircular, by the exact predicates — so the non-Delaunay, overlapping output of the float64 implementation on this input
(oracles `c20.holds.delaunay_tight_cluster_witness`, `c20.holds.no_overlap_tight_cluster_witness`) is not an artefact of
degeneracy. -/

def tightWitness : Fin 7 → Pt ℤ := fun i =>
  [((352 : ℤ) * 2 ^ 46, (320 : ℤ) * 2 ^ 46), (432 * 2 ^ 46, -480 * 2 ^ 46), (-880 * 2 ^ 46, 288 * 2 ^ 46),
   (0, 0), (3, 1), (1, 4), (864 * 2 ^ 46, -32 * 2 ^ 46)].getD i.val (0, 0)

example : ∀ i j k : Fin 7, i < j → j < k → orient (tightWitness i) (tightWitness j) (tightWitness k) ≠ 0 := by
  decide +kernel

example : ∀ i j k l : Fin 7, i < j → j < k → k < l →
    inCircleDet (tightWitness i) (tightWitness j) (tightWitness k) (tightWitness l) ≠ 0 := by
  decide +kernel

example : ∀ i j : Fin 7, i < j → tightWitness i ≠ tightWitness j := by decide +kernel

end C20
end PolyVerif
