/-
  C07 — "positions are rounded to float32": a SPECIFICATION of `q32` (Go's `float32(x)` on a float64).

  Subject: `B32.q32spec` (Model/Binary32.lean): round to nearest, ties to the even pattern, overflow to infinity, in
  exact integer arithmetic on the float64 bit pattern — the definition the C07 driver runs for `c07.q32spec`
  (compared with `math.Float32bits(float32(x))` on ties of both parities, the subnormal range, the overflow
  threshold, ±0, huge/tiny values) and for `c07.holds.q32_stored` (every position word `stl.WriteMesh` stored).
  Here: its meaning over ℝ against IEEE 754 binary32 (`B32.Ieee.binary32`, written independently), and C07's
  position clause restated with it.  Lemmas: Lemmas/Binary32.lean.
-/
import PolyVerif.Props.C07
import PolyVerif.Lemmas.Binary32

set_option exponentiation.threshold 1100

namespace PolyVerif
namespace C07
open Stl B32

/-- THE FINITE CLASS of the decoder (infinities and NaN are treated at the pattern level only, `q32spec_inf_nan`):
    the IEEE 754 binary32 datum of a pattern whose exponent field is not all ones is the finite
    number `± num/2^150` (`num` = `m·2` subnormal, `(2^23+m)·2^e` normal, 0 for ±0) — the reading of a stored word
    that the statements below use -/
theorem binary32_finite (w : BitVec 32) (he : expOf w.toNat ≠ 255) :
    Ieee.binary32 w = .finite ((if w.msb then -1 else 1) * val (w.toNat % 2147483648)) := by
  have ef : (w.extractLsb' 23 8).toNat = expOf w.toNat := by
    rw [BitVec.extractLsb'_toNat, Nat.shiftRight_eq_div_pow]; rfl
  have mf : (w.extractLsb' 0 23).toNat = manOf w.toNat := by
    rw [BitVec.extractLsb'_toNat, Nat.shiftRight_eq_div_pow]; simp [manOf]
  unfold Ieee.binary32
  simp only [ef, mf, if_neg he]
  -- §3.4 c)–e) is `± mag / 2^150` for every format (`FloatFormat.ieee_value`), and `mag` of the fields is `num`
  rw [← apply_ite Ieee.Value.finite,
    FloatFormat.ieee_value (P := 8388608) (c := 2 ^ 150) (tz := 23) (bz := 127) (emin := -126) 23 127 _ _ _ rfl rfl rfl
      (by norm_num) (by norm_num)]
  unfold val
  rw [num_mask]
  rfl

/-- exactness, steps: every finite binary32 magnitude is a 24-bit dyadic `s·2^k/2^150`; consecutive patterns are one
    unit in the last place apart, the magnitude is strictly increasing in the pattern -/
theorem binary32_exact_steps :
    (∀ h, expOf h ≠ 255 → ∃ s k : Nat, s < 2 ^ 24 ∧ 1 ≤ k ∧ k ≤ 254 ∧ val h = (s : ℝ) * 2 ^ k / 2 ^ 150) ∧
    (∀ h, h + 1 < 2147483648 → val (h + 1) = val h + 2 ^ ulpExp h / 2 ^ 150) ∧
    (∀ a b, a < b → b < 2147483648 → val a < val b) := by
  refine ⟨fun h he => ?_, val_succ, fun a b => val_strictMono⟩
  obtain ⟨s, k, hs, h1, h2, e⟩ := num_dyadic h he
  exact ⟨s, k, hs, h1, h2, by unfold val; rw [e]; push_cast; ring⟩

/-- the sign contribution of a float64 pattern to the float32 pattern -/
def signBit (b : Nat) : Nat := if b / 9223372036854775808 % 2 = 1 then 2147483648 else 0

theorem f64Dyadic_pos (b : Nat) : 0 < (f64Dyadic b).2.2 := by
  unfold f64Dyadic
  simp only []
  split_ifs <;> simp

/-- THE SPECIFICATION, finite inputs.  For every float64 pattern `b` whose exponent field is not all ones, with
    `|x| = n/d` its exact dyadic value (`f64Dyadic`):
    * below the overflow threshold `max finite + half ulp = (2^25−1)·2^103` (explicit guard) the result is the sign bit
      plus a FINITE pattern `h`, one of the two patterns `h0`, `h0+1` bracketing `|x|`
      (`val h0 ≤ |x| < val h0 + ulp`), at distance at most HALF A UNIT IN THE LAST PLACE, and — in the normal range
      `2^−126 ≤ |x|` — at relative distance at most `2^−24`;
    * at or above the threshold it is the signed infinity pattern. -/
theorem q32spec_finite (b : Nat) (hb : b / 4503599627370496 % 2048 ≠ 2047) :
    let n := (f64Dyadic b).2.1
    let d := (f64Dyadic b).2.2
    let x : ℝ := (n : ℝ) / d
    (n * 2 ^ 150 < thrNum * d →
      ∃ h e h0, q32spec b = signBit b + h ∧ h < infPat ∧ (h = h0 ∨ h = h0 + 1) ∧ ulpExp h0 = e ∧
        val h0 ≤ x ∧ x < val h0 + 2 ^ e / 2 ^ 150 ∧ |val h - x| ≤ 2 ^ e / 2 ^ 151 ∧
        (2 ^ 24 * d ≤ n * 2 ^ 150 → |val h - x| ≤ x / 2 ^ 24)) ∧
    (thrNum * d ≤ n * 2 ^ 150 → q32spec b = signBit b + infPat) := by
  intro n d x
  have hd : 0 < d := f64Dyadic_pos b
  have hq : q32spec b = signBit b + roundMag n d := by
    unfold q32spec signBit
    simp only [if_neg hb]
    rfl
  constructor
  · intro hx
    obtain ⟨e, h0, hB⟩ := roundMag_bracket_of_lt n d hd hx
    obtain ⟨r1, r2, r3⟩ := bracket_real hd hB
    refine ⟨roundMag n d, e, h0, hq, roundMag_finite n d hd hx, ?_, hB.ulp, r1, r2, r3,
      fun hn => bracket_relative hd hB hn⟩
    rcases hB.choice with ⟨eR, _, _⟩ | ⟨eR, _, _⟩
    · exact Or.inl eR
    · exact Or.inr eR
  · intro hx
    rw [hq, roundMag_overflow n d hd hx]

/-- infinities and NaN: `float32(±Inf) = ±Inf`, every NaN gives a (canonical, quiet) NaN -/
theorem q32spec_inf_nan (b : Nat) (hb : b / 4503599627370496 % 2048 = 2047) :
    q32spec b = if b % 4503599627370496 = 0 then signBit b + infPat else nanPat := by
  unfold q32spec signBit
  simp only [hb, if_true]

/-- IDEMPOTENCE of the rounding step `roundMag` that `q32spec` applies to the magnitude (this is `B32.roundMag_num`; it
    does not mention `q32spec` itself): rounding the exact value `num h / 2^150` of a finite binary32 pattern gives the
    pattern back -/
theorem q32spec_idempotent (h : Nat) (hh : h < infPat) : roundMag (num h) (2 ^ 150) = h := roundMag_num h hh

/-- the spec never produces a signalling NaN: the hypothesis `hq` of `stl_mesh_roundtrip` -/
theorem q32spec_quiet (b : Nat) : quiet (BitVec.ofNat 32 (q32spec b)) = BitVec.ofNat 32 (q32spec b) := by
  have hcases : q32spec b = nanPat ∨ ∃ s h, (s = 0 ∨ s = 2147483648) ∧ h ≤ infPat ∧ q32spec b = s + h := by
    have hs : signBit b = 0 ∨ signBit b = 2147483648 := by unfold signBit; split_ifs <;> simp
    by_cases c1 : b / 4503599627370496 % 2048 = 2047
    · rw [q32spec_inf_nan b c1]
      split_ifs
      · exact Or.inr ⟨signBit b, infPat, hs, le_refl _, rfl⟩
      · exact Or.inl rfl
    · refine Or.inr ⟨signBit b, roundMag (f64Dyadic b).2.1 (f64Dyadic b).2.2, hs, Nat.min_le_right _ _, ?_⟩
      unfold q32spec signBit
      simp only [if_neg c1]
  rcases hcases with e | ⟨s, h, hs, hh, e⟩
  · rw [e]; decide
  · rw [e]
    unfold infPat at hh
    have hn : isNaN32 (BitVec.ofNat 32 (s + h)) = false := by
      unfold isNaN32
      rw [BitVec.toNat_ofNat]
      rcases hs with rfl | rfl <;> · simp only [decide_eq_false_iff_not, not_lt]; omega
    unfold quiet
    rw [hn]; rfl

/-- the precision bundle whose `q32` is the SPECIFICATION, on float64 bit patterns -/
def specParams (up : W32 → Nat) (avg flat : P3 Nat → P3 Nat → P3 Nat → P3 Nat) : Params Nat :=
  ⟨fun b => BitVec.ofNat 32 (q32spec b), up, avg, flat⟩

/-- C07's POSITION CLAUSE WITH THE SPEC: for every well-formed mesh of float64 bit patterns, `WriteMesh` produces
    `84 + 50·n` bytes = `encode` of records whose corner words are `q32spec` of the mesh coordinates (written little
    endian by `encode`), and `ReadMesh` returns them: corner `k` = `up (q32spec position[indices[k]])` — with
    `q32spec_finite` the value stored is within half an ulp (relative `2^−24` in the normal range) of the coordinate. -/
theorem stl_positions_q32spec (up : W32 → Nat) (avg flat : P3 Nat → P3 Nat → P3 Nat → P3 Nat)
    (m : Mesh Nat) (hwf : WF m) (hn : m.indices.length / 3 < 2 ^ 32) :
    ∃ bs r ts, writeTris (specParams up avg flat) m = .ok ts ∧ bs = encode zeroHeader ts ∧
      writeMesh (specParams up avg flat) m = .ok bs ∧ bs.length = 84 + 50 * (m.indices.length / 3) ∧
      readMesh (specParams up avg flat) bs = .ok r ∧ RoundTrips (specParams up avg flat) m r = true := by
  obtain ⟨bs, r, h1, h2, h3, h4⟩ :=
    stl_mesh_roundtrip (specParams up avg flat) (fun x => q32spec_quiet x) m hwf hn
  unfold writeMesh at h1
  cases hts : writeTris (specParams up avg flat) m with
  | error e => rw [hts] at h1; simp [Except.map] at h1
  | ok ts =>
    rw [hts] at h1
    simp only [Except.map, Except.ok.injEq] at h1
    exact ⟨bs, r, ts, rfl, h1.symm, by unfold writeMesh; rw [hts]; simp [Except.map, h1], h2, h3, h4⟩

/-- one record of that file, spelled out: the three corner words of a triangle are `q32spec` of the coordinates -/
theorem stl_record_words_q32spec (up : W32 → Nat) (avg flat : P3 Nat → P3 Nat → P3 Nat → P3 Nat)
    (ps : List (P3 Nat)) (a b c : Nat) (p1 p2 p3 : P3 Nat) (h1 : ps[a]? = some p1) (h2 : ps[b]? = some p2)
    (h3 : ps[c]? = some p3) :
    buildTris (specParams up avg flat) ps none [(a, b, c)] =
      .ok [⟨zeroV, p1.map fun x => BitVec.ofNat 32 (q32spec x), p2.map fun x => BitVec.ofNat 32 (q32spec x),
            p3.map fun x => BitVec.ofNat 32 (q32spec x), 0⟩] := by
  simp [buildTris, storedNormal, h1, h2, h3, specParams]

/-! ### non-vacuity: closed values of the spec (1.0, π, the tie 2^−150 → even pattern 0, just above it → 1,
    the overflow threshold → +∞, just below → max finite, −0) -/
example : q32spec 0x3ff0000000000000 = 0x3f800000 ∧ q32spec 0x400921fb54442d18 = 0x40490fdb ∧
    q32spec 0x3690000000000000 = 0 ∧ q32spec 0x3690000000000001 = 1 ∧
    q32spec 0x47effffff0000000 = 0x7f800000 ∧ q32spec 0x47efffffefffffff = 0x7f7fffff ∧
    q32spec 0x8000000000000000 = 0x80000000 := by decide +kernel
/-- π is finite, below the threshold and in the normal range: the guards of `q32spec_finite` hold -/
example : (0x400921fb54442d18 / 4503599627370496 % 2048 ≠ 2047) ∧
    (f64Dyadic 0x400921fb54442d18).2.1 * 2 ^ 150 < thrNum * (f64Dyadic 0x400921fb54442d18).2.2 ∧
    2 ^ 24 * (f64Dyadic 0x400921fb54442d18).2.2 ≤ (f64Dyadic 0x400921fb54442d18).2.1 * 2 ^ 150 := by decide +kernel

end C07
end PolyVerif
