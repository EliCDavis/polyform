/-
  C18 — the NODE WRAPPERS of the solid primitives inside the regenerated model.

  `UvSphereNode`, `HemisphereNode`, `CylinderNode`, `CubeNode` are how the primitives are reached from a node graph:
  every input port is optional; `Process()` substitutes defaults, clamps (UV sphere only) and calls one constructor.
  Engine F (`go/facts c18.nodes`) regenerates each `Process` body from sphere.go / hemisphere.go / cylinder.go / cube.go on
  every run as a program of `Model/NodeIR.lean` (`Gen/PrimNodes.lean`); here the hand model `Model/SolidsNodes.lean` (the
  one the driver answers the `c18.node.*` correspondence lines from) is PROVED equal to the interpretation of the
  regenerated program for EVERY assignment of the ports and every scalar type, and the consequences for C18 are drawn:
  the UV-sphere node can never reach the constructors' panics and always yields a closed, face-connected surface; the
  defaults of the other nodes are admissible.
-/
import PolyVerif.Props.C18Connected
import PolyVerif.Model.SolidsNodes
import PolyVerif.Gen.PrimNodes

namespace PolyVerif
namespace C18
open Solids NodeIR

section
variable {α : Type} [Scalar α]

/-- `UvSphereNodeData.Process` (sphere.go): defaults `.5, 10, 10, true`, `rows = max(rows, 2)`, `columns = max(columns, 3)`,
    `UVSphere` when welded else `UVSphereUnwelded` — the extracted program computes exactly the model, ∀ ports -/
theorem uvSphereNode_from_source (i : UvSphereNodeIn α) :
    run Gen.PrimNodes.uvSphereNode (uvSphereNodePorts i) = some (uvSphereNodeCall i) := by
  obtain ⟨r, ro, c, w⟩ := i
  cases r <;> cases ro <;> cases c <;> cases w <;> first | rfl | (rename_i b; cases b <;> rfl)

/-- `HemisphereNodeData.Process` (hemisphere.go): defaults `0.5, true, 20, 20`, no clamp, `Hemisphere{..}.UV(rows, columns)` -/
theorem hemisphereNode_from_source (i : HemisphereNodeIn α) :
    run Gen.PrimNodes.hemisphereNode (hemisphereNodePorts i) = some (hemisphereNodeCall i) := by
  obtain ⟨ro, c, r, cp⟩ := i
  cases r <;> cases ro <;> cases c <;> cases cp <;> rfl

/-- `CylinderNodeData.Process` (cylinder.go): defaults `0.5, 1., true, true, 20`, `NoTop: !top`, `NoBottom: !bottom` -/
theorem cylinderNode_from_source (i : CylinderNodeIn α) :
    run Gen.PrimNodes.cylinderNode (cylinderNodePorts i) = some (cylinderNodeCall i) := by
  obtain ⟨s, h, r, t, b⟩ := i
  cases s <;> cases h <;> cases r <;> cases t <;> cases b <;> rfl

/-- `CubeNodeData.Process` (cube.go): defaults `1, 1, 1`, each port overrides ITS OWN field, `cube.UnweldedQuads()` -/
theorem cubeNode_from_source (i : CubeNodeIn α) :
    run Gen.PrimNodes.cubeNode (cubeNodePorts i) = some (cubeNodeCall i) := by
  obtain ⟨w, h, d⟩ := i
  cases w <;> cases h <;> cases d <;> rfl

omit [Scalar α] in
/-- **the UV-sphere node never reaches the constructors' panics**: whatever is connected (negative counts included), the
    row / column counts it passes on are naturals `R ≥ 2`, `C ≥ 3` — and so its index buffer is a closed, consistently
    oriented, face-connected surface (welded: literally; unwelded: modulo the copy map) -/
theorem uvSphereNode_always_solid (i : UvSphereNodeIn α) :
    ∃ R C : Nat, uvSphereNodeRows i = (R : Int) ∧ uvSphereNodeCols i = (C : Int) ∧ uvAdmissible R C = true ∧
      Closed (uvSphereTris R C) ∧ FaceConnected (uvSphereTris R C) ∧
      ClosedMod (uvUnweldedSrc R C) (uvSphereUnweldedTris R C) ∧
      FaceConnectedMod (uvUnweldedSrc R C) (uvSphereUnweldedTris R C) := by
  have h2 : 2 ≤ uvSphereNodeRows i := by unfold uvSphereNodeRows; omega
  have h3 : 3 ≤ uvSphereNodeCols i := by unfold uvSphereNodeCols; omega
  refine ⟨(uvSphereNodeRows i).toNat, (uvSphereNodeCols i).toNat, by omega, by omega, ?_⟩
  have hR : 2 ≤ (uvSphereNodeRows i).toNat := by omega
  have hC : 3 ≤ (uvSphereNodeCols i).toNat := by omega
  refine ⟨by simp [uvAdmissible, hR, hC], uvSphere_closed hR hC, uvSphere_faceConnected hR hC,
    uvSphereUnwelded_closed_mod_merge hR hC, uvSphereUnwelded_faceConnected_mod_merge hR hC⟩
end

/-- the unconnected nodes call their constructors on admissible parameters: hemisphere 20 × 20, cylinder 20 sides with
    both caps (`NoTop = NoBottom = false`), UV sphere 10 × 10 welded, unit box -/
theorem node_defaults_admissible :
    (∀ {α : Type} [Scalar α], ∃ r : α, (hemisphereNodeCall (α := α) ⟨none, none, none, none⟩).args = [.int 20, .int 20] ∧
      (hemisphereNodeCall (α := α) ⟨none, none, none, none⟩).recv = [("Radius", .flt r), ("Capped", .bool true)]) ∧
    uvAdmissible 20 20 = true ∧
    (∀ {α : Type} [Scalar α], ∃ r h : α, (cylinderNodeCall (α := α) ⟨none, none, none, none, none⟩).recv =
      [("Radius", .flt r), ("Height", .flt h), ("Sides", .int 20), ("NoTop", .bool false), ("NoBottom", .bool false)]) ∧
    cylinderAdmissible 20 false false = true ∧
    (∀ {α : Type} [Scalar α], uvSphereNodeRows (α := α) ⟨none, none, none, none⟩ = 10 ∧
      uvSphereNodeCols (α := α) ⟨none, none, none, none⟩ = 10 ∧ uvSphereNodeWeld (α := α) ⟨none, none, none, none⟩ = true) := by
  refine ⟨fun {α} _ => ⟨_, rfl, rfl⟩, by decide, fun {α} _ => ⟨_, _, rfl⟩, by decide, fun {α} _ => ⟨?_, ?_, rfl⟩⟩
  · simp [uvSphereNodeRows]
  · simp [uvSphereNodeCols]

/-! non-vacuity: a connected port below the minimum is clamped; a connected hemisphere port is passed through -/
example : uvSphereNodeRows (α := Float) ⟨none, some (-7), some 1, some false⟩ = 2 := by decide
example : uvSphereNodeCols (α := Float) ⟨none, some (-7), some 1, some false⟩ = 3 := by decide
example : (uvSphereNodeCall (α := Float) ⟨none, some 5, some 1, some false⟩).fn = "UVSphereUnwelded" := rfl

end C18
end PolyVerif
