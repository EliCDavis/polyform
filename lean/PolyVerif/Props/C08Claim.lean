/-
  C08 — the CLAIM STAGE for spec headers: `Located` hypotheses of `ply_reads_spec_pointcloud_bytes` /
  `ply_reads_spec_mesh_bytes` discharged from a DECIDABLE header-level guard, reusing C04's characterisation of
  `buildAll` (`Props/C04Claim.lean`: `claimGuard`, `claimSpec`, `ply_claim_stage`, `ply_claim_stage_exact`).

  Family covered (`specClaimGuard f ws`, decidable, header only — no data): the vertex properties of `f`, in file order,
  are the concatenation of the name groups `ws` (each group = the names one tool writes together with ONE scalar type:
  `x y z`, `nx ny nz`, `red green blue [alpha]`, `s t`, `u v`, splat groups, single scalars), the names are distinct, and
  C04's `claimGuard ws` holds.  Inside it the readers `MeshReader.Read` builds are EXACTLY `claimSpec ws`, every one
  located at its names, and their (arity, attribute) keys are those `meaning` installs (`meaningKeys`, the header-only
  part of `PlySpec.meaning`; the equality of the two key lists is the last, decidable, conjunct of the guard).
  NOT covered (kept as `ply_spec_claim_full : Prop`): a group whose names are INTERLEAVED with other properties or stand
  in another order than the reader lists them (`z q x y`): for those `ply_group_reader_located` gives the per-reader fact.
-/
import PolyVerif.Props.C04Claim
import PolyVerif.Props.C08Mesh
import PolyVerif.Model.PlySpecKeys

namespace PolyVerif
namespace C08
open Ply PlySpec PlyLemmas PlyCompose PlyHeader PlyFaces PlyClaim

variable {α : Type}

/-- the readers `MeshReader.Read` builds on the spec header, each with the header positions of its names -/
def specClaimed (f : SpecFile α) : List (Built × List Nat) :=
  (buildAll true (specProps f) defaultReaders true).map (fun b => (b, b.names.map (posOf (specProps f))))

theorem specClaimed_built (f : SpecFile α) : (specClaimed f).map (·.1) = buildAll true (specProps f) defaultReaders true := by
  simp [specClaimed, List.map_map, Function.comp_def]

theorem specProps_tys (f : SpecFile α) : f.vprops.map (·.ty) = (specProps f).map (·.2) := by
  simp [specProps, Function.comp_def]

/-- THE DECIDABLE HEADER-LEVEL GUARD -/
def specClaimGuard (f : SpecFile α) (ws : List WProp) : Bool :=
  specProps f == wsProps ws && decide (wsNames ws).Nodup && claimGuard ws &&
  (claimSpec ws).map (fun x => (x.2.1.length, x.1)) == meaningKeys f

theorem specClaimGuard_parts (f : SpecFile α) (ws : List WProp) (h : specClaimGuard f ws = true) :
    specProps f = wsProps ws ∧ (wsNames ws).Nodup ∧ claimGuard ws = true ∧
      (claimSpec ws).map (fun x => (x.2.1.length, x.1)) = meaningKeys f := by
  simp only [specClaimGuard, Bool.and_eq_true, beq_iff_eq, decide_eq_true_eq] at h
  exact ⟨h.1.1.1, h.1.1.2, h.1.2, h.2⟩

/-- INSIDE THE GUARD every reader built on the spec header is located at its names (one type, byte offsets = Σ sizes of
the properties before, in FILE order) -/
theorem ply_spec_claim_located (f : SpecFile α) (ws : List WProp) (hg : specClaimGuard f ws = true) :
    ∀ p ∈ specClaimed f, Located (f.vprops.map (·.ty)) p.1 p.2 := by
  obtain ⟨hp, hnd, hcg, _⟩ := specClaimGuard_parts f ws hg
  intro p hpm
  simp only [specClaimed, List.mem_map] at hpm
  obtain ⟨b, hb, rfl⟩ := hpm
  rw [specProps_tys, hp, wsProps_eq] at *
  exact ((C04.ply_claim_stage ws hnd hcg).1 b hb).loc

/-- … the built readers are EXACTLY the predicted ones (attribute, names, decoding type) … -/
theorem ply_spec_claim_exact (f : SpecFile α) (ws : List WProp) (hg : specClaimGuard f ws = true) :
    (specClaimed f).map (fun p => (p.1.attr, p.1.names, p.1.ty)) = (claimSpec ws).map (fun x => (x.1, x.2.1, some x.2.2)) := by
  obtain ⟨hp, hnd, hcg, _⟩ := specClaimGuard_parts f ws hg
  simp only [specClaimed, List.map_map, Function.comp_def]
  rw [hp]
  exact C04.ply_claim_stage_exact ws hnd hcg

/-- … and their attribute NAMES AND ARITIES are exactly those of `meaning`, in `meaning`'s order -/
theorem ply_spec_attribute_keys_are_meaning (f : SpecFile α) (ws : List WProp) (hg : specClaimGuard f ws = true) :
    (specClaimed f).map (fun p => (p.1.names.length, p.1.attr)) = meaningKeys f := by
  have h := ply_spec_claim_exact f ws hg
  rw [← (specClaimGuard_parts f ws hg).2.2.2]
  have := congrArg (List.map (fun (x : Bytes × List Bytes × Option SType) => (x.2.1.length, x.1))) h
  simpa [List.map_map, Function.comp_def] using this

/-- the predicate of the driver oracle `c08.holds.claim_keys` (`builtKeys f == meaningKeys f`, evaluated on every generated
SpecFile) holds inside the guard -/
theorem ply_spec_claim_keys_oracle (f : SpecFile α) (ws : List WProp) (hf : f.format ≠ .ascii)
    (hg : specClaimGuard f ws = true) : builtKeys f = meaningKeys f := by
  rw [← ply_spec_attribute_keys_are_meaning f ws hg]
  have hb : (f.format != Format.ascii) = true := by cases h : f.format <;> simp_all
  simp [builtKeys, specClaimed, specProps, hb, List.map_map, Function.comp_def]

/-- POINT-CLOUD FILES FROM FILE BYTES, CLOSED: no `Located` hypothesis, no reader list to supply -/
theorem ply_reads_spec_pointcloud_bytes_closed (c : Coding α) (f : SpecFile α) (ws : List WProp) (hok : SpecHeaderOK f)
    (hf : f.format ≠ .ascii) (hface : f.face = none)
    (htyped : ∀ r ∈ f.verts, r.map Datum.ty = f.vprops.map (·.ty)) (hg : specClaimGuard f ws = true) :
    readMesh c defaultReader (refEncode c f)
      = .ok (applyColumns ⟨.point, (List.range f.verts.length).map Int.ofNat, [], none⟩ ((specClaimed f).map (·.1))
          (f.verts.map (rowOf c (specClaimed f)))) :=
  ply_reads_spec_pointcloud_bytes c f hok hf hface htyped (specClaimed f)
    (specClaimed_built f) (ply_spec_claim_located f ws hg)

/-- MESH FILES FROM FILE BYTES, CLOSED -/
theorem ply_reads_spec_mesh_bytes_closed (c : Coding α) (f : SpecFile α) (fe : SpecFaceElem α) (ws : List WProp)
    (hok : SpecHeaderOK f) (hf : f.format ≠ .ascii) (hm : SpecMeshOK f fe) (hsize : ∀ fc ∈ fe.faces, TriOrQuad fc)
    (htyped : ∀ r ∈ f.verts, r.map Datum.ty = f.vprops.map (·.ty)) (hg : specClaimGuard f ws = true) :
    readMesh c defaultReader (refEncode c f)
      = .ok (applyColumns ⟨.triangle, fanIdx fe.faces, [], none⟩ ((specClaimed f).map (·.1))
          (f.verts.map (rowOf c (specClaimed f)))) :=
  ply_reads_spec_mesh_bytes c f fe hok hf hm hsize htyped (specClaimed f)
    (specClaimed_built f) (ply_spec_claim_located f ws hg)

/-- the general statement (ANY order / interleaving of the group members, uniform type within a group): every reader built
on a spec header is located at its names and the keys are `meaning`'s.  NOT proved (C04's characterisation speaks about
groups written together in the reader's order). -/
def ply_spec_claim_full : Prop :=
  ∀ (f : SpecFile Nat), ((f.vprops.map (·.name)).Nodup) →
    (∀ g ∈ groups, ∀ p ∈ f.vprops, ∀ q ∈ f.vprops, p.name ∈ g.2.1 → q.name ∈ g.2.1 → p.ty = q.ty) →
    (∀ p ∈ specClaimed f, Located (f.vprops.map (·.ty)) p.1 p.2) ∧
      (specClaimed f).map (fun p => (p.1.names.length, p.1.attr)) = meaningKeys f

/-! ### non-vacuity: `x y z` float, `red green blue` uchar, `quality` float32, `q` double; one triangle + one quad -/

def exClaim : SpecFile Nat :=
  { format := .le, crlf := true, pre := [], mid := [], post := [],
    vprops := [⟨nm "x", .float, false⟩, ⟨nm "y", .float, true⟩, ⟨nm "z", .float, false⟩, ⟨nm "red", .uchar, false⟩,
      ⟨nm "green", .uchar, true⟩, ⟨nm "blue", .uchar, false⟩, ⟨nm "quality", .float, true⟩, ⟨nm "q", .double, false⟩],
    verts := [[.f32 1, .f32 2, .f32 3, .u8 255, .u8 0, .u8 51, .f32 7, .f64 9],
      [.f32 4, .f32 5, .f32 6, .u8 1, .u8 2, .u8 3, .f32 8, .f64 10],
      [.f32 7, .f32 8, .f32 9, .u8 4, .u8 5, .u8 6, .f32 9, .f64 11],
      [.f32 10, .f32 11, .f32 12, .u8 7, .u8 8, .u8 9, .f32 10, .f64 12]],
    face := some exMesh.exFaces }

def exClaimWs : List WProp :=
  [⟨positionAttr, [nm "x", nm "y", nm "z"], .float⟩, ⟨colorAttr, [nm "red", nm "green", nm "blue"], .uchar⟩,
   ⟨nm "quality", [nm "quality"], .float⟩, ⟨nm "q", [nm "q"], .double⟩]

theorem exClaim_guard : specClaimGuard exClaim exClaimWs = true := by decide +kernel

example : specClaimGuard exClaim exClaimWs = true := exClaim_guard

example : meaningKeys exClaim = [(3, positionAttr), (3, colorAttr), (1, nm "quality"), (1, nm "q")] := by decide +kernel

theorem exClaim_hdr : SpecHeaderOK exClaim where
  names := by decide
  items := by intro i hi; simp [exClaim] at hi
  nverts := by decide
  nfaces := by intro fe h; simp only [exClaim, Option.some.injEq] at h; subst h; decide

theorem exClaim_typed : ∀ r ∈ exClaim.verts, r.map Datum.ty = exClaim.vprops.map (·.ty) := by decide

example : ∃ m, readMesh toyCoding defaultReader (refEncode toyCoding exClaim) = .ok m :=
  ⟨_, ply_reads_spec_mesh_bytes_closed toyCoding exClaim exMesh.exFaces exClaimWs exClaim_hdr (by decide)
    ⟨rfl, rfl, by decide, by decide, exMesh_ok.enc⟩ exFaces_sizes exClaim_typed exClaim_guard⟩

/-! ### any order / interleaving: the claim stage CHECKED on the header (certificate)

The header-level characterisation for interleaved or reordered group members (`ply_spec_claim_full`) is NOT proved.  What IS
proved for every order: a decidable check on the header alone (no data) that RUNS the claim function — every built reader is
located at the header positions of its names with one type, and the built keys are `meaningKeys f` — discharges the
`Located` hypotheses; so for any concrete header (`z q x y`, `red x green y blue z`, …) the closed theorems follow by
`decide`. -/

/-- decidable, header only; runs `buildAll` -/
def specClaimCheck (f : SpecFile α) : Bool :=
  (specClaimed f).all (fun p => locatedNamedB (specProps f) p.1 p.2) &&
  (specClaimed f).map (fun p => (p.1.names.length, p.1.attr)) == meaningKeys f

theorem ply_spec_claim_located_checked (f : SpecFile α) (hc : specClaimCheck f = true) :
    (∀ p ∈ specClaimed f, Located (f.vprops.map (·.ty)) p.1 p.2) ∧
      (specClaimed f).map (fun p => (p.1.names.length, p.1.attr)) = meaningKeys f := by
  simp only [specClaimCheck, Bool.and_eq_true, List.all_eq_true, beq_iff_eq] at hc
  refine ⟨?_, hc.2⟩
  intro p hp
  rw [specProps_tys]
  exact (locatedNamedB_sound (specProps f) p.1 p.2 (hc.1 p hp)).loc

/-- POINT-CLOUD FILES FROM FILE BYTES, any property order / interleaving, closed by the header check -/
theorem ply_reads_spec_pointcloud_bytes_checked (c : Coding α) (f : SpecFile α) (hok : SpecHeaderOK f)
    (hf : f.format ≠ .ascii) (hface : f.face = none)
    (htyped : ∀ r ∈ f.verts, r.map Datum.ty = f.vprops.map (·.ty)) (hc : specClaimCheck f = true) :
    readMesh c defaultReader (refEncode c f)
      = .ok (applyColumns ⟨.point, (List.range f.verts.length).map Int.ofNat, [], none⟩ ((specClaimed f).map (·.1))
          (f.verts.map (rowOf c (specClaimed f)))) :=
  ply_reads_spec_pointcloud_bytes c f hok hf hface htyped (specClaimed f)
    (specClaimed_built f) (ply_spec_claim_located_checked f hc).1

/-- MESH FILES FROM FILE BYTES, any property order / interleaving, closed by the header check -/
theorem ply_reads_spec_mesh_bytes_checked (c : Coding α) (f : SpecFile α) (fe : SpecFaceElem α)
    (hok : SpecHeaderOK f) (hf : f.format ≠ .ascii) (hm : SpecMeshOK f fe) (hsize : ∀ fc ∈ fe.faces, TriOrQuad fc)
    (htyped : ∀ r ∈ f.verts, r.map Datum.ty = f.vprops.map (·.ty)) (hc : specClaimCheck f = true) :
    readMesh c defaultReader (refEncode c f)
      = .ok (applyColumns ⟨.triangle, fanIdx fe.faces, [], none⟩ ((specClaimed f).map (·.1))
          (f.verts.map (rowOf c (specClaimed f)))) :=
  ply_reads_spec_mesh_bytes c f fe hok hf hm hsize htyped (specClaimed f)
    (specClaimed_built f) (ply_spec_claim_located_checked f hc).1

/-- `z q x y` (reordered + interleaved, `exMesh`) and `red x green y blue z` pass the check -/
example : specClaimCheck exMesh = true := by decide +kernel

def exInterleaved : SpecFile Nat :=
  { exClaim with
    vprops := [⟨nm "red", .uchar, false⟩, ⟨nm "x", .float, false⟩, ⟨nm "green", .uchar, true⟩, ⟨nm "y", .float, true⟩,
      ⟨nm "blue", .uchar, false⟩, ⟨nm "z", .float, false⟩],
    verts := [[.u8 255, .f32 1, .u8 0, .f32 2, .u8 51, .f32 3], [.u8 1, .f32 4, .u8 2, .f32 5, .u8 3, .f32 6],
      [.u8 4, .f32 7, .u8 5, .f32 8, .u8 6, .f32 9], [.u8 7, .f32 10, .u8 8, .f32 11, .u8 9, .f32 12]] }

theorem exInterleaved_check : specClaimCheck exInterleaved = true := by decide +kernel

example : specClaimCheck exInterleaved = true := exInterleaved_check

example : meaningKeys exInterleaved = [(3, positionAttr), (3, colorAttr)] := by decide +kernel

example : ∃ m, readMesh toyCoding defaultReader (refEncode toyCoding exInterleaved) = .ok m :=
  ⟨_, ply_reads_spec_mesh_bytes_checked toyCoding exInterleaved exMesh.exFaces
    ⟨by decide, exClaim_hdr.items, exClaim_hdr.nverts, exClaim_hdr.nfaces⟩
    (by decide) ⟨rfl, rfl, by decide, by decide, exMesh_ok.enc⟩
    exFaces_sizes (by decide) exInterleaved_check⟩

/-- … while the mixed-type group of the known finding does NOT: the check cannot be dropped -/
example : specClaimCheck ({ exInterleaved with
    vprops := [⟨nm "x", .float, false⟩, ⟨nm "y", .float, false⟩, ⟨nm "z", .double, false⟩] } : SpecFile Nat) = false := by decide +kernel

end C08
end PolyVerif
