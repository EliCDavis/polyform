/-
  C08 — ASCII MESH files of the reference encoding WITH per-corner texture coordinates, from FILE BYTES, under the
  named law bundles `GoFloatText` + `SpecIntText`.  The ASCII list reader parses `texcoord` at 64 bits, so the coordinates
  come back exactly (`parse64_showF`): `TexCoord` is literally `meaning`'s list.
-/
import PolyVerif.Props.C08MeshAscii
import PolyVerif.Props.C08MeshTex

namespace PolyVerif
namespace C08
open Ply PlySpec PlyLemmas PlyCompose PlyHeader PlyAscii PlyFaces PlyFacesAscii PlyFacesTex PlyFacesTexAscii PlyUnweld

variable {α : Type}

/-- ASCII TEXTURED MESH FILES FROM FILE BYTES (any declared count / index / texcoord types, texcoord before or after the
index list, optional unrecognised list, triangles and quads with two coordinates per listed vertex): the unwelded mesh
plus `TexCoord` = the per-corner coordinates of the fan triangles in file order, exactly as stored -/
theorem ply_reads_spec_mesh_tex_ascii_bytes (c : Coding α) (L : GoFloatText c) (Z : SpecIntText c) (f : SpecFile α)
    (fe : SpecFaceElem α) (tt : SType × SType) (hok : SpecHeaderOK f) (hf : f.format = .ascii) (hprops : f.vprops ≠ [])
    (hface : f.face = some fe) (htex : fe.tex = some tt)
    (henc : ∀ fc ∈ fe.faces, FaceTexOK fe fc) (hsize : ∀ fc ∈ fe.faces, TriOrQuad fc)
    (htyped : ∀ r ∈ f.verts, r.map Datum.ty = f.vprops.map (·.ty))
    (hrange : ∀ r ∈ f.verts, ∀ d ∈ r, Datum.InRange c L Z d)
    (bl : List (Built × List Nat))
    (hbuilt : bl.map (·.1) = buildAll false (specProps f) defaultReaders true)
    (hloc : ∀ p ∈ bl, LocatedA (f.vprops.map (·.ty)) p.1 p.2) :
    readMesh c defaultReader (refEncode c f)
      = (let mesh := applyColumns ⟨.triangle, fanIdx fe.faces, [], none⟩ (bl.map (·.1)) (f.verts.map (rowOfS c L Z bl))
         if fe.faces.isEmpty then .ok mesh else do
           let u ← unweld mesh
           pure (u.set 2 texCoordAttr (texUVA fe.faces))) := by
  rw [← fanUVs_uv]
  exact (readMesh_refEncode c f hok).trans
    ((asciiCodec c L Z f fe hf hface bl ⟨hprops, htyped, hrange, hbuilt, hloc⟩).reads_tex (by simp [htex]) henc hsize
      (fun _ => rfl))

/-- … and loads WITHOUT ERROR to the explicit per-corner mesh when every face lists existing vertices -/
theorem ply_reads_spec_mesh_tex_ascii_loads (c : Coding α) (L : GoFloatText c) (Z : SpecIntText c) (f : SpecFile α)
    (fe : SpecFaceElem α) (tt : SType × SType) (hok : SpecHeaderOK f) (hf : f.format = .ascii) (hprops : f.vprops ≠ [])
    (hface : f.face = some fe) (htex : fe.tex = some tt)
    (henc : ∀ fc ∈ fe.faces, FaceTexOK fe fc) (hsize : ∀ fc ∈ fe.faces, TriOrQuad fc)
    (hvr : ∀ fc ∈ fe.faces, ∀ v ∈ fc.verts, v < f.verts.length)
    (htyped : ∀ r ∈ f.verts, r.map Datum.ty = f.vprops.map (·.ty))
    (hrange : ∀ r ∈ f.verts, ∀ d ∈ r, Datum.InRange c L Z d)
    (bl : List (Built × List Nat))
    (hbuilt : bl.map (·.1) = buildAll false (specProps f) defaultReaders true)
    (hloc : ∀ p ∈ bl, LocatedA (f.vprops.map (·.ty)) p.1 p.2) :
    readMesh c defaultReader (refEncode c f)
      = .ok (let mesh := applyColumns ⟨.triangle, fanIdx fe.faces, [], none⟩ (bl.map (·.1)) (f.verts.map (rowOfS c L Z bl))
             if fe.faces.isEmpty then mesh else (corners mesh).set 2 texCoordAttr (texUVA fe.faces)) :=
  (ply_reads_spec_mesh_tex_ascii_bytes c L Z f fe tt hok hf hprops hface htex henc hsize htyped hrange bl hbuilt hloc).trans
    (unweld_assembled_tex _ _ _ _ (by simpa using hvr))

/-- `TexCoord` of the ASCII theorem is `meaning`'s list of per-corner coordinates, verbatim -/
theorem texUVA_is_meaning_uvs (faces : List (SpecFace α)) :
    texUVA faces = (faces.map (fun fc => fanUV fc.uv)).flatten := rfl

def exTexA : SpecFile Nat := { exMeshA with face := some exTex.exTexFaces }

theorem exTexA_hdr : SpecHeaderOK exTexA where
  names := exMeshA_hdr.names
  items := exFile_hdr.items
  nverts := by decide
  nfaces := by intro fe h; simp only [exTexA, Option.some.injEq] at h; subst h; decide

example : readMesh toyCodingA defaultReader (refEncode toyCodingA exTexA)
    = (let mesh := applyColumns ⟨.triangle, fanIdx exTex.exTexFaces.faces, [], none⟩ (exBlA.map (·.1))
          (exTexA.verts.map (rowOfS toyCodingA toyLaw toyIntLaw exBlA))
       if exTex.exTexFaces.faces.isEmpty then .ok mesh else do
         let u ← unweld mesh
         pure (u.set 2 texCoordAttr (texUVA exTex.exTexFaces.faces))) :=
  ply_reads_spec_mesh_tex_ascii_bytes toyCodingA toyLaw toyIntLaw exTexA exTex.exTexFaces (.uchar, .double) exTexA_hdr
    rfl (by decide) rfl rfl exTex_ok.enc exTexFaces_sizes exMeshA_typed exMeshA_range exBlA exBlA_built exBlA_located

/-- … and it LOADS -/
example : ∃ m, readMesh toyCodingA defaultReader (refEncode toyCodingA exTexA) = .ok m :=
  ⟨_, ply_reads_spec_mesh_tex_ascii_loads toyCodingA toyLaw toyIntLaw exTexA exTex.exTexFaces (.uchar, .double) exTexA_hdr
    rfl (by decide) rfl rfl exTex_ok.enc exTexFaces_sizes (by decide) exMeshA_typed exMeshA_range exBlA exBlA_built
    exBlA_located⟩

end C08
end PolyVerif
