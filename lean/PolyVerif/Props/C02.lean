/-
  C02 — Well-formedness is closed under generation and mesh operations.

  Property theorems.  Models: `PolyVerif/Model/{Mesh,MeshOps,Primitives}.lean`
  (mirroring /repo modeling/mesh.go, modeling/meshops/*.go, modeling/primitives/*.go);
  proofs of the supporting lemmas: `PolyVerif/Lemmas/{MeshWF,MeshCorners,MeshWeld,MeshSplit,MeshTransformsWF,MarchingWF,PrimIdx}.lean`.
  Every theorem is for ALL meshes / ALL parameter values and every payload type `α`.
-/
import PolyVerif.Lemmas.MeshWeld
import PolyVerif.Lemmas.MeshSplit
import PolyVerif.Lemmas.MeshTransformsWF
import PolyVerif.Lemmas.MarchingWF
import PolyVerif.Lemmas.PrimIdx

namespace PolyVerif.C02
open PolyVerif.Mesh PolyVerif.Mesh.MeshVal PolyVerif.Prim

variable {α : Type}

/-! ## Generators

A primitive constructor returns a triangle mesh with index list `tris` whose attribute arrays
(Position, Normal, optionally TexCoord — at least one) all have `n` elements. The correspondence
stream `c02.gen.*` checks, on parameter sweeps, that the Go constructor returns exactly
`(n, tris)` of the Lean generator.  The parameter bounds in the statements are the constructors' own guards;
the index arithmetic (`Prim.TrisOK`, one `_ok` theorem per generator) needs of them only `2 ≤ rows`. -/

/-- `m` is what a primitive constructor with vertex count `n` and index list `tris` returns -/
def IsPrim (m : MeshVal α) (n : Nat) (tris : List Nat) : Prop :=
  m.topology = .triangle ∧ m.indices = tris ∧ m.attrs ≠ [] ∧ ∀ kd ∈ m.attrs, kd.2.length = n

theorem prim_wf {m : MeshVal α} {n : Nat} {tris : List Nat} (h : IsPrim m n tris)
    (hlt : ∀ i ∈ tris, i < n) (hlen : tris.length % 3 = 0) : WF m := by
  obtain ⟨ht, hi, ha, hl⟩ := h
  apply wf_of_uniform n hl
  · rw [hi]; exact hlt
  · intro h0; exact absurd h0 ha
  · rw [ht, hi]; exact hlen

theorem IsPrim.wf {m : MeshVal α} {n : Nat} {tris : List Nat} (h : IsPrim m n tris) (hok : TrisOK n tris) : WF m :=
  prim_wf h hok.1 hok.2

/-- `primitives.UVSphere(radius, rows, columns)` for every accepted `rows ≥ 2`, `columns ≥ 3` -/
theorem uvSphere_wf {rows cols : Nat} (hr : 2 ≤ rows) (hc : 3 ≤ cols) {m : MeshVal α}
    (h : IsPrim m (uvVerts rows cols) (uvSphereTris rows cols)) : WF m :=
  h.wf (uvSphereTris_ok hr)

example : IsPrim (⟨.triangle, uvSphereTris 2 3, [], [(⟨3, "Position"⟩, List.replicate 5 ())]⟩ : MeshVal Unit)
    (uvVerts 2 3) (uvSphereTris 2 3) :=
  ⟨rfl, rfl, by simp, by simp [uvVerts]⟩

/-- `primitives.UVSphereUnwelded` -/
theorem uvSphereUnwelded_wf (rows cols : Nat) {m : MeshVal α}
    (h : IsPrim m (uvUnweldedVerts rows cols) (uvUnweldedTris rows cols)) : WF m :=
  h.wf (uvUnweldedTris_ok rows cols)

/-- `primitives.Hemisphere.UV(rows, columns)` -/
theorem hemisphere_wf {rows cols : Nat} (hr : 2 ≤ rows) (hc : 3 ≤ cols) {m : MeshVal α}
    (h : IsPrim m (uvVerts rows cols) (hemisphereTris rows cols)) : WF m :=
  h.wf (hemisphereTris_ok hr)

/-- `primitives.Circle{Sides}.ToMesh()` for every accepted `Sides ≥ 3` -/
theorem circle_wf {sides : Nat} (hs : 3 ≤ sides) {m : MeshVal α}
    (h : IsPrim m (circleVerts sides) (circleTris sides)) : WF m :=
  h.wf (circleTris_ok sides)

/-- `primitives.Cone{Sides}.ToMesh()` for every accepted `Sides ≥ 3` -/
theorem cone_wf {sides : Nat} (hs : 3 ≤ sides) {m : MeshVal α}
    (h : IsPrim m (coneVerts sides) (coneTris sides)) : WF m :=
  h.wf (coneTris_ok sides)

/-- `primitives.Cylinder{Sides, NoTop, NoBottom}.ToMesh()` for `Sides ≥ 3`, all four cap choices
    (with a cap and fewer sides the cap's `Circle` rejects) -/
theorem cylinder_wf {sides : Nat} (hs : 3 ≤ sides) (top bottom : Bool) {m : MeshVal α}
    (h : IsPrim m (cylinderVerts sides top bottom) (cylinderTris sides top bottom)) : WF m :=
  h.wf (cylinderTris_ok sides top bottom)

/-- a cylinder without caps is accepted for every `Sides` (even 0: two vertices, no triangle) -/
theorem cylinder_nocaps_wf (sides : Nat) {m : MeshVal α}
    (h : IsPrim m (cylinderVerts sides false false) (cylinderTris sides false false)) : WF m :=
  h.wf (cylinderTris_ok sides false false)

example : IsPrim (⟨.triangle, cylinderTris 3 true false, [], [(⟨3, "Position"⟩, List.replicate 12 ())]⟩ : MeshVal Unit)
    (cylinderVerts 3 true false) (cylinderTris 3 true false) :=
  ⟨rfl, rfl, by simp, by simp [cylinderVerts, cylinderSideVerts, circleVerts]⟩

/-- `extrude.Shape` / `extrude.ClosedShape` (any path length ≥ 2 the code accepts, any shape size, open or closed) -/
theorem extrudeShape_wf (pathLen sides : Nat) (close : Bool) {m : MeshVal α}
    (h : IsPrim m (extrudeShapeVerts pathLen sides) (extrudeShapeTris pathLen sides close)) : WF m :=
  h.wf (extrudeShapeTris_ok pathLen sides close)

example : IsPrim (⟨.triangle, extrudeShapeTris 3 4 true, [], [(⟨3, "Position"⟩, List.replicate 12 ())]⟩ : MeshVal Unit)
    (extrudeShapeVerts 3 4) (extrudeShapeTris 3 4 true) :=
  ⟨rfl, rfl, by simp, by simp [extrudeShapeVerts]⟩

/-- `extrude.Line` for every number of path points (fewer than 2 are rejected by the code) -/
theorem extrudeLine_wf (n : Nat) {m : MeshVal α}
    (h : IsPrim m (extrudeLineVerts n) (extrudeLineTris n)) : WF m :=
  h.wf (extrudeLineTris_ok n)

/-- `extrude.ScrewNodeData.Process` for every line length and segment count (with fewer than 2 of either the
    node returns the empty mesh) -/
theorem screw_wf (lineLen segments : Nat) {m : MeshVal α}
    (h : IsPrim m (screwVerts lineLen segments) (screwTris lineLen segments)) : WF m :=
  h.wf (screwTris_ok lineLen segments)

example : IsPrim (⟨.triangle, screwTris 3 2, [], [(⟨3, "Position"⟩, List.replicate 6 ())]⟩ : MeshVal Unit)
    (screwVerts 3 2) (screwTris 3 2) := ⟨rfl, rfl, by simp, by simp [screwVerts]⟩

/-- `extrude.polygon` (`Polygon`, `Circle.Extrude`, `CircleAlongSpline.Extrude`): whatever the
    floating point winding test decides for each quad (`flips`), the mesh is well-formed. -/
theorem extrudePolygon_wf (pathLen sides : Nat) (closed : Bool) (flips : List Bool) {m : MeshVal α}
    (h : IsPrim m (polygonVerts pathLen sides) (polygonTris pathLen sides closed flips)) : WF m :=
  h.wf (polygonTris_ok pathLen sides closed flips)

example : IsPrim (⟨.triangle, polygonTris 2 3 false [true, false, true], [], [(⟨3, "Position"⟩, List.replicate 8 ())]⟩ : MeshVal Unit)
    (polygonVerts 2 3) (polygonTris 2 3 false [true, false, true]) :=
  ⟨rfl, rfl, by simp, by simp [polygonVerts]⟩

/-- **every extrusion entry point, all parameters, both branches**: whatever the path length, side count, closing
    flag and winding flags, each extrusion either rejects (`none`, exactly for the stated parameter ranges) or yields a
    vertex count `n` and an index list with every index `< n` and a multiple of three indices. -/
theorem extrusions_total (pathLen sides : Nat) (closed : Bool) (flips : List Bool) :
    (extrudePolygon? pathLen sides closed flips = none ↔ (pathLen < 2 ∨ sides < 3)) ∧
    (∀ n tris, extrudePolygon? pathLen sides closed flips = some (n, tris) → (∀ i ∈ tris, i < n) ∧ tris.length % 3 = 0) ∧
    (extrudeShape? pathLen sides closed = none ↔ pathLen < 2) ∧
    (∀ n tris, extrudeShape? pathLen sides closed = some (n, tris) → (∀ i ∈ tris, i < n) ∧ tris.length % 3 = 0) ∧
    (extrudeLine? pathLen = none ↔ pathLen < 2) ∧
    (∀ n tris, extrudeLine? pathLen = some (n, tris) → (∀ i ∈ tris, i < n) ∧ tris.length % 3 = 0) ∧
    ((∀ i ∈ (screw pathLen sides).2, i < (screw pathLen sides).1) ∧ (screw pathLen sides).2.length % 3 = 0) := by
  refine ⟨by simp only [extrudePolygon?, ite_eq_left_iff, reduceCtorEq, imp_false, Decidable.not_not], fun n tris h => ?_, by simp [extrudeShape?], fun n tris h => ?_,
    by simp [extrudeLine?], fun n tris h => ?_, ?_⟩
  · obtain ⟨_, rfl, rfl⟩ := by simpa [extrudePolygon?] using h
    exact polygonTris_ok ..
  · obtain ⟨_, rfl, rfl⟩ := by simpa [extrudeShape?] using h
    exact extrudeShapeTris_ok ..
  · obtain ⟨_, rfl, rfl⟩ := by simpa [extrudeLine?] using h
    exact extrudeLineTris_ok _
  · unfold screw
    split
    · exact TrisOK.nil
    · exact screwTris_ok ..

example : ∃ n tris, extrudePolygon? 3 4 true [true, false] = some (n, tris) ∧ n = 15 := ⟨_, _, rfl, rfl⟩
example : extrudePolygon? 1 4 false [] = none ∧ extrudePolygon? 5 2 false [] = none := ⟨rfl, rfl⟩

theorem quad_wf {m : MeshVal α} (h : IsPrim m quadVerts quadTris) : WF m :=
  h.wf quadTris_ok
theorem cube_wf {m : MeshVal α} (h : IsPrim m cubeVerts cubeTris) : WF m :=
  h.wf cubeTris_ok
theorem cubeUnwelded_wf {m : MeshVal α} (h : IsPrim m cubeUnweldedVerts cubeUnweldedTris) : WF m :=
  h.wf cubeUnweldedTris_ok

/-- The block mesher allocates vertices through `LookupOrAdd` and appends the three returned indices
    per emitted triangle: whatever triangles the case table and the interpolation emit, and whatever
    the rounding key is, the block mesh is well-formed. (Abstract model of canvas.go:37-47, 650-662;
    tied to the code by the `WF` oracle on `March` output only.) -/
theorem marchBlock_wf {V K : Type} [DecidableEq K] (key : V → K) (attr : AttrKey) (ts : List (V × V × V)) :
    WF (March.blockMesh attr (March.marchBlock key ts)) := March.blockMesh_wf key attr ts

example : (March.marchBlock (fun v : Nat => v / 10) [(1, 12, 25), (3, 27, 40)]).tris = [0, 1, 2, 0, 2, 3] := by decide +kernel

theorem unweld_wf {m : MeshVal α} (h : WF m) : WF m.unweld := (unweld_rebuilt h).1

theorem toPointCloud_wf {m : MeshVal α} (h : WF m) : WF m.toPointCloud := by
  unfold toPointCloud
  split
  · exact h
  · exact ⟨h.1, fun i hi => by simpa [attrLen] using hi, trivial⟩

theorem flip_wf {m m' : MeshVal α} (h : WF m) (hf : m.flip = some m') : WF m' := by
  obtain ⟨ht, rfl⟩ := flip_eq hf
  have h3 : m.indices.length % 3 = 0 := by simpa [ht, Topology.Fits] using h.2.2
  refine setIndices_wf h _ (fun i hi => h.2.1 i (mem_of_mem_flipList i hi)) ?_
  rw [ht]; exact (congrArg (· % 3) (length_flipList h3)).trans h3

theorem removeUnreferenced_wf {m : MeshVal α} (h : WF m) : WF m.removeUnreferenced :=
  MeshVal.removeUnreferenced_wf h

/-- `SetIndices` is the one setter that can break well-formedness: it preserves it exactly under
    the stated side conditions (the Go code does not check them). -/
theorem setIndices_wf {m : MeshVal α} (h : WF m) (idx : List Nat)
    (hi : ∀ i ∈ idx, i < m.attrLen) (hf : m.topology.Fits idx.length) : WF (m.setIndices idx) :=
  MeshVal.setIndices_wf h idx hi hf

/-- a concrete well-formed mesh with shared and unreferenced vertices used by the non-vacuity examples -/
def sample : MeshVal Nat :=
  ⟨.triangle, [0, 2, 1, 2, 0, 3], [⟨1, 7⟩, ⟨1, 8⟩], [(⟨3, "Position"⟩, [10, 11, 12, 13, 14]), (⟨1, "Class"⟩, [20, 21, 22, 23, 24])]⟩

def cloud : MeshVal Nat :=
  ⟨.point, [3, 0, 0, 2], [], [(⟨3, "Position"⟩, [10, 11, 12, 13, 14]), (⟨1, "Class"⟩, [20, 21, 22, 23, 24])]⟩

example : WF sample := by decide +kernel
example : WF cloud := by decide +kernel
example : ∃ m', sample.flip = some m' := ⟨_, rfl⟩

/-- `Append` of two well-formed meshes (it rejects different topologies) -/
theorem append_wf {zero : Nat → α} {a b m : MeshVal α} (ha : WF a) (hb : WF b)
    (h : append zero a b = some m) : WF m := MeshVal.append_wf ha hb h

example : ∃ m, append (fun _ => 0) sample sample.unweld = some m ∧ m.attrLen = 11 := ⟨_, rfl, by decide +kernel⟩

/-- `SetFloatNAttribute(attr, data)` with `len(data)` = the common attribute length (or on a mesh
    without attributes). Covers the delete-when-empty branch. -/
theorem setAttr_wf {m : MeshVal α} (h : WF m) (k : AttrKey) (data : List α)
    (hd : data.length = m.attrLen ∨ m.attrs = []) : WF (m.setAttr k data) := MeshVal.setAttr_wf h k data hd

/-- `SetFloatNAttribute(attr, empty)` deletes the key: still WF when another attribute array remains or the
    mesh has no index (deleting the only array of an indexed mesh is the one way this setter breaks WF). -/
theorem setAttr_delete_wf {m : MeshVal α} (h : WF m) (k : AttrKey)
    (hk : (∃ kd ∈ m.attrs, kd.1 ≠ k) ∨ m.indices = []) : WF (m.setAttr k []) := MeshVal.setAttr_delete_wf h k hk

example : WF (sample.setAttr ⟨1, "Class"⟩ []) ∧ (sample.setAttr ⟨1, "Class"⟩ []).attrs.length = 1 := by decide +kernel

/-- `ClearAttributeData` keeps the indices and drops every attribute array: a caller-checked builder, well-formed
    exactly when there is no index. -/
theorem clearAttrs_wf {m : MeshVal α} (h : WF m) (hi : m.indices = []) : WF m.clearAttrs := MeshVal.clearAttrs_wf h hi

/-- the guard of `clearAttrs_wf` is needed: an indexed mesh loses well-formedness -/
example : ¬ WF sample.clearAttrs := by decide +kernel

/-- `SetFloatNData(map)` (raw whole-width setter, nothing checked): well-formed when every new array has the
    common length and some array remains (or there is no index). `CopyFloatNAttribute(src, k)` is
    `setAttr k (src's array)`: guards of `setAttr_wf` / `setAttr_delete_wf`. -/
theorem setData_wf {m : MeshVal α} (h : WF m) (w : Nat) (new : Attrs α)
    (hnew : ∀ kd ∈ new, kd.2.length = m.attrLen)
    (hne : (m.setData w new).attrs ≠ [] ∨ m.indices = []) : WF (m.setData w new) := MeshVal.setData_wf h w new hnew hne

example : WF (sample.setData 3 [(⟨3, "Position"⟩, [1, 2, 3, 4, 5]), (⟨3, "Other"⟩, [0, 0, 0, 0, 0])]) := by decide +kernel
example : ¬ WF (sample.setData 3 [(⟨3, "Position"⟩, [1, 2, 3])]) := by decide +kernel

/-- every transform that rewrites one attribute array by a length-preserving function:
    `ModifyFloatNAttribute`, `Translate`, `Scale`, `Rotate`, `ApplyTRS`, meshops `TranslateAttribute3D`,
    `ScaleAttribute3D/2D`, `ScaleAttributeAlongNormal`, `RotateAttribute3D`, `CenterFloat3Attribute`,
    `NormalizeAttribute3D/2D`, `LaplacianSmooth`; `none` = the attribute is missing (rejected). -/
theorem modifyAttr_wf {m m' : MeshVal α} (h : WF m) {k : AttrKey} {f : List α → List α}
    (hf : ∀ d, (f d).length = d.length) (hm : m.modifyAttr k f = some m') : WF m' :=
  MeshVal.modifyAttr_wf h hf hm

theorem mapAttr_wf {m m' : MeshVal α} (h : WF m) {k : AttrKey} {φ : α → α}
    (hm : m.mapAttr k φ = some m') : WF m' := MeshVal.mapAttr_wf h hm

example : ∃ m', sample.mapAttr ⟨3, "Position"⟩ (· + 1) = some m' := ⟨_, rfl⟩

/-- `SmoothNormals` / `FlatNormals`: a Normal array with one entry per position is set (a new key or
    a replaced one). -/
theorem setNormals_wf {m : MeshVal α} (h : WF m) {pos : List α} (hp : m.attr? ⟨3, "Position"⟩ = some pos)
    (normals : List α) (hn : normals.length = pos.length) : WF (m.setAttr ⟨3, "Normal"⟩ normals) :=
  MeshVal.setAttr_wf h _ _ (Or.inl (by rw [hn]; exact h.1 _ (Attrs.find?_mem hp)))

/-- `FilterFloat1..4`: a point cloud is filtered to a well-formed point cloud; every other topology
    and a missing attribute are rejected. -/
theorem filterAttr_wf {m m' : MeshVal α} (h : WF m) {k : AttrKey} {p : α → Bool}
    (hm : m.filterAttr k p = some m') : WF m' := by
  obtain ⟨ht, d, _, rfl⟩ := filterAttr_eq hm
  exact setIndices_removeUnreferenced_wf h (fun i hi => (List.mem_filter.mp hi).1) (by rw [ht]; trivial)

theorem filterAttr_rejects_non_point (m : MeshVal α) (k : AttrKey) (p : α → Bool) (h : m.topology ≠ .point) :
    m.filterAttr k p = none := by unfold filterAttr; simp [h]

example : ∃ m', cloud.filterAttr ⟨1, "Class"⟩ (· < 23) = some m' ∧ m'.indices = [0, 0, 1] := ⟨_, rfl, by decide +kernel⟩

/-- The defect repaired by /repo commit fc6738f, as a theorem about the pre-fix behaviour: without the
    point-topology requirement the filter returns a triangle mesh with 5 indices. -/
theorem filterAttrOld_breaks_triangles :
    ∃ (m m' : MeshVal Nat), WF m ∧ m.filterAttrOld ⟨3, "Position"⟩ (· < 13) = some m' ∧ ¬ WF m' :=
  ⟨⟨.triangle, [0, 1, 2, 2, 1, 3], [], [(⟨3, "Position"⟩, [10, 11, 12, 13])]⟩, _, by decide +kernel, rfl, by decide +kernel⟩

/-- `CropFloat3Attribute` (point clouds only; whatever the incoming indices are) -/
theorem crop_wf {m m' : MeshVal α} (h : WF m) {k : AttrKey} {inside : α → Bool}
    (hm : m.crop k inside = some m') : WF m' := by
  obtain ⟨_, d, hd, rfl⟩ := crop_eq h hm
  split
  · rename_i hz
    exact ⟨by simp, by simp [hz], trivial⟩
  · exact (crop_rebuilt h hd inside (by simp)).1

example : ∃ m', cloud.crop ⟨3, "Position"⟩ (· > 11) = some m' ∧ m'.indices = [0, 1, 2] := ⟨_, rfl, by decide +kernel⟩

/-- `RemoveNullFaces3D` for every keep-predicate on triangles -/
theorem removeNullFaces_wf {m m' : MeshVal α} (h : WF m) {k : AttrKey} {keep : Nat → Nat → Nat → Bool}
    (hm : m.removeNullFaces k keep = some m') : WF m' := by
  obtain ⟨ht, _, rfl⟩ := removeNullFaces_eq hm
  split
  · exact h
  · refine setIndices_removeUnreferenced_wf h ?_ (by rw [ht]; simp [Topology.Fits, length_untriples])
    rw [forall_mem_untriples]
    exact fun t ht => mem_of_mem_triples (List.mem_filter.mp ht).1

example : ∃ m', sample.removeNullFaces ⟨3, "Position"⟩ (fun a _ _ => a == 0) = some m' ∧ m'.attrLen = 3 :=
  ⟨_, rfl, by decide +kernel⟩

/-- `SplitOnUniqueMaterials`: every part is well-formed (`none` = the material ranges run out
    before the triangles do, where the Go loop panics, or the mesh is not a triangle mesh). -/
theorem splitOnMaterials_wf {m : MeshVal α} {parts : List (MeshVal α)} (h : WF m)
    (hs : m.splitOnMaterials = some parts) : ∀ p ∈ parts, WF p := by
  by_cases h2 : 2 ≤ m.materials.length
  · obtain ⟨ht, groups, _, rfl, _, hg, _⟩ := split_groups h2 hs
    intro p hp
    obtain ⟨q, hq, rfl⟩ := List.mem_map.mp hp
    exact removeUnreferenced_wf (split_part_wf h ht (hg q hq).1 (hg q hq).2)
  · rw [split_single m (by omega)] at hs
    cases hs
    simpa using h

example : ∃ ps, sample.splitOnMaterials = some ps ∧ ps.length = 2 := ⟨_, rfl, by decide +kernel⟩

/-- `WeldByFloat3Attribute` for every key function (the Go code uses `Vector3ToInt(·, decimals)`) -/
theorem weld_wf {K : Type} [DecidableEq K] {m m' : MeshVal α} (h : WF m) {k : AttrKey} {key : α → K}
    (hw : m.weld k key = some m') : WF m' := by
  obtain ⟨ht, d, hd, rfl⟩ := weld_eq hw
  obtain ⟨hw', hal⟩ := weldClasses_rebuilt h ht hd key
  rw [← hal]
  exact (compactVertices_rebuilt hw' _ (usedFlags_length _ _) (usedFlags_used hw')).1

example : ∃ m', sample.weld ⟨3, "Position"⟩ (· % 3) = some m' ∧ m'.attrLen = 3 ∧ m'.indices = [0, 2, 1] :=
  ⟨_, rfl, by decide +kernel⟩

/-- `repeat.Mesh(mesh, transforms)` for every list of transforms -/
theorem repeatMesh_wf {zero : Nat → α} {pos : AttrKey} {m r : MeshVal α} (h : WF m)
    (ts : List (α → α)) (hr : repeatMesh zero pos m ts = some r) : WF r :=
  foldl_append_wf (m.mapAttr pos) ts (fun _ _ _ hc => mapAttr_wf h hc) _
    (fun _ ha => by cases ha; exact empty_wf _) r hr

example : ∃ r, repeatMesh (fun _ => 0) ⟨3, "Position"⟩ sample [(· + 1), (· + 2), id] = some r ∧ r.attrLen = 15 :=
  ⟨_, rfl, by decide +kernel⟩

section transforms
open PolyVerif PolyVerif.Gen
variable {s : Type} [Scalar s]

theorem translate_wf {m m' : MeshVal (List s)} (h : WF m) {n : String} {t : V3 s}
    (hm : m.translate n t = some m') : WF m' := MeshVal.mapAttr_wf h hm
theorem scaleAbout_wf {m m' : MeshVal (List s)} (h : WF m) {n : String} {o a : V3 s}
    (hm : m.scaleAbout n o a = some m') : WF m' := MeshVal.mapAttr_wf h hm
theorem scaleMesh_wf {m m' : MeshVal (List s)} (h : WF m) {a : V3 s}
    (hm : m.scaleMesh a = some m') : WF m' := MeshVal.mapAttr_wf h hm
theorem rotate_wf {m m' : MeshVal (List s)} (h : WF m) {n : String} {q : quaternion.Quaternion s}
    (hm : m.rotate n q = some m') : WF m' := MeshVal.mapAttr_wf h hm
theorem applyTRS_wf {m m' : MeshVal (List s)} (h : WF m) {t : trs.TRS s}
    (hm : m.applyTRS t = some m') : WF m' := MeshVal.mapAttr_wf h hm
theorem center_wf {m m' : MeshVal (List s)} (h : WF m) {mn mx : s → s → s} {n : String}
    (hm : MeshVal.center mn mx m n = some m') : WF m' :=
  modifyAttr_wf h (fun d => by simp) hm
theorem normalize_wf {m m' : MeshVal (List s)} (h : WF m) {init : s} {mx : s → s → s} {n : String}
    (hm : MeshVal.normalize init mx m n = some m') : WF m' :=
  modifyAttr_wf h (fun d => by simp) hm
theorem smoothNormals_wf {m m' : MeshVal (List s)} (h : WF m)
    (hm : m.smoothNormals = some m') : WF m' := by
  obtain ⟨_, d, hd, rfl⟩ := smoothNormals_eq hm
  exact setAttr_wf h _ _ (Or.inl (by simpa [smoothAccum_length] using attr?_length h hd))
theorem flatNormals_wf {m m' : MeshVal (List s)} (h : WF m)
    (hm : m.flatNormals = some m') : WF m' := by
  obtain ⟨_, d, hd, rfl⟩ := flatNormals_eq hm
  exact setAttr_wf h _ _ (Or.inl (by simpa [flatAccum_length] using attr?_length h hd))
theorem laplacian_wf {m m' : MeshVal (List s)} (h : WF m) {n : String} {iters : Nat} {factor : s}
    (hm : m.laplacian n iters factor = some m') : WF m' := by
  obtain ⟨es, _, hm⟩ := laplacian_eq hm
  refine modifyAttr_wf h (fun d => ?_) hm
  split
  · rename_i hall
    simp only [List.length_map, lapIter_length]
    exact filterMap_length_of_all _ d hall
  · rfl

end transforms

/-- `marchFloat1` folds the block meshes with `Append` from the empty mesh: the result is well-formed
    for every list of blocks (each well-formed by `marchBlock_wf`). -/
theorem march_wf {zero : Nat → α} {t : Topology} (blocks : List (MeshVal α)) (hb : ∀ b ∈ blocks, WF b) {r : MeshVal α}
    (hr : blocks.foldl (fun acc b => acc.bind fun a => append zero a b) (some (MeshVal.empty t)) = some r) : WF r :=
  foldl_append_wf some blocks (fun b hb' c hc => by cases hc; exact hb b hb') _
    (fun a ha => by cases ha; exact MeshVal.empty_wf _) r hr

/-- one application of a mesh operation (with arbitrary parameters) to `m` yielding `m'`.
    GUARDS: `setIndices`, `setAttr`, `setAttrDelete`, `clearAttrs`, `setData` (and `CopyFloatNAttribute` = `setAttr`)
    take caller-supplied data that the Go code does not check; they are steps only under the stated length /
    range guards (with other data they are builders whose result the caller completes — outside `ops_closed`).
    Every other constructor is unconditional: the operation either rejects or yields `m'`. -/
inductive Step (zero : Nat → α) : MeshVal α → MeshVal α → Prop
  | unweld (m) : Step zero m m.unweld
  | removeUnreferenced (m) : Step zero m m.removeUnreferenced
  | toPointCloud (m) : Step zero m m.toPointCloud
  | flip {m m'} : m.flip = some m' → Step zero m m'
  | setMaterials (m ms) : Step zero m (m.setMaterials ms)
  | setMaterial (m mat) : Step zero m (m.setMaterial mat)
  -- caller-checked builders: each carries the guard under which it keeps WF (the Go code checks none of them)
  | setAttrDelete (m k) : ((∃ kd ∈ m.attrs, kd.1 ≠ k) ∨ m.indices = []) → Step zero m (m.setAttr k [])
  | clearAttrs (m) : m.indices = [] → Step zero m m.clearAttrs
  | setData (m w new) : (∀ kd ∈ new, kd.2.length = m.attrLen) → ((m.setData w new).attrs ≠ [] ∨ m.indices = []) →
      Step zero m (m.setData w new)
  | setIndices (m idx) : (∀ i ∈ idx, i < m.attrLen) → m.topology.Fits idx.length → Step zero m (m.setIndices idx)
  | setAttr (m k data) : (data.length = m.attrLen ∨ m.attrs = []) → Step zero m (m.setAttr k data)
  | modifyAttr {m m'} (k f) : (∀ d, (f d).length = d.length) → m.modifyAttr k f = some m' → Step zero m m'
  | appendRight {m m'} (b) : WF b → append zero m b = some m' → Step zero m m'
  | appendLeft {m m'} (a) : WF a → append zero a m = some m' → Step zero m m'
  | filter {m m'} (k p) : m.filterAttr k p = some m' → Step zero m m'
  | crop {m m'} (k inside) : m.crop k inside = some m' → Step zero m m'
  | removeNullFaces {m m'} (k keep) : m.removeNullFaces k keep = some m' → Step zero m m'
  | splitPart {m m'} (parts) : m.splitOnMaterials = some parts → m' ∈ parts → Step zero m m'
  | weld {m m'} (K : Type) [DecidableEq K] (k) (key : α → K) : m.weld k key = some m' → Step zero m m'
  | repeatMesh {m m'} (pos ts) : repeatMesh zero pos m ts = some m' → Step zero m m'

/-- finitely many steps -/
inductive Steps (zero : Nat → α) : MeshVal α → MeshVal α → Prop
  | refl (m) : Steps zero m m
  | tail {a b c} : Steps zero a b → Step zero b c → Steps zero a c

theorem step_wf {zero : Nat → α} {m m' : MeshVal α} (hs : Step zero m m') (h : WF m) : WF m' := by
  cases hs with
  | unweld => exact unweld_wf h
  | removeUnreferenced => exact removeUnreferenced_wf h
  | toPointCloud => exact toPointCloud_wf h
  | flip hf => exact flip_wf h hf
  | setMaterials => exact h
  | setMaterial => exact h
  | setAttrDelete k hk => exact setAttr_delete_wf h k hk
  | clearAttrs hi => exact clearAttrs_wf h hi
  | setData w new hnew hne => exact setData_wf h w new hnew hne
  | setIndices idx hi hf => exact setIndices_wf h idx hi hf
  | setAttr k data hd => exact setAttr_wf h k data hd
  | modifyAttr k f hf hm => exact modifyAttr_wf h hf hm
  | appendRight b hb ha => exact append_wf h hb ha
  | appendLeft a ha' ha => exact append_wf ha' h ha
  | filter k p hm => exact filterAttr_wf h hm
  | crop k i hm => exact crop_wf h hm
  | removeNullFaces k keep hm => exact removeNullFaces_wf h hm
  | splitPart parts hs hp => exact splitOnMaterials_wf h hs _ hp
  | weld K k key hw => exact weld_wf h hw
  | repeatMesh pos ts hr => exact repeatMesh_wf h ts hr

/-- **C02, operations clause**: every mesh reachable from a well-formed mesh by any finite sequence
    of (non-rejected) operations, with any parameters, is well-formed. -/
theorem ops_closed {zero : Nat → α} {m m' : MeshVal α} (hs : Steps zero m m') (h : WF m) : WF m' := by
  induction hs with
  | refl => exact h
  | tail _ hstep ih => exact step_wf hstep ih

section
open PolyVerif PolyVerif.Gen
variable {s : Type} [Scalar s]

/-- a step on meshes with vector payloads: any generic step, or one of the ten concrete transforms -/
inductive StepT (zero : Nat → List s) : MeshVal (List s) → MeshVal (List s) → Prop
  | generic {m m'} : Step zero m m' → StepT zero m m'
  | translate {m m'} (n t) : m.translate n t = some m' → StepT zero m m'
  | scaleAbout {m m'} (n o a) : m.scaleAbout n o a = some m' → StepT zero m m'
  | scaleMesh {m m'} (a) : m.scaleMesh a = some m' → StepT zero m m'
  | rotate {m m'} (n q) : m.rotate n q = some m' → StepT zero m m'
  | applyTRS {m m'} (t) : m.applyTRS t = some m' → StepT zero m m'
  | center {m m'} (mn mx n) : MeshVal.center mn mx m n = some m' → StepT zero m m'
  | normalize {m m'} (init mx n) : MeshVal.normalize init mx m n = some m' → StepT zero m m'
  | smoothNormals {m m'} : m.smoothNormals = some m' → StepT zero m m'
  | flatNormals {m m'} : m.flatNormals = some m' → StepT zero m m'
  | laplacian {m m'} (n iters factor) : m.laplacian n iters factor = some m' → StepT zero m m'

inductive StepsT (zero : Nat → List s) : MeshVal (List s) → MeshVal (List s) → Prop
  | refl (m) : StepsT zero m m
  | tail {a b c} : StepsT zero a b → StepT zero b c → StepsT zero a c

/-- **C02, operations clause including the ten transforms**: layout operations, guarded setters and
    translate / scale / rotate / TRS / centre / normalise / smooth normals / flat normals / Laplacian, in any finite
    sequence, keep a well-formed mesh well-formed. -/
theorem ops_closed_transforms {zero : Nat → List s} {m m' : MeshVal (List s)} (hs : StepsT zero m m') (h : WF m) : WF m' := by
  induction hs with
  | refl => exact h
  | tail _ hstep ih =>
    cases hstep with
    | generic hg => exact step_wf hg ih
    | translate n t hm => exact translate_wf ih hm
    | scaleAbout n o a hm => exact scaleAbout_wf ih hm
    | scaleMesh a hm => exact scaleMesh_wf ih hm
    | rotate n q hm => exact rotate_wf ih hm
    | applyTRS t hm => exact applyTRS_wf ih hm
    | center mn mx n hm => exact center_wf ih hm
    | normalize init mx n hm => exact normalize_wf ih hm
    | smoothNormals hm => exact smoothNormals_wf ih hm
    | flatNormals hm => exact flatNormals_wf ih hm
    | laplacian n iters factor hm => exact laplacian_wf ih hm

end

/-- marching cubes end to end (abstract model): every block is meshed by `marchBlock` from *any* emitted triangle
    list, the block meshes are folded with `Append` from the empty mesh — the result is well-formed. -/
theorem march_blocks_wf {V K : Type} [DecidableEq K] (key : V → K) (attr : AttrKey) {zero : Nat → V}
    (tss : List (List (V × V × V))) {r : MeshVal V}
    (hr : (tss.map fun ts => March.blockMesh attr (March.marchBlock key ts)).foldl
            (fun acc b => acc.bind fun a => append zero a b) (some (MeshVal.empty .triangle)) = some r) : WF r :=
  march_wf _ (fun b hb => by
    obtain ⟨ts, _, rfl⟩ := List.mem_map.mp hb
    exact marchBlock_wf key attr ts) hr

example : ∃ r, ([[(1, 12, 25), (3, 27, 40)], [(5, 6, 70)]].map fun ts =>
      March.blockMesh ⟨3, "Position"⟩ (March.marchBlock (fun v : Nat => v / 10) ts)).foldl
        (fun acc b => acc.bind fun a => append (fun _ => 0) a b) (some (MeshVal.empty .triangle)) = some r ∧
    r.indices = [0, 1, 2, 0, 2, 3, 4, 4, 5] := ⟨_, rfl, by decide +kernel⟩

example : Steps (fun _ => 0) sample sample.unweld.removeUnreferenced.toPointCloud :=
  .tail (.tail (.tail (.refl _) (.unweld _)) (.removeUnreferenced _)) (.toPointCloud _)

end PolyVerif.C02
