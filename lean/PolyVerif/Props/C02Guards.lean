/-
  C02 / C03 — the rejection branches of the mesh model are the `panic`s of the source (engine F tie, regenerated on every
  run).

  `PolyVerif/Gen/MeshGuards.lean` is regenerated from /repo/modeling/mesh.go and topology.go (go/facts mode c02.guards):
  every `panic` with the function it occurs in and the conditions under which it is reached.  The models of
  `PolyVerif/Model/Mesh*.lean` reject exactly on these guards (the "exact rejection iffs" of C03, the rejected operations that
  `ops_closed` of C02 excludes, the pool-size and topology guards C10 regenerates separately); `mesh_guards_from_source` pins
  the regenerated list, so a removed, weakened, inverted or added guard in the Go source breaks a named theorem before any
  sample runs.  (Core Lean only.)
-/
import PolyVerif.Model.Mesh
import PolyVerif.Gen.MeshGuards

namespace PolyVerif
namespace C02
open PolyVerif.Gen

/-- the complete list of rejections of the mesh core, as the model transcribes them:
    * `Append` rejects two meshes of different topology;
    * `requireTopology` / `requireV{1,2,3,4}Attribute` reject a wrong topology / a missing attribute — the guards behind every
      "requires …" operation of meshops;
    * the scans reject an unsupported topology and a pool size below one (C10);
    * an implied-index line strip needs at least two vertices;
    * `Transform` re-raises the first transformer error;
    * `PrimitiveCount`, `VertexNeighborTable`, `Topology.String`, `Topology.IndexSize` reject an undeclared topology value. -/
theorem mesh_guards_from_source :
    MeshGuards.guards =
      ["mesh.go newImpliedIndicesMesh: topo == LineStripTopology && attributeCount == 1",
       "mesh.go Mesh.Transform: range ops && err != nil",
       "mesh.go Mesh.PrimitiveCount: (fallthrough)",
       "mesh.go Mesh.Append: m.topology != other.topology",
       "mesh.go Mesh.ScanPrimitives: switch m.topology default",
       "mesh.go Mesh.ScanPrimitivesParallelWithPoolSize: size < 1",
       "mesh.go Mesh.ScanPrimitivesParallelWithPoolSize: switch m.topology default",
       "mesh.go Mesh.ScanPrimitivesParallelWithPoolSize: for && func literal && switch m.topology default",
       "mesh.go Mesh.ScanFloat3AttributeParallelWithPoolSize: size < 1",
       "mesh.go Mesh.ScanFloat2AttributeParallelWithPoolSize: size < 1",
       "mesh.go Mesh.ScanFloat1AttributeParallelWithPoolSize: size < 1",
       "mesh.go Mesh.ModifyFloat3AttributeParallelWithPoolSize: size < 1",
       "mesh.go Mesh.ModifyFloat2AttributeParallelWithPoolSize: size < 1",
       "mesh.go Mesh.ModifyFloat1AttributeParallelWithPoolSize: size < 1",
       "mesh.go Mesh.VertexNeighborTable: switch m.topology default",
       "mesh.go Mesh.requireTopology: m.topology != t",
       "mesh.go Mesh.requireV4Attribute: !m.HasFloat4Attribute(attr)",
       "mesh.go Mesh.requireV3Attribute: !m.HasFloat3Attribute(attr)",
       "mesh.go Mesh.requireV2Attribute: !m.HasFloat2Attribute(attr)",
       "mesh.go Mesh.requireV1Attribute: !m.HasFloat1Attribute(attr)",
       "topology.go Topology.String: (fallthrough)",
       "topology.go Topology.IndexSize: (fallthrough)"] := rfl

/-- the Go constant a model topology stands for -/
def topoConst : Mesh.Topology → String
  | .triangle => "TriangleTopology" | .point => "PointTopology" | .quad => "QuadTopology"
  | .line => "LineTopology" | .lineStrip => "LineStripTopology" | .lineLoop => "LineLoopTopology"

def allTopologies : List Mesh.Topology := [.triangle, .point, .quad, .line, .lineStrip, .lineLoop]

theorem allTopologies_complete (t : Mesh.Topology) : t ∈ allTopologies := by cases t <;> simp [allTopologies]

/-- the model's topologies are the `Topology` constants of the source in iota order: `toNat` is the Go value -/
theorem topologies_from_source :
    MeshGuards.topologies = allTopologies.map topoConst ∧
    ∀ t ∈ allTopologies, MeshGuards.topologies[t.toNat]? = some (topoConst t) := by decide +kernel

/-- `Topology.indexSize` — on which the "index count fits the topology" clause of `WF` rests — is the `return N` of the arm
    of `IndexSize()` that lists the constant; every constant is in exactly one arm -/
theorem indexSize_from_source :
    ∀ t ∈ allTopologies,
      (MeshGuards.indexSizeArms.filter (fun a => a.1.contains (topoConst t))).map (·.2) = [t.indexSize] := by decide +kernel

/-- the mesh core has no other way to refuse an operation: 22 guards in all -/
theorem mesh_guards_count : MeshGuards.guards.length = 22 := rfl

end C02
end PolyVerif
