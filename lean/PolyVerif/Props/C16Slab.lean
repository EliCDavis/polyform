/-
  C16 — the hand model of the ray/box slab test (Model/Tree.lean) against the regenerated `AABB.IntersectsRayInRange` and
  `intersectsRayInRangeComponent` (math/geometry/aabb.go:189-228; Gen/Render.lean: the `*float64` out-parameters become
  returned components), at EVERY scalar.  The hand arithmetic of
  one slab IS the regenerated component function; the whole tests agree when no direction component is zero (there the
  hand model spells out the IEEE outcome of `1/±0`, which the real-number reading of the source expression cannot
  express) and `genEps = kEps` (true at Float: both are the double nearest 1e-10; over ℝ they differ by < 1e-26).
-/
import PolyVerif.Model.Tree
import PolyVerif.Gen.Render
import PolyVerif.Lemmas.Bvh

namespace PolyVerif
namespace Tree
open Gen Gen.geometry Scalar
variable {α : Type} [Scalar α]

/-- `kEpsilon` as the translator reads it from the source: the float64 value of `0.0000000001` -/
@[inline] def genEps : α := lit 7737125245533627 77371252455336267181195264

/-- one slab: the hand arithmetic is the regenerated `intersectsRayInRangeComponent` (which ignores its receiver) -/
theorem slabArith_eq_gen (b : AABB α) (origin dir tmin tmax boxMin boxMax : α) :
    slabArith origin dir tmin tmax boxMin boxMax =
      AABB.intersectsRayInRangeComponent b origin dir tmin tmax boxMin boxMax := by
  unfold slabArith AABB.intersectsRayInRangeComponent
  by_cases h : (boxMax - origin) * (((1 : Nat) : α) / dir) < (boxMin - origin) * (((1 : Nat) : α) / dir) <;>
    simp [h]

/-- the three-axis composition of `slabArith` with widening `eps` -/
def slabFold (eps : α) (b : AABB α) (o d : V3 α) (mn mx : α) : Bool :=
  let boxMin := b.Min
  let boxMax := b.Max
  let rx := slabArith o.x d.x mn mx (boxMin.x - eps) (boxMax.x + eps)
  if rx.1 then false else
  let ry := slabArith o.y d.y rx.2.1 rx.2.2 (boxMin.y - eps) (boxMax.y + eps)
  if ry.1 then false else
  let rz := slabArith o.z d.z ry.2.1 ry.2.2 (boxMin.z - eps) (boxMax.z + eps)
  if rz.1 then false else true

/-- the regenerated `IntersectsRayInRange` is that composition with the source's constant -/
theorem slabFold_eq_gen (b : AABB α) (o d : V3 α) (mn mx : α) :
    slabFold genEps b o d mn mx = AABB.IntersectsRayInRange b ⟨o, d⟩ mn mx := by
  unfold slabFold AABB.IntersectsRayInRange
  simp only [slabArith_eq_gen b, genEps, V3.X, V3.Y, V3.Z]
  rfl

/-- the hand model of the whole test is the composition with `kEps` when no direction component is zero -/
theorem intersectsRayInRange_eq_slabFold (b : AABB α) (o d : V3 α) (mn mx : α)
    (hx : (d.x == ((0 : Nat) : α)) = false) (hy : (d.y == ((0 : Nat) : α)) = false) (hz : (d.z == ((0 : Nat) : α)) = false) :
    intersectsRayInRange b o d mn mx = slabFold kEps b o d mn mx := by
  unfold intersectsRayInRange slabFold slabComponent
  simp only [hx, hy, hz, Bool.false_eq_true, if_false]

/-- hand model = regenerated function (no zero direction component; scalar at which the two readings of `kEpsilon` agree) -/
theorem intersectsRayInRange_eq_gen (heps : (genEps : α) = kEps) (b : AABB α) (o d : V3 α) (mn mx : α)
    (hx : (d.x == ((0 : Nat) : α)) = false) (hy : (d.y == ((0 : Nat) : α)) = false) (hz : (d.z == ((0 : Nat) : α)) = false) :
    intersectsRayInRange b o d mn mx = AABB.IntersectsRayInRange b ⟨o, d⟩ mn mx := by
  rw [intersectsRayInRange_eq_slabFold b o d mn mx hx hy hz, ← heps, slabFold_eq_gen]

/-! ### the ℝ slab theorems of C16, carried over to the REGENERATED test

Over ℝ the regenerated code widens the box by `genEps` — the exact rational value of the float64 constant `kEpsilon`,
`7737125245533627 / 2^86` — while the hand model widens by the decimal `kEps = 1/10^10`; `genEps - kEps ≈ 3.6e-27 > 0`.
Widening box `b` by `genEps` is widening the box `grow epsGap b` (extents + (genEps - kEps)) by `kEps`: so for rays with no zero
direction component the regenerated test on `b` IS the hand model on `grow epsGap b` (`gen_eq_hand_grow`), `grow` is monotone and
only grows, and `slab_mono` / `slab_sound` transfer.  RESIDUE (explicit): a zero direction component — there the regenerated
expression read over ℝ has `1/0 = 0`, not IEEE's `±Inf`; those rays are covered by the hand model's theorems and, at Float, by the
`c16.aabb.ray` lines on which the driver evaluates both definitions. -/

namespace SlabGen
open PolyVerif.Tree

noncomputable def epsGap : ℝ := (genEps : ℝ) - kEps

theorem epsGap_pos : 0 < epsGap := by
  simp only [epsGap, genEps, kEps, RS.lit_eq]; norm_num

/-- the box with every extent enlarged by `δ` -/
def grow (δ : ℝ) (b : Box) : Box := ⟨b.center, ⟨b.extents.x + δ, b.extents.y + δ, b.extents.z + δ⟩⟩

theorem grow_min (δ : ℝ) (b : Box) : (grow δ b).Min = ⟨b.Min.x - δ, b.Min.y - δ, b.Min.z - δ⟩ := by
  simp only [grow, AABB.Min, V3.Sub]; congr 1 <;> ring

theorem grow_max (δ : ℝ) (b : Box) : (grow δ b).Max = ⟨b.Max.x + δ, b.Max.y + δ, b.Max.z + δ⟩ := by
  simp only [grow, AABB.Max, V3.Add]; congr 1 <;> ring

theorem slabFold_grow (b : Box) (o d : P3) (mn mx : ℝ) :
    slabFold (genEps : ℝ) b o d mn mx = slabFold kEps (grow epsGap b) o d mn mx := by
  have e : ∀ m : ℝ, m - epsGap - kEps = m - genEps := fun m => by rw [epsGap]; ring
  have e' : ∀ m : ℝ, m + epsGap + kEps = m + genEps := fun m => by rw [epsGap]; ring
  simp only [slabFold, grow_min, grow_max, e, e']

/-- no zero direction component: the regenerated test on `b` is the hand model on `grow epsGap b` -/
theorem gen_eq_hand_grow (b : Box) (o d : P3) (mn mx : ℝ) (hx : d.x ≠ 0) (hy : d.y ≠ 0) (hz : d.z ≠ 0) :
    AABB.IntersectsRayInRange b ⟨o, d⟩ mn mx = intersectsRayInRange (grow epsGap b) o d mn mx := by
  rw [← slabFold_eq_gen, slabFold_grow,
    ← intersectsRayInRange_eq_slabFold _ _ _ _ _ (by simp [hx]) (by simp [hy]) (by simp [hz])]

theorem co_grow_min (δ : ℝ) (b : Box) (k : C17.Axis) : C17.co (grow δ b).Min k = C17.co b.Min k - δ := by
  rw [grow_min]; cases k <;> rfl

theorem co_grow_max (δ : ℝ) (b : Box) (k : C17.Axis) : C17.co (grow δ b).Max k = C17.co b.Max k + δ := by
  rw [grow_max]; cases k <;> rfl

theorem grow_mem (δ : ℝ) (b : Box) (p : P3) :
    (grow δ b).Contains p = true ↔ ∀ k, C17.co b.Min k - δ ≤ C17.co p k ∧ C17.co p k ≤ C17.co b.Max k + δ := by
  simp only [C17.aabb_mem, co_grow_min, co_grow_max]

theorem boxSub_grow {a b : Box} (h : BoxSub a b) {δ : ℝ} (hδ : 0 ≤ δ) : BoxSub (grow δ a) (grow δ b) := by
  obtain ⟨h1, h2⟩ := h
  rw [C17.aabb_mem] at h1 h2
  constructor <;> rw [grow_mem] <;> intro k
  · rw [co_grow_min]; exact ⟨sub_le_sub (h1 k).1 le_rfl, C17.sub_le_add_of_le (h1 k).2 hδ⟩
  · rw [co_grow_max]; exact ⟨C17.sub_le_add_of_le (h2 k).1 hδ, add_le_add (h2 k).2 le_rfl⟩

theorem contains_grow (a : Box) (v : P3) {δ : ℝ} (hδ : 0 ≤ δ) (h : a.Contains v = true) : (grow δ a).Contains v = true := by
  rw [C17.aabb_mem] at h
  exact (grow_mem ..).mpr fun k => ⟨(sub_le_self _ hδ).trans (h k).1, (h k).2.trans (le_add_of_nonneg_right hδ)⟩

/-- `slab_mono` for the regenerated `IntersectsRayInRange` (rays without a zero direction component) -/
theorem slab_mono_gen {a b : Box} (h : BoxSub a b) (o d : P3) (mn mx : ℝ) (hx : d.x ≠ 0) (hy : d.y ≠ 0) (hz : d.z ≠ 0)
    (ha : AABB.IntersectsRayInRange a ⟨o, d⟩ mn mx = true) : AABB.IntersectsRayInRange b ⟨o, d⟩ mn mx = true := by
  rw [gen_eq_hand_grow _ _ _ _ _ hx hy hz] at *
  exact Tree.slab_mono (boxSub_grow h (le_of_lt epsGap_pos)) o d mn mx ha

/-- `slab_sound` for the regenerated `IntersectsRayInRange`: a ray (no zero direction component) that is inside box `a` at some
    parameter of a non-empty range is accepted by the regenerated test for every box containing `a` -/
theorem slab_sound_gen (a b : Box) (hab : BoxSub a b) (o d : P3) (mn mx t : ℝ) (hx : d.x ≠ 0) (hy : d.y ≠ 0) (hz : d.z ≠ 0)
    (hr : mn < mx) (h1 : mn ≤ t) (h2 : t ≤ mx) (hin : a.Contains (o.Add (d.Scale t)) = true) :
    AABB.IntersectsRayInRange b ⟨o, d⟩ mn mx = true := by
  rw [gen_eq_hand_grow _ _ _ _ _ hx hy hz]
  exact Tree.slab_mono (boxSub_grow hab (le_of_lt epsGap_pos)) o d mn mx
    (slab_sound_aux _ o d mn mx t hr h1 h2 (contains_grow a _ (le_of_lt epsGap_pos) hin))

/-- non-vacuity: a diagonal ray through the unit box is accepted by the regenerated test -/
example : AABB.IntersectsRayInRange (⟨⟨0, 0, 0⟩, ⟨1, 1, 1⟩⟩ : Box) ⟨⟨-3, -3, -3⟩, ⟨1, 1, 1⟩⟩ 0 100 = true := by
  refine slab_sound_gen ⟨⟨0, 0, 0⟩, ⟨1, 1, 1⟩⟩ _ ⟨?_, ?_⟩ _ _ 0 100 3 (by norm_num) (by norm_num) (by norm_num)
    (by norm_num) (by norm_num) (by norm_num) ?_ <;>
  · rw [C17.aabb_contains_iff]; norm_num [AABB.Min, AABB.Max, V3.Sub, V3.Add, V3.Scale]

end SlabGen

end Tree
end PolyVerif
