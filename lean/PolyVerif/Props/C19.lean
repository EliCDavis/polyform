/-
  C19 — Signed distance functions are signed, 1-Lipschitz and compose as set operations.

  Theorems are about `PolyVerif.Gen.Sdf` (regenerated by engine T from /repo/math/sdf and
  math/geometry/line3D.go on every run) at the scalar ℝ, and about the hand model
  `SdfOps.Union/Intersect` (tied by correspondence).  Distances are the model's own
  `V3.Distance` (sqrt of the sum of squares, as in the Go vector package), bridged to
  Mathlib's Euclidean space in `Lemmas/Euclid.lean`; `P3`, `Field`, `Lipschitz1`, `segPoint` are declared in
  `Lemmas/SdfProfile.lean`.
-/
import PolyVerif.Gen.Sdf
import PolyVerif.Model.SdfOps
import PolyVerif.Lemmas.SdfProfile

namespace PolyVerif
namespace C19
open Gen Gen.sdf Gen.geometry

/-- any 1-Lipschitz field is bounded by the distance to its zero set (exact-distance lower bound) -/
theorem lipschitz_zero_bound {f : Field} (hf : Lipschitz1 f) (p s : P3) (hs : f s = 0) : |f p| ≤ p.Distance s := by
  have := hf p s; rwa [hs, sub_zero] at this

theorem sphere_eq (c : P3) (r : ℝ) (p : P3) : Sphere c r p = p.Distance c - r := rfl

theorem sphere_neg_iff (c : P3) (r : ℝ) (p : P3) : Sphere c r p < 0 ↔ p.Distance c < r := sub_neg

theorem sphere_zero_iff (c : P3) (r : ℝ) (p : P3) : Sphere c r p = 0 ↔ p.Distance c = r := sub_eq_zero

theorem sphere_nonneg_iff (c : P3) {r : ℝ} (hr : 0 ≤ r) (s : P3) :
    0 ≤ Sphere c r s ↔ r ^ 2 ≤ s.DistanceSquared c := by
  rw [sphere_eq, sub_nonneg, V3.distance_eq_sqrt]; exact Real.le_sqrt hr (V3.dot_self_nonneg (c.Sub s))

theorem sphere_nonpos_iff (c : P3) {r : ℝ} (hr : 0 ≤ r) (s : P3) :
    Sphere c r s ≤ 0 ↔ s.DistanceSquared c ≤ r ^ 2 := by
  rw [sphere_eq, sub_nonpos, V3.distance_eq_sqrt]; exact Real.sqrt_le_left hr

/-- exact distance, attained: some surface point (the radial projection of `p`; any, when `p` is the centre) is at distance
    `|f p|` -/
theorem sphere_exact_attained_all (c : P3) (r : ℝ) (hr : 0 ≤ r) (p : P3) :
    ∃ s : P3, s.Distance c = r ∧ p.Distance s = |Sphere c r p| :=
  V3.exists_at_distance c p hr

/-- a 1-Lipschitz field that nowhere exceeds the gap to the ball `(c, r)` and equals it at a point `p` outside: the point
    of the sphere nearest to `p` is a zero of the field at distance `f p`.  (Sphere, capsule and rounded cone are least
    gaps to a family of balls; each supplies the ball that attains the least.) -/
theorem exact_outside_of_ball {f : Field} (hf : Lipschitz1 f) {c : P3} {r : ℝ} (hr : 0 ≤ r)
    (hle : ∀ q, f q ≤ q.Distance c - r) {p : P3} (hp : f p = p.Distance c - r) (h0 : 0 ≤ f p) :
    ∃ s : P3, f s = 0 ∧ p.Distance s = f p := by
  obtain ⟨s, hs, hd⟩ := V3.exists_at_distance c p hr
  rw [← hp, abs_of_nonneg h0] at hd
  refine ⟨s, le_antisymm ?_ ?_, hd⟩
  · have := hle s; rwa [hs, sub_self] at this
  · have := (abs_le.mp (hf p s)).2; linarith

/-- `sphere_exact_attained_all` with `p ≠ c` as a hypothesis it does not need -/
theorem sphere_exact_attained (c : P3) (r : ℝ) (hr : 0 ≤ r) (p : P3) (_hp : p ≠ c) :
    ∃ s : P3, s.Distance c = r ∧ p.Distance s = |Sphere c r p| :=
  sphere_exact_attained_all c r hr p

/-! ### least gap to a family of balls `B(c t, r t)`, `t ∈ [0, 1]`

Sphere, capsule and rounded cone are of this kind; each supplies the lower bound and the ball attaining it. -/

section LeastGap
-- Every lemma of this section takes, before its own arguments, the lower bound `hle` and its attainment `hat`.
variable {f : Field} {c : ℝ → P3} {r : ℝ → ℝ}
  (hle : ∀ p t, 0 ≤ t → t ≤ 1 → f p ≤ p.Distance (c t) - r t)
  (hat : ∀ p, ∃ t, 0 ≤ t ∧ t ≤ 1 ∧ f p = p.Distance (c t) - r t)
include hle hat

theorem leastGap_lipschitz : Lipschitz1 f := by
  intro p q
  obtain ⟨tp, hp0, hp1, hp⟩ := hat p
  obtain ⟨tq, hq0, hq1, hq⟩ := hat q
  have lp := hle p tq hq0 hq1
  have lq := hle q tp hp0 hp1
  have t1 := V3.distance_triangle p q (c tq)
  have t2 := V3.distance_triangle q p (c tp)
  rw [V3.distance_comm q p] at t2
  rw [abs_le]; constructor <;> linarith

/-- negative exactly inside the union of the open balls -/
theorem leastGap_neg_iff (p : P3) : f p < 0 ↔ ∃ t, 0 ≤ t ∧ t ≤ 1 ∧ p.Distance (c t) < r t := by
  constructor
  · intro h
    obtain ⟨t, h0, h1, ht⟩ := hat p
    exact ⟨t, h0, h1, by linarith⟩
  · rintro ⟨t, h0, h1, ht⟩
    linarith [hle p t h0 h1]

/-- zero exactly on the boundary of that union: on the sphere of some ball and inside none -/
theorem leastGap_zero_iff (p : P3) :
    f p = 0 ↔ ∃ t, 0 ≤ t ∧ t ≤ 1 ∧ p.Distance (c t) = r t ∧ ∀ t', 0 ≤ t' → t' ≤ 1 → r t' ≤ p.Distance (c t') := by
  constructor
  · intro h
    obtain ⟨t, h0, h1, ht⟩ := hat p
    exact ⟨t, h0, h1, by linarith, fun t' h0' h1' => by linarith [hle p t' h0' h1']⟩
  · rintro ⟨t, h0, h1, ht, hmin⟩
    obtain ⟨t', h0', h1', ht'⟩ := hat p
    linarith [hle p t h0 h1, hmin t' h0' h1']

/-- positive exactly strictly outside every closed ball -/
theorem leastGap_pos_iff (p : P3) : 0 < f p ↔ ∀ t, 0 ≤ t → t ≤ 1 → r t < p.Distance (c t) := by
  constructor
  · intro h t h0 h1
    linarith [hle p t h0 h1]
  · intro h
    obtain ⟨t, h0, h1, ht⟩ := hat p
    linarith [h t h0 h1]

/-- outside or on the shape (radii `≥ 0`) the radial projection of `p` onto the nearest ball is a surface point at
    distance exactly `f p` -/
theorem leastGap_exact_outside (hr : ∀ t, 0 ≤ t → t ≤ 1 → 0 ≤ r t) {p : P3} (h0 : 0 ≤ f p) :
    ∃ s : P3, f s = 0 ∧ p.Distance s = f p := by
  obtain ⟨t, h0', h1, ht⟩ := hat p
  exact exact_outside_of_ball (leastGap_lipschitz hle hat) (hr t h0' h1) (fun q => hle q t h0' h1) ht h0

end LeastGap

theorem sphere_lipschitz (c : P3) (r : ℝ) : Lipschitz1 (Sphere c r) :=
  leastGap_lipschitz (c := fun _ => c) (r := fun _ => r) (fun _ _ _ _ => le_rfl) fun _ => ⟨0, le_rfl, zero_le_one, rfl⟩

/-- exact distance, lower bound: no surface point is closer to `p` than `|f p|` -/
theorem sphere_exact_le (c : P3) (r : ℝ) (p s : P3) (hs : s.Distance c = r) :
    |Sphere c r p| ≤ p.Distance s :=
  lipschitz_zero_bound (sphere_lipschitz c r) p s ((sphere_zero_iff c r s).mpr hs)

theorem plane_eq (o n : P3) (h : ℝ) (p : P3) : Plane o n h p = (p.Sub o).Dot n + h := rfl

/-- plane: negative exactly on the side the normal points away from (signed offset below `-h`) -/
theorem plane_neg_iff (o n : P3) (h : ℝ) (p : P3) : Plane o n h p < 0 ↔ (p.Sub o).Dot n < -h := by
  rw [plane_eq]; constructor <;> intro hh <;> linarith

theorem plane_zero_iff (o n : P3) (h : ℝ) (p : P3) : Plane o n h p = 0 ↔ (p.Sub o).Dot n = -h := by
  rw [plane_eq]; constructor <;> intro hh <;> linarith

theorem plane_sub (o n : P3) (h : ℝ) (p q : P3) : Plane o n h p - Plane o n h q = (p.Sub q).Dot n := by
  simp only [plane_eq, V3.Sub, V3.Dot]; ring

/-- for ANY normal the plane field changes at most `|n|` times as fast as distance -/
theorem plane_lipschitz_scaled (o n : P3) (h : ℝ) (p q : P3) :
    |Plane o n h p - Plane o n h q| ≤ n.Length * p.Distance q := by
  rw [plane_sub]; exact V3.abs_dot_le p q n

theorem plane_lipschitz (o n : P3) (h : ℝ) (hn : n.Dot n = 1) : Lipschitz1 (Plane o n h) := by
  intro p q
  have := plane_lipschitz_scaled o n h p q
  rwa [← norm_toE, norm_toE_unit hn, one_mul] at this

theorem plane_exact_le (o n : P3) (h : ℝ) (hn : n.Dot n = 1) (p s : P3) (hs : Plane o n h s = 0) :
    |Plane o n h p| ≤ p.Distance s :=
  lipschitz_zero_bound (plane_lipschitz o n h hn) p s hs

/-- exact distance, attained at the orthogonal projection -/
theorem plane_exact_attained (o n : P3) (h : ℝ) (hn : n.Dot n = 1) (p : P3) :
    ∃ s : P3, Plane o n h s = 0 ∧ p.Distance s = |Plane o n h p| := by
  refine ⟨p.Sub (n.Scale (Plane o n h p)), ?_, ?_⟩
  · simp only [plane_eq, V3.Sub, V3.Dot, V3.Scale] at *
    linear_combination (-(((p.x - o.x) * n.x + (p.y - o.y) * n.y + (p.z - o.z) * n.z) + h)) * hn
  · rw [← dist_toE, toE_sub, toE_scale, sub_sub_cancel, norm_smul, Real.norm_eq_abs, norm_toE_unit hn, mul_one]

theorem subtract_neg_iff (a b : Field) (p : P3) : Subtract a b p < 0 ↔ a p < 0 ∧ 0 < b p := by
  show max (a p) (-(b p)) < 0 ↔ _
  rw [max_lt_iff, neg_lt_zero]

theorem translate_spec (f : Field) (t p : P3) : Translate f t p = f (p.Sub t) := rfl

theorem translate_moves (f : Field) (t p : P3) : Translate f t (p.Add t) = f p := by
  rw [translate_spec]; congr 1; ext <;> simp [V3.Add, V3.Sub]

/-- `Union` of a non-empty list is the running `min` started at the first operand (the source's special cases for one and
    two operands agree with its loop) -/
theorem union_some {fs : List Field} {u : Field} (h : SdfOps.Union fs = some u) :
    ∃ f gs, fs = f :: gs ∧ u = fun p => gs.foldl (fun m g => min m (g p)) (f p) := by
  match fs, h with
  | [f], h => exact ⟨f, [], rfl, (Option.some.inj h).symm⟩
  | [a, b], h => exact ⟨a, [b], rfl, (Option.some.inj h).symm⟩
  | f :: _ :: _ :: _, h => exact ⟨f, _, rfl, (Option.some.inj h).symm⟩

theorem intersect_some {fs : List Field} {u : Field} (h : SdfOps.Intersect fs = some u) :
    ∃ f gs, fs = f :: gs ∧ u = fun p => gs.foldl (fun m g => max m (g p)) (f p) := by
  match fs, h with
  | [f], h => exact ⟨f, [], rfl, (Option.some.inj h).symm⟩
  | f :: _ :: _, h => exact ⟨f, _, rfl, (Option.some.inj h).symm⟩

theorem union_none_iff (fs : List Field) : SdfOps.Union fs = none ↔ fs = [] := by
  match fs with
  | [] => simp [SdfOps.Union]
  | [f] => simp [SdfOps.Union]
  | [a, b] => simp [SdfOps.Union]
  | _ :: _ :: _ :: _ => simp [SdfOps.Union]

/-- a property of fields kept by a pointwise binary operation is kept by the running fold of the source's loops -/
theorem foldl_closed {C : Field → Prop} {op : ℝ → ℝ → ℝ} (hop : ∀ {f g}, C f → C g → C fun p => op (f p) (g p))
    (gs : List Field) (hgs : ∀ g ∈ gs, C g) (f : Field) (hf : C f) :
    C fun p => gs.foldl (fun m g => op m (g p)) (f p) := by
  induction gs generalizing f with
  | nil => exact hf
  | cons g gs ih =>
    exact ih (fun g' hg' => hgs g' (List.mem_cons_of_mem _ hg')) _ (hop hf (hgs g List.mem_cons_self))

private theorem foldl_min_lt (fs : List Field) (m : ℝ) (p : P3) :
    fs.foldl (fun m f => min m (f p)) m < 0 ↔ m < 0 ∨ ∃ f ∈ fs, f p < 0 := by
  induction fs generalizing m with
  | nil => simp
  | cons g gs ih =>
    simp only [List.foldl_cons, ih, min_lt_iff, List.mem_cons, exists_eq_or_imp]
    tauto

private theorem foldl_max_lt (fs : List Field) (m : ℝ) (p : P3) :
    fs.foldl (fun m f => max m (f p)) m < 0 ↔ m < 0 ∧ ∀ f ∈ fs, f p < 0 := by
  induction fs generalizing m with
  | nil => simp
  | cons g gs ih =>
    simp only [List.foldl_cons, ih, max_lt_iff, List.mem_cons, forall_eq_or_imp]
    tauto

/-- union of any number (≥ 1) of fields is negative exactly on the union of the operands' interiors -/
theorem union_neg_iff (fs : List Field) (u : Field) (h : SdfOps.Union fs = some u) (p : P3) :
    u p < 0 ↔ ∃ f ∈ fs, f p < 0 := by
  obtain ⟨f, gs, rfl, rfl⟩ := union_some h
  simp [foldl_min_lt]

theorem intersect_neg_iff (fs : List Field) (u : Field) (h : SdfOps.Intersect fs = some u) (p : P3) :
    u p < 0 ↔ ∀ f ∈ fs, f p < 0 := by
  obtain ⟨f, gs, rfl, rfl⟩ := intersect_some h
  simp [foldl_max_lt]

theorem lipschitz_min {f g : Field} (hf : Lipschitz1 f) (hg : Lipschitz1 g) :
    Lipschitz1 (fun p => min (f p) (g p)) :=
  fun p q => (abs_min_sub_min_le_max (f p) (g p) (f q) (g q)).trans (max_le (hf p q) (hg p q))

theorem lipschitz_max {f g : Field} (hf : Lipschitz1 f) (hg : Lipschitz1 g) :
    Lipschitz1 (fun p => max (f p) (g p)) :=
  fun p q => (abs_max_sub_max_le_max (f p) (g p) (f q) (g q)).trans (max_le (hf p q) (hg p q))

theorem lipschitz_neg {f : Field} (hf : Lipschitz1 f) : Lipschitz1 (fun p => -(f p)) := by
  intro p q; have := hf p q; rwa [neg_sub_neg, abs_sub_comm]

theorem subtract_lipschitz {a b : Field} (ha : Lipschitz1 a) (hb : Lipschitz1 b) : Lipschitz1 (Subtract a b) :=
  lipschitz_max ha (lipschitz_neg hb)

theorem translate_lipschitz {f : Field} (hf : Lipschitz1 f) (t : P3) : Lipschitz1 (Translate f t) := by
  intro p q
  have := hf (p.Sub t) (q.Sub t)
  have e : (p.Sub t).Distance (q.Sub t) = p.Distance q := by
    simp only [V3.Distance, V3.DistanceSquared, V3.Sub]; congr 1; ring
  rwa [e] at this

theorem union_lipschitz (fs : List Field) (u : Field) (h : SdfOps.Union fs = some u)
    (hfs : ∀ f ∈ fs, Lipschitz1 f) : Lipschitz1 u := by
  obtain ⟨f, gs, rfl, rfl⟩ := union_some h
  exact foldl_closed (op := min) lipschitz_min gs (fun g hg => hfs g (List.mem_cons_of_mem _ hg)) f
    (hfs f List.mem_cons_self)

theorem intersect_lipschitz (fs : List Field) (u : Field) (h : SdfOps.Intersect fs = some u)
    (hfs : ∀ f ∈ fs, Lipschitz1 f) : Lipschitz1 u := by
  obtain ⟨f, gs, rfl, rfl⟩ := intersect_some h
  exact foldl_closed (op := max) lipschitz_max gs (fun g hg => hfs g (List.mem_cons_of_mem _ hg)) f
    (hfs f List.mem_cons_self)

/-- the folded coordinates `q = |p − c| − bounds/2` of box.go -/
noncomputable def boxQ (c b p : P3) : P3 := ((p.Sub c).Abs).Sub (b.Scale (1/2))

theorem boxQ_x (c b p : P3) : (boxQ c b p).x = |p.x - c.x| - b.x * (1/2) := rfl
theorem boxQ_y (c b p : P3) : (boxQ c b p).y = |p.y - c.y| - b.y * (1/2) := rfl
theorem boxQ_z (c b p : P3) : (boxQ c b p).z = |p.z - c.z| - b.z * (1/2) := rfl

theorem box_eq_G3 (c b p : P3) : Box c b p = G3 (toE (boxQ c b p)) := by
  have hp : pos3 (toE (boxQ c b p)) = toE ((boxQ c b p).Max V3.Zero) := by
    show !₂[_, _, _] = !₂[max _ ((0 : ℕ) : ℝ), max _ ((0 : ℕ) : ℝ), max _ ((0 : ℕ) : ℝ)]
    rw [Nat.cast_zero]; rfl
  rw [G3, hp, norm_toE]
  simp only [Box, boxQ, RS.lit_eq, Nat.cast_one, Nat.cast_ofNat, Nat.cast_zero]
  rfl

theorem box_eq (c b p : P3) :
    Box c b p = Real.sqrt ((max (boxQ c b p).x 0)^2 + (max (boxQ c b p).y 0)^2 + (max (boxQ c b p).z 0)^2)
      + min (max (boxQ c b p).x (max (boxQ c b p).y (boxQ c b p).z)) 0 := by
  rw [box_eq_G3, G3, EuclideanSpace.norm_eq, Fin.sum_univ_three]
  simp only [Real.norm_eq_abs, sq_abs]
  rfl

theorem box_neg_iff (c b p : P3) :
    Box c b p < 0 ↔ (boxQ c b p).x < 0 ∧ (boxQ c b p).y < 0 ∧ (boxQ c b p).z < 0 := by
  rw [box_eq_G3, G3_neg_iff]
  simp only [sup3, toE_apply0, toE_apply1, toE_apply2, max_lt_iff]

/-- inside the box means |p − c| < bounds/2 in every coordinate -/
theorem box_neg_iff' (c b p : P3) :
    Box c b p < 0 ↔ |p.x - c.x| < b.x / 2 ∧ |p.y - c.y| < b.y / 2 ∧ |p.z - c.z| < b.z / 2 := by
  rw [box_neg_iff, boxQ_x, boxQ_y, boxQ_z]
  constructor <;> rintro ⟨h1, h2, h3⟩ <;> refine ⟨?_, ?_, ?_⟩ <;> linarith

theorem box_zero_iff (c b p : P3) :
    Box c b p = 0 ↔ max (boxQ c b p).x (max (boxQ c b p).y (boxQ c b p).z) = 0 := by
  rw [box_eq_G3, G3_eq_zero_iff]; rfl

theorem roundedBox_eq (c b : P3) (r : ℝ) (p : P3) : RoundedBox c b r p = Box c b p - r := rfl

theorem toE_boxQ (c b p : P3) (j : Fin 3) : toE (boxQ c b p) j = |toE p j - toE c j| - toE b j * (1/2) := by
  fin_cases j <;> rfl

/-- the fold `p ↦ |p − c| − b/2` is a submetry onto `{Q | −b/2 ≤ Q}`: coordinate by coordinate -/
theorem boxQ_submetry (c b : P3) :
    Submetry V3.Distance (fun p => toE (boxQ c b p)) {Q | ∀ i, -(toE b i * (1 / 2)) ≤ Q i} where
  mem p i := by rw [toE_boxQ]; linarith [abs_nonneg (toE p i - toE c i)]
  lip p q := by
    rw [← dist_toE]
    refine norm_le_of_abs_le fun i => ?_
    fin_cases i <;> simp [boxQ, V3.Sub, V3.Abs, V3.Scale] <;>
      exact (abs_abs_sub_abs_le_abs_sub _ _).trans (le_of_eq (by ring_nf))
  lift p Y hY := by
    obtain ⟨x', hx1, hx2⟩ := absFold_lift p.x c.x (b.x * (1 / 2)) (Y 0) (hY 0)
    obtain ⟨y', hy1, hy2⟩ := absFold_lift p.y c.y (b.y * (1 / 2)) (Y 1) (hY 1)
    obtain ⟨z', hz1, hz2⟩ := absFold_lift p.z c.z (b.z * (1 / 2)) (Y 2) (hY 2)
    refine ⟨⟨x', y', z'⟩, ?_, ?_⟩
    · ext i; fin_cases i
      · exact hx1
      · exact hy1
      · exact hz1
    · rw [← dist_toE, ← sq_eq_sq₀ (norm_nonneg _) (norm_nonneg _), norm_sq_E3, norm_sq_E3]
      show (p.x - x') ^ 2 + (p.y - y') ^ 2 + (p.z - z') ^ 2 = _
      rw [hx2, hy2, hz2]; rfl

theorem box_lipschitz (c b : P3) : Lipschitz1 (Box c b) := by
  intro p q
  rw [box_eq_G3, box_eq_G3]
  exact (boxQ_submetry c b).lipschitz G3_lipschitz p q

theorem roundedBox_lipschitz (c b : P3) (r : ℝ) : Lipschitz1 (RoundedBox c b r) := by
  intro p q
  rw [roundedBox_eq, roundedBox_eq, sub_sub_sub_cancel_right]
  exact box_lipschitz c b p q

/-- rounded box: negative exactly where the (exact-sign, 1-Lipschitz) box field is below the rounding radius -/
theorem roundedBox_neg_iff (c b : P3) (r : ℝ) (p : P3) : RoundedBox c b r p < 0 ↔ Box c b p < r := sub_neg

/-- exact-distance lower bound for the box: no surface point is closer than `|f p|` -/
theorem box_exact_le (c b p s : P3) (hs : Box c b s = 0) : |Box c b p| ≤ p.Distance s :=
  lipschitz_zero_bound (box_lipschitz c b) p s hs

/-- the componentwise clamp of `p` into the box -/
noncomputable def boxClamp (c b p : P3) : P3 :=
  ⟨c.x + max (-(b.x * (1/2))) (min (p.x - c.x) (b.x * (1/2))),
   c.y + max (-(b.y * (1/2))) (min (p.y - c.y) (b.y * (1/2))),
   c.z + max (-(b.z * (1/2))) (min (p.z - c.z) (b.z * (1/2)))⟩

section
variable (a b : P3)

/-- the clamped projection parameter computed by `ClosestPointOnLine` -/
noncomputable def segParam (a b p : P3) : ℝ :=
  max 0 (min 1 ((p.Sub a).Dot (b.Sub a) / (b.Sub a).Dot (b.Sub a)))

/-- `ClosestPointOnLine` returns the segment point at the clamped projection parameter -/
theorem closestPoint_eq (p : P3) (hab : a ≠ b) :
    (NewLine3D a b).ClosestPointOnLine p = segPoint a b (segParam a b p) := by
  have hN := V3.dot_self_pos hab
  set N := (b.Sub a).Dot (b.Sub a) with hNdef
  set W := (p.Sub a).Dot (b.Sub a) with hWdef
  -- the parameter the code computes
  have ht : (V3.Dot (p.Sub a) ((b.Sub a).Normalized)) / (b.Sub a).Length = W / N := by
    rw [V3.dot_comm, V3.normalized_dot, div_div, V3.length_mul_self, V3.dot_comm]
  simp only [Line3D.ClosestPointOnLine, NewLine3D, decide_eq_true_eq, Nat.cast_one, Nat.cast_zero, ht]
  unfold segParam
  rw [← hWdef, ← hNdef]
  by_cases h1 : 1 ≤ W / N
  · simp only [h1, if_true]
    rw [min_eq_left h1, max_eq_right (by norm_num)]
    ext <;> simp [segPoint, V3.Add, V3.Sub, V3.Scale]
  · simp only [h1, if_false]
    by_cases h0 : W / N ≤ 0
    · simp only [h0, if_true]
      rw [min_eq_right (le_of_not_ge h1), max_eq_left h0]
      ext <;> simp [segPoint, V3.Add, V3.Sub, V3.Scale]
    · simp only [h0, if_false]
      rw [min_eq_right (le_of_not_ge h1), max_eq_right (le_of_not_ge h0)]
      rfl

theorem segParam_mem (p : P3) : 0 ≤ segParam a b p ∧ segParam a b p ≤ 1 := by
  unfold segParam; constructor
  · exact le_max_left _ _
  · exact max_le (by norm_num) (min_le_left _ _)

/-- the clamped vertex `max 0 (min 1 (W/N))` of the parabola `s ↦ N s² − 2 W s`, `N > 0`, minimises it over `[0, 1]` -/
theorem clamp_minimises {N W : ℝ} (hN : 0 < N) {s : ℝ} (hs0 : 0 ≤ s) (hs1 : s ≤ 1) :
    -(2 * max 0 (min 1 (W / N)) * W) + max 0 (min 1 (W / N)) ^ 2 * N ≤ -(2 * s * W) + s ^ 2 * N := by
  obtain ⟨t, rfl⟩ : ∃ t, W = t * N := ⟨W / N, by field_simp⟩
  rw [mul_div_cancel_right₀ t hN.ne']
  rcases le_total 1 t with h1 | h1
  · rw [min_eq_left h1, max_eq_right zero_le_one]
    linarith [mul_nonneg (mul_nonneg hN.le (sub_nonneg.mpr hs1)) (sub_nonneg.mpr h1),
      mul_nonneg hN.le (mul_self_nonneg (1 - s))]
  · rw [min_eq_right h1]
    rcases le_total t 0 with h0 | h0
    · rw [max_eq_left h0]
      linarith [mul_nonneg (mul_nonneg hN.le hs0) (neg_nonneg.mpr h0), mul_nonneg hN.le (mul_self_nonneg s)]
    · rw [max_eq_right h0]
      linarith [mul_nonneg hN.le (mul_self_nonneg (s - t))]

/-- the returned point minimises the distance to `p` over the whole segment -/
theorem closestPoint_minimises (p : P3) (hab : a ≠ b) (s : ℝ) (hs0 : 0 ≤ s) (hs1 : s ≤ 1) :
    p.Distance ((NewLine3D a b).ClosestPointOnLine p) ≤ p.Distance (segPoint a b s) := by
  rw [closestPoint_eq a b p hab, V3.distance_eq_sqrt, V3.distance_eq_sqrt]
  apply Real.sqrt_le_sqrt
  rw [distSq_seg, distSq_seg, segParam]
  linarith [clamp_minimises (W := (p.Sub a).Dot (b.Sub a)) (V3.dot_self_pos hab) hs0 hs1]

theorem line_eq (r : ℝ) (p : P3) :
    Line a b r p = p.Distance ((NewLine3D a b).ClosestPointOnLine p) - r := rfl

theorem line_le_ball (hab : a ≠ b) (r : ℝ) (p : P3) (t : ℝ) (h0 : 0 ≤ t) (h1 : t ≤ 1) :
    Line a b r p ≤ p.Distance (segPoint a b t) - r :=
  sub_le_sub_right (closestPoint_minimises a b p hab t h0 h1) r

theorem line_attained (hab : a ≠ b) (r : ℝ) (p : P3) :
    ∃ t, 0 ≤ t ∧ t ≤ 1 ∧ Line a b r p = p.Distance (segPoint a b t) - r :=
  ⟨_, (segParam_mem a b p).1, (segParam_mem a b p).2, by rw [line_eq, closestPoint_eq a b p hab]⟩

end

/-- capsule: negative exactly when some point of the segment is closer than `r` -/
theorem line_neg_iff (a b : P3) (hab : a ≠ b) (r : ℝ) (p : P3) :
    Line a b r p < 0 ↔ ∃ s, 0 ≤ s ∧ s ≤ 1 ∧ p.Distance (segPoint a b s) < r :=
  leastGap_neg_iff (r := fun _ => r) (line_le_ball a b hab r) (line_attained a b hab r) p

/-- capsule: zero exactly when the distance to the segment equals `r` -/
theorem line_zero_iff (a b : P3) (hab : a ≠ b) (r : ℝ) (p : P3) :
    Line a b r p = 0 ↔ ∃ s, 0 ≤ s ∧ s ≤ 1 ∧ p.Distance (segPoint a b s) = r ∧
      ∀ t, 0 ≤ t → t ≤ 1 → r ≤ p.Distance (segPoint a b t) :=
  leastGap_zero_iff (r := fun _ => r) (line_le_ball a b hab r) (line_attained a b hab r) p

theorem line_lipschitz (a b : P3) (hab : a ≠ b) (r : ℝ) : Lipschitz1 (Line a b r) :=
  leastGap_lipschitz (r := fun _ => r) (line_le_ball a b hab r) (line_attained a b hab r)

theorem line_exact_le (a b : P3) (hab : a ≠ b) (r : ℝ) (p s : P3) (hs : Line a b r s = 0) :
    |Line a b r p| ≤ p.Distance s :=
  lipschitz_zero_bound (line_lipschitz a b hab r) p s hs

/-- the 2-D profile coordinates of rounded_cylinder.go: (radial excess, axial excess) -/
noncomputable def cylD (pos : P3) (radius topHeight bodyHeight : ℝ) (p : P3) : E2 :=
  !₂[Real.sqrt ((p.x - pos.x) ^ 2 + (p.z - pos.z) ^ 2) - 2 * radius + topHeight, |p.y - pos.y| - bodyHeight]

theorem roundedCylinder_eq (pos : P3) (ra rb h : ℝ) (p : P3) :
    RoundedCylinder pos ra rb h p = G2 (cylD pos ra rb h p) - rb := by
  rw [G2, EuclideanSpace.norm_eq, Fin.sum_univ_two]
  simp only [Real.norm_eq_abs, sq_abs]
  show _ = Real.sqrt ((max (cylD pos ra rb h p 0) 0) ^ 2 + (max (cylD pos ra rb h p 1) 0) ^ 2)
    + min (max (cylD pos ra rb h p 0) (cylD pos ra rb h p 1)) 0 - rb
  have e0 : cylD pos ra rb h p 0
      = Real.sqrt ((p.x - pos.x) * (p.x - pos.x) + (p.z - pos.z) * (p.z - pos.z)) - 2 * ra + rb := by
    simp only [cylD, sq]; rfl
  have e1 : cylD pos ra rb h p 1 = |p.y - pos.y| - h := rfl
  rw [e0, e1]
  simp only [RoundedCylinder, V2.New, V2.X, V2.Y, V2.Length, V3.XZ, V3.Y, V3.Sub, RS.sqrt_eq, RS.abs_eq, Nat.cast_ofNat,
    Nat.cast_zero, sq]
  ring

/-- a second point of the vertical axis through `pos` -/
def upY (pos : P3) : P3 := ⟨pos.x, pos.y + 1, pos.z⟩

theorem upY_ne (pos : P3) : pos ≠ upY pos := by intro e; have := congrArg V3.y e; simp [upY] at this

theorem coneH_upY (pos p : P3) : coneH pos (upY pos) p = p.y - pos.y := by
  have hd : pos.Distance (upY pos) = 1 := by simp [V3.Distance, V3.DistanceSquared, upY]
  rw [coneH, hd]; simp [V3.Dot, V3.Sub, upY]

theorem coneRho_upY (pos p : P3) :
    coneRho pos (upY pos) p = Real.sqrt ((p.x - pos.x) ^ 2 + (p.z - pos.z) ^ 2) := by
  rw [coneRho, coneH_upY]; congr 1; simp only [V3.Dot, V3.Sub]; ring

/-- `cylD` is the cylinder fold of the coordinates (axial, radial) about the vertical axis through `pos` -/
theorem cylD_eq_fold (pos : P3) (ra rb h : ℝ) (p : P3) :
    cylD pos ra rb h p = cylFold (2 * ra - rb) h (coneXY pos (upY pos) p) := by
  ext i; fin_cases i
  · show Real.sqrt ((p.x - pos.x) ^ 2 + (p.z - pos.z) ^ 2) - 2 * ra + rb = coneRho pos (upY pos) p - (2 * ra - rb)
    rw [coneRho_upY]; ring
  · show |p.y - pos.y| - h = |coneH pos (upY pos) p| - h
    rw [coneH_upY]

theorem cylD_submetry (pos : P3) (ra rb h : ℝ) :
    Submetry V3.Distance (cylD pos ra rb h) {Z | -(2 * ra - rb) ≤ Z 0 ∧ -h ≤ Z 1} := by
  simpa only [← cylD_eq_fold] using cylFold_submetry (upY_ne pos) (2 * ra - rb) h

theorem roundedCylinder_lipschitz (pos : P3) (ra rb h : ℝ) : Lipschitz1 (RoundedCylinder pos ra rb h) := by
  intro p q
  rw [roundedCylinder_eq, roundedCylinder_eq, sub_sub_sub_cancel_right]
  exact (cylD_submetry pos ra rb h).lipschitz G2_lipschitz p q

/-- with no rounding (`topHeight = 0`) the field is negative exactly inside the plain cylinder of
    radius `2·radius` (sic: the source doubles the radius, as Quilez' formula does) and half height `bodyHeight` -/
theorem roundedCylinder_neg_iff_sharp (pos : P3) (ra h : ℝ) (p : P3) :
    RoundedCylinder pos ra 0 h p < 0 ↔
      Real.sqrt ((p.x - pos.x) ^ 2 + (p.z - pos.z) ^ 2) < 2 * ra ∧ |p.y - pos.y| < h := by
  rw [roundedCylinder_eq, sub_zero, G2_neg_iff, sup2, max_lt_iff]
  show (Real.sqrt ((p.x - pos.x) ^ 2 + (p.z - pos.z) ^ 2) - 2 * ra + 0 < 0 ∧ |p.y - pos.y| - h < 0) ↔ _
  rw [add_zero, sub_neg, sub_neg]

/-- general rounding: negative exactly where the profile's signed distance to the core is below the rounding radius -/
theorem roundedCylinder_neg_iff (pos : P3) (ra rb h : ℝ) (p : P3) :
    RoundedCylinder pos ra rb h p < 0 ↔ G2 (cylD pos ra rb h p) < rb := by
  rw [roundedCylinder_eq]; constructor <;> intro hh <;> linarith


/-! ### non-vacuity: concrete instances of the hypotheses used above -/

example : (⟨0, 0, 0⟩ : P3) ≠ ⟨1, 0, 0⟩ := by intro h; have := congrArg V3.x h; simp at this
example : (⟨0, 1, 0⟩ : P3).Dot ⟨0, 1, 0⟩ = 1 := by simp [V3.Dot]
example : SdfOps.Union [Sphere (⟨0, 0, 0⟩ : P3) 1, Sphere ⟨3, 0, 0⟩ 1, Sphere ⟨0, 3, 0⟩ 2] ≠ none := by
  simp [SdfOps.Union]
example : Box (⟨0, 0, 0⟩ : P3) ⟨2, 2, 2⟩ ⟨1, 0, 0⟩ = 0 := by
  rw [box_zero_iff]; simp [boxQ, V3.Sub, V3.Abs, V3.Scale]

end C19
end PolyVerif
