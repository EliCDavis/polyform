/-
  C08 — the ASCII claim stage for spec headers: `LocatedA` discharged from the decidable guard
  `specClaimGuard f ws && asciiGuard ws` (C04: `claim_of_guard_ws false`, `locatedA_of_good`); closed ASCII theorems.
-/
import PolyVerif.Props.C08Claim
import PolyVerif.Props.C08MeshAscii
import PolyVerif.Lemmas.PlyClaimAscii

namespace PolyVerif
namespace C08
open Ply PlySpec PlyLemmas PlyCompose PlyHeader PlyAscii PlyFaces PlyFacesAscii PlyClaim

variable {α : Type}

/-- the readers the ASCII branch of `MeshReader.Read` builds on the spec header, with the header positions of their names -/
def specClaimedA (f : SpecFile α) : List (Built × List Nat) :=
  (buildAll false (specProps f) defaultReaders true).map (fun b => (b, b.names.map (posOf (specProps f))))

theorem specClaimedA_built (f : SpecFile α) :
    (specClaimedA f).map (·.1) = buildAll false (specProps f) defaultReaders true := by
  simp [specClaimedA, List.map_map, Function.comp_def]

/-- INSIDE THE GUARDS (`asciiGuard`: every 8-bit property is claimed by a vector reader, cf.
`ply_ascii_uchar_scalar_not_normalised`) every ASCII reader
built on the spec header reads the columns of its names and normalises iff its properties are 8-bit -/
theorem ply_spec_claim_located_ascii (f : SpecFile α) (ws : List WProp) (hg : specClaimGuard f ws = true)
    (hA : asciiGuard ws = true) :
    ∀ p ∈ specClaimedA f, LocatedA (f.vprops.map (·.ty)) p.1 p.2 := by
  obtain ⟨hp, hnd, hcg, _⟩ := specClaimGuard_parts f ws hg
  intro p hpm
  simp only [specClaimedA, List.mem_map] at hpm
  obtain ⟨b, hb, rfl⟩ := hpm
  rw [specProps_tys, hp, wsProps_eq] at *
  exact (locatedA_of_good ws hnd b ((claim_of_guard_ws false ws hnd hcg (fun _ => hA)).1 b hb)).loc

/-- ASCII POINT-CLOUD FILES FROM FILE BYTES, CLOSED (laws `GoFloatText` + `SpecIntText` remain hypotheses) -/
theorem ply_reads_spec_pointcloud_ascii_bytes_closed (c : Coding α) (L : GoFloatText c) (Z : SpecIntText c) (f : SpecFile α)
    (ws : List WProp) (hok : SpecHeaderOK f) (hf : f.format = .ascii) (hprops : f.vprops ≠ []) (hface : f.face = none)
    (htyped : ∀ r ∈ f.verts, r.map Datum.ty = f.vprops.map (·.ty))
    (hrange : ∀ r ∈ f.verts, ∀ d ∈ r, Datum.InRange c L Z d)
    (hg : specClaimGuard f ws = true) (hA : asciiGuard ws = true) :
    readMesh c defaultReader (refEncode c f)
      = .ok (applyColumns ⟨.point, (List.range f.verts.length).map Int.ofNat, [], none⟩ ((specClaimedA f).map (·.1))
          (f.verts.map (rowOfS c L Z (specClaimedA f)))) :=
  ply_reads_spec_pointcloud_ascii_bytes c L Z f hok hf hprops hface htyped hrange (specClaimedA f)
    (specClaimedA_built f) (ply_spec_claim_located_ascii f ws hg hA)

/-- ASCII MESH FILES FROM FILE BYTES, CLOSED -/
theorem ply_reads_spec_mesh_ascii_bytes_closed (c : Coding α) (L : GoFloatText c) (Z : SpecIntText c) (f : SpecFile α)
    (fe : SpecFaceElem α) (ws : List WProp) (hok : SpecHeaderOK f) (hf : f.format = .ascii) (hprops : f.vprops ≠ [])
    (hface : f.face = some fe) (htex : fe.tex = none)
    (henc : ∀ fc ∈ fe.faces, FaceEncOK fe fc) (hsize : ∀ fc ∈ fe.faces, TriOrQuad fc)
    (htyped : ∀ r ∈ f.verts, r.map Datum.ty = f.vprops.map (·.ty))
    (hrange : ∀ r ∈ f.verts, ∀ d ∈ r, Datum.InRange c L Z d)
    (hg : specClaimGuard f ws = true) (hA : asciiGuard ws = true) :
    readMesh c defaultReader (refEncode c f)
      = .ok (applyColumns ⟨.triangle, fanIdx fe.faces, [], none⟩ ((specClaimedA f).map (·.1))
          (f.verts.map (rowOfS c L Z (specClaimedA f)))) :=
  ply_reads_spec_mesh_ascii_bytes c L Z f fe hok hf hprops hface htex henc hsize htyped hrange (specClaimedA f)
    (specClaimedA_built f) (ply_spec_claim_located_ascii f ws hg hA)

/-! ### non-vacuity: `exClaim` as an ASCII file -/

theorem exClaimA_guard :
    specClaimGuard ({ exClaim with format := .ascii } : SpecFile Nat) exClaimWs = true ∧ asciiGuard exClaimWs = true := by
  decide +kernel

example : specClaimGuard ({ exClaim with format := .ascii } : SpecFile Nat) exClaimWs = true ∧ asciiGuard exClaimWs = true :=
  exClaimA_guard

example : ∃ m, readMesh toyCodingA defaultReader (refEncode toyCodingA ({ exClaim with format := .ascii } : SpecFile Nat)) = .ok m :=
  ⟨_, ply_reads_spec_mesh_ascii_bytes_closed toyCodingA toyLaw toyIntLaw { exClaim with format := .ascii } exMesh.exFaces exClaimWs
    ⟨exClaim_hdr.names, exClaim_hdr.items, exClaim_hdr.nverts, exClaim_hdr.nfaces⟩
    rfl (by decide) rfl rfl exMesh_ok.enc exFaces_sizes exClaim_typed
    (by
      intro r hr d hd
      simp only [exClaim, List.mem_cons, List.not_mem_nil, or_false] at hr
      rcases hr with rfl | rfl | rfl | rfl <;>
        (simp only [List.mem_cons, List.not_mem_nil, or_false] at hd
         rcases hd with rfl | rfl | rfl | rfl | rfl | rfl | rfl | rfl <;> trivial))
    exClaimA_guard.1 exClaimA_guard.2⟩

end C08
end PolyVerif
