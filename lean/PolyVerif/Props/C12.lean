/-
  C12 — a saved graph reloads to the same graph, artifacts and bytes.

  Theorems about `PolyVerif.Model.GraphIO` (model of /repo/generator/graph/instance.go, generator/app.go,
  nodes/struct_node.go SetInput/Dependencies, refutil/reflect.go, generator/sync/sync.go,
  generator/parameter/*.go), tied to the Go code by the `c12` correspondence stream.
  Helper lemmas live in `PolyVerif.Lemmas.GraphIO` and `PolyVerif.Lemmas.DepOrder`; the witness environments and graphs of the
  closed counterexamples (`wEnv`, `wGraph`, `fEnv`, `fGraph`) are defined here.
-/
import PolyVerif.Model.GraphIO
import PolyVerif.Lemmas.GraphIO
import PolyVerif.Lemmas.DepOrder
import PolyVerif.Gen.DepOrderFacts

namespace PolyVerif
namespace C12
open GraphIO

variable {V J : Type}

/-- After ANY history of editing operations (create node, connect / disconnect scalar inputs, array add / remove /
    clear, set parameter value / name / description, designate producer, metadata set / delete, delete a node
    nothing depends on — failing operations leave the graph unchanged) started from the empty graph:
    ids are unique and non-empty, every node has a registered type, every reference (wiring and producers)
    resolves to a node of the graph whose output type matches, parameter payloads are re-readable. -/
theorem edit_history_wf {E : Env V J} (hE : EnvOK E) (h : Hdr) (ops : List (Op J)) :
    WF E (run E (Graph.init h) ops) :=
  run_wf hE ops (init_wf h)

/-- the bounded id search of the model never exhausts its fuel: among `len + 1` candidate names `Node-k` one is free
    (pigeonhole; `Node-k` is injective in k).  So the model's `fuel` error never occurs and `edit_history_wf` is not
    true of `create` by way of the failing-op no-op. -/
theorem firstFree_sufficient (ids : List Id) (k : Nat) : ∃ id, firstFree ids (ids.length + 1) k = some id :=
  firstFree_sufficient_aux k (Nat.lt_succ_self _)

/-- CreateNode of a registered type always succeeds, and the new node gets a fresh, non-empty id -/
theorem create_succeeds {E : Env V J} (g : Graph V) {ty : TyName} {T : NodeType} (hT : E.types ty = some T) :
    ∃ id, id ∉ g.ids ∧ id ≠ "" ∧
      step E g (.create ty) = .ok { g with nodes := g.nodes ++ [emptyNode id ty (freshParam E ty T)] } := by
  have hlen : g.ids.length = g.nodes.length := by simp [Graph.ids]
  obtain ⟨id, hid⟩ := firstFree_sufficient g.ids g.nodes.length
  rw [hlen] at hid
  obtain ⟨h1, h2⟩ := firstFree_fresh hid
  exact ⟨id, h1, h2, by simp [step, hT, hid]⟩

/-- the same from any well-formed start graph (an application that defines its graph in code — `App.Files` —
    starts from that graph instead of the empty one; per-node defaults are then arbitrary) -/
theorem edit_history_wf_from {E : Env V J} (hE : EnvOK E) {g : Graph V} (hw : WF E g) (ops : List (Op J)) :
    WF E (run E g ops) :=
  run_wf hE ops hw

/-- For every well-formed graph — in particular (`edit_history_wf`) every graph reachable by editing —,
    if the comparator used by the save is, on each node's dependency names, a strict total order that puts
    `P.i` before `P.j` whenever i < j, and at most one File/Image parameter carries a payload:
    loading the saved file into a fresh application succeeds and yields the graph itself, up to `norm`
    (a parameter's applied value becomes its current `Value()`): same nodes, ids and types, same scalar wiring,
    the same array contents IN THE SAME ORDER, same parameters, producers, metadata and header. -/
theorem decode_encode {E : Env V J} (hE : EnvOK E) {cmp : Name → Name → Bool} {g : Graph V} (hw : WF E g)
    (hc : ∀ n ∈ g.nodes, ∀ T, E.types n.ty = some T → CmpOK cmp T n) (hf : FilePayloadLast E g) :
    decode E Hdr.empty (encode E cmp g) = .ok g.norm := by
  unfold decode encode
  simp only [bind, Except.bind]
  rw [decodeNodes_encode hE hw hc g.nodes (fun _ h => h) hf, decodeProds_encode hw g.prods hw.prods, applyHdr_empty]
  rfl

/-- what `norm` keeps: everything observable.  Ids, types, the wiring functions (array order included), name,
    description, `Value()`, default and CLI binding of every parameter; producers, metadata, header. -/
theorem norm_same (g : Graph V) :
    g.norm.nodes.map (·.id) = g.nodes.map (·.id) ∧ g.norm.nodes.map (·.ty) = g.nodes.map (·.ty) ∧
    g.norm.nodes.map (·.scal) = g.nodes.map (·.scal) ∧ g.norm.nodes.map (·.arrs) = g.nodes.map (·.arrs) ∧
    g.norm.nodes.map (fun n => n.par.map Param.view) = g.nodes.map (fun n => n.par.map Param.view) ∧
    g.norm.prods = g.prods ∧ g.norm.md = g.md ∧ g.norm.hdr = g.hdr := by
  refine ⟨?_, ?_, ?_, ?_, ?_, rfl, rfl, rfl⟩ <;> simp only [Graph.norm, List.map_map] <;> apply List.map_congr_left <;>
    intro n _ <;> simp only [Function.comp, Node.norm]
  cases n.par with
  | none => rfl
  | some p => simp [Param.view, Param.norm_value]; simp [Param.norm]

/-- Saving the reloaded graph reproduces the file, at schema level: `encode (decode (encode g)) = encode g`.
    (encoding/json writes object keys sorted and jbtf lays the buffer out from the same data, so equal schemas are
    equal bytes — that last step is the trusted one, observed by the `bytes_identical` oracle.) -/
theorem encode_idempotent {E : Env V J} (hE : EnvOK E) {cmp : Name → Name → Bool} {g : Graph V} (hw : WF E g)
    (hc : ∀ n ∈ g.nodes, ∀ T, E.types n.ty = some T → CmpOK cmp T n) (hf : FilePayloadLast E g) :
    (decode E Hdr.empty (encode E cmp g)).map (encode E cmp) = .ok (encode E cmp g) := by
  rw [decode_encode hE hw hc hf]
  simp only [Except.map, encode, Graph.norm, List.map_map]
  congr 2
  apply List.map_congr_left
  intro n _
  exact encodeNode_norm E cmp n

/-- Whatever order Go's `range i.nodeIDs` presents the nodes in at save time (the model's list order of a graph is that
    order; it also fixes the order of the payloads in the binary buffer): the save of ANY permutation `g'` of the graph
    reloads to `g'.norm`, whose nodes are a permutation of `g.norm`'s — the same set of identical nodes.
    (On the load side there is nothing to permute: `decodeNode` is a function of the file, the entry and the payloads
    that FOLLOW the entry's own in the buffer, not of the order in which ApplyAppSchema visits the entries.) -/
theorem decode_encode_perm {E : Env V J} (hE : EnvOK E) {cmp : Name → Name → Bool} {g g' : Graph V} (hw : WF E g)
    (hperm : g'.nodes.Perm g.nodes) (hprods : g'.prods = g.prods)
    (hc : ∀ n ∈ g.nodes, ∀ T, E.types n.ty = some T → CmpOK cmp T n) (hf : FilePayloadLast E g) :
    decode E Hdr.empty (encode E cmp g') = .ok g'.norm ∧ g'.norm.nodes.Perm g.norm.nodes := by
  have keep : ∀ s ∈ g.nodes, ∃ s' ∈ g'.nodes, s'.id = s.id ∧ s'.ty = s.ty :=
    fun s hs => ⟨s, hperm.mem_iff.mpr hs, rfl, rfl⟩
  have hw' : WF E g' := by
    refine ⟨(hperm.map _).nodup_iff.mpr hw.nodup, ?_, hprods ▸ hw.prodsNodup, ?_⟩
    · intro n hn; exact (hw.nodes n (hperm.mem_iff.mp hn)).mono keep
    · intro kv hkv; exact (hw.prods kv (hprods ▸ hkv)).mono keep
  have hf' : FilePayloadLast E g' := by
    unfold FilePayloadLast at hf ⊢
    rw [(hperm.filterMap _).length_eq]; exact hf
  exact ⟨decode_encode hE hw' (fun n hn => hc n (hperm.mem_iff.mp hn)) hf', hperm.map _⟩

/-- encoding is per node, so permuting the nodes permutes the entries -/
theorem encode_nodes_perm (E : Env V J) (cmp : Name → Name → Bool) {g g' : Graph V} (h : g.nodes.Perm g'.nodes) :
    (encode E cmp g).nodes.Perm (encode E cmp g').nodes :=
  h.map _

/-- sort.Slice is trusted only to return SOME permutation that is sorted w.r.t. the comparator; under `CmpOK`
    that permutation is unique, so it is the list the model's insertion sort computes -/
theorem sorted_unique {E : Env V J} (hE : EnvOK E) {ty : TyName} {T : NodeType} (hT : E.types ty = some T)
    {cmp : Name → Name → Bool} {n : Node V} (hc : CmpOK cmp T n) {l : List Dep} (hperm : l.Perm (depsOf T n))
    (hsorted : l.Pairwise (fun a b => cmp a.name b.name = true)) :
    l = sortBy (fun a b => cmp a.name b.name) (depsOf T n) :=
  let ⟨hS, hN⟩ := depsOf_strict hE hT hc
  sorted_unique_aux hS hN hperm hsorted

/-- the skeleton of `dependencyNameLess` and of its call site that `depLess` / `encodeNode` transcribe:
    split both names at the LAST dot (`splitLast`), guard = both dots found and `EqualFold` of the prefixes
    (`lower ap = lower bp`), `strconv.Atoi` of both suffixes (`atoi`), both errors nil (`some x, some y`), numeric `<`,
    else `ToLower(a) < ToLower(b)` (`strLt (lower a) (lower b)`); `sort.Slice` of the dependencies by that on `.Name` -/
def expectedSkeleton : List String := [
  "split-a: v0 := strings.LastIndex(p0, \".\")",
  "split-b: v1 := strings.LastIndex(p1, \".\")",
  "same-port-guard: v0 != -1",
  "same-port-guard: v1 != -1",
  "same-port-guard: strings.EqualFold(p0[:v0], p1[:v1])",
  "parse-a: v2, v3 := strconv.Atoi(p0[v0+1:])",
  "parse-b: v4, v5 := strconv.Atoi(p1[v1+1:])",
  "numeric-guard: v3 == nil",
  "numeric-guard: v5 == nil",
  "numeric-result: v2 < v4",
  "fallback-result: strings.ToLower(p0) < strings.ToLower(p1)",
  "sort-call: sort.Slice(nodeInstance.Dependencies, func(i, j int) bool { return dependencyNameLess(nodeInstance.Dependencies[i].Name, nodeInstance.Dependencies[j].Name) })"]

/-- REGENERATED OBLIGATION (engine F, `go/facts` mode `c12.cmp`): the comparator in generator/graph/instance.go, as it is
    in the tree being checked, has exactly the statement / call skeleton the model transcribes -/
theorem dep_order_skeleton : Gen.depOrderFacts = expectedSkeleton := rfl

theorem name_code_aux {E : Env V J} (hE : EnvOK E) {ty : TyName} {T : NodeType} (hT : E.types ty = some T)
    {n : Node V} (hlen : ∀ p, (n.arrs p).length ≤ 2 ^ 63) {x : Name} (hx : x ∈ (depsOf T n).map (·.name)) :
    ∃ c : Code, c.Valid T ∧ c.render = x := by
  obtain ⟨d, hd, rfl⟩ := List.mem_map.mp hx
  rcases mem_depsOf hE hT hd with ⟨_, h, _⟩ | ⟨p, hp, i, _, hi, hname, _⟩
  · exact ⟨.s d.name, h, rfl⟩
  · exact ⟨.a p i, ⟨hp, Nat.lt_of_lt_of_le hi (hlen p)⟩, hname.symm⟩

/-- `dependencyNameLess` (numeric-suffix aware, `depLess`) satisfies the hypothesis of `decode_encode`, for every
    node of every type whose input names are dot-free and distinct up to case (Go field names), with any number of
    connections a Go slice can hold — any number of digits: it is a strict total order on the node's dependency
    names and orders `P.i` before `P.j` for all i < j. -/
theorem natural_order_ok {E : Env V J} (hE : EnvOK E) {ty : TyName} {T : NodeType} (hT : E.types ty = some T)
    (hP : PortsOK T) (n : Node V) (hlen : ∀ p, (n.arrs p).length ≤ 2 ^ 63) : CmpOK depLess T n := by
  have code := fun x hx => name_code_aux (n := n) hE hT hlen (x := x) hx
  have key := fun {c d : Code} (vc : c.Valid T) (vd : d.Valid T) => depLess_key hP vc vd
  refine ⟨⟨fun a ha b hb h1 h2 => ?_, fun a ha b hb c hc h1 h2 => ?_, fun a ha b hb hne => ?_⟩,
    fun p hp i j hij hj => ?_⟩
  · obtain ⟨ca, va, rfl⟩ := code a ha
    obtain ⟨cb, vb, rfl⟩ := code b hb
    exact keyLt_asymm ((key va vb).mp h1) ((key vb va).mp h2)
  · obtain ⟨ca, va, rfl⟩ := code a ha
    obtain ⟨cb, vb, rfl⟩ := code b hb
    obtain ⟨cc, vc, rfl⟩ := code c hc
    exact (key va vc).mpr (keyLt_trans ((key va vb).mp h1) ((key vb vc).mp h2))
  · obtain ⟨ca, va, rfl⟩ := code a ha
    obtain ⟨cb, vb, rfl⟩ := code b hb
    rw [key va vb, key vb va]
    exact keyLt_total fun e => hne (congrArg Code.render (key_inj hP va vb e))
  · have hj' : j < 2 ^ 63 := Nat.lt_of_lt_of_le hj (hlen p)
    rw [depLess_same_port p i j (by omega) hj']
    simpa using hij

/-- the property's save → load clause for the code as it is: every graph reachable by editing, saved with
    `dependencyNameLess` and loaded into a fresh application, comes back as itself (array order included) -/
theorem decode_encode_natural {E : Env V J} (hE : EnvOK E) (hP : ∀ ty T, E.types ty = some T → PortsOK T)
    (h : Hdr) (ops : List (Op J)) (hlen : ∀ n ∈ (run E (Graph.init h) ops).nodes, ∀ p, (n.arrs p).length ≤ 2 ^ 63)
    (hf : FilePayloadLast E (run E (Graph.init h) ops)) :
    decode E Hdr.empty (encode E depLess (run E (Graph.init h) ops)) = .ok (run E (Graph.init h) ops).norm :=
  decode_encode hE (edit_history_wf hE h ops)
    (fun n hn T hT => natural_order_ok hE hT (hP _ T hT) n (hlen n hn)) hf

/-! ### what the lower-cased string order (`lexLess`, the comparator before commit 5b98158) does to ten or more array entries; what jbtf does to a second payload -/

/-- the lower-cased string order puts `Values.10` before `Values.2`; the numeric-aware one does not -/
theorem lexicographic_misorders : lexLess "Values.10".toList "Values.2".toList = true ∧
    depLess "Values.10".toList "Values.2".toList = false ∧ depLess "Values.2".toList "Values.10".toList = true := by
  decide +kernel

/-- witness environment: `P` a value parameter (output type 1), `S` a struct with one array input `Values` (type 1) -/
def wEnv : Env Nat Nat :=
  { types := fun t => if t = "P" then some { out := 1, scal := [], arrs := [], param := some .value }
                      else if t = "S" then some { out := 1, scal := [], arrs := [("Values".toList, 1)], param := none }
                      else none,
    dflt := fun _ => some 0, toJ := id, fromJ := fun _ j => some j, cat := fun a b => a + b }

/-- the 11-connection graph: create `S`, then eleven times create a parameter and connect it to `Values` -/
def wGraph : Graph Nat :=
  run wEnv (Graph.init Hdr.empty)
    (.create "S" :: ((List.range 11).flatMap fun i =>
      [.create "P", .connect (nodeIdOf (i + 1)) "Out" (nodeIdOf 0) "Values.0".toList]))

def valuesOf (g : Graph Nat) : List (List Id) :=
  (g.nodes.filter (fun n => n.ty = "S")).map (fun n => (n.arrs "Values".toList).map (·.node))

def reloadValues (cmp : Name → Name → Bool) (g : Graph Nat) : Option (List (List Id)) :=
  match decode wEnv Hdr.empty (encode wEnv cmp g) with
  | .ok g' => some (valuesOf g')
  | .error _ => none

/-- with the lower-cased string order `lexLess`, decode ∘ encode scrambles an array input with 11 connections
    (the eleventh, saved as `Values.10`, comes back third); with `depLess` it does not -/
theorem lexicographic_order_breaks :
    reloadValues lexLess wGraph = some [["Node-1", "Node-2", "Node-11", "Node-3", "Node-4", "Node-5", "Node-6",
      "Node-7", "Node-8", "Node-9", "Node-10"]] ∧
    reloadValues lexLess wGraph ≠ some (valuesOf wGraph) ∧
    reloadValues depLess wGraph = some (valuesOf wGraph) := by
  decide +kernel

/-- witness environment with one File-like parameter type whose payloads are strings -/
def fEnv : Env (List Char) (List Char) :=
  { types := fun t => if t = "F" then some { out := 2, scal := [], arrs := [], param := some .file } else none,
    dflt := fun _ => none, toJ := id, fromJ := fun _ j => some j, cat := fun a b => a ++ b }

def fGraph : Graph (List Char) :=
  run fEnv (Graph.init Hdr.empty)
    [.create "F", .create "F", .setValue "Node-0" "AAAA".toList, .setValue "Node-1" "BB".toList]

def payloadsOf (g : Graph (List Char)) : List (Option String) :=
  g.nodes.map (fun n => (n.par.bind Param.value).map String.ofList)

/-- KNOWN FINDING C12-file-param-not-last, as a closed term: with two File parameters `AAAA`, `BB`
    (so `FilePayloadLast` fails) the first one reloads as `AAAABB` -/
theorem file_payload_concatenated :
    ¬ FilePayloadLast fEnv fGraph ∧ payloadsOf fGraph = [some "AAAA", some "BB"] ∧
    (match decode fEnv Hdr.empty (encode fEnv depLess fGraph) with
     | .ok g' => some (payloadsOf g')
     | .error _ => none) = some [some "AAAABB", some "BB"] := by
  decide +kernel

/-! ### non-vacuity of the hypotheses -/

theorem wEnv_types_aux {ty : TyName} {T : NodeType} (hT : wEnv.types ty = some T) :
    (ty = "P" ∧ T = { out := 1, scal := [], arrs := [], param := some .value }) ∨
    (ty = "S" ∧ T = { out := 1, scal := [], arrs := [("Values".toList, 1)], param := none }) := by
  simp only [wEnv] at hT
  split at hT
  · rename_i h; cases hT; exact Or.inl ⟨h, rfl⟩
  · split at hT
    · rename_i h; cases hT; exact Or.inr ⟨h, rfl⟩
    · cases hT

example : EnvOK wEnv := by
  refine ⟨?_, ?_, ?_, ?_, ?_, ?_, ?_, ?_⟩
  · intro ty T hT; rcases wEnv_types_aux hT with ⟨_, rfl⟩ | ⟨_, rfl⟩ <;> simp
  · intro ty T hT; rcases wEnv_types_aux hT with ⟨_, rfl⟩ | ⟨_, rfl⟩ <;> simp
  · intro ty T hT; rcases wEnv_types_aux hT with ⟨_, rfl⟩ | ⟨_, rfl⟩ <;> simp
  · intro ty T hT; rcases wEnv_types_aux hT with ⟨_, rfl⟩ | ⟨_, rfl⟩ <;> simp <;> decide
  · intro ty T hT; rcases wEnv_types_aux hT with ⟨_, rfl⟩ | ⟨_, rfl⟩ <;> simp
  · intro ty j v h; simp only [wEnv, Option.some.injEq] at h; subst h; rfl
  · intro ty v h; rfl
  · intro ty T hT _; rfl

example : PortsOK ({ out := 1, scal := [], arrs := [("Values".toList, 1)], param := none } : NodeType) := by
  refine ⟨?_, ?_, ?_⟩ <;> simp <;> decide

example : FilePayloadLast wEnv wGraph := by decide +kernel

example : (wGraph.nodes.length = 12) ∧ valuesOf wGraph = [["Node-1", "Node-2", "Node-3", "Node-4", "Node-5", "Node-6",
    "Node-7", "Node-8", "Node-9", "Node-10", "Node-11"]] := by decide +kernel

end C12
end PolyVerif
