/-
  C06 — scene level: dedup consistency of the material tracker and the mesh table.
-/
import PolyVerif.Props.C06Data

namespace PolyVerif
namespace C06
open Gltf

/-- the material tracker: entry `k` points at material `k`; no entry is `equal` to an EARLIER one -/
structure MatT (th : Nat → Option PTexture) (w : W) : Prop where
  len : w.matIdx.length = w.materials.length
  idx : ∀ (k : Nat) (e : PMaterial × Nat), w.matIdx[k]? = some e → e.2 = k
  distinct : List.Pairwise (fun e1 e2 : PMaterial × Nat => PMaterial.equal th e1.1 e2.1 = false) w.matIdx

/-- what `AddMaterial` does to the tracker, exactly: if some tracked material is `equal` to `m`, nothing is added and the
    index of the FIRST such entry is returned; otherwise one entry `(m, len)` is appended and `len` returned -/
theorem addMaterial_dedup (th : Nat → Option PTexture) (w : W) (m : PMaterial) (r : W × Nat)
    (h : addMaterial th w m = .ok r) (hw : MatT th w) :
    MatT th r.1
    ∧ ((∃ e ∈ w.matIdx, PMaterial.equal th e.1 m = true) →
         r.1.matIdx = w.matIdx ∧ r.1.materials = w.materials
         ∧ ∃ e, w.matIdx[r.2]? = some e ∧ PMaterial.equal th e.1 m = true
             ∧ ∀ j, j < r.2 → ∀ b, w.matIdx[j]? = some b → PMaterial.equal th b.1 m = false)
    ∧ ((∀ e ∈ w.matIdx, PMaterial.equal th e.1 m = false) →
         r.1.matIdx = w.matIdx ++ [(m, w.matIdx.length)] ∧ r.2 = w.matIdx.length
         ∧ r.1.materials.length = w.materials.length + 1) := by
  rcases addMaterial_ok h with ⟨k, a, hk, h1, rfl⟩ | ⟨hnone, r1, r2, r3, r4, r5, _, _, _, _, _, k, _, rfl⟩
  · obtain ⟨a', h1', h2, _, h4⟩ := findIdx_some _ _ _ _ hk
    simp only [Nat.sub_zero] at h1' h4
    have : a' = a := by rw [h1] at h1'; injection h1' with h1'; exact h1'.symm
    subst this
    have hak : a'.2 = k := hw.idx k a' h1
    refine ⟨hw, fun _ => ⟨rfl, rfl, a', by rw [hak]; exact h1, h2, by rw [hak]; exact h4⟩, ?_⟩
    intro hall
    have := hall a' (List.mem_of_getElem? h1)
    rw [h2] at this; cases this
  · have hall := findIdx_none _ _ _ hnone
    have e1 : r5.1.matIdx = w.matIdx := (congrArg W.matIdx k :)
    have e2 : r5.1.materials = w.materials := (congrArg W.materials k :)
    refine ⟨⟨?_, ?_, ?_⟩, ?_, ?_⟩
    · simp [e1, e2, hw.len]
    · intro j e hj
      simp only [e1, e2] at hj
      rcases Nat.lt_or_ge j w.matIdx.length with hlt | hge
      · rw [List.getElem?_append_left hlt] at hj; exact hw.idx j e hj
      · rw [List.getElem?_append_right hge] at hj
        have : j - w.matIdx.length = 0 := by
          rcases Nat.eq_zero_or_pos (j - w.matIdx.length) with h | h
          · exact h
          · rw [List.getElem?_eq_none (by simp; omega)] at hj; cases hj
        rw [this] at hj; simp at hj; subst hj
        simp only; rw [← hw.len]; omega
    · simp only [e1]
      rw [List.pairwise_append]
      refine ⟨hw.distinct, by simp, ?_⟩
      intro a ha b hb
      simp only [List.mem_singleton] at hb; subst hb
      exact hall a ha
    · intro ⟨e, he, heq⟩
      have := hall e he; rw [heq] at this; cases this
    · intro _
      exact ⟨by simp [e1, e2, hw.len], by simp [e2, hw.len], by simp [e2]⟩

/-- the mesh table is a partial injection from (mesh id, material index) to mesh indices -/
structure MeshT (w : W) : Prop where
  func : ∀ (k : Nat × Option Nat) (i j : Nat), (k, i) ∈ w.meshIdx → (k, j) ∈ w.meshIdx → i = j
  inj : ∀ (k k' : Nat × Option Nat) (i : Nat), (k, i) ∈ w.meshIdx → (k', i) ∈ w.meshIdx → k = k'
  lt : ∀ e ∈ w.meshIdx, e.2 < w.meshes.length

/-- what `AddMesh` does to the mesh table, exactly (non-empty mesh): a key that is present returns its index and changes
    nothing; a fresh key is registered for the next mesh index `len(meshes)`, one mesh is appended, all older entries
    stay -/
theorem addMesh_dedup (w : W) (name : String) (id : Nat) (m : PMesh) (mat : Option Nat) (hw : MeshT w)
    (hpc : m.primitiveCount ≠ 0) :
    MeshT (addMesh w name id m mat).1
    ∧ (∀ i, ((id, mat), i) ∈ w.meshIdx → addMesh w name id m mat = (w, some i))
    ∧ ((∀ i, ((id, mat), i) ∉ w.meshIdx) →
         (addMesh w name id m mat).2 = some w.meshes.length
         ∧ (addMesh w name id m mat).1.meshIdx = w.meshIdx ++ [((id, mat), w.meshes.length)]
         ∧ (addMesh w name id m mat).1.meshes.length = w.meshes.length + 1)
    ∧ ∀ e ∈ w.meshIdx, e ∈ (addMesh w name id m mat).1.meshIdx := by
  rcases addMesh_ok w name id m mat with ⟨h0, _⟩ | ⟨_, i, hi, e⟩ | ⟨_, hnone, d, _, k, e⟩
  · exact absurd h0 hpc
  · rw [e]
    have hmem := lookup_mem _ _ _ hi
    exact ⟨hw, fun j hj => by rw [hw.func _ _ _ hj hmem], fun hno => absurd hmem (hno i), fun e he => he⟩
  · rw [e]
    have hfresh := lookup_none _ _ hnone
    have hk1 : d.1.meshIdx = w.meshIdx ++ [((id, mat), w.meshes.length)] :=
      (congrArg W.meshIdx k :).trans (mapInsert_fresh _ _ _ hfresh)
    have hk2 : d.1.meshes = w.meshes := (congrArg W.meshes k :)
    simp only
    refine ⟨⟨?_, ?_, ?_⟩, ?_, fun _ => ⟨trivial, hk1, by simp [hk2]⟩, ?_⟩
    · intro k i j hi hj
      simp only [hk1, List.mem_append, List.mem_singleton, Prod.mk.injEq] at hi hj
      rcases hi with hi | ⟨rfl, rfl⟩ <;> rcases hj with hj | ⟨h1, rfl⟩
      · exact hw.func k i j hi hj
      · exact absurd h1 (hfresh _ hi)
      · exact absurd rfl (hfresh _ hj)
      · rfl
    · intro k k' i hi hj
      simp only [hk1, List.mem_append, List.mem_singleton, Prod.mk.injEq] at hi hj
      rcases hi with hi | ⟨rfl, rfl⟩ <;> rcases hj with hj | ⟨h1, h2⟩
      · exact hw.inj k k' i hi hj
      · have := hw.lt _ hi; simp only at this; omega
      · have := hw.lt _ hj; simp only at this; omega
      · exact h1.symm
    · intro e he
      simp only [hk1, List.mem_append, List.mem_singleton] at he
      simp only [hk2, List.length_append, List.length_singleton]
      rcases he with he | rfl
      · have := hw.lt e he; omega
      · simp
    · intro i hi
      exact absurd rfl (hfresh _ hi)
    · intro e he
      simp only [hk1, List.mem_append]
      exact Or.inl he

def matPart (w : W) := (w.matIdx, w.materials)

def meshPart (w : W) := (w.meshIdx, w.meshes)

theorem matT_of_matPart {th : Nat → Option PTexture} {w w' : W} (h : MatT th w) (e : matPart w' = matPart w) : MatT th w' := by
  simp only [matPart, Prod.mk.injEq] at e
  exact ⟨by rw [e.1, e.2]; exact h.len, by rw [e.1]; exact h.idx, by rw [e.1]; exact h.distinct⟩

theorem meshT_of_meshPart {w w' : W} (h : MeshT w) (e : meshPart w' = meshPart w) : MeshT w' := by
  simp only [meshPart, Prod.mk.injEq] at e
  exact ⟨by rw [e.1]; exact h.func, by rw [e.1]; exact h.inj, by rw [e.1, e.2]; exact h.lt⟩

theorem addModel_tables (s : Scene) (w w' : W) (md : Model) (hm : MatT (fun i => s.texHeap[i]?) w) (hx : MeshT w)
    (h : addModel s w md = .ok w') : MatT (fun i => s.texHeap[i]?) w' ∧ MeshT w' := by
  obtain ⟨id, m, _, _, ⟨_, rfl⟩ | ⟨hsk, _, r, mi, hr, _, rfl⟩⟩ := addModel_ok h
  · exact ⟨hm, hx⟩
  · have hm1 : MatT (fun i => s.texHeap[i]?) r.1 := by
      rcases addModelMaterial_ok hr with ⟨_, rfl⟩ | ⟨_, _, r', _, _, h', rfl⟩
      · exact hm
      · exact (addMaterial_dedup _ _ _ _ h' hm).1
    have hx1 : MeshT r.1 := meshT_of_meshPart hx (congrArg meshPart (noMat_addModelMaterial hr) :)
    have hx2 := (addMesh_dedup r.1 md.name id m r.2 hx1 (skipped_false hsk).1).1
    have hm2 := matT_of_matPart hm1 (congrArg matPart (noMesh_addMesh r.1 md.name id m r.2) :)
    have e := noInst_addInstances (addMesh r.1 md.name id m r.2).1 md.instances
    exact ⟨matT_of_matPart (matT_of_matPart hm2 (congrArg matPart e :)) rfl,
      meshT_of_meshPart (meshT_of_meshPart hx2 (congrArg meshPart e :)) rfl⟩

/-- DEDUP CONSISTENCY of the tables, for every scene the writer accepts.
    Materials: tracker entry `k` is material `k`, one entry per material, and no entry is `equal` (the field-wise
    `PolyformMaterial.equal` incl. normal / occlusion textures and texture extensions) to an earlier one — together with
    `addMaterial_dedup` (a material `equal` to a tracked one gets the first such entry's index and adds nothing):
    equal-by-value materials are stored once, distinct entries are pairwise not `equal`.
    Meshes: the mesh table is a partial INJECTION from (mesh id, resolved material index) to mesh indices, all in
    range — together with `addMesh_dedup` (a present key returns its index and adds nothing; a fresh key gets the next
    index) and `scene_dinv.meshIdx` (entry ↦ the mesh written for that key): same (mesh id, material index) ⇒ same glTF
    mesh index, and two models get the same mesh index ONLY IF mesh id and material index agree -/
theorem gltf_dedup_consistent (s : Scene) (w : W) (h : writeScene s = .ok w) :
    MatT (fun i => s.texHeap[i]?) w ∧ MeshT w :=
  writeScene_ind (P := fun w => MatT (fun i => s.texHeap[i]?) w ∧ MeshT w)
    ⟨⟨rfl, by simp, by simp⟩, ⟨by simp, by simp, by simp⟩⟩
    (fun w w' md _ hw h => addModel_tables s w w' md hw.1 hw.2 h)
    (fun _ _ hw => ⟨matT_of_matPart hw.1 rfl, meshT_of_meshPart hw.2 rfl⟩) h

end C06
end PolyVerif
