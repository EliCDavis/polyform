/-
  C08 — MESH files of the reference ("spec") encoding, binary (both byte orders), from FILE BYTES.

  The reader model is `Ply.readMesh` / `Ply.readBody` (`Model/Ply.lean`) — the very definition `Driver/C08.lean` answers
  `c08.read` with; `refEncode` is the definition it answers `c08.encode` with, `meaning` the one behind
  `c08.holds.meaning`.  Covered face elements (`SpecMeshOK`): index list named `vertex_indices` or `vertex_index`,
  count type uchar | int | uint × index type int | uint (canonical or alias spelling) — ALL SIX combinations the
  reader's `Count` / `Int` implement —, an optional unrecognised `list uchar int` property declared before or after the
  index list (≤ 255 entries per face), NO `texcoord` list; vertex numbers < 2³¹.  Faces with 3 and 4 indices
  (4 → the two fan triangles); a face of any other size is REJECTED by the reader (`ply_spec_mesh_other_size_rejected`).
-/
import PolyVerif.Props.C08Compose
import PolyVerif.Lemmas.PlyFaces

namespace PolyVerif
namespace C08
open Ply PlySpec PlyLemmas PlyCompose PlyHeader PlyFaces

variable {α : Type}

/-- the face element of `f` is inside the covered part of the reference grammar (binary) -/
structure SpecMeshOK (f : SpecFile α) (fe : SpecFaceElem α) : Prop where
  face : f.face = some fe
  noTex : fe.tex = none
  cnt : CountTyOK fe.cntTy
  idx : IndexTyOK fe.idxTy
  enc : ∀ fc ∈ fe.faces, FaceEncOK fe fc

theorem SpecMeshOK.elem {f : SpecFile α} {fe : SpecFaceElem α} (hm : SpecMeshOK f fe) : ElemOK fe :=
  ⟨hm.cnt, hm.idx, fun tt h => by rw [hm.noTex] at h; cases h⟩

/-- STAGES 1 AND 2 COMPOSED (binary): `readBody` on a reference-encoded body with a face element is the vertex arrays
`rowOf`, then the face loop on exactly the face records, then mesh assembly -/
theorem readBody_spec_bin (c : Coding α) (f : SpecFile α) (fe : SpecFaceElem α) (hf : f.format ≠ .ascii)
    (hface : f.face = some fe) (bl : List (Built × List Nat)) (hv : VertexSide f bl) :
    readBody c defaultReader (specHdr f) (specBody c f) = (do
      let r ← readFacesBin c f.format.endian (lpOf fe) (findFaceProps (lpOf fe)) fe.faces.length
        ⟨[0, 0, 0, 0], List.replicate 8 (c.ofInt 0)⟩ (faceBytes c f.format.endian fe fe.faces)
      assemble (bl.map (·.1)) f.verts.length (f.verts.map (rowOf c bl)) (some r)) := by
  obtain ⟨rest, hbody, hread⟩ := ply_spec_readback_vertex c f hf hv.typed bl hv.built hv.loc
  -- what the vertex loop leaves is the face records
  have hspec : specBody c f = (f.verts.map (fun r => (r.map (Datum.bin c f.format.endian)).flatten)).flatten
      ++ faceBytes c f.format.endian fe fe.faces := by
    cases hfmt : f.format with
    | ascii => exact absurd hfmt hf
    | _ => simp only [specBody, hfmt, hface, faceBytes]
  rw [hread, List.append_cancel_left (hbody.symm.trans hspec), findElement_spec_face, hface]
  simp only [Option.map_some, faceStageBin, listProps_lists, Int.toNat_natCast, idxProp_lists, Bool.false_eq_true,
    if_false, bind, Except.bind, pure, Except.pure]
  cases readFacesBin c f.format.endian (lpOf fe) (findFaceProps (lpOf fe)) fe.faces.length
    ⟨[0, 0, 0, 0], List.replicate 8 (c.ofInt 0)⟩ (faceBytes c f.format.endian fe fe.faces) <;> rfl

/-- what `readBody` makes of a reference file with face element `fe` in ONE encoding, as far as the theorems about face
elements need it: the vertex stage delivers `rows`; the face stage is `faceLoop` of a `step` that reads every fan face of
the grammar off the stream `enc` put it on (its texture coordinates as `dec`) and, when there is no `texcoord`, fails on
any other encodable face or reads the length of its index list.  `binCodec` and `asciiCodec` are the two instances. -/
structure FaceCodec (c : Coding α) (f : SpecFile α) (fe : SpecFaceElem α) (built : List Built)
    (rows : List (List (List α))) (dec : SpecFace α → List α) {σ : Type}
    (step : FaceBufs α → σ → R (Int × FaceBufs α × σ)) (enc : SpecFace α → σ → σ) (s0 : σ) : Prop where
  body : readBody c defaultReader (specHdr f) (specBody c f) = (do
    let r ← faceLoop step fe.tex.isSome fe.faces.length ⟨[0, 0, 0, 0], List.replicate 8 (c.ofInt 0)⟩ (fe.faces.foldr enc s0)
    assemble built f.verts.length rows (some r))
  fan : ∀ fc, FanFace fe fc → ReadsFan step fe.tex.isSome enc dec fc
  other : fe.tex = none → ∀ fc, FaceEncOK fe fc → ∀ b s,
    step b (enc fc s) = .error .err ∨ ∃ b'', step b (enc fc s) = .ok ((fc.verts.length : Nat), b'', s)

section
variable {c : Coding α} {f : SpecFile α} {fe : SpecFaceElem α} {built : List Built} {rows : List (List (List α))}
  {dec : SpecFace α → List α} {σ : Type} {step : FaceBufs α → σ → R (Int × FaceBufs α × σ)} {enc : SpecFace α → σ → σ}
  {s0 : σ}

/-- every face a triangle or quad of the covered grammar (`texcoord` or not): assembly receives the fan indices and the
fan UVs -/
theorem FaceCodec.reads (K : FaceCodec c f fe built rows dec step enc s0) (hall : ∀ fc ∈ fe.faces, FanFace fe fc) :
    readBody c defaultReader (specHdr f) (specBody c f)
      = assemble built f.verts.length rows (some (fanIdx fe.faces, fanUVs fe.tex.isSome dec fe.faces)) := by
  rw [K.body, faceLoop_all step _ enc dec fe.faces (fun fc h => K.fan fc (hall fc h)) _ (bufsOk_init _)]
  rfl

/-- … without `texcoord` that is the triangle mesh over the fan indices -/
theorem FaceCodec.reads_mesh (K : FaceCodec c f fe built rows dec step enc s0) (htex : fe.tex = none)
    (henc : ∀ fc ∈ fe.faces, FaceEncOK fe fc) (hsize : ∀ fc ∈ fe.faces, TriOrQuad fc) :
    readBody c defaultReader (specHdr f) (specBody c f)
      = .ok (applyColumns ⟨.triangle, fanIdx fe.faces, [], none⟩ built rows) := by
  rw [K.reads (fun fc h => .of_noTex htex (henc fc h) (hsize fc h)), htex, Option.isSome_none, fanUVs_false]
  simp [assemble, pure, Except.pure]

/-- a face of another size after a run of triangles / quads stops the loop: the file is not loaded (the faces after it
need not even be encodable) -/
theorem FaceCodec.rejects (K : FaceCodec c f fe built rows dec step enc s0) (htex : fe.tex = none)
    (pre : List (SpecFace α)) (bad : SpecFace α) (post : List (SpecFace α)) (hfaces : fe.faces = pre ++ bad :: post)
    (hpre : ∀ fc ∈ pre, FaceEncOK fe fc ∧ TriOrQuad fc) (hbad : FaceEncOK fe bad) (hsize : ¬ TriOrQuad bad) :
    readBody c defaultReader (specHdr f) (specBody c f) = .error .err := by
  rw [K.body, hfaces, List.foldr_append, List.length_append, List.length_cons, List.foldr_cons,
    faceLoop_reject step _ enc dec pre bad post.length
      (fun fc h => K.fan fc (.of_noTex htex (hpre fc h).1 (hpre fc h).2)) hsize (K.other htex bad hbad) _ (bufsOk_init _)]
  rfl

end

/-- the binary encodings, both byte orders -/
theorem binCodec (c : Coding α) (f : SpecFile α) (fe : SpecFaceElem α) (hf : f.format ≠ .ascii) (hface : f.face = some fe)
    (bl : List (Built × List Nat)) (hv : VertexSide f bl) (he : ElemOK fe) :
    FaceCodec c f fe (bl.map (·.1)) (f.verts.map (rowOf c bl)) (texDec c fe)
      (readFaceBin c f.format.endian (lpOf fe) (findFaceProps (lpOf fe)))
      (fun fc s => (fe.lists.map (faceListBin c f.format.endian fc)).flatten ++ s) [] where
  body := by
    rw [readBody_spec_bin c f fe hf hface bl hv, readFacesBin_eq, texProp_lists, foldr_faceBytes, List.append_nil]
  fan := fun fc h => readFaceBin_fan c _ fe he fc h
  other := fun htex fc hok b s =>
    .inr ⟨_, by rw [readFaceBin_ref c _ fe he fc hok (fun h => by rw [htex] at h; cases h) b s, listsEffect_points]⟩

/-- MESH FILES, parsed-header interface: a reference-encoded binary file with a face element of the covered grammar,
every face a triangle or a quad, reads without error to the TRIANGLE mesh whose indices are the fan triangles of the
faces in file order and whose attributes are the columns of the located readers (the vertex side is exactly that of
`ply_reads_spec_pointcloud`) -/
theorem ply_reads_spec_mesh (c : Coding α) (f : SpecFile α) (fe : SpecFaceElem α) (hf : f.format ≠ .ascii)
    (hm : SpecMeshOK f fe) (hsize : ∀ fc ∈ fe.faces, TriOrQuad fc)
    (htyped : ∀ r ∈ f.verts, r.map Datum.ty = f.vprops.map (·.ty))
    (bl : List (Built × List Nat))
    (hbuilt : bl.map (·.1) = buildAll true (specProps f) defaultReaders true)
    (hloc : ∀ p ∈ bl, Located (f.vprops.map (·.ty)) p.1 p.2) :
    readBody c defaultReader (specHdr f) (specBody c f)
      = .ok (applyColumns ⟨.triangle, fanIdx fe.faces, [], none⟩ (bl.map (·.1)) (f.verts.map (rowOf c bl))) :=
  (binCodec c f fe hf hm.face bl ⟨htyped, hbuilt, hloc⟩ hm.elem).reads_mesh hm.noTex hm.enc hsize

/-- MESH FILES FROM FILE BYTES: `readMesh (refEncode f)` — header text (any property order, aliases, comments, CRLF)
and body -/
theorem ply_reads_spec_mesh_bytes (c : Coding α) (f : SpecFile α) (fe : SpecFaceElem α) (hok : SpecHeaderOK f)
    (hf : f.format ≠ .ascii) (hm : SpecMeshOK f fe) (hsize : ∀ fc ∈ fe.faces, TriOrQuad fc)
    (htyped : ∀ r ∈ f.verts, r.map Datum.ty = f.vprops.map (·.ty))
    (bl : List (Built × List Nat))
    (hbuilt : bl.map (·.1) = buildAll true (specProps f) defaultReaders true)
    (hloc : ∀ p ∈ bl, Located (f.vprops.map (·.ty)) p.1 p.2) :
    readMesh c defaultReader (refEncode c f)
      = .ok (applyColumns ⟨.triangle, fanIdx fe.faces, [], none⟩ (bl.map (·.1)) (f.verts.map (rowOf c bl))) :=
  (readMesh_refEncode c f hok).trans (ply_reads_spec_mesh c f fe hf hm hsize htyped bl hbuilt hloc)

/-- A FACE OF ANOTHER SIZE IS REJECTED: a file of the same grammar in which, after a run of triangles / quads, a face
lists 0, 1, 2 or ≥ 5 vertices is not loaded: `readMesh` returns an error (the reader neither triangulates polygons nor
skips degenerate faces) -/
theorem ply_spec_mesh_other_size_rejected (c : Coding α) (f : SpecFile α) (fe : SpecFaceElem α) (hok : SpecHeaderOK f)
    (hf : f.format ≠ .ascii) (hm : SpecMeshOK f fe)
    (pre : List (SpecFace α)) (bad : SpecFace α) (post : List (SpecFace α)) (hfaces : fe.faces = pre ++ bad :: post)
    (hpre : ∀ fc ∈ pre, TriOrQuad fc) (hbad : ¬ TriOrQuad bad)
    (htyped : ∀ r ∈ f.verts, r.map Datum.ty = f.vprops.map (·.ty))
    (bl : List (Built × List Nat))
    (hbuilt : bl.map (·.1) = buildAll true (specProps f) defaultReaders true)
    (hloc : ∀ p ∈ bl, Located (f.vprops.map (·.ty)) p.1 p.2) :
    readMesh c defaultReader (refEncode c f) = .error .err := by
  have henc : ∀ fc ∈ pre ++ bad :: post, FaceEncOK fe fc := hfaces ▸ hm.enc
  exact (readMesh_refEncode c f hok).trans
    ((binCodec c f fe hf hm.face bl ⟨htyped, hbuilt, hloc⟩ hm.elem).rejects hm.noTex pre bad post hfaces
      (fun fc h => ⟨henc fc (by simp [h]), hpre fc h⟩) (henc bad (by simp)) hbad)

/-- an index-list count type the reader does not implement (char, short, ushort, float, double) is an error at the
first face (`Count`: "unimplemented list property count type") -/
theorem ply_list_count_type_unimplemented (e : Endian) (ct it : SType) (hct : ¬ CountTyOK ct) (bs : Bytes) :
    readListBin e ct it bs = .error .err :=
  readListBin_badCount e ct it hct bs

/-- THE ATTRIBUTE ENTRIES ARE THE STORED VALUES: for representable data (`Datum.Exact`: 32-bit ints, floats that survive
their coding) and readers other than the 2-vector one (`s`,`t` with uchar: `vector2.DivByConstant` multiplies by 1/255, one ulp off b/255), the row the located readers
produce for a record consists of `Datum.val` of the components they claim — the function `meaning` builds its columns with -/
theorem ply_spec_rows_are_values (c : Coding α) (bl : List (Built × List Nat)) (r : List (Datum α))
    (hdim : ∀ p ∈ bl, p.1.names.length ≠ 2) (hex : ∀ d ∈ r, Datum.Exact c d) :
    rowOf c bl r = bl.map (fun p => p.2.filterMap (fun i => (r[i]?).map (Datum.val c))) := by
  simp only [rowOf]
  apply List.map_congr_left
  intro p hp
  have hfun : (fun (i : Nat) => (r[i]?).map (datumRead c p.1.names.length)) = (fun (i : Nat) => (r[i]?).map (Datum.val c)) := by
    funext i
    cases hri : r[i]? with
    | none => rfl
    | some d =>
      have hd : d ∈ r := List.mem_of_getElem? hri
      simp only [Option.map_some, datumRead_eq_val c _ (hdim p hp) d (hex d hd)]
  rw [hfun]

/-- the specification side: whenever `meaning` is defined for a file with a `texcoord`-free face element, it is a
triangle mesh with the same indices the reader returns — the fan triangles in file order -/
theorem meaning_mesh_indices (c : Coding α) (f : SpecFile α) (fe : SpecFaceElem α) (hface : f.face = some fe)
    (htex : fe.tex = none) (m : MeshVal α) (hmean : meaning c f = some m) :
    m.topo = .triangle ∧ m.indices = fanIdx fe.faces := by
  have hnone : ∀ (p : Prop) [Decidable p], (if p then (none : Option (SType × SType)) else none) = none := by
    intro p _; split <;> rfl
  simp only [meaning, hface, htex, hnone, Option.bind_eq_bind, Option.bind_eq_some_iff, pure] at hmean
  obtain ⟨_, _, _, _, h⟩ := hmean
  injection h with h
  subst h
  exact ⟨rfl, rfl⟩

/-! ### non-vacuity: a big-endian CRLF file `z float, q uint8, x float, y float32`, faces `list int uint32 vertex_index`
preceded by an unrecognised `flags` list: one triangle, one quad -/

def exMesh : SpecFile Nat :=
  { exFile with
    verts := [[.f32 3, .u8 255, .f32 1, .f32 2], [.f32 6, .u8 0, .f32 4, .f32 5], [.f32 9, .u8 51, .f32 7, .f32 8],
      [.f32 12, .u8 102, .f32 10, .f32 11]],
    face := some exFaces }
where exFaces : SpecFaceElem Nat :=
  { idxNameShort := true, cntTy := .int, idxTy := .uint, idxAlias := true, tex := none, texFirst := false,
    extra := some true, faces := [⟨[0, 1, 2], [], [7, -1]⟩, ⟨[3, 2, 1, 0], [], []⟩] }

theorem exMesh_ok : SpecMeshOK exMesh exMesh.exFaces where
  face := rfl
  noTex := rfl
  cnt := by decide
  idx := by decide
  enc := by
    intro fc hfc
    simp only [exMesh.exFaces, List.mem_cons, List.not_mem_nil, or_false] at hfc
    rcases hfc with rfl | rfl <;> exact ⟨by decide, by decide, by decide, by decide⟩

theorem exMesh_hdr : SpecHeaderOK exMesh where
  names := exFile_hdr.names
  items := exFile_hdr.items
  nverts := by decide
  nfaces := by intro fe h; simp only [exMesh, Option.some.injEq] at h; subst h; decide

theorem exFaces_sizes : ∀ fc ∈ exMesh.exFaces.faces, TriOrQuad fc := by
  intro fc hfc
  simp only [exMesh.exFaces, List.mem_cons, List.not_mem_nil, or_false] at hfc
  rcases hfc with rfl | rfl
  · exact Or.inl rfl
  · exact Or.inr rfl

theorem exMesh_typed : ∀ r ∈ exMesh.verts, r.map Datum.ty = exMesh.vprops.map (·.ty) := by decide

example : readMesh toyCoding defaultReader (refEncode toyCoding exMesh)
    = .ok (applyColumns ⟨.triangle, [0, 1, 2, 3, 2, 1, 3, 1, 0], [], none⟩ (exBl.map (·.1))
        (exMesh.verts.map (rowOf toyCoding exBl))) :=
  ply_reads_spec_mesh_bytes toyCoding exMesh exMesh.exFaces exMesh_hdr (by decide) exMesh_ok exFaces_sizes exMesh_typed
    exBl exBl_built exBl_located

example : rowOf toyCoding exBl [.f32 3, .u8 255, .f32 1, .f32 2]
    = exBl.map (fun p => p.2.filterMap (fun i => ([Datum.f32 3, .u8 255, .f32 1, .f32 2][i]?).map (Datum.val toyCoding))) :=
  ply_spec_rows_are_values toyCoding exBl _ (by decide)
    (by
      intro d hd
      simp only [List.mem_cons, List.not_mem_nil, or_false] at hd
      rcases hd with rfl | rfl | rfl | rfl <;> simp [Datum.Exact, toyCoding])

/-- … and that mesh is what the file denotes (`meaning`) -/
example : (readBody toyCoding defaultReader (specHdr exMesh) (specBody toyCoding exMesh)).toOption.map MeshVal.canon
    = (meaning toyCoding exMesh).map MeshVal.canon := by
  rw [ply_reads_spec_mesh toyCoding exMesh exMesh.exFaces (by decide) exMesh_ok exFaces_sizes exMesh_typed exBl exBl_built
    exBl_located]
  rfl

/-- `meaning_mesh_indices` is not vacuous: `meaning exMesh` is defined -/
example : ∃ m, meaning toyCoding exMesh = some m ∧ m.indices = [0, 1, 2, 3, 2, 1, 3, 1, 0] := by
  cases h : meaning toyCoding exMesh with
  | none => exact absurd h (by decide)
  | some m => exact ⟨m, rfl, (meaning_mesh_indices toyCoding exMesh exMesh.exFaces rfl rfl m h).2⟩

/-- the same file with a pentagon in second place is rejected -/
def exPenta : SpecFile Nat :=
  { exMesh with face := some { exMesh.exFaces with faces := [⟨[0, 1, 2], [], []⟩, ⟨[0, 1, 2, 3, 0], [], [5]⟩, ⟨[1, 2, 3], [], []⟩] } }

theorem exPenta_ok : SpecMeshOK exPenta
    { exMesh.exFaces with faces := [⟨[0, 1, 2], [], []⟩, ⟨[0, 1, 2, 3, 0], [], [5]⟩, ⟨[1, 2, 3], [], []⟩] } where
  face := rfl
  noTex := rfl
  cnt := by decide
  idx := by decide
  enc := by
    intro fc hfc
    simp only [List.mem_cons, List.not_mem_nil, or_false] at hfc
    rcases hfc with rfl | rfl | rfl <;> exact ⟨by decide, by decide, by decide, by decide⟩

theorem exPenta_pre : ∀ fc ∈ [(⟨[0, 1, 2], [], []⟩ : SpecFace Nat)], TriOrQuad fc := by
  intro fc hfc
  rw [List.mem_singleton.mp hfc]
  exact Or.inl rfl

example : readMesh toyCoding defaultReader (refEncode toyCoding exPenta) = .error .err :=
  ply_spec_mesh_other_size_rejected toyCoding exPenta _
    ⟨exFile_hdr.names, exFile_hdr.items, by decide, by intro fe h; simp only [exPenta, Option.some.injEq] at h; subst h; decide⟩
    (by decide) exPenta_ok [⟨[0, 1, 2], [], []⟩] ⟨[0, 1, 2, 3, 0], [], [5]⟩ [⟨[1, 2, 3], [], []⟩] rfl exPenta_pre
    (by simp [TriOrQuad]) exMesh_typed exBl exBl_built exBl_located

end C08
end PolyVerif
