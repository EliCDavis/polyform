/-
  C18 — Solid primitives are closed, consistently oriented, outward-facing (and of the right volume).

  Property theorems about `PolyVerif.Model.Solids` (tied to /repo by the c18 correspondence stream:
  index lists compared exactly for every parameter choice, positions at Float, merge maps against the
  implementation's geometry) and `PolyVerif.Gen.CubeTable` (regenerated from cube.go / quad.go on
  every run).  The lemmas are in `PolyVerif/Lemmas/Solids*.lean` (`SolidsConnected`, `SolidsAppend` serve `C18Connected`, `C18Append`).

  `Closed ts`  : the directed edges of `ts` are pairwise distinct, closed under reversal, and none is a loop —
                 i.e. every undirected edge is shared by exactly two triangles that traverse it in opposite
                 directions (closed, consistently oriented surface).
  `ClosedMod pt ts` : the same after merging vertices by `pt`.
-/
import PolyVerif.Lemmas.Solids
import PolyVerif.Lemmas.SolidsGeom
import PolyVerif.Lemmas.SolidsMerge
import PolyVerif.Lemmas.SolidsCode
import PolyVerif.Lemmas.SolidsLoops
import PolyVerif.Lemmas.SolidsTopo
import PolyVerif.Lemmas.SolidsLoopsV
import PolyVerif.Lemmas.SolidsUmbrella
import PolyVerif.Lemmas.SolidsUmbrella2
import PolyVerif.Lemmas.SolidsAssembly
import PolyVerif.Lemmas.SolidsTopo2
import PolyVerif.Gen.CubeTable
import Mathlib.Tactic

namespace PolyVerif
namespace C18
open Solids

/-! ## The model's index lists ARE what the source's loops compute (regenerated on every run)

`Gen/PrimLoops.lean` is extracted from the Go source by `go/facts c18.loops` before every build: per constructor the loop
nest, the loop bounds, the integer assignments and the `append`s, as a program of `Model/LoopIR.lean`.  The theorems
below say that running that program gives exactly `Model/Solids.lean`'s index list and vertex count, for ALL parameter
values — so an edit of a bound or an index expression in sphere.go / hemisphere.go / circle.go / cylinder.go breaks a
named theorem at build time, before any sample is run. -/

open PolyVerif.LoopIR in
/-- `UVSphere` (sphere.go): index buffer and vertex count of the extracted loops = the model, ∀ rows, cols -/
theorem uvSphere_indices_from_source (rows cols : Nat) :
    Gen.PrimLoops.uvSphere.indices [rows, cols] = flat (uvSphereTris rows cols) ∧
    Gen.PrimLoops.uvSphere.nverts [rows, cols] = uvSphereNV rows cols :=
  uvSphere_run rows cols

open PolyVerif.LoopIR in
/-- `Hemisphere.UV` (hemisphere.go): extracted loops = the model, ∀ rows, cols -/
theorem hemisphere_indices_from_source (rows cols : Nat) :
    Gen.PrimLoops.hemisphere.indices [rows, cols] = flat (hemisphereTris rows cols) ∧
    Gen.PrimLoops.hemisphere.nverts [rows, cols] = uvSphereNV rows cols :=
  hemisphere_run rows cols

open PolyVerif.LoopIR in
/-- `Circle.ToMesh` (circle.go): extracted loop + final triangle = the model, ∀ sides -/
theorem circle_indices_from_source (sides : Nat) :
    Gen.PrimLoops.circle.indices [sides] = flat (circleTris sides) ∧
    Gen.PrimLoops.circle.nverts [sides] = circleNV sides :=
  circle_run sides

open PolyVerif.LoopIR in
/-- `Cylinder.ToMesh` (cylinder.go), the side strip before the caps are appended: extracted loop = the model, ∀ sides -/
theorem cylinderSide_indices_from_source (sides : Nat) :
    Gen.PrimLoops.cylinder.indices [sides] = flat (cylinderSideTris sides) ∧
    Gen.PrimLoops.cylinder.nverts [sides] = cylinderSideNV sides :=
  cylinderSide_run sides

open PolyVerif.LoopIR in
/-- `UVSphereUnwelded` (sphere.go): index buffer and vertex count of the extracted loops (which read the running
    `len(finalVerts)`) = the model, ∀ rows, cols -/
theorem uvSphereUnwelded_indices_from_source (rows cols : Nat) :
    Gen.PrimLoops.uvSphereUnwelded.indices [rows, cols] = flat (uvSphereUnweldedTris rows cols) ∧
    Gen.PrimLoops.uvSphereUnwelded.nverts [rows, cols] = uvUnweldedNV rows cols :=
  ⟨(unwelded_run rows cols).1, unwelded_nverts rows cols⟩

open PolyVerif.LoopIR in
/-- **the unwelded sphere's copy map is what the source computes**: the extracted `finalVerts` slice holds, for every
    final vertex `v`, the index into `calculatedPositions` it was copied from, and that index is `uvUnweldedSrc v`
    (∀ rows, cols).  So `uvUnweldedPos v = uvSpherePos (uvUnweldedSrc v)` and the merge map of
    `uvSphereUnwelded_closed_mod_merge` / `_merge_exact` are derived from sphere.go, not assumed. -/
theorem uvSphereUnwelded_copy_map_from_source (rows cols : Nat) :
    Gen.PrimLoops.uvSphereUnwelded.run [rows, cols] Gen.PrimLoops.uvSphereUnwelded.verts =
      (List.range (uvUnweldedNV rows cols)).map (uvUnweldedSrc rows cols) :=
  (unwelded_run rows cols).2

/-! ### vertex positions and supplied normals from the source

The float/vector statements of the same constructors are extracted too (`FE`, `VE`, `fassign vassign vpush vset`) and
interpreted by `LoopIR.execV`, polymorphically over the scalar.  The equalities below are SYNTACTIC — they hold for every
`α` with `[Scalar α]`, no field axioms — hence at `ℝ`, where the geometric theorems are proved, and at `Float`, where the
driver evaluates the model against the implementation: running the model IS running the extracted program. -/

section FromSource
variable {α : Type} [Scalar α]
open PolyVerif.LoopIR

/-- `UVSphere`: the extracted positions (pole `(0, r, 0)`, `phi = π(i+1)/rows`, `theta = 2πj/cols`,
    `(sin φ cos θ, cos φ, sin φ sin θ)·r`, pole `(0, −r, 0)`) are `uvSpherePos`, for every vertex -/
theorem uvSphere_positions_from_source (radius : α) (rows cols : Nat) (hC : 0 < cols) {v : Nat}
    (hv : v < uvSphereNV rows cols) :
    Gen.PrimLoops.uvSphere.positions [rows, cols] [radius] v = uvSpherePos radius rows cols v :=
  sphere_pos radius rows cols v hC hv

/-- `UVSphere` supplies `vector3.Array(positions).Normalized()` as normals (extracted `nrm = some (positions, true)`) -/
theorem uvSphere_normals_from_source (radius : α) (rows cols : Nat) (hC : 0 < cols) {v : Nat}
    (hv : v < uvSphereNV rows cols) :
    (Gen.PrimLoops.uvSphere.normals [rows, cols] [radius]).map (· v) = some (uvSphereNormal radius rows cols v) := by
  have h : Gen.PrimLoops.uvSphere.vslice 0 [rows, cols] [radius] v = uvSpherePos radius rows cols v :=
    sphere_pos radius rows cols v hC hv
  have hn : Gen.PrimLoops.uvSphere.nrm = some (0, true) := rfl
  simp only [Prog.normals, hn, Option.map_some, if_true, uvSphereNormal, h]

/-- `Hemisphere.UV`: the extracted positions (cap centre at the origin, `ugh = (−π·i/rows)/2 + π/2`, pole `(0, r, 0)`)
    are `hemispherePos` -/
theorem hemisphere_positions_from_source (radius : α) (rows cols : Nat) (hC : 0 < cols) {v : Nat}
    (hv : v < uvSphereNV rows cols) :
    Gen.PrimLoops.hemisphere.positions [rows, cols] [radius] v = hemispherePos radius rows cols v :=
  hemisphere_pos radius rows cols v hC hv

/-- `Circle.ToMesh`: extracted positions = `circlePos`, extracted normals slice = `(0, 1, 0)` everywhere -/
theorem circle_positions_from_source (radius : α) (sides : Nat) {v : Nat} (hv : v < circleNV sides) :
    Gen.PrimLoops.circle.positions [sides] [radius] v = circlePos radius sides v ∧
    (Gen.PrimLoops.circle.normals [sides] [radius]).map (· v) = some circleNormal := by
  obtain ⟨hp, h⟩ := circle_pos_nrm radius sides v hv
  refine ⟨hp, ?_⟩
  have hn : Gen.PrimLoops.circle.nrm = some (1, false) := rfl
  simp only [Prog.normals, hn, Option.map_some, Bool.false_eq_true, if_false, h, circleNormal]

/-- `Cylinder.ToMesh`, the side vertices before the caps are appended: extracted positions = `cylinderPos`
    (`(cos a·r, ±H/2, sin a·r)`, `a = (1/sides·2·π)·k`), extracted normals = `cylinderNormal`
    (`(cos a, ±0.1, sin a).Normalized()`) -/
theorem cylinderSide_positions_from_source (radius height : α) (sides : Nat) {v : Nat} (hv : v < cylinderSideNV sides) :
    Gen.PrimLoops.cylinder.positions [sides] [radius, height] v = cylinderPos radius height sides v ∧
    (Gen.PrimLoops.cylinder.normals [sides] [radius, height]).map (· v) = some (cylinderNormal sides v) := by
  obtain ⟨hp, h⟩ := cylinderSide_pos_nrm radius height sides v hv
  refine ⟨hp, ?_⟩
  have hn : Gen.PrimLoops.cylinder.nrm = some (1, false) := rfl
  simp only [Prog.normals, hn, Option.map_some, Bool.false_eq_true, if_false, h]

/-- **the six-quad box is built as cube.go says**: `Gen/PrimAssembly.lean` (regenerated: the six `Quad{Width, Depth}` faces
    of `Cube.UnweldedQuads` in `Append` order, each with its `rotate(…, FromTheta(θ, axis))` and `Translate`, the structure
    of the helper `rotate`, and quad.go's four positions / normals) interpreted with the regenerated quaternion code gives
    exactly `cubeQuadsPosCode` / `cubeQuadsNormalCode` — the functions the corner table, merge-exactness, outwardness,
    normals and volume theorems of the six-quad box are about -/
theorem cubeQuads_construction_from_source (w h d : α) {v : Nat} (hv : v < cubeQuadsNV) :
    assembleQuads Gen.PrimAssembly.cubeFaces Gen.PrimAssembly.cubeLocals Gen.PrimAssembly.quadLocals
        Gen.PrimAssembly.quadPositions false w h d v = cubeQuadsPosCode w h d v ∧
    assembleQuads Gen.PrimAssembly.cubeFaces Gen.PrimAssembly.cubeLocals Gen.PrimAssembly.quadLocals
        Gen.PrimAssembly.quadNormals true w h d v = cubeQuadsNormalCode v :=
  ⟨quads_pos_from_source w h d hv, quads_nrm_from_source w h d hv⟩

/-- **the cylinder's caps are placed as cylinder.go says**: top cap = the circle translated by `(0, halfHeight, 0)`, bottom cap =
    the circle rotated (positions and normals) by `quaternion.FromTheta(math.Pi, (1,0,0))` and translated by
    `(0, −halfHeight, 0)` — the extracted `cylinderCaps`, with `halfHeight` read off the extracted cylinder program —
    is exactly `cylinderPosCode` / `cylinderNormalCode` -/
theorem cylinder_assembly_from_source (radius height : α) (sides v : Nat) :
    cylinderPosCode radius height sides v =
      (let fpar : Nat → α := fun k => [radius, height].getD k ((0 : Nat) : α)
       let fenv := Gen.PrimLoops.cylinder.finalFenv [sides] [radius, height]
       if v < 2 * sides + 2 then cylinderPos radius height sides v
       else if v < 3 * sides + 3 then
         capPos Gen.PrimAssembly.cylinderCaps 0 fpar fenv (circlePos radius sides (v - (2 * sides + 2)))
       else capPos Gen.PrimAssembly.cylinderCaps 1 fpar fenv (circlePos radius sides (v - (3 * sides + 3)))) ∧
    (cylinderNormalCode sides v : V3 α) =
      (let fpar : Nat → α := fun k => [radius, height].getD k ((0 : Nat) : α)
       let fenv := Gen.PrimLoops.cylinder.finalFenv [sides] [radius, height]
       if v < 2 * sides + 2 then cylinderNormal sides v
       else if v < 3 * sides + 3 then capNrm Gen.PrimAssembly.cylinderCaps 0 fpar fenv circleNormal
       else capNrm Gen.PrimAssembly.cylinderCaps 1 fpar fenv circleNormal) :=
  ⟨cyl_caps_pos_from_source radius height sides v, cyl_caps_nrm_from_source radius height sides v⟩

end FromSource

/-- the panics: the extracted guards of `UVSphere`, `Hemisphere.UV`, `Circle.ToMesh` are the model's admissibility -/
theorem guards_from_source (rows cols sides : Nat) :
    Gen.PrimLoops.uvSphere.admits [rows, cols] = uvAdmissible rows cols ∧
    Gen.PrimLoops.hemisphere.admits [rows, cols] = uvAdmissible rows cols ∧
    Gen.PrimLoops.circle.admits [sides] = decide (3 ≤ sides) ∧ Gen.PrimLoops.cylinder.guards = [] :=
  ⟨uvSphere_admits rows cols, hemisphere_admits rows cols, circle_admits sides, rfl⟩

/-- the cylinder's caps: cylinder.go appends the top circle unless `NoTop`, then the bottom circle unless `NoBottom`,
    both built with `Sides: c.Sides` (extracted); the model's `cylinderTris` / `cylinderAdmissible` have that shape:
    side strip, then each present cap's circle indices shifted by the vertex count so far (`Mesh.Append`'s shift
    itself is mesh.go's, corresponded), and a panic iff a circle is built with fewer than 3 sides -/
theorem cylinder_caps_from_source (sides : Nat) (noTop noBottom : Bool) :
    Gen.PrimLoops.cylinderAppends = [("NoTop", "top"), ("NoBottom", "bottom")] ∧
    cylinderTris sides noTop noBottom =
      cylinderSideTris sides ++ (if noTop then [] else shift (cylinderSideNV sides) (circleTris sides)) ++
        (if noBottom then [] else
          shift (if noTop then cylinderSideNV sides else cylinderSideNV sides + circleNV sides) (circleTris sides)) ∧
    cylinderAdmissible sides noTop noBottom = (Gen.PrimLoops.circle.admits [sides] || (noTop && noBottom)) :=
  ⟨rfl, rfl, by rw [circle_admits]; rfl⟩

/-! ## Closedness -/

/-- what `Closed` says, in counting form: every directed edge of the surface occurs exactly once, its reverse occurs
    exactly once, and no edge is a loop (⇔ every undirected edge is shared by exactly two triangles, with opposite
    directions) -/
theorem closed_iff_every_edge_once {β : Type} [DecidableEq β] (ts : List (β × β × β)) :
    Closed ts ↔ ∀ e ∈ edges ts, (edges ts).count e = 1 ∧ (edges ts).count (e.2, e.1) = 1 ∧ e.1 ≠ e.2 := by
  constructor
  · rintro ⟨hnd, htw, hnl⟩ e he
    exact ⟨List.count_eq_one_of_mem hnd he, List.count_eq_one_of_mem hnd (htw e he), hnl e he⟩
  · intro h
    refine ⟨?_, ?_, ?_⟩
    · rw [List.nodup_iff_count_le_one]
      intro e
      by_cases he : e ∈ edges ts
      · exact (h e he).1.le
      · rw [List.count_eq_zero_of_not_mem he]; exact Nat.zero_le _
    · intro e he
      have := (h e he).2.1
      exact List.count_pos_iff.1 (by omega)
    · exact fun e he => (h e he).2.2

/-- **UV sphere, all sizes.** For every `rows ≥ 2`, `cols ≥ 3` (exactly the parameters `UVSphere` accepts) the
    index buffer of the welded sphere is a closed consistently oriented surface on its vertex ids. -/
theorem uvSphere_closed {rows cols : Nat} (hR : 2 ≤ rows) (hC : 3 ≤ cols) :
    Closed (uvSphereTris rows cols) := by
  rw [uvSphereTris_eq_map hR]
  exact (sphereL_closed hR hC).map_of_injOn (UvValid rows cols) (sphereL_valid hR hC) (uvEnc_injOn hR hC)

example : Closed (uvSphereTris 2 3) := uvSphere_closed (by decide) (by decide)
example : (uvSphereTris 5 7).length = 2 * 7 + 2 * (3 * 7) := by decide

/-- **Unwelded UV sphere, all sizes**: closed once every vertex is merged with the welded-sphere vertex it
    is a copy of (`uvUnweldedSrc`, validated against the implementation's positions on every run). -/
theorem uvSphereUnwelded_closed_mod_merge {rows cols : Nat} (hR : 2 ≤ rows) (hC : 3 ≤ cols) :
    ClosedMod (uvUnweldedSrc rows cols) (uvSphereUnweldedTris rows cols) := by
  rw [ClosedMod, uvUnwelded_map_src]
  exact uvSphere_closed hR hC

/-- **Hemisphere (cap fan + dome), all sizes**: `Hemisphere.UV` emits the sphere's pattern with every
    triangle reversed, which is closed as well. -/
theorem hemisphere_closed {rows cols : Nat} (hR : 2 ≤ rows) (hC : 3 ≤ cols) :
    Closed (hemisphereTris rows cols) := by
  rw [hemisphereTris_eq_flip]
  exact (uvSphere_closed hR hC).flip

example : Closed (hemisphereTris 4 5) := hemisphere_closed (by decide) (by decide)

/-- **Capped cylinder, all side counts `≥ 3`** (side strip + top circle + bottom circle rotated by π): closed once
    the seam column is merged with column 0 and each cap's rim with the side's rim (`cylinderPt`, validated
    against the implementation's positions on every run). -/
theorem cylinder_closed_mod_merge {sides : Nat} (hS : 3 ≤ sides) :
    ClosedMod (cylinderPt sides) (cylinderTris sides false false) := by
  rw [ClosedMod, cylinder_map_pt (by omega)]
  exact cylL_closed hS

example : ClosedMod (cylinderPt 3) (cylinderTris 3 false false) := cylinder_closed_mod_merge (by decide)

/-- the welded box's triangles: the regenerated `cubeVertIndices` table -/
def cubeWeldedTris : List Tri := unflat Gen.CubeTable.cubeVertIndices

/-- the welded box (cube.go `cubeVertIndices`) is a closed consistently oriented surface on its 8 vertices -/
theorem cubeWelded_closed : Closed cubeWeldedTris := by decide

/-- the model's quad index pattern is the one in quad.go -/
theorem quadTris_eq_table : quadTris = unflat Gen.CubeTable.quadIndices := by decide

/-- the box built from six quads is closed once its 24 vertices are merged into the 8 corners -/
theorem cubeQuads_closed_mod_merge : ClosedMod cubeQuadsPt cubeQuadsTris := by decide

/-! ## Vertex-manifoldness and connectedness

`Closed` is edge-manifoldness with consistent orientation; it does not exclude a surface pinched at a vertex (two
umbrellas sharing their apex) or made of several components.  Two forms of the stronger statements are used.  The boxes
(finite tables) are checked by the executable predicates `VertexManifold` and `Connected` of `Model/SolidsTopo.lean`.
The round primitives (all sizes) are proved in the exhibited form: `UmbrellaCycle ts v` (the link edges of `v` are the
consecutive pairs of one duplicate-free cycle) and reachability `Relation.ReflTransGen` along edges from a first vertex.
The checker is SOUND for the exhibited form (`umbrella_checker_sound`, `C18.connected_checker_sound`), so the boxes have
it too (`cubeWelded_oneUmbrella`, `cubeQuads_oneUmbrella_mod_merge`); the converse is not proved. -/

/-- the welded box: one umbrella per vertex, and connected (complete table, kernel `decide`) -/
theorem cubeWelded_vertexManifold_connected : VertexManifold cubeWeldedTris ∧ Connected cubeWeldedTris :=
  ⟨cubeWelded_vm, cubeWelded_conn⟩

/-- the six-quad box modulo its corner merge map: one umbrella per corner, and connected -/
theorem cubeQuads_vertexManifold_connected_mod_merge :
    VertexManifold (cubeQuadsTris.map (tmap cubeQuadsPt)) ∧ Connected (cubeQuadsTris.map (tmap cubeQuadsPt)) :=
  ⟨cubeQuads_vm, cubeQuads_conn⟩

/-- **the welded UV sphere is connected, all sizes**: every vertex id is reached from vertex 0 (the top pole) along
    directed edges of the mesh (which are symmetric by `uvSphere_closed`) -/
theorem uvSphere_connected {rows cols : Nat} (hR : 2 ≤ rows) (hC : 3 ≤ cols) {v : Nat} (hv : v < uvSphereNV rows cols) :
    Relation.ReflTransGen (fun a b => (a, b) ∈ edges (uvSphereTris rows cols)) 0 v :=
  uvSphere_reach hR hC hv

/-- the hemisphere is connected, all sizes -/
theorem hemisphere_connected {rows cols : Nat} (hR : 2 ≤ rows) (hC : 3 ≤ cols) {v : Nat} (hv : v < uvSphereNV rows cols) :
    Relation.ReflTransGen (fun a b => (a, b) ∈ edges (hemisphereTris rows cols)) 0 v :=
  hemisphere_reach hR hC hv

/-- the unwelded sphere modulo its copy map is connected, all sizes (merged, it is the welded sphere) -/
theorem uvSphereUnwelded_connected_mod_merge {rows cols : Nat} (hR : 2 ≤ rows) (hC : 3 ≤ cols) {v : Nat}
    (hv : v < uvSphereNV rows cols) :
    Relation.ReflTransGen (fun a b => (a, b) ∈
      edges ((uvSphereUnweldedTris rows cols).map (tmap (uvUnweldedSrc rows cols)))) 0 v := by
  rw [uvUnwelded_map_src]; exact uvSphere_reach hR hC hv

/-- **the capped cylinder modulo its merge map is connected, all side counts `≥ 3`**: every merged vertex is reached
    from the top cap's centre `(0,0)` along directed edges (symmetric by `cylinder_closed_mod_merge`) -/
theorem cylinder_connected_mod_merge {sides : Nat} (hS : 3 ≤ sides) {v : Nat} (hv : v < cylinderNV sides false false) :
    Relation.ReflTransGen (fun a b => (a, b) ∈ edges ((cylinderTris sides false false).map (tmap (cylinderPt sides))))
      (0, 0) (cylinderPt sides v) :=
  cylinder_reach_mod_merge hS hv

example : Relation.ReflTransGen (fun a b => (a, b) ∈ edges (uvSphereTris 4 5)) 0 16 :=
  uvSphere_connected (by decide) (by decide) (by decide)

/-- **one umbrella per vertex, welded UV sphere, ALL sizes**: for every vertex `v` the link edges of `v` (the edges
    `b → c` such that `(v, b, c)` is, up to rotation, a triangle of the mesh) are exactly the consecutive pairs of ONE
    duplicate-free cycle of length ≥ 3 — exhibited explicitly: the `cols` ring-1 vertices around a pole, the six (five next
    to a pole, four when `rows = 2`) grid neighbours around every other vertex -/
theorem uvSphere_oneUmbrella {rows cols : Nat} (hR : 2 ≤ rows) (hC : 3 ≤ cols) {v : Nat} (hv : v < uvSphereNV rows cols) :
    UmbrellaCycle (uvSphereTris rows cols) v :=
  uvSphere_umbrella hR hC hv

/-- one umbrella per vertex, hemisphere, all sizes (reversing every triangle reverses the cycle) -/
theorem hemisphere_oneUmbrella {rows cols : Nat} (hR : 2 ≤ rows) (hC : 3 ≤ cols) {v : Nat} (hv : v < uvSphereNV rows cols) :
    UmbrellaCycle (hemisphereTris rows cols) v :=
  hemisphere_umbrella hR hC hv

/-- one umbrella per merged vertex, unwelded sphere, all sizes (merged, it IS the welded sphere) -/
theorem uvSphereUnwelded_oneUmbrella_mod_merge {rows cols : Nat} (hR : 2 ≤ rows) (hC : 3 ≤ cols) {v : Nat}
    (hv : v < uvSphereNV rows cols) :
    UmbrellaCycle ((uvSphereUnweldedTris rows cols).map (tmap (uvUnweldedSrc rows cols))) v := by
  rw [uvUnwelded_map_src]; exact uvSphere_umbrella hR hC hv

example : UmbrellaCycle (uvSphereTris 5 7) 12 := uvSphere_oneUmbrella (by decide) (by decide) (by decide)

/-- one umbrella per merged vertex, capped cylinder, all side counts `≥ 3` (centres: the `sides` rim vertices; rim
    vertices: five neighbours) -/
theorem cylinder_oneUmbrella_mod_merge {sides : Nat} (hS : 3 ≤ sides) {v : Nat} (hv : v < cylinderNV sides false false) :
    UmbrellaCycle ((cylinderTris sides false false).map (tmap (cylinderPt sides))) (cylinderPt sides v) :=
  cylinder_umbrella_mod_merge hS hv

/-- the executable predicate `Umbrella` (what the oracle `c18.holds.manifold` and the box theorems evaluate) is SOUND for
    the exhibited-cycle notion: whenever the checker accepts, the link edges of `v` are exactly the consecutive pairs of
    one duplicate-free cycle (the walk it followed) -/
theorem umbrella_checker_sound {β : Type} [DecidableEq β] (ts : List (β × β × β)) (v : β) (h : Umbrella ts v) :
    UmbrellaCycle ts v :=
  umbrella_sound ts v h

/-- hence the boxes, in the same form as the round primitives -/
theorem cubeWelded_oneUmbrella : ∀ v ∈ cornersOf cubeWeldedTris, UmbrellaCycle cubeWeldedTris v :=
  vertexManifold_sound _ cubeWelded_vm

theorem cubeQuads_oneUmbrella_mod_merge : ∀ v ∈ cornersOf (cubeQuadsTris.map (tmap cubeQuadsPt)),
    UmbrellaCycle (cubeQuadsTris.map (tmap cubeQuadsPt)) v :=
  vertexManifold_sound _ cubeQuads_vm

/-! ## The rotated parts as the code builds them = the exact forms (over ℝ)

`Cube.UnweldedQuads` builds its six faces by rotating a flat quad with `quaternion.FromTheta(kπ/2, ±axis)` and
translating it; `Cylinder.ToMesh` rotates the bottom circle by `FromTheta(π, (1,0,0))`.  `Model/SolidsCode.lean` models
exactly that, on top of the quaternion code regenerated from /repo (`Gen.Transform`).  The hand-written corner table
`cubeQuadsCornerTable` (hence `cubeQuadsPt`, `cubeQuadsPos`) and the `(x, −y, −z)` form of the cylinder's bottom cap
are DERIVED from that construction here, not assumed. -/

/-- **the corner table is proved from the code's construction**: rotating and translating the six quads as
    `Cube.UnweldedQuads` does puts vertex `v` exactly at corner `cubeQuadsCornerTable[v]` of the box, ∀ w h d -/
theorem cubeQuads_positions_eq_table (w h d : ℝ) {v : Nat} (hv : v < cubeQuadsNV) :
    cubeQuadsPosCode w h d v = cornerPos w h d (cubeQuadsPt v) :=
  cubeQuadsPosCode_eq w h d hv

/-- the rotated `Up` normals of the six quads are the six axis directions +y, −y, −x, +x, +z, −z -/
theorem cubeQuads_normals_eq_table {v : Nat} (hv : v < cubeQuadsNV) :
    (cubeQuadsNormalCode v : V3 ℝ) = cubeQuadsNormal v :=
  cubeQuadsNormalCode_eq hv

/-- the cylinder as the code builds it (bottom cap = circle rotated by `FromTheta(π, (1,0,0))`, then translated)
    is the exact form `cylinderPos` (bottom cap `(x, −h/2, −z)`), for every vertex -/
theorem cylinder_positions_eq_exact_form (r H : ℝ) (sides : Nat) {v : Nat} (hv : v < cylinderNV sides false false) :
    cylinderPosCode r H sides v = cylinderPos r H sides v :=
  cylinderPosCode_eq r H sides hv

/-- … and its bottom-cap normals `(0,1,0)` rotated by the same quaternion are `(0,−1,0)` -/
theorem cylinder_normals_eq_exact_form (sides v : Nat) :
    (cylinderNormalCode sides v : V3 ℝ) = cylinderNormal sides v :=
  cylinderNormalCode_eq sides v

/-! ## The merge maps merge exactly the coincident positions (over ℝ)

"once coincident positions are merged": the symbolic merge maps used above identify two vertices if and only if
their real positions — as the constructors compute them — are equal: neither too much (which could fake closedness)
nor too little (which could hide a doubled edge).  For the six-quad box and the cylinder the positions are the
code-built ones (`cubeQuadsPosCode`, `cylinderPosCode`); the statement therefore has content for the hand-written
corner table (it goes through `cubeQuads_positions_eq_table`). -/

/-- the welded sphere has no two vertices at the same position (it needs no merging) -/
theorem uvSphere_positions_distinct {rows cols : Nat} {r : ℝ} (hr : 0 < r) (hR : 2 ≤ rows) (hC : 3 ≤ cols)
    {v w : Nat} (hv : v < uvSphereNV rows cols) (hw : w < uvSphereNV rows cols)
    (h : uvSpherePos r rows cols v = uvSpherePos r rows cols w) : v = w := by
  obtain ⟨pv, ev⟩ := uvEnc_uvDec hR hC hv
  obtain ⟨pw, ew⟩ := uvEnc_uvDec hR hC hw
  rw [← ev, ← ew] at h ⊢
  exact uvSpherePos_inj_enc hr hR hC pv pw h

/-- the hemisphere has no two vertices at the same position (it needs no merging) -/
theorem hemisphere_positions_distinct {rows cols : Nat} {r : ℝ} (hr : 0 < r) (hR : 2 ≤ rows) (hC : 3 ≤ cols)
    {v w : Nat} (hv : v < uvSphereNV rows cols) (hw : w < uvSphereNV rows cols)
    (h : hemispherePos r rows cols v = hemispherePos r rows cols w) : v = w := by
  obtain ⟨pv, ev⟩ := uvEnc_uvDec hR hC hv
  obtain ⟨pw, ew⟩ := uvEnc_uvDec hR hC hw
  rw [← ev, ← ew] at h ⊢
  rw [hemispherePos_enc r hR hC _ pv, hemispherePos_enc r hR hC _ pw] at h
  rw [hemiPosL_inj hr hR hC pv pw h]

/-- unwelded sphere: two vertices are copies of the same welded vertex iff their positions coincide -/
theorem uvSphereUnwelded_merge_exact {rows cols : Nat} {r : ℝ} (hr : 0 < r) (hR : 2 ≤ rows) (hC : 3 ≤ cols)
    {v w : Nat} (hv : v < uvUnweldedNV rows cols) (hw : w < uvUnweldedNV rows cols) :
    uvUnweldedSrc rows cols v = uvUnweldedSrc rows cols w ↔
      uvUnweldedPos r rows cols v = uvUnweldedPos r rows cols w := by
  unfold uvUnweldedPos
  constructor
  · intro h; rw [h]
  · intro h
    obtain ⟨p, hp, ep⟩ := src_is_enc hR hC hv
    obtain ⟨q, hq, eq⟩ := src_is_enc hR hC hw
    rw [ep, eq] at h ⊢
    exact uvSpherePos_inj_enc hr hR hC hp hq h

/-- capped cylinder: `cylinderPt` identifies two vertices iff their positions coincide (seam column, cap rims) -/
theorem cylinder_merge_exact {sides : Nat} {r H : ℝ} (hr : 0 < r) (hH : 0 < H) (hS : 3 ≤ sides)
    {v w : Nat} (hv : v < cylinderNV sides false false) (hw : w < cylinderNV sides false false) :
    cylinderPt sides v = cylinderPt sides w ↔ cylinderPosCode r H sides v = cylinderPosCode r H sides w := by
  rw [cylinderPosCode_eq r H sides hv, cylinderPosCode_eq r H sides hw, cylinderPos_eq_L r H hS hv,
    cylinderPos_eq_L r H hS hw]
  exact ⟨fun h => by rw [h], cylPosL_inj hr hH hS (cylinderPt_valid hS hv) (cylinderPt_valid hS hw)⟩

/-- six-quad box: the corner table identifies two vertices iff the positions the code builds for them coincide -/
theorem cubeQuads_merge_exact {w h d : ℝ} (hw : 0 < w) (hh : 0 < h) (hd : 0 < d)
    {v v' : Nat} (hv : v < cubeQuadsNV) (hv' : v' < cubeQuadsNV) :
    cubeQuadsPt v = cubeQuadsPt v' ↔ cubeQuadsPosCode w h d v = cubeQuadsPosCode w h d v' := by
  rw [cubeQuadsPosCode_eq w h d hv, cubeQuadsPosCode_eq w h d hv']
  exact ⟨fun e => by simp only [cubeQuadsPos, e], cornerPos_inj hw hh hd (cubeQuadsPt_lt hv) (cubeQuadsPt_lt hv')⟩

/-- the welded box has no two vertices at the same position -/
theorem cubeWelded_positions_distinct {w h d : ℝ} (hw : 0 < w) (hh : 0 < h) (hd : 0 < d)
    {v v' : Nat} (hv : v < 8) (hv' : v' < 8) (e : cubeWeldedPos w h d v = cubeWeldedPos w h d v') : v = v' :=
  cornerPos_inj hw hh hd hv hv' e

example : cylinderPt 5 10 = cylinderPt 5 0 ∧ cylinderPt 5 12 = cylinderPt 5 0 ∧ cylinderPt 5 19 = cylinderPt 5 9 := by decide
example : uvUnweldedSrc 4 5 0 = uvUnweldedSrc 4 5 6 ∧ uvUnweldedSrc 4 5 2 ≠ uvUnweldedSrc 4 5 1 := by decide
example : cubeQuadsPt 0 = cubeQuadsPt 11 ∧ cubeQuadsPt 0 = cubeQuadsPt 21 := by decide

/-! ## Outwardness (positions over ℝ: the real-number meaning of the constructors' expressions)

`OutwardAt pos ctr ts`: every triangle of `ts`, with corners `pos`, has positive signed volume against `ctr`
(its front side faces away from `ctr`).  Together with closedness this makes the surface the positively
oriented boundary of a solid that is star-shaped about `ctr`. -/

/-- **UV sphere faces point outward, all sizes, every radius `> 0`**: each fan / strip triangle has signed volume
    `r³ · sin φ · sin(π/rows) · sin(2π/cols) / 6 > 0` against the centre. -/
theorem uvSphere_outward {rows cols : Nat} {r : ℝ} (hr : 0 < r) (hR : 2 ≤ rows) (hC : 3 ≤ cols) :
    OutwardAt (uvSpherePos r rows cols) O3 (uvSphereTris rows cols) := by
  rw [uvSphereTris_eq_map hR]
  intro t ht
  obtain ⟨t', ht', rfl⟩ := List.mem_map.1 ht
  have hv := sphereL_tri_valid hR hC ht'
  simp only [tm, sub_O3, n2a_real, Nat.cast_zero, uvSpherePos_enc r hR hC _ hv.1, uvSpherePos_enc r hR hC _ hv.2.1,
    uvSpherePos_enc r hR hC _ hv.2.2]
  exact sphereL_outward hr hR hC t' ht'

example : OutwardAt (uvSpherePos (1 / 2 : ℝ) 2 3) O3 (uvSphereTris 2 3) :=
  uvSphere_outward (by norm_num) (by decide) (by decide)

/-- the unwelded sphere has the welded sphere's positions at the copied vertices, hence the same faces -/
theorem uvSphereUnwelded_outward {rows cols : Nat} {r : ℝ} (hr : 0 < r) (hR : 2 ≤ rows) (hC : 3 ≤ cols) :
    OutwardAt (uvUnweldedPos r rows cols) O3 (uvSphereUnweldedTris rows cols) := by
  have h := uvSphere_outward hr hR hC
  rw [← uvUnwelded_map_src, ← outwardAt_map] at h
  exact h

/-- **sphere normals** (`positions.Normalized()`) have positive dot product with the geometric normal of
    every incident face -/
theorem sphere_normals_outward {rows cols : Nat} {r : ℝ} (hr : 0 < r) (hR : 2 ≤ rows) (hC : 3 ≤ cols) :
    NormalsOutward (uvSpherePos r rows cols) (uvSphereNormal r rows cols) (uvSphereTris rows cols) :=
  normalsOutward_of_outward (uvSphere_outward hr hR hC)

/-- **welded box faces point outward** for all `w, h, d > 0` (each of the 12 triangles of the regenerated
    table has signed volume `w·h·d/12` against the centre) -/
theorem cube_outward {w h d : ℝ} (hw : 0 < w) (hh : 0 < h) (hd : 0 < d) :
    OutwardAt (cubeWeldedPos w h d) O3 cubeWeldedTris :=   corners_outward hw hh hd cubeWelded_signDet

/-- the welded box's positions are the regenerated sign table of cube.go times the half extents -/
theorem cubeWeldedPos_eq_table : Gen.CubeTable.cubeVertSigns = (List.range 8).map cornerSign := by decide

/-- **welded box normals** (`potentialVerts.Normalized()`, the corner directions) point to the outer side of every
    incident face -/
theorem cube_normals_outward {w h d : ℝ} (hw : 0 < w) (hh : 0 < h) (hd : 0 < d) :
    NormalsOutward (cubeWeldedPos w h d) (cubeWeldedNormal w h d) cubeWeldedTris :=
  normalsOutward_of_outward (cube_outward hw hh hd)

/-- **six-quad box faces point outward** (positions as the code builds them: rotated, translated quads) -/
theorem cubeQuads_outward {w h d : ℝ} (hw : 0 < w) (hh : 0 < h) (hd : 0 < d) :
    OutwardAt (cubeQuadsPosCode w h d) O3 cubeQuadsTris :=   outwardAt_congr (cubeQuads_pos_agree w h d)
    ((outwardAt_map cubeQuadsPt cubeQuadsTris).2 (corners_outward hw hh hd cubeQuads_signDet))

open Real in
/-- **capped cylinder faces point outward**, all `sides ≥ 3`, every radius and height `> 0`: side triangles have
    signed volume `h·r²·sin(2π/sides)/6`, cap triangles `h·r²·sin(2π/sides)/12`, against the centre.
    (Positions as the code builds them: side and top cap as computed by cylinder.go / circle.go, bottom cap = circle
    rotated by the quaternion `FromTheta(π, (1,0,0))` and translated.) -/
theorem cylinder_outward {sides : Nat} {r H : ℝ} (hr : 0 < r) (hH : 0 < H) (hS : 3 ≤ sides) :
    OutwardAt (cylinderPosCode r H sides) O3 (cylinderTris sides false false) :=
  outwardAt_congr (cylinder_pos_agree r H (by omega)) (cylinder_outward_aux hr hH hS)

/-- **cylinder normals**: the side normals `(cos a, ±0.1, sin a).Normalized()` and the cap normals `(0, ±1, 0)` have
    positive dot product with the geometric normal of every incident face -/
theorem cylinder_normals_outward {sides : Nat} {r H : ℝ} (hr : 0 < r) (hH : 0 < H) (hS : 3 ≤ sides) :
    NormalsOutward (cylinderPosCode r H sides) (cylinderNormalCode sides) (cylinderTris sides false false) := by
  rw [cylinderNormalCode_funext]
  exact normalsOutward_congr (cylinder_pos_agree r H (by omega)) (fun _ _ => ⟨rfl, rfl, rfl⟩)
    (cylinder_normals_outward_aux hr hH hS)

example : OutwardAt (cylinderPosCode (1 : ℝ) 2 3) O3 (cylinderTris 3 false false) :=
  cylinder_outward (by norm_num) (by norm_num) (by decide)

/-- **six-quad box normals** (`Up` rotated with each face by the code's quaternions) point to the outer side of
    their face -/
theorem cubeQuads_normals_outward {w h d : ℝ} (hw : 0 < w) (hh : 0 < h) (hd : 0 < d) :
    NormalsOutward (cubeQuadsPosCode w h d) cubeQuadsNormalCode cubeQuadsTris := by
  refine normalsOutward_congr (cubeQuads_pos_agree w h d) cubeQuads_nrm_agree (normalsOutward_iff.2 fun t ht v hv => ?_)
  have hT := cubeQuads_axis_table t ht v hv
  have e := faceNormal_cornerPos w h d (tmap cubeQuadsPt t)
  simp only [tmap, List.mem_cons, List.not_mem_nil, or_false, Prod.mk.injEq] at hT e
  simp only [cubeQuadsPos, e, cubeQuadsNormal_eq_axis, V3.Dot, ← mul_assoc, ← Int.cast_mul]
  -- the dot product is the area of the face: `h·d`, `w·d` or `w·h`
  rcases hT with ⟨h1, h2, h3⟩ | ⟨h1, h2, h3⟩ | ⟨h1, h2, h3⟩ <;>
  · rw [h1, h2, h3]; push_cast; positivity

/-- the sphere mesh is an INSCRIBED polyhedron: every vertex used by a triangle lies on the sphere of radius `r`
    (so, being closed and outward, it bounds a polyhedron inside the ball) -/
theorem uvSphere_inscribed {rows cols : Nat} (r : ℝ) (hR : 2 ≤ rows) (hC : 3 ≤ cols) :
    ∀ t ∈ uvSphereTris rows cols, (uvSpherePos r rows cols t.1).LengthSquared = r ^ 2 ∧
      (uvSpherePos r rows cols t.2.1).LengthSquared = r ^ 2 ∧ (uvSpherePos r rows cols t.2.2).LengthSquared = r ^ 2 := by
  rw [uvSphereTris_eq_map hR]
  intro t ht
  obtain ⟨t', ht', rfl⟩ := List.mem_map.1 ht
  have hv := sphereL_tri_valid hR hC ht'
  simp only [tm, uvSpherePos_enc r hR hC _ hv.1, uvSpherePos_enc r hR hC _ hv.2.1,
    uvSpherePos_enc r hR hC _ hv.2.2, uvPosL_lengthSquared, and_self]

/-- **hemisphere faces point outward**, all sizes, every radius `> 0`: every dome triangle and every cap triangle has
    positive signed volume against the point `(0, r/2, 0)` on the axis (dome: `r²·sin ψ·sin(2π/cols)·(r·sin δ −
    (r/2)(sin ψ₁ − sin ψ₂)) / 6`, cap: `r³·sin(2π/cols)/12`). -/
theorem hemisphere_outward {rows cols : Nat} {r : ℝ} (hr : 0 < r) (hR : 2 ≤ rows) (hC : 3 ≤ cols) :
    OutwardAt (hemispherePos r rows cols) (hemiCtr r) (hemisphereTris rows cols) :=
  hemisphere_outward_aux hr hR hC

example : OutwardAt (hemispherePos (2 : ℝ) 2 3) (hemiCtr 2) (hemisphereTris 2 3) :=
  hemisphere_outward (by norm_num) (by decide) (by decide)

/-! ## Volume

`volume6 pos ts` = Σ over triangles of `a · (b × c)` = six times the signed volume enclosed by the (closed,
outward) surface, i.e. the volume of the inscribed polyhedron the mesh describes. -/

/-- the welded box encloses exactly `w·h·d` -/
theorem cube_volume (w h d : ℝ) : volume6 (cubeWeldedPos w h d) cubeWeldedTris / 6 = w * h * d := by
  rw [show cubeWeldedPos w h d = cornerPos w h d from rfl, cubeWeldedTris, corners_volume w h d cubeWelded_signDet]
  norm_num [unflat, Gen.CubeTable.cubeVertIndices]; ring

/-- the six-quad box encloses exactly `w·h·d` -/
theorem cubeQuads_volume (w h d : ℝ) : volume6 (cubeQuadsPosCode w h d) cubeQuadsTris / 6 = w * h * d := by
  rw [volume6_congr (cubeQuads_pos_agree w h d), show cubeQuadsPos w h d = fun v => cornerPos w h d (cubeQuadsPt v) from rfl,
    volume6_map, corners_volume w h d cubeQuads_signDet]
  norm_num [cubeQuadsTris, quadTris, shift]; ring

/-- **capped cylinder**: the enclosed volume is that of the prism over the inscribed regular `sides`-gon,
    `(sides/2)·sin(2π/sides)·r²·H`, for all `sides ≥ 3` -/
theorem cylinder_volume {sides : Nat} (r H : ℝ) (hS : 3 ≤ sides) :
    volume6 (cylinderPosCode r H sides) (cylinderTris sides false false) / 6 =
      (sides : ℝ) / 2 * Real.sin (2 * Real.pi / sides) * r ^ 2 * H := by
  rw [volume6_congr (cylinder_pos_agree r H (by omega)), cylinder_volume_aux r H hS]; ring

open Real in
/-- … which is at most the analytic volume `π r² H` and approaches it: relative deficit `≤ 2π²/(3·sides²)` -/
theorem cylinder_volume_bounds {sides : Nat} {r H : ℝ} (hr : 0 < r) (hH : 0 < H) (hS : 3 ≤ sides) :
    volume6 (cylinderPosCode r H sides) (cylinderTris sides false false) / 6 ≤ Real.pi * r ^ 2 * H ∧
    Real.pi * r ^ 2 * H * (1 - 2 * Real.pi ^ 2 / (3 * (sides : ℝ) ^ 2)) ≤
      volume6 (cylinderPosCode r H sides) (cylinderTris sides false false) / 6 := by
  obtain ⟨a1, a2⟩ := @ngon_bounds sides (by omega)
  have hk : 0 ≤ r ^ 2 * H / 2 := by positivity
  rw [volume6_congr (cylinder_pos_agree r H (by omega)), cylinder_volume_aux r H hS]
  constructor
  · linarith [mul_le_mul_of_nonneg_left a1 hk]
  · linarith [mul_le_mul_of_nonneg_left a2 hk]

/-- **UV sphere**: the enclosed volume in closed form, `(cols·r³/3)·sin(2π/cols)·(1 + cos(π/rows))`, for all
    `rows ≥ 2`, `cols ≥ 3` (the stack of regular-`cols`-gon frusta inscribed in the sphere) -/
theorem uvSphere_volume {rows cols : Nat} (r : ℝ) (hR : 2 ≤ rows) (hC : 3 ≤ cols) :
    volume6 (uvSpherePos r rows cols) (uvSphereTris rows cols) / 6 =
      (cols : ℝ) * r ^ 3 / 3 * Real.sin (2 * Real.pi / cols) * (1 + Real.cos (Real.pi / rows)) := by
  rw [uvSphere_volume_aux r hR hC]; ring

open Real in
/-- … which is at most the analytic volume `4/3·π·r³` and approaches it as the resolution grows:
    relative deficit `≤ 2π²/(3·cols²) + π²/(4·rows²)` -/
theorem uvSphere_volume_bounds {rows cols : Nat} {r : ℝ} (hr : 0 < r) (hR : 2 ≤ rows) (hC : 3 ≤ cols) :
    volume6 (uvSpherePos r rows cols) (uvSphereTris rows cols) / 6 ≤ 4 / 3 * Real.pi * r ^ 3 ∧
    4 / 3 * Real.pi * r ^ 3 * (1 - 2 * Real.pi ^ 2 / (3 * (cols : ℝ) ^ 2) - Real.pi ^ 2 / (4 * (rows : ℝ) ^ 2)) ≤
      volume6 (uvSpherePos r rows cols) (uvSphereTris rows cols) / 6 := by
  obtain ⟨a1, a2⟩ := @ngon_bounds cols (by omega)
  obtain ⟨b1, b2⟩ := polar_bounds hR
  obtain ⟨h1, h2⟩ := mul_deficit_bounds (ngon_pos hC).le (by linarith [neg_one_le_cos (π / rows)]) (by positivity)
    zero_le_two a1 b1 a2 b2 (by positivity) (by positivity)
  have hr3 : 0 ≤ r ^ 3 / 3 := by positivity
  rw [uvSphere_volume_aux r hR hC]
  constructor
  · linarith [mul_le_mul_of_nonneg_left h1 hr3]
  · linarith [mul_le_mul_of_nonneg_left h2 hr3]

/-- **hemisphere**: the enclosed volume in closed form,
    `(cols·r³/6)·sin(2π/cols)·(sin²(π/rows) + cos(π/rows)·(1 + cos(π/(2·rows))))`, for all `rows ≥ 2`, `cols ≥ 3`
    (the rings are `π/(2·rows)` apart, the last ring is `π/rows` from the pole) -/
theorem hemisphere_volume {rows cols : Nat} (r : ℝ) (hR : 2 ≤ rows) (hC : 3 ≤ cols) :
    volume6 (hemispherePos r rows cols) (hemisphereTris rows cols) / 6 =
      (cols : ℝ) * r ^ 3 / 6 * Real.sin (2 * Real.pi / cols) *
        (Real.sin (Real.pi / rows) ^ 2 + Real.cos (Real.pi / rows) * (1 + Real.cos (Real.pi / (2 * rows)))) := by
  rw [hemisphere_volume_aux r hR hC]; ring

open Real in
/-- … which is at most the analytic volume `2/3·π·r³` and approaches it: relative deficit
    `≤ 2π²/(3·cols²) + 5π²/(16·rows²)` -/
theorem hemisphere_volume_bounds {rows cols : Nat} {r : ℝ} (hr : 0 < r) (hR : 2 ≤ rows) (hC : 3 ≤ cols) :
    volume6 (hemispherePos r rows cols) (hemisphereTris rows cols) / 6 ≤ 2 / 3 * Real.pi * r ^ 3 ∧
    2 / 3 * Real.pi * r ^ 3 *
        (1 - 2 * Real.pi ^ 2 / (3 * (cols : ℝ) ^ 2) - 5 * Real.pi ^ 2 / (16 * (rows : ℝ) ^ 2)) ≤
      volume6 (hemispherePos r rows cols) (hemisphereTris rows cols) / 6 := by
  obtain ⟨a1, a2⟩ := @ngon_bounds cols (by omega)
  obtain ⟨b1, b2⟩ := hemi_polar_bounds hR
  have hB0 : 0 ≤ sin (π / rows) ^ 2 + cos (π / rows) * (1 + cos (π / (2 * rows))) := by
    have hR' : (2 : ℝ) ≤ rows := by exact_mod_cast hR
    have hc : 0 ≤ cos (π / rows) := cos_nonneg_of_neg_pi_div_two_le_of_le
      (by have : 0 ≤ π / (rows : ℝ) := by positivity
          linarith [pi_pos]) (div_le_div_of_nonneg_left pi_pos.le two_pos hR')
    exact add_nonneg (sq_nonneg _) (mul_nonneg hc (by linarith [neg_one_le_cos (π / (2 * (rows : ℝ)))]))
  obtain ⟨h1, h2⟩ := mul_deficit_bounds (ngon_pos hC).le hB0 (by positivity) zero_le_two a1 b1 a2 b2
    (by positivity) (by positivity)
  have hr3 : 0 ≤ r ^ 3 / 6 := by positivity
  rw [hemisphere_volume_aux r hR hC]
  constructor
  · linarith [mul_le_mul_of_nonneg_left h1 hr3]
  · linarith [mul_le_mul_of_nonneg_left h2 hr3]

/-- the unwelded sphere encloses the same volume as the welded one -/
theorem uvSphereUnwelded_volume {rows cols : Nat} (r : ℝ) (hR : 2 ≤ rows) (hC : 3 ≤ cols) :
    volume6 (uvUnweldedPos r rows cols) (uvSphereUnweldedTris rows cols) / 6 =
      (cols : ℝ) * r ^ 3 / 3 * Real.sin (2 * Real.pi / cols) * (1 + Real.cos (Real.pi / rows)) := by
  rw [show uvUnweldedPos r rows cols = fun v => uvSpherePos r rows cols (uvUnweldedSrc rows cols v) from rfl,
    volume6_map, uvUnwelded_map_src]
  exact uvSphere_volume r hR hC

/-! ## Non-vacuity: every hypothesis set above is satisfiable (concrete instances) -/

example := uvSphereUnwelded_closed_mod_merge (rows := 3) (cols := 4) (by decide) (by decide)
example := uvSphereUnwelded_outward (rows := 3) (cols := 4) (r := 2) (by norm_num) (by decide) (by decide)
example := sphere_normals_outward (rows := 6) (cols := 5) (r := 1 / 2) (by norm_num) (by decide) (by decide)
example := cube_outward (w := 1) (h := 2) (d := 3) (by norm_num) (by norm_num) (by norm_num)
example := cube_normals_outward (w := 1) (h := 2) (d := 3) (by norm_num) (by norm_num) (by norm_num)
example := cubeQuads_outward (w := 1) (h := 2) (d := 3) (by norm_num) (by norm_num) (by norm_num)
example := cubeQuads_normals_outward (w := 1) (h := 2) (d := 3) (by norm_num) (by norm_num) (by norm_num)
example := cylinder_normals_outward (sides := 7) (r := 1) (H := 2) (by norm_num) (by norm_num) (by decide)
example := uvSphere_inscribed (rows := 4) (cols := 6) 3 (by decide) (by decide)
example := cylinder_volume (sides := 12) 1 2 (by decide)
example := cylinder_volume_bounds (sides := 12) (r := 1) (H := 2) (by norm_num) (by norm_num) (by decide)
example := uvSphere_volume (rows := 10) (cols := 10) (1 / 2) (by decide) (by decide)
example := uvSphere_volume_bounds (rows := 10) (cols := 10) (r := 1 / 2) (by norm_num) (by decide) (by decide)
example := uvSphereUnwelded_volume (rows := 10) (cols := 10) (1 / 2) (by decide) (by decide)
example := hemisphere_volume (rows := 20) (cols := 20) (1 / 2) (by decide) (by decide)
example := hemisphere_volume_bounds (rows := 20) (cols := 20) (r := 1 / 2) (by norm_num) (by decide) (by decide)
example := uvSphere_positions_distinct (rows := 2) (cols := 3) (r := 1) (v := 0) (w := 4) (by norm_num) (by decide)
  (by decide) (by decide) (by decide)
example := hemisphere_positions_distinct (rows := 2) (cols := 3) (r := 1) (v := 0) (w := 4) (by norm_num) (by decide)
  (by decide) (by decide) (by decide)
example := uvSphereUnwelded_merge_exact (rows := 3) (cols := 3) (r := 1) (v := 0) (w := 6) (by norm_num) (by decide)
  (by decide) (by decide) (by decide)
example := cylinder_merge_exact (sides := 5) (r := 1) (H := 1) (v := 10) (w := 0) (by norm_num) (by norm_num)
  (by decide) (by decide) (by decide)
example := cubeQuads_merge_exact (w := 1) (h := 1) (d := 1) (v := 0) (v' := 11) (by norm_num) (by norm_num)
  (by norm_num) (by decide) (by decide)
example := cubeWelded_positions_distinct (w := 1) (h := 1) (d := 1) (v := 0) (v' := 7) (by norm_num) (by norm_num)
  (by norm_num) (by decide) (by decide)

end C18
end PolyVerif
