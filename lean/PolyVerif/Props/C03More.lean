/-
  C03 — contracts of

  * `CropFloat3Attribute` for ANY incoming index buffer (`crop_contract`): which vertices survive (exactly those whose
    deciding attribute value is `inside`), in which order (the original one), every attribute carried with ONE flag
    list, identity indices over the survivors, materials carried; and the deciding predicate itself: the regenerated
    `Gen.geometry.AABB.Contains` (math/geometry/aabb.go:111, engine T) is the CLOSED box test (`aabbContains_closed`).
  * `ScaleAttributeAlongNormal`, `ScaleAttribute2D`, `NormalizeAttribute2D`, `CopyFloatNAttribute`: frame + stated map
    + rejection branches.

  Models: `Model/MeshOps.lean` (`crop`) and `Model/MeshMore.lean`; the drivers answer
  `c03.op.{crop,scalealongnormal,scale2d,normalize2d,copyattr}` / `c02.op.*` through these very definitions and the
  oracle `c03.holds.crop_contract` evaluates `CropContract` on the implementation's output.
-/
import PolyVerif.Props.C03
import PolyVerif.Model.MeshMore
import PolyVerif.Lemmas.RealScalar

namespace PolyVerif.C03
open PolyVerif PolyVerif.Gen PolyVerif.Mesh PolyVerif.Mesh.MeshVal

variable {α : Type}

/-! ## Crop: the deciding predicate is the closed box -/

private theorem ite_false_eq_true {c : Prop} [Decidable c] {b : Bool} :
    (if c then false else b) = true ↔ ¬ c ∧ b = true := by
  by_cases hc : c <;> simp [hc]

/-- `AABB.Contains` as regenerated from math/geometry/aabb.go is the closed-interval test on every axis:
    points ON a face (minimum or maximum side) are inside. -/
theorem aabbContains_closed (b : geometry.AABB ℝ) (p : V3 ℝ) :
    b.Contains p = true ↔
      (b.center.x - b.extents.x ≤ p.x ∧ p.x ≤ b.center.x + b.extents.x) ∧
      (b.center.y - b.extents.y ≤ p.y ∧ p.y ≤ b.center.y + b.extents.y) ∧
      (b.center.z - b.extents.z ≤ p.z ∧ p.z ≤ b.center.z + b.extents.z) := by
  simp only [geometry.AABB.Contains, ite_false_eq_true, decide_eq_true_eq, not_lt, and_true]
  simp only [geometry.AABB.Min, geometry.AABB.Max, V3.X, V3.Y, V3.Z, V3.Sub, V3.Add]
  tauto

/-- the minimum corner, the maximum corner and the centre of a box are inside it (non-negative extents) -/
theorem aabbContains_corners (b : geometry.AABB ℝ) (hx : 0 ≤ b.extents.x) (hy : 0 ≤ b.extents.y) (hz : 0 ≤ b.extents.z) :
    b.Contains b.Min = true ∧ b.Contains b.Max = true ∧ b.Contains b.center = true := by
  refine ⟨?_, ?_, ?_⟩ <;> rw [aabbContains_closed] <;>
    (try simp only [geometry.AABB.Min, geometry.AABB.Max, V3.Sub, V3.Add]) <;>
    refine ⟨⟨?_, ?_⟩, ⟨?_, ?_⟩, ?_, ?_⟩ <;> linarith

example : (⟨⟨0, 0, 0⟩, ⟨1, 2, 3⟩⟩ : geometry.AABB ℝ).Contains ⟨1, -2, 3⟩ = true := by
  rw [aabbContains_closed]; norm_num

example : (⟨⟨0, 0, 0⟩, ⟨1, 2, 3⟩⟩ : geometry.AABB ℝ).Contains ⟨1, -2, 3.5⟩ = false := by
  rw [Bool.eq_false_iff, Ne, aabbContains_closed]; norm_num

/-! ## Crop: the vertex-level contract, any index buffer -/

theorem keepAt_eq_compact {β : Type} (u : List Bool) (d : List β) : compact u d = keepAt u d := rfl

theorem keepAt_map_self {β : Type} (p : β → Bool) (d : List β) : keepAt (d.map p) d = d.filter p :=
  (filter_eq_compact p d).symm

theorem stripEmpty_attrs_zero (r : MeshVal α) (h0 : ∀ kd ∈ r.attrs, kd.2.length = 0) : r.stripEmpty.attrs = [] :=
  MeshVal.stripEmpty_attrs_zero r h0

theorem stripEmpty_attrs_pos (r : MeshVal α) {c : Nat} (hc : c ≠ 0) (h0 : ∀ kd ∈ r.attrs, kd.2.length = c) :
    r.stripEmpty.attrs = r.attrs := MeshVal.stripEmpty_attrs_pos r hc h0

/-- `CropFloat3Attribute`, whatever the incoming indices are: point cloud, materials carried, exactly the vertices whose
    deciding value is `inside` survive, in order, all attribute arrays compacted with the same flags, identity indices;
    nothing survives ⇒ no attribute array left. -/
theorem crop_contract {m m' : MeshVal α} (h : WF m) {k : AttrKey} {inside : α → Bool}
    (hm : m.crop k inside = some m') : CropContract k inside m m' := by
  obtain ⟨_, d, hd, rfl⟩ := crop_eq h hm
  unfold CropContract
  rw [hd]
  exact ⟨rfl, rfl, rfl, rfl⟩

/-- corollary: the deciding attribute of the result is the original array filtered by `inside` (order preserved,
    nothing outside, nothing inside lost) -/
theorem crop_deciding_attr {m m' : MeshVal α} (h : WF m) {k : AttrKey} {inside : α → Bool} {d : List α}
    (hd : m.attr? k = some d) (hne : d.filter inside ≠ []) (hm : m.crop k inside = some m') :
    m'.attr? k = some (d.filter inside) := by
  obtain ⟨_, d', hd', rfl⟩ := crop_eq h hm
  obtain rfl : d' = d := Option.some.inj (hd'.symm.trans hd)
  have hcnt : (d'.map inside).countP id ≠ 0 := by
    rw [List.countP_map, List.countP_eq_length_filter]
    exact fun h0 => hne (List.eq_nil_of_length_eq_zero h0)
  simp only [attr?, if_neg hcnt, mapAttrs]
  rw [Attrs.find?_mapVals m.attrs fun kd => compact (d'.map inside) kd.2, show Attrs.find? m.attrs k = some d' from hd,
    filter_eq_compact]
  rfl

/-- "and nothing else": the contract determines the output completely — two meshes satisfying it for the same input
    are equal -/
theorem cropContract_unique {m a b : MeshVal α} {k : AttrKey} {inside : α → Bool}
    (ha : CropContract k inside m a) (hb : CropContract k inside m b) : a = b := by
  unfold CropContract at ha hb
  cases hd : m.attr? k with
  | none => rw [hd] at ha; exact ha.elim
  | some d =>
    rw [hd] at ha hb
    obtain ⟨a1, a2, a3, a4⟩ := ha
    obtain ⟨b1, b2, b3, b4⟩ := hb
    cases a; cases b
    simp only at a1 a2 a3 a4 b1 b2 b3 b4
    simp only [MeshVal.mk.injEq]
    exact ⟨a1.trans b1.symm, a3.trans b3.symm, a2.trans b2.symm, a4.trans b4.symm⟩

/-- the survivors: every value of the deciding attribute in the result is inside, and their number is the number of
    inside values of the input (nothing inside is lost, nothing outside is kept) -/
theorem crop_survivors {m m' : MeshVal α} (h : WF m) {k : AttrKey} {inside : α → Bool} {d : List α}
    (hd : m.attr? k = some d) (hne : d.filter inside ≠ []) (hm : m.crop k inside = some m') :
    ∃ d', m'.attr? k = some d' ∧ (∀ x ∈ d', inside x = true) ∧ d'.length = d.countP inside ∧ d'.Sublist d :=
  ⟨_, crop_deciding_attr h hd hne hm, fun _ hx => (List.mem_filter.mp hx).2, (List.countP_eq_length_filter ..).symm,
    List.filter_sublist⟩

/-- a non-identity cloud (duplicated point 0, unreferenced vertices 1 and 4): the contract still pins the result -/
example : ∃ m', cloud.crop ⟨3, "Position"⟩ (· > 11) = some m' ∧ CropContract ⟨3, "Position"⟩ (· > 11) cloud m' :=
  ⟨_, rfl, by decide +kernel⟩

/-- `CropAttribute3DNodeData.Process`: without a box the mesh is returned as it is; with a box it is the crop contract on the
    wired attribute (default Position) -/
theorem cropNode_spec (m : MeshVal α) (attr : Option String) :
    m.cropNode attr none = some m ∧
    ∀ (p : α → Bool) (m' : MeshVal α), WF m → m.cropNode attr (some p) = some m' →
      CropContract ⟨3, attr.getD "Position"⟩ p m m' :=
  ⟨rfl, fun _ _ h hm => crop_contract h hm⟩

section transforms
variable {s : Type} [Scalar s] [DecidableEq s]

/-- `ScaleAttributeAlongNormal`: topology, indices, materials and every other attribute untouched (the normal attribute
    too, unless it IS the scaled one); the scaled attribute is `p[i] + n[i] * amount` vertex by vertex. -/
theorem scaleAlongNormal_spec {m m' : MeshVal (List s)} {a n : String} {amount : s}
    (hm : m.scaleAlongNormal a n amount = some m') :
    FrameSpec ⟨3, a⟩ m m' ∧ ∃ pd nd, m.attr? ⟨3, a⟩ = some pd ∧ m.attr? ⟨3, n⟩ = some nd ∧ pd.length ≤ nd.length ∧
      m'.attr? ⟨3, a⟩ = (if (List.zipWith (alongNormal amount) pd nd).isEmpty then none
                         else some (List.zipWith (alongNormal amount) pd nd)) := by
  obtain ⟨pd, nd, hp, hn, hle, rfl⟩ := scaleAlongNormal_eq hm
  exact ⟨(setAttr_spec m _ _).1, pd, nd, hp, hn, hle, (setAttr_spec m _ _).2⟩

/-- vertex by vertex: on a well-formed mesh the new array has one entry per vertex and entry `i` is
    `p[i] + n[i] * amount` (Go's `positionData.At(i).Add(normalData.At(i).Scale(amount))`) -/
theorem scaleAlongNormal_vertex {m m' : MeshVal (List s)} (h : WF m) {a n : String} {amount : s} {pd nd : List (List s)}
    (hp : m.attr? ⟨3, a⟩ = some pd) (hn : m.attr? ⟨3, n⟩ = some nd) (hne : pd ≠ [])
    (hm : m.scaleAlongNormal a n amount = some m') :
    ∃ d', m'.attr? ⟨3, a⟩ = some d' ∧ d'.length = m.attrLen ∧
      ∀ i (h1 : i < d'.length) (h2 : i < pd.length) (h3 : i < nd.length), d'[i] = alongNormal amount pd[i] nd[i] := by
  obtain rfl := Option.some.inj ((scaleAlongNormal_of_wf h hp hn amount).symm.trans hm)
  have e1 : pd.length = m.attrLen := attr?_length h hp
  have e2 : nd.length = m.attrLen := attr?_length h hn
  have hlen : (List.zipWith (alongNormal amount) pd nd).length = m.attrLen := by simp [e1, e2]
  have hnz : (List.zipWith (alongNormal amount) pd nd).isEmpty = false := by
    cases hz : List.zipWith (alongNormal amount) pd nd with
    | nil => exact absurd (List.eq_nil_of_length_eq_zero (by rw [e1, ← hlen, hz]; rfl)) hne
    | cons _ _ => rfl
  exact ⟨_, by rw [setAttr_attr?_self, hnz]; rfl, hlen, fun i _ _ _ => by simp⟩

/-- non-vacuity: a well-formed cloud with both attributes is accepted -/
example : ∃ m', (⟨.point, [0, 1], [], [(⟨3, "Position"⟩, [[1, 2, 3], [4, 5, 6]]), (⟨3, "Normal"⟩, [[0, 0, 1], [1, 0, 0]])]⟩ :
    MeshVal (List Float)).scaleAlongNormal "Position" "Normal" 0.5 = some m' := ⟨_, rfl⟩

omit [DecidableEq s] in
/-- rejected exactly when one of the two attributes is missing, or the normal array is shorter than the scaled one
    (Go: index out of range; impossible on a well-formed mesh, see `scaleAlongNormal_rejects_wf`) -/
theorem scaleAlongNormal_rejects (m : MeshVal (List s)) (a n : String) (amount : s) :
    m.scaleAlongNormal a n amount = none ↔
      (m.attr? ⟨3, a⟩ = none ∨ m.attr? ⟨3, n⟩ = none ∨
        ∃ pd nd, m.attr? ⟨3, a⟩ = some pd ∧ m.attr? ⟨3, n⟩ = some nd ∧ nd.length < pd.length) := by
  unfold scaleAlongNormal
  cases m.attr? ⟨3, a⟩ <;> cases m.attr? ⟨3, n⟩ <;> simp

omit [DecidableEq s] in
theorem scaleAlongNormal_rejects_wf {m : MeshVal (List s)} (h : WF m) (a n : String) (amount : s) :
    m.scaleAlongNormal a n amount = none ↔ (m.attr? ⟨3, a⟩ = none ∨ m.attr? ⟨3, n⟩ = none) := by
  refine ⟨fun hnone => ?_, fun h' => (scaleAlongNormal_rejects m a n amount).mpr (h'.imp_right Or.inl)⟩
  cases hp : m.attr? ⟨3, a⟩ with
  | none => exact Or.inl rfl
  | some pd =>
    cases hn : m.attr? ⟨3, n⟩ with
    | none => exact Or.inr rfl
    | some nd => rw [scaleAlongNormal_of_wf h hp hn] at hnone; cases hnone

omit [DecidableEq s] in
/-- `ScaleAttributeAlongNormalNodeData.Process`: the empty triangle mesh exactly when no mesh is wired or one of the two
    attributes (defaults Position / Normal) is missing; otherwise the function's result with amount defaulting to 0 -/
theorem scaleAlongNormalNode_spec (m : MeshVal (List s)) (attr nrm : Option String) (amount : Option s) :
    MeshVal.scaleAlongNormalNode (none : Option (MeshVal (List s))) attr nrm amount = some (MeshVal.empty .triangle) ∧
    MeshVal.scaleAlongNormalNode (some m) attr nrm amount =
      (if m.hasAttr ⟨3, attr.getD "Position"⟩ = false ∨
          m.hasAttr ⟨3, nrm.getD "Normal"⟩ = false
       then some (MeshVal.empty .triangle)
       else m.scaleAlongNormal (attr.getD "Position")
              (nrm.getD "Normal") (amount.getD ((0 : Nat) : s))) := by
  refine ⟨rfl, ?_⟩
  simp only [MeshVal.scaleAlongNormalNode]
  cases h1 : m.hasAttr ⟨3, attr.getD "Position"⟩ <;>
    cases h2 : m.hasAttr ⟨3, nrm.getD "Normal"⟩ <;> simp

omit [DecidableEq s] in
/-- the per-vertex map on well-shaped payloads: `v + w * amount` (component-wise, Go's operation order) -/
theorem alongNormal_v3 (amount : s) (v w : V3 s) : alongNormal amount (ofV3 v) (ofV3 w) = ofV3 (v.Add (w.Scale amount)) := rfl

/-- `TranslateAttribute3DNodeData.Process`: `v ↦ v + t` on the wired attribute (default Position), nothing else -/
theorem translateNode_spec {m m' : MeshVal (List s)} {attr : Option String} {t : V3 s} (hm : m.translateNode attr t = some m') :
    Changed ⟨3, attr.getD "Position"⟩ (List.map (liftV3 fun v => v.Add t)) m m' := translate_spec hm

/-- `RotateAttribute3DNodeData.Process`: the empty triangle mesh without a mesh input, else `v ↦ q.Rotate v` -/
theorem rotateNode_spec (attr : Option String) (q : quaternion.Quaternion s) :
    MeshVal.rotateNode (none : Option (MeshVal (List s))) attr q = some (MeshVal.empty .triangle) ∧
    ∀ m m' : MeshVal (List s), MeshVal.rotateNode (some m) attr q = some m' →
      Changed ⟨3, attr.getD "Position"⟩ (List.map (liftV3 fun v => q.Rotate v)) m m' :=
  ⟨rfl, fun _ _ hm => rotate_spec hm⟩

/-- `ScaleAttribute3DNodeData.Process`: `v ↦ o + (v - o) ∘ a` with `o` defaulting to the zero vector -/
theorem scaleNode_spec {m m' : MeshVal (List s)} {attr : Option String} {o : Option (V3 s)} {a : V3 s}
    (hm : m.scaleNode attr o a = some m') :
    Changed ⟨3, attr.getD "Position"⟩ (List.map (liftV3 fun v => (o.getD V3.Zero).Add ((v.Sub (o.getD V3.Zero)).MultByVector a))) m m' :=
  scaleAbout_spec hm

/-- `VertexColorSpace`: only the colour attribute changes, component-wise by the selected transfer function; an enum
    value other than 0 / 1 writes the zero vector everywhere (the Go `switch` has no default) -/
theorem vertexColorSpace_spec {g0 g1 : s → s} {m m' : MeshVal (List s)} {n : String} {mode : Nat}
    (hm : m.vertexColorSpace g0 g1 n mode = some m') :
    Changed ⟨3, n⟩ (List.map (liftV3 fun v =>
      match mode with
      | 0 => ⟨g0 v.x, g0 v.y, g0 v.z⟩
      | 1 => ⟨g1 v.x, g1 v.y, g1 v.z⟩
      | _ => V3.Zero)) m m' := modifyAttr_spec hm

omit [DecidableEq s] in
/-- the Transformer: attribute present ⇒ the function; missing ⇒ the mesh itself when `SkipOnMissingAttribute`, else rejected -/
theorem vertexColorSpaceT_spec (g0 g1 : s → s) (m : MeshVal (List s)) (n : String) (skip : Bool) (mode : Nat) :
    (m.hasAttr ⟨3, n⟩ = true → m.vertexColorSpaceT g0 g1 n skip mode = m.vertexColorSpace g0 g1 n mode) ∧
    (m.hasAttr ⟨3, n⟩ = false → m.vertexColorSpaceT g0 g1 n skip mode = if skip then some m else none) := by
  constructor <;> intro h <;> simp [MeshVal.vertexColorSpaceT, h]

/-- `ScaleAttribute2D`: `v ↦ o + (v - o) ∘ a` on the width-2 attribute, nothing else -/
theorem scale2D_spec {m m' : MeshVal (List s)} {n : String} {o a : V2 s} (hm : m.scale2D n o a = some m') :
    Changed ⟨2, n⟩ (List.map (liftV2 fun v => o.Add ((v.Sub o).MultByVector a))) m m' := modifyAttr_spec hm

/-- `NormalizeAttribute2D`: `v ↦ v.Scale(1 / longest length in the array)`, nothing else -/
theorem normalize2D_spec {m m' : MeshVal (List s)} {init : s} {mx : s → s → s} {n : String}
    (hm : MeshVal.normalize2D init mx m n = some m') :
    Changed ⟨2, n⟩ (fun d => d.map (liftV2 fun v =>
      v.DivByConstant ((d.filterMap v2?).foldl (fun acc v => mx acc v.Length) init))) m m' := modifyAttr_spec hm

omit [DecidableEq s] in
theorem scale2D_rejects (m : MeshVal (List s)) (n : String) (o a : V2 s) :
    m.scale2D n o a = none ↔ m.attr? ⟨2, n⟩ = none := modifyAttr_rejects m _ _

omit [DecidableEq s] in
theorem normalize2D_rejects (init : s) (mx : s → s → s) (m : MeshVal (List s)) (n : String) :
    MeshVal.normalize2D init mx m n = none ↔ m.attr? ⟨2, n⟩ = none := modifyAttr_rejects m _ _

end transforms

/-- `CopyFloatNAttribute(src, k)`: only attribute `k` of the receiver changes; it becomes the source's array, and is
    DELETED when the source has no (or an empty) array under `k`. -/
theorem copyAttr_spec [DecidableEq α] (m src : MeshVal α) (k : AttrKey) :
    FrameSpec k m (m.copyAttr src k) ∧
    (m.copyAttr src k).attr? k = (match src.attr? k with
                                   | some d => if d.isEmpty then none else some d
                                   | none => none) := by
  unfold copyAttr
  refine ⟨(setAttr_spec m k _).1, ?_⟩
  rw [(setAttr_spec m k _).2]
  cases src.attr? k <;> simp

example : (sample.copyAttr sample ⟨1, "Class"⟩).attrs = sample.attrs ∧ (sample.copyAttr (MeshVal.empty .point) ⟨1, "Class"⟩).keys = [⟨3, "Position"⟩] := by
  decide

/-! ## value statements over ℝ (independent of how the maps are computed) -/

/-- every vertex moves by exactly `amount` times its normal; amount 0 is the identity -/
theorem alongNormal_post (amount : ℝ) (v w : V3 ℝ) :
    (v.Add (w.Scale amount)).Sub v = w.Scale amount ∧ v.Add (w.Scale 0) = v := by
  constructor <;> (cases v; cases w; simp [V3.Add, V3.Sub, V3.Scale])

/-- 2-D scale about `o`: `o` is fixed, offsets are multiplied component-wise -/
theorem scale2D_post (o a v : V2 ℝ) :
    o.Add ((o.Sub o).MultByVector a) = o ∧ (o.Add ((v.Sub o).MultByVector a)).Sub o = (v.Sub o).MultByVector a := by
  constructor <;> (cases o; cases a; cases v; simp [V2.Add, V2.Sub, V2.MultByVector])

theorem length2_div (v : V2 ℝ) {L : ℝ} (hL : 0 < L) : (v.DivByConstant L).Length = v.Length / L := by
  simp only [V2.Length, V2.DivByConstant, V2.Scale, RS.sqrt_eq]
  have : v.x * (((1 : Nat) : ℝ) / L) * (v.x * (((1 : Nat) : ℝ) / L)) + v.y * (((1 : Nat) : ℝ) / L) * (v.y * (((1 : Nat) : ℝ) / L))
      = (v.x * v.x + v.y * v.y) / (L * L) := by
    field_simp
    simp
  rw [this, Real.sqrt_div' _ (by positivity), Real.sqrt_mul_self hL.le]

/-- `NormalizeAttribute2D` over ℝ: when `L > 0` is the longest length in the array (attained by `w`), every normalised
    vector has length ≤ 1 and the longest has length exactly 1 (`DivByConstant` = `Scale(1/L)`) -/
theorem normalize2D_post (d : List (V2 ℝ)) (w : V2 ℝ) (_hw : w ∈ d) (hpos : 0 < w.Length)
    (hmax : ∀ v ∈ d, v.Length ≤ w.Length) :
    (∀ v ∈ d, (v.DivByConstant w.Length).Length ≤ 1) ∧ (w.DivByConstant w.Length).Length = 1 := by
  constructor
  · intro v hv
    rw [length2_div v hpos, div_le_one hpos]; exact hmax v hv
  · rw [length2_div w hpos, div_self hpos.ne']

example : (⟨3, 4⟩ : V2 ℝ).Length = 5 := by
  simp only [V2.Length, RS.sqrt_eq]
  rw [show (3 : ℝ) * 3 + 4 * 4 = 5 * 5 by norm_num, Real.sqrt_mul_self (by norm_num)]

end PolyVerif.C03
