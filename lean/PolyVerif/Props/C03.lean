/-
  C03 — Mesh operations do what they say and nothing else.

  Property theorems.  Contracts are the decidable predicates of `PolyVerif/Model/MeshSpec.lean`
  (the driver evaluates the same predicates on the implementation's output); models in
  `PolyVerif/Model/MeshOps.lean`; supporting lemmas in `PolyVerif/Lemmas/Mesh{Corners,Frame,Append,Weld,Split}.lean`.
  Layout theorems hold for every payload type `α`.
-/
import PolyVerif.Lemmas.MeshFrame
import PolyVerif.Lemmas.MeshAppend
import PolyVerif.Lemmas.MeshWeld
import PolyVerif.Lemmas.MeshSplit
import PolyVerif.Lemmas.MeshTransformsWF

namespace PolyVerif.C03
open PolyVerif.Mesh PolyVerif.Mesh.MeshVal

variable {α : Type}

/-- a concrete well-formed mesh with shared, duplicated and unreferenced vertices (non-vacuity) -/
def sample : MeshVal Nat :=
  ⟨.triangle, [0, 2, 1, 2, 0, 3], [⟨2, 7⟩], [(⟨3, "Position"⟩, [10, 11, 12, 13, 14]), (⟨1, "Class"⟩, [20, 21, 22, 23, 24])]⟩

example : WF sample := by decide +kernel

/-- Unweld keeps every corner's attribute tuple, in order; indices become `0..k-1`; topology and
    materials are untouched. -/
theorem unweld_spec [DecidableEq α] {m : MeshVal α} (h : WF m) : UnweldSpec m m.unweld :=
  ⟨⟨rfl, rfl⟩, rfl, (unweld_rebuilt h).2, unweld_corners h⟩

/-- Unweld is idempotent. -/
theorem unweld_idem {m : MeshVal α} (h : WF m) : m.unweld.unweld = m.unweld := by
  simp only [unweld, mapAttrs, List.map_map, List.length_range, MeshVal.mk.injEq, true_and]
  apply List.map_congr_left
  intro kd hk
  have hlt : ∀ i ∈ m.indices, i < kd.2.length := fun i hi => by rw [h.1 kd hk]; exact h.2.1 i hi
  simp only [Function.comp, Prod.mk.injEq, true_and]
  rw [← gather_length hlt, gather_range]

example : sample.unweld.indices = [0, 1, 2, 3, 4, 5] ∧ sample.unweld.attrLen = 6 := by decide +kernel

/-- Removing unreferenced vertices keeps every corner's attribute tuple, in order. -/
theorem removeUnreferenced_spec [DecidableEq α] {m : MeshVal α} (h : WF m) :
    RemoveUnrefSpec m m.removeUnreferenced :=
  ⟨⟨rfl, rfl⟩, removeUnreferenced_corners h⟩

/-- … and afterwards every vertex is referenced by some index. -/
theorem removeUnreferenced_allReferenced [DecidableEq α] {m : MeshVal α} (h : WF m) :
    AllReferenced m.removeUnreferenced := MeshVal.removeUnreferenced_allReferenced h

/-- the attribute filters end with the same clean-up: every vertex of the result is referenced -/
theorem filterAttr_allReferenced [DecidableEq α] {m m' : MeshVal α} (h : WF m) {k : AttrKey} {p : α → Bool}
    (hm : m.filterAttr k p = some m') : AllReferenced m' := by
  obtain ⟨ht, d, _, rfl⟩ := filterAttr_eq hm
  exact MeshVal.removeUnreferenced_allReferenced
    (MeshVal.setIndices_wf h _ (fun i hi => h.2.1 i (List.mem_filter.mp hi).1) (by rw [ht]; trivial))

example : sample.removeUnreferenced.attrLen = 4 := by decide +kernel

/-- Flip swaps the first two corners of every triangle and touches nothing else. -/
theorem flip_spec [DecidableEq α] {m m' : MeshVal α} (hf : m.flip = some m') : FlipSpec m m' := by
  obtain ⟨_, rfl⟩ := flip_eq hf
  exact ⟨⟨rfl, rfl⟩, rfl, flip_corners hf⟩

/-- Flipping twice gives the mesh back. -/
theorem flip_flip {m m' : MeshVal α} (h : WF m) (hf : m.flip = some m') : m'.flip = some m :=
  MeshVal.flip_flip h hf

/-- Flip rejects exactly the non-triangle meshes. -/
theorem flip_rejects (m : MeshVal α) : m.flip = none ↔ m.topology ≠ .triangle := by
  unfold MeshVal.flip; split <;> simp_all

example : ∃ m', sample.flip = some m' ∧ m'.indices = [2, 0, 1, 0, 2, 3] := ⟨_, rfl, by decide +kernel⟩

theorem toPointCloud_spec [DecidableEq α] (m : MeshVal α) : ToPointCloudSpec m m.toPointCloud := by
  unfold ToPointCloudSpec toPointCloud
  split <;> simp_all

/-- Append: the corners of `a` followed by the corners of `b`, attribute by attribute; an attribute
    present on one side only reads as zeros on the other; no other attribute appears; materials are
    concatenated. -/
theorem append_spec [DecidableEq α] {zero : Nat → α} {a b m : MeshVal α} (ha : WF a) (hb : WF b)
    (h : append zero a b = some m) : AppendSpec zero a b m := by
  obtain ⟨_, rfl⟩ := append_eq h
  exact ⟨rfl, rfl, append_keys h, fun k hk => append_cornersOf ha hb h k hk⟩

/-- Append rejects exactly the pairs with different topologies. -/
theorem append_rejects (zero : Nat → α) (a b : MeshVal α) : append zero a b = none ↔ a.topology ≠ b.topology := by
  unfold append; split <;> simp_all

example : ∃ m, append (fun _ => 0) sample (sample.setAttr ⟨1, "Class"⟩ []) = some m ∧
    m.cornersOf ⟨1, "Class"⟩ = some [some 20, some 22, some 21, some 22, some 20, some 23,
                                      some 0, some 0, some 0, some 0, some 0, some 0] := ⟨_, rfl, by decide +kernel⟩

/-- Append, for every key at once: corner list (zeros where absent) of the result = the two lists concatenated. -/
theorem append_cornersOrZero [DecidableEq α] {zero : Nat → α} {a b m : MeshVal α} (ha : WF a) (hb : WF b)
    (h : append zero a b = some m) (k : AttrKey) :
    cornersOrZero zero m k = cornersOrZero zero a k ++ cornersOrZero zero b k :=
  MeshVal.append_cornersOrZero ha hb h k

/-- `repeat.Mesh(mesh, transforms)`: for every attribute the corners of the result are the corners of
    the transformed copies (`mesh` with Position mapped by each transform), one copy after another. -/
theorem repeatMesh_corners [DecidableEq α] {zero : Nat → α} {pos : AttrKey} {m r : MeshVal α} (h : WF m)
    (ts : List (α → α)) (hr : repeatMesh zero pos m ts = some r) (k : AttrKey) :
    cornersOrZero zero r k = ts.flatMap (copyCorners zero pos m k) := by
  rw [foldl_append_corners (m.mapAttr pos) (fun _ _ hc => MeshVal.mapAttr_wf h hc) k ts _ r (MeshVal.empty_wf _) hr,
    empty_cornersOrZero, List.nil_append]
  rfl

example : ∃ r, repeatMesh (fun _ => 0) ⟨3, "Position"⟩ sample [(· + 100), (· + 200)] = some r ∧
    cornersOrZero (fun _ => 0) r ⟨3, "Position"⟩ =
      [some 110, some 112, some 111, some 112, some 110, some 113,
       some 210, some 212, some 211, some 212, some 210, some 213] := ⟨_, rfl, by decide +kernel⟩

section weld
variable {K : Type} [DecidableEq K]

/-- Weld = re-point every corner of every surviving triangle at the representative of its key class
    (`weldRepIdx`), drop the vertices no longer referenced, clear the materials — and nothing else:
    per corner, every attribute is the representative's. Holds for every key function. -/
theorem weld_corners {m m' : MeshVal α} (h : WF m) {k : AttrKey} {key : α → K} (hw : m.weld k key = some m') :
    ∃ d, m.attr? k = some d ∧ m'.topology = m.topology ∧ m'.materials = [] ∧
      m'.corners = (m.setIndices (weldRepIdx key d m.indices)).corners := MeshVal.weld_corners h hw

/-- The representative of a key class has that key (so the welded attribute stays within its
    rounding cell) and is the first vertex with it. -/
theorem weld_representative (key : α → K) (d : List α) : ∀ c ∈ firsts key d,
    (∃ x, d[c.2]? = some x ∧ key x = c.1) ∧ ∀ j, j < c.2 → ∀ y, d[j]? = some y → key y ≠ c.1 :=
  firsts_spec key d

/-- A triangle survives exactly when its three corners have pairwise distinct keys. -/
theorem weld_survivors (key : α → K) (d : List α) (t : Nat × Nat × Nat) {x y z : α}
    (hx : d[t.1]? = some x) (hy : d[t.2.1]? = some y) (hz : d[t.2.2]? = some z) :
    (weldTri key d (firsts key d) t).isSome ↔ (key x ≠ key y ∧ key x ≠ key z ∧ key y ≠ key z) :=
  weldTri_isSome_iff key d t hx hy hz

/-- **The whole weld contract**, algorithm-independent (`WeldSpec`, the predicate the oracle
    `c03.holds.weld_spec` evaluates on every implementation output): the surviving triangles are exactly
    those with three pairwise distinct keys, in order; every surviving corner carries the attribute
    tuple of the first vertex of its key class; every vertex of the result is referenced; materials
    are cleared; topology kept. For every key function and payload type. -/
theorem weld_spec [DecidableEq α] {m m' : MeshVal α} (h : WF m) {k : AttrKey} {key : α → K}
    (hw : m.weld k key = some m') : WeldSpec k key m m' := MeshVal.weld_spec h hw

example : ∃ m', sample.weld ⟨3, "Position"⟩ (· % 3) = some m' ∧ WeldSpec ⟨3, "Position"⟩ (· % 3) sample m' :=
  ⟨_, rfl, by decide +kernel⟩

end weld

/-- With fewer than two material ranges the mesh is returned as it is. -/
theorem split_single (m : MeshVal α) (h : m.materials.length < 2) : m.splitOnMaterials = some [m] :=
  MeshVal.split_single m h

/-- With two or more ranges only triangle meshes are accepted. -/
theorem split_rejects_non_triangle (m : MeshVal α) (h : 2 ≤ m.materials.length) (ht : m.topology ≠ .triangle) :
    m.splitOnMaterials = none := by
  unfold splitOnMaterials
  split
  · rename_i hm; rw [hm] at h; simp at h
  · rename_i hm; rw [hm] at h; simp at h
  · simp [ht]

/-- **Split partitions the triangles by material.** With two or more ranges, when the split succeeds:
    the ranges, written out one after another, cover every triangle (`assign` = material of each
    triangle); every part is exactly the sub-mesh of the triangles of one material — in order, every
    corner's attributes kept, under one range counting them — and every material that occurs has
    its part. (If the ranges run out the model returns `none`, where the Go loop panics.) -/
theorem split_partition [DecidableEq α] {m : MeshVal α} {parts : List (MeshVal α)} (h : WF m)
    (h2 : 2 ≤ m.materials.length) (hs : m.splitOnMaterials = some parts) :
    ((matOfTris m.materials).take (triples m.indices).length).length = (triples m.indices).length ∧
    (∀ p ∈ parts, ∃ μ, PartSpec m ((matOfTris m.materials).take (triples m.indices).length) p μ) ∧
    (∀ μ ∈ (matOfTris m.materials).take (triples m.indices).length,
        ∃ p ∈ parts, PartSpec m ((matOfTris m.materials).take (triples m.indices).length) p μ) := by
  obtain ⟨ht, groups, hlen, rfl, _, hg, hall⟩ := split_groups h2 hs
  refine ⟨hlen, fun p hp => ?_, fun μ hμ => ?_⟩
  · obtain ⟨q, hq, rfl⟩ := List.mem_map.mp hp
    exact ⟨q.1, split_part_spec h ht _ (hg q hq).1 (hg q hq).2⟩
  · obtain ⟨q, hq, rfl⟩ := hall μ hμ
    exact ⟨_, List.mem_map.mpr ⟨q, hq, rfl⟩, split_part_spec h ht _ (hg q hq).1 (hg q hq).2⟩

/-- **The whole split contract** (`SplitSpec`, the predicate the oracle `c03.holds.split_spec`
    evaluates on every implementation output): with fewer than two ranges the mesh itself; otherwise
    the written-out ranges cover every triangle, there is exactly one part per distinct material *in
    order of first appearance* (the first range's material first, even when it has no triangle), and
    part `i` is exactly the sub-mesh of the triangles of material `i` (`PartSpec`). -/
theorem split_spec [DecidableEq α] {m : MeshVal α} {parts : List (MeshVal α)} (h : WF m)
    (hs : m.splitOnMaterials = some parts) : SplitSpec m parts := by
  unfold SplitSpec
  split
  · rename_i hlt
    rw [MeshVal.split_single m hlt] at hs
    cases hs; rfl
  · obtain ⟨ht, groups, hlen, rfl, hkeys, hg, _⟩ := split_groups (by omega) hs
    refine ⟨hlen, by rw [← hkeys]; simp, fun pm hpm => ?_⟩
    rw [← hkeys, List.zip_map'] at hpm
    obtain ⟨q, hq, rfl⟩ := List.mem_map.mp hpm
    exact split_part_spec h ht _ (hg q hq).1 (hg q hq).2

def sample3 : MeshVal Nat :=
  ⟨.triangle, [0, 2, 1, 2, 0, 3, 4, 4, 0], [⟨1, 7⟩, ⟨0, 9⟩, ⟨1, 8⟩, ⟨1, 7⟩],
   [(⟨3, "Position"⟩, [10, 11, 12, 13, 14]), (⟨1, "Class"⟩, [20, 21, 22, 23, 24])]⟩

example : ∃ ps, sample3.splitOnMaterials = some ps ∧ ps.length = 2 ∧ SplitSpec sample3 ps := ⟨_, rfl, by decide +kernel⟩

def cloud : MeshVal Nat :=
  ⟨.point, [3, 0, 0, 2], [], [(⟨3, "Position"⟩, [10, 11, 12, 13, 14]), (⟨1, "Class"⟩, [20, 21, 22, 23, 24])]⟩
def cloudId : MeshVal Nat :=
  ⟨.point, [0, 1, 2, 3, 4], [], [(⟨3, "Position"⟩, [10, 11, 12, 13, 14]), (⟨1, "Class"⟩, [20, 21, 22, 23, 24])]⟩

/-- FilterFloatN keeps exactly the points whose vertex passes the predicate, in order, every
    attribute carried along; nothing else changes. -/
theorem filterAttr_spec [DecidableEq α] {m m' : MeshVal α} (h : WF m) {k : AttrKey} {p : α → Bool}
    (hm : m.filterAttr k p = some m') : FilterSpec k p m m' := by
  refine ⟨?_, filterAttr_corners h hm⟩
  obtain ⟨_, _, _, rfl⟩ := filterAttr_eq hm
  exact ⟨rfl, rfl⟩

example : ∃ m', cloud.filterAttr ⟨1, "Class"⟩ (· < 23) = some m' ∧
    m'.corners = [(⟨3, "Position"⟩, [some 10, some 10, some 12]), (⟨1, "Class"⟩, [some 20, some 20, some 22])] :=
  ⟨_, rfl, by decide +kernel⟩

/-- CropFloat3Attribute on an identity-indexed point cloud (what `NewPointCloud` / `ToPointCloud`
    produce) keeps exactly the points inside, in order, every attribute carried along. -/
theorem crop_spec [DecidableEq α] {m m' : MeshVal α} (h : WF m) (hid : m.indices = List.range m.attrLen)
    {k : AttrKey} {inside : α → Bool} (hm : m.crop k inside = some m') : CropSpec k inside m m' := by
  obtain ⟨hi, hc⟩ := crop_corners h hid hm
  obtain ⟨_, _, _, rfl⟩ := crop_eq h hm
  exact ⟨rfl, rfl, hi, hc⟩

example : WF cloudId ∧ cloudId.indices = List.range cloudId.attrLen := by decide +kernel
example : ∃ m', cloudId.crop ⟨3, "Position"⟩ (· > 11) = some m' ∧
    m'.corners = [(⟨3, "Position"⟩, [some 12, some 13, some 14]), (⟨1, "Class"⟩, [some 22, some 23, some 24])] :=
  ⟨_, rfl, by decide +kernel⟩

/-- Observation (not a contract): on a cloud whose indices are not the identity, crop ignores them —
    the duplicated point 0 of `cloud` disappears and the unreferenced vertices 1 and 4 become points. -/
example : ∃ m', cloud.crop ⟨3, "Position"⟩ (fun _ => true) = some m' ∧ m'.indices = [0, 1, 2, 3, 4] :=
  ⟨_, rfl, by decide +kernel⟩

/-- RemoveNullFaces3D keeps exactly the triangles the predicate keeps, in order, with all their
    corner attributes; when nothing is removed the very same mesh is returned. -/
theorem removeNullFaces_spec [DecidableEq α] {m m' : MeshVal α} (h : WF m) {k : AttrKey}
    {keep : Nat → Nat → Nat → Bool} (hm : m.removeNullFaces k keep = some m') : RemoveNullFacesSpec keep m m' := by
  refine ⟨?_, removeNullFaces_corners h hm⟩
  obtain ⟨_, _, rfl⟩ := removeNullFaces_eq hm
  split <;> exact ⟨rfl, rfl⟩

example : ∃ m', sample.removeNullFaces ⟨3, "Position"⟩ (fun a _ _ => a == 2) = some m' ∧
    m'.corners = [(⟨3, "Position"⟩, [some 12, some 10, some 13]), (⟨1, "Class"⟩, [some 22, some 20, some 23])] :=
  ⟨_, rfl, by decide +kernel⟩

/-- the filters reject exactly: not a point cloud, or the attribute is missing -/
theorem filterAttr_rejects (m : MeshVal α) (k : AttrKey) (p : α → Bool) :
    m.filterAttr k p = none ↔ (m.topology ≠ .point ∨ m.attr? k = none) := by
  unfold filterAttr
  cases m.attr? k <;> simp

/-- crop rejects exactly: not a point cloud, or the attribute is missing -/
theorem crop_rejects (m : MeshVal α) (k : AttrKey) (inside : α → Bool) :
    m.crop k inside = none ↔ (m.topology ≠ .point ∨ m.attr? k = none) := by
  unfold crop
  cases m.attr? k <;> simp

/-- degenerate-face removal rejects exactly: not a triangle mesh, or the attribute is missing -/
theorem removeNullFaces_rejects (m : MeshVal α) (k : AttrKey) (keep : Nat → Nat → Nat → Bool) :
    m.removeNullFaces k keep = none ↔ (m.topology ≠ .triangle ∨ m.hasAttr k = false) := by
  unfold removeNullFaces
  cases m.hasAttr k <;> by_cases ht : m.topology = .triangle <;> simp [ht] <;> split <;> simp

/-- weld rejects exactly: not a triangle mesh, or the attribute is missing -/
theorem weld_rejects {K : Type} [DecidableEq K] (m : MeshVal α) (k : AttrKey) (key : α → K) :
    m.weld k key = none ↔ (m.topology ≠ .triangle ∨ m.attr? k = none) := by
  unfold weld
  cases m.attr? k <;> simp

/-! ## Attribute transforms: exactly one attribute changes, by the stated function

`Translate`, `Scale`, `Rotate`, `ApplyTRS`, `ModifyFloatNAttribute`, meshops `TranslateAttribute3D`,
`ScaleAttribute3D/2D`, `ScaleAttributeAlongNormal`, `RotateAttribute3D`, `CenterFloat3Attribute`,
`NormalizeAttribute3D/2D`, `LaplacianSmooth` are all `modifyAttr k f`; `SmoothNormals`, `FlatNormals`
are `setAttr Normal (f positions)`. -/

/-- `SetFloatNAttribute(k, data)`: topology, indices, materials and every other attribute array are
    untouched; attribute `k` reads back as `data` (or is absent when `data` is empty — the Go code
    deletes the key then). -/
theorem setAttr_spec [DecidableEq α] (m : MeshVal α) (k : AttrKey) (data : List α) :
    FrameSpec k m (m.setAttr k data) ∧
    (m.setAttr k data).attr? k = (if data.isEmpty then none else some data) :=
  ⟨⟨⟨rfl, rfl⟩, rfl, fun _ _ hne => setAttr_attr?_ne m data hne⟩, setAttr_attr?_self m k data⟩

/-- a transform of attribute `k` by `f`: everything else untouched, and `k` is exactly `f` of the old array -/
theorem modifyAttr_spec [DecidableEq α] {m m' : MeshVal α} {k : AttrKey} {f : List α → List α}
    (hm : m.modifyAttr k f = some m') :
    FrameSpec k m m' ∧ ∃ d, m.attr? k = some d ∧ m'.attr? k = (if (f d).isEmpty then none else some (f d)) := by
  obtain ⟨d, hd, rfl⟩ := modifyAttr_eq hm
  exact ⟨(setAttr_spec m k (f d)).1, d, hd, (setAttr_spec m k (f d)).2⟩

/-- element-wise transform by `φ` (translate, scale, rotate, TRS): attribute `k` becomes `map φ` -/
theorem mapAttr_spec [DecidableEq α] {m m' : MeshVal α} {k : AttrKey} {φ : α → α}
    (hm : m.mapAttr k φ = some m') :
    FrameSpec k m m' ∧ ∃ d, m.attr? k = some d ∧ m'.attr? k = (if d.isEmpty then none else some (d.map φ)) := by
  obtain ⟨hf, d, hd, hk⟩ := modifyAttr_spec hm
  exact ⟨hf, d, hd, by simpa using hk⟩

/-- a transform is rejected exactly when the attribute is missing -/
theorem modifyAttr_rejects (m : MeshVal α) (k : AttrKey) (f : List α → List α) :
    m.modifyAttr k f = none ↔ m.attr? k = none := by
  unfold modifyAttr; split <;> simp_all

example : ∃ m', sample.mapAttr ⟨3, "Position"⟩ (· + 100) = some m' ∧
    m'.attr? ⟨3, "Position"⟩ = some [110, 111, 112, 113, 114] ∧ m'.attr? ⟨1, "Class"⟩ = sample.attr? ⟨1, "Class"⟩ :=
  ⟨_, rfl, by decide +kernel, by decide +kernel⟩

/-! ### the concrete transforms (`Model/MeshTransforms.lean`), each with its stated map

`Changed k f m m'`: topology, indices, materials and every attribute other than `k` are untouched and
attribute `k` of `m'` is `f` applied to attribute `k` of `m` (absent if that is empty). -/

section transforms
open PolyVerif PolyVerif.Gen
variable {s : Type} [Scalar s] [DecidableEq s]

def Changed (k : AttrKey) (f : List (List s) → List (List s)) (m m' : MeshVal (List s)) : Prop :=
  FrameSpec k m m' ∧ ∃ d, m.attr? k = some d ∧ m'.attr? k = (if (f d).isEmpty then none else some (f d))

/-- `Translate` / `TranslateAttribute3D`: `v ↦ v + t` -/
theorem translate_spec {m m' : MeshVal (List s)} {n : String} {t : V3 s} (hm : m.translate n t = some m') :
    Changed ⟨3, n⟩ (List.map (liftV3 fun v => v.Add t)) m m' := modifyAttr_spec hm

/-- `ScaleAttribute3D`: `v ↦ o + (v - o) ∘ a` -/
theorem scaleAbout_spec {m m' : MeshVal (List s)} {n : String} {o a : V3 s} (hm : m.scaleAbout n o a = some m') :
    Changed ⟨3, n⟩ (List.map (liftV3 fun v => o.Add ((v.Sub o).MultByVector a))) m m' := modifyAttr_spec hm

/-- `Mesh.Scale`: `v ↦ v ∘ a` on Position -/
theorem scaleMesh_spec {m m' : MeshVal (List s)} {a : V3 s} (hm : m.scaleMesh a = some m') :
    Changed posKey (List.map (liftV3 fun v => v.MultByVector a)) m m' := modifyAttr_spec hm

/-- `Rotate` / `RotateAttribute3D`: `v ↦ q.Rotate v` (the function proved a rotation in C17) -/
theorem rotate_spec {m m' : MeshVal (List s)} {n : String} {q : quaternion.Quaternion s} (hm : m.rotate n q = some m') :
    Changed ⟨3, n⟩ (List.map (liftV3 fun v => q.Rotate v)) m m' := modifyAttr_spec hm

/-- `ApplyTRS`: `v ↦ trs.Transform v` on Position -/
theorem applyTRS_spec {m m' : MeshVal (List s)} {t : trs.TRS s} (hm : m.applyTRS t = some m') :
    Changed posKey (List.map (liftV3 fun v => t.Transform v)) m m' := modifyAttr_spec hm

/-- `CenterFloat3Attribute`: `v ↦ v - centre(box of the array)` -/
theorem center_spec {m m' : MeshVal (List s)} {mn mx : s → s → s} {n : String}
    (hm : MeshVal.center mn mx m n = some m') :
    Changed ⟨3, n⟩ (fun d => d.map (liftV3 fun v => v.Sub (centerOf mn mx (d.filterMap v3?)))) m m' := modifyAttr_spec hm

/-- `NormalizeAttribute3D`: `v ↦ v / (longest length in the array)` -/
theorem normalize_spec {m m' : MeshVal (List s)} {init : s} {mx : s → s → s} {n : String}
    (hm : MeshVal.normalize init mx m n = some m') :
    Changed ⟨3, n⟩ (fun d => d.map (liftV3 fun v =>
      v.DivByConstant ((d.filterMap v3?).foldl (fun acc v => mx acc v.Length) init))) m m' := modifyAttr_spec hm

/-- `LaplacianSmooth`: only the smoothed attribute changes (by the in-place sequential sweep `lapIter`) -/
theorem laplacian_frame {m m' : MeshVal (List s)} {n : String} {iters : Nat} {factor : s}
    (hm : m.laplacian n iters factor = some m') : FrameSpec ⟨3, n⟩ m m' := by
  obtain ⟨_, _, hm⟩ := laplacian_eq hm
  exact (modifyAttr_spec hm).1

/-- `SmoothNormals`: only Normal changes (it is computed from Position by `smoothAccum`) -/
theorem smoothNormals_frame {m m' : MeshVal (List s)} (hm : m.smoothNormals = some m') : FrameSpec normalKey m m' := by
  obtain ⟨_, _, _, rfl⟩ := smoothNormals_eq hm
  exact (setAttr_spec m _ _).1

/-- `FlatNormals`: only Normal changes -/
theorem flatNormals_frame {m m' : MeshVal (List s)} (hm : m.flatNormals = some m') : FrameSpec normalKey m m' := by
  obtain ⟨_, _, _, rfl⟩ := flatNormals_eq hm
  exact (setAttr_spec m _ _).1

end transforms

end PolyVerif.C03
