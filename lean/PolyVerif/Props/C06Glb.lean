/-
  C06 — the GLB container through a READER: `glbParse (glbFrame json bin)` returns the two chunks, and the
  oracle predicate `frameOK ∘ readFrame` (what `c06.holds.frame` evaluates on the implementation's file) holds of the
  model's file.  `glbFrame` is the definition the driver uses to answer `c06.glb` (whole-file byte comparison with
  `WriteGLB`).
-/
import PolyVerif.Props.C06
import PolyVerif.Model.GltfGlb

namespace PolyVerif
namespace C06
open Gltf

theorem glbWord_eq (f : List UInt8) (o : Nat) : glbWord f o = readWord f o := rfl

/-- the JSON chunk as stored: the text followed by its blank padding -/
theorem glb_json_chunk (json bin : List UInt8) :
    ((glbFrame json bin).drop 20).take (json.length + pad4 json.length)
      = json ++ List.replicate (pad4 json.length) 0x20 := by
  rw [glbFrame_drop20, List.take_left' (by simp)]

/-- the BIN chunk as stored: the buffer followed by its zero padding -/
theorem glb_bin_chunk (json bin : List UInt8) (hsz : (glbFrame json bin).length < 2 ^ 32) (hpos : bin.length > 0) :
    ((glbFrame json bin).drop (20 + (json.length + pad4 json.length) + 8)).take (bin.length + pad4 bin.length)
      = bin ++ List.replicate (pad4 bin.length) 0x00 := by
  rw [← List.drop_drop, glbFrame_dropJson, glbBinPart_drop8 bin hpos, List.take_of_length_le (by simp)]

/-- PARSE ∘ WRITE.  An independent reader recovers from the written file exactly the JSON text followed by its blank
    padding and the buffer followed by its zero padding (nothing for an empty buffer: no BIN chunk). -/
theorem glb_parse_write (json bin : List UInt8) (hsz : (glbFrame json bin).length < 2 ^ 32) :
    glbParse (glbFrame json bin)
      = some (json ++ List.replicate (pad4 json.length) 0x20, bin ++ List.replicate (pad4 bin.length) 0x00) := by
  have hlen := glb_frame_length json bin
  have hj := glb_json_chunk json bin
  by_cases hb : bin.length = 0
  · have hl : (glbFrame json bin).length = 20 + (json.length + pad4 json.length) := by rw [hlen, if_neg (by omega)]; omega
    have c1 : ¬ ((glbFrame json bin).length < 20 ∨ (glbFrame json bin).length < 20 + (json.length + pad4 json.length)) := by
      omega
    have H := glb_header json bin hsz
    unfold glbParse
    simp only [glbWord_eq, H.magic, H.version, H.total, H.jsonLen, H.jsonType, ne_eq, not_true_eq_false, false_or]
    rw [if_neg c1, if_pos hl, hj, List.eq_nil_of_length_eq_zero hb]
    simp [pad4]
  · have hpos : bin.length > 0 := Nat.pos_of_ne_zero hb
    obtain ⟨b0, _, b4, _, _, blen⟩ := glb_frame_bin json bin hsz hpos
    have c1 : ¬ ((glbFrame json bin).length < 20 ∨ (glbFrame json bin).length < 20 + (json.length + pad4 json.length)) := by
      clear b0 b4 hj; omega
    have c2 : ¬ (glbFrame json bin).length = 20 + (json.length + pad4 json.length) := by clear b0 b4 hj; omega
    have c3 : ¬ ((glbFrame json bin).length < 20 + (json.length + pad4 json.length) + 8
        ∨ ¬ (glbFrame json bin).length = 20 + (json.length + pad4 json.length) + 8 + (bin.length + pad4 bin.length)) := by
      clear b0 b4 hj; omega
    have H := glb_header json bin hsz
    unfold glbParse
    simp only [glbWord_eq, H.magic, H.version, H.total, H.jsonLen, H.jsonType, ne_eq, not_true_eq_false, false_or]
    rw [if_neg c1, if_neg c2]
    simp only [b0, b4, not_true_eq_false, false_or]
    rw [if_neg c3, hj, glb_bin_chunk json bin hsz hpos]

/-- the check the driver runs on the implementation's file (`c06.holds.glbparse`) holds of the model's file -/
theorem glb_roundtrips (json bin : List UInt8) (hsz : (glbFrame json bin).length < 2 ^ 32) :
    glbRoundTrips (glbFrame json bin) json bin = true := by
  unfold glbRoundTrips; rw [glb_parse_write json bin hsz]; simp

/-- what the reader returns starts with the payloads, continues with padding only, and is shorter than payload + 4 -/
theorem glb_parse_write_prefix (json bin : List UInt8) (hsz : (glbFrame json bin).length < 2 ^ 32) :
    ∃ j b, glbParse (glbFrame json bin) = some (j, b)
      ∧ j.take json.length = json ∧ b.take bin.length = bin
      ∧ (∀ x ∈ j.drop json.length, x = 0x20) ∧ (∀ x ∈ b.drop bin.length, x = 0x00)
      ∧ j.length % 4 = 0 ∧ b.length % 4 = 0 ∧ j.length < json.length + 4 ∧ b.length < bin.length + 4 := by
  refine ⟨_, _, glb_parse_write json bin hsz, List.take_left' rfl, List.take_left' rfl, ?_, ?_, ?_, ?_, ?_, ?_⟩
  · rw [List.drop_left' rfl]; intro x hx; exact (List.mem_replicate.mp hx).2
  · rw [List.drop_left' rfl]; intro x hx; exact (List.mem_replicate.mp hx).2
  · simpa using pad4_mod json.length
  · simpa using pad4_mod bin.length
  · simpa using pad4_lt json.length
  · simpa using pad4_lt bin.length

/-- THE FRAME ORACLE HOLDS OF THE MODEL: the header fields a reader (`readFrame`, the harness's reader in Lean) finds in
    `glbFrame json bin` satisfy `frameOK` against the unpadded lengths — the predicate `c06.holds.frame` evaluates on the
    implementation's file. -/
theorem glb_frame_readFrame_ok (json bin : List UInt8) (hsz : (glbFrame json bin).length < 2 ^ 32) :
    frameOK (readFrame (glbFrame json bin)) json.length bin.length = true := by
  obtain ⟨w0, w4, w8, w12, w16⟩ := glb_header json bin hsz
  have hjm := pad4_mod json.length
  have hbm := pad4_mod bin.length
  have hlen := glb_frame_length json bin
  unfold readWord at w0 w4 w8 w12 w16
  by_cases hb : bin.length = 0
  · have hl := glbFrame_length_of_empty json bin hb
    have hnb : ¬ (20 + (json.length + pad4 json.length) < (glbFrame json bin).length) := by omega
    simp only [frameOK, readFrame, w0, w4, w8, w12, w16, hnb, decide_false, hb]
    simp [hl, hjm]
  · have hpos : bin.length > 0 := Nat.pos_of_ne_zero hb
    obtain ⟨b0, _, b4, _, _, blen⟩ := glb_frame_bin json bin hsz hpos
    unfold readWord at b0 b4
    have hyb : 20 + (json.length + pad4 json.length) < (glbFrame json bin).length := by omega
    simp only [frameOK, readFrame, w0, w4, w8, w12, w16, hyb, decide_true, b0, b4, if_true]
    simp [hpos, hjm, hbm, blen]
    omega

/-- non-vacuity: a two-byte JSON text and a five-byte buffer (both padded) -/
example : (glbFrame [0x7b, 0x7d] [1, 2, 3, 4, 5]).length < 2 ^ 32
    ∧ glbParse (glbFrame [0x7b, 0x7d] [1, 2, 3, 4, 5]) = some ([0x7b, 0x7d, 0x20, 0x20], [1, 2, 3, 4, 5, 0, 0, 0]) := by
  have h : (glbFrame [0x7b, 0x7d] [1, 2, 3, 4, 5]).length < 2 ^ 32 := by rw [glb_frame_length]; decide
  refine ⟨h, ?_⟩
  rw [glb_parse_write _ _ h]; decide

end C06
end PolyVerif
