/-
  C18 — `Mesh.Append`'s index shift inside the regenerated model.

  The capped cylinder (side strip, then each cap) and the six-quad box (six quads) are assembled with `Mesh.Append`
  (modeling/mesh.go).  `Model/Solids.lean` writes that as `ts ++ shift k us` with `k` the vertex count so far.
  Engine F (`go/facts c18.append`) extracts what `Append`'s body does to its index buffer
  (`Gen/PrimAppend.lean`: append `m.indices...`, append `other.indices...`, then the in-place loop
  `for i := len(m.indices); i < len(finalTris); i++ { finalTris[i] += mAtrLength }`), `Model/AppendIR.lean` executes the loop
  step by step, and here the result is proved to be `a ++ b.map (· + nₐ)` for ALL index buffers, and the models' index
  lists are proved to be exactly iterated applications of it.
-/
import PolyVerif.Props.C18
import PolyVerif.Lemmas.SolidsAppend
import PolyVerif.Gen.PrimAppend

namespace PolyVerif
namespace C18
open Solids AppendIR

/-- **`Mesh.Append`, index buffer, all inputs**: the extracted statements (two appends and the in-place `+=` loop run
    step by step) yield the receiver's indices followed by the other mesh's indices, each increased by the RECEIVER's
    vertex count -/
theorem meshAppend_indices_from_source (a b : List Nat) (na nb : Nat) :
    run Gen.PrimAppend.meshAppendIndices ⟨a, b, na, nb⟩ = a ++ b.map (· + na) := by
  simp only [run, Gen.PrimAppend.meshAppendIndices, List.foldl_cons, List.foldl_nil, step, List.nil_append]
  exact addLoop_append na a b

/-- that is the model's `shift`: appending a triangle list `us` to `ts` whose mesh has `k` vertices -/
theorem append_is_shift (ts us : List Tri) (k nb : Nat) :
    run Gen.PrimAppend.meshAppendIndices ⟨flat ts, flat us, k, nb⟩ = flat (ts ++ shift k us) := by
  rw [meshAppend_indices_from_source]
  simp only [flat, shift, List.flatMap_append, List.flatMap_map, List.map_flatMap, List.map_cons, List.map_nil]

/-- **the capped cylinder's index buffer = the regenerated `Append` applied twice** to the regenerated parts (side strip
    `cylinderSide_indices_from_source`, circle `circle_indices_from_source`), in the extracted order top, bottom
    (`cylinder_caps_from_source`), with the vertex counts `2·sides+2` and `sides+1` of the parts -/
theorem cylinder_indices_via_append (sides : Nat) :
    flat (cylinderTris sides false false) =
      run Gen.PrimAppend.meshAppendIndices
        ⟨run Gen.PrimAppend.meshAppendIndices
            ⟨flat (cylinderSideTris sides), flat (circleTris sides), cylinderSideNV sides, circleNV sides⟩,
         flat (circleTris sides), cylinderSideNV sides + circleNV sides, circleNV sides⟩ := by
  rw [append_is_shift, append_is_shift]
  simp [cylinderTris]

/-- **the six-quad box's index buffer = the regenerated `Append` applied five times**, as in
    `top.Append(bottom).Append(left).Append(right).Append(front).Append(back)` (cube.go; the order of the faces is the
    extracted `cubeFaces`): each quad mesh has 4 vertices, so the receiver of the `q`-th `Append` has `4·(q+1)` -/
theorem cubeQuads_indices_via_append :
    flat cubeQuadsTris =
      (List.range 5).foldl (fun acc q => run Gen.PrimAppend.meshAppendIndices ⟨acc, flat quadTris, 4 * (q + 1), 4⟩)
        (flat quadTris) := by
  simp only [meshAppend_indices_from_source]
  decide

example : run Gen.PrimAppend.meshAppendIndices ⟨[0, 1, 2], [0, 2, 1, 1, 2, 3], 3, 4⟩ = [0, 1, 2, 3, 5, 4, 4, 5, 6] := by
  decide

end C18
end PolyVerif
