/-
  C14 — the SIZE-ONLY cut laws of `Model/C14Large.lean` follow from the full reader models.

  For every valid file (the reference encodings of Props/C14) and EVERY cut, the verdict of the reader model on
  `take k file` — reduced to "error | ok with so many elements" — is the function of the sizes (declared count, record
  size, header length, complete lines present, cut position) that `C14Large.*Verdict` computes, and the decidable
  predicate `C14Large.*CutOk`, which the driver evaluates on the sizes of a cut of a LARGE generated file and the
  verdict of the REAL reader (`c14.holds.large_cut_*`), holds of it.  The oracle is therefore the prefix theorems
  (`stl_prefix_rejected`, `splat_prefix`, `ply_binary_prefix_rejected`, `pts_prefix_bytes`, …) compiled; files of more
  than 65536 / 100000 records never have to pass through the List-based reader models.
-/
import PolyVerif.Props.C14
import PolyVerif.Model.C14Large

namespace PolyVerif
namespace C14
open Readers Spz Splat C14Large

/-! ## verdicts of the model readers, reduced to sizes -/

def stlV : Except Readers.Err (List (List UInt8)) → Verdict
  | .ok t => some t.length
  | .error _ => none

def plyV : Except Readers.Err PlyMesh → Option (Nat × Nat)
  | .ok (.bin m) => some (m.verts.length, m.faces.length)
  | .ok (.ascii m) => some (m.verts.length, m.faces.length)
  | .error _ => none

def ptsV : Except Readers.Err (List PtsPoint) → Verdict
  | .ok ps => some ps.length
  | .error _ => none

/-- every valid STL file, every `k`: the model's verdict on `take k file` is `stlVerdict n k` -/
theorem large_cut_stl_verdict (hdr : List UInt8) (tris : List (List UInt8)) (hh : hdr.length = 80)
    (ht : ∀ t ∈ tris, t.length = 50) (hn : tris.length < 2 ^ 32) (k : Nat) :
    stlV (readStl ((stlFile hdr tris).take k)) = stlVerdict tris.length k := by
  rw [(stl_exact hdr tris hh ht hn).take k, stlFile_length hdr tris hh ht, apply_ite stlV]
  rfl

/-- ... and the compiled oracle holds of it -/
theorem large_cut_stl (hdr : List UInt8) (tris : List (List UInt8)) (hh : hdr.length = 80)
    (ht : ∀ t ∈ tris, t.length = 50) (hn : tris.length < 2 ^ 32) (k : Nat) (hk : k ≤ (stlFile hdr tris).length) :
    stlCutOk tris.length (stlFile hdr tris).length k (stlV (readStl ((stlFile hdr tris).take k))) = true := by
  rw [large_cut_stl_verdict hdr tris hh ht hn k]
  rw [show (stlFile hdr tris).length = stlLen tris.length from stlFile_length hdr tris hh ht] at hk ⊢
  simp [stlCutOk, hk]

example : ∃ hdr : List UInt8, ∃ tris : List (List UInt8), hdr.length = 80 ∧ (∀ t ∈ tris, t.length = 50) ∧
    tris.length < 2 ^ 32 ∧ 133 ≤ (stlFile hdr tris).length ∧ stlVerdict tris.length 133 = none ∧
    stlVerdict tris.length 134 = some 1 :=
  ⟨List.replicate 80 0, [List.replicate 50 7], by simp, by simp, by simp, by simp [stlFile, le32n], by decide, by decide⟩

theorem large_cut_splat_verdict (rs : List Rec) (k : Nat) (hk : k ≤ (rs.flatMap encRec).length) :
    ((readRecs ((rs.flatMap encRec).take k)).recs.length, (readRecs ((rs.flatMap encRec).take k)).short) =
      splatVerdict k := by
  rw [splat_prefix rs k hk]
  rw [flatMap_encRec_length] at hk
  have : min (k / 32) rs.length = k / 32 := by omega
  simp only [splatVerdict, List.length_take, this, Prod.mk.injEq, true_and]
  by_cases h : k % 32 = 0 <;> simp [h]

theorem large_cut_splat (rs : List Rec) (k : Nat) (hk : k ≤ (rs.flatMap encRec).length) :
    splatCutOk rs.length (rs.flatMap encRec).length k (readRecs ((rs.flatMap encRec).take k)).recs.length
      (readRecs ((rs.flatMap encRec).take k)).short = true := by
  have h := large_cut_splat_verdict rs k hk
  simp only [splatCutOk, h, beq_self_eq_true, Bool.and_true, Bool.and_eq_true, decide_eq_true_eq]
  exact ⟨by rw [flatMap_encRec_length]; simp, hk⟩

/-- bytes of the face records of a reference-encoded binary file -/
def BinFile.faceBytes (be : Bool) (h : Hdr) (x : BinFile) : Nat :=
  (match h.face with | none => [] | some f => encFaces be f x.fs).length

theorem plyBin_length (be : Bool) (h : Hdr) (x : BinFile) (hx : x.ok h) :
    (x.bytes be h).length = plyLen (headerText x.ls).length h.vcount h.vsize (x.faceBytes be h) := by
  obtain ⟨_, hc, hv, _⟩ := hx
  have hL := Chunks.length_flatten_const h.vsize x.vs hv
  unfold BinFile.bytes BinFile.body BinFile.faceBytes plyLen
  rw [List.length_append, List.length_append, hL, hc]
  cases h.face <;> simp only [List.length_nil] <;> omega

theorem large_cut_ply_binary_verdict (L : Lex) (be : Bool) (h : Hdr) (hfmt : h.fmt = if be then .be else .le)
    (x : BinFile) (hx : x.ok h) (k : Nat) :
    plyV (readPly L h ((x.bytes be h).take k)) =
      plyVerdict (headerText x.ls).length h.vcount h.vsize x.fs.length (x.faceBytes be h) k := by
  rw [(ply_binary_exact L be h hfmt x hx).take k, plyBin_length be h x hx, apply_ite plyV, plyVerdict]
  congr 1
  obtain ⟨_, hc, _, hf⟩ := hx
  simp only [plyV, BinFile.mesh, hc]
  cases hface : h.face with
  | none => rw [hface] at hf; simp [hf]
  | some f => simp

theorem large_cut_ply_binary (L : Lex) (be : Bool) (h : Hdr) (hfmt : h.fmt = if be then .be else .le)
    (x : BinFile) (hx : x.ok h) (k : Nat) (hk : k ≤ (x.bytes be h).length) :
    plyCutOk (headerText x.ls).length h.vcount h.vsize x.fs.length (x.faceBytes be h) (x.bytes be h).length k
      (plyV (readPly L h ((x.bytes be h).take k))) = true := by
  rw [large_cut_ply_binary_verdict L be h hfmt x hx k]
  rw [plyBin_length be h x hx] at hk ⊢
  simp [plyCutOk, hk]

/-- the text of a token-boundary cut: the count line and `j` whole point lines (LF-terminated), then the first `t`
    tokens of point line `j`, optionally the separating space -/
def ptsCutText (ctok : Tok) (pls : List (List Tok)) (j t : Nat) (sp : Bool) : List UInt8 :=
  renderLines ([ctok] :: pls.take j) ++ (joinSp ((pls.getD j []).take t) ++ (if sp then [32] else []))

theorem ptsV_error {r : Except Readers.Err (List PtsPoint)} (h : ∃ e, r = .error e) : ptsV r = none := by
  obtain ⟨e, rfl⟩ := h; rfl

/-- the complete lines (count line + all point lines) read back as `n` points -/
theorem ptsV_full (L : Lex) (fpp : Nat) (ctok : Tok) (pls : List (List Tok))
    (hx : PtsOk L fpp (mkLine [ctok]) (pls.map mkLine)) (bs : List UInt8)
    (hs : scanLines bs = ([ctok] :: pls).map mkLine) : ptsV (readPts L bs) = some pls.length := by
  unfold readPts
  rw [hs, List.map_cons, pts_full L fpp (mkLine [ctok]) (pls.map mkLine) hx]
  simp [ptsV]

theorem ptsVerdict_none {n fpp j t : Nat} (h : ptsWhole fpp j t < n) : ptsVerdict n fpp j t = none := by
  simp [ptsVerdict, h]

theorem ptsVerdict_some {n fpp j t : Nat} (h : ¬ ptsWhole fpp j t < n) : ptsVerdict n fpp j t = some n := by
  simp [ptsVerdict, h]

theorem ptsWhole_ne {fpp j t : Nat} (h : t ≠ fpp) : ptsWhole fpp j t = j := by simp [ptsWhole, h]

theorem ptsWhole_eq (fpp j : Nat) : ptsWhole fpp j fpp = j + 1 := by simp [ptsWhole]

/-- every valid PTS text (count line, `n` point lines of `fpp ≥ 3` clean tokens), every token-boundary cut described by
    (`j` whole lines, `t` tokens, space) with `ptsCutValid`: the model's verdict is `ptsVerdict n fpp j t` — rejected while
    fewer whole lines than declared are present, the `n` points otherwise -/
theorem large_cut_pts_verdict (L : Lex) (fpp : Nat) (ctok : Tok) (pls : List (List Tok))
    (hc : CleanTok ctok) (hclean : ∀ ts ∈ pls, ∀ t ∈ ts, CleanTok t)
    (hx : PtsOk L fpp (mkLine [ctok]) (pls.map mkLine))
    (j t : Nat) (sp : Bool) (hv : ptsCutValid pls.length fpp j t sp = true) :
    ptsV (readPts L (ptsCutText ctok pls j t sp)) = ptsVerdict pls.length fpp j t := by
  simp only [ptsCutValid, Bool.and_eq_true, decide_eq_true_eq] at hv
  obtain ⟨⟨h3, htf⟩, hcase⟩ := hv
  have hcl1 : CleanText ([ctok] :: pls) := .cons hc.line hclean
  by_cases hj : j < pls.length
  · rw [if_pos hj] at hcase
    have hlen : (pls[j]).length = fpp := by
      have := (hx.2 (mkLine pls[j]) (by simp; exact ⟨pls[j], List.getElem_mem hj, rfl⟩)).1
      simpa [mkLine] using this
    have hg : pls.getD j [] = pls[j] := by simp [List.getD, hj]
    unfold ptsCutText
    rw [hg]
    by_cases htlt : t < fpp
    · rw [ptsVerdict_none (by rw [ptsWhole_ne (by omega)]; exact hj)]
      apply ptsV_error
      by_cases hj1 : 1 ≤ j
      · exact pts_prefix_bytes L fpp ctok pls hc hclean hx j hj1 hj t htlt sp
          (by intro hs; subst hs; simp at hcase; omega)
      · have hj0 : j = 0 := by omega
        subst hj0
        have ht0 : t = 0 := by
          rcases Nat.eq_zero_or_pos t with h | h
          · exact h
          · exfalso; simp at hcase; omega
        have hsp : sp = false := by
          cases sp
          · rfl
          · exfalso; simp at hcase; omega
        subst ht0; subst hsp
        have hne : pls ≠ [] := by intro h; subst h; simp at hj
        have := (pts_count_line_bytes L fpp ctok pls hc hx hne).2.2
        refine ⟨.short, ?_⟩
        simpa [renderLines, joinSp] using this
    · have htE : t = fpp := by omega
      have hsp : sp = false := by
        cases sp
        · rfl
        · exfalso; simp at hcase; omega
      have hj1 : 1 ≤ j := by
        rcases Nat.eq_zero_or_pos j with h | h
        · exfalso; subst h; simp at hcase; omega
        · exact h
      subst hsp
      rw [htE]
      have htake : (pls[j]).take fpp = pls[j] := List.take_of_length_le (by omega)
      have hne : pls[j] ≠ [] := by intro h; rw [h] at hlen; simp at hlen; omega
      rw [htake]
      simp only [Bool.false_eq_true, if_false, List.append_nil]
      by_cases hlast : j + 1 < pls.length
      · rw [ptsVerdict_none (by rw [ptsWhole_eq]; exact hlast)]
        exact ptsV_error (pts_prefix_bytes_eol L fpp ctok pls hc hclean hx j hlast hne)
      · rw [ptsVerdict_some (by rw [ptsWhole_eq]; exact hlast)]
        apply ptsV_full L fpp ctok pls hx
        rw [(ply_ascii_bytes_complete ([ctok] :: pls.take j) pls[j]
          (CleanText.cons hc.line (.take_snoc hclean hj)) hne).2]
        have e : ([ctok] :: pls.take j) ++ [pls[j]] = [ctok] :: pls := by
          have : pls.take (j + 1) = pls := List.take_of_length_le (by omega)
          rw [List.cons_append, ← List.take_succ_eq_append_getElem hj, this]
        rw [e]
  · rw [if_neg hj] at hcase
    simp only [Bool.and_eq_true, beq_iff_eq, Bool.not_eq_true'] at hcase
    obtain ⟨⟨hjn, ht0⟩, hsp⟩ := hcase
    subst hjn; subst ht0; subst hsp
    rw [ptsVerdict_some (by rw [ptsWhole_ne (by omega)]; omega)]
    apply ptsV_full L fpp ctok pls hx
    unfold ptsCutText
    have := scanLines_render ([ctok] :: pls) hcl1 [] (by simp) (by simp)
    simpa [joinSp] using this

/-- ... and the compiled oracle (`ptsCutOk`, with the byte position and file length of fixed-width text supplied as
    they are) holds of it -/
theorem large_cut_pts (L : Lex) (fpp : Nat) (ctok : Tok) (pls : List (List Tok))
    (hc : CleanTok ctok) (hclean : ∀ ts ∈ pls, ∀ t ∈ ts, CleanTok t)
    (hx : PtsOk L fpp (mkLine [ctok]) (pls.map mkLine))
    (j t : Nat) (sp : Bool) (hv : ptsCutValid pls.length fpp j t sp = true) (clen tw : Nat) :
    ptsCutOk pls.length fpp clen tw (clen + pls.length * (fpp * (tw + 1))) j t sp (ptsCutPos clen tw fpp j t sp)
      (ptsV (readPts L (ptsCutText ctok pls j t sp))) =
    decide (ptsCutPos clen tw fpp j t sp ≤ clen + pls.length * (fpp * (tw + 1))) := by
  rw [large_cut_pts_verdict L fpp ctok pls hc hclean hx j t sp hv]
  simp [ptsCutOk, hv]

/-! ## byte lengths: the sizes the harness reports are the lengths of the texts the theorems are about -/

theorem joinSp_length_fixed (tw : Nat) (ts : List Tok) (h : ∀ x ∈ ts, x.length = tw) (hne : ts ≠ []) :
    (joinSp ts).length + 1 = ts.length * (tw + 1) := by
  induction ts with
  | nil => exact absurd rfl hne
  | cons a ts ih =>
    cases ts with
    | nil => simp [joinSp, h a (by simp)]
    | cons b ts =>
      have ih' := ih (fun x hx => h x (List.mem_cons_of_mem _ hx)) (by simp)
      simp only [joinSp, List.length_append, List.length_cons] at ih' ⊢
      rw [h a (by simp)]
      rw [Nat.add_mul, ← ih']
      omega

theorem renderLines_length_fixed (tw fpp : Nat) (hf : 0 < fpp) (ls : List (List Tok))
    (h : ∀ ts ∈ ls, ts.length = fpp ∧ ∀ x ∈ ts, x.length = tw) :
    (renderLines ls).length = ls.length * (fpp * (tw + 1)) := by
  induction ls with
  | nil => simp [renderLines]
  | cons l ls ih =>
    have ih' := ih (fun ts hts => h ts (List.mem_cons_of_mem _ hts))
    obtain ⟨hl, hw⟩ := h l (by simp)
    have hne : l ≠ [] := by intro e; rw [e] at hl; simp at hl; omega
    have := joinSp_length_fixed tw l hw hne
    simp only [renderLines, List.flatMap_cons, List.length_append, List.length_cons, List.length_nil] at ih' ⊢
    rw [ih', this, hl, Nat.add_mul]
    omega

/-- fixed-width text (every point token `tw` bytes, `fpp > 0` tokens per line): the byte length of the cut text is
    `ptsCutPos` with `clen` = count token + LF — the position the harness cuts at and the oracle re-derives -/
theorem ptsCutText_length (ctok : Tok) (pls : List (List Tok)) (tw fpp : Nat) (hf : 0 < fpp)
    (h : ∀ ts ∈ pls, ts.length = fpp ∧ ∀ x ∈ ts, x.length = tw)
    (j t : Nat) (sp : Bool) (hj : j ≤ pls.length) (ht : t ≤ fpp) (hjt : j = pls.length → t = 0) :
    (ptsCutText ctok pls j t sp).length = ptsCutPos (ctok.length + 1) tw fpp j t sp := by
  have hr : (renderLines ([ctok] :: pls.take j)).length = (ctok.length + 1) + j * (fpp * (tw + 1)) := by
    have := renderLines_length_fixed tw fpp hf (pls.take j) (fun ts hts => h ts (List.mem_of_mem_take hts))
    simp only [renderLines, List.flatMap_cons, List.length_append, List.length_cons, List.length_nil, joinSp] at this ⊢
    rw [this, List.length_take, Nat.min_eq_left hj]
  have hs : (if sp then [(32 : UInt8)] else []).length = if sp then 1 else 0 := by cases sp <;> rfl
  have hm : (joinSp ((pls.getD j []).take t)).length = if t = 0 then 0 else t * (tw + 1) - 1 := by
    by_cases ht0 : t = 0
    · simp [ht0, joinSp]
    · rw [if_neg ht0]
      have hjl : j < pls.length := by
        rcases Nat.lt_or_ge j pls.length with h1 | h1
        · exact h1
        · exact absurd (hjt (by omega)) ht0
      have hg : pls.getD j [] = pls[j] := by simp [List.getD, hjl]
      obtain ⟨hl, hw⟩ := h pls[j] (List.getElem_mem hjl)
      have hne : (pls[j]).take t ≠ [] := by
        intro e
        have := congrArg List.length e
        simp only [List.length_take, List.length_nil] at this
        omega
      have := joinSp_length_fixed tw ((pls[j]).take t) (fun x hx => hw x (List.mem_of_mem_take hx)) hne
      rw [hg]
      simp only [List.length_take, hl, Nat.min_eq_left ht] at this
      omega
  unfold ptsCutText ptsCutPos
  rw [List.length_append, List.length_append, hr, hs, hm]
  omega

/-- PTS, everything from the text: valid fixed-width text, any valid token-boundary cut — the oracle predicate evaluated on
    the BYTE LENGTHS of the complete text and of the cut text and on the model's verdict is true -/
theorem large_cut_pts_bytes (L : Lex) (fpp : Nat) (ctok : Tok) (pls : List (List Tok))
    (hc : CleanTok ctok) (hclean : ∀ ts ∈ pls, ∀ t ∈ ts, CleanTok t)
    (hx : PtsOk L fpp (mkLine [ctok]) (pls.map mkLine))
    (tw : Nat) (hw : ∀ ts ∈ pls, ∀ x ∈ ts, x.length = tw)
    (j t : Nat) (sp : Bool) (hv : ptsCutValid pls.length fpp j t sp = true) :
    ptsCutOk pls.length fpp (ctok.length + 1) tw (renderLines ([ctok] :: pls)).length j t sp
      (ptsCutText ctok pls j t sp).length (ptsV (readPts L (ptsCutText ctok pls j t sp))) = true := by
  have hv' := hv
  simp only [ptsCutValid, Bool.and_eq_true, decide_eq_true_eq] at hv'
  obtain ⟨⟨h3, htf⟩, hcase⟩ := hv'
  have hf : 0 < fpp := by omega
  have h : ∀ ts ∈ pls, ts.length = fpp ∧ ∀ x ∈ ts, x.length = tw := by
    intro ts hts
    refine ⟨?_, hw ts hts⟩
    have := (hx.2 (mkLine ts) (by simp; exact ⟨ts, hts, rfl⟩)).1
    simpa [mkLine] using this
  have hjn : j ≤ pls.length := by
    by_cases hj : j < pls.length
    · omega
    · rw [if_neg hj] at hcase; simp at hcase; omega
  have hjt : j = pls.length → t = 0 := by
    intro e
    rw [if_neg (by omega)] at hcase; simp at hcase; omega
  have hlenF : (renderLines ([ctok] :: pls)).length = (ctok.length + 1) + pls.length * (fpp * (tw + 1)) := by
    have := renderLines_length_fixed tw fpp hf pls h
    simp only [renderLines, List.flatMap_cons, List.length_append, List.length_cons, List.length_nil, joinSp] at this ⊢
    rw [this]
  have hpos := ptsCutText_length ctok pls tw fpp hf h j t sp hjn htf hjt
  have hle : ptsCutPos (ctok.length + 1) tw fpp j t sp ≤ (ctok.length + 1) + pls.length * (fpp * (tw + 1)) := by
    unfold ptsCutPos
    by_cases hj : j < pls.length
    · rw [if_pos hj] at hcase
      have h1 : (j + 1) * (fpp * (tw + 1)) ≤ pls.length * (fpp * (tw + 1)) := Nat.mul_le_mul_right _ (by omega)
      rw [Nat.succ_mul] at h1
      have h2 : t * (tw + 1) ≤ fpp * (tw + 1) := Nat.mul_le_mul_right _ htf
      cases sp
      · simp only [Bool.false_eq_true, if_false]
        split <;> omega
      · have h4 : 0 < t ∧ t < fpp := by simp at hcase; omega
        have h5 : (t + 1) * (tw + 1) ≤ fpp * (tw + 1) := Nat.mul_le_mul_right _ (by omega)
        rw [Nat.succ_mul] at h5
        simp only [if_true]
        split <;> omega
    · have e : j = pls.length := by omega
      have ht0 := hjt e
      rw [if_neg hj] at hcase
      have hsp : sp = false := by simp at hcase; exact hcase.2
      subst hsp; subst ht0; subst e
      simp
  rw [large_cut_pts_verdict L fpp ctok pls hc hclean hx j t sp hv, hlenF, hpos]
  simp [ptsCutOk, hv, hle]

/-- face records of a triangle mesh with ONE list property (the writer's `vertex_indices`): count field + 3 entries each -/
theorem encFaces_length_triangles (be : Bool) (f : FaceHdr) (p : ListProp) (hl : f.lists = [p])
    (fs : List (List ListInst)) (hok : ∀ y ∈ fs, FaceOk f y) (htri : ∀ y ∈ fs, ∀ a ∈ y, a.1 = 3) :
    (encFaces be f fs).length = fs.length * (p.countSize + 3 * p.elemSize) := by
  unfold encFaces
  induction fs with
  | nil => simp
  | cons y fs ih =>
    have ih' := ih (fun z hz => hok z (List.mem_cons_of_mem _ hz)) (fun z hz => htri z (List.mem_cons_of_mem _ hz))
    have hy := (hok y (by simp)).1
    rw [hl] at hy ih' ⊢
    have h1 : (encLists be [p] y).length = p.countSize + 3 * p.elemSize := by
      match y, hy, htri y (by simp) with
      | [a], hy, h3 =>
        simp only [ListsOk] at hy
        have ha := h3 a (by simp)
        have hc := encCount_length be p a hy.1
        rw [ha] at hc
        simp only [encLists, encList, List.append_nil, List.length_append, hy.1.2, ha, hc]
      | [], hy, _ => simp [ListsOk] at hy
      | _ :: _ :: _, hy, _ => simp [ListsOk] at hy
    simp only [List.flatMap_cons, List.length_append, List.length_cons, ih', h1, Nat.add_mul]
    omega

theorem faceBytes_triangles (be : Bool) (h : Hdr) (x : BinFile) (hx : x.ok h) (f : FaceHdr) (p : ListProp)
    (hface : h.face = some f) (hl : f.lists = [p]) (htri : ∀ y ∈ x.fs, ∀ a ∈ y, a.1 = 3) :
    x.faceBytes be h = x.fs.length * (p.countSize + 3 * p.elemSize) := by
  obtain ⟨_, _, _, hf⟩ := hx
  rw [hface] at hf
  unfold BinFile.faceBytes
  rw [hface]
  exact encFaces_length_triangles be f p hl x.fs hf.2 htri

theorem faceBytes_cloud (be : Bool) (h : Hdr) (x : BinFile) (hface : h.face = none) : x.faceBytes be h = 0 := by
  unfold BinFile.faceBytes; rw [hface]; rfl

/-! ## non-vacuity, and the two seeded large-file defects as instances of the compiled predicates -/

/-- a valid two-point PTS text ("2", then two lines "1 2 3") in the shape the PTS theorems quantify over; the cut after
    one whole line (with its LF) is a valid large-file cut description and is rejected, the complete text is accepted -/
example : PtsOk goLex 3 (mkLine [[50]]) ([[[49], [50], [51]], [[49], [50], [51]]].map mkLine) ∧
    CleanTok [50] ∧ ptsCutValid 2 3 1 0 false = true ∧ ptsVerdict 2 3 1 0 = none ∧
    ptsCutValid 2 3 2 0 false = true ∧ ptsVerdict 2 3 2 0 = some 2 ∧ ptsVerdict 2 3 1 3 = some 2 := by
  refine ⟨⟨by decide, ?_⟩, ⟨by decide, by decide⟩, by decide, by decide, by decide, by decide, by decide⟩
  intro l hl
  simp only [List.map_cons, List.map_nil, List.mem_cons, List.not_mem_nil, or_false, or_self] at hl
  subst hl; exact ⟨by decide, by decide, by decide⟩

/-- seeded C14-m16 (batched STL read accepts a clean EOF at a batch boundary): 131092 triangles cut at byte
    84 + 50·65536 answered `ok:65536` — the predicate is false; the verdict the theorems give is an error -/
example : stlCutOk 131092 6554684 3276884 (some 65536) = false ∧ stlCutOk 131092 6554684 3276884 none = true ∧
    stlCutOk 131092 6554684 6554684 (some 131092) = true := by decide

/-- seeded C14-m17 (PTS completeness check against the capped allocation hint): 131101 declared points of 7 fields cut
    after 100000 whole lines (the last without its LF) answered `ok:100000` — false; an error is what is proved -/
example : ptsCutOk 131101 7 7 7 7341663 99999 7 false 5600006 (some 100000) = false ∧
    ptsCutOk 131101 7 7 7 7341663 99999 7 false 5600006 none = true ∧
    ptsCutOk 131101 7 7 7 7341663 131101 0 false 7341663 (some 131101) = true := by decide

example : splatCutOk 131107 4195424 2097152 65536 false = true ∧ splatCutOk 131107 4195424 2097153 65536 true = true ∧
    splatCutOk 131107 4195424 2097152 65535 false = false := by decide

end C14
end PolyVerif
