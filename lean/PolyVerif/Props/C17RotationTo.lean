/-
  C17 — the nearly parallel branch of `quaternion.RotationTo` (regenerated, Gen/Transform.lean):
  directions with (`a·b > 0.999999`).  The source returns the identity quaternion there; so `a` is mapped onto ITSELF, which
  is `b` only up to the snap angle.  Both facts as theorems: the image is `a`, and for unit `a`, `b` its squared
  distance to `b` is below `2·(1 − threshold)` (< 2.0000000001e-6, i.e. |image − b| < 1.42e-3).  Together with
  `quat_rotationTo_generic` and `quat_rotationTo_antiparallel` every branch of the function is covered by a theorem.
-/
import PolyVerif.Props.C17

namespace PolyVerif
namespace C17
open Gen Gen.quaternion

/-- nearly parallel branch: the result is the identity quaternion `(0, 0, 0; 1)` -/
theorem quat_rotationTo_parallel_is_identity (a b : P3) (hd : rotThreshold < a.Dot b) :
    RotationTo a b = quaternion.New V3.Zero 1 := by
  have e2 : ((9007190247541737 : ℕ) : ℝ) / ((9007199254740992 : ℕ) : ℝ) < a.Dot b := by
    simpa [rotThreshold] using hd
  have e1 : ¬ (a.Dot b < -((9007190247541737 : ℕ) : ℝ) / ((9007199254740992 : ℕ) : ℝ)) := by
    have : -((9007190247541737 : ℕ) : ℝ) / ((9007199254740992 : ℕ) : ℝ) < 0 := by norm_num
    linarith [show (0 : ℝ) < a.Dot b from lt_trans (by norm_num) e2]
  unfold RotationTo
  simp only [RS.lit_eq, decide_eq_true_eq, neg_div', e1, e2, if_false, if_true]
  simp

/-- nearly parallel branch: `a` is mapped onto itself, and (unit `a`, `b`) that is within the snap distance of `b`:
    `|image − b|² < 2·(1 − threshold)` -/
theorem quat_rotationTo_parallel (a b : P3) (ha : a.Dot a = 1) (hb : b.Dot b = 1) (hd : rotThreshold < a.Dot b) :
    (RotationTo a b).Rotate a = a ∧
    (((RotationTo a b).Rotate a).Sub b).Dot (((RotationTo a b).Rotate a).Sub b) < 2 * (1 - rotThreshold) := by
  have hid : (RotationTo a b).Rotate a = a := by
    rw [quat_rotationTo_parallel_is_identity a b hd]
    have : (quaternion.New (V3.Zero : P3) 1 : Q) = quaternion.Identity := by
      simp [quaternion.New, quaternion.Identity]
    rw [this, quat_identity_rotate]
  refine ⟨hid, ?_⟩
  -- |a − b|² = a·a − 2 a·b + b·b = 2 − 2 a·b
  have e : (a.Sub b).Dot (a.Sub b) = a.Dot a - 2 * a.Dot b + b.Dot b := by
    simp only [V3.Dot, V3.Sub]; ring
  rw [hid, e, ha, hb]
  linarith

/-- the snap bound in numbers: `2·(1 − threshold) < 2.0000000001e-6` -/
theorem rotThreshold_snap : 2 * (1 - rotThreshold) < 20000000001 / 10000000000000000 := by
  unfold rotThreshold; norm_num

/-! non-vacuity: two unit directions 2e-4 rad apart fall into this branch -/
example : rotThreshold < (⟨1, 0, 0⟩ : P3).Dot ⟨1, 0, 0⟩ := by simp [V3.Dot, rotThreshold]; norm_num
example : (⟨(99999999 : ℝ) / 100000001, (20000 : ℝ) / 100000001, 0⟩ : P3).Dot ⟨(99999999 : ℝ) / 100000001, (20000 : ℝ) / 100000001, 0⟩ = 1 ∧
    rotThreshold < (⟨1, 0, 0⟩ : P3).Dot ⟨(99999999 : ℝ) / 100000001, (20000 : ℝ) / 100000001, 0⟩ := by
  constructor
  · simp [V3.Dot]; norm_num
  · simp [V3.Dot, rotThreshold]; norm_num

end C17
end PolyVerif
