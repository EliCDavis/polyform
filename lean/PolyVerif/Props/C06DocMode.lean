/-
  C06 — the mode / index-count rule at DOCUMENT level, exactly: every glTF mesh of the written document is
  referenced by a node, nodes of meshes pair with the visible models, hence `docModeCountOK w.doc` (what a validator checks
  without knowing the scene) ⇔ every visible model's own index count fits its topology (`PMesh.indexCountFits`).
-/
import PolyVerif.Props.C06Topo
import PolyVerif.Props.C06Glb
import PolyVerif.Model.GltfShape

namespace PolyVerif
namespace C06
open Gltf

/-- every glTF mesh is referenced by a node -/
def MeshUsed (w : W) : Prop := ∀ mi, mi < w.meshes.length → ∃ n ∈ w.nodes, n.mesh = some mi

theorem addMesh_meshes (w : W) (name : String) (id : Nat) (m : PMesh) (mat : Option Nat) :
    (addMesh w name id m mat).1.meshes = w.meshes
    ∨ ((addMesh w name id m mat).1.meshes.length = w.meshes.length + 1
        ∧ (addMesh w name id m mat).2 = some w.meshes.length) := by
  rcases addMesh_ok w name id m mat with ⟨_, e⟩ | ⟨_, i, _, e⟩ | ⟨_, _, d, _, k, e⟩ <;> rw [e]
  · exact Or.inl rfl
  · exact Or.inl rfl
  · exact Or.inr ⟨by simp [show d.1.meshes = w.meshes from (congrArg W.meshes k :)], rfl⟩

theorem addModel_meshUsed (s : Scene) (w w' : W) (md : Model) (hw : MeshUsed w) (h : addModel s w md = .ok w') :
    MeshUsed w' := by
  obtain ⟨id, m, _, _, ⟨_, rfl⟩ | ⟨_, _, r, mi, hr, hmi, rfl⟩⟩ := addModel_ok h
  · exact hw
  · have k := noMat_addModelMaterial hr
    have em1 : r.1.meshes = w.meshes := (congrArg W.meshes k :)
    have en2 : (addMesh r.1 md.name id m r.2).1.nodes = w.nodes :=
      (congrArg W.nodes (noMesh_addMesh r.1 md.name id m r.2) :).trans (congrArg W.nodes k :)
    have hcases := addMesh_meshes r.1 md.name id m r.2
    have k3 := noInst_addInstances (addMesh r.1 md.name id m r.2).1 md.instances
    generalize addMesh r.1 md.name id m r.2 = A at hmi en2 hcases k3 ⊢
    generalize addInstances A.1 md.instances = I at k3 ⊢
    have em3 : I.1.meshes = A.1.meshes := (congrArg W.meshes k3 :)
    have en3 : I.1.nodes = A.1.nodes := (congrArg W.nodes k3 :)
    intro j hj
    have hj' : j < A.1.meshes.length := by rw [← em3]; exact hj
    show ∃ n ∈ I.1.nodes ++ [modelNode md mi I.2], n.mesh = some j
    rw [en3, en2]
    simp only [List.mem_append, List.mem_singleton]
    rcases hcases with heq | ⟨hlen, hidx⟩
    · rw [heq, em1] at hj'
      obtain ⟨n, hn, hnm⟩ := hw j hj'
      exact ⟨n, Or.inl hn, hnm⟩
    · rw [hlen, em1] at hj'
      rw [hmi, em1] at hidx
      injection hidx with hidx
      by_cases hlt : j < w.meshes.length
      · obtain ⟨n, hn, hnm⟩ := hw j hlt
        exact ⟨n, Or.inl hn, hnm⟩
      · have : j = mi := by omega
        exact ⟨_, Or.inr rfl, by simp [modelNode, this]⟩

/-- every glTF mesh of the written document is referenced by one of the nodes that carry the visible models -/
theorem scene_meshUsed (s : Scene) (w : W) (hs : SceneOK s) (h : writeScene s = .ok w) :
    ∀ mi, mi < w.meshes.length → ∃ n ∈ w.nodes.take s.visible.length, n.mesh = some mi := by
  obtain ⟨w0, ln, N⟩ := scene_nodes s w hs h
  have hu : MeshUsed w0 := addModels_ind (fun w w' md _ hw h => addModel_meshUsed s w w' md hw h) _ _ _ (fun _ h => h)
    (fun mi hmi => by simp at hmi) N.models
  intro mi hmi
  rw [N.meshes] at hmi
  obtain ⟨n, hnn, hnm⟩ := hu mi hmi
  exact ⟨n, by rw [N.nodes, zip_length N.carried, List.take_left' rfl]; exact hnn, hnm⟩

/-- DOCUMENT LEVEL, EXACTLY.  For every well-formed scene the writer accepts: every indexed primitive of the written document
    has a number of indices compatible with its drawing mode (`docModeCountOK`, the glTF mode / index-count rule, checked on
    the document alone) IFF every visible model's own index count fits its topology (3k indices for triangles, 2k for lines, at least two for
    loops / strips). -/
theorem gltf_doc_mode_count_iff (s : Scene) (w : W) (hs : SceneOK s) (h : writeScene s = .ok w) :
    docModeCountOK w.doc = true ↔
      ∀ md ∈ s.visible, ∀ m, s.meshOf md = some m → m.indexCountFits = true := by
  refine ⟨gltf_doc_mode_count_imp s w hs h, fun hall => ?_⟩
  have hz := scene_zip_carries s w hs h
  unfold docModeCountOK
  rw [List.all_eq_true]
  intro gm hgm
  obtain ⟨mi, hmi, hget⟩ := List.getElem_of_mem hgm
  obtain ⟨n, hn, hnm⟩ := scene_meshUsed s w hs h mi hmi
  obtain ⟨md, hmd, hc⟩ := zip_mem_right hz n hn
  obtain ⟨m, p, idx, hm, hp, hmode, hidx, _, ⟨x, hx, hcount⟩, _⟩ := carries_nodePrim hc
  have hgm' : w.doc.meshes[mi]? = some gm := by
    rw [List.getElem?_eq_getElem hmi, hget]
  -- the node's primitive is the primitive of `gm`
  have hprims : gm.prims = [p] := by
    unfold nodePrim at hp
    simp only [hm, hnm, hgm'] at hp
    split at hp
    · rename_i p' hp'
      injection hp with hp; injection hp with _ hp; subst hp; exact hp'
    · cases hp
  rw [hprims]
  simp only [List.all_cons, List.all_nil, Bool.and_true, hidx, hx, hmode, hcount]
  exact hall md hmd m hm

/-- WriteBinary END TO END.  For every well-formed scene the writer accepts and whatever JSON text it serialises the
    document to (file < 4 GiB): an independent GLB reader gets back the JSON text (plus blank padding) and a BIN payload whose
    first `buffers[0].byteLength` bytes are exactly the buffer all accessor statements (`valid`, `carriesScene`) are about; a
    document without buffer comes with no BIN chunk. -/
theorem glb_carries_buffer (s : Scene) (w : W) (hs : SceneOK s) (h : writeScene s = .ok w) (json : List UInt8)
    (hsz : (glbFrame json w.buf).length < 2 ^ 32) :
    ∃ j b, glbParse (glbFrame json w.buf) = some (j, b) ∧ j.take json.length = json
      ∧ (match w.doc.bufLen with
         | some n => b.take n = w.buf ∧ n = w.buf.length
         | none => b = [] ∧ w.buf = []) := by
  refine ⟨_, _, glb_parse_write json w.buf hsz, List.take_left' rfl, ?_⟩
  rcases bufLen_cases (scene_inv s w hs h) with ⟨hb, e⟩ | ⟨_, e⟩ <;> rw [e]
  · simp [hb, pad4]
  · exact ⟨List.take_left' rfl, rfl⟩

theorem viewsTile_of_tiles : ∀ (vs : List View) (o e : Nat), Tiles o vs e → viewsTile o vs e = true
  | [], o, e, h => by simpa [viewsTile, Tiles] using h
  | v :: r, o, e, h => by
    simp only [viewsTile, Bool.and_eq_true, beq_iff_eq]
    exact ⟨h.1, viewsTile_of_tiles r _ e h.2⟩

/-- SHAPE.  For every well-formed scene the writer accepts — of any size — the buffer views tile [0, byteLength) back to
    back, there is one view per accessor, and accessor k reads view k and fills it exactly. -/
theorem gltf_shape_ok (s : Scene) (w : W) (hs : SceneOK s) (h : writeScene s = .ok w) : shapeOK w.doc = true := by
  have hi := scene_inv s w hs h
  unfold shapeOK
  simp only [Bool.and_eq_true]
  refine ⟨⟨?_, ?_⟩, ?_⟩
  · have : w.doc.bufLen.getD 0 = w.buf.length := by
      rcases bufLen_cases hi with ⟨hb, e⟩ | ⟨_, e⟩ <;> rw [e]
      · simp [hb]
      · rfl
    rw [this]
    exact viewsTile_of_tiles w.views 0 _ hi.tiles
  · show (w.accessors.length == w.views.length) = true
    simp [hi.len]
  · rw [List.all_eq_true]
    intro k hk
    have hk' : k < w.accessors.length := by
      have : k < w.doc.accessors.length := by simpa using hk
      exact this
    have hkv : k < w.views.length := by rw [← hi.len]; exact hk'
    have ha : w.doc.accessors[k]? = some w.accessors[k] := List.getElem?_eq_getElem hk'
    have hv : w.doc.views[k]? = some w.views[k] := List.getElem?_eq_getElem hkv
    have hown := hi.own k hk'
    have hacc := hi.accs w.accessors[k] (List.getElem_mem hk')
    unfold accOK at hacc
    rw [hown, List.getElem?_eq_getElem hkv] at hacc
    simp only [ha, hv, Bool.and_eq_true, beq_iff_eq]
    refine ⟨hown, ?_⟩
    split at hacc
    · rename_i v d hv' hd
      injection hv' with hv'; subst hv'
      simp only [Bool.and_eq_true, beq_iff_eq] at hacc
      exact hacc.1
    · cases hacc

end C06
end PolyVerif
