/-
  C04 — the composed round trip for the binary encodings (little- and big-endian).

  Interface: the parsed header.  The theorems are about `readBody c defaultReader (writeHeader cfg m) body` where
  `writeBody c cfg m = .ok body`, i.e. everything `MeshReader.Read` does after `ReadHeader` has returned, run on
  everything `MeshWriter.Write` emits after the header.  The header TEXT round trip
  (`parseHeader ((writeHeader cfg m).render ++ body) = .ok (writeHeader cfg m, body)`) and the theorems from file bytes
  are in `Props/C04Header.lean`.
-/
import PolyVerif.Model.Ply
import PolyVerif.Lemmas.Ply
import PolyVerif.Lemmas.PlyCompose
import PolyVerif.Lemmas.PlyNames
import PolyVerif.Lemmas.PlyUV
import PolyVerif.Lemmas.PlyClaim

namespace PolyVerif
namespace C04
open Ply PlyLemmas PlyCompose PlyHeader PlyClaim

variable {α : Type}

/-- STAGES 1+2 (vertex loop and face loop), with and without per-corner texture coordinates, for ANY located readers:
reading back a written binary body yields exactly these arrays (the stored-precision image `quantBin` of every
component each reader claims, vertex by vertex) and exactly this index list and per-corner UV list (the float32 images
of the three corners' coordinates), before mesh assembly. -/
theorem ply_readback_arrays_binary (c : Coding α) (cfg : WriterCfg) (m : MeshVal α) (body : Bytes)
    (hf : cfg.format ≠ .ascii) (hwf : m.WF = true) (h : writeBody c cfg m = .ok body)
    (bl : List (Built × List Nat))
    (hbuilt : bl.map (·.1) = buildAll true (headerProps (selectWriters cfg m)) defaultReaders true)
    (hloc : ∀ p ∈ bl, Located (writerTypes (selectWriters cfg m)) p.1 p.2) :
    ∃ (recs : List (List α)),
      (List.range m.attrLen).mapM (vertexRecord m (selectWriters cfg m)) = .ok recs ∧
      (m.topo ≠ .triangle →
        readBody c defaultReader (writeHeader cfg m) body
          = assemble (bl.map (·.1)) m.attrLen (recs.map (rowOfW c (writerTypes (selectWriters cfg m)) bl)) none) ∧
      (m.topo = .triangle → ∃ tris fs, chunk3 m.indices = some tris ∧ faceRecords m tris = .ok fs ∧
        readBody c defaultReader (writeHeader cfg m) body
          = assemble (bl.map (·.1)) m.attrLen (recs.map (rowOfW c (writerTypes (selectWriters cfg m)) bl))
              (some ((fs.map faceIdx).flatten, (fs.map (faceUV c)).flatten))) :=
  readBody_writeBody_arrays c cfg m body hf hwf h bl hbuilt hloc

/-- THE COMPOSED ROUND TRIP, binary encodings, every writer configuration, every well-formed point cloud or triangle
mesh, WITH OR WITHOUT per-corner texture coordinates: what the reader makes of what the writer wrote satisfies `RoundTrips` —
the SAME predicate the `c04.holds.roundtrip` oracle evaluates: same topology, same primitive count, and at every
primitive corner every attribute the configuration writes under names the reader recognises carries the stored-precision
image (`quant`) of the original value.

Guards, all explicit: binary format; `m.WF`; `writeBody` succeeded (implemented scalar types); a point cloud's index buffer is `0..n-1` (the writer does not store it);
fewer than 2³¹ vertices (indices are written as int32); and `ClaimOK` (that the header's property names are single
words and pairwise distinct is not a hypothesis: `writeBody … = .ok` implies it, the writer rejects anything else):
the claim stage, as witnesses — every reader `defaultReader` builds on this header is located where its names are, and
every recognised writer has its reader, the last one with its key. -/
theorem ply_roundtrip_binary_partial [BEq α] [LawfulBEq α] (c : Coding α) (cfg : WriterCfg) (m : MeshVal α) (body : Bytes)
    (hf : cfg.format ≠ .ascii) (hwf : m.WF = true) (h : writeBody c cfg m = .ok body)
    (hpoint : m.topo = .point → m.indices = (List.range m.attrLen).map Int.ofNat)
    (hsize : m.attrLen ≤ 2 ^ 31)
    (bl : List (Built × List Nat)) (hcl : ClaimOK cfg m bl) :
    ∃ back, readBody c defaultReader (writeHeader cfg m) body = .ok back ∧ RoundTrips c cfg m back = true :=
  readback_bin c cfg m body hf hwf h hpoint hsize bl hcl

/-- the per-corner UV path on its own: a triangle mesh WITH `TexCoord` is written with a `texcoord` list of six floats per
face (the three corners' UVs looked up through the index buffer); the reader collects them, unwelds the mesh — every corner
becomes its own vertex carrying the stored-precision image of the welded source vertex' attributes — and attaches the
float32 images of the corners' UVs as `TexCoord` -/
theorem ply_roundtrip_binary_uv [BEq α] [LawfulBEq α] (c : Coding α) (cfg : WriterCfg) (m : MeshVal α) (body : Bytes)
    (hf : cfg.format ≠ .ascii) (hwf : m.WF = true) (h : writeBody c cfg m = .ok body)
    (htri : m.topo = .triangle) (htc : hasTexCoord m = true) (hsize : m.attrLen ≤ 2 ^ 31)
    (bl : List (Built × List Nat)) (hcl : ClaimOK cfg m bl) :
    ∃ back, readBody c defaultReader (writeHeader cfg m) body = .ok back ∧ RoundTrips c cfg m back = true :=
  ply_roundtrip_binary_partial c cfg m body hf hwf h (fun hp => by rw [htri] at hp; cases hp) hsize bl hcl

/-- the same with the claim-stage guard as a DECIDABLE certificate: `claimCheck cfg m` runs the claim function on the
header the writer emits, locates every built reader by name lookup and checks everything `ClaimOK` asks for
(`claimCheck_sound`).  For a concrete configuration and attribute set the hypothesis is discharged by `decide`. -/
theorem ply_roundtrip_binary_checked [BEq α] [LawfulBEq α] (c : Coding α) (cfg : WriterCfg) (m : MeshVal α) (body : Bytes)
    (hf : cfg.format ≠ .ascii) (hwf : m.WF = true) (h : writeBody c cfg m = .ok body)
    (hpoint : m.topo = .point → m.indices = (List.range m.attrLen).map Int.ofNat)
    (hsize : m.attrLen ≤ 2 ^ 31)
    (hcheck : (claimCheck cfg m).isSome = true) :
    ∃ back, readBody c defaultReader (writeHeader cfg m) body = .ok back ∧ RoundTrips c cfg m back = true := by
  obtain ⟨bl, hbl⟩ := Option.isSome_iff_exists.mp hcheck
  exact ply_roundtrip_binary_partial c cfg m body hf hwf h hpoint hsize bl (claimCheck_sound cfg m bl hbl)

/-- a successful write, named by its own result (the `example`s speak of `(write …).toOption.getD []`) -/
theorem ok_getD (r : R Bytes) (h : r.toOption.isSome = true) : r = .ok (r.toOption.getD []) := by
  cases r <;> simp_all [Except.toOption]

/-! non-vacuity: a welded triangle mesh with positions, 8-bit colours and a user scalar, default writer, big-endian;
and a point cloud written by a custom configuration (double positions under `px py pz`, renamed scalar).  The closed
evaluations on these meshes are stated once, here, and shared by the examples of the modules that follow. -/

def exMesh : MeshVal Nat :=
  ⟨.triangle, [2, 0, 1, 1, 0, 3],
   [⟨3, positionAttr, [[1, 2, 3], [4, 5, 6], [7, 8, 9], [10, 11, 12]]⟩,
    ⟨3, colorAttr, [[0, 1, 0], [1, 1, 0], [0, 0, 1], [1, 0, 1]]⟩,
    ⟨1, nm "quality", [[5], [6], [7], [8]]⟩], none⟩

theorem exMesh_wf : exMesh.WF = true := by decide +kernel

theorem exMesh_check : (claimCheck (defaultWriter .be) exMesh).isSome = true := by decide +kernel

theorem exMesh_body : writeBody toyCoding (defaultWriter .be) exMesh
    = .ok ((writeBody toyCoding (defaultWriter .be) exMesh).toOption.getD []) := ok_getD _ (by decide +kernel)

example : ∃ back, readBody toyCoding defaultReader (writeHeader (defaultWriter .be) exMesh)
      ((writeBody toyCoding (defaultWriter .be) exMesh).toOption.getD []) = .ok back ∧
    RoundTrips toyCoding (defaultWriter .be) exMesh back = true :=
  ply_roundtrip_binary_checked toyCoding (defaultWriter .be) exMesh _ (by decide +kernel) exMesh_wf exMesh_body (by decide +kernel)
    (by decide +kernel) exMesh_check

def exCloud : MeshVal Nat :=
  ⟨.point, [0, 1], [⟨3, positionAttr, [[1, 2, 3], [4, 5, 6]]⟩, ⟨1, nm "q", [[5], [6]]⟩], none⟩

def exCfg : WriterCfg := ⟨.le, [⟨nm "q", [nm "q"], .int⟩, ⟨positionAttr, [nm "px", nm "py", nm "pz"], .double⟩], false⟩

theorem exCloud_wf : exCloud.WF = true := by decide +kernel

theorem exCloud_check : (claimCheck exCfg exCloud).isSome = true := by decide +kernel

theorem exCloud_body : writeBody toyCoding exCfg exCloud = .ok ((writeBody toyCoding exCfg exCloud).toOption.getD []) :=
  ok_getD _ (by decide +kernel)

example : ∃ back, readBody toyCoding defaultReader (writeHeader exCfg exCloud)
      ((writeBody toyCoding exCfg exCloud).toOption.getD []) = .ok back ∧ RoundTrips toyCoding exCfg exCloud back = true :=
  ply_roundtrip_binary_checked toyCoding exCfg exCloud _ (by decide +kernel) exCloud_wf exCloud_body (by decide +kernel)
    (by decide +kernel) exCloud_check

/-! ### the reader-construction step (`PropertyReader.build*`) -/

/-- a 2/3/4-vector reader all of whose component names are in the header (pairwise distinct names, one scalar type) IS
built, with that type, located at its components' header positions — for any header order -/
theorem ply_reader_built_all (binary : Bool) (props : List (Bytes × SType)) (r : RProp) (hlen : 2 ≤ r.names.length)
    (hn : r.names.Nodup) (hnd : (props.map (·.1)).Nodup) (t : SType) (idx : List Nat)
    (hl : idx.length = r.names.length)
    (hidx : ∀ k (hk : k < r.names.length), ∃ hi : idx[k]'(by omega) < props.length, props[idx[k]'(by omega)] = (r.names[k], t)) :
    buildReader binary props r = some ⟨r.attr, r.names, idx.map (locOf binary props), some t⟩ :=
  buildReader_all binary props r hlen hn hnd t idx hl hidx

/-- THE IGNORABLE-W FALLBACK (colours without alpha: what the default writer emits for `Color`): `red green blue` present
with one type, `alpha` ABSENT ⇒ the 4-vector reader is not built and the 3-vector reader over the first three names is,
located at their header positions (reader_vector4.go; corpus case `c04.holds.alpha_next_to_color`). -/
theorem ply_color_fallback_reader (binary : Bool) (props : List (Bytes × SType)) (r : RProp) (hlen : r.names.length = 4)
    (hign : r.ignorableW = true) (hn : r.names.Nodup) (hnd : (props.map (·.1)).Nodup) (t : SType) (idx : List Nat)
    (hl : idx.length = 3)
    (hidx : ∀ k (hk : k < 3), ∃ hi : idx[k]'(by omega) < props.length,
      props[idx[k]'(by omega)] = (r.names[k]'(by omega), t))
    (habs : ∀ p ∈ props, p.1 ≠ r.names[3]'(by omega)) :
    buildReader binary props r = some ⟨r.attr, r.names.take 3, idx.map (locOf binary props), some t⟩ :=
  buildReader_fallback binary props r hlen hign hn hnd t idx hl hidx habs

example : buildReader true [(nm "x", .float), (nm "blue", .uchar), (nm "red", .uchar), (nm "green", .uchar)]
    ⟨colorAttr, [nm "red", nm "green", nm "blue", nm "alpha"], true⟩
    = some ⟨colorAttr, [nm "red", nm "green", nm "blue"], [5, 6, 4], some .uchar⟩ := by decide +kernel

/-- the same fallback applies when `alpha` is present under ANOTHER type (user scalar "alpha" next to the
default writer's uchar colours): the 4-vector is not claimed, the uchar 3-vector is, `alpha` stays a scalar -/
example : buildReader true [(nm "red", .uchar), (nm "green", .uchar), (nm "blue", .uchar), (nm "alpha", .float)]
    ⟨colorAttr, [nm "red", nm "green", nm "blue", nm "alpha"], true⟩
    = some ⟨colorAttr, [nm "red", nm "green", nm "blue"], [0, 1, 2], some .uchar⟩ := by decide +kernel

/-- a welded, UV-mapped quad (two triangles sharing an edge, one unreferenced vertex): the per-corner path -/
def exUV : MeshVal Nat :=
  ⟨.triangle, [0, 1, 2, 2, 1, 3],
   [⟨3, positionAttr, [[1, 2, 3], [4, 5, 6], [7, 8, 9], [10, 11, 12], [13, 14, 15]]⟩,
    ⟨2, texCoordAttr, [[0, 0], [1, 0], [0, 1], [1, 1], [7, 7]]⟩,
    ⟨3, normalAttr, [[0, 0, 1], [0, 0, 1], [0, 0, 1], [0, 0, 1], [0, 1, 0]]⟩], none⟩

theorem exUV_wf : exUV.WF = true := by decide +kernel

theorem exUV_check : (claimCheck (defaultWriter .le) exUV).isSome = true := by decide +kernel

theorem exUV_body : writeBody toyCoding (defaultWriter .le) exUV
    = .ok ((writeBody toyCoding (defaultWriter .le) exUV).toOption.getD []) := ok_getD _ (by decide +kernel)

example : ∃ back, readBody toyCoding defaultReader (writeHeader (defaultWriter .le) exUV)
      ((writeBody toyCoding (defaultWriter .le) exUV).toOption.getD []) = .ok back ∧
    RoundTrips toyCoding (defaultWriter .le) exUV back = true :=
  ply_roundtrip_binary_checked toyCoding (defaultWriter .le) exUV _ (by decide +kernel) exUV_wf exUV_body (by decide +kernel)
    (by decide +kernel) exUV_check

/-- the rejected branch: a name with a blank, and a name used twice (user scalar `x` next to Position), make the write
fail — nothing unreadable is produced -/
example : writeBody toyCoding (defaultWriter .le)
    ⟨.point, [0], [⟨3, positionAttr, [[1, 2, 3]]⟩, ⟨1, nm "my attr", [[5]]⟩], none⟩ = .error .err := by decide +kernel
example : writeBody toyCoding (defaultWriter .le)
    ⟨.point, [0], [⟨3, positionAttr, [[1, 2, 3]]⟩, ⟨1, nm "x", [[5]]⟩], none⟩ = .error .err := by decide +kernel

end C04
end PolyVerif
