/-
  C04 — the CLAIM STAGE derived from a header-level guard; the binary round trip from file bytes WITHOUT a claim hypothesis.

  `MeshReader.Read` decides from the header alone which property readers it builds (reader.go:386-440, 458-512;
  reader_vector{1..4}.go `build{Binary,Ascii}`): model `Ply.buildAll`.  The composed round-trip theorems of
  `C04Compose` / `C04Header` take the outcome of that stage as witnesses (`ClaimOK`) or as a certificate run on the
  concrete header (`claimCheck`).  Here it is a THEOREM for every writer configuration and every mesh inside
  `Ply.claimGuard (selectWriters cfg m)` — a decidable predicate on the property NAMES the writers emit, grouped by
  writer, that does not run the claim function (Model/PlyClaim.lean):

  1. every entry of `defaultReader.Properties` is predictable: a vector reader either has ALL its names written by ONE
     writer, or (IgnorableW: `red green blue [alpha]`, `r g b [a]`, `diffuse_*`) its first three names written by one
     writer with the fourth name harmless — absent from the header, or written LATER with ANOTHER type (the reader then
     falls back to the 3-vector, fix 8c2f8cb) —, or a name it needs is absent from the header;
  2. no two predicted claims land on the same (dimension, attribute);
  3. no property is named like the attribute of a claimed scalar reader (`Opacity` next to `opacity`).
  What the guard excludes is exactly the known-finding classes: a recognised group completed by properties of several
  writers (C04-w-name-before-group-other-type, C04-w-name-captured-by-group, user scalars `px py pz` …) and two writers
  for one attribute.  Tie: the driver evaluates `Ply.claimAgrees` — these very definitions — on the header of every
  file the real writer emits (oracle `c04.holds.claim_ok`).
-/
import PolyVerif.Model.Ply
import PolyVerif.Model.PlyClaim
import PolyVerif.Lemmas.Ply
import PolyVerif.Lemmas.PlyCompose
import PolyVerif.Lemmas.PlyNames
import PolyVerif.Lemmas.PlyClaim
import PolyVerif.Props.C04Compose
import PolyVerif.Props.C04Header

namespace PolyVerif
namespace C04
open Ply PlyLemmas PlyHeader PlyCompose PlyClaim

variable {α : Type}

/-- the reader list `buildAll` produces on the written header, each reader paired with the header positions of its names -/
def claimedOf (cfg : WriterCfg) (m : MeshVal α) : List (Built × List Nat) :=
  (buildAll true (headerProps (selectWriters cfg m)) defaultReaders true).map
    (fun b => (b, b.names.map (posOf (headerProps (selectWriters cfg m)))))

/-- ONE DEFAULT READER, inside the guard: `PropertyReader.build*` on the header of the writers `ws` builds exactly the
predicted reader (`expectNames`): all names of one writer / the first three names of an IgnorableW group whose fourth name
is harmless (absent, or later with another type) / the scalar property / nothing — located at the byte offsets of its names' header positions, typed as the writer -/
theorem ply_reader_claims_predicted (ws : List WProp) (hnd : (wsNames ws).Nodup) (hg : claimGuard ws = true)
    (r : RProp) (hr : r ∈ defaultReaders) :
    buildReader true (wsProps ws) r =
      (expectNames ws r).map (fun p =>
        ⟨r.attr, p.1, (p.1.map (posOf (wsProps ws))).map (locOf true (wsProps ws)), some p.2⟩) := by
  obtain ⟨a, b, c⟩ := defaultReaders_shape r hr
  have := buildReader_expect true ws hnd r a b c ((claimGuard_parts ws hg).1 r hr)
  simpa [expectBuilt, tyOf] using this

/-- THE WHOLE READER LIST, inside the guard: every reader `MeshReader.Read` builds on the written header is located where
its names are (one type, byte offsets = Σ sizes before, in header order); no two built readers share a key (so no
`UpdateMesh` overwrites another); every writer whose names the reader recognises has a reader with its attribute and
exactly its names -/
theorem ply_claim_stage (ws : List WProp) (hnd : (wsNames ws).Nodup) (hg : claimGuard ws = true) :
    (∀ b ∈ buildAll true (headerProps ws) defaultReaders true,
        LocatedNamed (headerProps ws) b (b.names.map (posOf (headerProps ws)))) ∧
    ((buildAll true (headerProps ws) defaultReaders true).map Built.key).Nodup ∧
    (∀ w ∈ ws, comesBack w = true →
      ∃ b ∈ buildAll true (headerProps ws) defaultReaders true, b.attr = w.attr ∧ b.names = w.names) := by
  obtain ⟨h1, h2, h3⟩ := claim_of_guard_ws true ws hnd hg (by simp)
  exact ⟨fun b hb => located_of_good ws hnd b (h1 b hb), h2, h3⟩

/-- THE WHOLE READER LIST, EXACTLY, inside the guard: as (attribute, names, decoding type) the readers `MeshReader.Read`
builds on the written header are `claimSpec ws` — the predicted default readers in the order of
`defaultReader.Properties`, then one scalar reader per property none of them claims, in header order
(which default readers are NOT built, and the exact unclaimed-scalar list, included) -/
theorem ply_claim_stage_exact (ws : List WProp) (hnd : (wsNames ws).Nodup) (hg : claimGuard ws = true) :
    (buildAll true (wsProps ws) defaultReaders true).map (fun b => (b.attr, b.names, b.ty))
      = (claimSpec ws).map (fun x => (x.1, x.2.1, some x.2.2)) :=
  claimSpec_exact ws hnd hg

/-- the predicate of the oracle `c04.holds.claim_ok`, on the header the MODEL writer produces, for every configuration and
mesh whose write succeeds: a theorem (the driver evaluates it on the header the REAL writer produced) -/
theorem ply_claim_oracle_holds (c : Coding α) (cfg : WriterCfg) (m : MeshVal α) (body : Bytes)
    (h : writeBody c cfg m = .ok body) :
    claimAgrees (selectWriters cfg m) (headerProps (selectWriters cfg m)) = true := by
  have hnd := (names_of_writeBody_ok c cfg m body h).2
  rw [← wsProps_eq, wsProps_names] at hnd
  exact claimAgrees_of_guard _ hnd

/-- `ClaimOK` — the claim-stage hypothesis of `ply_roundtrip_binary_partial` / `_uv` / `_bytes` — FROM THE GUARD, for every
configuration and mesh whose write succeeds (a successful write makes the names distinct, writer.go:144-158) -/
theorem ply_claim_ok_from_guard (c : Coding α) (cfg : WriterCfg) (m : MeshVal α) (body : Bytes)
    (h : writeBody c cfg m = .ok body) (hg : claimGuard (selectWriters cfg m) = true) :
    ClaimOK cfg m (claimedOf cfg m) := by
  have hnd := (names_of_writeBody_ok c cfg m body h).2
  rw [← wsProps_eq, wsProps_names] at hnd
  exact claimOK_of_guard cfg m hnd hg

/-- THE COMPOSED ROUND TRIP FROM FILE BYTES, CLOSED (binary encodings): for EVERY writer configuration and every
well-formed mesh, `readMesh (writeMesh cfg m)` satisfies `RoundTrips` — no claim witnesses, no certificate.
Guards: binary format; the header-level guard `claimGuard` on the writers that fire; point clouds with the identity index
buffer (known finding C04-pointcloud-index-buffer); fewer than 2³¹ vertices; printable texture URI. -/
theorem ply_roundtrip_binary_bytes_closed [BEq α] [LawfulBEq α] (c : Coding α) (cfg : WriterCfg) (m : MeshVal α)
    (bytes : Bytes) (hf : cfg.format ≠ .ascii) (hwf : m.WF = true) (h : writeMesh c cfg m = .ok bytes)
    (hg : claimGuard (selectWriters cfg m) = true)
    (hpoint : m.topo = .point → m.indices = (List.range m.attrLen).map Int.ofNat)
    (hsize : m.attrLen ≤ 2 ^ 31) (hidx : m.indices.length < 2 ^ 63)
    (huri : ∀ u, m.texURI = some u → CommentOK (nm "TextureFile " ++ u)) :
    ∃ back, readMesh c defaultReader bytes = .ok back ∧ RoundTrips c cfg m back = true := by
  obtain ⟨body, hbody, _, _⟩ := ply_written_header_parses c cfg m bytes h huri
    (Nat.lt_of_le_of_lt hsize (by decide +kernel)) hidx
  exact ply_roundtrip_binary_bytes c cfg m bytes hf hwf h hpoint hsize hidx huri (claimedOf cfg m)
    (ply_claim_ok_from_guard c cfg m body hbody hg)

/-- the DEFAULT writer (`ply.Write`, write.go), both binary encodings, every well-formed mesh: the closed round trip,
with the guard evaluated on the writers the default configuration fires for this mesh's attributes (default groups for
Position / Normal / Color / FDC / Opacity / Scale / Rotation present in the mesh, `s t` for a point cloud's TexCoord,
`name` / `name_k` floats for everything else) -/
theorem ply_roundtrip_binary_bytes_default_closed [BEq α] [LawfulBEq α] (c : Coding α) (f : Format) (m : MeshVal α)
    (bytes : Bytes) (hf : f ≠ .ascii) (hwf : m.WF = true) (h : writeMesh c (defaultWriter f) m = .ok bytes)
    (hg : claimGuard (selectWriters (defaultWriter f) m) = true)
    (hpoint : m.topo = .point → m.indices = (List.range m.attrLen).map Int.ofNat)
    (hsize : m.attrLen ≤ 2 ^ 31) (hidx : m.indices.length < 2 ^ 63)
    (huri : ∀ u, m.texURI = some u → CommentOK (nm "TextureFile " ++ u)) :
    ∃ back, readMesh c defaultReader bytes = .ok back ∧ RoundTrips c (defaultWriter f) m back = true :=
  ply_roundtrip_binary_bytes_closed c (defaultWriter f) m bytes hf hwf h hg hpoint hsize hidx huri

/-- the parsed-header form (everything `MeshReader.Read` does after `ReadHeader`), closed -/
theorem ply_roundtrip_binary_closed [BEq α] [LawfulBEq α] (c : Coding α) (cfg : WriterCfg) (m : MeshVal α) (body : Bytes)
    (hf : cfg.format ≠ .ascii) (hwf : m.WF = true) (h : writeBody c cfg m = .ok body)
    (hg : claimGuard (selectWriters cfg m) = true)
    (hpoint : m.topo = .point → m.indices = (List.range m.attrLen).map Int.ofNat)
    (hsize : m.attrLen ≤ 2 ^ 31) :
    ∃ back, readBody c defaultReader (writeHeader cfg m) body = .ok back ∧ RoundTrips c cfg m back = true :=
  ply_roundtrip_binary_partial c cfg m body hf hwf h hpoint hsize (claimedOf cfg m)
    (ply_claim_ok_from_guard c cfg m body h hg)

/-- the statement WITHOUT the guard: every successfully written header is claimed as written.  It is FALSE of the code
(`ply_claim_full_false`): the known findings C04-w-name-… are counterexamples. -/
def ply_claim_full : Prop :=
  ∀ (cfg : WriterCfg) (m : MeshVal Nat) (body : Bytes), writeBody toyCoding cfg m = .ok body →
    ∃ bl, ClaimOK cfg m bl

/-! ### non-vacuity: the guard holds for the default writer on a coloured mesh with a user scalar, for a custom
configuration (`px py pz` doubles, renamed scalar), for a UV-mapped quad; it FAILS on the two known-finding witnesses -/

theorem exMesh_guard : claimGuard (selectWriters (defaultWriter .be) exMesh) = true := by decide +kernel
theorem exCloud_guard : claimGuard (selectWriters exCfg exCloud) = true := by decide +kernel

example : claimGuard (selectWriters (defaultWriter .be) exMesh) = true := exMesh_guard
example : claimGuard (selectWriters exCfg exCloud) = true := exCloud_guard
example : claimGuard (selectWriters (defaultWriter .le) exUV) = true := by decide +kernel

/-- the header of `exMesh` under the default writer: `x y z` float, `red green blue` uchar, `quality` float — the predicted
claims are Position (3 names), Color by the IgnorableW fallback (first three names), and nothing else -/
example : defaultReaders.filterMap (fun r => (expectNames (selectWriters (defaultWriter .be) exMesh) r).map (fun p => (r.attr, p.1, p.2)))
    = [(positionAttr, [nm "x", nm "y", nm "z"], .float), (colorAttr, [nm "red", nm "green", nm "blue"], .uchar)] := by decide +kernel

/-- the whole predicted reader list of `exMesh`: Position, Color, then the scalar `quality` -/
example : claimSpec (selectWriters (defaultWriter .be) exMesh)
    = [(positionAttr, [nm "x", nm "y", nm "z"], .float), (colorAttr, [nm "red", nm "green", nm "blue"], .uchar),
       (nm "quality", [nm "quality"], .float)] := by decide +kernel

example : ∃ back, readMesh toyCoding defaultReader ((writeMesh toyCoding (defaultWriter .be) exMesh).toOption.getD [])
      = .ok back ∧ RoundTrips toyCoding (defaultWriter .be) exMesh back = true :=
  ply_roundtrip_binary_bytes_closed toyCoding (defaultWriter .be) exMesh _ (by decide +kernel) exMesh_wf
    (writeMesh_ok _ _ _ _ exMesh_body) exMesh_guard (by decide +kernel) (by decide +kernel) (by decide +kernel) (fun _ hu => nomatch hu)

example : ∃ back, readMesh toyCoding defaultReader ((writeMesh toyCoding exCfg exCloud).toOption.getD [])
      = .ok back ∧ RoundTrips toyCoding exCfg exCloud back = true :=
  ply_roundtrip_binary_bytes_closed toyCoding exCfg exCloud _ (by decide +kernel) exCloud_wf
    (writeMesh_ok _ _ _ _ exCloud_body) exCloud_guard (by decide +kernel) (by decide +kernel) (by decide +kernel) (fun _ hu => nomatch hu)

/-- INSIDE the guard: the default writer on a point cloud with Position, Color and a user scalar named `alpha` — header
`x y z` float, `red green blue` uchar, `alpha` float: the fourth name of the colour group is present, AFTER the group, with
another type; the reader falls back to the 3-vector (fix 8c2f8cb) and `alpha` comes back as a scalar -/
def exAlphaMesh : MeshVal Nat :=
  ⟨.point, [0, 1], [⟨3, positionAttr, [[1, 2, 3], [4, 5, 6]]⟩, ⟨3, colorAttr, [[0, 1, 0], [1, 1, 0]]⟩,
                    ⟨1, nm "alpha", [[5], [6]]⟩], none⟩

theorem exAlphaMesh_guard : claimGuard (selectWriters (defaultWriter .le) exAlphaMesh) = true := by decide +kernel

example : claimGuard (selectWriters (defaultWriter .le) exAlphaMesh) = true := exAlphaMesh_guard

example : claimSpec (selectWriters (defaultWriter .le) exAlphaMesh)
    = [(positionAttr, [nm "x", nm "y", nm "z"], .float), (colorAttr, [nm "red", nm "green", nm "blue"], .uchar),
       (nm "alpha", [nm "alpha"], .float)] := by decide +kernel

example : ∃ back, readMesh toyCoding defaultReader ((writeMesh toyCoding (defaultWriter .le) exAlphaMesh).toOption.getD [])
      = .ok back ∧ RoundTrips toyCoding (defaultWriter .le) exAlphaMesh back = true :=
  ply_roundtrip_binary_bytes_closed toyCoding (defaultWriter .le) exAlphaMesh _ (by decide +kernel) (by decide +kernel) (by rfl)
    exAlphaMesh_guard (by decide +kernel) (by decide +kernel) (by decide +kernel) (fun _ hu => nomatch hu)

/-- known finding C04-w-name-before-group-other-type: scalar `a` (float) written before `r g b` (double) -/
def exWNameCfg : WriterCfg :=
  ⟨.le, [⟨nm "a", [nm "a"], .float⟩, ⟨colorAttr, [nm "r", nm "g", nm "b"], .double⟩,
         ⟨positionAttr, [nm "x", nm "y", nm "z"], .float⟩], false⟩

def exWNameMesh : MeshVal Nat :=
  ⟨.point, [0, 1], [⟨3, positionAttr, [[1, 2, 3], [4, 5, 6]]⟩, ⟨3, colorAttr, [[0, 1, 0], [1, 1, 0]]⟩,
                    ⟨1, nm "a", [[5], [6]]⟩], none⟩

/-- known finding C04-w-name-captured-by-group: `red green blue` float + unspecified float scalar `alpha` -/
def exCapturedCfg : WriterCfg :=
  ⟨.le, [⟨positionAttr, [nm "x", nm "y", nm "z"], .float⟩, ⟨colorAttr, [nm "red", nm "green", nm "blue"], .float⟩], true⟩

def exCapturedMesh : MeshVal Nat :=
  ⟨.point, [0, 1], [⟨3, positionAttr, [[1, 2, 3], [4, 5, 6]]⟩, ⟨3, colorAttr, [[0, 1, 0], [1, 1, 0]]⟩,
                    ⟨1, nm "alpha", [[5], [6]]⟩], none⟩

example : claimGuard (selectWriters exWNameCfg exWNameMesh) = false := by decide +kernel
example : claimGuard (selectWriters exCapturedCfg exCapturedMesh) = false := by decide +kernel

/-- the guard cannot be dropped: on `exCapturedCfg` / `exCapturedMesh` the claim stage does not claim what was written -/
theorem ply_claim_full_false : ¬ ply_claim_full := by
  intro h
  obtain ⟨bl, hcl⟩ := h exCapturedCfg exCapturedMesh ((writeBody toyCoding exCapturedCfg exCapturedMesh).toOption.getD [])
    (by rfl)
  have hb : bl.map (·.1) = buildAll true (headerProps (selectWriters exCapturedCfg exCapturedMesh)) defaultReaders true :=
    hcl.built
  obtain ⟨j, hj, _, hn, _⟩ := hcl.demanded ⟨colorAttr, [nm "red", nm "green", nm "blue"], .float⟩ (by decide +kernel) (by decide +kernel)
  have hmem : bl[j].1 ∈ bl.map (·.1) := List.mem_map.mpr ⟨bl[j], List.getElem_mem hj, rfl⟩
  rw [hb] at hmem
  have hall : ∀ b ∈ buildAll true (headerProps (selectWriters exCapturedCfg exCapturedMesh)) defaultReaders true,
      b.names ≠ [nm "red", nm "green", nm "blue"] := by decide +kernel
  exact hall _ hmem hn

end C04
end PolyVerif
