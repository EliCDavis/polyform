/-
  C19 — exact Euclidean distance (both directions) for the box, the rounded box and the rounded cylinder (every
  outer level set of the core's field is reached at the exact distance), the sphere, and the plane with a
  non-unit normal (a scaled distance, with the exact factor).

  All statements are about the definitions regenerated from /repo/math/sdf (`Gen/Sdf.lean`) at ℝ.
  "Exact" is stated as in `line_exact`: no zero-set point is closer to `p` than
  `|f p|` (this direction is the Lipschitz bound) and SOME zero-set point is at distance exactly `|f p|`.
-/
import PolyVerif.Props.C19
import PolyVerif.Lemmas.SdfExact

namespace PolyVerif
namespace C19
open Gen Gen.sdf Gen.geometry SdfExact

/-- the point at parameter `t` on the ray that starts at the clamp of `p` into the box (`t = 0`) and passes
    through `p` (`t = 1`) -/
noncomputable def boxRay (c b p : P3) (t : ℝ) : P3 :=
  ⟨c.x + rayH (p.x - c.x) (b.x * (1/2)) t, c.y + rayH (p.y - c.y) (b.y * (1/2)) t, c.z + rayH (p.z - c.z) (b.z * (1/2)) t⟩

theorem boxRay_zero (c b p : P3) : boxRay c b p 0 = boxClamp c b p := by
  simp only [boxRay, boxClamp, rayH_zero, clampH]

section
variable (c b : P3)

/-- along that ray the box field grows linearly, at unit speed scaled by the start distance: `Box (ray t) = t · Box p`
    and `|p − ray t| = |1 − t| · Box p`, for `p` outside or on the box -/
theorem box_ray (p : P3) (hx : 0 ≤ b.x) (hy : 0 ≤ b.y) (hz : 0 ≤ b.z) (t : ℝ) (ht : 0 ≤ t)
    (hout : 0 ≤ max (boxQ c b p).x (max (boxQ c b p).y (boxQ c b p).z)) :
    Box c b (boxRay c b p t) = t * Box c b p ∧ p.Distance (boxRay c b p t) = |1 - t| * Box c b p := by
  have hhx : 0 ≤ b.x * (1/2) := by positivity
  have hhy : 0 ≤ b.y * (1/2) := by positivity
  have hhz : 0 ≤ b.z * (1/2) := by positivity
  have hp : Box c b p = Real.sqrt ((max (boxQ c b p).x 0)^2 + (max (boxQ c b p).y 0)^2 + (max (boxQ c b p).z 0)^2) := by
    rw [box_eq, min_eq_right hout, add_zero]
  rw [hp]
  simp only [boxQ_x, boxQ_y, boxQ_z] at hout ⊢
  constructor
  · rw [box_eq]
    simp only [boxQ_x, boxQ_y, boxQ_z, boxRay, add_sub_cancel_left]
    rw [rayH_pos hhx ht, rayH_pos hhy ht, rayH_pos hhz ht]
    have hs : 0 ≤ max (|rayH (p.x - c.x) (b.x * (1/2)) t| - b.x * (1/2))
        (max (|rayH (p.y - c.y) (b.y * (1/2)) t| - b.y * (1/2)) (|rayH (p.z - c.z) (b.z * (1/2)) t| - b.z * (1/2))) := by
      rcases le_max_iff.mp hout with h | h
      · exact le_max_of_le_left (by rw [rayH_of_ge hhx ht h]; exact mul_nonneg ht h)
      · rcases le_max_iff.mp h with h | h
        · exact le_max_of_le_right (le_max_of_le_left (by rw [rayH_of_ge hhy ht h]; exact mul_nonneg ht h))
        · exact le_max_of_le_right (le_max_of_le_right (by rw [rayH_of_ge hhz ht h]; exact mul_nonneg ht h))
    rw [min_eq_right hs, add_zero, ← sqrt_scale ht]
    congr 1; ring
  · simp only [V3.Distance, V3.DistanceSquared, boxRay, RS.sqrt_eq]
    rw [← sqrt_scale_abs]
    congr 1
    have ex := rayH_dist (x := p.x - c.x) t hhx
    have ey := rayH_dist (x := p.y - c.y) t hhy
    have ez := rayH_dist (x := p.z - c.z) t hhz
    linear_combination ex + ey + ez

/-- every level set `{Box = r}`, `r ≥ 0`, of the box field is reached from every point `p` at distance exactly
    `|Box p − r|`: the box field is the exact signed distance to each of its outer offset surfaces.  The orthant distance
    reaches its level inside the image of the fold (no coordinate drops below `min (q i) 0 ≥ −b i/2`); the fold lifts it. -/
theorem box_level_attained (hx : 0 ≤ b.x) (hy : 0 ≤ b.y) (hz : 0 ≤ b.z) (r : ℝ) (hr : 0 ≤ r) (p : P3) :
    ∃ s : P3, Box c b s = r ∧ p.Distance s = |Box c b p - r| := by
  simp only [box_eq_G3]
  refine (boxQ_submetry c b).level_attained (g := G3) p ?_
  obtain ⟨Q', hQ', h1, h2⟩ := G3_level_attained (toE (boxQ c b p)) hr
  refine ⟨Q', fun i => le_trans (le_min ((boxQ_submetry c b).mem p i) ?_) (hQ' i), h1, h2⟩
  fin_cases i
  · show -(b.x * (1 / 2)) ≤ 0; linarith
  · show -(b.y * (1 / 2)) ≤ 0; linarith
  · show -(b.z * (1 / 2)) ≤ 0; linarith

/-- exact distance for the box: some surface point is at distance exactly `|f p|` (with `box_exact_le`: `|f p|` IS the
    distance from `p` to the surface), for every box with non-negative size -/
theorem box_exact_attained (p : P3) (hx : 0 ≤ b.x) (hy : 0 ≤ b.y) (hz : 0 ≤ b.z) :
    ∃ s : P3, Box c b s = 0 ∧ p.Distance s = |Box c b p| := by
  simpa using box_level_attained c b hx hy hz 0 le_rfl p

/-- OUTSIDE or ON the box the witness is the clamp of `p`: the start of the ray -/
theorem box_exact_attained_outside (p : P3) (hx : 0 ≤ b.x) (hy : 0 ≤ b.y) (hz : 0 ≤ b.z)
    (hout : 0 ≤ max (boxQ c b p).x (max (boxQ c b p).y (boxQ c b p).z)) :
    Box c b (boxClamp c b p) = 0 ∧ p.Distance (boxClamp c b p) = |Box c b p| := by
  obtain ⟨h1, h2⟩ := box_ray c b p hx hy hz 0 le_rfl hout
  rw [boxRay_zero] at h1 h2
  rw [h1, h2, zero_mul, sub_zero, abs_one, one_mul, box_eq, min_eq_right hout, add_zero,
    abs_of_nonneg (Real.sqrt_nonneg _)]
  exact ⟨rfl, rfl⟩

/-- strictly INSIDE, no condition on the size (a box with an interior point has positive size) -/
theorem box_exact_attained_inside (p : P3)
    (hin : max (boxQ c b p).x (max (boxQ c b p).y (boxQ c b p).z) < 0) :
    ∃ s : P3, Box c b s = 0 ∧ p.Distance s = |Box c b p| := by
  obtain ⟨hx, hy, hz⟩ := (box_neg_iff' c b p).mp ((box_neg_iff c b p).mpr
    ⟨(le_max_left _ _).trans_lt hin, ((le_max_left _ _).trans (le_max_right _ _)).trans_lt hin,
      ((le_max_right _ _).trans (le_max_right _ _)).trans_lt hin⟩)
  exact box_exact_attained c b p (by linarith [abs_nonneg (p.x - c.x)]) (by linarith [abs_nonneg (p.y - c.y)])
    (by linarith [abs_nonneg (p.z - c.z)])

/-- rounded box, exact distance, attained: for every point `p` some zero-set point is at distance exactly `|f p|`
    (rounding radius `r ≥ 0`, non-negative size) -/
theorem roundedBox_exact_attained (hx : 0 ≤ b.x) (hy : 0 ≤ b.y) (hz : 0 ≤ b.z) (r : ℝ) (hr : 0 ≤ r) (p : P3) :
    ∃ s : P3, RoundedBox c b r s = 0 ∧ p.Distance s = |RoundedBox c b r p| := by
  obtain ⟨s, hs, hd⟩ := box_level_attained c b hx hy hz r hr p
  exact ⟨s, by rw [roundedBox_eq, hs, sub_self], by rw [roundedBox_eq, hd]⟩

theorem roundedBox_exact_le (r : ℝ) (p s : P3) (hs : RoundedBox c b r s = 0) :
    |RoundedBox c b r p| ≤ p.Distance s :=
  lipschitz_zero_bound (roundedBox_lipschitz c b r) p s hs

end

/-- rounded box: `|f p|` IS the Euclidean distance from `p` to the zero set, for every `p` -/
theorem roundedBox_exact (c b : P3) (hx : 0 ≤ b.x) (hy : 0 ≤ b.y) (hz : 0 ≤ b.z) (r : ℝ) (hr : 0 ≤ r) (p : P3) :
    (∀ s : P3, RoundedBox c b r s = 0 → |RoundedBox c b r p| ≤ p.Distance s) ∧
    (∃ s : P3, RoundedBox c b r s = 0 ∧ p.Distance s = |RoundedBox c b r p|) :=
  ⟨fun s hs => roundedBox_exact_le c b r p s hs, roundedBox_exact_attained c b hx hy hz r hr p⟩

theorem sphere_exact (c : P3) (r : ℝ) (hr : 0 ≤ r) (p : P3) :
    (∀ s : P3, Sphere c r s = 0 → |Sphere c r p| ≤ p.Distance s) ∧
    (∃ s : P3, Sphere c r s = 0 ∧ p.Distance s = |Sphere c r p|) := by
  refine ⟨fun s hs => sphere_exact_le c r p s ((sphere_zero_iff c r s).mp hs), ?_⟩
  obtain ⟨s, hs, hd⟩ := sphere_exact_attained_all c r hr p
  exact ⟨s, (sphere_zero_iff c r s).mpr hs, hd⟩

/-! ### plane with an arbitrary (non-unit) normal: a distance scaled by `|n|` -/

theorem plane_exact_scaled_le (o n : P3) (h : ℝ) (p s : P3) (hs : Plane o n h s = 0) :
    |Plane o n h p| ≤ n.Length * p.Distance s := by
  have := plane_lipschitz_scaled o n h p s
  rwa [hs, sub_zero] at this

/-- … and for `n ≠ 0` the bound is attained at the orthogonal projection: `|f p| = |n| · dist(p, plane)` — the field
    of a plane with a non-unit normal is the exact distance scaled by the normal's length -/
theorem plane_exact_scaled_attained (o n : P3) (h : ℝ) (hn : 0 < n.Dot n) (p : P3) :
    ∃ s : P3, Plane o n h s = 0 ∧ n.Length * p.Distance s = |Plane o n h p| := by
  set N := n.Dot n with hN
  refine ⟨p.Sub (n.Scale (Plane o n h p / N)), ?_, ?_⟩
  · have e : Plane o n h (p.Sub (n.Scale (Plane o n h p / N))) = Plane o n h p - (Plane o n h p / N) * N := by
      simp only [plane_eq, V3.Sub, V3.Dot, V3.Scale, hN]; ring
    rw [e]; field_simp; ring
  · rw [← dist_toE, toE_sub, toE_scale, sub_sub_cancel, norm_smul, Real.norm_eq_abs, norm_toE, abs_div,
      abs_of_pos hn]
    have hL := V3.length_mul_self n
    have hL0 : 0 < n.Length := Real.sqrt_pos.mpr hn
    rw [← hN] at hL
    rw [← hL]; field_simp

/-- sign and zero set need no normalisation (`plane_neg_iff`, `plane_zero_iff` hold for every `n`); with `n = 0` the
    field is the constant `h` -/
theorem plane_zero_normal (o : P3) (h : ℝ) (p : P3) : Plane o ⟨0, 0, 0⟩ h p = h := by
  simp [plane_eq, V3.Dot]

example : (0 : ℝ) < (⟨0, 3, 4⟩ : P3).Dot ⟨0, 3, 4⟩ := by simp [V3.Dot]; norm_num


section
variable (pos : P3) (ra rb h : ℝ)

/-- every level set `{f = r − rb}`, `r ≥ 0`, of the rounded cylinder's field (an offset surface of the core cylinder of radius
    `2·radius − rb ≥ 0` and half height `≥ 0`) is reached from every point `p` at distance exactly `|f p − (r − rb)|` -/
theorem roundedCylinder_level_attained (hR : 0 ≤ 2 * ra - rb) (hh : 0 ≤ h) (r : ℝ) (hr : 0 ≤ r)
    (p : P3) : ∃ s : P3, RoundedCylinder pos ra rb h s = r - rb ∧
      p.Distance s = |RoundedCylinder pos ra rb h p - (r - rb)| := by
  simp only [roundedCylinder_eq, sub_sub_sub_cancel_right, sub_left_inj]
  refine (cylD_submetry pos ra rb h).level_attained (g := G2) p ?_
  obtain ⟨Q', hQ', h1, h2⟩ := G2_level_attained (cylD pos ra rb h p) hr
  have hm := (cylD_submetry pos ra rb h).mem p
  exact ⟨Q', ⟨le_trans (le_min hm.1 (by linarith)) (hQ' 0), le_trans (le_min hm.2 (by linarith)) (hQ' 1)⟩, h1, h2⟩

/-- rounded cylinder, exact distance, attained: for every point `p` some zero-set point is at distance exactly `|f p|`
    (rounding `rb ≥ 0`, core radius `2·radius − rb ≥ 0`, half height `≥ 0`: the same parameter range as
    `roundedCylinder_neg_iff_minkowski`, with `rb = 0` allowed) -/
theorem roundedCylinder_exact_attained (hR : 0 ≤ 2 * ra - rb) (hh : 0 ≤ h) (hrb : 0 ≤ rb)
    (p : P3) : ∃ s : P3, RoundedCylinder pos ra rb h s = 0 ∧ p.Distance s = |RoundedCylinder pos ra rb h p| := by
  simpa using roundedCylinder_level_attained pos ra rb h hR hh rb hrb p

theorem roundedCylinder_exact_le (p s : P3) (hs : RoundedCylinder pos ra rb h s = 0) :
    |RoundedCylinder pos ra rb h p| ≤ p.Distance s :=
  lipschitz_zero_bound (roundedCylinder_lipschitz pos ra rb h) p s hs

end

/-- rounded cylinder: `|f p|` IS the Euclidean distance from `p` to the zero set, for every `p` -/
theorem roundedCylinder_exact (pos : P3) (ra rb h : ℝ) (hR : 0 ≤ 2 * ra - rb) (hh : 0 ≤ h) (hrb : 0 ≤ rb) (p : P3) :
    (∀ s : P3, RoundedCylinder pos ra rb h s = 0 → |RoundedCylinder pos ra rb h p| ≤ p.Distance s) ∧
    (∃ s : P3, RoundedCylinder pos ra rb h s = 0 ∧ p.Distance s = |RoundedCylinder pos ra rb h p|) :=
  ⟨fun s hs => roundedCylinder_exact_le pos ra rb h p s hs, roundedCylinder_exact_attained pos ra rb h hR hh hrb p⟩


/-! ### non-vacuity -/

example : ∃ s : P3, RoundedBox (⟨0, 0, 0⟩ : P3) ⟨2, 4, 6⟩ (1/2) s = 0 ∧
    (⟨0, 0, 0⟩ : P3).Distance s = |RoundedBox (⟨0, 0, 0⟩ : P3) ⟨2, 4, 6⟩ (1/2) ⟨0, 0, 0⟩| :=
  roundedBox_exact_attained _ _ (by norm_num) (by norm_num) (by norm_num) _ (by norm_num) _

example : ∃ s : P3, RoundedCylinder (⟨0, 0, 0⟩ : P3) 1 (1/2) 1 s = 0 ∧
    (⟨0, 0, 0⟩ : P3).Distance s = |RoundedCylinder (⟨0, 0, 0⟩ : P3) 1 (1/2) 1 ⟨0, 0, 0⟩| :=
  roundedCylinder_exact_attained _ _ _ _ (by norm_num) (by norm_num) (by norm_num) _


end C19
end PolyVerif
