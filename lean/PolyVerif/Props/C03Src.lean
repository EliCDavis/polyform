/-
  C03 — the per-vertex maps of the models ARE the expressions of the Go source.

  `Gen/MeshPerVertex.lean` is regenerated by `go/facts` (mode `c03.pervertex`, go/ast) from modeling/meshops/*.go before every
  build: for TranslateAttribute3D, ScaleAttribute3D, RotateAttribute3D, ScaleAttributeAlongNormal, ScaleAttribute2D the single
  assignment `dst[i] = EXPR` of the vertex loop as a Lean definition, the `RequireVnAttribute` checks, the iterator that
  bounds the loop and the setter that stores the result; for CropFloat3Attribute the guard of the vertex loop and the
  carry loops.  The theorems below state that the hand-written models (`Model/MeshTransforms.lean`, `Model/MeshMore.lean`,
  `Model/MeshOps.lean: crop` with the driver's predicate) are these regenerated expressions: an edit of the Go expression,
  of a required attribute, of the loop bound or of the stored attribute breaks a named theorem.
-/
import PolyVerif.Props.C03More
import PolyVerif.Gen.MeshPerVertex

namespace PolyVerif.C03
open PolyVerif PolyVerif.Gen PolyVerif.Mesh PolyVerif.Mesh.MeshVal

variable {s : Type} [Scalar s]

/-- `Mesh.Translate` / `TranslateAttribute3D`: the model maps every vertex with the regenerated expression -/
theorem translate_from_source (m : MeshVal (List s)) (n : String) (t : V3 s) :
    m.translate n t = m.mapAttr ⟨3, n⟩ (liftV3 (MeshPerVertex.TranslateAttribute3D t)) := rfl

/-- `ScaleAttribute3D` -/
theorem scaleAbout_from_source (m : MeshVal (List s)) (n : String) (o a : V3 s) :
    m.scaleAbout n o a = m.mapAttr ⟨3, n⟩ (liftV3 (MeshPerVertex.ScaleAttribute3D o a)) := rfl

/-- `RotateAttribute3D` -/
theorem rotate_from_source (m : MeshVal (List s)) (n : String) (q : quaternion.Quaternion s) :
    m.rotate n q = m.mapAttr ⟨3, n⟩ (liftV3 (MeshPerVertex.RotateAttribute3D q)) := rfl

/-- `ScaleAttribute2D` -/
theorem scale2D_from_source (m : MeshVal (List s)) (n : String) (o a : V2 s) :
    m.scale2D n o a = m.mapAttr ⟨2, n⟩ (liftV2 (MeshPerVertex.ScaleAttribute2D o a)) := rfl

/-- `ScaleAttributeAlongNormal`: the two-array map of the model is the regenerated expression on 3-vectors -/
theorem alongNormal_from_source (amount : s) (v w : V3 s) :
    alongNormal amount (ofV3 v) (ofV3 w) = ofV3 (MeshPerVertex.ScaleAttributeAlongNormal amount v w) := rfl

/-- the glue of the five maps, as the model has it: one required attribute which is also the iterated and the stored one
    (`modifyAttr k`), except `ScaleAttributeAlongNormal`: two required attributes, the loop is bounded by the SCALED
    attribute's array (first iterator), the normal array is read at the same `i`, the result goes to the scaled attribute -/
theorem perVertex_glue_from_source :
    (MeshPerVertex.TranslateAttribute3D_requires = [(3, "attribute")] ∧
      MeshPerVertex.TranslateAttribute3D_iterators = [("oldData", 3, "attribute")] ∧
      MeshPerVertex.TranslateAttribute3D_store = (3, "attribute")) ∧
    (MeshPerVertex.ScaleAttribute3D_requires = [(3, "attribute")] ∧
      MeshPerVertex.ScaleAttribute3D_iterators = [("oldData", 3, "attribute")] ∧
      MeshPerVertex.ScaleAttribute3D_store = (3, "attribute")) ∧
    (MeshPerVertex.RotateAttribute3D_requires = [(3, "attribute")] ∧
      MeshPerVertex.RotateAttribute3D_iterators = [("oldData", 3, "attribute")] ∧
      MeshPerVertex.RotateAttribute3D_store = (3, "attribute")) ∧
    (MeshPerVertex.ScaleAttribute2D_requires = [(2, "attribute")] ∧
      MeshPerVertex.ScaleAttribute2D_iterators = [("oldData", 2, "attribute")] ∧
      MeshPerVertex.ScaleAttribute2D_store = (2, "attribute")) ∧
    (MeshPerVertex.ScaleAttributeAlongNormal_requires = [(3, "attributeToScale"), (3, "normalAttribute")] ∧
      MeshPerVertex.ScaleAttributeAlongNormal_iterators =
        [("positionData", 3, "attributeToScale"), ("normalData", 3, "normalAttribute")] ∧
      MeshPerVertex.ScaleAttributeAlongNormal_store = (3, "attributeToScale")) :=
  ⟨⟨rfl, rfl, rfl⟩, ⟨rfl, rfl, rfl⟩, ⟨rfl, rfl, rfl⟩, ⟨rfl, rfl, rfl⟩, rfl, rfl, rfl⟩

/-- `CropFloat3Attribute`: the keep predicate the driver hands to the model `crop` is the regenerated guard of the vertex
    loop (kept iff `boundingBox.Contains(decidingAttribute.At(i))`, the regenerated `AABB.Contains`); all four widths are
    carried for a kept vertex and the result is `NewPointCloud` of the four maps with the input's materials. -/
theorem crop_keep_from_source (box : geometry.AABB s) :
    (fun v : V3 s => MeshPerVertex.CropFloat3Attribute_keep box v) = (fun v => box.Contains v) ∧
    MeshPerVertex.CropFloat3Attribute_carried = [4, 3, 2, 1] ∧
    MeshPerVertex.CropFloat3Attribute_result = "modeling.NewPointCloud(v4, v3, v2, v1, m.Materials())" :=
  ⟨rfl, rfl, rfl⟩

/-- with `aabbContains_closed`: over ℝ a vertex is kept by crop iff it lies in the CLOSED box -/
theorem crop_keep_closed (b : geometry.AABB ℝ) (p : V3 ℝ) :
    MeshPerVertex.CropFloat3Attribute_keep b p = true ↔
      (b.center.x - b.extents.x ≤ p.x ∧ p.x ≤ b.center.x + b.extents.x) ∧
      (b.center.y - b.extents.y ≤ p.y ∧ p.y ≤ b.center.y + b.extents.y) ∧
      (b.center.z - b.extents.z ≤ p.z ∧ p.z ≤ b.center.z + b.extents.z) := aabbContains_closed b p

end PolyVerif.C03
