/-
  C16 — the primitive hypothesis of the BVH theorems made a THEOREM for the real primitives.

  `/repo/rendering` has three primitive `Hittable`s with a `BoundingBox`: `Sphere` (static `NewSphere` and animated
  `NewAnimatedSphere`), `XYRectangle`, `Triangle` (the others — `HitList`, `BVHNode`, `Tree`, `Mesh` — are
  aggregates).  Their `Hit` / `BoundingBox` arithmetic is `Model/RenderPrims.lean` (rays regenerated:
  `Gen/Render.lean`; boxes over the regenerated `NewAABB`/`EncapsulateBounds`), tied to the source by the bit-exact
  `c16.prim.*` correspondence lines.  Over ℝ a successful `Hit(ray, mn, mx)` reports `Point = ray.At(Distance)` inside
  `BoundingBox()` with `Distance` in the range, so the slab test accepts the box for every non-empty range in which the
  primitive is hit, and `BVHNode.Hit` = `HitList.Hit` for scenes of such primitives with no primitive hypothesis left.
-/
import PolyVerif.Props.C16
import PolyVerif.Lemmas.RenderPrims

namespace PolyVerif
namespace C16
open PolyVerif.Tree PolyVerif.RPrims Gen.geometry Gen.rendering Scalar

/-- names for the quantities of `Sphere.Hit` -/
noncomputable def sA (ray : TemporalRay ℝ) : ℝ := ray.direction.Dot ray.direction
noncomputable def sHb (ct : P3) (ray : TemporalRay ℝ) : ℝ := (ray.origin.Sub ct).Dot ray.direction
noncomputable def sDisc (ct : P3) (r : ℝ) (ray : TemporalRay ℝ) : ℝ :=
  sHb ct ray * sHb ct ray - sA ray * ((ray.origin.Sub ct).Dot (ray.origin.Sub ct) - r * r)
noncomputable def sRoot1 (ct : P3) (r : ℝ) (ray : TemporalRay ℝ) : ℝ := (-sHb ct ray - Real.sqrt (sDisc ct r ray)) / sA ray
noncomputable def sRoot2 (ct : P3) (r : ℝ) (ray : TemporalRay ℝ) : ℝ := (-sHb ct ray + Real.sqrt (sDisc ct r ray)) / sA ray

/-- `sphereHit` (the model the driver runs) read over ℝ — by unfolding only -/
theorem sphereHit_eq (ct : P3) (r : ℝ) (ray : TemporalRay ℝ) (mn mx : ℝ) :
    sphereHit ct r ray mn mx =
      if sDisc ct r ray < ((0 : ℕ) : ℝ) then none
      else if (decide (sRoot1 ct r ray < mn) || decide (mx < sRoot1 ct r ray)) = true then
        (if (decide (sRoot2 ct r ray < mn) || decide (mx < sRoot2 ct r ray)) = true then none
         else some ⟨sRoot2 ct r ray, ray.At (sRoot2 ct r ray)⟩)
      else some ⟨sRoot1 ct r ray, ray.At (sRoot1 ct r ray)⟩ := rfl

/-- `Sphere.Hit` succeeds ⇒ the recorded point is `ray.At(Distance)`, at distance exactly `radius` from the centre
    `animation(ray.time)`, and `Distance ∈ [mn, mx]` (any non-zero direction, any radius). -/
theorem sphere_hit_on_sphere (ct : P3) (r : ℝ) (ray : TemporalRay ℝ) (mn mx : ℝ) (h : HitOut ℝ)
    (hd : ray.direction.Dot ray.direction ≠ 0) (hh : sphereHit ct r ray mn mx = some h) :
    h.point = ray.At h.dist ∧ mn ≤ h.dist ∧ h.dist ≤ mx ∧ (h.point.Sub ct).LengthSquared = r * r := by
  rw [sphereHit_eq] at hh
  obtain ⟨c0, hh⟩ := past_early_return hh
  by_cases c1 : (decide (sRoot1 ct r ray < mn) || decide (mx < sRoot1 ct r ray)) = true
  · rw [if_pos c1] at hh
    obtain ⟨c2, hh⟩ := past_early_return hh
    cases hh
    simp only [Bool.or_eq_true, decide_eq_true_eq, not_or, not_lt, Nat.cast_zero] at c0 c2
    have hs := Real.mul_self_sqrt c0
    refine ⟨rfl, c2.1, c2.2, sphere_root_on ray.origin ray.direction ct r _ _ hd hs (Or.inr ?_)⟩
    show sA ray * sRoot2 ct r ray = -sHb ct ray + Real.sqrt (sDisc ct r ray)
    have : sA ray ≠ 0 := hd
    unfold sRoot2; field_simp
  · rw [if_neg c1] at hh
    cases hh
    simp only [Bool.or_eq_true, decide_eq_true_eq, not_or, not_lt, Nat.cast_zero] at c0 c1
    have hs := Real.mul_self_sqrt c0
    refine ⟨rfl, c1.1, c1.2, sphere_root_on ray.origin ray.direction ct r _ _ hd hs (Or.inl ?_)⟩
    show sA ray * sRoot1 ct r ray = -sHb ct ray - Real.sqrt (sDisc ct r ray)
    have : sA ray ≠ 0 := hd
    unfold sRoot1; field_simp

/-- … and therefore inside `Sphere.BoundingBox(startTime, endTime)`, provided the radius is non-negative and the
    centre at the ray's time lies coordinatewise between the centres at the two times the box is built from
    (`NewSphere`: all equal; linear animation: any time in between.  The source's own TODO — "doesn't work for
    non-linear lines" — is the failure of exactly this hypothesis). -/
theorem sphere_hit_in_box (cs ce ct : P3) (r : ℝ) (ray : TemporalRay ℝ) (mn mx : ℝ) (h : HitOut ℝ)
    (hd : ray.direction.Dot ray.direction ≠ 0) (hr : 0 ≤ r) (hbt : Between cs ce ct)
    (hh : sphereHit ct r ray mn mx = some h) :
    (sphereBox cs ce r).Contains h.point = true := by
  obtain ⟨_, _, _, hon⟩ := sphere_hit_on_sphere ct r ray mn mx h hd hh
  exact sphereBox_contains cs ce ct h.point r hr hbt (coord_le_of_lengthSq h.point ct r hr hon)

/-- a linear animation `t ↦ a + (b − a)·t` (any affine motion) satisfies `Between` for every ray time inside the
    interval the box was built for — so `sphere_hit_in_box` covers `NewAnimatedSphere` with linear motion -/
theorem between_linear (a b : P3) (s e t : ℝ) (h1 : s ≤ t) (h2 : t ≤ e) :
    Between (a.Add ((b.Sub a).Scale s)) (a.Add ((b.Sub a).Scale e)) (a.Add ((b.Sub a).Scale t)) := by
  have key : ∀ (x y : ℝ), min (x + (y - x) * s) (x + (y - x) * e) ≤ x + (y - x) * t ∧
      x + (y - x) * t ≤ max (x + (y - x) * s) (x + (y - x) * e) := by
    intro x y
    rcases le_total 0 (y - x) with h | h
    · exact ⟨(min_le_left _ _).trans (add_le_add le_rfl (mul_le_mul_of_nonneg_left h1 h)),
        (add_le_add le_rfl (mul_le_mul_of_nonneg_left h2 h)).trans (le_max_right _ _)⟩
    · exact ⟨(min_le_right _ _).trans (add_le_add le_rfl (mul_le_mul_of_nonpos_left h2 h)),
        (add_le_add le_rfl (mul_le_mul_of_nonpos_left h1 h)).trans (le_max_left _ _)⟩
  exact (between_iff ..).mpr fun k => by simp only [C17.co_add, C17.co_scale, C17.co_sub]; exact key _ _

noncomputable def rT (depth : ℝ) (ray : TemporalRay ℝ) : ℝ := (depth - ray.origin.z) / ray.direction.z
noncomputable def rX (depth : ℝ) (ray : TemporalRay ℝ) : ℝ := ray.origin.x + rT depth ray * ray.direction.x
noncomputable def rY (depth : ℝ) (ray : TemporalRay ℝ) : ℝ := ray.origin.y + rT depth ray * ray.direction.y

theorem rectHit_eq (bl tr : V2 ℝ) (depth : ℝ) (ray : TemporalRay ℝ) (mn mx : ℝ) :
    rectHit bl tr depth ray mn mx =
      if (decide (rT depth ray < mn) || decide (mx < rT depth ray)) = true then none
      else if (decide (rX depth ray < bl.x) || decide (tr.x < rX depth ray) || decide (rY depth ray < bl.y) ||
               decide (tr.y < rY depth ray)) = true then none
      else some ⟨rT depth ray, ray.At (rT depth ray)⟩ := rfl

/-- `XYRectangle.Hit` succeeds (ray not parallel to the plane) ⇒ the point is `ray.At(Distance)`, `Distance ∈ [mn,mx]`,
    and the point lies in `XYRectangle.BoundingBox()` (whose z-extent is `depth ± 0.0001`). -/
theorem rect_hit_in_box (bl tr : V2 ℝ) (depth : ℝ) (ray : TemporalRay ℝ) (mn mx : ℝ) (h : HitOut ℝ)
    (hz : ray.direction.z ≠ 0) (hh : rectHit bl tr depth ray mn mx = some h) :
    h.point = ray.At h.dist ∧ mn ≤ h.dist ∧ h.dist ≤ mx ∧ (rectBox bl tr depth).Contains h.point = true := by
  rw [rectHit_eq] at hh
  obtain ⟨h1, hh⟩ := past_early_return hh
  obtain ⟨h2, hh⟩ := past_early_return hh
  cases hh
  simp only [Bool.or_eq_true, decide_eq_true_eq, not_or, not_lt] at h1 h2
  obtain ⟨⟨⟨a1, a2⟩, a3⟩, a4⟩ := h2
  refine ⟨rfl, h1.1, h1.2, ?_⟩
  rw [C17.aabb_contains_iff, rectBox, seg_box_min, seg_box_max]
  have hzt : ray.origin.z + ray.direction.z * rT depth ray = depth := by unfold rT; field_simp; ring
  have hx : ray.origin.x + ray.direction.x * rT depth ray = rX depth ray := by unfold rX; ring
  have hy : ray.origin.y + ray.direction.y * rT depth ray = rY depth ray := by unfold rY; ring
  simp only [TemporalRay.At, minVector, maxVector, V3.Add, V3.Scale, V3.New, V3.X, V3.Y, V3.Z, V2.X, V2.Y, RS.lit_eq, hzt, hx, hy]
  refine ⟨?_, ?_, ?_, ?_, ?_, ?_⟩
  · exact le_trans (min_le_right _ _) a1
  · exact le_trans (min_le_right _ _) a3
  · exact le_trans (min_le_right _ _) (by norm_num)
  · exact le_trans a2 (le_max_left _ _)
  · exact le_trans a4 (le_max_left _ _)
  · exact le_trans (by norm_num) (le_max_left _ _)

noncomputable def tE1 (p1 p2 : P3) : P3 := p2.Sub p1
noncomputable def tE2 (p1 p3 : P3) : P3 := p3.Sub p1
noncomputable def tP (p1 p3 : P3) (ray : Ray ℝ) : P3 := ray.direction.Cross (tE2 p1 p3)
noncomputable def tT (p1 : P3) (ray : Ray ℝ) (mn : ℝ) : P3 := (ray.At mn).Sub p1
noncomputable def tQ (p1 p2 : P3) (ray : Ray ℝ) (mn : ℝ) : P3 := (tT p1 ray mn).Cross (tE1 p1 p2)
noncomputable def tDet (p1 p2 p3 : P3) (ray : Ray ℝ) : ℝ := (tE1 p1 p2).Dot (tP p1 p3 ray)
noncomputable def tU (p1 p2 p3 : P3) (ray : Ray ℝ) (mn : ℝ) : ℝ :=
  (tT p1 ray mn).Dot (tP p1 p3 ray) * (((1 : ℕ) : ℝ) / tDet p1 p2 p3 ray)
noncomputable def tV (p1 p2 p3 : P3) (ray : Ray ℝ) (mn : ℝ) : ℝ :=
  ray.direction.Dot (tQ p1 p2 ray mn) * (((1 : ℕ) : ℝ) / tDet p1 p2 p3 ray)
noncomputable def tVal (p1 p2 p3 : P3) (ray : Ray ℝ) (mn : ℝ) : ℝ :=
  (tE2 p1 p3).Dot (tQ p1 p2 ray mn) * (((1 : ℕ) : ℝ) / tDet p1 p2 p3 ray)

theorem rayIntersectsTri_eq (p1 p2 p3 : P3) (ray : Ray ℝ) (mn mx : ℝ) :
    rayIntersectsTri p1 p2 p3 ray mn mx =
      if Scalar.abs (tDet p1 p2 p3 ray) < (Scalar.lit 1 1000000 : ℝ) then none
      else if (decide (tU p1 p2 p3 ray mn < ((0 : ℕ) : ℝ)) || decide (((1 : ℕ) : ℝ) < tU p1 p2 p3 ray mn)) = true then none
      else if (decide (tV p1 p2 p3 ray mn < ((0 : ℕ) : ℝ)) ||
               decide (((1 : ℕ) : ℝ) < tU p1 p2 p3 ray mn + tV p1 p2 p3 ray mn)) = true then none
      else if tVal p1 p2 p3 ray mn < (Scalar.lit 1 1000000 : ℝ) then none
      else if mx < tVal p1 p2 p3 ray mn then none
      else some ⟨tVal p1 p2 p3 ray mn + mn, ray.At (tVal p1 p2 p3 ray mn + mn)⟩ := rfl

/-- `rayIntersectsTri` succeeds ⇒ the recorded point is `ray.At(Distance)`, a convex combination of the three
    corners (Möller–Trumbore = Cramer's rule), hence inside `NewAABBFromPoints(p1, p2, p3)`;
    `Distance = tVal + mn` with `0 < tVal ≤ mx`. -/
theorem rayIntersectsTri_in_box (p1 p2 p3 : P3) (ray : Ray ℝ) (mn mx : ℝ) (h : HitOut ℝ)
    (hh : rayIntersectsTri p1 p2 p3 ray mn mx = some h) :
    h.point = ray.At h.dist ∧ mn < h.dist ∧ h.dist ≤ mx + mn ∧ (triBox p1 p2 p3).Contains h.point = true := by
  rw [rayIntersectsTri_eq] at hh
  obtain ⟨c0, hh⟩ := past_early_return hh
  obtain ⟨c1, hh⟩ := past_early_return hh
  obtain ⟨c2, hh⟩ := past_early_return hh
  obtain ⟨c3, hh⟩ := past_early_return hh
  obtain ⟨c4, hh⟩ := past_early_return hh
  cases hh
  simp only [Bool.or_eq_true, decide_eq_true_eq, not_or, not_lt, Nat.cast_zero, Nat.cast_one, RS.abs_eq, RS.lit_eq] at c0 c1 c2 c3 c4
  have hdet0 : tDet p1 p2 p3 ray ≠ 0 := by
    intro hz; rw [hz] at c0; norm_num at c0
  have hpos : (0 : ℝ) < ((1 : ℕ) : ℝ) / ((1000000 : ℕ) : ℝ) := by norm_num
  refine ⟨rfl, by simp only; linarith, by simp only; linarith, ?_⟩
  rw [triBox, tri_box_mem]
  intro k
  have pk : C17.co (ray.At (tVal p1 p2 p3 ray mn + mn)) k = C17.co p1 k +
      tU p1 p2 p3 ray mn * (C17.co p2 k - C17.co p1 k) + tV p1 p2 p3 ray mn * (C17.co p3 k - C17.co p1 k) := by
    have mt := moller_trumbore p1 p2 p3 (ray.At mn) ray.direction k
    simp only [C17.co_sub, co_rayAt] at mt
    exact (co_rayAt ..).trans (cramer_coord (tDet p1 p2 p3 ray) _ _ mn _ _ _ ((tE2 p1 p3).Dot (tQ p1 p2 ray mn))
      ((tT p1 ray mn).Dot (tP p1 p3 ray)) (ray.direction.Dot (tQ p1 p2 ray mn)) hdet0 mt)
  rw [pk]
  exact convex3_between _ _ _ _ _ c1.1 c2.1 c2.2

/-- `Triangle.Hit` at `mn = 0` (what the renderer's BVH-vs-list comparison uses; for `mn > 0` the source compares the
    distance from `ray.At(mn)` with `mx`, see the residue): point = `ray.At(Distance)` on the `TemporalRay` with unit
    direction, `0 < Distance ≤ mx`, point inside `Triangle.box`. -/
theorem tri_hit_in_box (p1 p2 p3 : P3) (ray : TemporalRay ℝ) (mx : ℝ) (h : HitOut ℝ)
    (hu : ray.direction.LengthSquared = 1) (hh : triHit p1 p2 p3 ray 0 mx = some h) :
    h.point = ray.At h.dist ∧ 0 < h.dist ∧ h.dist ≤ mx ∧ (triBox p1 p2 p3).Contains h.point = true := by
  obtain ⟨a, b, c, d⟩ := rayIntersectsTri_in_box p1 p2 p3 ray.Ray 0 mx h hh
  refine ⟨?_, b, by linarith, d⟩
  rw [a]
  simp only [Ray.At, TemporalRay.At, TemporalRay.Ray, NewRay, V3.normalized_of_unit hu]

/-- side conditions under which a primitive satisfies the contract for a ray and a lower range end `mn` -/
def _root_.PolyVerif.RPrims.RPrim.Ok (ray : TemporalRay ℝ) (mn : ℝ) : RPrim ℝ → Prop
  | .sphere cs ce ct r => 0 ≤ r ∧ Between cs ce ct
  | .rect _ _ _ => ray.direction.z ≠ 0
  | .tri _ _ _ => mn = 0

/-- every primitive: a successful `Hit` records `Point = ray.At(Distance)`, with `Distance` in the range and the
    point inside the primitive's own `BoundingBox()` -/
theorem prim_hit_in_box (ray : TemporalRay ℝ) (hu : ray.direction.LengthSquared = 1) (p : RPrim ℝ) (mn mx : ℝ)
    (hok : p.Ok ray mn) (h : HitOut ℝ) (hh : p.hit ray mn mx = some h) :
    h.point = ray.At h.dist ∧ mn ≤ h.dist ∧ h.dist ≤ mx ∧ p.box.Contains h.point = true := by
  have hd : ray.direction.Dot ray.direction ≠ 0 := by
    have : ray.direction.Dot ray.direction = ray.direction.LengthSquared := rfl
    rw [this, hu]; norm_num
  cases p with
  | sphere cs ce ct r =>
    obtain ⟨a, b, c, _⟩ := sphere_hit_on_sphere ct r ray mn mx h hd hh
    exact ⟨a, b, c, sphere_hit_in_box cs ce ct r ray mn mx h hd hok.1 hok.2 hh⟩
  | rect bl tr d => exact rect_hit_in_box bl tr d ray mn mx h hok hh
  | tri a b c =>
    have hmn : mn = 0 := hok
    subst hmn
    obtain ⟨x1, x2, x3, x4⟩ := tri_hit_in_box a b c ray mx h hu hh
    exact ⟨x1, x2.le, x3, x4⟩

/-- (hR) the reported distance is in the range; (hS) within a non-empty range a primitive is hit only where the REAL
    slab test — run, as `BVHNode.Hit` does, on `r.Ray()` — accepts its box.  No hypothesis on the primitive's
    arithmetic is left. -/
theorem prim_hit_slab (ray : TemporalRay ℝ) (hu : ray.direction.LengthSquared = 1) (p : RPrim ℝ) (mn mx d : ℝ)
    (hok : p.Ok ray mn) (hd : p.hitDist ray mn mx = some d) :
    (mn ≤ d ∧ d ≤ mx) ∧ (mn < mx → intersectsRayInRange p.box ray.Ray.Origin ray.Ray.Direction mn mx = true) := by
  unfold RPrim.hitDist at hd
  cases hh : p.hit ray mn mx with
  | none => rw [hh] at hd; cases hd
  | some h =>
    rw [hh] at hd
    simp only [Option.map_some, Option.some.injEq] at hd
    obtain ⟨a, b, c, e⟩ := prim_hit_in_box ray hu p mn mx hok h hh
    subst hd
    refine ⟨⟨b, c⟩, fun hlt => ?_⟩
    rw [(ray_of_unit ray hu).1, (ray_of_unit ray hu).2]
    apply slab_sound_aux p.box ray.origin ray.direction mn mx h.dist hlt b c
    rw [a] at e
    exact e

/-- generic form: `BVHNode.Hit` = `HitList.Hit` for every non-empty range, from the contract (hR)+(hS) -/
theorem bvh_hit_eq_list_strict {B H K : Type} [LinearOrder K] (sub : B → B → Prop) (boxH : H → B)
    (slab : B → K → K → Bool) (primHit : H → K → K → Option K) (mn : K)
    (hmono : ∀ a b mx, sub a b → slab a mn mx = true → slab b mn mx = true)
    (hR : ∀ h mx d, primHit h mn mx = some d → mn ≤ d ∧ d ≤ mx)
    (hS : ∀ h mx d, mn < mx → primHit h mn mx = some d → slab (boxH h) mn mx = true)
    (t : Bvh B H) (ht : BInv sub boxH t) (mx : K) (hlt : mn < mx) :
    t.hit slab primHit mn mx = listHit primHit t.leaves mn mx :=
  bvh_hit_eq_list_nonempty sub boxH slab primHit mn hmono t ht (fun h _ => hR h) (fun h _ => hS h) mx hlt

/-- **BVH = HitList for scenes of real primitives.**  For every covering BVH (`BInv`) whose leaves are spheres,
    XY-rectangles and triangles, every unit-direction ray, and every non-empty range `mn < mx` (`mn = 0` if the scene
    has a triangle; non-negative radii; rays not parallel to a rectangle's plane): `BVHNode.Hit` returns the same flag
    and distance as `HitList.Hit` over the leaves. -/
theorem prims_bvh_hit_eq_hitlist (ray : TemporalRay ℝ) (hu : ray.direction.LengthSquared = 1)
    (t : Bvh Box (RPrim ℝ)) (ht : BInv BoxSub RPrim.box t) (mn mx : ℝ) (hlt : mn < mx)
    (hok : ∀ p ∈ t.leaves, p.Ok ray mn) :
    bvhHit ray t mn mx = listHit (RPrim.hitDist ray) t.leaves mn mx :=
  bvh_hit_eq_list_nonempty BoxSub RPrim.box _ (RPrim.hitDist ray) mn
    (fun _ _ hi hs ha => Tree.slab_mono hs _ _ mn hi ha) t ht
    (fun p hp hi d hd => (prim_hit_slab ray hu p mn hi d (hok p hp) hd).1)
    (fun p hp hi d hlt' hd => (prim_hit_slab ray hu p mn hi d (hok p hp) hd).2 hlt') mx hlt

theorem prim_box_wf' (ray : TemporalRay ℝ) (mn : ℝ) (p : RPrim ℝ) (hok : p.Ok ray mn) : BoxSub p.box p.box := by
  cases p with
  | sphere cs ce ct r =>
    obtain ⟨⟨s1, s2⟩, -⟩ := sphereBox_sub cs ce r hok.1
    rw [C17.aabb_mem] at s1 s2
    exact boxSub_refl_of_le fun k => ((s1 k).1.trans (newAABB_fill_le cs hok.1 k)).trans (s2 k).2
  | rect bl tr d =>
    exact boxSub_refl_of_le fun k => by
      rw [RPrim.box, rectBox, seg_box_min, seg_box_max, C17.co_minVector, C17.co_maxVector]; exact min_le_max
  | tri a b c =>
    exact boxSub_refl_of_le fun k => by
      rw [RPrim.box, triBox, tri_box_min, tri_box_max, C17.co_minVector, C17.co_maxVector]
      exact (min_le_left _ _).trans (le_max_left _ _)

/-- the first hit at or beyond `mn` that each primitive reports when the range allows it.  A triangle has one
    candidate distance `tVal + mn`, and `mx` enters `rayIntersectsTri` only in its last test `mx < tVal`; so its first
    hit is what `Hit` answers when that test is void (`mx := tVal`) -/
noncomputable def RPrim.first (ray : TemporalRay ℝ) (mn : ℝ) : RPrim ℝ → Option ℝ
  | .sphere _ _ ct r =>
    if sDisc ct r ray < 0 then none
    else if mn ≤ sRoot1 ct r ray then some (sRoot1 ct r ray)
    else if mn ≤ sRoot2 ct r ray then some (sRoot2 ct r ray) else none
  | .rect bl tr d =>
    if rT d ray < mn then none
    else if rX d ray < bl.x ∨ tr.x < rX d ray ∨ rY d ray < bl.y ∨ tr.y < rY d ray then none
    else some (rT d ray)
  | .tri a b c => ((triHit a b c ray mn (tVal a b c ray.Ray mn)).map HitOut.dist)

/-- `Hit(ray, mn, mx)` reports the primitive's first hit beyond `mn` exactly when it is `≤ mx` (spheres: the
    nearer root first, the farther one only if the nearer is below `mn`; triangles at `mn = 0`) -/
theorem prim_first_hit (ray : TemporalRay ℝ) (hu : ray.direction.LengthSquared = 1) (p : RPrim ℝ) (mn mx : ℝ)
    (hok : p.Ok ray mn) :
    p.hitDist ray mn mx = (RPrim.first ray mn p).bind (fun d => if d ≤ mx then some d else none) := by
  cases p with
  | sphere cs ce ct r =>
    have ha : 0 < sA ray := by
      have : sA ray = ray.direction.LengthSquared := rfl
      rw [this, hu]; norm_num
    have h12 : sRoot1 ct r ray ≤ sRoot2 ct r ray :=
      div_le_div_of_nonneg_right (by linarith [Real.sqrt_nonneg (sDisc ct r ray)]) ha.le
    simp only [RPrim.hitDist, RPrim.hit, RPrim.first, sphereHit_eq, Nat.cast_zero, apply_ite (Option.map HitOut.dist),
      Option.map_some, Option.map_none]
    by_cases c0 : sDisc ct r ray < 0
    · simp only [c0, if_true, Option.bind_none]
    · simp only [c0, if_false]
      exact rangeTest_first_two _ _ mn mx h12
  | rect bl tr d =>
    simp only [RPrim.hitDist, RPrim.hit, RPrim.first, rectHit_eq, apply_ite (Option.map HitOut.dist),
      Option.map_some, Option.map_none]
    by_cases c3 : rX d ray < bl.x ∨ tr.x < rX d ray ∨ rY d ray < bl.y ∨ tr.y < rY d ray
    · have c3' : (decide (rX d ray < bl.x) || decide (tr.x < rX d ray) || decide (rY d ray < bl.y) ||
          decide (tr.y < rY d ray)) = true := by
        simpa only [Bool.or_eq_true, decide_eq_true_eq, or_assoc] using c3
      simp only [c3, c3', if_true, ite_self, Option.bind_none]
    · have c3' : ¬ (decide (rX d ray < bl.x) || decide (tr.x < rX d ray) || decide (rY d ray < bl.y) ||
          decide (tr.y < rY d ray)) = true := by
        simpa only [Bool.or_eq_true, decide_eq_true_eq, or_assoc] using c3
      simp only [c3, c3', if_false]
      exact rangeTest_first _ mn mx
  | tri a b c =>
    have hmn : mn = 0 := hok
    subst hmn
    simp only [RPrim.hitDist, RPrim.hit, RPrim.first, triHit, rayIntersectsTri_eq]
    -- the tests in front of the last one do not mention `mx`: the same guards on both sides
    have guard : ∀ (c : Prop) [Decidable c] (X Y : Option (HitOut ℝ)),
        X.map HitOut.dist = (Y.map HitOut.dist).bind (fun d => if d ≤ mx then some d else none) →
        (if c then none else X).map HitOut.dist =
          ((if c then none else Y).map HitOut.dist).bind (fun d => if d ≤ mx then some d else none) := by
      intro c _ X Y h
      by_cases hc : c
      · simp only [hc, if_true, Option.map_none, Option.bind_none]
      · simp only [hc, if_false, h]
    refine guard _ _ _ (guard _ _ _ (guard _ _ _ (guard _ _ _ ?_)))
    by_cases h : mx < tVal a b c ray.Ray 0 <;> simp [h, not_lt.mp, not_le.mpr]

/-- the model's `nodeBox` is the `bvhUnion` of the generic BVH theorems -/
theorem nodeBox_eq_bvhUnion : (nodeBox : Box → Box → Box) = bvhUnion := rfl

/-- **End to end.**  For every non-empty list of spheres, XY-rectangles and triangles, every outcome of the random
    axis choice and unstable sort (`reorder`), every unit-direction ray and non-empty range: the tree `NewBVHTree`
    builds answers `Hit` exactly as `HitList.Hit` on the ORIGINAL list (flag and nearest distance) — the primitive
    contract is proved, not assumed. -/
theorem prims_bvh_built_hit_eq_hitlist (ray : TemporalRay ℝ) (hu : ray.direction.LengthSquared = 1)
    (reorder : List (RPrim ℝ) → List (RPrim ℝ)) (hre : ∀ l, (reorder l).Perm l)
    (objs : List (RPrim ℝ)) (hne : objs ≠ []) (mn mx : ℝ) (hlt : mn < mx) (hok : ∀ p ∈ objs, p.Ok ray mn) :
    ∃ t, bvhBuild reorder RPrim.box nodeBox objs.length objs = some t ∧
      bvhHit ray t mn mx = listHit (RPrim.hitDist ray) objs mn mx := by
  obtain ⟨t, h1, h2, h3⟩ := bvh_build_covers BoxSub RPrim.box nodeBox reorder hre
    emptyEncapsulate_sub (fun _ _ _ => boxSub_trans) objs hne
  refine ⟨t, h1, ?_⟩
  rw [prims_bvh_hit_eq_hitlist ray hu t h2 mn mx hlt (fun p hp => hok p ((h3 p).mp hp))]
  exact listHit_congr_mem (RPrim.first ray mn) _ mn _ _
    (fun p hp hi => prim_first_hit ray hu p mn hi (hok p ((h3 p).mp hp))) h3 mx

/-! ### the hypothesis `mn < mx` is needed: on an empty-interior range the slab test rejects everything -/

/-- `IntersectsRayInRange(ray, m, m)` is false for every box and ray (`*t_max <= *t_min` already on the first axis) -/
theorem slab_rejects_point_range (b : Box) (o d : P3) (m : ℝ) : intersectsRayInRange b o d m m = false := by
  have key : ∀ (oo dd lo hi : ℝ), (slabComponent oo dd m m lo hi).1 = true := by
    intro oo dd lo hi
    unfold slabComponent
    split_ifs
    · simp
    · rfl
    · rw [slabArith_eq]; simp only [decide_eq_true_eq]; exact le_trans (min_le_left _ _) (le_max_left _ _)
    · rw [slabArith_eq]; simp only [decide_eq_true_eq]; exact le_trans (min_le_left _ _) (le_max_left _ _)
  unfold intersectsRayInRange
  simp only [key, if_true]

/-- so a BVH NODE misses whatever the range `[m, m]` holds, while `HitList.Hit` reports a primitive hit at exactly
    `m`: unit sphere at the origin, ray from (0,0,−5) along +z, range `[4, 4]` — `HitList.Hit` = hit at 4,
    `BVHNode.Hit` = miss.  (Degenerate range only; `prims_bvh_hit_eq_hitlist` covers every `mn < mx`.) -/
theorem bvh_differs_on_point_range :
    let ray : TemporalRay ℝ := ⟨⟨0, 0, -5⟩, ⟨0, 0, 1⟩, 0⟩
    let p : RPrim ℝ := .sphere ⟨0, 0, 0⟩ ⟨0, 0, 0⟩ ⟨0, 0, 0⟩ 1
    listHit (RPrim.hitDist ray) [p] 4 4 = some 4 ∧
    bvhHit ray (.node (nodeBox p.box p.box) (.leaf p) (.leaf p)) 4 4 = none := by
  intro ray p
  constructor
  · have hd : sDisc (⟨0, 0, 0⟩ : P3) 1 ray = 1 := by norm_num [sDisc, sHb, sA, ray, V3.Sub, V3.Dot]
    have h1 : sRoot1 (⟨0, 0, 0⟩ : P3) 1 ray = 4 := by
      rw [sRoot1, hd, Real.sqrt_one]; norm_num [sHb, sA, ray, V3.Sub, V3.Dot]
    rw [listHit_single]
    simp only [RPrim.hitDist, RPrim.hit, p]
    rw [sphereHit_eq, hd, h1]; norm_num
  · simp only [bvhHit, Bvh.hit, slab_rejects_point_range, Bool.not_false, if_true]

/-- a concrete scene meeting every hypothesis: a unit sphere at the origin, hit at parameter 4 by the ray from
    (0,0,−5) along +z; the hit point (0,0,−1) is in the box -/
example :
    let ray : TemporalRay ℝ := ⟨⟨0, 0, -5⟩, ⟨0, 0, 1⟩, 0⟩
    ray.direction.LengthSquared = 1 ∧ (RPrim.sphere ⟨0, 0, 0⟩ ⟨0, 0, 0⟩ ⟨0, 0, 0⟩ 1 : RPrim ℝ).Ok ray 0 ∧
    ∃ h, sphereHit (⟨0, 0, 0⟩ : P3) 1 ray 0 100 = some h ∧ h.dist = 4 := by
  intro ray
  refine ⟨by norm_num [ray, V3.LengthSquared], ⟨by norm_num, by simp [Between]⟩, ?_⟩
  have hd : sDisc (⟨0, 0, 0⟩ : P3) 1 ray = 1 := by norm_num [sDisc, sHb, sA, ray, V3.Sub, V3.Dot]
  have h1 : sRoot1 (⟨0, 0, 0⟩ : P3) 1 ray = 4 := by
    rw [sRoot1, hd, Real.sqrt_one]; norm_num [sHb, sA, ray, V3.Sub, V3.Dot]
  refine ⟨⟨4, ray.At 4⟩, ?_, rfl⟩
  rw [sphereHit_eq, hd, h1]; norm_num

end C16
end PolyVerif
