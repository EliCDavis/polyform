/-
  C09 — marching cubes yields a closed, consistently oriented surface on the isosurface,
  regardless of resolution and of where the shape sits relative to the 100³ storage blocks.

  All theorems are about `PolyVerif.Model.March`, whose data is `PolyVerif.Gen.MarchTable`
  (regenerated from /repo/modeling/marching/{table.go,canvas.go} on every check).  Closedness of the box surface is in
  `Lemmas/MarchClosed.lean`; the corner fetch, the position of the emitted vertices and the orientation of the emitted
  triangles in `Lemmas/MarchEmitted.lean`; the volume of one cell's solid in `Lemmas/MarchCellVolume.lean`.  This file has
  the enclosed volume (independence of the reference point, the sum over the box, positivity, the weld) and the statements
  about exactly the cells the real marcher visits.
-/
import PolyVerif.Lemmas.MarchEmitted

namespace PolyVerif
namespace C09
open PolyVerif.March PolyVerif.Gen.March

/-! ## Signed volume of a closed surface does not depend on the reference point -/

/-- six times the signed volume of a triangle list against the reference point `o`
    (the sum the `c09.holds.outward` oracle evaluates with `o = 0`) -/
noncomputable def volume6 {V : Type} (pos : V → V3 ℝ) (o : V3 ℝ) (tris : List (V × V × V)) : ℝ :=
  (tris.map fun t => det3 (V3.Sub (pos t.1) o) (V3.Sub (pos t.2.1) o) (V3.Sub (pos t.2.2) o)).sum

theorem sum_map_neg_aux {T : Type} (l : List T) (g : T → ℝ) : (l.map fun e => - g e).sum = - (l.map g).sum := by
  induction l with
  | nil => simp
  | cons x l ih => simp only [List.map_cons, List.sum_cons]; rw [ih]; ring

theorem sum_antisymm_aux {V : Type} [DecidableEq V] (L : List (V × V)) (hb : Balanced L) (g : V × V → ℝ)
    (hg : ∀ e, g (swapE e) = - g e) : (L.map g).sum = 0 := by
  have h1 : (L.map g).sum = ((L.map swapE).map g).sum := (((balanced_iff_perm L).mp hb).map g).sum_eq
  rw [List.map_map] at h1
  have h2 : (L.map (g ∘ swapE)).sum = - (L.map g).sum := by
    have : (g ∘ swapE) = fun e => - g e := by funext e; exact hg e
    rw [this, sum_map_neg_aux]
  linarith

/-- **The signed volume of a closed surface is independent of the reference point.**  For any triangle list whose
    directed edges are balanced (in particular the marched surface of `march_closed`, and its welded image of
    `march_weld_balanced`) and any vertex positions, `Σ det(a − o, b − o, c − o)` is the same for every `o`:
    the sign the `outward` oracle tests is a property of the surface, not of the origin. -/
theorem volume_translation_invariant {V : Type} [DecidableEq V] (pos : V → V3 ℝ) (tris : List (V × V × V))
    (hb : Balanced (tris.flatMap triEdges)) (o : V3 ℝ) :
    volume6 pos o tris = volume6 pos ⟨0, 0, 0⟩ tris := by
  have key : (((tris.flatMap triEdges).map fun e => V3.Dot o (V3.Cross (pos e.1) (pos e.2)))).sum = 0 := by
    apply sum_antisymm_aux _ hb
    intro e; simp only [swapE, V3.Dot, V3.Cross]; ring
  have hsplit : ∀ l : List (V × V × V),
      (l.map fun t => det3 (V3.Sub (pos t.1) o) (V3.Sub (pos t.2.1) o) (V3.Sub (pos t.2.2) o)).sum =
      (l.map fun t => det3 (pos t.1) (pos t.2.1) (pos t.2.2)).sum
        - ((l.flatMap triEdges).map fun e => V3.Dot o (V3.Cross (pos e.1) (pos e.2))).sum := by
    intro l
    induction l with
    | nil => simp
    | cons t l ih =>
      rw [List.map_cons, List.sum_cons, ih, List.map_cons, List.sum_cons, List.flatMap_cons,
        List.map_append, List.sum_append]
      simp only [det3, V3.triple_sub, triEdges, List.map_cons, List.map_nil, List.sum_cons, List.sum_nil]
      ring
  unfold volume6
  rw [hsplit, key]
  simp only [V3.Sub_zero, sub_zero]

/-- non-vacuity: the tetrahedron (0,1,2), (0,3,1), (1,3,2), (0,2,3) is balanced -/
example : Balanced (([(0, 1, 2), (0, 3, 1), (1, 3, 2), (0, 2, 3)] : List (Nat × Nat × Nat)).flatMap triEdges) :=
  balancedB_sound_aux _ (by decide)

/-- the marched surface of any box with outside boundary layer, with ANY vertex positions (in particular the
    interpolated ones), and ANY welding map: its signed volume does not depend on the reference point -/
theorem march_volume_translation_invariant {W : Type} [DecidableEq W] (s : Pt → Bool) (o : Pt) (nx ny nz : Nat)
    (hbd : BoundaryOutside s o nx ny nz) (φ : LEdge → W) (pos : W → V3 ℝ) (ref : V3 ℝ) :
    volume6 pos ref (weldTris φ (boxTris s o nx ny nz)) = volume6 pos ⟨0, 0, 0⟩ (weldTris φ (boxTris s o nx ny nz)) :=
  volume_translation_invariant pos _ (march_weld_balanced s o nx ny nz hbd φ) ref

/-! ## Exactly the cells the real marcher visits -/

/-- sign of the stored grid: a position is inside iff its block is allocated and the stored sample tests inside
    (`val v` = `v < cutoff`); an unallocated position holds 0, which is outside for every cutoff ≤ 0 -/
def storedSign {α : Type} (bl : Blocks α) (val : α → Bool) : Pt → Bool := fun q => ((globalAt bl q).map val).getD false

/-- the local cell coordinates `[0, 100)³` of a block (as a list; the Go loops run z, y, x — the order is immaterial for
    the multiset statements below) -/
def localCells : List (Int × Int × Int) := boxCells (0, 0, 0) 100 100 100

/-- what `marchFloat1BlockPosition` emits for one cell of block `b`: nothing when a corner cannot be fetched (`continue`),
    else the table's edges for the case index of the FETCHED values -/
def cellEmit {α : Type} (bl : Blocks α) (val : α → Bool) (b : Pt) (l : Int × Int × Int) : List DEdge :=
  match fetchCell bl b l.1 l.2.1 l.2.2 with
  | none => []
  | some cs => (caseSegsRel (caseIndex (cs.map val))).map (shiftE (globalOf b l.1 l.2.1 l.2.2))

/-- `marchFloat1`: all blocks of the section (in the arbitrary order `bs` of the Go map iteration), all their cells -/
def marchedEdges {α : Type} (bl : Blocks α) (val : α → Bool) (bs : List Pt) : List DEdge :=
  bs.flatMap fun b => localCells.flatMap (cellEmit bl val b)

theorem mem_boxCells_aux (o : Pt) (nx ny nz : Nat) (p : Pt) :
    p ∈ boxCells o nx ny nz ↔ (o.1 ≤ p.1 ∧ p.1 < o.1 + nx) ∧ (o.2.1 ≤ p.2.1 ∧ p.2.1 < o.2.1 + ny) ∧
      (o.2.2 ≤ p.2.2 ∧ p.2.2 < o.2.2 + nz) := by
  obtain ⟨x, y, z⟩ := p; obtain ⟨ox, oy, oz⟩ := o
  simp only [boxCells, List.mem_flatMap, List.mem_map, List.mem_range, padd, Prod.mk.injEq, Int.ofNat_eq_natCast]
  constructor
  · rintro ⟨i, hi, j, hj, k, hk, rfl, rfl, rfl⟩; omega
  · rintro ⟨⟨a1, a2⟩, ⟨b1, b2⟩, ⟨c1, c2⟩⟩
    exact ⟨(x - ox).toNat, by omega, (y - oy).toNat, by omega, (z - oz).toNat, by omega, by omega, by omega, by omega⟩

theorem mem_localCells_aux (l : Int × Int × Int) :
    l ∈ localCells ↔ (0 ≤ l.1 ∧ l.1 < 100) ∧ (0 ≤ l.2.1 ∧ l.2.1 < 100) ∧ (0 ≤ l.2.2 ∧ l.2.2 < 100) := by
  rw [localCells, mem_boxCells_aux]; simp

theorem mapM_some_aux {α β : Type} (f : α → Option β) (l : List α) (h : ∀ a ∈ l, (f a).isSome) :
    ∃ bs, l.mapM f = some bs := by
  cases hm : l.mapM f with
  | some bs => exact ⟨bs, rfl⟩
  | none =>
    obtain ⟨a, ha, hn⟩ := ListM.mapM_eq_none_iff.mp hm
    have := h a ha; rw [hn] at this; cases this

/-- a fetched cell carries exactly the sign bits of the stored grid at its eight corners -/
theorem fetched_bits_aux {α : Type} (bl : Blocks α) (val : α → Bool) (b : Pt) (x y z : Int)
    (hx : 0 ≤ x ∧ x < marchingSectionSize) (hy : 0 ≤ y ∧ y < marchingSectionSize) (hz : 0 ≤ z ∧ z < marchingSectionSize)
    (cs : List α) (h : fetchCell bl b x y z = some cs) :
    cs.map val = cellBits (storedSign bl val) (globalOf b x y z) := by
  rw [fetchCell_eq_global bl b x y z hx hy hz] at h
  have e8 : List.range 8 = [0, 1, 2, 3, 4, 5, 6, 7] := by decide
  rw [e8] at h
  simp only [List.mapM_cons, List.mapM_nil] at h
  simp only [cellBits, storedSign]
  cases h0 : globalAt bl (padd (globalOf b x y z) (cornerOff 0)) <;> rw [h0] at h <;> try (simp at h)
  cases h1 : globalAt bl (padd (globalOf b x y z) (cornerOff 1)) <;> rw [h1] at h <;> try (simp at h)
  cases h2 : globalAt bl (padd (globalOf b x y z) (cornerOff 2)) <;> rw [h2] at h <;> try (simp at h)
  cases h3 : globalAt bl (padd (globalOf b x y z) (cornerOff 3)) <;> rw [h3] at h <;> try (simp at h)
  cases h4 : globalAt bl (padd (globalOf b x y z) (cornerOff 4)) <;> rw [h4] at h <;> try (simp at h)
  cases h5 : globalAt bl (padd (globalOf b x y z) (cornerOff 5)) <;> rw [h5] at h <;> try (simp at h)
  cases h6 : globalAt bl (padd (globalOf b x y z) (cornerOff 6)) <;> rw [h6] at h <;> try (simp at h)
  cases h7 : globalAt bl (padd (globalOf b x y z) (cornerOff 7)) <;> rw [h7] at h <;> try (simp at h)
  subst h
  simp

theorem cellEdges_nil_aux (s : Pt → Bool) (p : Pt) (h : ∀ i, i < 8 → s (padd p (cornerOff i)) = false) :
    cellEdges s p = [] := by
  have e : cellBits s p = [false, false, false, false, false, false, false, false] := by
    simp only [cellBits, h 0 (by decide), h 1 (by decide), h 2 (by decide), h 3 (by decide), h 4 (by decide),
      h 5 (by decide), h 6 (by decide), h 7 (by decide)]
  have z : caseSegsRel (caseIndex [false, false, false, false, false, false, false, false]) = [] := by decide
  simp only [cellEdges, e, z, List.map_nil]

theorem flatMap_filter_ne_nil_aux {α β : Type} (L : List α) (g : α → List β) :
    L.flatMap g = (L.filter fun a => !(g a).isEmpty).flatMap g := by
  induction L with
  | nil => rfl
  | cons a L ih =>
    rw [List.flatMap_cons, List.filter_cons]
    cases h : (g a).isEmpty with
    | true => simp only [Bool.not_true, Bool.false_eq_true, if_false]; rw [List.isEmpty_iff.mp h, List.nil_append, ih]
    | false => simp only [Bool.not_false, if_true, List.flatMap_cons]; rw [ih]

/-- for a cell of the block: the emission is the stored grid's `cellEdges` when the cell is fetched, nothing when skipped -/
theorem cellEmit_eq_aux {α : Type} (bl : Blocks α) (val : α → Bool) (b : Pt) (l : Int × Int × Int) (hl : l ∈ localCells) :
    cellEmit bl val b l = if (fetchCell bl b l.1 l.2.1 l.2.2).isSome then
      cellEdges (storedSign bl val) (globalOf b l.1 l.2.1 l.2.2) else [] := by
  have hr := (mem_localCells_aux l).mp hl
  unfold cellEmit
  cases h : fetchCell bl b l.1 l.2.1 l.2.2 with
  | none => simp
  | some cs =>
    have hb := fetched_bits_aux bl val b l.1 l.2.1 l.2.2 (by simpa [marchingSectionSize] using hr.1)
      (by simpa [marchingSectionSize] using hr.2.1) (by simpa [marchingSectionSize] using hr.2.2) cs h
    simp only [Option.isSome_some, if_true, cellEdges, hb]

/-- (block, local cell) pairs the marcher iterates over -/
def visitPairs (bs : List Pt) : List (Pt × (Int × Int × Int)) := bs.flatMap fun b => localCells.map fun l => (b, l)

def pairCell (x : Pt × (Int × Int × Int)) : Pt := globalOf x.1 x.2.1 x.2.2.1 x.2.2.2

theorem globalOf_inj_aux (b b' : Pt) (l l' : Int × Int × Int) (hl : l ∈ localCells) (hl' : l' ∈ localCells)
    (h : globalOf b l.1 l.2.1 l.2.2 = globalOf b' l'.1 l'.2.1 l'.2.2) : b = b' ∧ l = l' := by
  have r := (mem_localCells_aux l).mp hl; have r' := (mem_localCells_aux l').mp hl'
  obtain ⟨b1, b2, b3⟩ := b; obtain ⟨c1, c2, c3⟩ := b'; obtain ⟨x, y, z⟩ := l; obtain ⟨x', y', z'⟩ := l'
  simp only [globalOf, marchingSectionSize, Prod.mk.injEq] at h r r' ⊢
  omega

theorem visited_nodup_aux (bs : List Pt) (hbs : bs.Nodup) : ((visitPairs bs).map pairCell).Nodup := by
  have e : (visitPairs bs).map pairCell = bs.flatMap fun b => localCells.map fun l => globalOf b l.1 l.2.1 l.2.2 := by
    simp only [visitPairs, List.map_flatMap, List.map_map]; rfl
  rw [e, List.nodup_flatMap]
  refine ⟨fun b _ => ?_, ?_⟩
  · refine List.Nodup.map_on ?_ (boxCells_nodup_aux _ _ _ _)
    intro l hl l' hl' h
    exact (globalOf_inj_aux b b l l' hl hl' h).2
  · refine List.Pairwise.imp ?_ hbs
    intro b b' hne q h1 h2
    obtain ⟨l, hl, rfl⟩ := List.mem_map.mp h1
    obtain ⟨l', hl', h⟩ := List.mem_map.mp h2
    exact hne (globalOf_inj_aux b' b l' l hl' hl h).1.symm

theorem decompose_aux (p : Pt) :
    (p.1 % 100, p.2.1 % 100, p.2.2 % 100) ∈ localCells ∧
    globalOf (chunkOf p) (p.1 % 100) (p.2.1 % 100) (p.2.2 % 100) = p := by
  obtain ⟨x, y, z⟩ := p
  refine ⟨(mem_localCells_aux _).mpr (by simp only; omega), ?_⟩
  simp only [globalOf, chunkOf, marchingSectionSize, Prod.mk.injEq]; omega

/-- hypotheses: `bs` enumerates the allocated blocks once; the inside region of the stored grid lies strictly inside the
    box; every inside sample has the blocks of its 3×3×3 lattice neighbourhood allocated -/
structure MarchHyp {α : Type} (bl : Blocks α) (val : α → Bool) (bs : List Pt) (o : Pt) (nx ny nz : Nat) : Prop where
  nodup : bs.Nodup
  alloc : ∀ b, (bl b).isSome ↔ b ∈ bs
  inBox : ∀ q, storedSign bl val q = true →
    (o.1 < q.1 ∧ q.1 < o.1 + nx) ∧ (o.2.1 < q.2.1 ∧ q.2.1 < o.2.1 + ny) ∧ (o.2.2 < q.2.2 ∧ q.2.2 < o.2.2 + nz)
  padded : ∀ q, storedSign bl val q = true → ∀ d : Pt, -1 ≤ d.1 → d.1 ≤ 1 → -1 ≤ d.2.1 → d.2.1 ≤ 1 → -1 ≤ d.2.2 → d.2.2 ≤ 1 →
    (bl (chunkOf (padd q d))).isSome

section visited
variable {α β : Type} (bl : Blocks α) (val : α → Bool) (bs : List Pt) (o : Pt) (nx ny nz : Nat)
  (emit : Pt → Int × Int × Int → List β) (g : Pt → List β)

/-- The marcher's iteration against the box, for any per-cell output (directed edges, triangles): `emit b l` is what the
    marcher produces for local cell `l` of block `b`, `g q` what the stored grid's sign pattern gives for the cell at `q`.
    A fetched cell produces `g` of its global position, a skipped cell nothing, and `g` is empty on all-outside cells.
    Then the non-empty cells visited are exactly the non-empty cells of the box. -/
theorem visited_mem_iff_aux (H : MarchHyp bl val bs o nx ny nz)
    (hemit : ∀ b l, l ∈ localCells →
      emit b l = if (fetchCell bl b l.1 l.2.1 l.2.2).isSome then g (globalOf b l.1 l.2.1 l.2.2) else [])
    (hnil : ∀ p, (∀ i, i < 8 → storedSign bl val (padd p (cornerOff i)) = false) → g p = []) (p : Pt) :
    p ∈ ((visitPairs bs).filter fun x => !(emit x.1 x.2).isEmpty).map pairCell ↔
    p ∈ (boxCells o nx ny nz).filter fun q => !(g q).isEmpty := by
  have inside : ∀ q, g q ≠ [] → ∃ i, i < 8 ∧ storedSign bl val (padd q (cornerOff i)) = true := by
    intro q hq
    by_contra hc
    exact hq (hnil q fun i hi => by
      cases hs : storedSign bl val (padd q (cornerOff i)) with
      | false => rfl
      | true => exact absurd ⟨i, hi, hs⟩ hc)
  constructor
  · intro hp
    obtain ⟨x, hx, rfl⟩ := List.mem_map.mp hp
    obtain ⟨hxV, hne⟩ := List.mem_filter.mp hx
    obtain ⟨b, hb, hxl⟩ := List.mem_flatMap.mp hxV
    obtain ⟨l, hl, rfl⟩ := List.mem_map.mp hxl
    rw [hemit b l hl] at hne
    have hg : g (globalOf b l.1 l.2.1 l.2.2) ≠ [] := by
      intro h0; split_ifs at hne <;> simp_all
    obtain ⟨i, hi, hs⟩ := inside _ hg
    have hq := H.inBox _ hs
    have ob := corner_off_bounds_aux i hi
    refine List.mem_filter.mpr ⟨(mem_boxCells_aux _ _ _ _ _).mpr ?_, ?_⟩
    · simp only [pairCell, padd] at hq ⊢; omega
    · simp only [pairCell]; cases h : (g (globalOf b l.1 l.2.1 l.2.2)).isEmpty with
      | true => exact absurd (List.isEmpty_iff.mp h) hg
      | false => rfl
  · intro hp
    obtain ⟨hbox, hne⟩ := List.mem_filter.mp hp
    have hg : g p ≠ [] := by
      intro h0; rw [h0] at hne; simp at hne
    obtain ⟨i, hi, hs⟩ := inside _ hg
    have ob := corner_off_bounds_aux i hi
    obtain ⟨hl, hglob⟩ := decompose_aux p
    -- every corner j of the cell is within one step of the inside corner i
    have hall : ∀ j, j < 8 → (globalAt bl (padd p (cornerOff j))).isSome := by
      intro j hj
      have oj := corner_off_bounds_aux j hj
      have := H.padded _ hs (padd (cornerOff j) ((-(cornerOff i).1), (-(cornerOff i).2.1), (-(cornerOff i).2.2)))
        (by simp only [padd]; omega) (by simp only [padd]; omega) (by simp only [padd]; omega)
        (by simp only [padd]; omega) (by simp only [padd]; omega) (by simp only [padd]; omega)
      have heq : padd (padd p (cornerOff i)) (padd (cornerOff j) ((-(cornerOff i).1), (-(cornerOff i).2.1), (-(cornerOff i).2.2)))
          = padd p (cornerOff j) := by
        simp only [padd, Prod.mk.injEq]; refine ⟨?_, ?_, ?_⟩ <;> ring
      rw [heq] at this
      unfold globalAt; rw [Option.isSome_map]; exact this
    have hblock : chunkOf p ∈ bs := by
      have := H.padded _ hs ((-(cornerOff i).1), (-(cornerOff i).2.1), (-(cornerOff i).2.2))
        (by simp only; omega) (by simp only; omega) (by simp only; omega) (by simp only; omega) (by simp only; omega)
        (by simp only; omega)
      have heq : padd (padd p (cornerOff i)) ((-(cornerOff i).1), (-(cornerOff i).2.1), (-(cornerOff i).2.2)) = p := by
        obtain ⟨x, y, z⟩ := p; simp only [padd, Prod.mk.injEq]; refine ⟨?_, ?_, ?_⟩ <;> ring
      rw [heq] at this
      exact (H.alloc _).mp this
    have hr := (mem_localCells_aux _).mp hl
    have hfetch : (fetchCell bl (chunkOf p) (p.1 % 100) (p.2.1 % 100) (p.2.2 % 100)).isSome := by
      rw [fetchCell_eq_global bl (chunkOf p) _ _ _ (by simpa [marchingSectionSize] using hr.1)
        (by simpa [marchingSectionSize] using hr.2.1) (by simpa [marchingSectionSize] using hr.2.2), hglob]
      obtain ⟨cs, hcs⟩ := mapM_some_aux (fun i => globalAt bl (padd p (cornerOff i))) (List.range 8)
        (fun j hj => hall j (List.mem_range.mp hj))
      rw [hcs]; rfl
    refine List.mem_map.mpr ⟨(chunkOf p, (p.1 % 100, p.2.1 % 100, p.2.2 % 100)), List.mem_filter.mpr ⟨?_, ?_⟩, hglob⟩
    · exact List.mem_flatMap.mpr ⟨chunkOf p, hblock, List.mem_map.mpr ⟨_, hl, rfl⟩⟩
    · rw [hemit _ _ hl]
      simp only [hfetch, if_true, hglob]
      exact hne

/-- … hence what the marcher emits is, as a multiset, what the box gives -/
theorem visited_perm_aux (H : MarchHyp bl val bs o nx ny nz)
    (hemit : ∀ b l, l ∈ localCells →
      emit b l = if (fetchCell bl b l.1 l.2.1 l.2.2).isSome then g (globalOf b l.1 l.2.1 l.2.2) else [])
    (hnil : ∀ p, (∀ i, i < 8 → storedSign bl val (padd p (cornerOff i)) = false) → g p = []) :
    (bs.flatMap fun b => localCells.flatMap (emit b)).Perm ((boxCells o nx ny nz).flatMap g) := by
  have hpairs : (bs.flatMap fun b => localCells.flatMap (emit b)) = (visitPairs bs).flatMap fun x => emit x.1 x.2 := by
    simp only [visitPairs, List.flatMap_assoc, List.flatMap_map]
  rw [hpairs, flatMap_filter_ne_nil_aux (visitPairs bs)]
  have hcongr : (((visitPairs bs).filter fun x => !(emit x.1 x.2).isEmpty).flatMap fun x => emit x.1 x.2)
      = (((visitPairs bs).filter fun x => !(emit x.1 x.2).isEmpty).map pairCell).flatMap g := by
    rw [List.flatMap_map]
    apply List.flatMap_congr
    intro x hx
    obtain ⟨hxV, hne⟩ := List.mem_filter.mp hx
    obtain ⟨b, _, hxl⟩ := List.mem_flatMap.mp hxV
    obtain ⟨l, hl, rfl⟩ := List.mem_map.mp hxl
    rw [hemit b l hl] at hne ⊢
    split_ifs at hne ⊢ with hf
    · rfl
    · simp at hne
  rw [hcongr, flatMap_filter_ne_nil_aux (boxCells o nx ny nz)]
  apply List.Perm.flatMap_right
  rw [List.perm_ext_iff_of_nodup]
  · exact visited_mem_iff_aux bl val bs o nx ny nz emit g H hemit hnil
  · exact ((visited_nodup_aux bs H.nodup).sublist (List.Sublist.map _ List.filter_sublist))
  · exact (boxCells_nodup_aux o nx ny nz).sublist List.filter_sublist

end visited

/-- **Exactly the cells the real marcher visits.**  Under `MarchHyp` (blocks enumerated once in any order; inside region of
    the stored grid strictly inside the box; one-cell padding allocated), the directed edges `marchFloat1` emits — every
    allocated block, every one of its 100³ cells, skipped when a corner block is missing, case index from the FETCHED
    values — are, as a multiset, exactly the box's `boxEdges` for the stored grid's sign pattern.
    (Assembles `fetchCell_eq_global`, the skipped-cells argument, "row 0 is empty" and the box enumeration.) -/
theorem marched_perm_box {α : Type} (bl : Blocks α) (val : α → Bool) (bs : List Pt) (o : Pt) (nx ny nz : Nat)
    (H : MarchHyp bl val bs o nx ny nz) :
    (marchedEdges bl val bs).Perm (boxEdges (storedSign bl val) o nx ny nz) :=
  visited_perm_aux bl val bs o nx ny nz _ _ H (cellEmit_eq_aux bl val) (cellEdges_nil_aux _)

theorem boundaryOutside_of_inBox_aux {α : Type} (bl : Blocks α) (val : α → Bool) (bs : List Pt) (o : Pt) (nx ny nz : Nat)
    (H : MarchHyp bl val bs o nx ny nz) : BoundaryOutside (storedSign bl val) o nx ny nz := by
  intro q _ _ _ _ _ _ hb
  cases hs : storedSign bl val q with
  | false => rfl
  | true => have := H.inBox q hs; omega

theorem Balanced.of_perm_aux {V : Type} [DecidableEq V] {L M : List (V × V)} (h : L.Perm M) (hb : Balanced M) : Balanced L := by
  intro u v; rw [h.count_eq, h.count_eq]; exact hb u v

/-- **march_closed for the real iteration.**  What `marchFloat1` emits over all allocated blocks is a closed surface in
    lattice-edge ids: balanced, and no directed edge twice. -/
theorem marched_closed {α : Type} (bl : Blocks α) (val : α → Bool) (bs : List Pt) (o : Pt) (nx ny nz : Nat)
    (H : MarchHyp bl val bs o nx ny nz) :
    Balanced (marchedEdges bl val bs) ∧ (marchedEdges bl val bs).Nodup := by
  have hp := marched_perm_box bl val bs o nx ny nz H
  obtain ⟨hb, hn⟩ := march_closed (storedSign bl val) o nx ny nz (boundaryOutside_of_inBox_aux bl val bs o nx ny nz H)
  exact ⟨Balanced.of_perm_aux hp hb, hp.nodup_iff.mpr hn⟩

/-- non-vacuity of `MarchHyp`: one allocated block with a single inside sample in its middle -/
example : MarchHyp (fun b => if b = ((0 : Int), (0 : Int), (0 : Int)) then some (fun i => decide (i = bindex 50 50 50)) else none)
    id [(0, 0, 0)] (49, 49, 49) 2 2 2 := by
  have key : ∀ q : Pt, storedSign (fun b => if b = ((0 : Int), (0 : Int), (0 : Int)) then
      some (fun i => decide (i = bindex 50 50 50)) else none) id q = true → q = (50, 50, 50) := by
    intro q hq
    obtain ⟨x, y, z⟩ := q
    simp only [storedSign, globalAt, chunkOf, marchingSectionSize, bindex, Prod.mk.injEq] at hq
    by_cases hc : x / 100 = 0 ∧ y / 100 = 0 ∧ z / 100 = 0
    · simp [hc] at hq
      have hq' := of_decide_eq_true hq
      simp only [Prod.mk.injEq]; omega
    · simp [hc] at hq
  refine ⟨by simp, ?_, ?_, ?_⟩
  · intro b; by_cases h : b = (0, 0, 0) <;> simp [h]
  · intro q hq; rw [key q hq]; simp
  · intro q hq d h1 h2 h3 h4 h5 h6
    rw [key q hq]
    obtain ⟨d1, d2, d3⟩ := d
    simp only at h1 h2 h3 h4 h5 h6
    have e1 : (50 + d1) / 100 = 0 := by omega
    have e2 : (50 + d2) / 100 = 0 := by omega
    have e3 : (50 + d3) / 100 = 0 := by omega
    simp [chunkOf, padd, marchingSectionSize, e1, e2, e3]

/-- the code's inside test is `cubeCorners[i] < cutoff` for all eight corners (the extractor rejects any other test):
    `signOf` / `val` in the theorems above is the code's predicate -/
theorem table_inside_tests : insideTests = List.range 8 := by decide

/-- position of the vertex on lattice edge `l` under a global parameter assignment (0 = low end, 1 = high end) -/
noncomputable def posL (τ : LEdge → ℝ) (l : LEdge) : V3 ℝ := V3.Add (ptR l.1) (V3.Scale (ptR (unit l.2)) (τ l))

/-- the full "enclosed volume is positive" statement in lattice-edge ids: box of cells with outside boundary layer, any sign
    pattern, every vertex strictly inside its lattice edge, non-empty surface ⇒ positive signed volume.
    Proved as `march_volume_positive` (per-cell solids ≥ 0 / > 0, closed cell polyhedra translated to their own low
    corners, caps of neighbouring cells cancelling, caps vanishing on the boundary layer). -/
def C09_volume_positive_full : Prop :=
  ∀ (s : Pt → Bool) (o : Pt) (nx ny nz : Nat), BoundaryOutside s o nx ny nz →
    ∀ τ : LEdge → ℝ, (∀ l, 0 < τ l ∧ τ l < 1) → boxTris s o nx ny nz ≠ [] →
      0 < volume6 (posL τ) ⟨0, 0, 0⟩ (boxTris s o nx ny nz)

/-! ## The sum over the box: the marched surface encloses positive volume -/

instance instLawfulBEqSum_aux {α β : Type} [BEq α] [BEq β] [LawfulBEq α] [LawfulBEq β] : LawfulBEq (α ⊕ β) where
  eq_of_beq := by
    intro a b h
    cases a <;> cases b <;> first | (simp only [Sum.inl.injEq, Sum.inr.injEq]; exact eq_of_beq h) | (cases h)
  rfl := by
    intro a
    cases a with
    | inl x => show (x == x) = true; exact beq_self_eq_true x
    | inr x => show (x == x) = true; exact beq_self_eq_true x

section boxvol
variable (s : Pt → Bool) (τ : LEdge → ℝ)

/-- position of a global vertex: the vertex of a lattice edge, or a lattice point -/
noncomputable def gpos : RV → V3 ℝ
  | .inl l => posL τ l
  | .inr c => ptR c

/-- global vertex of polyhedron vertex `id` of the cell at `p` -/
def gid (p : Pt) (id : Nat) : RV := shiftRV p (rid id)
def gidTri (p : Pt) (t : Nat × Nat × Nat) : RV × RV × RV := (gid p t.1, gid p t.2.1, gid p t.2.2)

/-- the cell's view of the global parameters -/
noncomputable def localPar (p : Pt) : Nat → ℝ := fun e => τ (shiftL p (edgeRel e))

/-- Σ det over a list of global triangles (six times their signed volume against the origin) -/
noncomputable def detSum (T : List (RV × RV × RV)) : ℝ :=
  (T.map fun t => det3 (gpos τ t.1) (gpos τ t.2.1) (gpos τ t.2.2)).sum

theorem ptR_padd_aux (p q : Pt) : ptR (padd p q) = V3.Add (ptR p) (ptR q) := by
  simp only [ptR, padd, V3.Add, V3.mk.injEq]; refine ⟨?_, ?_, ?_⟩ <;> push_cast <;> ring

theorem gpos_gid_aux (p : Pt) (id : Nat) : gpos τ (gid p id) = V3.Add (ptR p) (vposR (localPar τ p) id) := by
  unfold gid rid vposR
  by_cases h : id < 12
  · simp only [h, if_true, shiftRV, gpos, posL, shiftL, localPar, ptR_padd_aux]
    simp only [V3.Add, V3.Scale, V3.mk.injEq]; refine ⟨?_, ?_, ?_⟩ <;> ring
  · simp only [h, if_false, shiftRV, gpos, ptR_padd_aux]

theorem detSum_append_aux (A B : List (RV × RV × RV)) : detSum τ (A ++ B) = detSum τ A + detSum τ B :=
  triSum_append _ A B

theorem detSum_perm_aux {A B : List (RV × RV × RV)} (h : A.Perm B) : detSum τ A = detSum τ B := triSum_perm _ h

theorem detSum_flip_aux (A : List (RV × RV × RV)) : detSum τ (A.map flipTri) = - detSum τ A := triSum_flip _ A

/-- the closed cell polyhedron, in global coordinates, has the volume of its local copy -/
theorem cell_poly_sum_aux (p : Pt) (b0 b1 b2 b3 b4 b5 b6 b7 : Bool) :
    detSum τ ((polyTris (bits8 b0 b1 b2 b3 b4 b5 b6 b7)).map (gidTri p)) =
      vol6R (polyTris (bits8 b0 b1 b2 b3 b4 b5 b6 b7)) (localPar τ p) := by
  have inv := volume_translation_invariant (fun id => gpos τ (gid p id)) (polyTris (bits8 b0 b1 b2 b3 b4 b5 b6 b7))
    (poly_closed b0 b1 b2 b3 b4 b5 b6 b7) (ptR p)
  simp only [volume6, gpos_gid_aux, V3.Add_Sub_cancel_left] at inv
  simp only [detSum, List.map_map, vol6R]
  rw [inv]
  congr 1
  apply List.map_congr_left
  intro t _
  simp only [Function.comp, gidTri, gpos_gid_aux, V3.Sub_zero]

/-- canonical-cap sum of the lattice face ⟂`a` with lower corner `q` -/
noncomputable def capVol (a : Nat) (q : Pt) : ℝ := detSum τ ((capCanon a (latticeFaceBits s q a)).map (shiftTri q))

theorem shiftRV_shiftRV_aux (p q : Pt) (x : RV) : shiftRV p (shiftRV q x) = shiftRV (padd p q) x := by
  cases x with
  | inl l => simp [shiftRV, shiftL, padd_assoc_aux]
  | inr c => simp [shiftRV, padd_assoc_aux]

theorem shiftTri_shiftTri_aux (p q : Pt) (L : List (RV × RV × RV)) :
    (L.map (shiftTri q)).map (shiftTri p) = L.map (shiftTri (padd p q)) := by
  rw [List.map_map]; apply List.map_congr_left; intro t _
  simp only [Function.comp, shiftTri, shiftRV_shiftRV_aux]

theorem shiftTri_flip_aux (p : Pt) (L : List (RV × RV × RV)) :
    (L.map flipTri).map (shiftTri p) = (L.map (shiftTri p)).map flipTri := by
  rw [List.map_map, List.map_map]; apply List.map_congr_left; intro t _; rfl

theorem gidTri_eq_aux (p : Pt) (L : List (Nat × Nat × Nat)) : L.map (gidTri p) = (L.map ridTri).map (shiftTri p) := by
  rw [List.map_map]; apply List.map_congr_left; intro t _; rfl

/-- the cap the cell at `p` puts on its high face ⟂`a` is the canonical cap of the lattice face at `p + e_a` -/
theorem cap_high_aux (p : Pt) (a : Nat) (ha : a < 3) :
    detSum τ ((capTrisFace (cellBits s p) a 1).map (gidTri p)) = capVol s τ a (padd p (unit a)) := by
  have T := Tab.table_cap_canonical (s (padd p (cornerOff 0))) (s (padd p (cornerOff 1))) (s (padd p (cornerOff 2)))
    (s (padd p (cornerOff 3))) (s (padd p (cornerOff 4))) (s (padd p (cornerOff 5))) (s (padd p (cornerOff 6)))
    (s (padd p (cornerOff 7)))
  rw [List.all_eq_true] at T
  have Ta := T a (List.mem_range.mpr ha)
  simp only [Bool.and_eq_true, List.isPerm_iff] at Ta
  change ((capTrisFace (cellBits s p) a 1).map ridTri).Perm ((capCanon a (faceBits (cellBits s p) a 1)).map (shiftTri (unit a))) ∧ _ at Ta
  rw [gidTri_eq_aux, detSum_perm_aux τ (Ta.1.map (shiftTri p)), shiftTri_shiftTri_aux, faceBits_high_aux s p a ha]
  rfl

/-- … and the cap on its low face is the FLIPPED canonical cap of the lattice face at `p` -/
theorem cap_low_aux (p : Pt) (a : Nat) (ha : a < 3) :
    detSum τ ((capTrisFace (cellBits s p) a 0).map (gidTri p)) = - capVol s τ a p := by
  have T := Tab.table_cap_canonical (s (padd p (cornerOff 0))) (s (padd p (cornerOff 1))) (s (padd p (cornerOff 2)))
    (s (padd p (cornerOff 3))) (s (padd p (cornerOff 4))) (s (padd p (cornerOff 5))) (s (padd p (cornerOff 6)))
    (s (padd p (cornerOff 7)))
  rw [List.all_eq_true] at T
  have Ta := T a (List.mem_range.mpr ha)
  simp only [Bool.and_eq_true, List.isPerm_iff] at Ta
  change _ ∧ ((capTrisFace (cellBits s p) a 0).map ridTri).Perm ((capCanon a (faceBits (cellBits s p) a 0)).map flipTri) at Ta
  rw [gidTri_eq_aux, detSum_perm_aux τ (Ta.2.map (shiftTri p)), shiftTri_flip_aux, detSum_flip_aux, faceBits_low_aux s p a ha]
  rfl

/-- the table triangles of the cell, in global coordinates, are the cell's part of the marched surface -/
theorem cell_tris_sum_aux (p : Pt) :
    detSum τ ((caseTris (caseIndex (cellBits s p))).map (gidTri p)) = volume6 (posL τ) ⟨0, 0, 0⟩ (cellTris s p) := by
  have hl := table_tri_edges_lt (s (padd p (cornerOff 0))) (s (padd p (cornerOff 1))) (s (padd p (cornerOff 2)))
    (s (padd p (cornerOff 3))) (s (padd p (cornerOff 4))) (s (padd p (cornerOff 5))) (s (padd p (cornerOff 6)))
    (s (padd p (cornerOff 7)))
  rw [List.all_eq_true] at hl
  simp only [detSum, volume6, cellTris, List.map_map, V3.Sub_zero]
  congr 1
  apply List.map_congr_left
  intro t ht
  have := hl t ht
  simp only [decide_eq_true_eq] at this
  simp only [Function.comp, gidTri, gid, rid, this.1, this.2.1, this.2.2, if_true, shiftRV, gpos]

/-- **Per-cell identity.**  The volume of the cell's closed polyhedron = its part of the marched surface + the canonical-cap
    sums of its three high lattice faces − those of its three low lattice faces -/
theorem cell_identity_aux (p : Pt) :
    vol6R (polyTris (cellBits s p)) (localPar τ p) =
      volume6 (posL τ) ⟨0, 0, 0⟩ (cellTris s p)
        + ((capVol s τ 0 (padd p (unit 0)) - capVol s τ 0 p) + (capVol s τ 1 (padd p (unit 1)) - capVol s τ 1 p)
          + (capVol s τ 2 (padd p (unit 2)) - capVol s τ 2 p)) := by
  have h := cell_poly_sum_aux τ p (s (padd p (cornerOff 0))) (s (padd p (cornerOff 1))) (s (padd p (cornerOff 2)))
    (s (padd p (cornerOff 3))) (s (padd p (cornerOff 4))) (s (padd p (cornerOff 5))) (s (padd p (cornerOff 6)))
    (s (padd p (cornerOff 7)))
  change detSum τ ((polyTris (cellBits s p)).map (gidTri p)) = vol6R (polyTris (cellBits s p)) (localPar τ p) at h
  rw [← h]
  simp only [polyTris, capTris, List.map_append, detSum_append_aux, cell_tris_sum_aux,
    cap_high_aux s τ p 0 (by decide), cap_high_aux s τ p 1 (by decide), cap_high_aux s τ p 2 (by decide),
    cap_low_aux s τ p 0 (by decide), cap_low_aux s τ p 1 (by decide), cap_low_aux s τ p 2 (by decide)]
  ring

theorem sum_flatMap_range_aux {β : Type} (n : Nat) (f : Nat → List β) (g : β → ℝ) :
    (((List.range n).flatMap f).map g).sum = ∑ i ∈ Finset.range n, ((f i).map g).sum := by
  induction n with
  | zero => simp
  | succ n ih =>
    rw [List.range_succ, List.flatMap_append, List.map_append, List.sum_append, ih, Finset.sum_range_succ]
    simp

theorem boxTris_eq_aux (o : Pt) (nx ny nz : Nat) :
    boxTris s o nx ny nz =
      (List.range nx).flatMap fun i => (List.range ny).flatMap fun j => (List.range nz).flatMap fun k =>
        cellTris s (cellAt o i j k) := by
  simp only [boxTris, boxCells, List.flatMap_assoc, List.flatMap_map, cellAt]

theorem volume_box_aux (o : Pt) (nx ny nz : Nat) :
    volume6 (posL τ) ⟨0, 0, 0⟩ (boxTris s o nx ny nz) =
      ∑ i ∈ Finset.range nx, ∑ j ∈ Finset.range ny, ∑ k ∈ Finset.range nz,
        volume6 (posL τ) ⟨0, 0, 0⟩ (cellTris s (cellAt o i j k)) := by
  unfold volume6
  rw [boxTris_eq_aux, sum_flatMap_range_aux]
  refine Finset.sum_congr rfl fun i _ => ?_
  rw [sum_flatMap_range_aux]
  refine Finset.sum_congr rfl fun j _ => ?_
  rw [sum_flatMap_range_aux]

theorem capVol_zero_aux (a : Nat) (ha : a < 3) (q : Pt) (h : latticeFaceBits s q a = [false, false, false, false]) :
    capVol s τ a q = 0 := by
  have hc := Tab.table_cap_canon_empty
  unfold capVol; rw [h]
  interval_cases a
  · rw [hc.1]; simp [detSum]
  · rw [hc.2.1]; simp [detSum]
  · rw [hc.2.2]; simp [detSum]

/-- **The volume enclosed by the marched surface is the sum of the volumes of the cell solids.** -/
theorem volume_box_eq_cells {o : Pt} {nx ny nz : Nat} (hbd : BoundaryOutside s o nx ny nz) :
    volume6 (posL τ) ⟨0, 0, 0⟩ (boxTris s o nx ny nz) =
      ∑ i ∈ Finset.range nx, ∑ j ∈ Finset.range ny, ∑ k ∈ Finset.range nz,
        vol6R (solidTris (cellBits s (cellAt o i j k))) (localPar τ (cellAt o i j k)) := by
  have hcell : ∀ p, vol6R (solidTris (cellBits s p)) (localPar τ p) =
      volume6 (posL τ) ⟨0, 0, 0⟩ (cellTris s p)
        + ((capVol s τ 0 (padd p (unit 0)) - capVol s τ 0 p) + (capVol s τ 1 (padd p (unit 1)) - capVol s τ 1 p)
          + (capVol s τ 2 (padd p (unit 2)) - capVol s τ 2 p)) := by
    intro p
    rw [← cell_identity_aux]
    exact (poly_volume_eq_solid (s (padd p (cornerOff 0))) (s (padd p (cornerOff 1))) (s (padd p (cornerOff 2)))
      (s (padd p (cornerOff 3))) (s (padd p (cornerOff 4))) (s (padd p (cornerOff 5))) (s (padd p (cornerOff 6)))
      (s (padd p (cornerOff 7))) (localPar τ p)).symm
  have hT := box_telescope_aux (capVol s τ) (capVol_zero_aux s τ) hbd
  simp only [Finset.sum_add_distrib] at hT
  simp only [hcell, Finset.sum_add_distrib]
  rw [volume_box_aux]
  linarith

/-- **The enclosed volume is non-negative**: box with outside boundary layer, any sign pattern, all interpolation parameters
    in `[0, 1]` -/
theorem march_volume_nonneg {o : Pt} {nx ny nz : Nat} (hbd : BoundaryOutside s o nx ny nz)
    (hτ : ∀ l, 0 ≤ τ l ∧ τ l ≤ 1) : 0 ≤ volume6 (posL τ) ⟨0, 0, 0⟩ (boxTris s o nx ny nz) := by
  rw [volume_box_eq_cells s τ hbd]
  refine Finset.sum_nonneg fun i _ => Finset.sum_nonneg fun j _ => Finset.sum_nonneg fun k _ => ?_
  exact cell_volume_nonneg _ _ _ _ _ _ _ _ _ (fun e _ => hτ _)

end boxvol

theorem cellTris_nil_aux (s : Pt → Bool) (p : Pt) (h : ∀ i, i < 8 → s (padd p (cornerOff i)) = false) : cellTris s p = [] := by
  have e : cellBits s p = [false, false, false, false, false, false, false, false] := by
    simp only [cellBits, h 0 (by decide), h 1 (by decide), h 2 (by decide), h 3 (by decide), h 4 (by decide),
      h 5 (by decide), h 6 (by decide), h 7 (by decide)]
  have z : caseTris (caseIndex [false, false, false, false, false, false, false, false]) = [] := by decide
  simp only [cellTris, e, z, List.map_nil]

/-- **march_volume_positive** — the clause "oriented outward so that the enclosed volume is positive", in lattice-edge ids:
    for every box of cells with outside boundary layer, every sign pattern, and all interpolation parameters strictly
    between 0 and 1, a non-empty marched surface has positive signed volume. -/
theorem march_volume_positive : C09_volume_positive_full := by
  intro s o nx ny nz hbd τ hτ hne
  rw [volume_box_eq_cells s τ hbd]
  have hnn : ∀ i j k, 0 ≤ vol6R (solidTris (cellBits s (cellAt o i j k))) (localPar τ (cellAt o i j k)) :=
    fun i j k => cell_volume_nonneg _ _ _ _ _ _ _ _ _ (fun e _ => ⟨(hτ _).1.le, (hτ _).2.le⟩)
  -- a cell with a triangle
  obtain ⟨t, ht⟩ := List.exists_mem_of_ne_nil _ hne
  rw [boxTris_eq_aux] at ht
  obtain ⟨i, hi, ht⟩ := List.mem_flatMap.mp ht
  obtain ⟨j, hj, ht⟩ := List.mem_flatMap.mp ht
  obtain ⟨k, hk, ht⟩ := List.mem_flatMap.mp ht
  have hmix : ∃ c, c < 8 ∧ s (padd (cellAt o i j k) (cornerOff c)) = true := by
    by_contra hc
    have : cellTris s (cellAt o i j k) = [] := by
      apply cellTris_nil_aux
      intro c hc8
      cases hs : s (padd (cellAt o i j k) (cornerOff c)) with
      | false => rfl
      | true => exact absurd ⟨c, hc8, hs⟩ hc
    rw [this] at ht; cases ht
  have hpos : 0 < vol6R (solidTris (cellBits s (cellAt o i j k))) (localPar τ (cellAt o i j k)) := by
    apply cell_volume_pos
    · obtain ⟨c, hc8, hs⟩ := hmix
      interval_cases c <;> simp [hs]
    · intro e _; exact hτ _
  calc (0 : ℝ) < vol6R (solidTris (cellBits s (cellAt o i j k))) (localPar τ (cellAt o i j k)) := hpos
    _ ≤ ∑ k' ∈ Finset.range nz, vol6R (solidTris (cellBits s (cellAt o i j k'))) (localPar τ (cellAt o i j k')) :=
        Finset.single_le_sum (f := fun k' => vol6R (solidTris (cellBits s (cellAt o i j k'))) (localPar τ (cellAt o i j k')))
          (fun k' _ => hnn i j k') hk
    _ ≤ ∑ j' ∈ Finset.range ny, ∑ k' ∈ Finset.range nz,
          vol6R (solidTris (cellBits s (cellAt o i j' k'))) (localPar τ (cellAt o i j' k')) :=
        Finset.single_le_sum (f := fun j' => ∑ k' ∈ Finset.range nz,
          vol6R (solidTris (cellBits s (cellAt o i j' k'))) (localPar τ (cellAt o i j' k')))
          (fun j' _ => Finset.sum_nonneg fun k' _ => hnn i j' k') hj
    _ ≤ _ :=
        Finset.single_le_sum (f := fun i' => ∑ j' ∈ Finset.range ny, ∑ k' ∈ Finset.range nz,
          vol6R (solidTris (cellBits s (cellAt o i' j' k'))) (localPar τ (cellAt o i' j' k')))
          (fun i' _ => Finset.sum_nonneg fun j' _ => Finset.sum_nonneg fun k' _ => hnn i' j' k') hi

/-! ### transfer through the weld (exact arithmetic: a position-preserving vertex identification) -/

theorem det3_repeat_aux (u v w : V3 ℝ) (h : u = v ∨ u = w ∨ v = w) : det3 u v w = 0 := by
  rcases h with rfl | rfl | rfl <;> (simp only [det3, V3.Dot, V3.Cross]; ring)

/-- welding with a vertex identification that preserves positions (`posW (φ v) = pos v`) does not change the signed volume:
    the dropped triangles have two corners at the same position -/
theorem weld_preserves_volume {V W : Type} [DecidableEq W] (φ : V → W) (pos : V → V3 ℝ) (posW : W → V3 ℝ)
    (hpos : ∀ v, posW (φ v) = pos v) (o : V3 ℝ) (tris : List (V × V × V)) :
    volume6 posW o (weldTris φ tris) = volume6 pos o tris := by
  set M := tris.map fun t => (φ t.1, φ t.2.1, φ t.2.2) with hM
  have hall : volume6 posW o M = volume6 pos o tris := by
    simp only [volume6, hM, List.map_map]
    congr 1; apply List.map_congr_left; intro t _
    simp only [Function.comp, hpos]
  have hperm : (M.filter nondegB ++ M.filter (fun t => !nondegB t)).Perm M := List.filter_append_perm nondegB M
  have hsum : volume6 posW o (M.filter nondegB) + volume6 posW o (M.filter fun t => !nondegB t) = volume6 posW o M := by
    unfold volume6
    rw [← List.sum_append, ← List.map_append]
    exact (hperm.map _).sum_eq
  have hdrop : volume6 posW o (M.filter fun t => !nondegB t) = 0 := by
    unfold volume6
    apply List.sum_eq_zero
    intro x hx
    obtain ⟨t, ht, rfl⟩ := List.mem_map.mp hx
    have hd := (List.mem_filter.mp ht).2
    simp only [nondegB, Bool.not_and, Bool.not_not, Bool.or_eq_true, beq_iff_eq] at hd
    apply det3_repeat_aux
    rcases hd with (h | h) | h
    · left; rw [h]
    · right; left; rw [h]
    · right; right; rw [h]
  unfold weldTris
  rw [← hall, ← hsum, hdrop, add_zero]

/-- **Positive volume of the welded mesh** (exact arithmetic): box with outside boundary layer, parameters strictly inside
    (0,1), non-empty surface, and a weld map that sends every lattice-edge vertex to a mesh vertex at the same position -/
theorem march_weld_volume_positive {W : Type} [DecidableEq W] (s : Pt → Bool) (o : Pt) (nx ny nz : Nat)
    (hbd : BoundaryOutside s o nx ny nz) (τ : LEdge → ℝ) (hτ : ∀ l, 0 < τ l ∧ τ l < 1) (hne : boxTris s o nx ny nz ≠ [])
    (φ : LEdge → W) (posW : W → V3 ℝ) (hpos : ∀ l, posW (φ l) = posL τ l) :
    0 < volume6 posW ⟨0, 0, 0⟩ (weldTris φ (boxTris s o nx ny nz)) := by
  rw [weld_preserves_volume φ (posL τ) posW hpos]
  exact march_volume_positive s o nx ny nz hbd τ hτ hne

/-- non-vacuity: one inside sample in a 2×2×2 box, every vertex at the middle of its edge — the surface is not empty -/
example : boxTris (fun q => decide (q = ((-1 : Int), (-1 : Int), (-1 : Int)))) (-2, -2, -2) 2 2 2 ≠ [] := by decide

/-! ## The volume theorems for exactly the cells the real marcher visits -/

/-- what `marchFloat1BlockPosition` emits for one cell of block `b`, as triangles in lattice-edge ids -/
def cellEmitTris {α : Type} (bl : Blocks α) (val : α → Bool) (b : Pt) (l : Int × Int × Int) : List (LEdge × LEdge × LEdge) :=
  match fetchCell bl b l.1 l.2.1 l.2.2 with
  | none => []
  | some cs => (caseTris (caseIndex (cs.map val))).map fun t =>
      (shiftL (globalOf b l.1 l.2.1 l.2.2) (edgeRel t.1), shiftL (globalOf b l.1 l.2.1 l.2.2) (edgeRel t.2.1),
       shiftL (globalOf b l.1 l.2.1 l.2.2) (edgeRel t.2.2))

/-- `marchFloat1`: the triangle list over all allocated blocks (any order) and all their cells -/
def marchedTris {α : Type} (bl : Blocks α) (val : α → Bool) (bs : List Pt) : List (LEdge × LEdge × LEdge) :=
  bs.flatMap fun b => localCells.flatMap (cellEmitTris bl val b)

theorem cellEmitTris_eq_aux {α : Type} (bl : Blocks α) (val : α → Bool) (b : Pt) (l : Int × Int × Int) (hl : l ∈ localCells) :
    cellEmitTris bl val b l = if (fetchCell bl b l.1 l.2.1 l.2.2).isSome then
      cellTris (storedSign bl val) (globalOf b l.1 l.2.1 l.2.2) else [] := by
  have hr := (mem_localCells_aux l).mp hl
  unfold cellEmitTris
  cases h : fetchCell bl b l.1 l.2.1 l.2.2 with
  | none => simp
  | some cs =>
    have hb := fetched_bits_aux bl val b l.1 l.2.1 l.2.2 (by simpa [marchingSectionSize] using hr.1)
      (by simpa [marchingSectionSize] using hr.2.1) (by simpa [marchingSectionSize] using hr.2.2) cs h
    simp only [Option.isSome_some, if_true, cellTris, hb]

/-- the triangle-list form of `marched_perm_box` -/
theorem marched_tris_perm_box {α : Type} (bl : Blocks α) (val : α → Bool) (bs : List Pt) (o : Pt) (nx ny nz : Nat)
    (H : MarchHyp bl val bs o nx ny nz) :
    (marchedTris bl val bs).Perm (boxTris (storedSign bl val) o nx ny nz) :=
  visited_perm_aux bl val bs o nx ny nz _ _ H (cellEmitTris_eq_aux bl val) (cellTris_nil_aux _)

/-- **Positive volume of exactly what the marcher emits** (lattice-edge ids, exact arithmetic): under `MarchHyp`, with every
    vertex strictly inside its lattice edge, a non-empty emitted triangle list has positive signed volume -/
theorem marched_volume_positive {α : Type} (bl : Blocks α) (val : α → Bool) (bs : List Pt) (o : Pt) (nx ny nz : Nat)
    (H : MarchHyp bl val bs o nx ny nz) (τ : LEdge → ℝ) (hτ : ∀ l, 0 < τ l ∧ τ l < 1) (hne : marchedTris bl val bs ≠ []) :
    0 < volume6 (posL τ) ⟨0, 0, 0⟩ (marchedTris bl val bs) := by
  have hp := marched_tris_perm_box bl val bs o nx ny nz H
  have hv : volume6 (posL τ) ⟨0, 0, 0⟩ (marchedTris bl val bs) = volume6 (posL τ) ⟨0, 0, 0⟩ (boxTris (storedSign bl val) o nx ny nz) := by
    unfold volume6; exact (hp.map _).sum_eq
  rw [hv]
  refine march_volume_positive _ o nx ny nz (boundaryOutside_of_inBox_aux bl val bs o nx ny nz H) τ hτ ?_
  intro h0; rw [h0] at hp; exact hne (List.Perm.eq_nil hp)

end C09
end PolyVerif
