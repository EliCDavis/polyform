/-
  C15 — SPZ version-1 positions are IEEE 754 binary16 numbers.

  Subject: `Spz.halfToFloat` (Model/Spz.lean), the transcription of /repo/formats/spz/util.go `halfToFloat`
  that `Spz.decodePositions` / `Spz.dequant` call for version-1 streams and that the C15 driver therefore
  runs (at `Float`) for every `c15.spz.read` / `c15.holds.spz_dequant` line with a version-1 header and for
  the exhaustive line `c15.spz.halfall` (all 65536 patterns through `spz.Read`).

  Here the same definition is read at ℝ (`math.Pow(2, k)` = the real power, `RealEnv`) and proved to be the
  IEEE 754-2008 §3.4 value of the bit pattern for every pattern class, to be exact (an 11-bit dyadic in the
  float32/float64 normal range: none of the source's float64 operations rounds), strictly monotone with
  consecutive patterns one unit in the last place apart, and to be inverted within half a unit in the last
  place by a reference round-to-nearest-even encoder (the repository has NO float → half encoder; `spz.Write`
  writes a header only — the encoder is a specification-side definition, as `refEncode` is for the layout).

  Lemmas, and the reference encoder `Half.encode`, are in Lemmas/Half.lean.
-/
import PolyVerif.Lemmas.Half
import PolyVerif.Gen.SpzDequant

namespace PolyVerif
namespace C15
open Spz Half

/-! ## the independent specification: IEEE 754-2008 §3.4, binary16 (w = 5, t = 10, p = 11, bias = 15, emin = −14) -/

namespace Ieee

/-- a floating-point datum -/
inductive Value where
  | finite (x : ℝ)
  | inf (negative : Bool)
  | nan

/-- §3.4 a)–e) with `S` the sign bit, `Ex` the biased exponent field, `T` the trailing significand field:
    a) `Ex = 2^w − 1`, `T ≠ 0`: NaN;  b) `Ex = 2^w − 1`, `T = 0`: `(−1)^S ∞`;
    c) `1 ≤ Ex ≤ 2^w − 2`: `(−1)^S · 2^(Ex − bias) · (1 + 2^(1−p) · T)`;
    d) `Ex = 0`, `T ≠ 0`: `(−1)^S · 2^emin · (0 + 2^(1−p) · T)`;  e) `Ex = 0`, `T = 0`: signed zero (the same
    formula as d) -/
noncomputable def binary16 (S : Bool) (Ex T : Nat) : Value :=
  if Ex = 31 then (if T ≠ 0 then .nan else .inf S)
  else if 1 ≤ Ex then .finite ((-1) ^ S.toNat * (2 : ℝ) ^ ((Ex : ℤ) - 15) * (1 + (2 : ℝ) ^ (-10 : ℤ) * T))
  else .finite ((-1) ^ S.toNat * (2 : ℝ) ^ (-14 : ℤ) * (0 + (2 : ℝ) ^ (-10 : ℤ) * T))

end Ieee

/-- how the decoder's result type carries a datum: `math.Inf(±1)`, `math.NaN()` are the environment's -/
def embed (E : Env ℝ) : Ieee.Value → ℝ
  | .finite x => x
  | .inf true => -E.inf
  | .inf false => E.inf
  | .nan => E.nan

/-- EVERY bit pattern: the decoder returns the IEEE binary16 datum whose sign is bit 15, whose biased
    exponent is bits 14–10 and whose trailing significand is bits 9–0 — normal numbers, subnormals, ±0
    (both are the real 0; the source computes `−1 · 2^−14 · 0 / 1024 = −0`), ±∞ as `math.Inf(±1)`, every NaN
    pattern as `math.NaN()` (sign and payload dropped).  Holds for every environment, in particular with
    `inf`, `nan` symbolic and distinct. -/
theorem half_is_binary16 (E : Env ℝ) (hE : Half.RealEnv E) (h : BitVec 16) :
    halfToFloat E h.toNat = embed E (Ieee.binary16 h.msb (h.extractLsb' 10 5).toNat (h.extractLsb' 0 10).toNat) := by
  rw [exp_field, man_field, msb_bits]
  unfold Ieee.binary16
  by_cases h31 : h.toNat / 1024 % 32 = 31
  · unfold halfToFloat
    simp only [h31, if_true, if_false, show (31 : ℕ) ≠ 0 by norm_num, ne_eq]
    by_cases hm : h.toNat % 1024 = 0
    · by_cases hs : h.toNat / 32768 % 2 = 1 <;> simp [hm, hs, embed]
    · simp [hm, embed]
  · -- §3.4 c)–e) is `± mag / 2^25` for every format (`FloatFormat.ieee_value`), and `mag` of the fields is `num`
    rw [halfToFloat_finite E hE _ h31, if_neg h31, ← apply_ite Ieee.Value.finite,
      FloatFormat.ieee_value (P := 1024) (c := 2 ^ 25) (tz := 10) (bz := 15) (emin := -14) 10 15 _ _ _ rfl rfl rfl
        (by norm_num) (by norm_num)]
    simp only [embed, sgnR, decide_eq_true_eq]
    rfl

/-- the source's own operators (`(h >> 10) & 0x1f`, `h & 0x3ff`, `(h >> 15) & 0x1` on a `uint16`) give the
    div/mod form the driver runs — for every scalar type, so at `Float` too -/
theorem half_bits_form {α : Type} [Scalar α] (E : Env α) (h : BitVec 16) :
    halfToFloatBits E h = halfToFloat E h.toNat := halfToFloatBits_eq E h

/-- SOURCE TIE (engine F): `Spz.halfToFloat` — the definition `half_is_binary16` and everything below is stated about
    — equals `Gen.SpzDequant.halfSrc`, the definition REGENERATED from /repo/formats/spz/util.go on every run
    (go/facts mode c15.spzdequant), on every 16-bit pattern and for every scalar type; so the binary16 theorems are
    theorems about regenerated code -/
theorem halfToFloat_from_source {α : Type} [Scalar α] (E : Env α) (h : BitVec 16) :
    halfToFloat E h.toNat = PolyVerif.Gen.SpzDequant.halfSrc E h :=
  (halfToFloatBits_eq E h).symm

/-- positions: version 2 reads record `i` at bytes `i*9 …` through the regenerated expression; version 1 reads uint16
    `i*3 + k` (bytes `2·(i*3+k)`, `+1`, little endian) through the regenerated `halfToFloat` -/
theorem spz_position_stride_from_source {α : Type} [Scalar α] (E : Env α) (h : Header) (a : List UInt8) :
    decodePositions E h a = (List.range h.numPoints).map fun i =>
      if h.version = 1 then
        (⟨PolyVerif.Gen.SpzDequant.halfSrc E (BitVec.ofNat 16 ((byteAt a (2 * (i * 3))).toNat + 256 * (byteAt a (2 * (i * 3) + 1)).toNat)),
          PolyVerif.Gen.SpzDequant.halfSrc E (BitVec.ofNat 16 ((byteAt a (2 * (i * 3 + 1))).toNat + 256 * (byteAt a (2 * (i * 3 + 1) + 1)).toNat)),
          PolyVerif.Gen.SpzDequant.halfSrc E (BitVec.ofNat 16 ((byteAt a (2 * (i * 3 + 2))).toNat + 256 * (byteAt a (2 * (i * 3 + 2) + 1)).toNat))⟩ : V3 α)
      else
        PolyVerif.Gen.SpzDequant.posSrc E h.fractionalBits (byteAt a (i * 9 + 0)) (byteAt a (i * 9 + 1)) (byteAt a (i * 9 + 2))
          (byteAt a (i * 9 + 3)) (byteAt a (i * 9 + 4)) (byteAt a (i * 9 + 5)) (byteAt a (i * 9 + 6)) (byteAt a (i * 9 + 7))
          (byteAt a (i * 9 + 8)) := by
  have key : ∀ b0 b1 : UInt8, halfCoord E b0 b1 =
      PolyVerif.Gen.SpzDequant.halfSrc E (BitVec.ofNat 16 (b0.toNat + 256 * b1.toNat)) := by
    intro b0 b1
    rw [← halfToFloat_from_source, BitVec.toNat_ofNat]
    have := b0.toNat_lt; have := b1.toNat_lt
    unfold halfCoord
    congr 1; omega
  unfold decodePositions
  apply List.map_congr_left
  intro i _
  by_cases hv : h.version = 1
  · simp only [if_pos hv, key]
  · simp only [if_neg hv]; rfl

/-- the classes spelled out as closed formulas: normal `±2^(e−15)·(1 + m/1024)`, subnormal and zero
    `±2^−14·m/1024`, infinity, NaN -/
theorem half_classes (E : Env ℝ) (hE : Half.RealEnv E) (h : Nat) :
    (1 ≤ expOf h → expOf h ≤ 30 →
      halfToFloat E h = sgnR h * (2 : ℝ) ^ ((expOf h : ℤ) - 15) * (1 + (manOf h : ℝ) / 1024)) ∧
    (expOf h = 0 → halfToFloat E h = sgnR h * (2 : ℝ) ^ (-14 : ℤ) * ((manOf h : ℝ) / 1024)) ∧
    (expOf h = 0 → manOf h = 0 → halfToFloat E h = 0) ∧
    (expOf h = 31 → manOf h = 0 → halfToFloat E h = if h / 32768 % 2 = 1 then -E.inf else E.inf) ∧
    (expOf h = 31 → manOf h ≠ 0 → halfToFloat E h = E.nan) := by
  unfold expOf manOf
  refine ⟨fun h1 h2 => ?_, fun h0 => ?_, fun h0 hm => ?_, fun h31 hm => ?_, fun h31 hm => ?_⟩
  · unfold halfToFloat sgnR
    simp only [natF, Nat.cast_one, Nat.cast_ofNat, if_neg (show ¬ h / 1024 % 32 = 0 by omega),
      if_neg (show ¬ h / 1024 % 32 = 31 by omega)]
    rw [hE]
  · unfold halfToFloat sgnR
    simp only [natF, Nat.cast_one, Nat.cast_ofNat, if_pos h0]
    rw [hE]; split_ifs <;> ring
  · unfold halfToFloat
    simp only [natF, Nat.cast_one, Nat.cast_ofNat, if_pos h0, hm, Nat.cast_zero, mul_zero, zero_div]
  · unfold halfToFloat
    simp only [h31, show (31 : ℕ) ≠ 0 by norm_num, if_false, if_true, ne_eq, hm, not_true_eq_false]
  · unfold halfToFloat
    simp only [h31, show (31 : ℕ) ≠ 0 by norm_num, if_false, if_true, ne_eq, hm, not_false_eq_true]

/-- EXACTNESS: every finite half is `± s · 2^(k − 25)` with an 11-bit significand `s < 2^11` and
    `−24 ≤ k − 25 ≤ 5`: a dyadic that float32 (24-bit significand, exponents down to −149) and float64 hold
    exactly; the source's intermediate values (`m/1024`, `1 + m/1024 = (1024+m)/2^10`, `±2^(e−15)`, their
    product) are of the same kind, so none of its float64 operations rounds and the real-number reading of the
    expression IS its float64 result -/
theorem half_exact_dyadic (E : Env ℝ) (hE : Half.RealEnv E) (h : Nat) (he : expOf h ≠ 31) :
    ∃ s k : Nat, s < 2 ^ 11 ∧ 1 ≤ k ∧ k ≤ 30 ∧ halfToFloat E h = sgnR h * ((s : ℝ) * 2 ^ k / 2 ^ 25) := by
  obtain ⟨s, k, hs, hk1, hk2, e⟩ := num_dyadic h he
  refine ⟨s, k, hs, hk1, hk2, ?_⟩
  rw [halfToFloat_finite E hE h he, e]; push_cast; ring

/-- ONE STEP: on the non-negative finite patterns `0 … 0x7bff` the decoder is strictly increasing and
    consecutive patterns are exactly one unit in the last place apart (`2^(max e 1 − 25)`); hence injective
    there; the largest finite value is 65504, pattern 0 is 0; and a set sign bit negates -/
theorem half_step (E : Env ℝ) (hE : Half.RealEnv E) :
    (∀ h, h + 1 < 31744 → halfToFloat E (h + 1) - halfToFloat E h = 2 ^ ulpExp h / 2 ^ 25) ∧
    (∀ a b, a < b → b < 31744 → halfToFloat E a < halfToFloat E b) ∧
    (∀ a b, a < 31744 → b < 31744 → halfToFloat E a = halfToFloat E b → a = b) ∧
    halfToFloat E 0 = 0 ∧ halfToFloat E 31743 = 65504 ∧
    (∀ h, h < 31744 → halfToFloat E (32768 + h) = -halfToFloat E h) := by
  have fin := halfToFloat_val E hE
  refine ⟨fun h hh => ?_, fun a b hab hb => ?_, fun a b ha hb e => ?_, ?_, ?_, fun h hh => ?_⟩
  · rw [fin _ hh, fin _ (by omega), val_succ h hh]; ring
  · rw [fin _ (by omega), fin _ hb]; exact val_strictMono hab hb
  · rw [fin _ ha, fin _ hb] at e
    apply num_injective ha hb
    unfold val at e
    have := (div_left_inj' (by positivity : (2 : ℝ) ^ 25 ≠ 0)).mp e
    exact_mod_cast this
  · rw [fin 0 (by norm_num), val_zero]
  · rw [fin _ (by norm_num), val_max]
  · rw [fin h hh, halfToFloat_neg_val E hE h hh]

/-- ENCODE → DECODE (reference encoder `Half.encode`: sign, then the nearer neighbouring pattern, ties to the even
    pattern).  Guard: `|x| ≤ 65504`, the largest finite half.  The pattern returned is finite; no finite
    pattern decodes to a value nearer to `x`; the error is at most half a unit in the last place of the
    bracket's lower end `floorPat |x|` — in particular `≤ 2^−25` whatever `x` — and, in the NORMAL range
    `2^−14 ≤ |x| ≤ 65504`, at most `|x|·2^−11` -/
theorem half_encode_decode (E : Env ℝ) (hE : Half.RealEnv E) (x : ℝ) (hx : |x| ≤ 65504) :
    expOf (encode x) ≠ 31 ∧
    (∀ k, k < 65536 → expOf k ≠ 31 → |halfToFloat E (encode x) - x| ≤ |halfToFloat E k - x|) ∧
    |halfToFloat E (encode x) - x| ≤ 2 ^ ulpExp (floorPat |x|) / 2 ^ 26 ∧
    (1 / 2 ^ 14 ≤ |x| → |halfToFloat E (encode x) - x| ≤ |x| / 2 ^ 11) := by
  refine ⟨encode_finite x, fun k hk he => decode_nearest E hE x hx k hk he, ?_, fun hn => ?_⟩
  · rw [abs_decode_encode E hE x]; exact encodeMag_half_ulp |x| (abs_nonneg x) hx
  · rw [abs_decode_encode E hE x]; exact encodeMag_relative |x| hn hx

/-- DECODE → ENCODE: the encoder reproduces every finite pattern except the negative zero (which it maps,
    like `+0`, to pattern 0: both decode to the real 0) — decoding loses nothing -/
theorem half_decode_encode (E : Env ℝ) (hE : Half.RealEnv E) (h : Nat) (hh : h < 65536) (he : expOf h ≠ 31)
    (hz : h ≠ 32768) : encode (halfToFloat E h) = h := encode_decode_id E hE h hh he hz

/-- VERSION-1 RECORDS (the counterpart of `spz_dequant_is_published`, which covers version 2): every position
    coordinate of the dequantisation of a version-1 record is the IEEE binary16 datum of its two bytes read
    little endian (`binary.Read(in, LittleEndian, &[]uint16)`) — for every byte pair.  With
    `spz_decode_refEncode` (layout): splat `i` of `spz.Read`'s result on a version-1 stream carries the binary16
    values of record `i`. -/
theorem spz_dequant_v1_position_is_binary16 (E : Env ℝ) (hE : Half.RealEnv E) (h : Header) (hv : h.version = 1)
    (p : Packed) :
    let datum := fun (b0 b1 : UInt8) =>
      let w : BitVec 16 := BitVec.ofNat 16 (b0.toNat + 256 * b1.toNat)
      embed E (Ieee.binary16 w.msb (w.extractLsb' 10 5).toNat (w.extractLsb' 0 10).toNat)
    (dequant E h p).pos = ⟨datum (byteAt p.pos 0) (byteAt p.pos 1), datum (byteAt p.pos 2) (byteAt p.pos 3),
      datum (byteAt p.pos 4) (byteAt p.pos 5)⟩ := by
  have key : ∀ b0 b1 : UInt8, halfCoord E b0 b1 =
      (let w : BitVec 16 := BitVec.ofNat 16 (b0.toNat + 256 * b1.toNat)
       embed E (Ieee.binary16 w.msb (w.extractLsb' 10 5).toNat (w.extractLsb' 0 10).toNat)) := by
    intro b0 b1
    have hw : (BitVec.ofNat 16 (b0.toNat + 256 * b1.toNat)).toNat = b0.toNat + 256 * b1.toNat := by
      rw [BitVec.toNat_ofNat]
      have := b0.toNat_lt; have := b1.toNat_lt
      omega
    simp only []
    rw [← half_is_binary16 E hE, hw]; rfl
  simp only [dequant, if_pos hv, key]

/-! ### non-vacuity: an environment satisfying `RealEnv` with distinct symbolic `inf`/`nan`, closed values, guards -/

/-- the decoder's arithmetic at ℝ; `inf`, `nan` are distinct tokens no finite half equals -/
noncomputable def exHalfEnv : Env ℝ := ⟨fun z => (z : ℝ), fun k => (2 : ℝ) ^ k, 100000, 200000⟩

example : Half.RealEnv exHalfEnv := fun _ => rfl
/-- 0x3c00 = 1, 0xc000 = −2, 0x0001 = 2^−24 (smallest subnormal), 0x0400 = 2^−14 (smallest normal),
    0x7c00 = +∞, 0xfc00 = −∞, 0x7e00 = NaN -/
example : halfToFloat exHalfEnv 0x3c00 = 1 ∧ halfToFloat exHalfEnv 0xc000 = -2 ∧
    halfToFloat exHalfEnv 0x0001 = 1 / 2 ^ 24 ∧ halfToFloat exHalfEnv 0x0400 = 1 / 2 ^ 14 ∧
    halfToFloat exHalfEnv 0x7c00 = 100000 ∧ halfToFloat exHalfEnv 0xfc00 = -100000 ∧
    halfToFloat exHalfEnv 0x7e00 = 200000 := by
  have hE : Half.RealEnv exHalfEnv := fun _ => rfl
  have n1 : num 0x3c00 = 2 ^ 25 := by decide
  have n2 : num 0x4000 = 2 ^ 26 := by decide
  have n3 : num 1 = 2 := by decide
  have n4 : num 0x400 = 2 ^ 11 := by decide
  refine ⟨?_, ?_, ?_, ?_, ?_, ?_, ?_⟩
  · rw [halfToFloat_val _ hE _ (by norm_num), val, n1]; norm_num
  · rw [show (0xc000 : ℕ) = 32768 + 0x4000 by norm_num, halfToFloat_neg_val _ hE _ (by norm_num), val, n2]; norm_num
  · rw [halfToFloat_val _ hE _ (by norm_num), val, n3]; norm_num
  · rw [halfToFloat_val _ hE _ (by norm_num), val, n4]; norm_num
  · exact ((half_classes exHalfEnv hE 0x7c00).2.2.2.1 (by decide) (by decide)).trans (by norm_num [exHalfEnv])
  · exact ((half_classes exHalfEnv hE 0xfc00).2.2.2.1 (by decide) (by decide)).trans (by norm_num [exHalfEnv])
  · exact (half_classes exHalfEnv hE 0x7e00).2.2.2.2 (by decide) (by decide)
/-- the guards of `half_encode_decode` hold for a value in the normal range that is not a half -/
example : |(3.14159 : ℝ)| ≤ 65504 ∧ 1 / 2 ^ 14 ≤ |(3.14159 : ℝ)| := by
  rw [abs_of_pos (by norm_num)]; constructor <;> norm_num
example : (0x3555 : ℕ) < 65536 ∧ expOf 0x3555 ≠ 31 ∧ (0x3555 : ℕ) ≠ 32768 := by decide

end C15
end PolyVerif
