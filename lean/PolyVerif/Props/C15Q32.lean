/-
  C15 — "exact float32 positions", with the float32 conversion SPECIFIED instead of opaque.

  The .splat theorems keep `E.to32` / `E.of32` (Go's `math.Float32bits(float32(x))` / `float64(math.Float32frombits(w))`) as
  fields of the environment.  Here they are instantiated with the specification of C07: `B32.roundMag` (round to
  nearest, ties to even; Model/Binary32.lean, tied to Go's `float32()` by `c07.q32spec`) on the exact value of the
  coordinate — every finite float64 is a ratio `n/d` of naturals — and `decode32`, the value `± num/2^150` of a stored word
  (the formula that `C07.binary32_finite` proves for `Ieee.binary32`, written out again here: this file does not
  import it and no lemma links the two).  Tie on the C15 side: the driver's `E.to32` (Lean `Float.toFloat32`) is compared with Go's
  conversion bit for bit on every `c15.splat.write` line; no new stream.
-/
import PolyVerif.Props.C15
import PolyVerif.Lemmas.Binary32

set_option exponentiation.threshold 300

namespace PolyVerif
namespace C15
open Splat B32

/-- the value of a stored float32 word whose exponent field is not all ones: `± num/2^150` -/
noncomputable def decode32 (w : UInt32) : ℝ :=
  (if 2147483648 ≤ w.toNat then -1 else 1) * val (w.toNat % 2147483648)

open Classical in
/-- `float32(x)` by the specification, on a real that is a ratio of naturals up to sign (every finite float64): sign bit
    plus `roundMag n d` for SOME `n/d = |x|` (the theorems below hold for whichever representation is chosen) -/
noncomputable def q32R (x : ℝ) : UInt32 :=
  if h : ∃ n d : ℕ, 0 < d ∧ |x| = (n : ℝ) / d then
    UInt32.ofNat ((if x < 0 then 2147483648 else 0) + roundMag (choose h) (choose (choose_spec h)))
  else 0

/-- the codec environment with the float32 conversions specified -/
noncomputable def specEnv (E : Env ℝ) : Env ℝ := { E with to32 := q32R, of32 := decode32 }

/-- the word made of a sign bit and a pattern below it decodes to the signed value of that pattern -/
theorem decode32_sign (x : ℝ) (r : ℕ) (hr : r < 2147483648) :
    decode32 (UInt32.ofNat ((if x < 0 then 2147483648 else 0) + r)) = (if x < 0 then -1 else 1) * val r := by
  unfold decode32
  rw [UInt32.toNat_ofNat']
  by_cases hneg : x < 0
  · rw [if_pos hneg, if_pos hneg, if_pos (by omega)]; congr 2; omega
  · rw [if_neg hneg, if_neg hneg, if_neg (by omega)]; congr 2; omega

theorem q32_core_aux (x : ℝ) (n d : ℕ) (hd : 0 < d) (he : |x| = (n : ℝ) / d)
    (hlo : (2 : ℝ) ^ 24 / 2 ^ 150 ≤ |x|) (hhi : |x| < (thrNum : ℝ) / 2 ^ 150) :
    |decode32 (UInt32.ofNat ((if x < 0 then 2147483648 else 0) + roundMag n d)) - x| ≤ |x| / 2 ^ 24 := by
  have hdR : (0 : ℝ) < d := by exact_mod_cast hd
  have h1 : n * 2 ^ 150 < thrNum * d := by
    rw [he, div_lt_div_iff₀ hdR (by positivity)] at hhi
    exact_mod_cast hhi
  have h2 : 2 ^ 24 * d ≤ n * 2 ^ 150 := by
    rw [he, div_le_div_iff₀ (by positivity) hdR] at hlo
    exact_mod_cast hlo
  obtain ⟨e, h0, hB⟩ := roundMag_bracket_of_lt n d hd h1
  rw [decode32_sign x _ hB.result_lt, FloatFormat.abs_signed_sub, he]
  exact bracket_relative hd hB h2

/-- the specified conversion in the NORMAL range `2^−126 ≤ |x| < (2^25 − 1)·2^103` (= max finite + half ulp), written
    over `2^150`: the stored word decodes to a value within relative `2^−24` of `x` -/
theorem q32R_relative (x : ℝ) (hx : ∃ n d : ℕ, 0 < d ∧ |x| = (n : ℝ) / d)
    (hlo : (2 : ℝ) ^ 24 / 2 ^ 150 ≤ |x|) (hhi : |x| < (thrNum : ℝ) / 2 ^ 150) :
    |decode32 (q32R x) - x| ≤ |x| / 2 ^ 24 := by
  classical
  unfold q32R
  rw [dif_pos hx]
  have hs := Classical.choose_spec (Classical.choose_spec hx)
  exact q32_core_aux x _ _ hs.1 hs.2 hlo hhi

/-- EXACT FLOAT32 POSITIONS: with the conversions specified, the x position read back from the record of a splat is
    the binary32 value of the word `float32(x)` by the specification, and it is within relative `2^−24` of the
    coordinate — for every coordinate that is a ratio of naturals up to sign (every finite float64) in the normal
    float32 range.  (`py`, `pz`: the same statement, the fields are treated alike.) -/
theorem splat_position_q32spec (E : Env ℝ) (s : Splat ℝ) (hx : ∃ n d : ℕ, 0 < d ∧ |s.px| = (n : ℝ) / d)
    (hlo : (2 : ℝ) ^ 24 / 2 ^ 150 ≤ |s.px|) (hhi : |s.px| < (thrNum : ℝ) / 2 ^ 150) :
    (decSplat (specEnv E) (encSplat (specEnv E) s)).px = decode32 (q32R s.px) ∧
    |(decSplat (specEnv E) (encSplat (specEnv E) s)).px - s.px| ≤ |s.px| / 2 ^ 24 :=
  ⟨rfl, q32R_relative s.px hx hlo hhi⟩

/-- SCALES "up to float32 rounding of exp/log": the scale read back is `log` of the binary32 value of `float32(exp s)`,
    which is within relative `2^−24` of `exp s` when that (a float64 in the code) is a ratio of naturals in the normal
    range; `exp`/`log` stay the environment's -/
theorem splat_scale_q32spec (E : Env ℝ) (s : Splat ℝ) (hx : ∃ n d : ℕ, 0 < d ∧ |E.exp s.sx| = (n : ℝ) / d)
    (hlo : (2 : ℝ) ^ 24 / 2 ^ 150 ≤ |E.exp s.sx|) (hhi : |E.exp s.sx| < (thrNum : ℝ) / 2 ^ 150) :
    (decSplat (specEnv E) (encSplat (specEnv E) s)).sx = E.log (decode32 (q32R (E.exp s.sx))) ∧
    |decode32 (q32R (E.exp s.sx)) - E.exp s.sx| ≤ |E.exp s.sx| / 2 ^ 24 :=
  ⟨rfl, q32R_relative _ hx hlo hhi⟩

/-- non-vacuity: 3/2 is a ratio of naturals inside the normal range -/
example : (∃ n d : ℕ, 0 < d ∧ |(3 / 2 : ℝ)| = (n : ℝ) / d) ∧ (2 : ℝ) ^ 24 / 2 ^ 150 ≤ |(3 / 2 : ℝ)| ∧
    |(3 / 2 : ℝ)| < (thrNum : ℝ) / 2 ^ 150 := by
  rw [abs_of_pos (by norm_num)]
  refine ⟨⟨3, 2, by norm_num, by norm_num⟩, ?_, ?_⟩
  · rw [div_le_div_iff₀ (by positivity) (by norm_num)]; norm_num
  · rw [div_lt_div_iff₀ (by norm_num) (by positivity)]; unfold thrNum; norm_num

end C15
end PolyVerif
