/-
  C06 — where the writer can panic.  For a scene that exists in Go (`Representable`: every id is a pointer into
  its heap, except normal / occlusion texture ids, which may be nil), `writeSceneT s = .panic` only if some model's mesh has an
  undeclared topology value (`PrimitiveCount()`), or some model's material is a `PolyformNormal{}` / `PolyformOcclusion{}`
  literal with a nil embedded texture (`AddTexture(nil)`).  So on every other representable scene the writer returns: a file
  or an error.
-/
import PolyVerif.Props.C06Topo

namespace PolyVerif
namespace C06
open Gltf

theorem addTexOpt_error {th : Nat → Option PTexture} {w : W} {o : Option Nat} {e : Err}
    (h : addTexOpt th w o = .error e) : ∃ id, o = some id ∧ th id = none := by
  cases o with
  | none => simp [addTexOpt] at h
  | some id =>
    refine ⟨id, rfl, ?_⟩
    cases ht : th id with
    | none => rfl
    | some t => simp [addTexOpt, ht] at h

theorem addTexList_error {th : Nat → Option PTexture} : ∀ (l : List (String × Nat)) (w : W) (e : Err),
    addTexList th w l = .error e → ∃ kt ∈ l, th kt.2 = none
  | [], w, e, h => by simp [addTexList] at h
  | (k, id) :: r, w, e, h => by
    cases ht : th id with
    | none => exact ⟨(k, id), by simp, ht⟩
    | some t =>
      simp only [addTexList, ht] at h
      split at h
      · rename_i x hx
        obtain ⟨kt, hkt, hn⟩ := addTexList_error r _ x hx
        exact ⟨kt, by simp [hkt], hn⟩
      · cases h

theorem addMatExts_error {th : Nat → Option PTexture} : ∀ (l : List PMatExt) (w : W) (e : Err),
    addMatExts th w l = .error e → ∃ x ∈ l, ∃ kt ∈ x.texs, th kt.2 = none
  | [], w, e, h => by simp [addMatExts] at h
  | x :: r, w, e, h => by
    simp only [addMatExts] at h
    split at h
    · rename_i y hy
      obtain ⟨kt, hkt, hn⟩ := addTexList_error x.texs w y hy
      exact ⟨x, by simp, kt, hkt, hn⟩
    · rename_i w1 tis hy
      split at h
      · rename_i y hy2
        obtain ⟨x', hx', kt, hkt, hn⟩ := addMatExts_error r _ y hy2
        exact ⟨x', by simp [hx'], kt, hkt, hn⟩
      · cases h

/-- `AddMaterial` fails with `.badId` only when one of the texture ids it dereferences is outside the heap -/
theorem addMaterial_badId {th : Nat → Option PTexture} {w : W} {m : PMaterial} (h : addMaterial th w m = .error .badId) :
    (∃ id, (if m.hasPbr then m.baseColorTex else none) = some id ∧ th id = none)
    ∨ (∃ id, (if m.hasPbr then m.metalRoughTex else none) = some id ∧ th id = none)
    ∨ (∃ x ∈ m.exts, ∃ kt ∈ x.texs, th kt.2 = none)
    ∨ (∃ id sc, m.normalTex = some (id, sc) ∧ th id = none)
    ∨ (∃ id sc, m.occlusionTex = some (id, sc) ∧ th id = none) := by
  unfold addMaterial at h
  split at h
  · rename_i k hk
    split at h
    · cases h
    · rename_i hnone
      have := (findIdx_lt _ _ _ _ hk).2
      rw [List.getElem?_eq_none_iff] at hnone
      omega
  · split at h
    · rename_i e he; exact Or.inl (addTexOpt_error he)
    · split at h
      · rename_i e he; exact Or.inr (Or.inl (addTexOpt_error he))
      · split at h
        · rename_i e he; exact Or.inr (Or.inr (Or.inl (addMatExts_error _ _ _ he)))
        · split at h
          · cases h
          · split at h
            · rename_i e he
              obtain ⟨id, hid, hn⟩ := addTexOpt_error he
              cases hnt : m.normalTex with
              | none => simp [hnt] at hid
              | some p =>
                simp only [hnt, Option.map_some, Option.some.injEq] at hid
                exact Or.inr (Or.inr (Or.inr (Or.inl ⟨p.1, p.2, by simp, by rw [hid]; exact hn⟩)))
            · split at h
              · rename_i e he
                obtain ⟨id, hid, hn⟩ := addTexOpt_error he
                cases hnt : m.occlusionTex with
                | none => simp [hnt] at hid
                | some p =>
                  simp only [hnt, Option.map_some, Option.some.injEq] at hid
                  exact Or.inr (Or.inr (Or.inr (Or.inr ⟨p.1, p.2, by simp, by rw [hid]; exact hn⟩)))
              · cases h

/-- the material of model `md` is a nil-texture literal: its normal or occlusion texture id is outside the heap -/
def NilTexLiteral (s : Scene) (md : Model) : Prop :=
  ∃ k pm, md.material = some k ∧ s.matHeap[k]? = some pm
    ∧ ((∃ id sc, pm.normalTex = some (id, sc) ∧ s.texHeap.length ≤ id)
       ∨ (∃ id sc, pm.occlusionTex = some (id, sc) ∧ s.texHeap.length ≤ id))

theorem addModel_badId (s : Scene) (hr : Representable s = true) (w : W) (md : Model) (hmd : md ∈ s.models)
    (h : addModel s w md = .error .badId) : NilTexLiteral s md := by
  unfold Representable at hr
  simp only [Bool.and_eq_true, List.all_eq_true] at hr
  obtain ⟨hmodels, hmats⟩ := hr
  have hmdr := hmodels md hmd
  unfold addModel at h
  split at h
  · cases h
  · rename_i id hid
    split at h
    · rename_i hnone
      simp only [hid, decide_eq_true_eq] at hmdr
      rw [List.getElem?_eq_none_iff] at hnone
      omega
    · rename_i m hm
      split at h
      · cases h
      · split at h
        · rename_i e hg
          injection h with h; subst h
          unfold addModelGate at hg
          split at hg
          · unfold addModelMaterial at hg
            split at hg
            · cases hg
            · rename_i k hk
              split at hg
              · rename_i hnone
                simp only [hk, decide_eq_true_eq] at hmdr
                rw [List.getElem?_eq_none_iff] at hnone
                omega
              · rename_i pm hpm
                split at hg
                · rename_i e he
                  injection hg with hg; subst hg
                  have hpmr := hmats pm (List.mem_of_getElem? hpm)
                  simp only [List.mem_append, Option.mem_toList, List.mem_flatMap, List.mem_map,
                    decide_eq_true_eq] at hpmr
                  have hin : ∀ id, s.texHeap[id]? = none → s.texHeap.length ≤ id := fun id hn => by
                    rw [List.getElem?_eq_none_iff] at hn; exact hn
                  rcases addMaterial_badId he with ⟨id, h1, h2⟩ | ⟨id, h1, h2⟩ | ⟨x, hx, kt, hkt, h2⟩ | h4 | h5
                  · have : id < s.texHeap.length := hpmr id (Or.inl (Or.inl (by
                      by_cases hp : pm.hasPbr = true
                      · simpa [hp] using h1
                      · simp [hp] at h1)))
                    have := hin id h2; omega
                  · have : id < s.texHeap.length := hpmr id (Or.inl (Or.inr (by
                      by_cases hp : pm.hasPbr = true
                      · simpa [hp] using h1
                      · simp [hp] at h1)))
                    have := hin id h2; omega
                  · have : kt.2 < s.texHeap.length := hpmr kt.2 (Or.inr ⟨x, hx, kt, hkt, rfl⟩)
                    have := hin kt.2 h2; omega
                  · obtain ⟨id, sc, h1, h2⟩ := h4
                    exact ⟨k, pm, hk, hpm, Or.inl ⟨id, sc, h1, hin id h2⟩⟩
                  · obtain ⟨id, sc, h1, h2⟩ := h5
                    exact ⟨k, pm, hk, hpm, Or.inr ⟨id, sc, h1, hin id h2⟩⟩
                · cases hg
          · cases hg
        · dsimp only at h
          split at h <;> cases h

theorem addModelT_panic (s : Scene) (hr : Representable s = true) (w : W) (md : Model) (hmd : md ∈ s.models)
    (h : addModelT s w md = .panic) : (∃ m, s.meshOf md = some m ∧ 5 < m.topo) ∨ NilTexLiteral s md := by
  have hl : ∀ r, liftOutcome r = .panic → r = .error .badId := by
    intro r hr
    cases r with
    | ok w' => simp [liftOutcome] at hr
    | error e => cases e <;> simp [liftOutcome] at hr ⊢
  unfold addModelT at h
  split at h
  · rename_i m hm
    by_cases hk : m.topo ≤ 5
    · simp only [PMesh.topoKnown, hk, decide_true, Bool.not_true, Bool.false_eq_true, if_false] at h
      split at h
      · cases h
      · exact Or.inr (addModel_badId s hr w md hmd (hl _ h))
    · exact Or.inl ⟨m, hm, by omega⟩
  · exact Or.inr (addModel_badId s hr w md hmd (hl _ h))

theorem addModelsT_panic (s : Scene) (hr : Representable s = true) : ∀ (l : List Model) (w : W),
    (∀ md ∈ l, md ∈ s.models) → addModelsT s w l = .panic →
    ∃ md ∈ l, (∃ m, s.meshOf md = some m ∧ 5 < m.topo) ∨ NilTexLiteral s md
  | [], w, _, h => by simp [addModelsT] at h
  | md :: r, w, hl, h => by
    simp only [addModelsT] at h
    split at h
    · rename_i w1 h1
      obtain ⟨x, hx, hc⟩ := addModelsT_panic s hr r w1 (fun y hy => hl y (by simp [hy])) h
      exact ⟨x, by simp [hx], hc⟩
    · cases h
    · rename_i h1
      exact ⟨md, by simp, addModelT_panic s hr w md (hl md (by simp)) h1⟩

/-- PANICS, characterised.  On a scene that exists in Go the writer panics only because of an undeclared topology value or
    a `PolyformNormal{}` / `PolyformOcclusion{}` literal with a nil embedded texture; on every other representable scene it
    returns (a file or an error). -/
theorem gltf_panic_only_if (s : Scene) (hr : Representable s = true) (h : writeSceneT s = .panic) :
    ∃ md ∈ s.models, (∃ m, s.meshOf md = some m ∧ 5 < m.topo) ∨ NilTexLiteral s md := by
  unfold writeSceneT at h
  split at h
  · split at h <;> cases h
  · cases h
  · rename_i hp
    exact addModelsT_panic s hr s.models {} (fun _ h => h) hp

theorem mem_zip_of_mem_left {α β} : ∀ {l : List α} {r : List β} {a : α}, l.length = r.length → a ∈ l → ∃ b, (a, b) ∈ l.zip r
  | [], _, _, _, h => by cases h
  | _ :: _, [], _, hl, _ => by simp at hl
  | x :: l, y :: r, a, hl, h => by
    simp only [List.mem_cons] at h
    rcases h with rfl | h
    · exact ⟨y, by simp⟩
    · obtain ⟨b, hb⟩ := mem_zip_of_mem_left (l := l) (r := r) (by simpa using hl) h
      exact ⟨b, by simp [hb]⟩

/-- NIL TEXTURE LITERALS ARE NEVER WRITTEN.  If a model that would produce a node (`visible`) has a material whose normal or
    occlusion texture is a literal with a nil embedded pointer, no file is written — whatever the order of the models, also
    when an equal-looking material was tracked before.  Proof: a written file would satisfy `dedupOK` (`gltf_dedup_ok`), whose
    `matCarried` clause fails on a texture id outside the heap.  (In the model the writer panics in `AddTexture(nil)`, or an
    earlier model / the alphaCutoff check returns an error first.) -/
theorem gltf_nil_literal_rejected (s : Scene) (hs : SceneWFT s) (md : Model) (hmd : md ∈ s.visible)
    (hnil : NilTexLiteral s md) : ∀ w, writeSceneT s ≠ .ok w := by
  intro w hT
  have h := ((writeSceneT_ok_iff s w).mp hT).1
  have hd := gltf_dedup_ok s w hs.1 hs.2 h
  have hlen := zip_length (scene_zip_carries s w hs.1 h)
  obtain ⟨n, hn⟩ := mem_zip_of_mem_left (r := w.nodes.take s.visible.length) hlen hmd
  obtain ⟨k, pm, hk, hpm, hlit⟩ := hnil
  unfold dedupOK at hd
  simp only [Bool.and_eq_true] at hd
  have h1 := List.all_eq_true.mp hd.1.1.1.1 (md, n) hn
  have hmat : matOf s md = some pm := by simp [matOf, hk, hpm]
  simp only [hk, hmat] at h1
  split at h1
  · rename_i pm' gm hpm' hgm
    injection hpm' with hpm'; subst hpm'
    unfold matCarried at h1
    simp only [Bool.and_eq_true] at h1
    have hn' := h1.1.1.2
    have ho' := h1.1.2
    have hnone : ∀ id, s.texHeap.length ≤ id → s.texHeap[id]? = none := fun id hid => List.getElem?_eq_none_iff.mpr hid
    rcases hlit with ⟨id, sc, e, hid⟩ | ⟨id, sc, e, hid⟩
    · rw [e] at hn'
      cases hg : gm.normalTex with
      | none => rw [hg] at hn'; simp [scaledCarried] at hn'
      | some p => rw [hg] at hn'; simp [scaledCarried, optCarried, hnone id hid] at hn'
    · rw [e] at ho'
      cases hg : gm.occlusionTex with
      | none => rw [hg] at ho'; simp [scaledCarried] at ho'
      | some p => rw [hg] at ho'; simp [scaledCarried, optCarried, hnone id hid] at ho'
  · cases h1

/-- non-vacuity of `gltf_nil_literal_rejected`: the `PolyformNormal{}` scene satisfies its hypotheses -/
example : SceneWFT nilNormalScene ∧ (∃ md ∈ nilNormalScene.visible, NilTexLiteral nilNormalScene md) := by
  have hv : nilNormalScene.visible = nilNormalScene.models := by decide +kernel
  refine ⟨⟨⟨?_, ?_⟩, ?_⟩, ?_⟩
  · intro m hm; simp only [nilNormalScene, List.mem_singleton] at hm; subst hm; exact exMesh_wf
  · intro md hmd; simp only [nilNormalScene, List.mem_singleton] at hmd; subst hmd; intro t ht; cases ht
  · intro a ha b hb e he
    simp only [nilNormalScene, List.mem_singleton] at ha; subst ha; simp [nilNormalMat] at he
  · rw [hv]
    exact ⟨_, List.mem_singleton.mpr rfl, 0, nilNormalMat, rfl, rfl, Or.inl ⟨0, none, rfl, by simp [nilNormalScene]⟩⟩

/-- non-vacuity: the rich scene of `richScene_ok` and the line scene are representable, and so is the nil-normal scene
    (which panics: `gltf_nil_normal_rejected`) -/
example : Representable richScene = true ∧ Representable lineScene = true ∧ Representable nilNormalScene = true := by
  refine ⟨?_, ?_, ?_⟩ <;> decide +kernel

end C06
end PolyVerif
