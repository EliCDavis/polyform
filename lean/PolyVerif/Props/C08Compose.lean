/-
  C08 — composed statements about reading a reference-encoded binary file.

  `PlyHeader.specHdr f` is the header `ReadHeader` returns for `specHeader f` (format, the vertex element with its scalar
  properties in file order, the face element with its list properties, the trimmed comment texts):
  `ply_spec_header_parses`; hence `readMesh_refEncode`, through which the statements are given from FILE BYTES (`…_bytes`).
-/
import PolyVerif.Model.Ply
import PolyVerif.Model.PlySpec
import PolyVerif.Lemmas.Ply
import PolyVerif.Lemmas.PlyCompose
import PolyVerif.Lemmas.PlyHeader
import PolyVerif.Props.C08

namespace PolyVerif
namespace C08
open Ply PlySpec PlyLemmas PlyCompose PlyHeader

variable {α : Type}

theorem scalarProps_spec (f : SpecFile α) :
    scalarProps (f.vprops.map (fun p => PProp.scalar p.name p.ty)) = some (specProps f) := by
  simp only [specProps]
  induction f.vprops with
  | nil => simp [scalarProps]
  | cons p ps ih => simp [scalarProps, ih]

theorem findElement_spec_vertex (f : SpecFile α) :
    findElement (specHdr f) (nm "vertex")
      = some ⟨nm "vertex", f.verts.length, f.vprops.map (fun p => .scalar p.name p.ty)⟩ := by
  have h1 : (nm "face" = nm "vertex") = False := by simp; decide
  cases hf : f.face <;> simp [findElement, specHdr, hf, h1]

theorem findElement_spec_face (f : SpecFile α) :
    findElement (specHdr f) (nm "face")
      = f.face.map (fun fe => ⟨nm "face", fe.faces.length, fe.lists.map (fun x => .list x.2.1 x.2.2.1 x.2.2.2.1)⟩) := by
  have h1 : (nm "vertex" = nm "face") = False := by simp; decide
  cases hf : f.face <;> simp [findElement, specHdr, hf, h1]

/-- STAGE 1 COMPOSED (binary, both byte orders): for ANY order / type mix of the vertex properties and any located
readers, `readBody` on the reference-encoded body is: the arrays `rowOf` (for every vertex the data of exactly the
components each reader claims) → the face stage on exactly the bytes that follow the vertex block → mesh assembly -/
theorem ply_spec_readback_vertex (c : Coding α) (f : SpecFile α) (hf : f.format ≠ .ascii)
    (htyped : ∀ r ∈ f.verts, r.map Datum.ty = f.vprops.map (·.ty))
    (bl : List (Built × List Nat))
    (hbuilt : bl.map (·.1) = buildAll true (specProps f) defaultReaders true)
    (hloc : ∀ p ∈ bl, Located (f.vprops.map (·.ty)) p.1 p.2) :
    ∃ rest, specBody c f = (f.verts.map (fun r => (r.map (Datum.bin c f.format.endian)).flatten)).flatten ++ rest ∧
      readBody c defaultReader (specHdr f) (specBody c f) = (do
        let idxUv ← faceStageBin c f.format.endian (findElement (specHdr f) (nm "face")) rest
        assemble (bl.map (·.1)) f.verts.length (f.verts.map (rowOf c bl)) idxUv) := by
  obtain ⟨rest, hbody, hvb⟩ := ply_spec_vertex_block c f hf htyped bl hloc
  refine ⟨rest, hbody, ?_⟩
  have hve : findElement (specHdr f) defaultReader.attributeElement = _ := findElement_spec_vertex f
  rw [readBody_bin c defaultReader (specHdr f) (specBody c f) _ (specProps f) hf hve (scalarProps_spec f) (by simp)]
  have hsum : ((specProps f).map (fun p => p.2.size)).sum = ((f.vprops.map (·.ty)).map SType.size).sum := by
    simp [specProps, Function.comp_def]
  have hfmt : (specHdr f).format = f.format := rfl
  simp only [hfmt, hsum, Int.toNat_natCast, defaultReader, ← hbuilt, hvb, bind, Except.bind]

/-- the vertex side of a binary reference file as the theorems about face elements take it: typed records, `bl` the
readers `MeshReader.Read` builds, each located -/
structure VertexSide (f : SpecFile α) (bl : List (Built × List Nat)) : Prop where
  typed : ∀ r ∈ f.verts, r.map Datum.ty = f.vprops.map (·.ty)
  built : bl.map (·.1) = buildAll true (specProps f) defaultReaders true
  loc : ∀ p ∈ bl, Located (f.vprops.map (·.ty)) p.1 p.2

/-- POINT-CLOUD FILES, composed to the mesh: a reference-encoded binary file without face element — vertex properties
in ANY permutation, any extra properties, any mix of uchar / int / float / double UNDER THE UNIFORM-TYPE GUARD ON RECOGNISED
GROUPS (`hloc`: every built reader is `Located`; a differently-typed `alpha` next to `red green blue` is
handled by the IgnorableW fallback, a mixed-type `x y z` group is not claimed) — reads without error to the point
cloud `0..n-1` whose attributes are the columns of the located readers.  `Located` says WHERE a reader reads and with
which type, not under which NAME: to know which property an attribute came from combine with `ply_group_reader_located`
(groups: the reader for names `ns` built on a header where `ns[k]` sits at position `idx[k]` is located at `idx`) and
`ply_unclaimed_property_gets_reader` / `ply_unclaimed_reader_located` (unrecognised scalars). -/
theorem ply_reads_spec_pointcloud (c : Coding α) (f : SpecFile α) (hf : f.format ≠ .ascii) (hface : f.face = none)
    (htyped : ∀ r ∈ f.verts, r.map Datum.ty = f.vprops.map (·.ty))
    (bl : List (Built × List Nat))
    (hbuilt : bl.map (·.1) = buildAll true (specProps f) defaultReaders true)
    (hloc : ∀ p ∈ bl, Located (f.vprops.map (·.ty)) p.1 p.2) :
    readBody c defaultReader (specHdr f) (specBody c f)
      = .ok (applyColumns ⟨.point, (List.range f.verts.length).map Int.ofNat, [], none⟩ (bl.map (·.1))
          (f.verts.map (rowOf c bl))) := by
  obtain ⟨rest, _, hread⟩ := ply_spec_readback_vertex c f hf htyped bl hbuilt hloc
  rw [hread, findElement_spec_face, hface]
  simp [faceStageBin, assemble, bind, Except.bind, pure, Except.pure]

/-- PARTIAL GROUPS stay scalars: a recognised group one of whose names is absent from the header (e.g. only `x`, `y`) is
NOT claimed as a vector (guards: distinct names, one scalar type among the group's properties that are present), so by
`ply_unclaimed_property_gets_reader` its members become scalar attributes -/
theorem ply_group_absent_not_built (binary : Bool) (props : List (Bytes × SType)) (attr : Bytes) (names : List Bytes)
    (hn : names.Nodup) (hnd : (props.map (·.1)).Nodup) (t : SType) (huni : ∀ p ∈ props, p.1 ∈ names → p.2 = t)
    (k : Nat) (hk : k < names.length) (habs : ∀ p ∈ props, p.1 ≠ names[k]) :
    buildVec binary props attr names = none :=
  buildVec_absent binary props attr names k hk habs

example : buildVec true [(nm "x", .float), (nm "y", .float)] positionAttr [nm "x", nm "y", nm "z"] = none := by decide

/-- THE HEADER TEXT LAYER for foreign-tool files: `ReadHeader` on the reference encoder's header text — vertex properties in
any order, canonical or alias type spellings, comment / obj_info lines before, between and after the elements, LF or
CRLF line ends, optional face element with any of the list declarations of the grammar — followed by ANY body returns
`specHdr f` and leaves exactly the body unread -/
theorem ply_spec_header_parses (f : SpecFile α) (hok : SpecHeaderOK f) (body : Bytes) :
    parseHeader (specHeader f ++ body) = .ok (specHdr f, body) :=
  parse_specHeader f hok body

/-- reading a reference-encoded file is reading its body under the header it declares -/
theorem readMesh_refEncode (c : Coding α) (f : SpecFile α) (hok : SpecHeaderOK f) :
    readMesh c defaultReader (refEncode c f) = readBody c defaultReader (specHdr f) (specBody c f) := by
  simp only [readMesh, refEncode, parse_specHeader f hok, bind, Except.bind]

/-- POINT-CLOUD FILES FROM FILE BYTES: `readMesh (refEncode f)` — header text and body — reads without error to the
point cloud whose attributes are the columns of the located readers -/
theorem ply_reads_spec_pointcloud_bytes (c : Coding α) (f : SpecFile α) (hok : SpecHeaderOK f)
    (hf : f.format ≠ .ascii) (hface : f.face = none)
    (htyped : ∀ r ∈ f.verts, r.map Datum.ty = f.vprops.map (·.ty))
    (bl : List (Built × List Nat))
    (hbuilt : bl.map (·.1) = buildAll true (specProps f) defaultReaders true)
    (hloc : ∀ p ∈ bl, Located (f.vprops.map (·.ty)) p.1 p.2) :
    readMesh c defaultReader (refEncode c f)
      = .ok (applyColumns ⟨.point, (List.range f.verts.length).map Int.ofNat, [], none⟩ (bl.map (·.1))
          (f.verts.map (rowOf c bl))) :=
  (readMesh_refEncode c f hok).trans (ply_reads_spec_pointcloud c f hf hface htyped bl hbuilt hloc)

/-! non-vacuity: a 2-vertex file `z float, q uchar, x float, y float` (permuted position group + extra 8-bit scalar) -/

def exFile : SpecFile Nat :=
  { format := .be, crlf := true, pre := [], mid := [], post := [],
    vprops := [⟨nm "z", .float, false⟩, ⟨nm "q", .uchar, true⟩, ⟨nm "x", .float, false⟩, ⟨nm "y", .float, true⟩],
    verts := [[.f32 3, .u8 255, .f32 1, .f32 2], [.f32 6, .u8 0, .f32 4, .f32 5]],
    face := none }

def exBl : List (Built × List Nat) :=
  [(⟨positionAttr, [nm "x", nm "y", nm "z"], [5, 9, 0], some .float⟩, [2, 3, 0]),
   (⟨nm "q", [nm "q"], [4], some .uchar⟩, [1])]

theorem exBl_built : exBl.map (·.1) = buildAll true (specProps exFile) defaultReaders true := by decide +kernel

theorem exBl_located : ∀ p ∈ exBl, Located (exFile.vprops.map (·.ty)) p.1 p.2 := by
  intro p hp
  simp only [exBl, List.mem_cons, List.not_mem_nil, or_false] at hp
  rcases hp with rfl | rfl <;> exact (locatedNamedB_sound (specProps exFile) _ _ (by decide +kernel)).loc

example : readBody toyCoding defaultReader (specHdr exFile) (specBody toyCoding exFile)
    = .ok (applyColumns ⟨.point, [0, 1], [], none⟩ (exBl.map (·.1)) (exFile.verts.map (rowOf toyCoding exBl))) :=
  ply_reads_spec_pointcloud toyCoding exFile (by decide) rfl (by decide) exBl exBl_built exBl_located

/-- … and that mesh is what the file denotes: Position = (1,2,3),(4,5,6); `q` = 255/255, 0/255 -/
example : (readBody toyCoding defaultReader (specHdr exFile) (specBody toyCoding exFile)).toOption.map MeshVal.canon
    = (meaning toyCoding exFile).map MeshVal.canon := by
  rw [ply_reads_spec_pointcloud toyCoding exFile (by decide) rfl (by decide) exBl exBl_built exBl_located]
  rfl

instance (t : Bytes) : Decidable (Tok t) := by unfold Tok; infer_instance

theorem exFile_hdr : SpecHeaderOK exFile where
  names := by decide
  items := by intro i hi; simp [exFile] at hi
  nverts := by decide
  nfaces := by intro fe h; simp [exFile] at h

example : SpecHeaderOK exFile := exFile_hdr

/-- CRLF header with alias spellings, from bytes -/
example : (parseHeader (specHeader exFile ++ [1, 2, 3])).toOption.map (fun r => (r.1.elements.map (·.name), r.2))
    = some ([nm "vertex"], [1, 2, 3]) := by
  rw [ply_spec_header_parses exFile exFile_hdr]
  rfl

end C08
end PolyVerif
