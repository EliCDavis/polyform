/-
  C15 — Gaussian-splat codecs keep every splat's fields within one quantisation step.

  Part 1 (.splat, `Model/Splat.lean`): record layout round trip at the bit level,
  count/order, quantisation steps of colour, opacity, rotation (real-number
  meaning of the source's expressions; `trunc` is the integer part).
  Part 2 (SPZ, `Model/Spz.lean`): decode of the published layout; 2b the published decoder as a specification;
  2c `Header.Validate` against the source.
  Part 3: the PLY splat export tables.
-/
import PolyVerif.Model.Splat
import PolyVerif.Lemmas.Splat
import PolyVerif.Lemmas.Spz
import PolyVerif.Gen.SplatPlyTable
import PolyVerif.Gen.SpzValidate
import PolyVerif.Lemmas.RealScalar
import Mathlib.Analysis.SpecialFunctions.Log.Basic
import Mathlib.Tactic

namespace PolyVerif
namespace C15
open Splat Scalar

/-! ## Part 1 — .splat -/

theorem splat_roundtrip_count_order {α : Type} [Scalar α] (E : Env α) (cloud : List (Splat α)) :
    Splat.read E (Splat.write E cloud) = (cloud.map (fun s => decSplat E (encSplat E s)), false) := by
  simp [Splat.read, Splat.write, readRecs_flatMap, List.map_map, Function.comp_def]

/-- Go's `byte(x)` on a non-negative float64 truncates -/
def FloorEnv (E : Env ℝ) : Prop := ∀ x : ℝ, 0 ≤ x → E.trunc x = ⌊x⌋₊

theorem byte_floor_err (t : ℝ) (h0 : 0 ≤ t) (h1 : t ≤ 255) :
    ((byteOf ⌊t⌋₊).toNat : ℝ) ≤ t ∧ t < ((byteOf ⌊t⌋₊).toNat : ℝ) + 1 := by
  have hn : ⌊t⌋₊ ≤ 255 := by
    have : ⌊t⌋₊ ≤ ⌊(255:ℝ)⌋₊ := Nat.floor_le_floor h1
    simpa using this
  have e : (byteOf ⌊t⌋₊).toNat = ⌊t⌋₊ := by
    simp only [byteOf, UInt8.toNat_ofNat']; omega
  rw [e]
  exact ⟨Nat.floor_le h0, Nat.lt_floor_add_one t⟩

theorem colStored_range (E : Env ℝ) (c : ℝ) : 0 ≤ colStored E c ∧ colStored E c ≤ 1 := by
  simp only [colStored, vclamp, Nat.cast_zero, Nat.cast_one]
  constructor
  · exact le_max_right _ _
  · exact max_le (min_le_right _ _) zero_le_one

theorem quant_err (s d n : ℝ) (hd : 0 < d) (ha : n ≤ s * d) (hb : s * d < n + 1) :
    |n / d - s| ≤ 1 / d := by
  rw [show n / d - s = (n - s * d) / d by field_simp, abs_div, abs_of_pos hd]
  exact div_le_div_of_nonneg_right (abs_le.mpr ⟨by linarith, by linarith⟩) hd.le

/-- a value in [0, 1] stored as `byte(v · 255)`: the byte is the integer part of `v · 255` -/
theorem unit_byte_floor (E : Env ℝ) (hE : FloorEnv E) (v : ℝ) (h0 : 0 ≤ v) (h1 : v ≤ 1) :
    ((byteOf (E.trunc (v * 255))).toNat : ℝ) ≤ v * 255 ∧ v * 255 < (byteOf (E.trunc (v * 255))).toNat + 1 := by
  rw [hE _ (by positivity)]; exact byte_floor_err _ (by positivity) (by linarith)

theorem splat_color_step (E : Env ℝ) (hE : FloorEnv E) (c : ℝ) :
    |colUnit (colByte E c) - colStored E c| ≤ 1 / 255 := by
  obtain ⟨h0, h1⟩ := colStored_range E c
  obtain ⟨ha, hb⟩ := unit_byte_floor E hE _ h0 h1
  simp only [colUnit, colByte, byteF, Nat.cast_ofNat]
  exact quant_err _ 255 _ (by norm_num) ha hb

/-- in the SH-coefficient domain: an in-range colour comes back within `1/(255·SH_C0)` -/
theorem splat_color_step_fdc (E : Env ℝ) (hE : FloorEnv E) (hC : 0 < E.shC0) (c : ℝ)
    (h0 : 0 ≤ c * E.shC0 + 1 / 2) (h1 : c * E.shC0 + 1 / 2 ≤ 1) :
    |colDec E (colByte E c) - c| ≤ 1 / (255 * E.shC0) := by
  have hs : colStored E c = c * E.shC0 + 1 / 2 := by
    simp only [colStored, vclamp, half, RS.lit_eq, Nat.cast_zero, Nat.cast_one, Nat.cast_ofNat]
    rw [min_eq_left h1, max_eq_left h0]
  have h := splat_color_step E hE c
  rw [hs] at h
  have e : colDec E (colByte E c) - c = (colUnit (colByte E c) - (c * E.shC0 + 1 / 2)) / E.shC0 := by
    simp only [colDec, half, RS.lit_eq, Nat.cast_one, Nat.cast_ofNat]; field_simp; ring
  rw [e, abs_div, abs_of_pos hC, div_le_iff₀ hC]
  calc _ ≤ 1 / 255 := h
    _ = 1 / (255 * E.shC0) * E.shC0 := by field_simp

theorem alphaStored_range (E : Env ℝ) (o : ℝ) (he : 0 ≤ E.exp (-o)) :
    0 ≤ alphaStored E o ∧ alphaStored E o ≤ 1 := by
  simp only [alphaStored, Nat.cast_one]
  constructor
  · positivity
  · rw [div_le_one (by linarith)]; linarith

theorem splat_opacity_step (E : Env ℝ) (hE : FloorEnv E) (o : ℝ) (he : 0 ≤ E.exp (-o)) :
    |colUnit (alphaByte E o) - alphaStored E o| ≤ 1 / 255 := by
  obtain ⟨h0, h1⟩ := alphaStored_range E o he
  obtain ⟨ha, hb⟩ := unit_byte_floor E hE _ h0 h1
  simp only [colUnit, alphaByte, byteF, Nat.cast_ofNat]
  exact quant_err _ 255 _ (by norm_num) ha hb

theorem rotStored_eq (r : ℝ) : rotStored r = max (min (r * 128 + 128) 255) 0 := by
  simp only [rotStored, vclamp, Nat.cast_zero, Nat.cast_ofNat]

/-- from 1 upwards the clamp stores 255, which decodes to 127/128 -/
theorem rotDec_rotByte_top (E : Env ℝ) (hE : FloorEnv E) (r : ℝ) (hr : 1 ≤ r) :
    rotDec (rotByte E r) = (127 / 128 : ℝ) := by
  have hst : rotStored r = 255 := by rw [rotStored_eq, min_eq_right (by linarith), max_eq_left (by norm_num)]
  have h255 : E.trunc (rotStored r) = 255 := by rw [hst, hE _ (by norm_num)]; norm_num
  simp only [rotDec, rotByte, byteF, Nat.cast_ofNat, h255, byteOf]; norm_num

theorem splat_rotation_step (E : Env ℝ) (hE : FloorEnv E) (r : ℝ) (hlo : -1 ≤ r) (hhi : r ≤ 1) :
    |rotDec (rotByte E r) - r| ≤ 1 / 128 := by
  have hs : rotStored r = min (r * 128 + 128) 255 := by
    rw [rotStored_eq]; exact max_eq_left (le_min (by linarith) (by norm_num))
  have hs0 : (0:ℝ) ≤ rotStored r := by rw [hs]; exact le_min (by linarith) (by norm_num)
  obtain ⟨ha, hb⟩ := byte_floor_err _ hs0 (by rw [hs]; exact min_le_right _ _)
  rw [show rotByte E r = byteOf ⌊rotStored r⌋₊ by simp only [rotByte]; rw [hE _ hs0]]
  simp only [rotDec, byteF, Nat.cast_ofNat]
  generalize (byteOf ⌊rotStored r⌋₊).toNat = m at ha hb ⊢
  rw [hs] at ha hb
  -- in units of 1/128: the byte `m` is within 1 of `r·128 + 128`
  rw [show ((m : ℝ) - 128) / 128 - r = ((m : ℝ) - (r * 128 + 128)) / 128 by ring, abs_div,
    abs_of_pos (by norm_num : (0 : ℝ) < 128)]
  refine div_le_div_of_nonneg_right ?_ (by norm_num)
  rw [abs_le]
  rcases le_total (r * 128 + 128) 255 with h | h
  · rw [min_eq_left h] at ha hb; constructor <;> linarith
  · rw [min_eq_right h] at ha hb
    have hm : m = 255 := by
      have h1 : m ≤ 255 := by exact_mod_cast ha
      have h2 : 255 < m + 1 := by exact_mod_cast hb
      omega
    subst hm; push_cast; constructor <;> linarith

/-- the pinned encoder (no clamp): a unit component decodes to −1 -/
theorem splat_rotation_wraps (E : Env ℝ) (hE : FloorEnv E) :
    rotDec (rotByteOld E (1:ℝ)) = (-1 : ℝ) ∧ rotDec (rotByte E (1:ℝ)) = (127 / 128 : ℝ) := by
  have h256 : E.trunc ((1:ℝ) * 128 + 128) = 256 := by
    rw [hE _ (by norm_num)]; norm_num
  refine ⟨?_, rotDec_rotByte_top E hE 1 le_rfl⟩
  simp only [rotDec, rotByteOld, byteF, Nat.cast_ofNat, h256, byteOf]; norm_num

/-- every 32-byte record survives `encRec`/`decRec` bit for bit: in particular the six float32
    words are returned with exactly the bits that were written -/
theorem splat_record_bits_exact (r : Rec) : decRec (encRec r) = some r := decRec_encRec r

/-- (unfolding) positions come back as the float32 value that was stored, exactly: no arithmetic touches
    them.  Holds by `rfl`: it records what `decSplat ∘ encSplat` IS on the position fields; the content is
    `splat_record_bits_exact` + `splat_roundtrip_count_order`. -/
theorem splat_position_exact {α : Type} [Scalar α] (E : Env α) (s : Splat α) :
    (decSplat E (encSplat E s)).px = E.of32 (E.to32 s.px) ∧
    (decSplat E (encSplat E s)).py = E.of32 (E.to32 s.py) ∧
    (decSplat E (encSplat E s)).pz = E.of32 (E.to32 s.pz) := ⟨rfl, rfl, rfl⟩

/-- (remark, not a property theorem: the conclusion is the hypothesis) a float32-representable coordinate is
    returned unchanged -/
theorem splat_position_exact_f32 {α : Type} [Scalar α] (E : Env α) (s : Splat α)
    (hx : E.of32 (E.to32 s.px) = s.px) : (decSplat E (encSplat E s)).px = s.px := hx

/-- (unfolding, `rfl`) scales: `log (float32 (exp s))` — equal to `s` up to the float32 rounding of `exp` and the
    rounding of `exp`/`log` themselves (those roundings are not modelled: residue) -/
theorem splat_scale_log_f32_exp {α : Type} [Scalar α] (E : Env α) (s : Splat α) :
    (decSplat E (encSplat E s)).sx = E.log (E.of32 (E.to32 (E.exp s.sx))) ∧
    (decSplat E (encSplat E s)).sy = E.log (E.of32 (E.to32 (E.exp s.sy))) ∧
    (decSplat E (encSplat E s)).sz = E.log (E.of32 (E.to32 (E.exp s.sz))) := ⟨rfl, rfl, rfl⟩

/-- (corollary of `Real.log_exp` under `h32`) with exact `exp`/`log` and a float32-representable `exp s`, the
    scale is returned unchanged -/
theorem splat_scale_exact (E : Env ℝ) (hexp : E.exp = Real.exp) (hlog : E.log = Real.log) (s : Splat ℝ)
    (h32 : E.of32 (E.to32 (E.exp s.sx)) = E.exp s.sx) : (decSplat E (encSplat E s)).sx = s.sx := by
  rw [(splat_scale_log_f32_exp E s).1, h32, hexp, hlog, Real.log_exp]

/-- a concrete real environment: integer part, real exp/log, (toy) float32 = identity on 0 -/
noncomputable def exEnv : Env ℝ :=
  { trunc := fun x => ⌊x⌋₊, exp := Real.exp, log := Real.log, to32 := fun _ => 0, of32 := fun _ => 0,
    shC0 := 28209479177387814 / 100000000000000000 }

example : FloorEnv exEnv := fun _ _ => rfl

/-- an environment whose toy float32 fixes 0 and 1: the hypotheses of `splat_position_exact_f32` /
    `splat_scale_exact` hold in it non-trivially (px = 1; sx = 0, exp 0 = 1) -/
noncomputable def exEnv32 : Env ℝ :=
  { exEnv with to32 := fun x => if x = 1 then 1 else 0, of32 := fun w => if w = 1 then 1 else 0 }

example : exEnv32.of32 (exEnv32.to32 (1 : ℝ)) = 1 := by simp [exEnv32]
example : exEnv32.exp = Real.exp ∧ exEnv32.log = Real.log ∧
    exEnv32.of32 (exEnv32.to32 (exEnv32.exp (0 : ℝ))) = exEnv32.exp 0 := by
  refine ⟨rfl, rfl, ?_⟩
  simp [exEnv32, exEnv]
example : 0 < exEnv.shC0 := by simp only [exEnv]; norm_num
example (o : ℝ) : 0 ≤ exEnv.exp (-o) := (Real.exp_pos _).le
example : ∃ c : ℝ, 0 ≤ c * exEnv.shC0 + 1 / 2 ∧ c * exEnv.shC0 + 1 / 2 ≤ 1 ∧ c ≠ 0 :=
  ⟨1, by simp only [exEnv]; norm_num⟩
example : (-1 : ℝ) ≤ 1 ∧ (1 : ℝ) ≤ 1 := by norm_num

/-! ### the composed `.splat` statement -/

theorem write_length {α : Type} [Scalar α] (E : Env α) (cloud : List (Splat α)) :
    (Splat.write E cloud).length = 32 * cloud.length := by
  rw [Splat.write, flatMap_encRec_length, List.length_map]

/-- colour channel: stored value within one 8-bit step of the clamped original; in range, the coefficient itself
    within `1/(255·SH_C0)` -/
def ColOk (E : Env ℝ) (c c' : ℝ) : Prop :=
  |(c' * E.shC0 + 1 / 2) - colStored E c| ≤ 1 / 255 ∧
  (0 ≤ c * E.shC0 + 1 / 2 → c * E.shC0 + 1 / 2 ≤ 1 → |c' - c| ≤ 1 / (255 * E.shC0))

/-- rotation component after the 6751c33 clamp: within 1/128 on [−1, 1] (1 included), saturating outside -/
def RotOk (r r' : ℝ) : Prop :=
  (-1 ≤ r → r ≤ 1 → |r' - r| ≤ 1 / 128) ∧ (1 < r → r' = 127 / 128) ∧ (r < -1 → r' = -1)

/-- what `.splat` write → read does to one splat -/
structure SplatWithinStep (E : Env ℝ) (s t : Splat ℝ) : Prop where
  px : t.px = E.of32 (E.to32 s.px)
  py : t.py = E.of32 (E.to32 s.py)
  pz : t.pz = E.of32 (E.to32 s.pz)
  sx : t.sx = E.log (E.of32 (E.to32 (E.exp s.sx)))
  sy : t.sy = E.log (E.of32 (E.to32 (E.exp s.sy)))
  sz : t.sz = E.log (E.of32 (E.to32 (E.exp s.sz)))
  cx : ColOk E s.cx t.cx
  cy : ColOk E s.cy t.cy
  cz : ColOk E s.cz t.cz
  /-- opacity: decoded from a byte whose stored value is within one 8-bit step of `sigmoid(opacity)` -/
  op : ∃ b : UInt8, t.op = alphaDec E b ∧ |colUnit b - alphaStored E s.op| ≤ 1 / 255
  r0 : RotOk s.r0 t.r0
  r1 : RotOk s.r1 t.r1
  r2 : RotOk s.r2 t.r2
  r3 : RotOk s.r3 t.r3

theorem colOk_aux (E : Env ℝ) (hE : FloorEnv E) (hC : 0 < E.shC0) (c : ℝ) : ColOk E c (colDec E (colByte E c)) := by
  have e : colDec E (colByte E c) * E.shC0 + 1 / 2 = colUnit (colByte E c) := by
    simp only [colDec, half, RS.lit_eq, Nat.cast_one, Nat.cast_ofNat]; field_simp; ring
  exact ⟨by rw [e]; exact splat_color_step E hE c, fun h0 h1 => splat_color_step_fdc E hE hC c h0 h1⟩

theorem rotOk_aux (E : Env ℝ) (hE : FloorEnv E) (r : ℝ) : RotOk r (rotDec (rotByte E r)) := by
  refine ⟨fun h0 h1 => splat_rotation_step E hE r h0 h1, ?_, ?_⟩
  · exact fun hr => rotDec_rotByte_top E hE r hr.le
  · intro hr
    have hst : rotStored r = 0 := by
      rw [rotStored_eq, min_eq_left (by linarith), max_eq_right (by linarith)]
    have h0 : E.trunc (rotStored r) = 0 := by rw [hst, hE _ (le_refl _)]; norm_num
    simp only [rotDec, rotByte, byteF, Nat.cast_ofNat, h0, byteOf]; norm_num

/-- **`.splat`, composed**: for EVERY cloud (any number of splats, any real attribute values), writing produces
    exactly `32·n` bytes and reading them back returns, without error, `n` splats in the same order, splat `i`
    related to the original splat `i` by `SplatWithinStep`: float32 positions exactly, scale = log(float32(exp s)),
    colours / opacity within one 8-bit step in the stored domain (colours clamped to the displayable range),
    rotation within 1/128 on [−1, 1] including 1 and saturating outside (the 6751c33 clamp). -/
theorem splat_write_read (E : Env ℝ) (hE : FloorEnv E) (hexp : ∀ x, 0 ≤ E.exp x) (hC : 0 < E.shC0)
    (cloud : List (Splat ℝ)) :
    (Splat.write E cloud).length = 32 * cloud.length ∧
    ∃ cloud' : List (Splat ℝ),
      Splat.read E (Splat.write E cloud) = (cloud', false) ∧ cloud'.length = cloud.length ∧
      ∀ i (hi : i < cloud.length) (hi' : i < cloud'.length), SplatWithinStep E cloud[i] cloud'[i] := by
  refine ⟨write_length E cloud, cloud.map (fun s => decSplat E (encSplat E s)), splat_roundtrip_count_order E cloud,
    by simp, ?_⟩
  intro i hi hi'
  simp only [List.getElem_map]
  generalize cloud[i] = s
  exact
    { px := rfl, py := rfl, pz := rfl, sx := rfl, sy := rfl, sz := rfl,
      cx := colOk_aux E hE hC s.cx, cy := colOk_aux E hE hC s.cy, cz := colOk_aux E hE hC s.cz,
      op := ⟨alphaByte E s.op, rfl, splat_opacity_step E hE s.op (hexp _)⟩,
      r0 := rotOk_aux E hE s.r0, r1 := rotOk_aux E hE s.r1, r2 := rotOk_aux E hE s.r2, r3 := rotOk_aux E hE s.r3 }

example : FloorEnv exEnv ∧ (∀ x, 0 ≤ exEnv.exp x) ∧ 0 < exEnv.shC0 :=
  ⟨fun _ _ => rfl, fun x => (Real.exp_pos x).le, by simp only [exEnv]; norm_num⟩

/-! ### opacity through the logit -/

/-- `logit x = log (x / (1 - x))` -/
noncomputable def logit (x : ℝ) : ℝ := Real.log (x / (1 - x))

theorem logit_strict_mono {x y : ℝ} (hx : 0 < x) (hxy : x < y) (hy : y < 1) : logit x < logit y := by
  unfold logit
  apply Real.log_lt_log (by apply div_pos hx; linarith)
  rw [div_lt_div_iff₀ (by linarith) (by linarith)]
  nlinarith

theorem logit_mono {x y : ℝ} (hx : 0 < x) (hxy : x ≤ y) (hy : y < 1) : logit x ≤ logit y := by
  rcases hxy.eq_or_lt with rfl | h
  · exact le_rfl
  · exact (logit_strict_mono hx h hy).le

/-- **opacity in the LOGIT domain** (the domain the attribute lives in), where it is finite: if the stored byte
    `b` is neither 0 nor ≥ 254, the value read back is `logit(b/255)` and the original opacity lies in the half-open
    interval from it to the value the NEXT byte would decode to: `logit(b/255) ≤ o < logit((b+1)/255)` — one 8-bit
    step.  (For b = 0 the reader returns −∞, for b = 255 +∞, and above b = 254 there is no next finite value: there
    the step is unbounded in this domain, which is why the property's "within one 8-bit step" is the stored-domain
    statement `splat_opacity_step`.) -/
theorem splat_opacity_step_logit (E : Env ℝ) (hE : FloorEnv E) (hexp : E.exp = Real.exp) (hlog : E.log = Real.log)
    (o : ℝ) (hb1 : 1 ≤ (alphaByte E o).toNat) (hb2 : (alphaByte E o).toNat ≤ 253) :
    alphaDec E (alphaByte E o) = logit (((alphaByte E o).toNat : ℝ) / 255) ∧
    logit (((alphaByte E o).toNat : ℝ) / 255) ≤ o ∧
    o < logit ((((alphaByte E o).toNat : ℝ) + 1) / 255) := by
  have hpos : 0 < Real.exp (-o) := Real.exp_pos _
  obtain ⟨h0, h1⟩ := alphaStored_range E o (by rw [hexp]; exact hpos.le)
  obtain ⟨ha, hb⟩ := unit_byte_floor E hE _ h0 h1
  have key : alphaByte E o = byteOf (E.trunc (alphaStored E o * 255)) := by
    simp only [alphaByte, Nat.cast_ofNat]
  rw [← key] at ha hb
  set b : ℝ := ((alphaByte E o).toNat : ℝ) with hbdef
  have hb1' : (1 : ℝ) ≤ b := by rw [hbdef]; exact_mod_cast hb1
  have hb2' : b ≤ 253 := by rw [hbdef]; exact_mod_cast hb2
  -- a = sigmoid o, o = logit a
  have hadef : alphaStored E o = 1 / (1 + Real.exp (-o)) := by
    simp only [alphaStored, Nat.cast_one, hexp]
  have ha1 : alphaStored E o < 1 := by
    rw [hadef, div_lt_one (by linarith)]; linarith
  have ha0 : 0 < alphaStored E o := by rw [hadef]; positivity
  have hlogit : logit (alphaStored E o) = o := by
    unfold logit
    have : alphaStored E o / (1 - alphaStored E o) = Real.exp o := by
      rw [hadef, Real.exp_neg]
      have := Real.exp_pos o
      field_simp
      ring
    rw [this, Real.log_exp]
  refine ⟨?_, ?_, ?_⟩
  · simp only [alphaDec, colUnit, byteF, Nat.cast_ofNat, Nat.cast_one, hlog, logit]
    rw [← Real.log_inv]
    congr 1
    rw [← hbdef]
    have : b ≠ 0 := by linarith
    field_simp
  · rw [← hlogit]
    apply logit_mono (by positivity) _ ha1
    rw [div_le_iff₀ (by norm_num)]; exact ha
  · rw [← hlogit]
    apply logit_strict_mono ha0
    · rw [lt_div_iff₀ (by norm_num)]; exact hb
    · rw [div_lt_one (by norm_num)]; linarith

/-- non-vacuity: opacity 0 is stored as byte 127 -/
example : (alphaByte exEnv (0 : ℝ)).toNat = 127 := by
  have h : alphaStored exEnv (0 : ℝ) * 255 = 127.5 := by
    simp only [alphaStored, exEnv, Nat.cast_one, neg_zero, Real.exp_zero]; norm_num
  have hf : ⌊(127.5 : ℝ)⌋₊ = 127 := by
    rw [Nat.floor_eq_iff (by norm_num)]; norm_num
  have hk : alphaByte exEnv (0 : ℝ) = byteOf ⌊alphaStored exEnv (0 : ℝ) * 255⌋₊ := by
    simp only [alphaByte, Nat.cast_ofNat]; rfl
  rw [hk, h, hf]; decide

/-! ## Part 2 — SPZ -/

section spz
open Spz

/-- header.go:254-262: the assembled and sign-extended word, read as `int32`, is the two's-complement
    value of the three bytes (little endian) — for all 2^24 byte triples -/
theorem sign_extend_24 (b0 b1 b2 : BitVec 8) :
    (fixed24Word b0 b1 b2).toInt =
      let v : Int := b0.toNat + 256 * b1.toNat + 65536 * b2.toNat
      if v < 2 ^ 23 then v else v - 2 ^ 24 :=
  Spz.sign_extend_24 b0 b1 b2

/-- version-2 positions over the reals: for every fractional-bit count up to 62 (where Go's
    `1 << fractionalBits` is the positive power of two) the coordinate is `value / 2^fb` -/
theorem spz_fixed_point_value (E : Spz.Env ℝ) (hE : ∀ z : Int, E.ofInt z = (z : ℝ)) (fb : Nat) (hfb : fb ≤ 62)
    (b0 b1 b2 : UInt8) :
    fixedCoord E fb b0 b1 b2 =
      (let v : Int := b0.toNat + 256 * b1.toNat + 65536 * b2.toNat
       ((if v < 2 ^ 23 then v else v - 2 ^ 24 : Int) : ℝ)) / 2 ^ fb := by
  have hs := Spz.sign_extend_24 b0.toBitVec b1.toBitVec b2.toBitVec
  simp only [fixedCoord, fixed24, posScale, hE, shl1, natF, if_pos (show fb < 63 by omega)]
  simp only [UInt8.toNat_toBitVec] at hs
  rw [hs]
  push_cast
  rw [mul_one_div]

/-- SPZ decode of a stream built to the published layout: for every header in range that `Validate`
    accepts (version 1–2, any point count up to the limit, SH degree 0–3, ANY fractional-bit count and
    flags) and every byte pattern in the records, attribute `X` of splat `i` of the result is the
    dequantisation of record `i`; every attribute array has one entry per record and there is one SH
    array per coefficient.  Trailing bytes after the last array are ignored. -/
theorem spz_decode_refEncode {α : Type} [Scalar α] (E : Spz.Env α) (h : Header) (hr : h.inRange)
    (hv : h.valid = true) (ps : List Packed) (hn : ps.length = h.numPoints) (hf : ∀ p ∈ ps, p.fits h)
    (extra : List UInt8) :
    ∃ c, Spz.read E (refEncode h ps ++ extra) = .ok c ∧
      c.positions = ps.map (fun p => (dequant E h p).pos) ∧
      c.alphas = ps.map (fun p => (dequant E h p).alpha) ∧
      c.colors = ps.map (fun p => (dequant E h p).color) ∧
      c.scales = ps.map (fun p => (dequant E h p).scale) ∧
      c.rotations = ps.map (fun p => (dequant E h p).rot) ∧
      c.sh = (List.range (shDim h.shDegree)).map (fun d => ps.map fun p => shCoef p d) ∧
      (∀ p ∈ ps, (dequant E h p).sh = (List.range (shDim h.shDegree)).map (shCoef p)) := by
  refine ⟨decode E ⟨h, ps.flatMap (·.pos), ps.map (·.alpha), ps.flatMap (·.color), ps.flatMap (·.scale),
    ps.flatMap (·.rot), ps.flatMap (·.sh)⟩, ?_, ?_, ?_, ?_, ?_, ?_, ?_, fun _ _ => rfl⟩
  · simp only [Spz.read, readRaw_refEncode h hr hv ps hn hf extra, Except.map]
  · exact decodePositions_eq E h ps hn (fun p hp => (hf p hp).1)
  · simp only [decode, ← hn]; exact decodeAlphas_eq ps
  · simp only [decode, ← hn]; exact decodeColors_eq ps (fun p hp => (hf p hp).2.1)
  · simp only [decode, ← hn]; exact decodeScales_eq ps (fun p hp => (hf p hp).2.2.1)
  · simp only [decode, ← hn]; exact decodeRotations_eq ps (fun p hp => (hf p hp).2.2.2.1)
  · simp only [decode, ← hn]; exact decodeSh_eq ps _ (fun p hp => (hf p hp).2.2.2.2)

/-- the reference encoding has the length the header announces, `16 + n·(9|6 + 1 + 3 + 3 + 3 + 3·dim)`
    (that the decoder accepts exactly the streams at least that long is `C14.spz_complete` / `Spz.readRaw_ok`) -/
theorem spz_lengths (h : Header) (ps : List Packed) (hn : ps.length = h.numPoints) (hf : ∀ p ∈ ps, p.fits h) :
    (refEncode h ps).length = payloadLength h ∧
    payloadLength h = 16 + h.numPoints * (posBytes h + 1 + 3 + 3 + 3 + 3 * shDim h.shDegree) := by
  constructor
  · rw [refEncode, List.length_append, encHeader_length, List.length_flatten, refArrays_sizes h ps hn hf, payloadLength]
  · exact payloadLength_eq h

/-- a version-2, degree-1 header with 12 fractional bits and one record of arbitrary bytes -/
def exHeader : Header := ⟨magicNum, 2, 1, 1, 12, 0, 0⟩
def exPacked : Packed := ⟨[1, 2, 3, 4, 5, 6, 7, 8, 0x80], 9, [10, 11, 12], [13, 14, 15], [16, 17, 18],
  [19, 20, 21, 22, 23, 24, 25, 26, 27]⟩

example : exHeader.inRange ∧ exHeader.valid = true ∧ [exPacked].length = exHeader.numPoints ∧
    ∀ p ∈ [exPacked], p.fits exHeader := by
  refine ⟨by simp [Header.inRange, exHeader, magicNum], by decide, rfl, ?_⟩
  intro p hp; simp only [List.mem_singleton] at hp; subst hp
  simp [Packed.fits, exHeader, exPacked, posBytes, shDim]

end spz

section spzspec
open Spz

/-! ## Part 2b — the published SPZ decoder as an independent specification (over ℝ)

  Written from the reference decoder of github.com/nianticlabs/spz (`unpackGaussian` in load-spz.cc, quoted in the
  comments of formats/spz/header.go), NOT from the model: plain real-number formulas on the byte values. -/

namespace Published

/-- two's-complement value of a 24-bit little-endian triple -/
def fixed24 (b0 b1 b2 : UInt8) : Int :=
  let v : Int := b0.toNat + 256 * b1.toNat + 65536 * b2.toNat
  if v < 2 ^ 23 then v else v - 2 ^ 24

/-- `position[i] = fixed32 * (1 / (1 << fractionalBits))` -/
noncomputable def position (fb : Nat) (b0 b1 b2 : UInt8) : ℝ := (fixed24 b0 b1 b2 : ℝ) / 2 ^ fb
/-- `scale[i] = scale[i] / 16.0f - 10.0f` -/
noncomputable def scale (b : UInt8) : ℝ := (b.toNat : ℝ) / 16 - 10
/-- `color[i] = (color[i] / 255.0f - 0.5f) / colorScale`, `colorScale = 0.15` -/
noncomputable def color (b : UInt8) : ℝ := ((b.toNat : ℝ) / 255 - 0.5) / 0.15
/-- `xyz = r * (1.0f / 127.5f) + (-1, -1, -1)` -/
noncomputable def rotation (b : UInt8) : ℝ := (b.toNat : ℝ) * (1 / 127.5) - 1
/-- `w = sqrt(max(0, 1 - squaredNorm(xyz)))` -/
noncomputable def rotationW (x y z : ℝ) : ℝ := Real.sqrt (max 0 (1 - (x ^ 2 + y ^ 2 + z ^ 2)))
/-- `unquantizeSH(x) = (x - 128) / 128` -/
noncomputable def sh (b : UInt8) : ℝ := ((b.toNat : ℝ) - 128) / 128
/-- `alpha = invSigmoid(alpha / 255.0f)`, `invSigmoid(x) = log(x / (1 - x))` -/
noncomputable def alpha (b : UInt8) : ℝ := Real.log (((b.toNat : ℝ) / 255) / (1 - (b.toNat : ℝ) / 255))
/-- `sigmoid(x) = 1 / (1 + exp(-x))` -/
noncomputable def sigmoid (x : ℝ) : ℝ := 1 / (1 + Real.exp (-x))

end Published

/-- the decoder's arithmetic at ℝ: `ofInt` is the cast (`float64(int32)`) -/
def RealEnv (E : Spz.Env ℝ) : Prop := ∀ z : Int, E.ofInt z = (z : ℝ)

theorem spz_position_is_published (E : Spz.Env ℝ) (hE : RealEnv E) (fb : Nat) (hfb : fb ≤ 62) (b0 b1 b2 : UInt8) :
    fixedCoord E fb b0 b1 b2 = Published.position fb b0 b1 b2 := by
  rw [spz_fixed_point_value E hE fb hfb]; rfl

theorem spz_scale_is_published (b : UInt8) : (scaleDec b : ℝ) = Published.scale b := by
  simp [scaleDec, Published.scale, Spz.byteF, natF]

theorem spz_color_is_published (b : UInt8) : (colorDec b : ℝ) = Published.color b := by
  simp only [colorDec, Published.color, Spz.byteF, natF, RS.lit_eq]
  norm_num

theorem spz_rotation_is_published (b : UInt8) : (Spz.rotDec b : ℝ) = Published.rotation b := by
  simp only [Spz.rotDec, Published.rotation, Spz.byteF, natF, RS.lit_eq]
  norm_num

theorem spz_rotationW_is_published (x y z : ℝ) : rotW x y z = Published.rotationW x y z := by
  simp only [rotW, Published.rotationW, natF, RS.sqrt_eq]
  norm_num [_root_.sq]

theorem spz_sh_is_published (b : UInt8) : (shDec b : ℝ) = Published.sh b := by
  simp [shDec, Published.sh, Spz.byteF, natF]

theorem toNat51_aux : ((51 : UInt8).toNat : ℝ) = 51 := by
  have h : (51 : UInt8).toNat = 51 := by decide
  rw [h]; norm_num

/-- DELIBERATE deviation of the repository (header.go:183-203, the `invSigmoid` line is commented out):
    `spz.Read` stores `alpha/255`, the SIGMOID-domain value, not the published logit.  For every byte that
    has a logit (0 < b < 255) the stored value is exactly the sigmoid of the published one — and it is not
    the published value itself (witness b = 51: 0.2 vs log(1/4) < 0). -/
theorem spz_alpha_is_sigmoid_domain :
    (∀ b : UInt8, (Spz.alphaDec b : ℝ) = (b.toNat : ℝ) / 255) ∧
    (∀ b : UInt8, 0 < b.toNat → b.toNat < 255 → Published.sigmoid (Published.alpha b) = Spz.alphaDec b) ∧
    (Spz.alphaDec (51 : UInt8) : ℝ) ≠ Published.alpha 51 := by
  refine ⟨fun b => by simp [Spz.alphaDec, Spz.byteF, natF], ?_, ?_⟩
  · intro b h0 h255
    have hx0 : (0 : ℝ) < (b.toNat : ℝ) / 255 := by positivity
    have hx1 : (b.toNat : ℝ) / 255 < 1 := by
      rw [div_lt_one (by norm_num)]; exact_mod_cast h255
    simp only [Published.sigmoid, Published.alpha, Spz.alphaDec, Spz.byteF, natF]
    generalize (b.toNat : ℝ) / 255 = x at hx0 hx1
    have h1 : 0 < 1 - x := by linarith
    rw [← Real.log_inv, Real.exp_log (by positivity)]
    field_simp
    ring
  · have hlog : Published.alpha 51 < 0 := by
      simp only [Published.alpha]
      have e := toNat51_aux
      rw [e]
      apply Real.log_neg <;> norm_num
    have hpos : (0 : ℝ) < Spz.alphaDec (51 : UInt8) := by
      have e := toNat51_aux
      simp only [Spz.alphaDec, Spz.byteF, natF, e]; norm_num
    linarith

/-- the dequantisation of one record, field by field, is the published decoder's (version 2, fractional
    bits ≤ 62) — except alpha (`spz_alpha_is_sigmoid_domain`).  Together with `spz_decode_refEncode`
    (layout): splat `i` of `spz.Read`'s result carries the published values of record `i`. -/
theorem spz_dequant_is_published (E : Spz.Env ℝ) (hE : RealEnv E) (h : Header) (hv : h.version ≠ 1)
    (hfb : h.fractionalBits ≤ 62) (p : Packed) :
    (dequant E h p).pos = ⟨Published.position h.fractionalBits (byteAt p.pos 0) (byteAt p.pos 1) (byteAt p.pos 2),
      Published.position h.fractionalBits (byteAt p.pos 3) (byteAt p.pos 4) (byteAt p.pos 5),
      Published.position h.fractionalBits (byteAt p.pos 6) (byteAt p.pos 7) (byteAt p.pos 8)⟩ ∧
    (dequant E h p).scale = ⟨Published.scale (byteAt p.scale 0), Published.scale (byteAt p.scale 1),
      Published.scale (byteAt p.scale 2)⟩ ∧
    (dequant E h p).color = ⟨Published.color (byteAt p.color 0), Published.color (byteAt p.color 1),
      Published.color (byteAt p.color 2)⟩ ∧
    (dequant E h p).rot = ⟨Published.rotation (byteAt p.rot 0), Published.rotation (byteAt p.rot 1),
      Published.rotation (byteAt p.rot 2),
      Published.rotationW (Published.rotation (byteAt p.rot 0)) (Published.rotation (byteAt p.rot 1))
        (Published.rotation (byteAt p.rot 2))⟩ ∧
    (∀ d, (shCoef p d : V3 ℝ) = ⟨Published.sh (byteAt p.sh (d * 3 + 0)), Published.sh (byteAt p.sh (d * 3 + 1)),
      Published.sh (byteAt p.sh (d * 3 + 2))⟩) ∧
    (dequant E h p).alpha = (p.alpha.toNat : ℝ) / 255 := by
  refine ⟨?_, ?_, ?_, ?_, ?_, ?_⟩
  · simp only [dequant, if_neg hv, spz_position_is_published E hE _ hfb]
  · simp only [dequant, spz_scale_is_published]
  · simp only [dequant, spz_color_is_published]
  · simp only [dequant, spz_rotation_is_published, spz_rotationW_is_published]
  · intro d; simp only [shCoef, spz_sh_is_published]
  · simp only [dequant]; exact spz_alpha_is_sigmoid_domain.1 p.alpha

example : RealEnv ⟨fun z => (z : ℝ), fun k => (2 : ℝ) ^ k, 0, 0⟩ := fun _ => rfl

end spzspec

/-! ## Part 2c — `Header.Validate` against the source (guards regenerated on every run) -/

section spzvalidate
open Spz

/-- value of a header field by its Go name -/
def fieldOf (h : Header) : String → Nat
  | "Magic" => h.magic
  | "Version" => h.version
  | "NumPoints" => h.numPoints
  | "ShDegree" => h.shDegree
  | "FractionalBits" => h.fractionalBits
  | "Flags" => h.flags
  | _ => h.reserved

/-- one extracted guard `field op value` -/
def guardHolds (h : Header) (g : String × String × Nat) : Bool :=
  let x := fieldOf h g.1
  match g.2.1 with
  | "<" => x < g.2.2
  | ">" => x > g.2.2
  | "<=" => x ≤ g.2.2
  | ">=" => x ≥ g.2.2
  | "!=" => x != g.2.2
  | _ => x == g.2.2

/-- `Header.Validate` as the source has it (guards regenerated from formats/spz/header.go on every run): the
    model's `Header.valid` accepts exactly the headers no extracted guard rejects — in particular the point limit is
    the source's constant with the source's comparison (`NumPoints > 10000000`: exactly 10 000 000 points are allowed) -/
theorem spz_validate_matches_source (h : Header) :
    h.valid = !(Gen.SpzValidate.guards.any (guardHolds h)) := by
  simp only [Gen.SpzValidate.guards, List.any_cons, List.any_nil, guardHolds, fieldOf, Header.valid, Bool.or_false]
  rw [Bool.eq_iff_iff]
  simp only [Bool.and_eq_true, Bool.not_eq_true', Bool.or_eq_false_iff, decide_eq_true_eq, decide_eq_false_iff_not,
    beq_iff_eq, bne_eq_false_iff_eq]
  have hm : maxPoints = 10000000 := rfl
  have hg : magicNum = 1347635022 := rfl
  rw [hm, hg]
  omega

/-- the boundary: 10 000 000 points pass the limit, 10 000 001 do not -/
example : (⟨magicNum, 2, 10000000, 0, 0, 0, 0⟩ : Header).valid = true ∧
    (⟨magicNum, 2, 10000001, 0, 0, 0, 0⟩ : Header).valid = false := by decide

end spzvalidate

/-! ## Part 3 — PLY splat export (tables regenerated from formats/ply/types.go and reader.go on every run) -/

section splatply
open Gen.SplatPlyTable

/-- every one of the five splat attributes is written by `SplatPly.Write` as a float32 property group whose
    names are exactly a group under which `ply.ReadMesh`'s default reader loads that same attribute, and no two
    written properties share a name -/
theorem splatply_table_matches :
    (∀ a ∈ splatAttributes, ∃ w ∈ writer, w.1 = a ∧ w.2.1 = "float" ∧ (a, w.2.2) ∈ reader) ∧
    (writer.flatMap (·.2.2)).Nodup := by
  decide

/-- the higher-order harmonics: the export loop offers all 45 = 3·15 coefficients of SH degree 3 (hence every
    `f_rest_k` a cloud of degree 1, 2 or 3 carries: k < 9, 24, 45), each as a float32 property named exactly
    like its attribute, and the default reader loads a property no reader claims under its own name -/
theorem splatply_rest_table :
    restCount = 45 ∧ restAttrFormat = "f_rest_%d" ∧ restPropFormat = restAttrFormat ∧ restType = "float" ∧
    readerLoadsUnspecified = true ∧
    (∀ a ∈ reader, ∀ nm ∈ a.2, nm.toList.take 7 ≠ "f_rest_".toList) := by
  decide

end splatply

end C15
end PolyVerif
