/-
  C01 — the CLASSIFICATION of Go functions into the model's operation classes, derived from the source.

  Gen/C01Classes.lean (regenerated on every run by go/facts/c01_classes.go) holds, for every exported function of
  package modeling that returns a Mesh, where each component of the returned mesh comes from (shared with a mesh
  parameter / fresh / the caller's / nil / unknown).  Model/MeshClasses.lean holds the sharing summary `Cls.spec`
  of every model class and the hand classification `handClass`.

  * `classification_from_source` (decide over the complete regenerated table): every function of the table is
    classified by hand, and its regenerated summary FITS the summary of that class — every source the extractor
    found for every component is one the class allows.  `Mesh.Transform` and two transformers (dynamic dispatch / two-result callee) are the named exceptions.
  * `class_realises`: for all states, the model's operation of a class produces a mesh whose components come from
    exactly where `Cls.spec` says (same slice header / same map object as the argument's, or allocated in this step).
-/
import PolyVerif.Model.MeshClasses
import PolyVerif.Gen.C01Classes
import PolyVerif.Lemmas.MeshHeap

namespace PolyVerif
namespace C01

open MeshHeap MeshClasses

/-- one row of the regenerated table is in order: it is a function deliberately left out (and then has no class),
    or the hand classification gives it a class whose sharing summary its regenerated summary fits -/
def rowOK (s : FnSummary) : Bool :=
  if notOneOperation.contains s.name then (handClass s.name).isNone
  else match handClass s.name, handTwoClasses s.name with
    | some c, none => s.fits c
    | none, some (c, d) => s.fitsEither c d
    | _, _ => false

/-- THE CLASSIFICATION IS DERIVED FROM THE SOURCE: every exported Mesh-returning function of modeling/mesh.go
    (complete regenerated table) has the sharing behaviour of the model class it is assigned to. -/
theorem classification_from_source : ∀ s ∈ Gen.C01Classes.table, rowOK s = true := by decide +kernel

/-- the table is the complete list the extractor saw, and it is not empty -/
theorem classification_covers : Gen.C01Classes.table.length = Gen.C01Classes.functionsSummarised ∧
    100 ≤ Gen.C01Classes.table.length := by decide

/-! no classified function has an `unknown` source anywhere: it fits a class summary, and no class summary lists one -/

/-- neither the object nor the entries may come from an unrecognised place -/
abbrev Known (c : Comp) : Prop := Src.unknown ∉ c.obj ∧ Src.unknown ∉ c.ent

theorem mem_sharedExcept {f : Nat} {c x : Comp} (h : x ∈ sharedExcept f c) : x = c ∨ ∃ g, x = shared g := by
  obtain ⟨g, _, rfl⟩ := List.mem_map.mp h
  split
  · exact Or.inl rfl
  · exact Or.inr ⟨g, rfl⟩

theorem spec_known : ∀ (c : Cls), ∀ x ∈ c.spec, Known x
  | .setData _ | .setAttr _ | .copyAttr _ => fun x h => by
    rcases mem_sharedExcept h with rfl | ⟨g, rfl⟩ <;> simp [Known, shared]
  | .rebuild .share | .rebuild .drop | .newMesh | .setIndices | .setMaterials | .toPointCloud | .clearAttrs | .readOnly
  | .append => by decide

/-- `Src.norm` keeps `unknown`, so a list all of whose normalised members are allowed contains it only if it is allowed -/
theorem known_of_all {l spec : List Src} (h : (l.map Src.norm).all (fun s => spec.contains s) = true)
    (hs : Src.unknown ∉ spec) : Src.unknown ∉ l :=
  fun hm => hs (by simpa [Src.norm] using List.all_eq_true.mp h _ (List.mem_map_of_mem (f := Src.norm) hm))

theorem known_of_fitsAll : ∀ {cs ss : List Comp}, fitsAll cs ss = true → (∀ x ∈ ss, Known x) → ∀ c ∈ cs, Known c
  | c :: cs, s :: ss, h, hs, x, hx => by
    simp only [fitsAll, Comp.fits, Bool.and_eq_true] at h
    rcases List.mem_cons.mp hx with rfl | hx
    · exact ⟨known_of_all h.1.1.2 (hs s List.mem_cons_self).1, known_of_all h.1.2 (hs s List.mem_cons_self).2⟩
    · exact known_of_fitsAll h.2 (fun y hy => hs y (List.mem_cons_of_mem _ hy)) x hx
  | [], _, _, _, _, hx => nomatch hx
  | _ :: _, [], h, _, _, _ => by simp [fitsAll] at h

theorem known_union : ∀ {l1 l2 : List Comp}, (∀ x ∈ l1, Known x) → (∀ x ∈ l2, Known x) →
    ∀ x ∈ List.zipWith Comp.union l1 l2, Known x
  | a :: l1, b :: l2, h1, h2, x, hx => by
    rcases List.mem_cons.mp hx with rfl | hx
    · have ha := h1 a List.mem_cons_self
      have hb := h2 b List.mem_cons_self
      exact ⟨fun h => (List.mem_append.mp h).elim ha.1 hb.1, fun h => (List.mem_append.mp h).elim ha.2 hb.2⟩
    · exact known_union (fun y hy => h1 y (List.mem_cons_of_mem _ hy)) (fun y hy => h2 y (List.mem_cons_of_mem _ hy)) x hx
  | [], _, _, _, _, hx => nomatch hx
  | _ :: _, [], _, _, _, hx => nomatch hx

/-- no classified function has an `unknown` source anywhere -/
theorem classification_no_unknown : ∀ s ∈ Gen.C01Classes.table, notOneOperation.contains s.name = false →
    ∀ c ∈ s.comps, c.obj.contains .unknown = false ∧ c.ent.contains .unknown = false := by
  intro s hs hn c hc
  have hrow := classification_from_source s hs
  simp only [rowOK, hn, Bool.false_eq_true, if_false] at hrow
  have key : ∃ sp, fitsAll s.comps sp = true ∧ ∀ x ∈ sp, Known x := by
    split at hrow
    · simp only [FnSummary.fits, Bool.and_eq_true] at hrow
      exact ⟨_, hrow.2, spec_known _⟩
    · simp only [FnSummary.fitsEither, Bool.and_eq_true] at hrow
      exact ⟨_, hrow.2, known_union (spec_known _) (spec_known _)⟩
    · cases hrow
  obtain ⟨sp, hf, hsp⟩ := key
  simpa using known_of_fitsAll hf hsp c hc

/-- closed witnesses that the comparison discriminates: an `Append` whose indices are the receiver's slice (what
    `append(m.indices, …)` amounts to when the extractor can see through it; otherwise it reports `unknown`) or are `unknown`
    does not fit the class `append`; a `SetIndices` that hands back the receiver's indices does not fit `setIndices`;
    a weld that keeps the receiver's materials does not fit `rebuild drop` -/
theorem aliasing_summaries_rejected :
    (⟨"Mesh.Append", 2, [shared 0, ⟨[.recv 0 1], []⟩, ⟨[.fresh], []⟩, ⟨[.fresh], [.fresh]⟩, ⟨[.fresh], [.fresh]⟩,
        ⟨[.fresh], [.fresh]⟩, ⟨[.fresh], [.fresh]⟩]⟩ : FnSummary).fits .append = false ∧
    (⟨"Mesh.Append", 2, [shared 0, ⟨[.unknown], []⟩, ⟨[.fresh], []⟩, ⟨[.fresh], [.fresh]⟩, ⟨[.fresh], [.fresh]⟩,
        ⟨[.fresh], [.fresh]⟩, ⟨[.fresh], [.fresh]⟩]⟩ : FnSummary).fits .append = false ∧
    (⟨"Mesh.SetIndices", 1, (List.range 7).map shared⟩ : FnSummary).fits .setIndices = false ∧
    (⟨"Mesh.WeldByFloat3Attribute", 1, [shared 0, ⟨[.fresh], []⟩, shared 2, ⟨[.fresh], [.fresh]⟩, ⟨[.fresh], [.fresh]⟩,
        ⟨[.fresh], [.fresh]⟩, ⟨[.fresh], [.fresh]⟩]⟩ : FnSummary).fits (.rebuild .drop) = false := by decide +kernel

/-! ### what the model's operation of each class does with memory -/

section realises
variable {κ α : Type} [DecidableEq κ]

/-- the class (and the pool positions of the mesh parameters, receiver first) of a model operation;
    `shareMaterials` is the composition `m.SetMaterials(src.Materials())` of two Go functions and `appendOld` is not in the tree -/
def opClass : Op κ α → Option (Cls × List Nat)
  | .newMesh .. => some (.newMesh, [])
  | .setIndices m .. => some (.setIndices, [m])
  | .setMaterials m .. => some (.setMaterials, [m])
  | .toPointCloud m .. => some (.toPointCloud, [m])
  | .clearAttrs m => some (.clearAttrs, [m])
  | .setData m k _ => some (.setData k, [m])
  | .setAttr m k .. => some (.setAttr k, [m])
  | .copyAttr m src k _ => some (.copyAttr k, [m, src])
  | .rebuild m _ _ _ _ mm => some (.rebuild mm, [m])
  | .readOnly m => some (.readOnly, [m])
  | .append m o .. => some (.append, [m, o])
  | .shareMaterials .. => none
  | .appendOld .. => none

/-- the map of attribute kind `k` (0..3 = v1Data..v4Data) of a mesh -/
def kindOf (a : MeshRep) (k : Nat) : Option Nat := (a.maps[k]?).getD none

def specObj (spec : List Comp) (i : Nat) : List Src := ((spec[i]?).map Comp.obj).getD []
def specEnt (spec : List Comp) (i : Nat) : List Src := ((spec[i]?).map Comp.ent).getD []

def TopoFrom (args : List MeshRep) (t : Nat) : Src → Prop
  | .recv i f => f = 0 ∧ ∃ a, args[i]? = some a ∧ t = a.topo
  | .val => True
  | _ => False

/-- the slice (component `fld`: 1 indices, 2 materials) comes from source `x`: it IS the argument's slice header,
    or it points into an array allocated by this operation (or has no cell at all) -/
def SliceFrom (h : Heap κ α) (args : List MeshRep) (fld : Nat) (s : Slice) : Src → Prop
  | .recv i f => f = fld ∧ ∃ a, args[i]? = some a ∧ s = (if fld = 1 then a.indices else a.materials)
  | .fresh => Fresh h.arrays.length s
  | .nil => s.cap = 0
  | _ => False

/-- an entry of a new map comes from source `x`: its slice header is one stored in the argument's map of that kind,
    or points into an array allocated by this operation -/
def EntFrom (h : Heap κ α) (args : List MeshRep) (e : κ × Slice) : Src → Prop
  | .elem i f => ∃ a, args[i]? = some a ∧ 3 ≤ f ∧ ∃ e' ∈ h.mapEntries (kindOf a (f - 3)), e'.2 = e.2
  | .fresh => Fresh h.arrays.length e.2
  | .nil => e.2.cap = 0
  | _ => False

/-- the map of kind `k` comes from source `x`: it IS the argument's map object, it is the nil map, or it is a map
    object allocated by this operation all of whose entries come from the sources `ent` -/
def MapFrom (h h' : Heap κ α) (args : List MeshRep) (k : Nat) (ent : List Src) (m : Option Nat) : Src → Prop
  | .recv i f => f = 3 + k ∧ ∃ a, args[i]? = some a ∧ m = kindOf a k
  | .nil => m = none
  | .fresh => ∃ id, m = some id ∧ h.maps.length ≤ id ∧ ∀ e ∈ h'.mapEntries (some id), ∃ x ∈ ent, EntFrom h args e x
  | _ => False

/-- mesh `r` in heap `h'` has the sharing summary `spec` relative to the argument meshes `args` in heap `h` -/
def Realises (spec : List Comp) (h : Heap κ α) (args : List MeshRep) (h' : Heap κ α) (r : MeshRep) : Prop :=
  (∃ x ∈ specObj spec 0, TopoFrom args r.topo x) ∧
  (∃ x ∈ specObj spec 1, SliceFrom h args 1 r.indices x) ∧
  (∃ x ∈ specObj spec 2, SliceFrom h args 2 r.materials x) ∧
  ∀ k, k < 4 → ∃ x ∈ specObj spec (3 + k), MapFrom h h' args k (specEnt spec (3 + k)) (kindOf r k) x

theorem sharedExcept_get (f : Nat) (c : Comp) (g : Nat) (hg : g < 7) :
    (sharedExcept f c)[g]? = some (if g = f then c else shared g) := by
  simp [sharedExcept, List.getElem?_map, List.getElem?_range hg]

theorem kindOf_setKind (maps : List (Option Nat)) (r : MeshRep) (k id k' : Nat) (hk : k < maps.length) :
    kindOf { r with maps := setKind maps k id } k' = if k' = k then some id else (maps[k']?).getD none := by
  simp only [kindOf, setKind, List.getElem?_set]
  by_cases h : k = k'
  · subst h; simp [hk]
  · have : ¬ k' = k := fun e => h e.symm
    simp [h, this]

theorem specObj_sharedExcept (f : Nat) (c : Comp) (g : Nat) (hg : g < 7) :
    specObj (sharedExcept f c) g = if g = f then c.obj else [.recv 0 g] := by
  simp only [specObj, sharedExcept_get f c g hg]; split <;> simp [shared]

theorem specEnt_sharedExcept (f : Nat) (c : Comp) (g : Nat) (hg : g < 7) :
    specEnt (sharedExcept f c) g = if g = f then c.ent else [] := by
  simp only [specEnt, sharedExcept_get f c g hg]; split <;> simp [shared]

omit [DecidableEq κ] in
/-- everything shared with the receiver except component `f`, which comes from where `c` says -/
theorem realises_sharedExcept (f : Nat) (c : Comp) (h h' : Heap κ α) (a : MeshRep) (rest : List MeshRep) (r : MeshRep)
    (h0 : r.topo = a.topo)
    (h1 : if f = 1 then ∃ x ∈ c.obj, SliceFrom h (a :: rest) 1 r.indices x else r.indices = a.indices)
    (h2 : if f = 2 then ∃ x ∈ c.obj, SliceFrom h (a :: rest) 2 r.materials x else r.materials = a.materials)
    (h3 : ∀ k, k < 4 → if 3 + k = f then ∃ x ∈ c.obj, MapFrom h h' (a :: rest) k c.ent (kindOf r k) x
        else kindOf r k = kindOf a k) (hf : f ≠ 0) :
    Realises (sharedExcept f c) h (a :: rest) h' r := by
  refine ⟨?_, ?_, ?_, ?_⟩
  · rw [specObj_sharedExcept f c 0 (by omega), if_neg (fun e => hf e.symm)]
    exact ⟨_, List.mem_singleton.mpr rfl, rfl, a, rfl, h0⟩
  · rw [specObj_sharedExcept f c 1 (by omega)]
    split at h1 <;> rename_i e
    · rw [if_pos e.symm]; exact h1
    · rw [if_neg (Ne.symm e)]; exact ⟨_, List.mem_singleton.mpr rfl, rfl, a, rfl, by simp [h1]⟩
  · rw [specObj_sharedExcept f c 2 (by omega)]
    split at h2 <;> rename_i e
    · rw [if_pos e.symm]; exact h2
    · rw [if_neg (Ne.symm e)]; exact ⟨_, List.mem_singleton.mpr rfl, rfl, a, rfl, by simp [h2]⟩
  · intro k hk
    rw [specObj_sharedExcept f c (3 + k) (by omega), specEnt_sharedExcept f c (3 + k) (by omega)]
    have := h3 k hk
    split at this <;> rename_i e
    · rw [if_pos e, if_pos e]; exact this
    · rw [if_neg e, if_neg e]; exact ⟨_, List.mem_singleton.mpr rfl, by rw [this]; exact ⟨rfl, a, rfl, rfl⟩⟩

theorem readOnly_spec_eq : Cls.readOnly.spec = sharedExcept 7 ⟨[], []⟩ := by decide

omit [DecidableEq κ] in
/-- a mesh realises "everything shared with the receiver" relative to itself -/
theorem realises_self (h h' : Heap κ α) (a : MeshRep) (rest : List MeshRep) :
    Realises Cls.readOnly.spec h (a :: rest) h' a := by
  rw [readOnly_spec_eq]
  apply realises_sharedExcept <;> first | rfl | (intro k hk; rw [if_neg (by omega)]) | simp

section
variable {E : Env α} {s : State κ α} {h' : Heap κ α} {rs : List MeshRep}

theorem real_setIndices {m : Nat} {idx : List α} {sp : Nat}
    (ha : (Op.setIndices m idx sp : Op κ α).apply E s = some (h', rs)) :
    ∃ a, s.pool[m]? = some a ∧ ∃ r, rs = [r] ∧ Realises (Cls.setIndices).spec s.heap [a] h' r := by
  simp only [Op.apply, Option.bind_eq_bind, Option.bind_eq_some_iff, Option.pure_def, Option.some.injEq, Prod.mk.injEq] at ha
  obtain ⟨a, hr, rfl, rfl⟩ := ha
  refine ⟨a, hr, _, rfl, ?_⟩
  apply realises_sharedExcept <;> simp [SliceFrom, allocSlice, Fresh, kindOf]
  intros; omega

theorem real_setMaterials {m : Nat} {idx : List α} {sp : Nat}
    (ha : (Op.setMaterials m idx sp : Op κ α).apply E s = some (h', rs)) :
    ∃ a, s.pool[m]? = some a ∧ ∃ r, rs = [r] ∧ Realises (Cls.setMaterials).spec s.heap [a] h' r := by
  simp only [Op.apply, Option.bind_eq_bind, Option.bind_eq_some_iff, Option.pure_def, Option.some.injEq, Prod.mk.injEq] at ha
  obtain ⟨a, hr, rfl, rfl⟩ := ha
  refine ⟨a, hr, _, rfl, ?_⟩
  apply realises_sharedExcept <;> simp [SliceFrom, allocSlice, Fresh, kindOf]
  intros; omega

theorem real_clearAttrs {m : Nat}
    (ha : (Op.clearAttrs m : Op κ α).apply E s = some (h', rs)) :
    ∃ a, s.pool[m]? = some a ∧ ∃ r, rs = [r] ∧ Realises (Cls.clearAttrs).spec s.heap [a] h' r := by
  simp only [Op.apply, Option.bind_eq_bind, Option.bind_eq_some_iff, Option.pure_def, Option.some.injEq, Prod.mk.injEq] at ha
  obtain ⟨a, hr, rfl, rfl⟩ := ha
  refine ⟨a, hr, _, rfl, ?_, ?_, ?_, ?_⟩
  · exact ⟨.recv 0 0, by decide, rfl, a, rfl, rfl⟩
  · exact ⟨.recv 0 1, by decide, rfl, a, rfl, rfl⟩
  · exact ⟨.recv 0 2, by decide, rfl, a, rfl, rfl⟩
  · intro k hk
    refine ⟨.nil, ?_, ?_⟩
    · have : k = 0 ∨ k = 1 ∨ k = 2 ∨ k = 3 := by omega
      rcases this with rfl | rfl | rfl | rfl <;> simp [specObj, Cls.spec]
    · simp only [MapFrom, kindOf, List.getElem?_map]
      cases a.maps[k]? <;> rfl

theorem real_toPointCloud {m pt n : Nat}
    (ha : (Op.toPointCloud m pt n : Op κ α).apply E s = some (h', rs)) :
    ∃ a, s.pool[m]? = some a ∧ ∃ r, rs = [r] ∧ Realises (Cls.toPointCloud).spec s.heap [a] h' r := by
  simp only [Op.apply, Option.bind_eq_bind, Option.bind_eq_some_iff, Option.pure_def] at ha
  obtain ⟨a, hr, ha⟩ := ha
  refine ⟨a, hr, ?_⟩
  have hm : ∀ (r : MeshRep), r.maps = a.maps → ∀ k, k < 4 → ∃ x ∈ specObj Cls.toPointCloud.spec (3 + k),
      MapFrom s.heap h' [a] k (specEnt Cls.toPointCloud.spec (3 + k)) (kindOf r k) x := by
    intro r er k hk
    refine ⟨.recv 0 (3 + k), ?_, rfl, a, rfl, by simp [kindOf, er]⟩
    have : k = 0 ∨ k = 1 ∨ k = 2 ∨ k = 3 := by omega
    rcases this with rfl | rfl | rfl | rfl <;> simp [specObj, Cls.spec, shared]
  split at ha
  · simp only [Option.some.injEq, Prod.mk.injEq] at ha
    obtain ⟨rfl, rfl⟩ := ha
    refine ⟨_, rfl, ?_, ?_, ?_, hm a rfl⟩
    · exact ⟨.recv 0 0, by decide, rfl, a, rfl, rfl⟩
    · exact ⟨.recv 0 1, by decide, rfl, a, rfl, rfl⟩
    · exact ⟨.recv 0 2, by decide, rfl, a, rfl, rfl⟩
  · simp only [Option.some.injEq, Prod.mk.injEq] at ha
    obtain ⟨rfl, rfl⟩ := ha
    refine ⟨_, rfl, ?_, ?_, ?_, hm _ rfl⟩
    · exact ⟨.val, by decide, trivial⟩
    · exact ⟨.fresh, by decide, Or.inl (by simp [allocSlice])⟩
    · exact ⟨.recv 0 2, by decide, rfl, a, rfl, rfl⟩

omit [DecidableEq κ] in
theorem fresh_of_freshMap {base mbase : Nat} {h h' : Heap κ α} {args : List MeshRep} {k : Nat} {m : Option Nat} {ent : List Src}
    (hb : base = h.arrays.length) (hm : mbase = h.maps.length) (he : Src.fresh ∈ ent) (fm : FreshMap base mbase h' m) :
    MapFrom h h' args k ent m .fresh := by
  obtain ⟨id, rfl, h1, _, h3⟩ := fm
  subst hb hm
  exact ⟨id, rfl, h1, fun e he' => ⟨.fresh, he, h3 e he'⟩⟩

omit [DecidableEq κ] in
/-- the receiver with the map of kind `k` replaced by the map object `id`: everything else is shared -/
theorem realises_setKind {c : Comp} {h h' : Heap κ α} {a : MeshRep} {rest : List MeshRep} {k id : Nat} (hk : k < a.maps.length)
    (hm : ∃ x ∈ c.obj, MapFrom h h' (a :: rest) k c.ent (some id) x) :
    Realises (sharedExcept (3 + k) c) h (a :: rest) h' { a with maps := setKind a.maps k id } := by
  apply realises_sharedExcept (f := 3 + k) <;> try (first | rfl | (rw [if_neg (by omega)]) | omega)
  intro k' hk'
  rw [kindOf_setKind a.maps a k _ k' hk]
  by_cases e : k' = k
  · subst e
    rw [if_pos rfl, if_pos rfl]
    exact hm
  · rw [if_neg (by omega), if_neg e]; rfl

theorem real_setData {m k : Nat} {es : List (κ × List α × Nat)}
    (ha : (Op.setData m k es : Op κ α).apply E s = some (h', rs)) :
    ∃ a, s.pool[m]? = some a ∧ ∃ r, rs = [r] ∧ (k < a.maps.length → Realises (Cls.setData k).spec s.heap [a] h' r) := by
  simp only [Op.apply, Option.bind_eq_bind, Option.bind_eq_some_iff, Option.pure_def, Option.some.injEq, Prod.mk.injEq] at ha
  obtain ⟨a, hr, rfl, rfl⟩ := ha
  refine ⟨a, hr, _, rfl, fun hk => ?_⟩
  exact realises_setKind hk ⟨.fresh, by simp, fresh_of_freshMap rfl rfl (by simp) (allocMapOf_spec E es s.heap).2.2.2⟩

theorem real_setAttr {m k : Nat} {name : κ} {data : List α} {sp : Nat}
    (ha : (Op.setAttr m k name data sp : Op κ α).apply E s = some (h', rs)) :
    ∃ a, s.pool[m]? = some a ∧ ∃ r, rs = [r] ∧ (k < a.maps.length → Realises (Cls.setAttr k).spec s.heap [a] h' r) := by
  simp only [Op.apply, Option.bind_eq_bind, Option.bind_eq_some_iff, Option.pure_def, Option.some.injEq, Prod.mk.injEq] at ha
  obtain ⟨a, hr, rfl, rfl⟩ := ha
  refine ⟨a, hr, _, rfl, fun hk => ?_⟩
  refine realises_setKind hk ⟨.fresh, by simp, _, rfl, by simp [Heap.allocMap, allocSlice, Heap.alloc], ?_⟩
  rw [allocMap_entries]
  intro e he
  rcases mem_insertErase he with h1 | rfl
  · exact ⟨.elem 0 (3 + k), by simp, a, rfl, by omega, e, by simpa [kindOf] using h1, rfl⟩
  · exact ⟨.fresh, by simp, allocSlice_fresh E s.heap data sp⟩

theorem real_copyAttr {m src k : Nat} {name : κ}
    (ha : (Op.copyAttr m src k name : Op κ α).apply E s = some (h', rs)) :
    ∃ a q, s.pool[m]? = some a ∧ s.pool[src]? = some q ∧ ∃ r, rs = [r] ∧
      (k < a.maps.length → Realises (Cls.copyAttr k).spec s.heap [a, q] h' r) := by
  simp only [Op.apply, Option.bind_eq_bind, Option.bind_eq_some_iff, Option.pure_def, Option.some.injEq, Prod.mk.injEq] at ha
  obtain ⟨a, hr, q, hq, rfl, rfl⟩ := ha
  refine ⟨a, q, hr, hq, _, rfl, fun hk => ?_⟩
  refine realises_setKind hk ⟨.fresh, by simp, _, rfl, by simp [Heap.allocMap], ?_⟩
  rw [allocMap_entries]
  intro e he
  generalize hd : (lookup (s.heap.mapEntries ((q.maps[k]?).getD none)) name).getD Slice.nil = d at he
  rcases mem_insertErase he with h1 | rfl
  · exact ⟨.elem 0 (3 + k), by simp, a, rfl, by omega, e, by simpa [kindOf] using h1, rfl⟩
  · cases hl : lookup (s.heap.mapEntries ((q.maps[k]?).getD none)) name with
    | none =>
      rw [hl] at hd; simp only [Option.getD_none] at hd; subst hd
      exact ⟨.nil, by simp, rfl⟩
    | some c =>
      rw [hl] at hd; simp only [Option.getD_some] at hd; subst hd
      obtain ⟨e', he1, he2⟩ := lookup_mem hl
      exact ⟨.elem 1 (3 + k), by simp, q, rfl, by omega, e', by simpa [kindOf] using he1, he2⟩

omit [DecidableEq κ] in
/-- the four kinds of a mesh all of whose maps were made by this operation, against a summary whose components 3..6 are `c` -/
theorem kinds_made {h h' : Heap κ α} {args : List MeshRep} {r : MeshRep} {a0 a1 a2 c : Comp} (hf : Src.fresh ∈ c.obj)
    (he : Src.fresh ∈ c.ent) (hn : Src.nil ∈ c.obj ∨ 4 ≤ r.maps.length)
    (fm : ∀ m ∈ r.maps, FreshMap h.arrays.length h.maps.length h' m) :
    ∀ k, k < 4 → ∃ x ∈ specObj [a0, a1, a2, c, c, c, c] (3 + k),
      MapFrom h h' args k (specEnt [a0, a1, a2, c, c, c, c] (3 + k)) (kindOf r k) x := by
  intro k hk
  have hs : specObj [a0, a1, a2, c, c, c, c] (3 + k) = c.obj ∧ specEnt [a0, a1, a2, c, c, c, c] (3 + k) = c.ent := by
    have : k = 0 ∨ k = 1 ∨ k = 2 ∨ k = 3 := by omega
    rcases this with rfl | rfl | rfl | rfl <;> exact ⟨rfl, rfl⟩
  rw [hs.1, hs.2]
  -- kind `k` is a map made here, or absent (the nil map) when the mesh has fewer kinds
  cases hm : r.maps[k]? with
  | some m => exact ⟨.fresh, hf, by rw [kindOf, hm]; exact fresh_of_freshMap rfl rfl he (fm m (List.mem_of_getElem? hm))⟩
  | none =>
    rcases hn with hn | hn
    · exact ⟨.nil, hn, by rw [kindOf, hm]; rfl⟩
    · have : r.maps.length ≤ k := by simpa using hm
      omega

theorem real_rebuild {m topo : Nat} {idx : List α} {isp : Nat} {attrs : List (List (κ × List α × Nat))} {mm : MatMode}
    (ha : (Op.rebuild m topo idx isp attrs mm : Op κ α).apply E s = some (h', rs)) :
    ∃ a, s.pool[m]? = some a ∧ ∃ r, rs = [r] ∧ Realises (Cls.rebuild mm).spec s.heap [a] h' r := by
  simp only [Op.apply, Option.bind_eq_bind, Option.bind_eq_some_iff, Option.pure_def, Option.some.injEq, Prod.mk.injEq] at ha
  obtain ⟨a, hr, rfl, rfl⟩ := ha
  obtain ⟨f1, _, _⟩ := allocSlice_spec E s.heap idx isp
  have fm := fun m hm => (((allocMaps_spec E attrs (allocSlice E s.heap idx isp).1).2.1 m hm).2).weaken f1.size_le f1.msize_le
  refine ⟨a, hr, _, rfl, ?_, ?_, ?_, ?_⟩
  · exact ⟨.val, by simp [specObj, Cls.spec], trivial⟩
  · exact ⟨.fresh, by simp [specObj, Cls.spec], Or.inl (by simp [allocSlice])⟩
  · cases mm with
    | share => exact ⟨.recv 0 2, by decide, rfl, a, rfl, rfl⟩
    | drop => exact ⟨.nil, by decide, rfl⟩
  · exact kinds_made (by simp) (by simp) (Or.inl (by simp)) fm

theorem real_newMesh {topo : Nat} {idx : List α} {isp : Nat} {mats : List α} {msp : Nat} 
    {attrs : List (List (κ × List α × Nat))}
    (ha : (Op.newMesh topo idx isp mats msp attrs : Op κ α).apply E s = some (h', rs)) :
    ∃ r, rs = [r] ∧ Realises (Cls.newMesh).spec s.heap [] h' r := by
  simp only [Op.apply, Option.some.injEq, Prod.mk.injEq] at ha
  obtain ⟨rfl, rfl⟩ := ha
  obtain ⟨f1, _, _⟩ := allocSlice_spec E s.heap idx isp
  obtain ⟨f2, _, _⟩ := allocSlice_spec E (allocSlice E s.heap idx isp).1 mats msp
  have fr2 := (allocSlice_fresh E (allocSlice E s.heap idx isp).1 mats msp).weaken f1.size_le
  have fm := fun m hm => (((allocMaps_spec E attrs (allocSlice E (allocSlice E s.heap idx isp).1 mats msp).1).2.1 m hm).2).weaken
    (Nat.le_trans f1.size_le f2.size_le) (Nat.le_trans f1.msize_le f2.msize_le)
  refine ⟨_, rfl, ?_, ?_, ?_, ?_⟩
  · exact ⟨.val, by decide, trivial⟩
  · exact ⟨.fresh, by decide, Or.inl (by simp [allocSlice])⟩
  · exact ⟨.fresh, by decide, fr2⟩
  · exact kinds_made (by simp) (by simp) (Or.inl (by simp)) fm

theorem real_append {m o aLen bLen : Nat}
    (ha : (Op.append m o aLen bLen : Op κ α).apply E s = some (h', rs)) :
    ∃ a q, s.pool[m]? = some a ∧ s.pool[o]? = some q ∧ ∃ r, rs = [r] ∧
      (4 ≤ a.maps.length → Realises (Cls.append).spec s.heap [a, q] h' r) := by
  simp only [Op.apply, Option.bind_eq_bind, Option.bind_eq_some_iff, Option.pure_def, Option.some.injEq, Prod.mk.injEq] at ha
  obtain ⟨a, hr, q, hq, x, hx, rfl, rfl⟩ := ha
  obtain ⟨_, _, t0, fi, fmat, lm, fm⟩ := appendCopy_spec E (h' := x.1) (r := x.2) (Nat.le_refl _) (Nat.le_refl _) hx
  refine ⟨a, q, hr, hq, _, rfl, fun h4 => ⟨?_, ?_, ?_, ?_⟩⟩
  · exact ⟨.recv 0 0, by decide, rfl, a, rfl, t0⟩
  · exact ⟨.fresh, by decide, fi⟩
  · exact ⟨.fresh, by decide, fmat⟩
  · exact kinds_made (by simp) (by simp) (Or.inr (Nat.le_trans h4 lm)) fm

theorem real_readOnly {m : Nat}
    (ha : (Op.readOnly m : Op κ α).apply E s = some (h', rs)) :
    ∃ a, s.pool[m]? = some a ∧ h' = s.heap ∧ rs = [] := by
  simp only [Op.apply, Option.bind_eq_bind, Option.bind_eq_some_iff, Option.pure_def, Option.some.injEq, Prod.mk.injEq] at ha
  obtain ⟨a, hr, rfl, rfl⟩ := ha
  exact ⟨a, hr, rfl, rfl⟩

end

/-- the meshes at pool positions `ps` -/
def argsOf (s : State κ α) : List Nat → Option (List MeshRep)
  | [] => some []
  | p :: ps => match s.pool[p]?, argsOf s ps with
    | some a, some as => some (a :: as)
    | _, _ => none

/-- the attribute kind of a class is one of v1Data..v4Data -/
def _root_.PolyVerif.MeshClasses.Cls.kindOK : Cls → Bool
  | .setData k | .setAttr k | .copyAttr k => decide (k < 4)
  | _ => true

/-- THE MODEL'S OPERATION OF A CLASS SHARES / ALLOCATES EXACTLY WHAT THE CLASS SUMMARY SAYS, in every state:
    whenever an operation of class `c` succeeds, its mesh arguments exist and the mesh it returns `Realises c.spec` — each
    component is the very slice header / map object of the argument the summary names, or lies in memory allocated by this
    operation (and, for new maps, every entry is one of the argument's entries or new memory, as the summary says).
    A read-only operation returns no new mesh and leaves the heap as it is; the Go function returns its receiver, which
    realises "everything shared" trivially. -/
theorem class_realises (E : Env α) (s : State κ α) (op : Op κ α) (c : Cls) (ps : List Nat)
    (hc : opClass op = some (c, ps)) (h' : Heap κ α) (rs : List MeshRep) (ha : op.apply E s = some (h', rs))
    (h4 : ∀ a ∈ s.pool, a.maps.length = 4) (hk : c.kindOK = true) :
    ∃ args, argsOf s ps = some args ∧
      if c = .readOnly then h' = s.heap ∧ rs = [] ∧ ∀ a ∈ args.head?, Realises c.spec s.heap args h' a
      else ∃ r, rs = [r] ∧ Realises c.spec s.heap args h' r := by
  cases op <;> simp only [opClass, Option.some.injEq, Prod.mk.injEq, reduceCtorEq] at hc <;> obtain ⟨rfl, rfl⟩ := hc
  case newMesh topo idx isp mats msp attrs =>
    exact ⟨[], rfl, by simpa using real_newMesh ha⟩
  case setIndices m idx sp =>
    obtain ⟨a, hr, r, e, hR⟩ := real_setIndices ha
    exact ⟨[a], by simp [argsOf, hr], by simpa using ⟨r, e, hR⟩⟩
  case setMaterials m mats sp =>
    obtain ⟨a, hr, r, e, hR⟩ := real_setMaterials ha
    exact ⟨[a], by simp [argsOf, hr], by simpa using ⟨r, e, hR⟩⟩
  case toPointCloud m pt n =>
    obtain ⟨a, hr, r, e, hR⟩ := real_toPointCloud ha
    exact ⟨[a], by simp [argsOf, hr], by simpa using ⟨r, e, hR⟩⟩
  case clearAttrs m =>
    obtain ⟨a, hr, r, e, hR⟩ := real_clearAttrs ha
    exact ⟨[a], by simp [argsOf, hr], by simpa using ⟨r, e, hR⟩⟩
  case setData m k es =>
    obtain ⟨a, hr, r, e, hR⟩ := real_setData ha
    have hk' : k < a.maps.length := by rw [h4 a (List.mem_of_getElem? hr)]; simpa [Cls.kindOK] using hk
    exact ⟨[a], by simp [argsOf, hr], by simpa using ⟨r, e, hR hk'⟩⟩
  case setAttr m k name data sp =>
    obtain ⟨a, hr, r, e, hR⟩ := real_setAttr ha
    have hk' : k < a.maps.length := by rw [h4 a (List.mem_of_getElem? hr)]; simpa [Cls.kindOK] using hk
    exact ⟨[a], by simp [argsOf, hr], by simpa using ⟨r, e, hR hk'⟩⟩
  case copyAttr m src k name =>
    obtain ⟨a, q, hr, hq, r, e, hR⟩ := real_copyAttr ha
    have hk' : k < a.maps.length := by rw [h4 a (List.mem_of_getElem? hr)]; simpa [Cls.kindOK] using hk
    exact ⟨[a, q], by simp [argsOf, hr, hq], by simpa using ⟨r, e, hR hk'⟩⟩
  case rebuild m topo idx isp attrs mm =>
    obtain ⟨a, hr, r, e, hR⟩ := real_rebuild ha
    exact ⟨[a], by simp [argsOf, hr], by simpa using ⟨r, e, hR⟩⟩
  case readOnly m =>
    obtain ⟨a, hr, e1, e2⟩ := real_readOnly ha
    refine ⟨[a], by simp [argsOf, hr], ?_⟩
    simp only [if_true]
    refine ⟨e1, e2, fun b hb => ?_⟩
    simp only [List.head?_cons, Option.mem_def, Option.some.injEq] at hb
    subst hb
    exact realises_self s.heap h' _ []
  case append m o aLen bLen =>
    obtain ⟨a, q, hr, hq, r, e, hR⟩ := real_append ha
    have h4' : 4 ≤ a.maps.length := by rw [h4 a (List.mem_of_getElem? hr)]; exact Nat.le_refl 4
    exact ⟨[a, q], by simp [argsOf, hr, hq], by simpa using ⟨r, e, hR h4'⟩⟩

/-- non-vacuity: a concrete state (one mesh, four kinds, one attribute), a `setAttr` on it that succeeds; all hypotheses of
    `class_realises` hold -/
example : ∃ (h' : Heap Nat Nat) (rs : List MeshRep),
    let E : Env Nat := ⟨0, fun n x => x + n, id, fun _ _ => 0⟩
    let s : State Nat Nat := ⟨⟨[[1, 2, 3]], [[(0, ⟨0, 0, 3, 3⟩)]]⟩, [⟨0, Slice.nil, Slice.nil, [some 0, none, none, none]⟩]⟩
    (Op.setAttr 0 0 5 [7, 8, 9] 0 : Op Nat Nat).apply E s = some (h', rs) ∧ (∀ a ∈ s.pool, a.maps.length = 4) ∧
      opClass (Op.setAttr 0 0 5 [7, 8, 9] 0 : Op Nat Nat) = some (.setAttr 0, [0]) ∧ (Cls.setAttr 0).kindOK = true :=
  ⟨_, _, rfl, by decide, rfl, rfl⟩

end realises

end C01
end PolyVerif
