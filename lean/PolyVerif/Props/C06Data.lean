/-
  C06 — scene level, data: the primitives `AddScene` writes read back exactly the meshes of the scene
  (per-primitive consistency, decode image through the tracker maps).
-/
import PolyVerif.Props.C06Scene

namespace PolyVerif
namespace C06
open Gltf

/-- `w'` extends `w`: buffer, views and accessors are only appended to -/
def Ext (w w' : W) : Prop :=
  ∃ b vs as, w'.buf = w.buf ++ b ∧ w'.views = w.views ++ vs ∧ w'.accessors = w.accessors ++ as

theorem Grows.ext {w w' : W} (g : Grows w w') : Ext w w' := by
  obtain ⟨b, hb⟩ := g.buf; obtain ⟨v, hv⟩ := g.views; obtain ⟨a, ha⟩ := g.accessors
  exact ⟨b, v, a, hb.symm, hv.symm, ha.symm⟩

theorem ext_writeIndices (w : W) (i : List Nat) (n : Nat) : Ext w (writeIndices w i n) := ⟨_, _, _, rfl, rfl, rfl⟩

/-- accessor `i` exists, has the given component type / dimension / count, and decodes to `data` -/
def AccIs (w : W) (i : Nat) (comp : Comp) (dim count : Nat) (data : List Nat) : Prop :=
  ∃ x, w.accessors[i]? = some x ∧ x.comp = comp ∧ x.dim = dim ∧ x.count = count
    ∧ decodeAcc w.buf w.views x = some data

theorem accIs_mono {w w' : W} {i : Nat} {comp : Comp} {dim count : Nat} {data : List Nat}
    (h : AccIs w i comp dim count data) (e : Ext w w') : AccIs w' i comp dim count data := by
  obtain ⟨x, h1, h2, h3, h4, h5⟩ := h
  obtain ⟨b, vs, as, e1, e2, e3⟩ := e
  refine ⟨x, ?_, h2, h3, h4, ?_⟩
  · rw [e3, getElem?_grow as h1]
  · rw [e1, e2]; exact decodeAcc_append _ _ _ _ _ _ h5

theorem accIs_writeVec (w : W) (hw : Inv w) (c : Comp) (d : Nat) (v : List (List Nat)) (hc : c = .f32 ∨ c = .u8)
    (hv : VecsOK c d v) : AccIs (writeVec w c d v) w.accessors.length c d v.length v.flatten := by
  obtain ⟨h1, h2⟩ := gltf_decode_image w hw c d v ⟨hc, hv⟩ []
  exact ⟨_, h1, rfl, rfl, rfl, h2⟩

theorem accIs_writeIndices (w : W) (hw : Inv w) (idx : List Nat) (n : Nat) (h : (∀ i ∈ idx, i < n) ∧ n ≤ 2 ^ 32) :
    AccIs (writeIndices w idx n) w.accessors.length (indexComp n) 1 idx.length idx := by
  obtain ⟨h1, h2⟩ := gltf_decode_indices w hw idx n h []
  exact ⟨_, h1, rfl, rfl, rfl, h2⟩

/-- every entry of the attribute map is the accessor of one written attribute of `m`, under that attribute's glTF name,
    with its component type / dimension / vertex count, decoding to exactly its stored values -/
def AttrsData (w : W) (m : PMesh) (attrs : List (String × Nat)) : Prop :=
  ∀ ka ∈ attrs, ∃ a ∈ m.written, ka.1 = gltfAttrName a.name
    ∧ AccIs w ka.2 (attrComp a.name) a.dim a.vals.length a.vals.flatten

/-- the written attributes of `m` have pairwise different glTF names (no two attributes compete for one key of the
    `primitive.attributes` object) -/
def KeysOK (m : PMesh) : Prop := List.Pairwise (fun a b : Attr => gltfAttrName a.name ≠ gltfAttrName b.name) m.written

/-- every written attribute has an entry under its glTF name -/
def Complete (m : PMesh) (attrs : List (String × Nat)) : Prop :=
  KeysOK m → (∀ a ∈ m.written, ∃ i, (gltfAttrName a.name, i) ∈ attrs) ∧ attrs.length = m.written.length

def MeshData (w : W) (m : PMesh) (attrs : List (String × Nat)) (idx : Nat) : Prop :=
  AttrsData w m attrs ∧ ((m.written ≠ [] → attrs ≠ []) ∧ Complete m attrs)
  ∧ AccIs w idx (indexComp m.attrLen) 1 m.indices.length m.indices

theorem attrsData_mono {w w' : W} {m : PMesh} {attrs : List (String × Nat)} (h : AttrsData w m attrs) (e : Ext w w') :
    AttrsData w' m attrs := by
  intro ka hka
  obtain ⟨a, ha, hk, hacc⟩ := h ka hka
  exact ⟨a, ha, hk, accIs_mono hacc e⟩

theorem meshData_mono {w w' : W} {m : PMesh} {attrs : List (String × Nat)} {idx : Nat} (h : MeshData w m attrs idx)
    (e : Ext w w') : MeshData w' m attrs idx := ⟨attrsData_mono h.1 e, h.2.1, accIs_mono h.2.2 e⟩

theorem writeAttrs_data (m : PMesh) (w : W) (acc : List (String × Nat)) (l : List Attr) (hw : Inv w)
    (hl : ∀ a ∈ l, a ∈ m.written ∧ VecsOK (attrComp a.name) a.dim a.vals) (hacc : AttrsData w m acc) :
    AttrsData (writeAttrs w acc l).1 m (writeAttrs w acc l).2
    ∧ ((l ≠ [] ∨ acc ≠ []) → (writeAttrs w acc l).2 ≠ []) := by
  induction l generalizing w acc with
  | nil => exact ⟨hacc, fun h => by rcases h with h | h; exact absurd rfl h; exact h⟩
  | cons a r ih =>
    simp only [writeAttrs]
    have hv := (hl a (by simp)).2
    have hw1 := inv_writeVec w hw _ _ _ (attrComp_cases a.name) hv
    have hacc1 : AttrsData (writeVec w (attrComp a.name) a.dim a.vals) m (mapInsert acc (gltfAttrName a.name) w.accessors.length) := by
      intro ka hka
      rcases mem_mapInsert _ _ _ _ hka with h | h
      · obtain ⟨a', ha', hk, hacc'⟩ := hacc ka h
        exact ⟨a', ha', hk, accIs_mono hacc' (grows_writeVec _ _ _ _).ext⟩
      · subst h
        exact ⟨a, (hl a (by simp)).1, rfl, accIs_writeVec w hw _ _ _ (attrComp_cases a.name) hv⟩
    obtain ⟨h1, h3⟩ := ih _ _ hw1 (fun x hx => hl x (by simp [hx])) hacc1
    exact ⟨h1, fun _ => h3 (Or.inr (mapInsert_ne_nil _ _ _))⟩

theorem writeAttrs_complete (w : W) (acc : List (String × Nat)) (l : List Attr)
    (hl : List.Pairwise (fun a b : Attr => gltfAttrName a.name ≠ gltfAttrName b.name) l) :
    (∀ ka ∈ acc, (∀ a ∈ l, gltfAttrName a.name ≠ ka.1) → ka ∈ (writeAttrs w acc l).2)
    ∧ ∀ a ∈ l, ∃ i, (gltfAttrName a.name, i) ∈ (writeAttrs w acc l).2 := by
  induction l generalizing w acc with
  | nil => exact ⟨fun ka hka _ => hka, by simp⟩
  | cons a r ih =>
    simp only [writeAttrs]
    rw [List.pairwise_cons] at hl
    obtain ⟨h1, h2⟩ := ih (writeVec w (attrComp a.name) a.dim a.vals) (mapInsert acc (gltfAttrName a.name) w.accessors.length) hl.2
    refine ⟨?_, ?_⟩
    · intro ka hka hne
      apply h1 ka
      · unfold mapInsert
        simp only [List.mem_append, List.mem_filter, List.mem_singleton]
        exact Or.inl ⟨hka, by simpa using fun h => hne a (by simp) h.symm⟩
      · intro x hx; exact hne x (by simp [hx])
    · intro x hx
      simp only [List.mem_cons] at hx
      rcases hx with rfl | hx
      · refine ⟨w.accessors.length, h1 _ ?_ ?_⟩
        · unfold mapInsert; simp
        · intro y hy; exact fun h => hl.1 y hy h.symm
      · exact h2 x hx

theorem writeAttrs_length (w : W) (acc : List (String × Nat)) (l : List Attr)
    (hl : List.Pairwise (fun a b : Attr => gltfAttrName a.name ≠ gltfAttrName b.name) l)
    (hacc : ∀ ka ∈ acc, ∀ a ∈ l, gltfAttrName a.name ≠ ka.1) : (writeAttrs w acc l).2.length = acc.length + l.length := by
  induction l generalizing w acc with
  | nil => simp [writeAttrs]
  | cons a r ih =>
    simp only [writeAttrs]
    rw [List.pairwise_cons] at hl
    have hfresh : mapInsert acc (gltfAttrName a.name) w.accessors.length = acc ++ [(gltfAttrName a.name, w.accessors.length)] :=
      mapInsert_fresh _ _ _ (fun e he h => hacc e he a (by simp) h.symm)
    rw [ih _ _ hl.2 ?_, hfresh]
    · simp only [List.length_append, List.length_cons, List.length_nil]; omega
    · intro ka hka x hx
      rw [hfresh] at hka
      simp only [List.mem_append, List.mem_singleton] at hka
      rcases hka with hka | rfl
      · exact hacc ka hka x (by simp [hx])
      · exact fun h => hl.1 x hx h.symm

theorem writeMeshData_data (w : W) (id : Nat) (m : PMesh) (hw : Inv w) (hm : MeshWF m) :
    MeshData (writeMeshData w id m).1 m (writeMeshData w id m).2.1 (writeMeshData w id m).2.2 := by
  obtain ⟨h1, h3⟩ := writeAttrs_data m w [] m.written hw (fun a ha => ⟨ha, (hm.1 a ha).1⟩) (by intro ka hka; cases hka)
  have hw1 := inv_writeAttrs w [] m.written hw (fun a ha => (hm.1 a ha).1)
  have hidx := accIs_writeIndices _ hw1 m.indices m.attrLen hm.2
  -- `writeMeshData` ends by registering the pointer in `written`, which `Ext` does not look at
  have e2 : Ext (writeAttrs w [] m.written).1 (writeMeshData w id m).1 := (grows_writeIndices _ m.indices m.attrLen).ext
  have e3 : Ext (writeIndices (writeAttrs w [] m.written).1 m.indices m.attrLen) (writeMeshData w id m).1 := (Grows.refl _).ext
  exact ⟨attrsData_mono h1 e2, ⟨fun hne => h3 (Or.inl hne), fun hk => ⟨(writeAttrs_complete w [] m.written hk).2, by
      have := writeAttrs_length w [] m.written hk (by intro ka hka; cases hka)
      show (writeAttrs w [] m.written).2.length = m.written.length
      simpa using this⟩⟩, accIs_mono hidx e3⟩

theorem dupFree_pairwise {α} (f : α → String) : ∀ l : List α, dupFree (l.map f) = true →
    List.Pairwise (fun a b => f a ≠ f b) l
  | [], _ => List.Pairwise.nil
  | a :: l, h => by
    simp only [List.map_cons, dupFree, Bool.and_eq_true, Bool.not_eq_true'] at h
    rw [List.pairwise_cons]
    refine ⟨?_, dupFree_pairwise f l h.2⟩
    intro b hb hab
    have : (l.map f).contains (f a) = true := by
      simp only [List.contains_eq_mem, List.mem_map, decide_eq_true_eq]
      exact ⟨b, hb, hab.symm⟩
    rw [this] at h; cases h.1

/-- glTF mesh `gm` is the one written for heap mesh `id` with material index `mat`: one primitive whose attribute map
    and index accessor read back mesh `id`, whose mode encodes the topology -/
def MeshFor (s : Scene) (w : W) (gm : GMesh) (id : Nat) (mat : Option Nat) : Prop :=
  ∃ m p idx, s.meshHeap[id]? = some m ∧ gm.prims = [p] ∧ p.material = mat ∧ p.indices = some idx
    ∧ p.mode = modeOfTopo m.topo ∧ MeshData w m p.attrs idx
    ∧ m.written ≠ [] ∧ KeysOK m      -- both follow from acceptance (such meshes are skipped / rejected)

theorem meshFor_mono {s : Scene} {w w' : W} {gm : GMesh} {id : Nat} {mat : Option Nat} (h : MeshFor s w gm id mat)
    (e : Ext w w') : MeshFor s w' gm id mat := by
  obtain ⟨m, p, idx, h1, h2, h3, h4, h5, h6, h7⟩ := h
  exact ⟨m, p, idx, h1, h2, h3, h4, h5, meshData_mono h6 e, h7⟩

structure DInv (s : Scene) (w : W) : Prop where
  inv : Inv w
  /-- accessor reuse by mesh pointer returns the accessors written for THAT mesh -/
  written : ∀ e ∈ w.written, ∃ m, s.meshHeap[e.1]? = some m ∧ MeshData w m e.2.1 e.2.2
  meshes : ∀ gm ∈ w.meshes, ∃ id mat, MeshFor s w gm id mat
  /-- the mesh table points at the mesh written for its key -/
  meshIdx : ∀ e ∈ w.meshIdx, ∃ gm, w.meshes[e.2]? = some gm ∧ MeshFor s w gm e.1.1 e.1.2

/-- the tables whose entries `DInv` speaks about -/
def dPart (w : W) := (w.written, w.meshes, w.meshIdx)

/-- what a step needs to show to carry `DInv` along when it touches neither tracker nor mesh list -/
theorem dinv_keep {s : Scene} {w w' : W} (h : DInv s w) (hi : Inv w') (g : Grows w w') (ep : dPart w' = dPart w) : DInv s w' := by
  have e := g.ext
  simp only [dPart, Prod.mk.injEq] at ep
  obtain ⟨e1, e2, e3⟩ := ep
  refine ⟨hi, ?_, ?_, ?_⟩
  · intro x hx; rw [e1] at hx
    obtain ⟨m, h1, h2⟩ := h.written x hx
    exact ⟨m, h1, meshData_mono h2 e⟩
  · intro gm hgm; rw [e2] at hgm
    obtain ⟨id, mat, h1⟩ := h.meshes gm hgm
    exact ⟨id, mat, meshFor_mono h1 e⟩
  · intro x hx; rw [e3] at hx
    obtain ⟨gm, h1, h2⟩ := h.meshIdx x hx
    exact ⟨gm, by rw [e2]; exact h1, meshFor_mono h2 e⟩

/-- a step that leaves the buffer side and the mesh tables alone -/
theorem dinv_low {s : Scene} {w w' : W} (h : DInv s w) (e : lowPart w' = lowPart w) (g : Grows w w') (ep : dPart w' = dPart w) :
    DInv s w' := dinv_keep h (inv_congr h.inv e) g ep

/-- appending the mesh built from data that reads back mesh `id` -/
theorem dinv_appendMesh (s : Scene) (w w1 : W) (name : String) (id : Nat) (m : PMesh) (mat : Option Nat)
    (attrs : List (String × Nat)) (idx : Nat) (hw : DInv s w) (hheap : s.meshHeap[id]? = some m)
    (hne : m.written ≠ []) (hkeys : KeysOK m) (hi : Inv w1) (he : Ext w w1) (hd : MeshData w1 m attrs idx) (hme : w1.meshes = w.meshes)
    (hmi : w1.meshIdx = mapInsert w.meshIdx (id, mat) w.meshes.length)
    (hwr : ∀ e ∈ w1.written, ∃ m', s.meshHeap[e.1]? = some m' ∧ MeshData w1 m' e.2.1 e.2.2) :
    DInv s { w1 with meshes := w1.meshes ++ [mkMesh name attrs idx mat m] }
    ∧ ∃ gm, ({ w1 with meshes := w1.meshes ++ [mkMesh name attrs idx mat m] } : W).meshes[w.meshes.length]? = some gm
        ∧ MeshFor s { w1 with meshes := w1.meshes ++ [mkMesh name attrs idx mat m] } gm id mat := by
  have hnew : MeshFor s { w1 with meshes := w1.meshes ++ [mkMesh name attrs idx mat m] } (mkMesh name attrs idx mat m) id mat :=
    ⟨m, _, idx, hheap, rfl, rfl, rfl, rfl, hd, hne, hkeys⟩
  refine ⟨⟨inv_congr hi rfl, hwr, ?_, ?_⟩, ⟨_, by simp [hme], hnew⟩⟩
  · intro gm hgm
    simp only [List.mem_append, List.mem_singleton] at hgm
    rcases hgm with hgm | rfl
    · rw [hme] at hgm
      obtain ⟨id', mat', h1⟩ := hw.meshes gm hgm
      exact ⟨id', mat', meshFor_mono h1 he⟩
    · exact ⟨id, mat, hnew⟩
  · intro e he'
    simp only [hmi] at he'
    rcases mem_mapInsert _ _ _ _ he' with h | h
    · obtain ⟨gm, h1, h2⟩ := hw.meshIdx e h
      exact ⟨gm, by simp only [hme]; exact getElem?_grow _ h1, meshFor_mono h2 he⟩
    · subst h
      exact ⟨_, by simp [hme], hnew⟩

theorem dinv_addMesh (s : Scene) (w : W) (name : String) (id : Nat) (m : PMesh) (mat : Option Nat) (hw : DInv s w)
    (hheap : s.meshHeap[id]? = some m) (hm : MeshWF m) (hne : m.written ≠ []) (hkeys : KeysOK m) :
    DInv s (addMesh w name id m mat).1
    ∧ ∀ mi, (addMesh w name id m mat).2 = some mi →
        ∃ gm, (addMesh w name id m mat).1.meshes[mi]? = some gm ∧ MeshFor s (addMesh w name id m mat).1 gm id mat := by
  rcases addMesh_ok w name id m mat with ⟨_, e⟩ | ⟨_, i, hi, e⟩ | ⟨_, _, d, hd, k, e⟩ <;> rw [e]
  · exact ⟨hw, by simp⟩
  · refine ⟨hw, fun mi h => ?_⟩
    injection h with h; subst h
    exact hw.meshIdx _ (lookup_mem _ _ _ hi)
  · have hi0 : Inv (withMeshKey w id mat) := inv_congr hw.inv rfl
    -- the data step keeps `Inv` and only appends to the buffer side; its accessors read back the mesh, and so does every
    -- entry of `written`, the one it may have added included
    have hd' : Inv d.1 ∧ Ext w d.1 ∧ MeshData d.1 m d.2.1 d.2.2
        ∧ ∀ e ∈ d.1.written, ∃ m', s.meshHeap[e.1]? = some m' ∧ MeshData d.1 m' e.2.1 e.2.2 := by
      rcases hd with ⟨attrs, idx, hl, rfl⟩ | ⟨_, rfl⟩
      · obtain ⟨m', h1, h2⟩ := hw.written _ (lookup_mem _ _ _ hl)
        have hmm : m' = m := by rw [hheap] at h1; injection h1 with h1; exact h1.symm
        subst hmm
        exact ⟨hi0, (Grows.refl w).ext, h2, hw.written⟩
      · have hdat := writeMeshData_data _ id m hi0 hm
        -- `Ext` does not look at the trackers, which is all that differs at either end
        have he : Ext w (writeMeshData (withMeshKey w id mat) id m).1 :=
          ((grows_writeAttrs _ [] m.written).trans (grows_writeIndices _ m.indices m.attrLen)).ext
        refine ⟨inv_writeMeshData _ id m hi0 hm, he, hdat, fun x hx => ?_⟩
        have hx' : x ∈ mapInsert (writeAttrs (withMeshKey w id mat) [] m.written).1.written
            id _ := hx
        rw [show (writeAttrs (withMeshKey w id mat) [] m.written).1.written = w.written
          from (congrArg W.written (noLow_writeAttrs _ [] m.written) :)] at hx'
        rcases mem_mapInsert _ _ _ _ hx' with h | h
        · obtain ⟨m', h1, h2⟩ := hw.written x h
          exact ⟨m', h1, meshData_mono h2 he⟩
        · subst h; exact ⟨m, hheap, hdat⟩
    obtain ⟨hi1, he, hdat, hwr⟩ := hd'
    obtain ⟨k1, k2⟩ := dinv_appendMesh s w d.1 name id m mat d.2.1 d.2.2 hw hheap hne hkeys hi1 he hdat
      (congrArg W.meshes k :) (congrArg W.meshIdx k :) hwr
    exact ⟨k1, fun mi h => by injection h with h; subst h; exact k2⟩

theorem dinv_addModel (s : Scene) (w w' : W) (md : Model) (hs : SceneOK s) (hmd : md ∈ s.models) (hw : DInv s w)
    (h : addModel s w md = .ok w') : DInv s w' := by
  obtain ⟨id, m, _, hm, ⟨_, rfl⟩ | ⟨hsk, hdup, r, mi, hr, _, rfl⟩⟩ := addModel_ok h
  · exact hw
  · have k := noMat_addModelMaterial hr
    have h1 : DInv s r.1 := dinv_low hw (congrArg lowPart k :) (grows_addModelMaterial hr) (congrArg dPart k :)
    obtain ⟨h2, _⟩ := dinv_addMesh s r.1 md.name id m r.2 h1 hm (hs.1 m (List.mem_of_getElem? hm)) (skipped_false hsk).2
      (dupFree_pairwise _ _ hdup)
    have h3 : DInv s (addInstances (addMesh r.1 md.name id m r.2).1 md.instances).1 :=
      dinv_keep h2 (inv_addInstances _ md.instances h2.inv (hs.2 md hmd)) (grows_addInstances _ md.instances)
        (congrArg dPart (noInst_addInstances _ md.instances) :)
    exact dinv_low h3 rfl (grows_withNode _ _ _) rfl

theorem dinv_empty (s : Scene) : DInv s {} := ⟨inv_empty, by simp, by simp, by simp⟩

theorem scene_dinv (s : Scene) (w : W) (hs : SceneOK s) (h : writeScene s = .ok w) : DInv s w :=
  writeScene_ind (dinv_empty s) (fun w w' md hmd hw h => dinv_addModel s w w' md hs hmd hw h)
    (fun w l hw => dinv_low hw rfl (grows_addLight w l) rfl) h

theorem mem_attrsOfDim {m : PMesh} {d : Nat} {a : Attr} (h : a ∈ attrsOfDim m d) : a ∈ m.attrs ∧ a.dim = d := by
  unfold attrsOfDim sortByName at h
  rw [List.mem_mergeSort, List.mem_filter] at h
  exact ⟨h.1, by simpa using h.2⟩

theorem written_dim {m : PMesh} {a : Attr} (h : a ∈ m.written) : 2 ≤ a.dim := by
  unfold PMesh.written at h
  simp only [List.mem_append] at h
  rcases h with (h | h) | h <;> have := (mem_attrsOfDim h).2 <;> omega

/-- PER-PRIMITIVE CONSISTENCY.  For every well-formed scene the writer accepts, every glTF mesh is the mesh written for
    some heap mesh `m` of the scene: it has one primitive; ALL its attribute accessors exist, are vectors, and have
    count = `m`'s vertex count; its index accessor exists, is a SCALAR with count = `m`'s index count, and decoding it
    from the buffer returns exactly `m`'s indices — each of which is < the vertex count.
    (The last inequality and `count = attrLen` restate the `MeshWF` hypothesis; the CONTENT is accessor existence, dimension /
    component type / count of what was written, and `decodeAcc … = some m.indices`, i.e. nothing is truncated or misplaced.) -/
theorem gltf_prims_consistent (s : Scene) (w : W) (hs : SceneOK s) (h : writeScene s = .ok w) :
    ∀ gm ∈ w.meshes, ∃ (id : Nat) (m : PMesh) (p : Prim) (idx : Nat), s.meshHeap[id]? = some m ∧ gm.prims = [p] ∧ p.indices = some idx
      ∧ (∀ ka ∈ p.attrs, ∃ x, w.accessors[ka.2]? = some x ∧ x.count = m.attrLen ∧ 2 ≤ x.dim)
      ∧ ∃ ia, w.accessors[idx]? = some ia ∧ ia.dim = 1 ∧ (ia.comp = .u16 ∨ ia.comp = .u32) ∧ ia.count = m.indices.length
          ∧ decodeAcc w.buf w.views ia = some m.indices ∧ ∀ v ∈ m.indices, v < m.attrLen := by
  intro gm hgm
  obtain ⟨id, mat, m, p, idx, h1, h2, _, h4, _, hd, _, _⟩ := (scene_dinv s w hs h).meshes gm hgm
  have hwf : MeshWF m := hs.1 m (List.mem_of_getElem? h1)
  refine ⟨id, m, p, idx, h1, h2, h4, ?_, ?_⟩
  · intro ka hka
    obtain ⟨a, ha, _, x, hx, _, hdim, hcount, _⟩ := hd.1 ka hka
    exact ⟨x, hx, by rw [hcount]; exact (hwf.1 a ha).2, by rw [hdim]; exact written_dim ha⟩
  · obtain ⟨ia, hx, hcomp, hdim, hcount, hdec⟩ := hd.2.2
    refine ⟨ia, hx, hdim, ?_, hcount, hdec, hwf.2.1⟩
    rw [hcomp]; unfold indexComp; split <;> simp


/-- the same as a Bool on the document: the `primOK` conjunct of `valid` -/
theorem scene_prims_ok (s : Scene) (w : W) (hs : SceneOK s) (h : writeScene s = .ok w) :
    w.meshes.all (fun m => m.prims.all (primOK w.buf w.views w.accessors w.materials.length)) = true := by
  simp only [List.all_eq_true]
  intro gm hgm p hp
  have hrefs := (gltf_refs_in_range_partial s w h).meshes gm hgm p hp
  obtain ⟨id, mat, m, p', idx, h1, h2, _, h4, _, hd, hne', _⟩ := (scene_dinv s w hs h).meshes gm hgm
  have hwf : MeshWF m := hs.1 m (List.mem_of_getElem? h1)
  rw [h2] at hp; simp only [List.mem_singleton] at hp; subst hp
  have hcount : ∀ ka ∈ p.attrs, ∃ x, w.accessors[ka.2]? = some x ∧ x.count = m.attrLen ∧ 2 ≤ x.dim := by
    intro ka hka
    obtain ⟨a, ha, _, x, hx, _, hdim, hcount, _⟩ := hd.1 ka hka
    exact ⟨x, hx, by rw [hcount]; exact (hwf.1 a ha).2, by rw [hdim]; exact written_dim ha⟩
  obtain ⟨ia, hx, hcomp, hdim, hcnt, hdec⟩ := hd.2.2
  unfold primOK
  simp only [Bool.and_eq_true, List.all_eq_true]
  refine ⟨⟨?_, ?_⟩, ?_⟩
  · intro ka hka
    obtain ⟨x, hx, hc, hdm⟩ := hcount ka hka
    rw [hx]
    have hn : vertexCount w.accessors p = m.attrLen := by
      unfold vertexCount
      cases hpa : p.attrs with
      | nil => rw [hpa] at hka; cases hka
      | cons q r =>
        obtain ⟨y, hy, hyc, _⟩ := hcount q (by rw [hpa]; simp)
        simp only [hy, hyc]
    simp [hn, hc, hdm]
  · rw [h4]
    simp only [hx, hdec]
    have hn : ∀ v ∈ m.indices, v < vertexCount w.accessors p := by
      intro v hv
      unfold vertexCount
      cases hpa : p.attrs with
      | nil =>
        exact absurd hpa (hd.2.1.1 hne')
      | cons q r =>
        obtain ⟨y, hy, hyc, _⟩ := hcount q (by rw [hpa]; simp)
        simp only [hy, hyc]
        exact hwf.2.1 v hv
    have hc2 : (ia.comp == .u16 || ia.comp == .u32 || ia.comp == .u8) = true := by
      rw [hcomp]; unfold indexComp; split <;> simp
    simp only [hdim, hc2, beq_self_eq_true, Bool.true_and, List.all_eq_true, decide_eq_true_eq]
    exact hn
  · cases hm : p.material with
    | none => rfl
    | some k => simpa using hrefs.2.2 k hm

end C06
end PolyVerif
