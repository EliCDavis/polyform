/-
  C06 — the writer only appends.  One preorder on the whole writer state; every function of the writer is a step of it
  (the two low-level writes here, the scene-level functions in Props/C06Scene), and whatever is said of an entry of a table in
  terms of positions in other tables survives such a step.
-/
import PolyVerif.Model.Gltf

namespace PolyVerif
namespace C06
open Gltf

/-- every table of `w` is a prefix of the same table of `w'`, the light count and the declared extensions only grow, and the
    three association-list trackers lose no entry -/
structure Grows (w w' : W) : Prop where
  buf : w.buf <+: w'.buf
  views : w.views <+: w'.views
  accessors : w.accessors <+: w'.accessors
  meshes : w.meshes <+: w'.meshes
  nodes : w.nodes <+: w'.nodes
  scene : w.scene <+: w'.scene
  materials : w.materials <+: w'.materials
  textures : w.textures <+: w'.textures
  images : w.images <+: w'.images
  samplers : w.samplers <+: w'.samplers
  lightData : w.lightData <+: w'.lightData
  matIdx : w.matIdx <+: w'.matIdx
  lights : w.lights ≤ w'.lights
  extUsed : ∀ e ∈ w.extUsed, e ∈ w'.extUsed
  meshIdx : ∀ e ∈ w.meshIdx, e ∈ w'.meshIdx
  written : ∀ e ∈ w.written, e ∈ w'.written
  texIdx : ∀ e ∈ w.texIdx, e ∈ w'.texIdx

theorem Grows.refl (w : W) : Grows w w :=
  ⟨List.prefix_refl _, List.prefix_refl _, List.prefix_refl _, List.prefix_refl _, List.prefix_refl _, List.prefix_refl _,
   List.prefix_refl _, List.prefix_refl _, List.prefix_refl _, List.prefix_refl _, List.prefix_refl _, List.prefix_refl _,
   Nat.le_refl _, fun _ h => h, fun _ h => h, fun _ h => h, fun _ h => h⟩

theorem Grows.trans {a b c : W} (h : Grows a b) (k : Grows b c) : Grows a c :=
  ⟨h.buf.trans k.buf, h.views.trans k.views, h.accessors.trans k.accessors, h.meshes.trans k.meshes, h.nodes.trans k.nodes,
   h.scene.trans k.scene, h.materials.trans k.materials, h.textures.trans k.textures, h.images.trans k.images,
   h.samplers.trans k.samplers, h.lightData.trans k.lightData, h.matIdx.trans k.matIdx, Nat.le_trans h.lights k.lights,
   fun e he => k.extUsed e (h.extUsed e he), fun e he => k.meshIdx e (h.meshIdx e he),
   fun e he => k.written e (h.written e he), fun e he => k.texIdx e (h.texIdx e he)⟩

/-- an entry of a table is still there, at its position, after the table grew -/
theorem getElem?_of_prefix {α} {l l' : List α} (g : l <+: l') {i : Nat} {a : α} (h : l[i]? = some a) : l'[i]? = some a := by
  obtain ⟨t, rfl⟩ := g
  rw [List.getElem?_append_left (List.getElem?_eq_some_iff.mp h).1]; exact h

/- A step that is a structure update of `w` is proved from `Grows.refl w` by the same update syntax: the fields it does not
   mention are accepted because `{ w with … }.f` unfolds to `w.f`. -/

theorem grows_writeVec (w : W) (c : Comp) (d : Nat) (v : List (List Nat)) : Grows w (writeVec w c d v) :=
  { Grows.refl w with buf := List.prefix_append _ _, accessors := List.prefix_append _ _, views := List.prefix_append _ _ }

theorem grows_writeIndices (w : W) (i : List Nat) (n : Nat) : Grows w (writeIndices w i n) :=
  { Grows.refl w with buf := List.prefix_append _ _, accessors := List.prefix_append _ _, views := List.prefix_append _ _ }

end C06
end PolyVerif
