/-
  C06 — scene level, tables: every material → texture → image / sampler index is in range (`TRefs`), and with
  `MRefs` of Props/C06Scene the complete `gltf_refs_in_range`.
-/
import PolyVerif.Props.C06Scene

namespace PolyVerif
namespace C06
open Gltf

structure TRefs (w : W) : Prop where
  tex : ∀ t ∈ w.textures, textureOK w.images.length w.samplers.length t = true
  texIdx : ∀ p ∈ w.texIdx, p.2 < w.textures.length
  mats : ∀ g ∈ w.materials, materialOK w.textures.length g = true

theorem textureOK_mono {a b a' b' : Nat} {t : GTexture} (h : textureOK a b t = true) (ha : a ≤ a') (hb : b ≤ b') :
    textureOK a' b' t = true := by
  unfold textureOK at h ⊢
  simp only [Bool.and_eq_true] at h ⊢
  refine ⟨?_, ?_⟩
  · have h1 := h.1
    split <;> simp_all <;> omega
  · have h2 := h.2
    split <;> simp_all <;> omega

theorem materialOK_mono {n n' : Nat} {g : GMaterial} (h : materialOK n g = true) (hn : n ≤ n') : materialOK n' g = true := by
  unfold materialOK at h ⊢
  simp only [List.all_eq_true, texInfoOK, decide_eq_true_eq] at h ⊢
  intro t ht; have := h t ht; omega

/-- the texture-side part of the state -/
def texPart (w : W) := (w.textures, w.images, w.samplers, w.texIdx, w.materials)

theorem trefs_of_texPart {w w' : W} (h : TRefs w) (e : texPart w' = texPart w) : TRefs w' := by
  simp only [texPart, Prod.mk.injEq] at e
  obtain ⟨e1, e2, e3, e4, e5⟩ := e
  exact ⟨by rw [e1, e2, e3]; exact h.tex, by rw [e4, e1]; exact h.texIdx, by rw [e5, e1]; exact h.mats⟩

/-- `AddTexture`: tables stay in range, the returned texture index is valid, materials untouched -/
theorem addTexture_trefs (w : W) (id : Nat) (t : PTexture) (hw : TRefs w) :
    TRefs (addTexture w id t).1 ∧ (addTexture w id t).2.index < (addTexture w id t).1.textures.length
    ∧ (addTexture w id t).1.materials = w.materials := by
  have S := addTexture_spec w id t
  generalize addTexture w id t = r at S ⊢
  have hm : r.1.materials = w.materials := (congrArg W.materials S.frame :)
  have li := S.grows.images.length_le
  have ls := S.grows.samplers.length_le
  have lt := S.grows.textures.length_le
  rcases S.tables with ⟨hi, e2, e3, e1, e4⟩ | ⟨_, img, smp, hI, hS, hT, hX⟩
  · exact ⟨⟨by rw [e1, e2, e3]; exact hw.tex, by rw [e4, e1]; exact hw.texIdx, by rw [hm, e1]; exact hw.mats⟩,
      by rw [e1]; exact hw.texIdx _ (lookup_mem _ _ _ hi), hm⟩
  · -- the one texture that may be new points at the image and the sampler just looked up
    have hnew : textureOK r.1.images.length r.1.samplers.length { sampler := smp, source := some img } = true := by
      unfold textureOK
      simp only [Bool.and_eq_true, decide_eq_true_eq]
      refine ⟨hI.lt, ?_⟩
      cases smp with
      | none => rfl
      | some j => simpa using hS.lt
    refine ⟨⟨hT.forall (fun x hx => textureOK_mono (hw.tex x hx) li ls) hnew, fun p hp => ?_, fun g hg => ?_⟩, hT.lt, hm⟩
    · rcases hX with e | e <;> rw [e] at hp
      · exact Nat.lt_of_lt_of_le (hw.texIdx p hp) lt
      · rcases mem_mapInsert _ _ _ _ hp with h | h
        · exact Nat.lt_of_lt_of_le (hw.texIdx p h) lt
        · rw [h]; exact hT.lt
    · rw [hm] at hg; exact materialOK_mono (hw.mats g hg) lt

/-- the texture path keeps the tables in range; every returned texture index is valid -/
theorem trefs_texStep (th : Nat → Option PTexture) :
    TexStep th TRefs (fun w _ ti => ti.index < w.textures.length) (fun _ _ => True) where
  qmono := fun g q => Nat.lt_of_lt_of_le q g.textures.length_le
  umono := fun _ _ => trivial
  tex := fun {w id t} _ hw => ⟨(addTexture_trefs w id t hw).1, (addTexture_trefs w id t hw).2.1⟩
  used := fun _ hw => ⟨trefs_of_texPart hw rfl, trivial⟩

theorem mem_texInfos_build (m : PMaterial) (bct mrt : Option TexInfo) (exts : List GMatExt) (nt ot : Option TexInfo)
    (t : TexInfo) (h : t ∈ (buildMaterial m bct mrt exts nt ot).texInfos) :
    bct = some t ∨ mrt = some t ∨ nt = some t ∨ ot = some t ∨ ∃ e ∈ exts, ∃ kt ∈ e.texs, kt.2 = t := by
  unfold GMaterial.texInfos buildMaterial at h
  simp only [List.mem_append, Option.mem_toList, List.mem_flatMap, List.mem_map] at h
  rcases h with (((h | h) | h) | h) | h
  · exact Or.inl h
  · exact Or.inr (Or.inl h)
  · refine Or.inr (Or.inr (Or.inl ?_))
    cases nt <;> cases hm : m.normalTex <;> simp_all
  · refine Or.inr (Or.inr (Or.inr (Or.inl ?_)))
    cases ot <;> cases hm : m.occlusionTex <;> simp_all
  · obtain ⟨e, he, kt, hkt, rfl⟩ := h
    exact Or.inr (Or.inr (Or.inr (Or.inr ⟨e, he, kt, hkt, rfl⟩)))

/-- `AddMaterial`: every texture reference of the appended material is valid; tables stay in range -/
theorem addMaterial_trefs (th : Nat → Option PTexture) (w : W) (m : PMaterial) (r : W × Nat)
    (h : addMaterial th w m = .ok r) (hw : TRefs w) : TRefs r.1 := by
  rcases addMaterial_ok h with ⟨_, _, _, _, rfl⟩ | ⟨_, r1, r2, r3, r4, r5, h1, h2, h3, h4, h5, _, _, rfl⟩
  · exact hw
  · obtain ⟨e1, a3, b3, c3, d3, e3⟩ := (trefs_texStep th).slots h1 h2 h3 h4 h5 hw
    refine ⟨e1.tex, e1.texIdx, ?_⟩
    intro g hg
    simp only [List.mem_append, List.mem_singleton] at hg
    rcases hg with hg | rfl
    · exact e1.mats g hg
    · unfold materialOK
      simp only [List.all_eq_true, texInfoOK, decide_eq_true_eq]
      intro t ht
      rcases mem_texInfos_build _ _ _ _ _ _ t ht with h | h | h | h | ⟨e, he, kt, hkt, rfl⟩
      · obtain ⟨_, _, q⟩ := a3.some h; exact q
      · obtain ⟨_, _, q⟩ := b3.some h; exact q
      · obtain ⟨_, _, q⟩ := d3.some h; exact q
      · obtain ⟨_, _, q⟩ := e3.some h; exact q
      · obtain ⟨_, _, _, _, _, hz⟩ := zip_mem_right c3 e he
        obtain ⟨_, _, _, q⟩ := zip_mem_right hz kt hkt
        exact q

theorem addModel_trefs (s : Scene) (w w' : W) (md : Model) (hw : TRefs w) (h : addModel s w md = .ok w') : TRefs w' := by
  obtain ⟨id, m, _, _, ⟨_, rfl⟩ | ⟨_, _, r, mi, hr, _, rfl⟩⟩ := addModel_ok h
  · exact hw
  · have h1 : TRefs r.1 := by
      rcases addModelMaterial_ok hr with ⟨_, rfl⟩ | ⟨_, _, r', _, _, h', rfl⟩
      · exact hw
      · exact addMaterial_trefs _ _ _ _ h' hw
    have h2 := trefs_of_texPart h1 (congrArg texPart (noMesh_addMesh r.1 md.name id m r.2) :)
    exact trefs_of_texPart (trefs_of_texPart h2 (congrArg texPart (noInst_addInstances _ md.instances) :)) rfl

theorem scene_trefs (s : Scene) (w : W) (h : writeScene s = .ok w) : TRefs w :=
  writeScene_ind ⟨by simp, by simp, by simp⟩ (fun w w' md _ hw h => addModel_trefs s w w' md hw h)
    (fun _ _ hw => trefs_of_texPart hw rfl) h

/-- INDEX REFERENCES, complete, for every scene the writer accepts (no well-formedness needed): primitive → attribute /
    index accessors and material; node → mesh, instancing accessors, light; scene → nodes; material → textures (base
    colour, metallic-roughness, normal, occlusion, extension textures); texture → image and sampler; and all dedup
    tables (material tracker, mesh table, written-mesh table, texture table) only hold valid indices.
    (accessor → bufferView and bufferView → buffer ranges: `scene_valid_low`.) -/
theorem gltf_refs_in_range (s : Scene) (w : W) (h : writeScene s = .ok w) : MRefs 0 w ∧ TRefs w :=
  ⟨gltf_refs_in_range_partial s w h, scene_trefs s w h⟩

/-- the same as Bools on the document: the node / scene / material / texture conjuncts of `valid` -/
theorem scene_refs_ok (s : Scene) (w : W) (h : writeScene s = .ok w) :
    w.scene.all (fun n => decide (n < w.nodes.length)) = true
    ∧ w.materials.all (materialOK w.textures.length) = true
    ∧ w.textures.all (textureOK w.images.length w.samplers.length) = true := by
  obtain ⟨hm, ht⟩ := gltf_refs_in_range s w h
  simp only [List.all_eq_true, decide_eq_true_eq]
  exact ⟨hm.scene, ht.mats, ht.tex⟩

end C06
end PolyVerif
