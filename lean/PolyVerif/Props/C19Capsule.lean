/-
  C19 — capsule (`sdf.Line`): the exact-distance clause, attained direction, and the Minkowski-sum
  reading of the rounded box and the rounded cylinder.

  `Props/C19.lean` proves for the capsule: sign set, zero set, 1-Lipschitz and the lower bound
  `|f p| ≤ dist(p, s)` for every surface point `s` (`line_exact_le`).  This file adds the other
  direction for EVERY point `p` (outside, on the surface, inside, on the axis): some surface point
  is at distance exactly `|f p|`, so `|f p|` IS the Euclidean distance from `p` to the surface, as
  the property states for the capsule.  The capsule is the rounded cone with equal radii, whose exactness is
  `roundedCone_exact_all`.

  The definitions are the regenerated `Gen.sdf.Line` / `Gen.geometry.Line3D.ClosestPointOnLine`.
-/
import PolyVerif.Props.C19ConeInterior
import PolyVerif.Props.C19Exact

namespace PolyVerif
namespace C19
open Gen Gen.sdf Gen.geometry

section
-- every lemma of this section takes `a b` and `hab : a ≠ b` first
variable (a b : P3) (hab : a ≠ b)
include hab

/-- the capsule over a non-degenerate segment is the rounded cone with both radii `r`: both are the least distance to a
    segment point, minus `r` -/
theorem line_eq_roundedCone (r : ℝ) : Line a b r = RoundedCone a b r r := by
  funext p
  rw [line_eq]
  apply le_antisymm
  · obtain ⟨t, h0, h1, ht⟩ := roundedCone_attained_all a b r r p
    rw [ht, sub_self, mul_zero, add_zero]
    exact sub_le_sub_right (closestPoint_minimises a b p hab t h0 h1) r
  · have := roundedCone_le_ball_all a b r r p _ (segParam_mem a b p).1 (segParam_mem a b p).2
    rwa [sub_self, mul_zero, add_zero, ← closestPoint_eq a b p hab] at this

/-- capsule: for every point `p` some surface point is at distance exactly `|f p|`
    (radius `r ≥ 0`, non-degenerate segment).  With `line_exact_le` this says `|f p|` is the
    Euclidean distance from `p` to the surface `{f = 0}`. -/
theorem line_exact_attained (r : ℝ) (hr : 0 ≤ r) (p : P3) :
    ∃ s : P3, Line a b r s = 0 ∧ p.Distance s = |Line a b r p| := by
  rw [line_eq_roundedCone a b hab r]; exact (roundedCone_exact_all a b r r hr hr p).2

end

/-- capsule: `|f p|` is exactly the distance to the surface — both directions in one statement -/
theorem line_exact (a b : P3) (hab : a ≠ b) (r : ℝ) (hr : 0 ≤ r) (p : P3) :
    (∀ s : P3, Line a b r s = 0 → |Line a b r p| ≤ p.Distance s) ∧
    (∃ s : P3, Line a b r s = 0 ∧ p.Distance s = |Line a b r p|) :=
  ⟨fun s hs => line_exact_le a b hab r p s hs, line_exact_attained a b hab r hr p⟩

/-! ### rounded box = Minkowski sum of the box with a ball -/

/-- the rounded box (`Box - r`) is negative exactly at the points closer than `r` to the closed box
    `{Box ≤ 0}`: it is the Minkowski sum of the box and the open ball of radius `r` -/
theorem roundedBox_neg_iff_minkowski (c b : P3) (hx : 0 ≤ b.x) (hy : 0 ≤ b.y) (hz : 0 ≤ b.z) (r : ℝ) (hr : 0 < r)
    (p : P3) : RoundedBox c b r p < 0 ↔ ∃ q : P3, Box c b q ≤ 0 ∧ p.Distance q < r := by
  rw [roundedBox_neg_iff]
  constructor
  · intro h
    rcases le_or_gt (Box c b p) 0 with hp | hp
    · refine ⟨p, hp, ?_⟩
      have : p.Distance p = 0 := V3.distance_eq_zero.mpr rfl
      rw [this]; exact hr
    · obtain ⟨s, hs0, hsd⟩ := box_exact_attained c b p hx hy hz
      refine ⟨s, hs0.le, ?_⟩
      rw [hsd, abs_of_pos hp]; exact h
  · rintro ⟨q, hq, hd⟩
    have hl := box_lipschitz c b p q
    have := (abs_le.mp hl).2
    linarith

/-! ### rounded cylinder = Minkowski sum of its core cylinder with a ball -/

/-- the core of the rounded cylinder: the solid cylinder of radius `2·ra − rb` about the vertical axis through
    `pos`, of half height `h` (the source doubles `radius`, as Quilez' formula does) -/
def InCoreCyl (pos : P3) (ra rb h : ℝ) (q : P3) : Prop :=
  Real.sqrt ((q.x - pos.x) ^ 2 + (q.z - pos.z) ^ 2) ≤ 2 * ra - rb ∧ |q.y - pos.y| ≤ h

theorem roundedCylinder_core_le (pos : P3) (ra rb h : ℝ) (q : P3) (hq : InCoreCyl pos ra rb h q) :
    RoundedCylinder pos ra rb h q ≤ -rb := by
  rw [roundedCylinder_eq]
  have hs : sup2 (cylD pos ra rb h q) ≤ 0 := by
    apply max_le
    · simp [cylD]; linarith [hq.1]
    · simp [cylD]; linarith [hq.2]
  rw [G2_of_nonpos hs]; linarith

/-- the rounded cylinder is negative exactly at the points closer than the rounding radius `rb` to its core
    cylinder: the shape is the Minkowski sum of the core with the open ball of radius `rb` -/
theorem roundedCylinder_neg_iff_minkowski (pos : P3) (ra rb h : ℝ) (hR : 0 ≤ 2 * ra - rb) (hh : 0 ≤ h) (hrb : 0 < rb)
    (p : P3) : RoundedCylinder pos ra rb h p < 0 ↔ ∃ q : P3, InCoreCyl pos ra rb h q ∧ p.Distance q < rb := by
  have core : ∀ q, sup2 (cylD pos ra rb h q) ≤ 0 → InCoreCyl pos ra rb h q := fun q hs => by
    have h0 : cylD pos ra rb h q 0 ≤ 0 := (le_max_left _ _).trans hs
    have h1 : cylD pos ra rb h q 1 ≤ 0 := (le_max_right _ _).trans hs
    simp only [cylD] at h0 h1
    exact ⟨by simp at h0; linarith, by simp at h1; linarith⟩
  constructor
  · intro hneg
    rcases le_or_gt (sup2 (cylD pos ra rb h p)) 0 with hs | hs
    · exact ⟨p, core p hs, by rw [V3.distance_self]; exact hrb⟩
    · -- the nearest point of the core: the level set `G2 = 0` is reached at distance `G2 (cylD p)`
      obtain ⟨s, hs0, hd⟩ := roundedCylinder_level_attained pos ra rb h hR hh 0 le_rfl p
      rw [roundedCylinder_eq, zero_sub, sub_eq_neg_self, G2_eq_zero_iff] at hs0
      refine ⟨s, core s hs0.le, ?_⟩
      rw [roundedCylinder_eq] at hneg hd
      rw [hd, zero_sub, sub_neg_eq_add, sub_add_cancel, G2_of_nonneg hs.le, abs_of_nonneg (norm_nonneg _),
        ← G2_of_nonneg hs.le]
      linarith
  · rintro ⟨q, hq, hd⟩
    have h1 := (abs_le.mp (roundedCylinder_lipschitz pos ra rb h p q)).2
    have h2 := roundedCylinder_core_le pos ra rb h q hq
    linarith

/-! ### the projection onto the segment: variational inequality

The clamped projection characterised directly; the exactness of the capsule above goes through the rounded cone and does not
use these. -/

/-- squared distance from a point `c + v` to `x`, expanded around `c` -/
theorem distSq_expand (c v x : P3) :
    (c.Add v).DistanceSquared x = v.Dot v - 2 * v.Dot (x.Sub c) + (x.Sub c).Dot (x.Sub c) := by
  simp only [V3.DistanceSquared, V3.Add, V3.Sub, V3.Dot]; ring

theorem distSq_self_add (c v : P3) : (c.Add v).DistanceSquared c = v.Dot v := by
  simp only [V3.DistanceSquared, V3.Add, V3.Dot]; ring

section
-- every lemma of this section takes `a b` and `hab : a ≠ b` first
variable (a b : P3) (hab : a ≠ b)
include hab

/-- `(p - c)·(x - c) ≤ 0` for the returned closest point `c` and every segment point `x`
    (first-order optimality of the clamped projection) -/
theorem closestPoint_variational (p : P3) (s : ℝ) (hs0 : 0 ≤ s) (hs1 : s ≤ 1) :
    (p.Sub (segPoint a b (segParam a b p))).Dot ((segPoint a b s).Sub (segPoint a b (segParam a b p))) ≤ 0 := by
  have hN := V3.dot_self_pos hab
  have key : (p.Sub (segPoint a b (segParam a b p))).Dot ((segPoint a b s).Sub (segPoint a b (segParam a b p)))
      = (s - segParam a b p) * ((p.Sub a).Dot (b.Sub a) - segParam a b p * (b.Sub a).Dot (b.Sub a)) := by
    simp only [segPoint, V3.Add, V3.Sub, V3.Scale, V3.Dot]; ring
  rw [key]
  unfold segParam
  generalize (b.Sub a).Dot (b.Sub a) = N at hN ⊢
  obtain ⟨τ, hτ⟩ : ∃ τ, (p.Sub a).Dot (b.Sub a) = τ * N := ⟨_, (div_mul_cancel₀ _ hN.ne').symm⟩
  rw [hτ, mul_div_cancel_right₀ τ hN.ne']
  rcases le_total 1 τ with h1 | h1
  · rw [min_eq_left h1, max_eq_right zero_le_one]
    linarith [mul_nonneg (mul_nonneg hN.le (sub_nonneg.mpr hs1)) (sub_nonneg.mpr h1)]
  · rw [min_eq_right h1]
    rcases le_total τ 0 with h0 | h0
    · rw [max_eq_left h0]
      linarith [mul_nonneg (mul_nonneg hN.le hs0) (neg_nonneg.mpr h0)]
    · rw [max_eq_right h0]; linarith

/-- a point `q = c + v` whose offset `v` makes a non-acute angle with every direction into the
    segment has the same closest segment point distance as its distance to `c` -/
theorem line_at_offset (r : ℝ) (t : ℝ) (ht0 : 0 ≤ t) (ht1 : t ≤ 1) (v : P3)
    (hv : ∀ s, 0 ≤ s → s ≤ 1 → v.Dot ((segPoint a b s).Sub (segPoint a b t)) ≤ 0) :
    Line a b r ((segPoint a b t).Add v) = Real.sqrt (v.Dot v) - r := by
  rw [line_eq]
  congr 1
  set c := segPoint a b t with hc
  set q := c.Add v with hq
  apply le_antisymm
  · have h := closestPoint_minimises a b q hab t ht0 ht1
    rw [← hc] at h
    calc _ ≤ q.Distance c := h
      _ = Real.sqrt (v.Dot v) := by rw [V3.distance_eq_sqrt, hq, distSq_self_add]
  · rw [closestPoint_eq a b q hab, V3.distance_eq_sqrt]
    apply Real.sqrt_le_sqrt
    have hm := segParam_mem a b q
    have h := hv _ hm.1 hm.2
    rw [hq, distSq_expand]
    have h2 := V3.dot_self_nonneg ((segPoint a b (segParam a b (c.Add v))).Sub c)
    rw [← hq]
    rw [← hq] at h2
    linarith

end

/-! ### non-vacuity -/

example : InCoreCyl (⟨0, 0, 0⟩ : P3) 1 (1/2) 1 ⟨1, 0, 0⟩ := by
  constructor
  · rw [show ((1 : ℝ) - 0) ^ 2 + ((0 : ℝ) - 0) ^ 2 = 1 by norm_num, Real.sqrt_one]; norm_num
  · simp

example : ∃ s : P3, Line (⟨0, 0, 0⟩ : P3) ⟨1, 0, 0⟩ 1 s = 0 ∧
    (⟨1/2, 0, 0⟩ : P3).Distance s = |Line (⟨0, 0, 0⟩ : P3) ⟨1, 0, 0⟩ 1 ⟨1/2, 0, 0⟩| :=
  line_exact_attained _ _ (by intro h; have := congrArg V3.x h; simp at this) 1 (by norm_num) _

end C19
end PolyVerif
