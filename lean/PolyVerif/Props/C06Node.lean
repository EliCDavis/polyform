/-
  C06 — scene level: node-level dedup facts and `dedupOK`.
-/
import PolyVerif.Props.C06Carry
import PolyVerif.Props.C06Mat

namespace PolyVerif
namespace C06
open Gltf

/-- `mat` is the resolved material index of model `md`: none iff the model has no material; otherwise it points at a
    written material that shows the model's material, and the tracker has an entry for that index that is `equal` to it -/
def ModelMat (s : Scene) (w : W) (md : Model) (mat : Option Nat) : Prop :=
  match md.material with
  | none => mat = none
  | some k => ∃ pm idx g e, s.matHeap[k]? = some pm ∧ mat = some idx ∧ w.materials[idx]? = some g ∧ MatShown s w pm g
      ∧ e ∈ w.matIdx ∧ e.2 = idx ∧ PMaterial.equal (thOf s) e.1 pm = true

/-- tables only grow -/
structure DGrow (w w' : W) : Prop where
  meshes : ∃ ms, w'.meshes = w.meshes ++ ms
  meshIdx : ∀ e ∈ w.meshIdx, e ∈ w'.meshIdx
  tgrow : TGrow w w'
  mats : ∃ ms, w'.materials = w.materials ++ ms
  matIdx : ∃ mx, w'.matIdx = w.matIdx ++ mx

theorem Grows.dgrow {w w' : W} (g : Grows w w') : DGrow w w' :=
  ⟨g.meshes.elim fun ms h => ⟨ms, h.symm⟩, g.meshIdx, g.tgrow, g.materials.elim fun ms h => ⟨ms, h.symm⟩,
   g.matIdx.elim fun ms h => ⟨ms, h.symm⟩⟩

theorem modelMat_mono {s : Scene} {w w' : W} {md : Model} {mat : Option Nat} (h : ModelMat s w md mat) (g : DGrow w w') :
    ModelMat s w' md mat := by
  unfold ModelMat at h ⊢
  split
  · rename_i hm; rw [hm] at h; exact h
  · rename_i k hm
    rw [hm] at h
    obtain ⟨pm, idx, gm, e, h1, h2, h3, h4, h5, h6, h7⟩ := h
    obtain ⟨ms, hms⟩ := g.mats
    obtain ⟨mx, hmx⟩ := g.matIdx
    exact ⟨pm, idx, gm, e, h1, h2, by rw [hms]; exact getElem?_grow ms h3, matShown_mono h4 g.tgrow,
      by rw [hmx]; exact List.mem_append_left _ h5, h6, h7⟩

theorem addModelMaterial_shown (s : Scene) (w : W) (md : Model) (r : W × Option Nat)
    (h : addModelMaterial s w md = .ok r) (hw : MInv s w) (hT : MatT (thOf s) w) (hec : ExtCongr s) :
    MInv s r.1 ∧ MatT (thOf s) r.1 ∧ ModelMat s r.1 md r.2 := by
  rcases addModelMaterial_ok h with ⟨hm, rfl⟩ | ⟨k, pm, r', hm, hpm, h', rfl⟩
  · exact ⟨hw, hT, by unfold ModelMat; rw [hm]⟩
  · have hmem : pm ∈ s.matHeap := List.mem_of_getElem? hpm
    obtain ⟨a1, _, _, g, a4, a5⟩ := addMaterial_shown s w pm r' h' hw hec hmem
    obtain ⟨b1, b2, b3⟩ := addMaterial_dedup (thOf s) w pm r' h' hT
    have hentry : ∃ e ∈ r'.1.matIdx, e.2 = r'.2 ∧ PMaterial.equal (thOf s) e.1 pm = true := by
      by_cases hex : ∃ e ∈ w.matIdx, PMaterial.equal (thOf s) e.1 pm = true
      · obtain ⟨c1, _, e, c3, c4, _⟩ := b2 hex
        exact ⟨e, by rw [c1]; exact List.mem_of_getElem? c3, hT.idx _ e c3, c4⟩
      · have hall : ∀ e ∈ w.matIdx, PMaterial.equal (thOf s) e.1 pm = false := by
          intro e he
          cases hq : PMaterial.equal (thOf s) e.1 pm with
          | false => rfl
          | true => exact absurd ⟨e, he, hq⟩ hex
        obtain ⟨c1, c2, _⟩ := b3 hall
        exact ⟨(pm, w.matIdx.length), by rw [c1]; simp, c2.symm, (gltf_equal_equivalence (thOf s)).1 pm⟩
    obtain ⟨e, he1, he2, he3⟩ := hentry
    refine ⟨a1, b1, ?_⟩
    unfold ModelMat; rw [hm]
    exact ⟨pm, r'.2, g, e, hpm, rfl, a4, a5, he1, he2, he3⟩

def DCarries (s : Scene) (w : W) (md : Model) (n : GNode) : Prop :=
  ∃ id mi gm mat p, md.mesh = some id ∧ n.mesh = some mi ∧ w.meshes[mi]? = some gm ∧ gm.prims = [p] ∧ p.material = mat
    ∧ ((id, mat), mi) ∈ w.meshIdx ∧ ModelMat s w md mat

theorem dcarries_mono {s : Scene} {w w' : W} {md : Model} {n : GNode} (h : DCarries s w md n) (g : DGrow w w') :
    DCarries s w' md n := by
  obtain ⟨id, mi, gm, mat, p, h1, h2, h3, h4, h5, h6, h7⟩ := h
  obtain ⟨ms, hms⟩ := g.meshes
  exact ⟨id, mi, gm, mat, p, h1, h2, by rw [hms]; exact getElem?_grow ms h3, h4, h5, g.meshIdx _ h6, modelMat_mono h7 g⟩

structure BInv (s : Scene) (w : W) : Prop where
  dinv : DInv s w
  minv : MInv s w
  matT : MatT (thOf s) w
  meshT : MeshT w

/-- a step that leaves the texture side, the materials and the tracker alone -/
theorem minv_of_parts {s : Scene} {w w' : W} (h : MInv s w) (e : texPart w' = texPart w) (em : w'.matIdx = w.matIdx) : MInv s w' := by
  have ht := tdata_of_texPart h.tdata e
  simp only [texPart, Prod.mk.injEq] at e
  obtain ⟨e1, e2, e3, _, hmat⟩ := e
  refine ⟨ht, ?_, by rw [em]; exact h.heap⟩
  intro x hx
  rw [em] at hx
  obtain ⟨gm, h1, h2⟩ := h.shown x hx
  exact ⟨gm, by rw [hmat]; exact h1, matShown_mono h2 ⟨[], [], [], by simp [e1], by simp [e2], by simp [e3]⟩⟩

/-- one iteration of the model loop keeps the dedup invariants, and the node appended for a visible model references the
    mesh registered for (its mesh, its resolved material) -/
theorem addModel_dnode (s : Scene) (w w' : W) (md : Model) (hs : SceneOK s) (hec : ExtCongr s) (hmd : md ∈ s.models)
    (hw : BInv s w) (h : addModel s w md = .ok w') :
    BInv s w' ∧ (Vis s md = true → ∃ n, w'.nodes = w.nodes ++ [n] ∧ DCarries s w' md n) := by
  have hdinv' := dinv_addModel s w w' md hs hmd hw.dinv h
  obtain ⟨id, m, hid, hm, ⟨hsk, rfl⟩ | ⟨hsk, hdup, r, mi, hr, hmi, rfl⟩⟩ := addModel_ok h
  · exact ⟨hw, fun hv => by simp [Vis, Scene.meshOf, hid, hm, hsk] at hv⟩
  · have k := noMat_addModelMaterial hr
    obtain ⟨m1, t1, mm1⟩ := addModelMaterial_shown s w md r hr hw.minv hw.matT hec
    have d1 : DInv s r.1 := dinv_low hw.dinv (congrArg lowPart k :) (grows_addModelMaterial hr) (congrArg dPart k :)
    have x1 : MeshT r.1 := meshT_of_meshPart hw.meshT (congrArg meshPart k :)
    -- AddMesh
    obtain ⟨d2, hmf⟩ := dinv_addMesh s r.1 md.name id m r.2 d1 hm (hs.1 m (List.mem_of_getElem? hm)) (skipped_false hsk).2
      (dupFree_pairwise _ _ hdup)
    obtain ⟨x2, xa, xb, _⟩ := addMesh_dedup r.1 md.name id m r.2 x1 (skipped_false hsk).1
    have k2 := noMesh_addMesh r.1 md.name id m r.2
    obtain ⟨gm, hgm, mm, p, idx, _, f2, f3, _, _, _⟩ := hmf mi hmi
    have hentry : ((id, r.2), mi) ∈ (addMesh r.1 md.name id m r.2).1.meshIdx := by
      by_cases hex : ∃ i, ((id, r.2), i) ∈ r.1.meshIdx
      · obtain ⟨i, hi⟩ := hex
        have := xa i hi
        rw [this] at hmi ⊢
        injection hmi with hmi; subst hmi
        exact hi
      · have hno : ∀ i, ((id, r.2), i) ∉ r.1.meshIdx := fun i hi => hex ⟨i, hi⟩
        obtain ⟨c1, c2, _⟩ := xb hno
        rw [c1] at hmi; injection hmi with hmi; subst hmi
        rw [c2]; simp
    have m2 : MInv s (addMesh r.1 md.name id m r.2).1 := minv_of_parts m1 (congrArg texPart k2 :) (congrArg W.matIdx k2 :)
    have t2 := matT_of_matPart t1 (congrArg matPart k2 :)
    have en2 : (addMesh r.1 md.name id m r.2).1.nodes = w.nodes :=
      (congrArg W.nodes k2 :).trans (congrArg W.nodes k :)
    have mm2 := modelMat_mono mm1 (grows_addMesh r.1 md.name id m r.2).dgrow
    -- instances and the node
    have k3 := noInst_addInstances (addMesh r.1 md.name id m r.2).1 md.instances
    have g3 := grows_addInstances (addMesh r.1 md.name id m r.2).1 md.instances
    generalize addMesh r.1 md.name id m r.2 = A at x2 hgm hentry k3 g3 hdinv' m2 t2 en2 mm2 ⊢
    generalize addInstances A.1 md.instances = I at k3 g3 hdinv' ⊢
    have m3 : MInv s I.1 := minv_of_parts m2 (congrArg texPart k3 :) (congrArg W.matIdx k3 :)
    have t3 := matT_of_matPart t2 (congrArg matPart k3 :)
    have x3 := meshT_of_meshPart x2 (congrArg meshPart k3 :)
    refine ⟨⟨hdinv', minv_of_parts m3 rfl rfl, matT_of_matPart t3 rfl, meshT_of_meshPart x3 rfl⟩, fun _ =>
      ⟨modelNode md mi I.2, ?_, dcarries_mono ⟨id, mi, gm, r.2, p, hid, rfl, hgm, f2, f3, hentry, mm2⟩
        (g3.trans (grows_withNode _ _ _)).dgrow⟩⟩
    have en3 : I.1.nodes = A.1.nodes := (congrArg W.nodes k3 :)
    show I.1.nodes ++ _ = _
    rw [en3, en2]

/-- after the model loop: the dedup invariants, and one node per visible model referencing its registered mesh -/
theorem addModels_dnode (s : Scene) (hs : SceneOK s) (hec : ExtCongr s) {w0 : W} (hb : BInv s {})
    (h : addModels s {} s.models = .ok w0) : BInv s w0 ∧ Zip (DCarries s w0) s.visible w0.nodes :=
  addModels_zip (P := BInv s) (C := DCarries s) (fun _ _ _ _ g c => dcarries_mono c g.dgrow)
    (fun w w' md hmd hb h => addModel_dnode s w w' md hs hec hmd hb h) s.models {} w0 [] (fun _ h => h) hb trivial h

theorem binv_addLights (s : Scene) (ls : List (List Nat)) (w : W) (hw : BInv s w) : BInv s (ls.foldl addLight w) :=
  addLights_ind (P := BInv s) (fun w l hw => ⟨dinv_low hw.dinv rfl (grows_addLight w l) rfl, minv_of_parts hw.minv rfl rfl,
    matT_of_matPart hw.matT rfl, meshT_of_meshPart hw.meshT rfl⟩) ls w hw

theorem matT_unique {th : Nat → Option PTexture} {w : W} (hT : MatT th w) {e1 e2 : PMaterial × Nat} (h1 : e1 ∈ w.matIdx)
    (h2 : e2 ∈ w.matIdx) (heq : PMaterial.equal th e1.1 e2.1 = true) : e1.2 = e2.2 := by
  obtain ⟨i, hi⟩ := List.mem_iff_getElem?.mp h1
  obtain ⟨j, hj⟩ := List.mem_iff_getElem?.mp h2
  have ei := hT.idx i e1 hi
  have ej := hT.idx j e2 hj
  obtain ⟨hil, hie⟩ := List.getElem?_eq_some_iff.mp hi
  obtain ⟨hjl, hje⟩ := List.getElem?_eq_some_iff.mp hj
  have hp := List.pairwise_iff_getElem.mp hT.distinct
  rcases Nat.lt_trichotomy i j with hlt | heq' | hgt
  · have := hp i j hil hjl hlt
    rw [hie, hje, heq] at this; cases this
  · rw [ei, ej, heq']
  · have := hp j i hjl hil hgt
    rw [hie, hje, (gltf_equal_equivalence th).2.1 _ _ heq] at this; cases this

theorem imp_bool {c z : Bool} (h : c = true → z = true) : (!c || z) = true := by
  cases c <;> simp_all

theorem matIdxOf_of (w : W) (n : GNode) (mi : Nat) (gm : GMesh) (p : Prim) (h1 : n.mesh = some mi)
    (h2 : w.meshes[mi]? = some gm) (h3 : gm.prims = [p]) : w.doc.matIdxOf n = p.material := by
  unfold Doc.matIdxOf
  have h2' : w.doc.meshes[mi]? = some gm := h2
  simp only [h1, h2', h3]

/-- DEDUP, the oracle predicate, for every well-formed scene the writer accepts: every model's primitive references a
    material that SHOWS the model's material (or none iff it has none); same mesh pointer + same material index ⇒ same
    glTF mesh; same glTF mesh ⇒ same mesh data; same material pointer, or `equal` materials ⇒ same material index; no
    duplicates in `textures` / `images` / `samplers` -/
theorem gltf_dedup_ok (s : Scene) (w : W) (hs : SceneOK s) (hec : ExtCongr s) (h : writeScene s = .ok w) :
    dedupOK s w.doc = true := by
  obtain ⟨w0', ln, N⟩ := scene_nodes s w hs h
  have hb0 : BInv s {} := ⟨dinv_empty s, ⟨⟨rfl, rfl, rfl, by simp⟩, by simp, by simp⟩, ⟨rfl, by simp, by simp⟩, ⟨by simp, by simp, by simp⟩⟩
  obtain ⟨hb, hz⟩ := addModels_dnode s hs hec hb0 N.models
  have hbf := binv_addLights s s.lights w0' hb
  have gf := (grows_addLights s.lights w0').dgrow
  rw [← N.lights] at hbf gf
  have hzW : Zip (DCarries s w) (s.models.filter (Vis s)) w0'.nodes := zip_imp (fun a b hab => dcarries_mono hab gf) hz
  have hlen : s.visible.length = w0'.nodes.length := by rw [visible_eq]; exact zip_length hzW
  have htake : w.doc.nodes.take s.visible.length = w0'.nodes := by
    show w.nodes.take _ = _
    rw [N.nodes, hlen, List.take_left' rfl]
  have hmem : ∀ p ∈ s.visible.zip (w.doc.nodes.take s.visible.length), DCarries s w p.1 p.2 := by
    rw [htake, visible_eq]; exact zip_mem_zip hzW
  unfold dedupOK
  simp only [Bool.and_eq_true, List.all_eq_true]
  refine ⟨⟨⟨⟨?_, ?_⟩, hbf.minv.tdata.texNodup⟩, hbf.minv.tdata.imgNodup⟩, hbf.minv.tdata.smpNodup⟩
  · intro p hp
    obtain ⟨id, mi, gm, mat, pr, a1, a2, a3, a4, a5, a6, a7⟩ := hmem p hp
    have hmi := matIdxOf_of w p.2 mi gm pr a2 a3 a4
    unfold ModelMat at a7
    split
    · rename_i hm; rw [hm] at a7; simp only at a7; rw [hmi, a5, a7]; rfl
    · rename_i k hm
      rw [hm] at a7; simp only at a7
      obtain ⟨pm, idx, g, e, b1, b2, b3, b4, _, _, _⟩ := a7
      have hmo : matOf s p.1 = some pm := by unfold matOf; rw [hm]; exact b1
      have hb3 : w.doc.materials[idx]? = some g := b3
      simp only [hmo, hmi, a5, b2, Option.bind_some, hb3]
      exact matCarried_of_shown s w pm g b4
  · intro p hp r hr
    obtain ⟨id, mi, gm, mat, pr, a1, a2, a3, a4, a5, a6, a7⟩ := hmem p hp
    obtain ⟨id', mi', gm', mat', pr', c1, c2, c3, c4, c5, c6, c7⟩ := hmem r hr
    have hmi := matIdxOf_of w p.2 mi gm pr a2 a3 a4
    have hmi' := matIdxOf_of w r.2 mi' gm' pr' c2 c3 c4
    rw [a5] at hmi; rw [c5] at hmi'
    -- same index for `equal` materials
    have hsame : ∀ a b, matOf s p.1 = some a → matOf s r.1 = some b → PMaterial.equal (thOf s) a b = true → mat = mat' := by
      intro a b ha hb hab
      unfold matOf at ha hb
      unfold ModelMat at a7 c7
      cases hpm : p.1.material with
      | none => rw [hpm] at ha; cases ha
      | some k =>
        cases hrm : r.1.material with
        | none => rw [hrm] at hb; cases hb
        | some k' =>
          rw [hpm] at a7 ha; rw [hrm] at c7 hb
          simp only at a7 c7 ha hb
          obtain ⟨pm, idx, g, e, b1, b2, _, _, b5, b6, b7⟩ := a7
          obtain ⟨pm', idx', g', e', d1, d2, _, _, d5, d6, d7⟩ := c7
          rw [ha] at b1; injection b1 with b1; subst b1
          rw [hb] at d1; injection d1 with d1; subst d1
          have eqv := gltf_equal_equivalence (thOf s)
          have hee : PMaterial.equal (thOf s) e.1 e'.1 = true :=
            eqv.2.2 _ _ _ (eqv.2.2 _ _ _ b7 hab) (eqv.2.1 _ _ d7)
          have := matT_unique hbf.matT b5 d5 hee
          rw [b2, d2, ← b6, ← d6, this]
    refine ⟨⟨⟨?_, ?_⟩, ?_⟩, ?_⟩
    · apply imp_bool
      intro hc
      simp only [Bool.and_eq_true, beq_iff_eq] at hc
      rw [hmi, hmi'] at hc
      rw [a1, c1] at hc
      obtain ⟨h1, h2⟩ := hc
      injection h1 with h1; subst h1; subst h2
      have := hbf.meshT.func _ _ _ a6 c6
      simp [a2, c2, this]
    · apply imp_bool
      intro hc
      simp only [beq_iff_eq] at hc
      rw [a2, c2] at hc; injection hc with hc; subst hc
      have := hbf.meshT.inj _ _ _ a6 c6
      simp only [Prod.mk.injEq] at this
      have hidd : p.1.mesh = r.1.mesh := by rw [a1, c1, this.1]
      simp [meshObs, Scene.meshOf, hidd]
    · apply imp_bool
      intro hc
      simp only [Bool.and_eq_true, beq_iff_eq] at hc
      rw [hmi, hmi']
      cases hpm : p.1.material with
      | none => rw [hpm] at hc; simp at hc
      | some k =>
        have hr' : r.1.material = some k := by rw [← hc.2, hpm]
        unfold ModelMat at a7
        rw [hpm] at a7; simp only at a7
        obtain ⟨pm, _, _, _, b1, _⟩ := a7
        have hmo : matOf s p.1 = some pm := by unfold matOf; rw [hpm]; exact b1
        have hmo' : matOf s r.1 = some pm := by unfold matOf; rw [hr']; exact b1
        simp [hsame pm pm hmo hmo' ((gltf_equal_equivalence (thOf s)).1 pm)]
    · split
      · rename_i a b ha hb
        apply imp_bool
        intro hab
        rw [hmi, hmi']
        simp [hsame a b ha hb hab]
      · rfl

end C06
end PolyVerif
