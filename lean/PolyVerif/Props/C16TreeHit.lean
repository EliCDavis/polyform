/-
  C16 — `rendering.Tree.Hit` (octree over the bounding boxes of arbitrary hittables, tree.go) = `HitList.Hit`,
  for scenes of real primitives (contract proved in `Props/C16Prims.lean`).
-/
import PolyVerif.Props.C16Mesh
import PolyVerif.Model.RenderTree

namespace PolyVerif
namespace C16
open PolyVerif.Tree PolyVerif.RPrims Gen.geometry Gen.rendering Scalar

theorem listHit_map {H G K : Type} (P : G → K → K → Option K) (g : H → G) (l : List H) (mn mx : K) :
    listHit (fun h => P (g h)) l mn mx = listHit P (l.map g) mn mx := by
  simp only [listHit, List.foldl_map]

/-- the elements `NewBVH` creates carry the item's index: looking the items up again gives the item list back … -/
theorem mkElems_lookup (objs : List (RPrim ℝ)) (F : RPrim ℝ → Prim ℝ) :
    (mkElems (objs.map F)).map (fun e => objs[e.id]?) = objs.map some := by
  apply List.ext_getElem?
  intro i
  simp only [mkElems, List.map_map, List.getElem?_map, List.length_map]
  by_cases hi : i < objs.length
  · simp [hi]
  · have : objs.length ≤ i := Nat.le_of_not_lt hi
    simp [this]

/-- … and each element's box is its item's box -/
theorem mkElems_item (objs : List (RPrim ℝ)) {e : Elem ℝ} (he : e ∈ mkElems (objs.map (fun p => Prim.box p.box))) :
    ∃ p ∈ objs, objs[e.id]? = some p ∧ e.box = p.box := by
  simp only [mkElems, List.mem_map] at he
  obtain ⟨⟨q, i⟩, hpi, rfl⟩ := he
  obtain ⟨k, hk⟩ := List.mem_iff_getElem?.mp hpi
  rw [List.getElem?_zip_eq_some, List.getElem?_map] at hk
  obtain ⟨hk1, hk2⟩ := hk
  have hik : i = k := by
    by_cases hlen : k < (List.map (fun p => Prim.box p.box) objs).length
    · rw [List.getElem?_range hlen] at hk2; exact (Option.some.inj hk2).symm
    · rw [List.getElem?_eq_none (by simpa using Nat.le_of_not_lt hlen)] at hk2; cases hk2
  subst hik
  obtain ⟨p, ho, rfl⟩ := Option.map_eq_some_iff.mp hk1
  exact ⟨p, List.mem_of_getElem? ho, ho, rfl⟩

/-- **`rendering.Tree.Hit` = `HitList.Hit`** on the octree `NewBVH` builds (any depth, automatic included) over the
    boxes of ANY list of spheres / XY-rectangles / triangles: same flag and distance as the hit list over the items
    in their original order, for a unit-direction ray and every non-empty range (`mn = 0` if there is a triangle). -/
theorem tree_built_hit_eq_hitlist (objs : List (RPrim ℝ)) (depth : Nat) (t : Oct Box (Elem ℝ))
    (hb : treeOf objs depth = some t) (ray : TemporalRay ℝ) (hu : ray.direction.LengthSquared = 1)
    (mn mx : ℝ) (hlt : mn < mx) (hok : ∀ p ∈ objs, p.Ok ray mn) :
    treeHit objs t ray mn mx = listHit (RPrim.hitDist ray) objs mn mx := by
  have h := build_covers (objs.map (fun p => Prim.box p.box)) depth (fun p hp => by
    obtain ⟨q, hq, rfl⟩ := List.mem_map.mp hp
    exact prim_box_wf' ray mn q (hok q hq))
  rw [show newOctreeWithDepth _ depth = some t from hb] at h
  obtain ⟨hc, hperm⟩ := h
  -- an element's `Hit` is its item's: the first-hit and the slab contract of the primitives carry over
  have hfirst : ∀ e ∈ mkElems (objs.map (fun p => Prim.box p.box)), ∀ hi, itemHit objs ray e mn hi =
      ((objs[e.id]?).bind (RPrim.first ray mn)).bind (fun d => if d ≤ hi then some d else none) := by
    intro e he hi
    obtain ⟨p, hp, ho, -⟩ := mkElems_item objs he
    simp only [itemHit, ho, Option.bind_some]
    exact prim_first_hit ray hu p mn hi (hok p hp)
  have hslab : ∀ e ∈ t.allElems, ∀ dist, itemHit objs ray e mn mx = some dist →
      intersectsRayInRange e.box ray.Ray.Origin ray.Ray.Direction mn mx = true := by
    intro e he dist hd
    obtain ⟨p, hp, ho, hbox⟩ := mkElems_item objs (hperm.mem_iff.mp he)
    simp only [itemHit, ho, Option.bind_some] at hd
    rw [hbox]
    exact (prim_hit_slab ray hu p mn mx dist (hok p hp) hd).2 hlt
  -- octree path = all elements, in any order = the elements in input order = the items in input order
  rw [treeHit, octree_hit_eq_hitlist t hc _ _ _ _ mn mx hslab (fun e he => hfirst e (hperm.mem_iff.mp he)),
    listHit_congr_mem _ _ mn t.allElems _ (fun e he => hfirst e (hperm.mem_iff.mp he)) (fun e => hperm.mem_iff) mx]
  have e1 : listHit (itemHit objs ray) (mkElems (objs.map (fun p => Prim.box p.box))) mn mx =
      listHit (fun (o : Option (RPrim ℝ)) lo hi => o.bind (fun p => p.hitDist ray lo hi))
        ((mkElems (objs.map (fun p => Prim.box p.box))).map (fun e => objs[e.id]?)) mn mx :=
    listHit_map (fun (o : Option (RPrim ℝ)) lo hi => o.bind (fun p => p.hitDist ray lo hi)) (fun (e : Elem ℝ) => objs[e.id]?) _ mn mx
  rw [e1, mkElems_lookup, ← listHit_map]
  rfl

end C16
end PolyVerif
