/-
  C12, artifact clause — "for nodes that are deterministic functions of their inputs, artifacts with identical content".

  The saved-graph model (`PolyVerif.Model.GraphIO`) is abstracted to the evaluation model of C11
  (`PolyVerif.Model.Nodes`): nodes are numbered by their position in the node list, parameters become
  `param` nodes carrying the value their payload denotes, struct nodes become `struct` nodes whose `Process()` is the
  processor REGISTERED FOR THE NODE TYPE (`Procs.proc ty` — a Lean function, i.e. deterministic by assumption, exactly
  the property's guard), wired through the type's ports in the type's port order, array order included, and never
  processed (`remembered = none`: a fresh application).  `reload_same_artifacts` combines `decode_encode` with C11's
  `read_fresh`.  Besides the property theorems: `editsOf`, `session_graph`, and a worked instance (`aEnv`, `aGraph`, `aSession`).
-/
import PolyVerif.Props.C12
import PolyVerif.Props.C11
import PolyVerif.Lemmas.GraphEval
import PolyVerif.Lemmas.GraphSim

namespace PolyVerif
namespace C12
open GraphIO

variable {V J W : Type}

/-- **Artifacts**, relative to a runtime state that holds the edited graph.  Hypotheses, all named:
    * `hE`, `hw`, `hc`, `hf` — those of `decode_encode`;
    * DETERMINISTIC PROCESSORS — `P : Procs V W` (functions of the wiring shape and the pulled values);
    * the ORIGINAL application — a C11 runtime state reached from a never-processed state `g0` by any history `ops`
      of C11 calls that keeps the graph ACYCLIC (`h0`, `hv`: the Go API has no cycle check and a cycle makes evaluation
      diverge) and that HOLDS the edited graph `g` under some numbering `σ` of its nodes (`hG`;
      `edit_simulation` below shows that the runtime reached by the editing operations does).
    Then loading the saved file into a fresh application succeeds, that application is never-processed and acyclic,
    and reading ANY node `n` of the graph — a producer in particular — returns in the reloaded application exactly what
    it returns in the original one: the from-scratch value of the edited graph. -/
theorem reload_same_artifacts {E : Env V J} (hE : EnvOK E) {cmp : Name → Name → Bool} {g : Graph V} (hw : WF E g)
    (hc : ∀ n ∈ g.nodes, ∀ T, E.types n.ty = some T → CmpOK cmp T n) (hf : FilePayloadLast E g)
    (P : Procs V W) {F : Nat} (g0 : Nodes.Graph W) (h0 : Nodes.Init F g0) (ops : List (Nodes.Op W))
    (hv : Nodes.Valid F g0 ops) (σ : Id → Nat) (hG : Holds P E σ (Nodes.run F g0 ops).1 g)
    (n : GraphIO.Node V) (hn : n ∈ g.nodes) :
    ∃ g', decode E Hdr.empty (encode E cmp g) = .ok g' ∧ Nodes.Init F (absGraph P E g') ∧
      Nodes.val (Nodes.step F (absGraph P E g') (.read (idxOf g' n.id))).1 (idxOf g' n.id) =
        Nodes.Spec F (absGraph P E g) (idxOf g n.id) ∧
      Nodes.val (Nodes.step F (Nodes.run F g0 ops).1 (.read (σ n.id))).1 (σ n.id) =
        Nodes.Spec F (absGraph P E g) (idxOf g n.id) := by
  obtain ⟨rank, hr⟩ := (C11.reachable_inv g0 h0 ops hv).wf
  have hr2 := absGraph_ranked hw hG hr
  have hinit : Nodes.Init F (absGraph P E g) := ⟨⟨_, hr2⟩, absGraph_unprocessed P E g⟩
  refine ⟨g.norm, decode_encode hE hw hc hf, ?_, ?_, ?_⟩
  · rw [absGraph_norm]; exact hinit
  · rw [absGraph_norm, idxOf_norm]
    exact C11.read_fresh (absGraph P E g) hinit [] trivial _
  · rw [C11.read_fresh g0 h0 ops hv (σ n.id)]
    exact spec_corr hw hG (absGraph_holds P E hw.nodup) hr hr2 n hn

/-! ### the editing session on the runtime (Lemmas/GraphSim: how each editing operation acts on C11's graph) -/

/-- the editing operations of a session, reads dropped -/
def editsOf : List (Ev J) → List (Op J)
  | [] => []
  | .edit op :: r => op :: editsOf r
  | .read _ :: r => editsOf r

/-- the edited graph of a session is the C12 `run` of its editing operations (reads do not edit) -/
theorem session_graph (P : Procs V W) (E : Env V J) (s : Sim V) (evs : List (Ev J)) :
    (simRun P E s evs).1.g = run E s.g (editsOf evs) := by
  induction evs generalizing s with
  | nil => rfl
  | cons ev evs ih =>
    simp only [simRun]
    rw [ih]
    cases ev with
    | read id =>
      have : (simStep P E s (.read id)).1 = s := by simp only [simStep]; split <;> rfl
      rw [this]; rfl
    | edit op =>
      have : (simStep P E s (.edit op)).1.g = stepTotal E s.g op := by
        simp only [simStep, stepTotal]
        split <;> simp_all
      rw [this]; rfl

/-- what the simulation invariant gives at the end of a session, from whatever state satisfies it at the start -/
theorem simulation_of_inv {E : Env V J} (hE : EnvOK E) {P : Procs V W} {F : Nat} {s : Sim V} {G : Nodes.Graph W}
    (evs : List (Ev J)) (hI : SimInv P E s G (createdTys P E s evs)) :
    let r := simRun P E s evs
    Holds P E r.1.σ (Nodes.run F G r.2).1 r.1.g ∧ r.1.g = run E s.g (editsOf evs) ∧ WF E r.1.g ∧
      (∀ n ∈ r.1.g.nodes, ∀ m ∈ r.1.g.nodes, r.1.σ n.id = r.1.σ m.id → n.id = m.id) :=
  have hI' := sim_run hE (F := F) evs hI
  ⟨hI'.holds, session_graph P E _ evs, hI'.wf, hI'.inj⟩

/-- **The simulation.**  For EVERY session — any interleaving of editing operations (failing ones included) and reads of
    arbitrary nodes — started in a new application: the C11 runtime graph reached by the C11 calls the session makes
    (`simRun … .2`: connect / disconnect / set value as `setInput`, `arrayAdd`, `arrayRemove`, `setParam`; reads as
    `read`; create / delete / names / producers / metadata make no call), started from the graph in which the nodes the
    session will create already sit unwired in their slots, HOLDS the edited graph `run E (Graph.init h) (editsOf evs)`
    under the session's slot numbering: every node of the edited graph has, at its slot, a runtime node with its
    parameter value, resp. its type's processor and exactly its wiring (array order included) — whatever the caches,
    versions and flags have become.  The edited graph is well-formed, slots are distinct. -/
theorem edit_simulation {E : Env V J} (hE : EnvOK E) (P : Procs V W) {F : Nat} (h : Hdr) (evs : List (Ev J)) :
    let r := simRun P E (Sim.init h) evs
    Holds P E r.1.σ (Nodes.run F (preGraph P E (createdTys P E (Sim.init h) evs)) r.2).1 r.1.g ∧
      r.1.g = run E (Graph.init h) (editsOf evs) ∧ WF E r.1.g ∧
      (∀ n ∈ r.1.g.nodes, ∀ m ∈ r.1.g.nodes, r.1.σ n.id = r.1.σ m.id → n.id = m.id) :=
  simulation_of_inv hE evs (simInv_init P E h _)

/-- **Artifacts, for every reachable state** (no `Holds` hypothesis).  Environmental hypotheses only:
    `hE` (registered types sane, payload law), the comparator fit `hc` and at most one binary payload `hf` on the graph
    that is saved (those of `decode_encode`), DETERMINISTIC PROCESSORS `P`, and ACYCLICITY of the session `hv` (the graph
    is acyclic after every C11 call: the Go API does not reject cycles — `ConnectNodes` has no check — and a cycle
    makes evaluation diverge).  Then for every node `n` of the edited graph — a producer in particular: the saved file
    loads into a fresh application and reading `n` there returns exactly what reading `n` returns in the application
    that was edited (and read) all along. -/
theorem reload_same_artifacts_reachable {E : Env V J} (hE : EnvOK E) {cmp : Name → Name → Bool} (P : Procs V W)
    {F : Nat} (hF : 0 < F) (h : Hdr) (evs : List (Ev J))
    (hv : Nodes.Valid F (preGraph P E (createdTys P E (Sim.init h) evs)) (simRun P E (Sim.init h) evs).2)
    (hc : ∀ n ∈ (simRun P E (Sim.init h) evs).1.g.nodes, ∀ T, E.types n.ty = some T → CmpOK cmp T n)
    (hf : FilePayloadLast E (simRun P E (Sim.init h) evs).1.g)
    (n : GraphIO.Node V) (hn : n ∈ (simRun P E (Sim.init h) evs).1.g.nodes) :
    ∃ g', decode E Hdr.empty (encode E cmp (simRun P E (Sim.init h) evs).1.g) = .ok g' ∧
      Nodes.val (Nodes.step F (absGraph P E g') (.read (idxOf g' n.id))).1 (idxOf g' n.id) =
      Nodes.val (Nodes.step F (Nodes.run F (preGraph P E (createdTys P E (Sim.init h) evs))
          (simRun P E (Sim.init h) evs).2).1 (.read ((simRun P E (Sim.init h) evs).1.σ n.id))).1
        ((simRun P E (Sim.init h) evs).1.σ n.id) := by
  obtain ⟨hH, _, hw, _⟩ := edit_simulation hE P (F := F) h evs
  obtain ⟨g', hd, _, h1, h2⟩ := reload_same_artifacts hE hw hc hf P _ (preGraph_init P E _ hF) _ hv _ hH n hn
  exact ⟨g', hd, h1.trans h2.symm⟩

/-! ### an instance: a text producer over a title and an ordered array of parts -/

/-- `P`: a value parameter (output type 1); `T`: a struct with scalar input `Title` and array input `Parts`, producing an
    artifact (output type `artTy`) -/
def aEnv : Env Nat Nat :=
  { types := fun t => if t = "P" then some { out := 1, scal := [], arrs := [], param := some .value }
                      else if t = "T" then some { out := artTy, scal := [("Title".toList, 1)], arrs := [("Parts".toList, 1)], param := none }
                      else none,
    dflt := fun _ => some 0, toJ := id, fromJ := fun _ j => some j, cat := fun a b => a + b }

/-- create `T`, three parameters with values 5, 6, 7; title ← 5, parts ← [6, 7]; `T` is the producer of out.txt -/
def aGraph : Graph Nat :=
  run aEnv (Graph.init Hdr.empty)
    [.create "T", .create "P", .create "P", .create "P",
     .setValue "Node-1" 5, .setValue "Node-2" 6, .setValue "Node-3" 7,
     .connect "Node-1" "Out" "Node-0" "Title".toList,
     .connect "Node-2" "Out" "Node-0" "Parts.0".toList, .connect "Node-3" "Out" "Node-0" "Parts.1".toList,
     .setProducer "Node-0" "out.txt"]

/-- the artifact of `T` is the list of the values it pulled, in dependency order (title, then the parts in order) -/
def aProcs : Procs Nat (List Nat) :=
  { proc := fun _ _ _ vals => vals.flatMap (fun v => v.getD []),
    next := fun _ _ _ es => Nodes.nextAll es,
    paramVal := fun _ v => [v.getD 0],
    idle := [] }

def aRank (i : Nat) : Nat := if i = 0 then 1 else 0

def depsAt (G : Nodes.Graph (List Nat)) (i : Nat) : Option (List Nat) :=
  match G i with
  | .struct s => some s.deps
  | .param _ _ => none

theorem aGraph_ranked : Nodes.Ranked aRank 2 (absGraph aProcs aEnv aGraph) := by
  refine ⟨fun i => by unfold aRank; split <;> omega, fun i s hs d hd => ?_⟩
  have key : ∀ j < 4, depsAt (absGraph aProcs aEnv aGraph) j = if j = 0 then some [1, 2, 3] else none := by
    decide +kernel
  have hlen : aGraph.nodes.length = 4 := by decide +kernel
  by_cases h4 : i < 4
  · have hk := key i h4
    simp only [depsAt, hs] at hk
    by_cases hi : i = 0
    · subst hi
      simp only [if_true, Option.some.injEq] at hk
      rw [hk] at hd
      simp only [List.mem_cons, List.not_mem_nil, or_false] at hd
      rcases hd with rfl | rfl | rfl <;> decide
    · simp [hi] at hk
  · simp [absGraph, List.getElem?_eq_none (Nat.le_of_not_lt (hlen ▸ h4))] at hs

/-- the hypotheses of `reload_same_artifacts` about the runtime (`h0`, `hG`, with the never-read application as the
    original one) and `hf` hold for `aGraph`, and its artifact is the title followed by the parts IN ORDER.
    (`hE` for this environment is `aEnv_ok` in Props/C12SessionArtifacts; `hc` follows from `natural_order_ok`.) -/
example :
    Nodes.Init 2 (absGraph aProcs aEnv aGraph) ∧ FilePayloadLast aEnv aGraph ∧ aGraph.prods = [("out.txt", ⟨"Node-0", "Out"⟩)] ∧
    Holds aProcs aEnv (idxOf aGraph) (Nodes.run 2 (absGraph aProcs aEnv aGraph) []).1 aGraph ∧
    Nodes.val (Nodes.step 2 (absGraph aProcs aEnv aGraph) (.read (idxOf aGraph "Node-0"))).1 (idxOf aGraph "Node-0") = [5, 6, 7] := by
  refine ⟨⟨⟨aRank, aGraph_ranked⟩, absGraph_unprocessed _ _ _⟩, by decide +kernel, by decide +kernel, ?_, by decide +kernel⟩
  exact absGraph_holds _ _ (by decide +kernel)

/-- a session with a delete, an id that is not a list position, and reads in the middle: two parameters are created,
    the first is deleted, a text node is created (id `Node-2`, slot 2, list position 1), wired, read, edited, read -/
def aSession : List (Ev Nat) :=
  [.edit (.create "P"), .edit (.create "P"), .edit (.delete "Node-0"), .edit (.create "T"),
   .edit (.setValue "Node-1" 6), .edit (.connect "Node-1" "Out" "Node-2" "Parts.0".toList), .read "Node-2",
   .edit (.create "P"), .edit (.setValue "Node-3" 7), .edit (.connect "Node-3" "Out" "Node-2" "Parts.5".toList),
   .edit (.connect "Node-3" "Out" "Node-2" "NoSuchPort".toList), .read "Node-9", .read "Node-2"]

def aSessionRank (i : Nat) : Nat := if i = 2 then 1 else 0

theorem aSession_ops : (simRun aProcs aEnv (Sim.init Hdr.empty) aSession).2 =
    [.setParam 1 [6], .arrayAdd 2 0 1, .read 2, .setParam 3 [7], .arrayAdd 2 0 3, .read 2] := by
  rfl

/-- `hv` and `hf` of `reload_same_artifacts_reachable` hold for this session, and the reloaded application reads `[6, 7]`
    (`hE`: `aEnv_ok` in Props/C12SessionArtifacts; `hc`: from `natural_order_ok`) -/
example :
    Nodes.Valid 2 (preGraph aProcs aEnv (createdTys aProcs aEnv (Sim.init Hdr.empty) aSession))
      (simRun aProcs aEnv (Sim.init Hdr.empty) aSession).2 ∧
    FilePayloadLast aEnv (simRun aProcs aEnv (Sim.init Hdr.empty) aSession).1.g ∧
    (simRun aProcs aEnv (Sim.init Hdr.empty) aSession).1.g.nodes.map (·.id) = ["Node-1", "Node-2", "Node-3"] ∧
    (simRun aProcs aEnv (Sim.init Hdr.empty) aSession).1.σ "Node-2" = 2 ∧
    idxOf (simRun aProcs aEnv (Sim.init Hdr.empty) aSession).1.g "Node-2" = 1 ∧
    Nodes.val (Nodes.step 2 (absGraph aProcs aEnv (simRun aProcs aEnv (Sim.init Hdr.empty) aSession).1.g) (.read 1)).1 1 = [6, 7] := by
  refine ⟨?_, by decide +kernel⟩
  rw [aSession_ops]
  apply C11.valid_fixed_numbering aSessionRank _ (preGraph_ranked _ _ _ aSessionRank (by intro i; unfold aSessionRank; split <;> omega))
  intro op hop
  simp only [List.mem_cons, List.not_mem_nil, or_false] at hop
  rcases hop with rfl | rfl | rfl | rfl | rfl | rfl <;> simp [Nodes.opRanked, aSessionRank]

end C12
end PolyVerif
