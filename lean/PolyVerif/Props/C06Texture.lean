/-
  C06 — `AddTexture`.  The model's association lists and sets; then what one call of `AddTexture` does, stated once
  (`TexAdded`): the notion the texture side turns on is "look a value up in a table, append it when absent" (images by URI,
  samplers and textures by value).  Every invariant of the texture side is carried through `AddTexture` from this statement.
-/
import PolyVerif.Props.C06Grows

namespace PolyVerif
namespace C06
open Gltf

/-! ### the model's association lists and sets (`lookup`, `mapInsert`, `findIdx`, `setInsert`) -/

theorem mem_mapInsert {α β} [DecidableEq α] (m : List (α × β)) (k : α) (v : β) (x : α × β)
    (h : x ∈ mapInsert m k v) : x ∈ m ∨ x = (k, v) := by
  unfold mapInsert at h
  simp only [List.mem_append, List.mem_filter, List.mem_singleton] at h
  rcases h with h | h
  · exact Or.inl h.1
  · exact Or.inr h

theorem mapInsert_ne_nil {α β} [DecidableEq α] (m : List (α × β)) (k : α) (v : β) : mapInsert m k v ≠ [] := by
  unfold mapInsert; simp

theorem mapInsert_fresh {α β} [DecidableEq α] (m : List (α × β)) (k : α) (v : β) (h : ∀ e ∈ m, e.1 ≠ k) :
    mapInsert m k v = m ++ [(k, v)] := by
  unfold mapInsert
  rw [List.filter_eq_self.mpr (fun e he => by simpa using h e he)]

theorem lookup_mem {α β} [DecidableEq α] (k : α) (l : List (α × β)) (v : β) (h : lookup k l = some v) : (k, v) ∈ l := by
  induction l with
  | nil => simp [lookup] at h
  | cons p r ih =>
    obtain ⟨a, b⟩ := p
    simp only [lookup] at h
    split at h
    · rename_i hab; injection h with h; subst h; subst hab; simp
    · simp [ih h]

theorem lookup_some_of_mem {α β} [DecidableEq α] (k : α) (v : β) (l : List (α × β)) (h : (k, v) ∈ l) : ∃ v', lookup k l = some v' := by
  induction l with
  | nil => cases h
  | cons p r ih =>
    obtain ⟨a, b⟩ := p
    simp only [lookup]
    split
    · exact ⟨b, rfl⟩
    · rename_i hne
      simp only [List.mem_cons, Prod.mk.injEq] at h
      rcases h with ⟨h1, _⟩ | h
      · exact absurd h1.symm hne
      · exact ih h

theorem lookup_none {α β} [DecidableEq α] (k : α) (l : List (α × β)) (h : lookup k l = none) : ∀ e ∈ l, e.1 ≠ k := by
  induction l with
  | nil => simp
  | cons p r ih =>
    obtain ⟨a, b⟩ := p
    simp only [lookup] at h
    split at h
    · cases h
    · rename_i hne
      intro e he
      simp only [List.mem_cons] at he
      rcases he with rfl | he
      · exact hne
      · exact ih h e he

/-- a key the tracker does not hold is registered without losing an entry -/
theorem mem_mapInsert_of_lookup_none {α β} [DecidableEq α] {m : List (α × β)} {k : α} (v : β) (h : lookup k m = none) :
    ∀ e ∈ m, e ∈ mapInsert m k v := by
  rw [mapInsert_fresh m k v (lookup_none k m h)]; exact fun e he => List.mem_append_left _ he

theorem findIdx_none {α} (p : α → Bool) (l : List α) (k : Nat) (h : findIdx p l k = none) : ∀ a ∈ l, p a = false := by
  induction l generalizing k with
  | nil => simp
  | cons a r ih =>
    simp only [findIdx] at h
    split at h
    · cases h
    · rename_i hp
      intro x hx
      simp only [List.mem_cons] at hx
      rcases hx with rfl | hx
      · simpa using hp
      · exact ih (k + 1) h x hx

theorem findIdx_some {α} (p : α → Bool) (l : List α) (k i : Nat) (h : findIdx p l k = some i) :
    ∃ a, l[i - k]? = some a ∧ p a = true ∧ k ≤ i ∧ ∀ j, j < i - k → ∀ b, l[j]? = some b → p b = false := by
  induction l generalizing k with
  | nil => simp [findIdx] at h
  | cons a r ih =>
    simp only [findIdx] at h
    split at h
    · rename_i hp
      injection h with h; subst h
      exact ⟨a, by simp, hp, Nat.le_refl _, by simp⟩
    · rename_i hp
      obtain ⟨x, h1, h2, h3, h4⟩ := ih (k + 1) h
      have hik : i - k = (i - (k + 1)) + 1 := by omega
      refine ⟨x, by rw [hik]; simpa using h1, h2, by omega, ?_⟩
      intro j hj b hb
      cases j with
      | zero => simp at hb; subst hb; simpa using hp
      | succ j => exact h4 j (by omega) b (by simpa using hb)

theorem findIdx_lt {α} (p : α → Bool) (l : List α) (k i : Nat) (h : findIdx p l k = some i) : k ≤ i ∧ i < k + l.length := by
  induction l generalizing k with
  | nil => simp [findIdx] at h
  | cons a r ih =>
    simp only [findIdx] at h
    split at h
    · injection h with h; subst h; simp
    · have := ih (k + 1) h; simp only [List.length_cons]; omega

theorem mem_setInsert (s : List String) (k e : String) : e ∈ setInsert s k ↔ e ∈ s ∨ e = k := by
  unfold setInsert
  split
  · rename_i h; constructor
    · exact Or.inl
    · rintro (h' | rfl); exact h'; exact h
  · simp

theorem subset_setInsert (l : List String) (k : String) : ∀ e ∈ l, e ∈ setInsert l k :=
  fun _ he => (mem_setInsert _ _ _).mpr (Or.inl he)

/-! ### look up or append -/

/-- `(l', i)` is the outcome of looking the value `a` up in the table `l` and appending it when absent -/
def FoundOrAppended {α} (l : List α) (a : α) (l' : List α) (i : Nat) : Prop :=
  l'[i]? = some a ∧ (l' = l ∨ ((∀ x ∈ l, x ≠ a) ∧ l' = l ++ [a]))

theorem FoundOrAppended.prefix {α} {l l' : List α} {a : α} {i : Nat} (h : FoundOrAppended l a l' i) : l <+: l' := by
  rcases h.2 with e | ⟨_, e⟩ <;> rw [e]
  · exact List.prefix_refl _
  · exact List.prefix_append _ _

theorem FoundOrAppended.lt {α} {l l' : List α} {a : α} {i : Nat} (h : FoundOrAppended l a l' i) : i < l'.length :=
  (List.getElem?_eq_some_iff.mp h.1).1

/-- a property of all entries of the table that the looked-up value has too holds of all entries afterwards -/
theorem FoundOrAppended.forall {α} {l l' : List α} {a : α} {i : Nat} (h : FoundOrAppended l a l' i) {p : α → Prop}
    (hl : ∀ x ∈ l, p x) (ha : p a) : ∀ x ∈ l', p x := by
  rcases h.2 with e | ⟨_, e⟩ <;> rw [e]
  · exact hl
  · intro x hx
    rcases List.mem_append.mp hx with hx | hx
    · exact hl x hx
    · rw [List.mem_singleton.mp hx]; exact ha

/-- the model's `findIdx … 0`, then append on `none`, is such a lookup when the predicate is equality with `a` -/
theorem foundOrAppended_of_findIdx {α} {p : α → Bool} {a : α} (hp : ∀ x, p x = true ↔ x = a) (l : List α) :
    match findIdx p l 0 with
    | some i => FoundOrAppended l a l i
    | none => FoundOrAppended l a (l ++ [a]) l.length := by
  split
  · rename_i i hi
    obtain ⟨x, h1, h2, _, _⟩ := findIdx_some _ _ _ _ hi
    rw [Nat.sub_zero, (hp x).mp h2] at h1
    exact ⟨h1, Or.inl rfl⟩
  · rename_i hn
    refine ⟨by simp, Or.inr ⟨fun x hx hxa => ?_, rfl⟩⟩
    have := findIdx_none _ _ _ hn x hx
    rw [(hp x).mpr hxa] at this; cases this

/-- the sampler slot of a texture: no sampler and none referenced, or the sampler looked up by value -/
def SamplerAt (l : List Sampler) (o : Option Sampler) (l' : List Sampler) (r : Option Nat) : Prop :=
  match o, r with
  | none, none => l' = l
  | some s, some j => FoundOrAppended l s l' j
  | _, _ => False

theorem SamplerAt.prefix {l l' : List Sampler} {o : Option Sampler} {r : Option Nat} (h : SamplerAt l o l' r) : l <+: l' := by
  unfold SamplerAt at h
  split at h
  · rw [h]; exact List.prefix_refl _
  · exact h.prefix
  · cases h

theorem SamplerAt.lt {l l' : List Sampler} {o : Option Sampler} {j : Nat} (h : SamplerAt l o l' (some j)) : j < l'.length := by
  unfold SamplerAt at h
  split at h
  · rename_i e; cases e
  · rename_i e; cases e; exact h.lt
  · cases h

/-! ### the steps of `AddTexture` -/

/-- `w` with the texture side blanked: textures, images, samplers, the texture tracker and the two extension lists are all
    that `AddTexture` writes -/
def noTex (w : W) : W :=
  { w with textures := [], images := [], samplers := [], texIdx := [], extUsed := [], extRequired := [] }

/-- declaring an extension -/
theorem grows_used (w : W) (e : String) : Grows w { w with extUsed := setInsert w.extUsed e } :=
  { Grows.refl w with extUsed := subset_setInsert _ _ }

theorem texImage_spec (w : W) (uri : String) :
    (texImage w uri).1 = { w with images := (texImage w uri).1.images }
    ∧ FoundOrAppended w.images uri (texImage w uri).1.images (texImage w uri).2 := by
  have h := foundOrAppended_of_findIdx (p := fun u => u == uri) (a := uri) (fun _ => beq_iff_eq) w.images
  unfold texImage
  split <;> rename_i hi <;> rw [hi] at h <;> exact ⟨rfl, h⟩

theorem texSampler_spec (w : W) (o : Option Sampler) :
    (texSampler w o).1 = { w with samplers := (texSampler w o).1.samplers }
    ∧ SamplerAt w.samplers o (texSampler w o).1.samplers (texSampler w o).2 := by
  cases o with
  | none => exact ⟨rfl, rfl⟩
  | some s =>
    have h := foundOrAppended_of_findIdx (p := fun x => s.equal x) (a := s)
      (fun x => by simp only [Sampler.equal, beq_iff_eq]; exact eq_comm) w.samplers
    simp only [texSampler]
    split <;> rename_i hi <;> rw [hi] at h <;> exact ⟨rfl, h⟩

theorem texFinish_spec (w : W) (id : Nat) (t : PTexture) (img : Nat) (smp : Option Nat) :
    (texFinish w id t img smp).1 = { w with textures := (texFinish w id t img smp).1.textures,
                                            texIdx := (texFinish w id t img smp).1.texIdx }
    ∧ (texFinish w id t img smp).2.xform = t.xform
    ∧ FoundOrAppended w.textures { sampler := smp, source := some img } (texFinish w id t img smp).1.textures
        (texFinish w id t img smp).2.index
    ∧ ((texFinish w id t img smp).1.texIdx = w.texIdx
       ∨ (texFinish w id t img smp).1.texIdx = mapInsert w.texIdx id (texFinish w id t img smp).2.index) := by
  have h := foundOrAppended_of_findIdx (p := fun x => x == ({ sampler := smp, source := some img } : GTexture))
    (a := { sampler := smp, source := some img }) (fun _ => beq_iff_eq) w.textures
  unfold texFinish
  split <;> rename_i hi <;> rw [hi] at h
  · exact ⟨rfl, rfl, h, Or.inl rfl⟩
  · exact ⟨rfl, rfl, h, Or.inr rfl⟩

/-- `prepareExtensions` writes the two extension lists and nothing else -/
theorem texPrepare_spec (w : W) (t : PTexture) :
    texPrepare w t = { w with extUsed := (texPrepare w t).extUsed, extRequired := (texPrepare w t).extRequired } := by
  unfold texPrepare; split <;> rfl

theorem grows_texPrepare (w : W) (t : PTexture) : Grows w (texPrepare w t) := by
  unfold texPrepare
  split
  · exact { Grows.refl w with extUsed := subset_setInsert _ _ }
  · exact Grows.refl w

/-- what `AddTexture` did: outside the texture side nothing, and nothing was lost; the declared extensions are those of
    `texPrepare`; the returned texture-info has the texture's transform; and either the tracker knew the pointer (tables
    unchanged, its index returned) or image, sampler and texture were each looked up by value and appended when absent, the
    pointer being registered for a new texture -/
structure TexAdded (w : W) (id : Nat) (t : PTexture) (w' : W) (ti : TexInfo) : Prop where
  frame : noTex w' = noTex w
  grows : Grows w w'
  xform : ti.xform = t.xform
  used : w'.extUsed = (texPrepare w t).extUsed
  required : w'.extRequired = (texPrepare w t).extRequired
  tables :
    (lookup id w.texIdx = some ti.index ∧ w'.images = w.images ∧ w'.samplers = w.samplers ∧ w'.textures = w.textures
      ∧ w'.texIdx = w.texIdx)
    ∨ (lookup id w.texIdx = none ∧ ∃ img smp, FoundOrAppended w.images t.uri w'.images img
        ∧ SamplerAt w.samplers t.sampler w'.samplers smp
        ∧ FoundOrAppended w.textures { sampler := smp, source := some img } w'.textures ti.index
        ∧ (w'.texIdx = w.texIdx ∨ w'.texIdx = mapInsert w.texIdx id ti.index))

theorem addTexture_spec (w : W) (id : Nat) (t : PTexture) : TexAdded w id t (addTexture w id t).1 (addTexture w id t).2 := by
  have f0 := texPrepare_spec w t
  have g0 := grows_texPrepare w t
  have e4 : (texPrepare w t).texIdx = w.texIdx := (congrArg W.texIdx f0 :)
  unfold addTexture
  split
  · rename_i i hi
    exact ⟨(congrArg noTex f0 :), g0, rfl, rfl, rfl, Or.inl ⟨e4 ▸ hi, (congrArg W.images f0 :), (congrArg W.samplers f0 :),
      (congrArg W.textures f0 :), e4⟩⟩
  · rename_i hn
    obtain ⟨fA, hA⟩ := texImage_spec (texPrepare w t) t.uri
    generalize texImage (texPrepare w t) t.uri = A at fA hA ⊢
    obtain ⟨fB, hB⟩ := texSampler_spec A.1 t.sampler
    generalize texSampler A.1 t.sampler = B at fB hB ⊢
    obtain ⟨fR, hx, hT, hI⟩ := texFinish_spec B.1 id t A.2 B.2
    generalize texFinish B.1 id t A.2 B.2 = R at fR hx hT hI ⊢
    have eI : B.1.texIdx = w.texIdx := (congrArg W.texIdx fB :).trans ((congrArg W.texIdx fA :).trans e4)
    have gA : Grows (texPrepare w t) A.1 := by rw [fA]; exact { Grows.refl _ with images := hA.prefix }
    have gB : Grows A.1 B.1 := by rw [fB]; exact { Grows.refl A.1 with samplers := hB.prefix }
    have gR : Grows B.1 R.1 := by
      rw [fR]
      refine { Grows.refl B.1 with textures := hT.prefix, texIdx := ?_ }
      -- the tracker did not hold the pointer (`hn`), so registering it loses no entry
      rcases hI with e | e <;> rw [e]
      · exact fun _ h => h
      · exact mem_mapInsert_of_lookup_none _ (by rw [eI, ← e4]; exact hn)
    refine ⟨(congrArg noTex fR :).trans ((congrArg noTex fB :).trans ((congrArg noTex fA :).trans (congrArg noTex f0 :))),
      ((g0.trans gA).trans gB).trans gR, hx,
      (congrArg W.extUsed fR :).trans ((congrArg W.extUsed fB :).trans (congrArg W.extUsed fA :)),
      (congrArg W.extRequired fR :).trans ((congrArg W.extRequired fB :).trans (congrArg W.extRequired fA :)),
      Or.inr ⟨e4 ▸ hn, A.2, B.2, ?_, ?_, ?_, ?_⟩⟩
    · rw [(congrArg W.images fR :).trans (congrArg W.images fB :), ← (congrArg W.images f0 :)]; exact hA
    · rw [(congrArg W.samplers fR :), ← (congrArg W.samplers fA :).trans (congrArg W.samplers f0 :)]; exact hB
    · rw [← (congrArg W.textures fB :).trans ((congrArg W.textures fA :).trans (congrArg W.textures f0 :))]; exact hT
    · rw [← eI]; exact hI

theorem noTex_addTexture (w : W) (id : Nat) (t : PTexture) : noTex (addTexture w id t).1 = noTex w :=
  (addTexture_spec w id t).frame

theorem grows_addTexture (w : W) (id : Nat) (t : PTexture) : Grows w (addTexture w id t).1 :=
  (addTexture_spec w id t).grows

end C06
end PolyVerif
