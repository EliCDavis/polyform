/-
  C03 — value statements for SmoothNormals and FlatNormals over ℝ (models: `Model/MeshTransforms.lean`, mirroring
  meshops/smooth_normals.go, flat_normals.go).  The frame of these operations is in `Props/C03.lean`.
-/
import PolyVerif.Props.C03Values
import PolyVerif.Lemmas.MeshTransformsWF

namespace PolyVerif.C03
open PolyVerif PolyVerif.Gen PolyVerif.Mesh PolyVerif.Mesh.MeshVal
open Classical

/-! ## SmoothNormals: the accumulation loop is a sum over incident corners -/

/-- how many corners of triangle `t` are vertex `v` (a degenerate index triple can name `v` twice) -/
def cornerCount (t : Nat × Nat × Nat) (v : Nat) : Nat :=
  (if t.1 = v then 1 else 0) + (if t.2.1 = v then 1 else 0) + (if t.2.2 = v then 1 else 0)

/-- what triangle `t` adds to the accumulator of vertex `v`: its un-normalised face cross product
    `(B-A) × (C-A)`, once per corner of `t` that is `v` (nothing when a corner index is out of range) -/
noncomputable def contrib (pos : List R3) (v : Nat) (t : Nat × Nat × Nat) : R3 :=
  match triCross pos t with
  | some n => n.Scale (cornerCount t v : ℝ)
  | none => ⟨0, 0, 0⟩

/-- component-wise sum of a list of vectors (`List.sum`, so it is invariant under permutation) -/
noncomputable def sumV (l : List R3) : R3 := ⟨(l.map (·.x)).sum, (l.map (·.y)).sum, (l.map (·.z)).sum⟩

theorem sumV_perm {l l' : List R3} (h : l.Perm l') : sumV l = sumV l' := by
  simp only [sumV]
  rw [(h.map _).sum_eq, (h.map (·.y)).sum_eq, (h.map (·.z)).sum_eq]

theorem sumV_cons (a : R3) (l : List R3) : sumV (a :: l) = a.Add (sumV l) := by
  ext <;> simp [sumV, V3.Add]

/-- a running sum started at `a` is `a + Σ` -/
theorem foldl_add_sumV {β : Type} (f : β → R3) : ∀ (l : List β) (a : R3),
    l.foldl (fun acc x => acc.Add (f x)) a = a.Add (sumV (l.map f))
  | [], a => by ext <;> simp [sumV, V3.Add]
  | x :: l, a => by
    rw [List.foldl_cons, List.map_cons, sumV_cons, foldl_add_sumV f l]
    ext <;> simp [V3.Add] <;> ring

theorem isNaN_real (x : ℝ) : isNaN x = false := by simp [isNaN]

theorem addAt_get (ns : List R3) (i v : Nat) (n : R3) (hv : v < ns.length) :
    (addAt ns i n)[v]? = some ((ns[v]).Add (n.Scale (if i = v then 1 else 0))) := by
  have h0 : (ns[v]).Add (n.Scale 0) = ns[v] := by ext <;> simp [V3.Add, V3.Scale]
  unfold addAt
  by_cases hi : i < ns.length
  · rw [List.getElem?_eq_getElem hi]
    by_cases hiv : i = v
    · subst hiv; simp [hi, V3.Scale]
    · simp [hiv, hv, h0]
  · have : i ≠ v := fun h => hi (h ▸ hv)
    simp [List.getElem?_eq_none (Nat.le_of_not_lt hi), this, hv, h0]

theorem addAt3_get (ns : List R3) (t : Nat × Nat × Nat) (v : Nat) (n : R3) (hv : v < ns.length) :
    (addAt (addAt (addAt ns t.1 n) t.2.1 n) t.2.2 n)[v]? = some ((ns[v]).Add (n.Scale (cornerCount t v : ℝ))) := by
  have hv1 : v < (addAt ns t.1 n).length := by rw [addAt_length]; exact hv
  have hv2 : v < (addAt (addAt ns t.1 n) t.2.1 n).length := by rw [addAt_length]; exact hv1
  have e1 := (List.getElem?_eq_some_iff.mp (addAt_get ns t.1 v n hv)).2
  have e2 := (List.getElem?_eq_some_iff.mp (addAt_get _ t.2.1 v n hv1)).2
  rw [addAt_get _ t.2.2 v n hv2, e2, e1]
  congr 1
  ext <;> simp only [V3.Add, V3.Scale, cornerCount] <;> push_cast <;> ring

/-- **fold-to-sum**: after the accumulation loop, the accumulator of every vertex `v` is its initial value plus
    the sum, over all triangles, of the face cross product once per incident corner -/
theorem smoothAccum_sum (pos : List R3) : ∀ (ts : List (Nat × Nat × Nat)) (ns : List R3) (v : Nat) (hv : v < ns.length),
    (smoothAccum pos ns ts)[v]? = some ((ns[v]).Add (sumV (ts.map (contrib pos v))))
  | [], ns, v, hv => by
    simp only [smoothAccum, List.map_nil, List.getElem?_eq_getElem hv]
    congr 1; ext <;> simp [sumV, V3.Add]
  | t :: ts, ns, v, hv => by
    simp only [smoothAccum, List.map_cons, sumV_cons]
    cases hc : triCross pos t with
    | none =>
      simp only [contrib, hc]
      rw [smoothAccum_sum pos ts ns v hv]
      congr 1; ext <;> simp [V3.Add]
    | some n =>
      simp only [isNaN_real, Bool.false_eq_true, if_false, contrib, hc]
      have hl : v < (addAt (addAt (addAt ns t.1 n) t.2.1 n) t.2.2 n).length := by
        simp only [addAt_length]; exact hv
      rw [smoothAccum_sum pos ts _ v hl]
      have := addAt3_get ns t v n hv
      have e := (List.getElem?_eq_some_iff.mp this).2
      rw [e]; congr 1; ext <;> simp [V3.Add] <;> ring

/-- **order independence**: visiting the triangles in any other order gives the same accumulators -/
theorem smoothAccum_perm (pos : List R3) (ns : List R3) {ts ts' : List (Nat × Nat × Nat)} (h : ts.Perm ts') :
    smoothAccum pos ns ts = smoothAccum pos ns ts' := by
  apply List.ext_getElem?
  intro v
  by_cases hv : v < ns.length
  · rw [smoothAccum_sum pos ts ns v hv, smoothAccum_sum pos ts' ns v hv, sumV_perm (h.map _)]
  · rw [List.getElem?_eq_none (by rw [smoothAccum_length]; omega),
      List.getElem?_eq_none (by rw [smoothAccum_length]; omega)]

/-- the normal `SmoothNormals` writes for vertex `v`: the sum `S` of the face cross products over the incident
    corners, normalised — or the zero vector when `S = 0` (no incident non-degenerate corner, e.g. an
    unreferenced vertex: the Go code skips `n == zero`) -/
noncomputable def smoothNormalAt (pos : List R3) (ts : List (Nat × Nat × Nat)) (v : Nat) : R3 :=
  let S := sumV (ts.map (contrib pos v))
  if S = ⟨0, 0, 0⟩ then S else S.Normalized

theorem isZeroV_real (v : R3) : isZeroV v = decide (v = ⟨0, 0, 0⟩) := by
  obtain ⟨x, y, z⟩ := v
  simp only [isZeroV, RS.beq_eq, Nat.cast_zero, V3.mk.injEq]
  by_cases hx : x = 0 <;> by_cases hy : y = 0 <;> by_cases hz : z = 0 <;> simp [hx, hy, hz]

/-- **SmoothNormals, value**: with `pos` the position vectors and `ts` the triangles, the Normal array it sets has,
    at every vertex `v`, exactly `smoothNormalAt pos ts v` — for every triangle order (`smoothAccum_perm`). -/
theorem smoothNormals_values (pos : List R3) (ts : List (Nat × Nat × Nat)) (n : Nat) (v : Nat) (hv : v < n) :
    ((smoothAccum pos (List.replicate n V3.Zero) ts).map
        fun a => if isZeroV a then a else a.Normalized)[v]? = some (smoothNormalAt pos ts v) := by
  rw [List.getElem?_map, smoothAccum_sum pos ts _ v (by simpa using hv)]
  simp only [Option.map_some, List.getElem_replicate, smoothNormalAt, isZeroV_real]
  rw [V3.Zero_eq, V3.zero_Add]
  by_cases h0 : sumV (ts.map (contrib pos v)) = ⟨0, 0, 0⟩ <;> simp [h0]

/-- the smooth normal is a unit vector whenever the corner sum is non-zero, and the zero vector otherwise -/
theorem smoothNormalAt_unit (pos : List R3) (ts : List (Nat × Nat × Nat)) (v : Nat) :
    (sumV (ts.map (contrib pos v)) ≠ ⟨0, 0, 0⟩ → (smoothNormalAt pos ts v).Length = 1) ∧
    (sumV (ts.map (contrib pos v)) = ⟨0, 0, 0⟩ → smoothNormalAt pos ts v = ⟨0, 0, 0⟩) := by
  constructor
  · intro h; simp only [smoothNormalAt, h, if_false]; exact V3.normalized_length h
  · intro h; simp only [smoothNormalAt, h, if_true]

/-- an unreferenced vertex gets the zero normal -/
theorem smoothNormalAt_unreferenced (pos : List R3) (ts : List (Nat × Nat × Nat)) (v : Nat)
    (h : ∀ t ∈ ts, t.1 ≠ v ∧ t.2.1 ≠ v ∧ t.2.2 ≠ v) : smoothNormalAt pos ts v = ⟨0, 0, 0⟩ := by
  apply (smoothNormalAt_unit pos ts v).2
  have : ∀ t ∈ ts, contrib pos v t = ⟨0, 0, 0⟩ := by
    intro t ht
    obtain ⟨h1, h2, h3⟩ := h t ht
    unfold contrib
    split
    · ext <;> simp [cornerCount, h1, h2, h3, V3.Scale]
    · rfl
  induction ts with
  | nil => simp [sumV]
  | cons t ts ih =>
    rw [List.map_cons, sumV_cons, this t (by simp), ih (fun t' ht' => h t' (by simp [ht'])) (fun t' ht' => this t' (by simp [ht']))]
    ext <;> simp [V3.Add]

example : smoothNormalAt [⟨0, 0, 0⟩, ⟨1, 0, 0⟩, ⟨0, 1, 0⟩] [(0, 1, 2)] 0 = ⟨0, 0, 1⟩ := by
  simp [smoothNormalAt, sumV, contrib, triCross, cornerCount, V3.Sub, V3.Cross, V3.Scale, V3.Normalized,
    V3.DivByConstant, V3.Length, V3.LengthSquared]

/-- **SmoothNormals, mesh level**: the operation sets `Normal` (frame: `smoothNormals_frame`) to an array with one
    entry per position whose entry at every vertex `v` is `smoothNormalAt positions triangles v`. -/
theorem smoothNormals_spec {m m' : MeshVal (List ℝ)} (hm : m.smoothNormals = some m') :
    ∃ d normals, m.attr? posKey = some d ∧ m' = m.setAttr normalKey normals ∧ normals.length = d.length ∧
      ∀ v, v < d.length →
        normals[v]? = some (ofV3 (smoothNormalAt (d.filterMap v3?) (triples m.indices) v)) := by
  obtain ⟨_, d, hd, rfl⟩ := smoothNormals_eq hm
  refine ⟨d, _, hd, rfl, by simp [smoothAccum_length], fun v hv => ?_⟩
  simpa [List.getElem?_map, Function.comp] using
    congrArg (Option.map ofV3) (smoothNormals_values (d.filterMap v3?) (triples m.indices) d.length v hv)

/-! ## FlatNormals: per triangle the unit face normal is written to its three vertices, last triangle wins -/

/-- the face (cross product) whose normal vertex `v` ends up with: the LAST triangle in visiting order that has `v`
    as a corner (and whose corner indices are in range); `none` = `v` is in no triangle -/
noncomputable def lastFace (pos : List R3) : List (Nat × Nat × Nat) → Nat → Option R3
  | [], _ => none
  | t :: ts, v =>
    match lastFace pos ts v with
    | some c => some c
    | none => if t.1 = v ∨ t.2.1 = v ∨ t.2.2 = v then triCross pos t else none

theorem set3_get (ns : List R3) (t : Nat × Nat × Nat) (v : Nat) (n : R3) (hv : v < ns.length) :
    (((ns.set t.1 n).set t.2.1 n).set t.2.2 n)[v]? =
      some (if t.1 = v ∨ t.2.1 = v ∨ t.2.2 = v then n else ns[v]) := by
  simp only [List.getElem?_set, List.length_set]
  by_cases a : t.1 = v <;> by_cases b : t.2.1 = v <;> by_cases c : t.2.2 = v <;>
    simp [a, b, c, hv]

/-- after the overwrite loop, vertex `v` holds the unit normal of its last face, or its initial value -/
theorem flatAccum_last (pos : List R3) : ∀ (ts : List (Nat × Nat × Nat)) (ns : List R3) (v : Nat) (hv : v < ns.length),
    (flatAccum pos ns ts)[v]? = some (match lastFace pos ts v with | some c => c.Normalized | none => ns[v])
  | [], ns, v, hv => by simp [flatAccum, lastFace, List.getElem?_eq_getElem hv]
  | t :: ts, ns, v, hv => by
    simp only [flatAccum, lastFace]
    cases hc : triCross pos t with
    | none =>
      rw [flatAccum_last pos ts ns v hv]
      cases lastFace pos ts v <;> simp
    | some c =>
      have hl : v < (((ns.set t.1 c.Normalized).set t.2.1 c.Normalized).set t.2.2 c.Normalized).length := by simpa using hv
      rw [flatAccum_last pos ts _ v hl]
      cases hlf : lastFace pos ts v with
      | some c' => simp
      | none =>
        have := set3_get ns t v c.Normalized hv
        have e := (List.getElem?_eq_some_iff.mp this).2
        simp only [e]
        by_cases hin : t.1 = v ∨ t.2.1 = v ∨ t.2.2 = v <;> simp [hin]

/-- the normal `FlatNormals` writes for vertex `v`: `normalize(normalize(face))` for the last face containing `v`
    (the second `normalize` is the final pass over all vertices), `normalize(1,1,1)` for a vertex in no triangle -/
noncomputable def flatNormalAt (pos : List R3) (ts : List (Nat × Nat × Nat)) (v : Nat) : R3 :=
  match lastFace pos ts v with
  | some c => c.Normalized.Normalized
  | none => (V3.One : R3).Normalized

theorem flatNormals_values (pos : List R3) (ts : List (Nat × Nat × Nat)) (n : Nat) (v : Nat) (hv : v < n) :
    ((flatAccum pos (List.replicate n V3.One) ts).map fun a => a.Normalized)[v]? = some (flatNormalAt pos ts v) := by
  rw [List.getElem?_map, flatAccum_last pos ts _ v (by simpa using hv)]
  simp only [Option.map_some, flatNormalAt, List.getElem_replicate]
  cases lastFace pos ts v <;> rfl

/-- normalising a unit-length result again changes nothing: for a non-degenerate face the written normal is the
    unit face normal `c / |c|` -/
theorem normalized_idem (c : R3) (h : c ≠ ⟨0, 0, 0⟩) : c.Normalized.Normalized = c.Normalized ∧ c.Normalized.Length = 1 := by
  have h1 := V3.normalized_length h
  refine ⟨?_, h1⟩
  show (c.Normalized).DivByConstant (c.Normalized).Length = c.Normalized
  rw [h1]; ext <;> simp [V3.DivByConstant]

/-- **FlatNormals, mesh level** -/
theorem flatNormals_spec {m m' : MeshVal (List ℝ)} (hm : m.flatNormals = some m') :
    ∃ d normals, m.attr? posKey = some d ∧ m' = m.setAttr normalKey normals ∧ normals.length = d.length ∧
      ∀ v, v < d.length →
        normals[v]? = some (ofV3 (flatNormalAt (d.filterMap v3?) (triples m.indices) v)) := by
  obtain ⟨_, d, hd, rfl⟩ := flatNormals_eq hm
  refine ⟨d, _, hd, rfl, by simp [flatAccum_length], fun v hv => ?_⟩
  simpa [List.getElem?_map, Function.comp] using
    congrArg (Option.map ofV3) (flatNormals_values (d.filterMap v3?) (triples m.indices) d.length v hv)

/-- **FlatNormals, as far as it transfers to the Go code**: per vertex `v`,
    * in no triangle: `normalize(1,1,1)`;
    * last face `c` NON-degenerate (`c ≠ 0`): the unit face normal `c/|c|` (length 1);
    * last face degenerate (`c = 0`): NO claim here — Go computes `0/0 = NaN` in every component (float only; covered by
      the bit-exact correspondence and the corpus case `flat:degenerate-last-face`), while over ℝ the model value is 0. -/
theorem flatNormals_spec_nondegenerate {m m' : MeshVal (List ℝ)} (hm : m.flatNormals = some m') :
    ∃ d normals, m.attr? posKey = some d ∧ m' = m.setAttr normalKey normals ∧ normals.length = d.length ∧
      ∀ v, v < d.length →
        (lastFace (d.filterMap v3?) (triples m.indices) v = none →
          normals[v]? = some (ofV3 (V3.One : R3).Normalized)) ∧
        (∀ c, lastFace (d.filterMap v3?) (triples m.indices) v = some c → c ≠ ⟨0, 0, 0⟩ →
          normals[v]? = some (ofV3 c.Normalized) ∧ c.Normalized.Length = 1) := by
  obtain ⟨d, normals, hd, hm', hl, hv⟩ := flatNormals_spec hm
  refine ⟨d, normals, hd, hm', hl, fun v hlt => ⟨?_, ?_⟩⟩
  · intro hnone
    rw [hv v hlt]; simp [flatNormalAt, hnone]
  · intro c hc hne
    obtain ⟨hi, hu⟩ := normalized_idem c hne
    rw [hv v hlt]; simp [flatNormalAt, hc, hi, hu]

/-- ORDER DEPENDENCE is real: on a shared vertex the last visited triangle decides -/
example : lastFace [⟨0, 0, 0⟩, ⟨1, 0, 0⟩, ⟨0, 1, 0⟩, ⟨0, 0, 1⟩] [(0, 1, 2), (0, 1, 3)] 0 ≠
          lastFace [⟨0, 0, 0⟩, ⟨1, 0, 0⟩, ⟨0, 1, 0⟩, ⟨0, 0, 1⟩] [(0, 1, 3), (0, 1, 2)] 0 := by
  simp [lastFace, triCross, V3.Sub, V3.Cross]

/-- **the clean statement for unwelded meshes**: when no vertex index occurs twice in the index buffer (what
    `Unweld` produces), every corner's normal comes from its own face — whatever the visiting order -/
theorem lastFace_unwelded (pos : List R3) : ∀ (ts : List (Nat × Nat × Nat)), (untriples ts).Nodup →
    ∀ t ∈ ts, ∀ v, (t.1 = v ∨ t.2.1 = v ∨ t.2.2 = v) → ∀ c, triCross pos t = some c → lastFace pos ts v = some c
  | [], _, t, ht, _, _, _, _ => by simp at ht
  | u :: ts, hnd, t, ht, v, hv, c, hc => by
    obtain ⟨a, b, d⟩ := u
    simp only [untriples, List.nodup_cons, List.mem_cons, not_or] at hnd
    simp only [lastFace]
    rcases List.mem_cons.mp ht with rfl | ht'
    · -- `v` is a corner of the head triangle: it occurs in no later triangle
      have hnone : lastFace pos ts v = none := by
        cases hl : lastFace pos ts v with
        | none => rfl
        | some c' =>
          exfalso
          -- a later triangle contains v, so v ∈ untriples ts
          have hmem : ∀ (l : List (Nat × Nat × Nat)) (c' : R3), lastFace pos l v = some c' → v ∈ untriples l := by
            intro l
            induction l with
            | nil => intro c' h; simp [lastFace] at h
            | cons w l ih =>
              intro c' h
              obtain ⟨p, q, r⟩ := w
              simp only [lastFace] at h
              cases hl' : lastFace pos l v with
              | some c'' => simp only [untriples, List.mem_cons]; right; right; right; exact ih c'' hl'
              | none =>
                rw [hl'] at h
                simp only at h
                split at h
                · rename_i hin
                  simp only [untriples, List.mem_cons]
                  rcases hin with rfl | rfl | rfl <;> simp
                · cases h
          have hv_in := hmem ts c' hl
          simp only at hv
          rcases hv with rfl | rfl | rfl
          · exact hnd.1.2.2 hv_in
          · exact hnd.2.1.2 hv_in
          · exact hnd.2.2.1 hv_in
      simp only [hnone, hv, if_true, hc]
    · have ih := lastFace_unwelded pos ts hnd.2.2.2 t ht' v hv c hc
      simp [ih]

/-- **FlatNormals on an unwelded mesh** (index buffer without repetition, e.g. the `0..k-1` of `Unweld`): every corner
    `v` of every triangle `t` gets the normal of its OWN face — `normalize(normalize(c))`, i.e. the unit face normal
    `c/|c|` when the face is non-degenerate — independently of the order in which the triangles are visited. -/
theorem flatNormalAt_unwelded (pos : List R3) (idx : List Nat) (hlen : idx.length % 3 = 0) (hnd : idx.Nodup)
    (t : Nat × Nat × Nat) (ht : t ∈ triples idx) (v : Nat) (hv : t.1 = v ∨ t.2.1 = v ∨ t.2.2 = v)
    (c : R3) (hc : triCross pos t = some c) :
    flatNormalAt pos (triples idx) v = c.Normalized.Normalized ∧
    (c ≠ ⟨0, 0, 0⟩ → flatNormalAt pos (triples idx) v = c.Normalized ∧ (flatNormalAt pos (triples idx) v).Length = 1) := by
  have hnd' : (untriples (triples idx)).Nodup := by rw [untriples_triples idx hlen]; exact hnd
  have hl := lastFace_unwelded pos (triples idx) hnd' t ht v hv c hc
  have h1 : flatNormalAt pos (triples idx) v = c.Normalized.Normalized := by simp [flatNormalAt, hl]
  refine ⟨h1, fun hne => ?_⟩
  obtain ⟨hi, hu⟩ := normalized_idem c hne
  rw [h1, hi]; exact ⟨rfl, hu⟩

example : (List.range 6).Nodup ∧ (List.range 6).length % 3 = 0 := by decide +kernel

end PolyVerif.C03
