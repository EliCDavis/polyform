/-
  C14, PLY from the FILE BYTES: the header text parser of b-ply (`Ply.parseHeader`, proved in
  Props/C04Header.lean: `ply_header_text_roundtrip`, `ply_header_cut_bytes`) composed with the body theorems of
  Props/C14.lean through the bridge `PlyFile.hdrOf`.  The parsed header is no longer a parameter: it is
  computed from the bytes.

  Outside (b-ply's `ClaimOK` / `buildAll`): which PropertyReader claims which vertex property and what a vertex
  record means as mesh attributes.  The records are kept raw here.
-/
import PolyVerif.Props.C14
import PolyVerif.Props.C04Header
import PolyVerif.Model.PlyFile

namespace PolyVerif
namespace C14
open Readers PlyFile
open Ply (Header parseHeader)
open PlyHeader (HeaderOK)

/-! ### the bridge on writer-shaped headers -/

/-- all properties scalar: record size = sum of the sizes -/
theorem vsizeOf_scalars (ps : List (Ply.Bytes × Ply.SType)) :
    vsizeOf (ps.map fun p => Ply.PProp.scalar p.1 p.2) = some (ps.map fun p => p.2.size).sum := by
  induction ps with
  | nil => rfl
  | cons p ps ih => simp only [List.map_cons, vsizeOf, ih, Option.map_some, List.sum_cons]; congr 1; omega

/-- all properties lists: count-field and entry sizes in order -/
theorem listsOf_lists (ps : List (Ply.Bytes × Ply.SType × Ply.SType)) :
    listsOf (ps.map fun p => Ply.PProp.list p.1 p.2.1 p.2.2) =
      some (ps.map fun p => ⟨countSizeOf p.2.1, p.2.2.size⟩) := by
  induction ps with
  | nil => rfl
  | cons p ps ih => simp only [List.map_cons, listsOf, ih, Option.map_some]

/-- a header with one vertex element (scalar properties) and no face element: a point cloud -/
theorem hdrOf_vertex_only (fmt : Ply.Format) (n : Int) (ps : List (Ply.Bytes × Ply.SType)) (cs : List Ply.Bytes) :
    hdrOf ⟨fmt, [⟨Ply.nm "vertex", n, ps.map fun p => .scalar p.1 p.2⟩], cs, []⟩ =
      some ⟨fmtOf fmt, n.toNat, (ps.map fun p => p.2.size).sum, ps.length, none⟩ := by
  have hv : lastElement (Ply.nm "vertex") [⟨Ply.nm "vertex", n, ps.map fun p => Ply.PProp.scalar p.1 p.2⟩] =
      some ⟨Ply.nm "vertex", n, ps.map fun p => .scalar p.1 p.2⟩ := by simp [lastElement]
  have hf : lastElement (Ply.nm "face") [⟨Ply.nm "vertex", n, ps.map fun p => Ply.PProp.scalar p.1 p.2⟩] = none := by
    have : ¬ (Ply.nm "vertex" = Ply.nm "face") := by decide +kernel
    simp [lastElement, this]
  simp only [hdrOf, hv, hf, vsizeOf_scalars, List.length_map]

/-- the header the writer prints for a mesh: vertex element, then the face element with the index list and
    optionally the texcoord list (uchar counts) -/
theorem hdrOf_vertex_face (fmt : Ply.Format) (n m : Int) (ps : List (Ply.Bytes × Ply.SType)) (cs : List Ply.Bytes)
    (tex : Bool) :
    hdrOf ⟨fmt, [⟨Ply.nm "vertex", n, ps.map fun p => .scalar p.1 p.2⟩,
                 ⟨Ply.nm "face", m, .list (Ply.nm "vertex_indices") .uchar .int ::
                    (if tex then [.list (Ply.nm "texcoord") .uchar .float] else [])⟩], cs, []⟩ =
      some ⟨fmtOf fmt, n.toNat, (ps.map fun p => p.2.size).sum, ps.length,
        some ⟨m.toNat, ⟨1, 4⟩ :: (if tex then [⟨1, 4⟩] else []), 0, if tex then some 1 else none⟩⟩ := by
  have hvf : ¬ (Ply.nm "vertex" = Ply.nm "face") := by decide +kernel
  have hfv : ¬ (Ply.nm "face" = Ply.nm "vertex") := by decide +kernel
  have t1 : ¬ (Ply.nm "texcoord" = Ply.nm "vertex_index") := by decide +kernel
  have t2 : ¬ (Ply.nm "texcoord" = Ply.nm "vertex_indices") := by decide +kernel
  have t3 : ¬ (Ply.nm "vertex_indices" = Ply.nm "texcoord") := by decide +kernel
  cases tex <;>
    simp [hdrOf, lastElement, hvf, hfv, t1, t2, t3, vsizeOf_scalars, faceOf, listsOf, lastIdx, isIndexProp, isTexProp,
      countSizeOf, Ply.SType.size, Ply.PProp.name]

/-! ### binary PLY from the file bytes -/

theorem readPlyFile_of_header (L : Lex) (h : Header) (hok : HeaderOK h) (body : List UInt8) :
    readPlyFile L (h.render ++ body) = readAfterHeader L h body := by
  simp only [readPlyFile, C04.ply_header_text_roundtrip h hok body]

/-- a cut inside the header text: `ReadHeader` fails (b-ply's `render_exact`, of which `ply_header_cut_bytes` is the
    strict-prefix half), so does the whole read -/
theorem ply_file_header_cut (L : Lex) (h : Header) (hok : HeaderOK h) (body : List UInt8) (k : Nat)
    (hk : k < h.render.length) :
    readPlyFile L ((h.render ++ body).take k) = .error (.header .err) := by
  simp only [readPlyFile, List.take_append_of_le_length (Nat.le_of_lt hk), (PlyHeader.render_exact h hok).cut_take hk]

/-- **binary PLY, whole file from its bytes**: `file = Header.Write h ++ body`, the header any `HeaderOK` header
    whose bridge `hdrOf h = hd` is a binary format, the body a valid body for `hd` (`BinFile.ok`: `vcount`
    records of `vsize` bytes, then `count` face records in the reference encoding).  The file is read exactly;
    stated for the verdict (`toOption`), since a cut in the header text fails in `ReadHeader` and a cut in the
    body with a short read: two different errors. -/
theorem ply_file_binary_exact (L : Lex) (h : Header) (hok : HeaderOK h) (hd : Hdr) (hb : hdrOf h = some hd)
    (be : Bool) (hfmt : hd.fmt = if be then .be else .le) (x : BinFile) (hx : x.ok hd) :
    Exact .anywhere (fun bs => (readPlyFile L bs).toOption) (h.render ++ x.body be hd)
      (fun _ => some (.bin (x.mesh be hd))) none := by
  have hB := ply_binary_body_exact be hd x hx
  refine .append (fun rest => ?_) (fun d hc => ?_) (fun d hc => ?_)
  · simp only [readPlyFile_of_header L h hok]
    cases be <;> simp only [readAfterHeader, hb, hfmt, hB.full] <;> rfl
  · simp only [readPlyFile, (PlyHeader.render_exact h hok).cut d hc]; rfl
  · simp only [readPlyFile_of_header L h hok]
    cases be <;> simp only [readAfterHeader, hb, hfmt, hB.cut d hc] <;> rfl

/-- the complete file is read back as its records … -/
theorem ply_file_binary_full (L : Lex) (h : Header) (hok : HeaderOK h) (hd : Hdr) (hb : hdrOf h = some hd)
    (be : Bool) (hfmt : hd.fmt = if be then .be else .le) (x : BinFile) (hx : x.ok hd) :
    readPlyFile L (h.render ++ x.body be hd) = .ok (.bin (x.mesh be hd)) :=
  eq_ok_of_toOption (ply_file_binary_exact L h hok hd hb be hfmt x hx).whole

/-- … and EVERY strict prefix of the file — cut anywhere in the header text, at `end_header`, or anywhere in the
    body — is rejected -/
theorem ply_file_binary_prefix_rejected (L : Lex) (h : Header) (hok : HeaderOK h) (hd : Hdr)
    (hb : hdrOf h = some hd) (be : Bool) (hfmt : hd.fmt = if be then .be else .le) (x : BinFile) (hx : x.ok hd)
    (k : Nat) (hk : k < (h.render ++ x.body be hd).length) :
    ∃ e, readPlyFile L ((h.render ++ x.body be hd).take k) = .error e :=
  eq_error_of_toOption ((ply_file_binary_exact L h hok hd hb be hfmt x hx).cut_take hk)

/-- no placeholder: an ok on ANY prefix of the file is the decode of the complete file -/
theorem no_placeholder_ply_file_binary (L : Lex) (h : Header) (hok : HeaderOK h) (hd : Hdr)
    (hb : hdrOf h = some hd) (be : Bool) (hfmt : hd.fmt = if be then .be else .le) (x : BinFile) (hx : x.ok hd)
    (k : Nat) (m : PlyMesh) (hm : readPlyFile L ((h.render ++ x.body be hd).take k) = .ok m) :
    m = .bin (x.mesh be hd) ∧ readPlyFile L (h.render ++ x.body be hd) = .ok m := by
  have := (ply_file_binary_exact L h hok hd hb be hfmt x hx).take k
  simp only [hm] at this
  split at this <;> cases this
  exact ⟨rfl, ply_file_binary_full L h hok hd hb be hfmt x hx⟩

/-! ### ASCII PLY from the file bytes (body text as the writer prints it) -/

/-- the complete ASCII file, with or without its final line feed, is read back as its lines -/
theorem ply_file_ascii_full (L : Lex) (h : Header) (hok : HeaderOK h) (hd : Hdr) (hb : hdrOf h = some hd)
    (hfmt : hd.fmt = .ascii) (init : List (List Tok)) (last : List Tok)
    (hclean : ∀ ts ∈ init ++ [last], ∀ t ∈ ts, CleanTok t) (hlast : last ≠ [])
    (vls fls : List (List Tok)) (hsplit : init ++ [last] = vls ++ fls)
    (hx : AsciiOk L hd (vls.map mkLine) (fls.map mkLine)) :
    readPlyFile L (h.render ++ renderLines (init ++ [last])) =
        .ok (.ascii (asciiMesh L hd (vls.map mkLine) (fls.map mkLine))) ∧
    readPlyFile L (h.render ++ (renderLines init ++ joinSp last)) =
        .ok (.ascii (asciiMesh L hd (vls.map mkLine) (fls.map mkLine))) := by
  obtain ⟨h1, h2⟩ := ply_ascii_bytes_complete init last hclean hlast
  have hfull := ply_ascii_full L hd (vls.map mkLine) (fls.map mkLine) hx
  rw [← List.map_append, ← hsplit] at hfull
  constructor
  · rw [readPlyFile_of_header L h hok]; simp only [readAfterHeader, hb, hfmt, h1, hfull]
  · rw [readPlyFile_of_header L h hok]; simp only [readAfterHeader, hb, hfmt, h2, hfull]

/-- ASCII: the file cut at any token boundary of the body that loses a token — after `j` lines and `t` tokens of
    line `j`, `t` < its count, with or without the separating space (`t = 0`: at the line break) — or anywhere in
    the header, is rejected -/
theorem ply_file_ascii_prefix_rejected (L : Lex) (h : Header) (hok : HeaderOK h) (hd : Hdr) (hb : hdrOf h = some hd)
    (hfmt : hd.fmt = .ascii) (vls fls : List (List Tok))
    (hclean : ∀ ts ∈ vls ++ fls, ∀ t ∈ ts, CleanTok t)
    (hx : AsciiOk L hd (vls.map mkLine) (fls.map mkLine))
    (j : Nat) (hj : j < (vls ++ fls).length) (t : Nat) (ht : t < ((vls ++ fls)[j]).length)
    (sp : Bool) (hsp : sp = true → 0 < t) :
    readPlyFile L (h.render ++ (renderLines ((vls ++ fls).take j) ++
      (joinSp (((vls ++ fls)[j]).take t) ++ (if sp then [32] else [])))) = .error (.body .short) := by
  rw [readPlyFile_of_header L h hok]
  simp only [readAfterHeader, hb, hfmt, ply_ascii_prefix_bytes L hd vls fls hclean hx j hj t ht sp hsp]

/-- ASCII: cut right after the last token of a non-final line (before its line feed) -/
theorem ply_file_ascii_prefix_rejected_eol (L : Lex) (h : Header) (hok : HeaderOK h) (hd : Hdr)
    (hb : hdrOf h = some hd) (hfmt : hd.fmt = .ascii) (vls fls : List (List Tok))
    (hclean : ∀ ts ∈ vls ++ fls, ∀ t ∈ ts, CleanTok t)
    (hx : AsciiOk L hd (vls.map mkLine) (fls.map mkLine))
    (j : Nat) (hj : j + 1 < (vls ++ fls).length) (hne : (vls ++ fls)[j] ≠ []) :
    readPlyFile L (h.render ++ (renderLines ((vls ++ fls).take j) ++ joinSp ((vls ++ fls)[j]))) =
      .error (.body .short) := by
  rw [readPlyFile_of_header L h hok]
  simp only [readAfterHeader, hb, hfmt, ply_ascii_prefix_bytes_eol L hd vls fls hclean hx j hj hne]

/-! ### iteration counts, header scan included -/

theorem headerLoopI_step (s : Ply.HState) (bs line rest : Ply.Bytes) (h : Ply.readLine bs = some (line, rest)) :
    headerLoopI s bs = (match Ply.headerStep s line with
      | .error e => (.error e, 1)
      | .ok (.inr hdr) => (.ok (hdr, rest), 1)
      | .ok (.inl s') => ((headerLoopI s' rest).1, (headerLoopI s' rest).2 + 1)) := by
  rw [headerLoopI]
  split
  · rename_i h'; rw [h] at h'; simp at h'
  · rename_i line' rest' h'
    rw [h] at h'; simp only [Option.some.injEq, Prod.mk.injEq] at h'
    obtain ⟨rfl, rfl⟩ := h'
    rfl

theorem headerLoopI_none (s : Ply.HState) (bs : Ply.Bytes) (h : Ply.readLine bs = none) :
    headerLoopI s bs = (.error .err, 1) := by
  rw [headerLoopI]
  split
  · rfl
  · rename_i l r h'; rw [h] at h'; simp at h'

/-- the instrumented header loop returns `ReadHeader`'s result; every line consumes at least one byte -/
theorem headerLoopI_spec (n : Nat) : ∀ (s : Ply.HState) (bs : Ply.Bytes), bs.length ≤ n →
    (headerLoopI s bs).1 = Ply.headerLoop s bs ∧
    (match (headerLoopI s bs).1 with
     | .ok (_, rest) => (headerLoopI s bs).2 + rest.length ≤ bs.length
     | .error _ => (headerLoopI s bs).2 ≤ bs.length + 1) := by
  induction n with
  | zero =>
    intro s bs hn
    have : bs = [] := List.length_eq_zero_iff.mp (by omega)
    subst this
    have hr : Ply.readLine [] = none := rfl
    rw [headerLoopI_none s [] hr]
    refine ⟨?_, by simp⟩
    rw [Ply.headerLoop]; split
    · rfl
    · rename_i l r h'; rw [hr] at h'; simp at h'
  | succ n ih =>
    intro s bs hn
    cases hr : Ply.readLine bs with
    | none =>
      rw [headerLoopI_none s bs hr]
      refine ⟨?_, by simp⟩
      rw [Ply.headerLoop]; split
      · rfl
      · rename_i l r h'; rw [hr] at h'; simp at h'
    | some x =>
      obtain ⟨line, rest⟩ := x
      have hlt := Ply.readLine_length bs line rest hr
      rw [headerLoopI_step s bs line rest hr, PlyHeader.headerLoop_step s bs line rest hr]
      cases hst : Ply.headerStep s line with
      | error e => exact ⟨rfl, by simp⟩
      | ok r =>
        cases r with
        | inr hdr => refine ⟨rfl, ?_⟩; simp only; omega
        | inl s' =>
          obtain ⟨h1, h2⟩ := ih s' rest (by omega)
          refine ⟨h1, ?_⟩
          simp only
          cases hq : (headerLoopI s' rest).1 with
          | error e => rw [hq] at h2; simp only at h2 ⊢; omega
          | ok y => obtain ⟨hh, r'⟩ := y; rw [hq] at h2; simp only at h2 ⊢; omega

theorem readPlyFileI_fst (L : Lex) (bs : List UInt8) : (readPlyFileI L bs).1 = readPlyFile L bs := by
  have h := (headerLoopI_spec bs.length .init bs (Nat.le_refl _)).1
  simp only [readPlyFileI, readPlyFile, Ply.parseHeader, ← h]
  cases (headerLoopI .init bs).1 with
  | error e => rfl
  | ok x =>
    obtain ⟨hd, body⟩ := x
    simp only [readAfterHeader]
    cases hdrOf hd with
    | none => rfl
    | some hh =>
      simp only
      cases hh.fmt with
      | ascii => simp only [readPlyAsciiBytesI_fst]
      | le => simp only [readPlyBinBodyI_fst]
      | be => simp only [readPlyBinBodyI_fst]

/-- **PLY, the whole read from the file bytes, header scan included**: the instrumented reader returns
    `readPlyFile`'s result, and its total iteration count — header lines + body iterations — is linear in the
    number of bytes, for ALL inputs, provided a binary vertex record is not empty (a header declaring `count`
    vertices of ZERO properties makes the binary vertex loop — in the model as in reader.go:516-525 — run
    `count` iterations that consume nothing: not bounded by the input) -/
theorem reader_steps_linear_ply_file (L : Lex) (bs : List UInt8)
    (hv : ∀ h body hd, parseHeader bs = .ok (h, body) → hdrOf h = some hd → hd.fmt ≠ .ascii → 1 ≤ hd.vsize) :
    (readPlyFileI L bs).1 = readPlyFile L bs ∧ (readPlyFileI L bs).2 ≤ 9 * bs.length + 10 := by
  refine ⟨readPlyFileI_fst L bs, ?_⟩
  obtain ⟨h1, h2⟩ := headerLoopI_spec bs.length .init bs (Nat.le_refl _)
  simp only [readPlyFileI]
  cases hq : (headerLoopI .init bs).1 with
  | error e => rw [hq] at h2; simp only at h2 ⊢; omega
  | ok x =>
    obtain ⟨hd, body⟩ := x
    rw [hq] at h2; simp only at h2 ⊢
    have hp : parseHeader bs = .ok (hd, body) := by rw [Ply.parseHeader, ← h1, hq]
    cases hb : hdrOf hd with
    | none => simp only; omega
    | some hh =>
      simp only
      cases hf : hh.fmt with
      | ascii =>
        have := readPlyAsciiBytesI_bound L hh body
        simp only; omega
      | le =>
        have := readPlyBinBodyI_bound hh false body (hv hd body hh hp hb (by rw [hf]; decide))
        simp only; omega
      | be =>
        have := readPlyBinBodyI_bound hh true body (hv hd body hh hp hb (by rw [hf]; decide))
        simp only; omega

/-! ### a concrete file satisfying the hypotheses -/

section example_file

def exFileHeader : Header :=
  ⟨.le, [⟨Ply.nm "vertex", 1, [.scalar (Ply.nm "x") .float, .scalar (Ply.nm "y") .float, .scalar (Ply.nm "z") .float]⟩,
         ⟨Ply.nm "face", 1, [.list (Ply.nm "vertex_indices") .uchar .int]⟩], [Ply.nm "made by hand"], []⟩

example : hdrOf exFileHeader = some exHdrBin := by
  have := hdrOf_vertex_face .le 1 1 [(Ply.nm "x", .float), (Ply.nm "y", .float), (Ply.nm "z", .float)]
    [Ply.nm "made by hand"] false
  simpa [exFileHeader, exHdrBin, fmtOf, Ply.SType.size] using this

open PlyHeader in
example : HeaderOK exFileHeader := by
  refine ⟨rfl, ?_, ?_⟩
  · intro c hc
    simp only [exFileHeader, List.mem_singleton] at hc; subst hc
    exact ⟨by decide +kernel, by decide +kernel⟩
  · intro e he
    simp only [exFileHeader, List.mem_cons, List.not_mem_nil, or_false] at he
    rcases he with rfl | rfl
    · refine ⟨by decide +kernel, by decide +kernel, by decide +kernel, by decide +kernel, ?_⟩
      intro p hp
      simp only [List.mem_cons, List.not_mem_nil, or_false] at hp
      rcases hp with rfl | rfl | rfl <;> (show Tok _; decide)
    · refine ⟨by decide +kernel, by decide +kernel, by decide +kernel, by decide +kernel, ?_⟩
      intro p hp
      simp only [List.mem_singleton] at hp; subst hp
      exact ⟨by decide +kernel, by decide +kernel⟩

end example_file

end C14
end PolyVerif
