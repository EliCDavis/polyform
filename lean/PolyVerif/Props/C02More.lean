/-
  C02 — well-formedness is preserved by
  `ScaleAttributeAlongNormal`, `ScaleAttribute2D`, `NormalizeAttribute2D`, `CopyFloatNAttribute` (under exactly the
  guard it needs — it is `SetFloatNAttribute` with the source's array, delete-on-missing included).
  Models: `Model/MeshMore.lean`; the drivers answer `c02.op.{scalealongnormal,scale2d,normalize2d,copyattr}` through
  these very definitions (result shape, rejection must coincide) and `c02.holds.wf` is evaluated on every result.
-/
import PolyVerif.Props.C02
import PolyVerif.Model.MeshMore

namespace PolyVerif.C02
open PolyVerif PolyVerif.Gen PolyVerif.Mesh PolyVerif.Mesh.MeshVal

variable {α : Type} {s : Type} [Scalar s]

/-- `ScaleAttributeAlongNormal` on a well-formed mesh returns a well-formed mesh (one value per vertex is written) -/
theorem scaleAlongNormal_wf {m m' : MeshVal (List s)} (h : WF m) {a n : String} {amount : s}
    (hm : m.scaleAlongNormal a n amount = some m') : WF m' := by
  obtain ⟨pd, nd, hp, hn, _, rfl⟩ := scaleAlongNormal_eq hm
  exact MeshVal.setAttr_wf h _ _ (Or.inl (by simp [attr?_length h hp, attr?_length h hn]))

/-- non-vacuity: the operation succeeds on a well-formed cloud with both attributes -/
example : ∃ m', (⟨.point, [0, 1], [], [(⟨3, "Position"⟩, [[1, 2, 3], [4, 5, 6]]), (⟨3, "Normal"⟩, [[0, 0, 1], [1, 0, 0]])]⟩ :
    MeshVal (List Float)).scaleAlongNormal "Position" "Normal" 0.5 = some m' := ⟨_, rfl⟩

/-- `ScaleAttributeAlongNormalNodeData.Process` never fails on a well-formed (or absent) input and always returns a
    well-formed mesh: the empty triangle mesh when something is missing, the offset mesh otherwise. -/
theorem scaleAlongNormalNode_total (m : Option (MeshVal (List s))) (h : ∀ x, m = some x → WF x)
    (attr nrm : Option String) (amount : Option s) :
    ∃ m', MeshVal.scaleAlongNormalNode m attr nrm amount = some m' ∧ WF m' := by
  have hE : WF (MeshVal.empty .triangle : MeshVal (List s)) := MeshVal.empty_wf _
  cases m with
  | none => exact ⟨_, rfl, hE⟩
  | some x =>
    simp only [MeshVal.scaleAlongNormalNode]
    cases h1 : x.hasAttr ⟨3, attr.getD "Position"⟩
    · exact ⟨_, by simp, hE⟩
    · cases h2 : x.hasAttr ⟨3, nrm.getD "Normal"⟩
      · exact ⟨_, by simp, hE⟩
      · obtain ⟨pd, hp⟩ := Option.isSome_iff_exists.mp h1
        obtain ⟨nd, hn⟩ := Option.isSome_iff_exists.mp h2
        have hr := scaleAlongNormal_of_wf (h x rfl) hp hn (amount.getD ((0 : Nat) : s))
        exact ⟨_, by simpa using hr, scaleAlongNormal_wf (h x rfl) hr⟩

/-- `CropAttribute3DNodeData.Process`: well-formed in ⇒ well-formed out (with or without a box) -/
theorem cropNode_wf {m m' : MeshVal α} (h : WF m) {attr : Option String} {inside : Option (α → Bool)}
    (hm : m.cropNode attr inside = some m') : WF m' := by
  cases inside with
  | none => cases hm; exact h
  | some p => exact crop_wf h hm

/-- the thin node wrappers of translate / rotate / scale: WF in ⇒ WF out (rotate: also without a mesh input) -/
theorem thinNodes_wf {m m' : MeshVal (List s)} (h : WF m) (attr : Option String) :
    (∀ t, m.translateNode attr t = some m' → WF m') ∧
    (∀ q, MeshVal.rotateNode (some m) attr q = some m' → WF m') ∧
    (∀ q, MeshVal.rotateNode (none : Option (MeshVal (List s))) attr q = some m' → WF m') ∧
    (∀ o a, m.scaleNode attr o a = some m' → WF m') := by
  refine ⟨fun t hm => MeshVal.mapAttr_wf h hm, fun q hm => MeshVal.mapAttr_wf h hm, ?_, fun o a hm => MeshVal.mapAttr_wf h hm⟩
  intro q hm
  cases hm
  exact MeshVal.empty_wf _

/-- `VertexColorSpace` and its Transformer (any transfer functions, any enum value, skip flag) -/
theorem vertexColorSpace_wf {g0 g1 : s → s} {m m' : MeshVal (List s)} (h : WF m) {n : String} {mode : Nat} :
    (m.vertexColorSpace g0 g1 n mode = some m' → WF m') ∧
    (∀ skip, m.vertexColorSpaceT g0 g1 n skip mode = some m' → WF m') := by
  refine ⟨fun hm => MeshVal.mapAttr_wf h hm, fun skip hm => ?_⟩
  unfold vertexColorSpaceT at hm
  split at hm
  · exact MeshVal.mapAttr_wf h hm
  · split at hm
    · cases hm; exact h
    · cases hm

/-- `ScaleAttribute2D` -/
theorem scale2D_wf {m m' : MeshVal (List s)} (h : WF m) {n : String} {o a : V2 s}
    (hm : m.scale2D n o a = some m') : WF m' := MeshVal.mapAttr_wf h hm

/-- `NormalizeAttribute2D` -/
theorem normalize2D_wf {m m' : MeshVal (List s)} (h : WF m) {init : s} {mx : s → s → s} {n : String}
    (hm : MeshVal.normalize2D init mx m n = some m') : WF m' :=
  MeshVal.modifyAttr_wf h (fun d => by simp) hm

/-- `CopyFloatNAttribute(src, k)` with a non-empty source array of the receiver's vertex count (or onto a mesh without
    attributes): well-formed.  Go does not check this — a caller-checked builder like `SetFloatNAttribute`. -/
theorem copyAttr_wf {m src : MeshVal α} (h : WF m) {k : AttrKey} {d : List α} (hd : src.attr? k = some d)
    (hl : d.length = m.attrLen ∨ m.attrs = []) : WF (m.copyAttr src k) := by
  unfold copyAttr; rw [hd]; exact MeshVal.setAttr_wf h k d hl

/-- copying a key the source does not have DELETES it in the receiver: well-formed when another array remains or
    there is no index (the guard of `setAttr_delete_wf`) -/
theorem copyAttr_missing_wf {m src : MeshVal α} (h : WF m) {k : AttrKey} (hd : src.attr? k = none)
    (hk : (∃ kd ∈ m.attrs, kd.1 ≠ k) ∨ m.indices = []) : WF (m.copyAttr src k) := by
  unfold copyAttr; rw [hd]; exact MeshVal.setAttr_delete_wf h k hk

example : WF (sample.copyAttr sample ⟨1, "Class"⟩) ∧ WF (sample.copyAttr (MeshVal.empty .point) ⟨1, "Class"⟩) ∧
    ¬ WF ((⟨.point, [0], [], [(⟨1, "A"⟩, [5])]⟩ : MeshVal Nat).copyAttr (MeshVal.empty .point) ⟨1, "A"⟩) := by decide +kernel

end PolyVerif.C02
