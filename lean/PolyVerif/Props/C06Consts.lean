/-
  C06 — the numeric constants of the glTF writer model ARE the constants of the source (engine F tie, regenerated on
  every run).

  `PolyVerif/Gen/GltfConsts.lean` is regenerated by `./check C06` from /repo/formats/gltf/{accessor,structure,mesh,writer}.go
  (go/facts mode c06.consts): the accessor component type codes, the arms of `AccessorComponentType.Size()`, the buffer view
  target codes, the primitive mode codes and, for every buffer-view literal in writer.go, which target constant the enclosing
  writer function uses.  Every C06 theorem is stated about `PolyVerif/Model/Gltf.lean`; the theorems below prove its
  `Comp.code`, `Comp.size`, the literal targets 34962 / 34963 of `writeVec` / `writeIndices` and the POINTS mode 0 equal to
  what is regenerated.  A changed code or size, or an index buffer view written with the vertex target, breaks a named theorem
  before any sample runs.  (Core Lean only.)
-/
import PolyVerif.Model.Gltf
import PolyVerif.Gen.GltfConsts

namespace PolyVerif
namespace C06
open Gltf
open PolyVerif.Gen

/-- the Go constant the model's component type stands for -/
def compConst : Comp → String
  | .u8 => "AccessorComponentType_UNSIGNED_BYTE" | .u16 => "AccessorComponentType_UNSIGNED_SHORT"
  | .u32 => "AccessorComponentType_UNSIGNED_INT" | .f32 => "AccessorComponentType_FLOAT"

def allComps : List Comp := [.u8, .u16, .u32, .f32]

theorem allComps_complete (c : Comp) : c ∈ allComps := by cases c <;> simp [allComps]

/-- `Comp.code` is the value of the Go constant, and `Comp.ofCode?` inverts it on the written codes -/
theorem comp_code_from_source :
    ∀ c ∈ allComps, GltfConsts.componentTypes.lookup (compConst c) = some c.code ∧ Comp.ofCode? c.code = some c := by
  decide +kernel

/-- `Comp.size` is the `return N` of the arm of `Size()` that lists the constant; each constant is in exactly one arm -/
theorem comp_size_from_source :
    ∀ c ∈ allComps,
      (GltfConsts.componentSizeCases.filter (fun a => a.1.contains (compConst c))).map (·.2) = [c.size] := by decide +kernel

/-- the vertex-data writers use ARRAY_BUFFER = 34962 and the index writer ELEMENT_ARRAY_BUFFER = 34963: the literals of
    `writeVec` / `writeIndices` -/
theorem view_targets_from_source :
    GltfConsts.bufferTargets.lookup "ARRAY_BUFFER" = some 34962 ∧
    GltfConsts.bufferTargets.lookup "ELEMENT_ARRAY_BUFFER" = some 34963 ∧
    GltfConsts.targetUses =
      [("WriteVector4", "ARRAY_BUFFER"), ("WriteVector3", "ARRAY_BUFFER"), ("WriteVector2", "ARRAY_BUFFER"),
       ("WriteIndices", "ELEMENT_ARRAY_BUFFER")] := ⟨rfl, rfl, rfl⟩

/-- the targets the model writes, stated on the model: every view `writeVec` appends has target 34962, every view
    `writeIndices` appends has target 34963 -/
theorem model_view_targets (w : W) (comp : Comp) (dim : Nat) (vecs : List (List Nat)) (idx : List Nat) (n : Nat) :
    ((writeVec w comp dim vecs).views.getLast?.map (·.target)) = some 34962 ∧
    ((writeIndices w idx n).views.getLast?.map (·.target)) = some 34963 := by
  simp [writeVec, writeIndices]

/-- POINTS is mode 0 and TRIANGLES (the default when `mode` is omitted) is mode 4 -/
theorem primitive_modes_from_source :
    GltfConsts.primitiveModes.lookup "PrimitiveMode_POINTS" = some 0 ∧
    GltfConsts.primitiveModes.lookup "PrimitiveMode_TRIANGLES" = some 4 := ⟨rfl, rfl⟩

end C06
end PolyVerif
