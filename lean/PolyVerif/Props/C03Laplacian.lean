/-
  C03 — LaplacianSmooth over ℝ (model `lapSweep` / `lapIter` of `Model/MeshTransforms.lean`, mirroring
  meshops/laplacian_smoothing.go:33-61 and modeling/vertex_lut.go).

  What the code does: `iterations` sweeps; in a sweep the vertices are visited in ascending index order and each
  vertex is overwritten IN PLACE by  v + factor · (mean(current values of its neighbours) − v),  so later vertices
  see the already-updated earlier ones (Gauss–Seidel, not Jacobi).  The neighbours of a vertex are a SET
  (`VertexLUT` = map of maps): the Go loop enumerates them in map order and adds them up one by one.
  Proved here: that enumeration order is irrelevant in exact arithmetic (`laplacian_order_independent`), the value
  written is the stated affine combination (`lapUpdate_value`), the neighbour list of the model is exactly the set
  of vertices sharing an edge, without repetition (`neighbours_mem`, `neighbours_nodup`).  What REMAINS order
  dependent is the vertex visiting order of the in-place sweep (fixed: ascending) — see the example at the end.
-/
import PolyVerif.Props.C03Normals

namespace PolyVerif.C03
open PolyVerif PolyVerif.Gen PolyVerif.Mesh PolyVerif.Mesh.MeshVal
open Classical

noncomputable def valOr0 (vs : List R3) (vn : Nat) : R3 := match vs[vn]? with | some x => x | none => ⟨0, 0, 0⟩

/-- the running sum of the Go loop `for vn := range lut.Lookup(vi) { sum = sum.Add(vertices[vn]) }`
    (a neighbour index without a vertex cannot occur on a well-formed mesh; it would add nothing) -/
noncomputable def nbSum (vs : List R3) (nb : List Nat) : R3 :=
  nb.foldl (fun acc vn => acc.Add (valOr0 vs vn)) V3.Zero

/-- the neighbour sum is the (order-free) sum of the neighbours' current values -/
theorem nbSum_eq (vs : List R3) (nb : List Nat) : nbSum vs nb = sumV (nb.map (valOr0 vs)) := by
  unfold nbSum; rw [foldl_add_sumV]; ext <;> simp [V3.Add, V3.Zero]

theorem nbSum_perm (vs : List R3) {nb nb' : List Nat} (h : nb.Perm nb') : nbSum vs nb = nbSum vs nb' := by
  rw [nbSum_eq, nbSum_eq, sumV_perm (h.map _)]

/-- the value written for a vertex: `v + factor · (sum / count − v)` -/
noncomputable def lapUpdate (vs : List R3) (nb : List Nat) (factor : ℝ) (vertex : R3) : R3 :=
  vertex.Add ((((nbSum vs nb).DivByConstant ((nb.length : Nat) : ℝ)).Sub vertex).Scale factor)

/-- `lapSweep` with the neighbour list of vertex `v` given by `nbOf v` (any enumeration of the set) -/
noncomputable def lapSweepWith (nbOf : Nat → List Nat) (factor : ℝ) (vs : List R3) : Nat → List R3
  | 0 => vs
  | k + 1 =>
    let cur := lapSweepWith nbOf factor vs k
    match cur[k]? with
    | none => cur
    | some vertex => cur.set k (lapUpdate cur (nbOf k) factor vertex)

noncomputable def lapIterWith (nbOf : Nat → List Nat) (factor : ℝ) : Nat → List R3 → List R3
  | 0, vs => vs
  | n + 1, vs => lapIterWith nbOf factor n (lapSweepWith nbOf factor vs vs.length)

/-- the model's sweep is the sweep with the ascending enumeration `neighbours es` -/
theorem lapSweep_eq_with (es : List (Nat × Nat)) (factor : ℝ) (vs : List R3) :
    ∀ k, lapSweep es factor vs k = lapSweepWith (neighbours es) factor vs k
  | 0 => rfl
  | k + 1 => by
    simp only [lapSweep, lapSweepWith, lapSweep_eq_with es factor vs k]
    cases (lapSweepWith (neighbours es) factor vs k)[k]? with
    | none => rfl
    | some vertex =>
      simp only [lapUpdate, nbSum]
      congr! 7
      rename_i acc
      funext vn
      unfold valOr0
      generalize (lapSweepWith (neighbours es) factor vs k)[vn]? = o
      cases o
      · ext <;> simp [V3.Add]
      · rfl

theorem lapIter_eq_with (es : List (Nat × Nat)) (factor : ℝ) : ∀ (n : Nat) (vs : List R3),
    lapIter es factor n vs = lapIterWith (neighbours es) factor n vs
  | 0, _ => rfl
  | n + 1, vs => by simp only [lapIter, lapIterWith, lapSweep_eq_with, lapIter_eq_with es factor n]

theorem lapUpdate_perm (vs : List R3) {nb nb' : List Nat} (h : nb.Perm nb') (factor : ℝ) (vertex : R3) :
    lapUpdate vs nb factor vertex = lapUpdate vs nb' factor vertex := by
  unfold lapUpdate; rw [nbSum_perm vs h, h.length_eq]

theorem lapSweepWith_perm {nbOf nbOf' : Nat → List Nat} (h : ∀ v, (nbOf v).Perm (nbOf' v)) (factor : ℝ) (vs : List R3) :
    ∀ k, lapSweepWith nbOf factor vs k = lapSweepWith nbOf' factor vs k
  | 0 => rfl
  | k + 1 => by
    simp only [lapSweepWith, lapSweepWith_perm h factor vs k]
    cases (lapSweepWith nbOf' factor vs k)[k]? with
    | none => rfl
    | some vertex => simp only [lapUpdate_perm _ (h k)]

/-- **laplacian_order_independent**: however each vertex's neighbour set is enumerated (Go: map iteration order;
    model: ascending), every sweep and every number of iterations gives the same positions in exact arithmetic. -/
theorem laplacian_order_independent {nbOf nbOf' : Nat → List Nat} (h : ∀ v, (nbOf v).Perm (nbOf' v)) (factor : ℝ) :
    ∀ (n : Nat) (vs : List R3), lapIterWith nbOf factor n vs = lapIterWith nbOf' factor n vs
  | 0, _ => rfl
  | n + 1, vs => by
    simp only [lapIterWith, lapSweepWith_perm h, laplacian_order_independent h factor n]

/-- in particular for the model: any enumeration of `neighbours es v` -/
theorem lapIter_any_enumeration (es : List (Nat × Nat)) (factor : ℝ) (nbOf : Nat → List Nat)
    (h : ∀ v, (nbOf v).Perm (neighbours es v)) (n : Nat) (vs : List R3) :
    lapIter es factor n vs = lapIterWith nbOf factor n vs := by
  rw [lapIter_eq_with]; exact (laplacian_order_independent h factor n vs).symm

/-- the written value is the affine combination `(1 − factor)·v + factor·mean` of the vertex and the mean of the
    current values of its neighbours -/
theorem lapUpdate_value (vs : List R3) (nb : List Nat) (factor : ℝ) (vertex : R3) :
    lapUpdate vs nb factor vertex =
      (vertex.Scale (1 - factor)).Add (((sumV (nb.map (valOr0 vs))).DivByConstant (nb.length : ℝ)).Scale factor) := by
  unfold lapUpdate; rw [nbSum_eq]
  ext <;> simp [V3.Add, V3.Sub, V3.Scale, V3.DivByConstant] <;> ring

/-- **the Laplacian value as far as it transfers to the Go code**: for a vertex WITH at least one neighbour the written value
    is `(1 − f)·v + f·mean(neighbours)`. For a vertex without neighbours (an unreferenced vertex — explicitly inside the C03
    quantifier) NO claim is made here: Go computes `sum / 0 = NaN` and writes NaN (float only; covered by the correspondence
    and the corpus case `lap:neighbourless`), while over ℝ `x/0 = 0` would give `(1−f)·v`. -/
theorem lapUpdate_value_with_neighbours (vs : List R3) (nb : List Nat) (hnb : nb ≠ []) (factor : ℝ) (vertex : R3) :
    (nb.length : ℝ) ≠ 0 ∧
    lapUpdate vs nb factor vertex =
      (vertex.Scale (1 - factor)).Add (((sumV (nb.map (valOr0 vs))).DivByConstant (nb.length : ℝ)).Scale factor) := by
  refine ⟨?_, lapUpdate_value vs nb factor vertex⟩
  have : 0 < nb.length := List.length_pos_iff.mpr hnb
  exact_mod_cast this.ne'

/-- **laplacian_spec (recurrence)**: vertex `k` is replaced by `lapUpdate` evaluated on the list in which the
    vertices `0 … k-1` have ALREADY been replaced in this sweep; vertices `> k` still hold the values of the
    previous sweep -/
theorem lapSweepWith_succ (nbOf : Nat → List Nat) (factor : ℝ) (vs : List R3) (k : Nat) (hk : k < vs.length) :
    ∃ vertex, (lapSweepWith nbOf factor vs k)[k]? = some vertex ∧
      lapSweepWith nbOf factor vs (k + 1) =
        (lapSweepWith nbOf factor vs k).set k (lapUpdate (lapSweepWith nbOf factor vs k) (nbOf k) factor vertex) := by
  have hlen : ∀ j, (lapSweepWith nbOf factor vs j).length = vs.length := by
    intro j
    induction j with
    | zero => rfl
    | succ j ih =>
      simp only [lapSweepWith]
      cases (lapSweepWith nbOf factor vs j)[j]? <;> simp [ih]
  have : k < (lapSweepWith nbOf factor vs k).length := by rw [hlen]; exact hk
  refine ⟨_, List.getElem?_eq_getElem this, ?_⟩
  simp only [lapSweepWith, List.getElem?_eq_getElem this]

/-- vertices not yet visited in this sweep are untouched -/
theorem lapSweepWith_untouched (nbOf : Nat → List Nat) (factor : ℝ) (vs : List R3) :
    ∀ (k j : Nat), k ≤ j → (lapSweepWith nbOf factor vs k)[j]? = vs[j]?
  | 0, _, _ => rfl
  | k + 1, j, hkj => by
    simp only [lapSweepWith]
    have ih := lapSweepWith_untouched nbOf factor vs k
    cases hc : (lapSweepWith nbOf factor vs k)[k]? with
    | none => simp only []; exact ih j (by omega)
    | some vertex =>
      simp only []
      rw [List.getElem?_set_ne (by omega)]
      exact ih j (by omega)

theorem mem_insertSorted (x y : Nat) : ∀ (l : List Nat), x ∈ insertSorted y l ↔ x = y ∨ x ∈ l
  | [] => by simp [insertSorted]
  | z :: zs => by
    simp only [insertSorted]
    split
    · simp
    · split
      · rename_i h1 h2; subst h2; simp
      · simp only [List.mem_cons, mem_insertSorted x y zs]
        constructor
        · rintro (h | h | h) <;> simp [h]
        · rintro (h | h | h) <;> simp [h]

theorem insertSorted_sorted (y : Nat) : ∀ (l : List Nat), l.Pairwise (· < ·) → (insertSorted y l).Pairwise (· < ·)
  | [], _ => by simp [insertSorted]
  | z :: zs, h => by
    simp only [insertSorted]
    have hz := List.pairwise_cons.mp h
    split
    · rename_i hyz
      refine List.pairwise_cons.mpr ⟨?_, h⟩
      intro a ha
      rcases List.mem_cons.mp ha with rfl | ha
      · exact hyz
      · exact lt_trans hyz (hz.1 a ha)
    · split
      · exact h
      · rename_i h1 h2
        refine List.pairwise_cons.mpr ⟨?_, insertSorted_sorted y zs hz.2⟩
        intro a ha
        rcases (mem_insertSorted a y zs).mp ha with rfl | ha
        · omega
        · exact hz.1 a ha

/-- the model's neighbour list of `v`: exactly the vertices joined to `v` by an edge (in either direction) -/
theorem neighbours_mem (es : List (Nat × Nat)) (v vn : Nat) :
    vn ∈ neighbours es v ↔ ∃ e ∈ es, (e.1 = v ∧ e.2 = vn) ∨ (e.2 = v ∧ e.1 = vn) := by
  unfold neighbours
  suffices hgen : ∀ (l : List (Nat × Nat)) (acc : List Nat),
      vn ∈ l.foldl (fun acc e => if e.1 = v then insertSorted e.2 acc else if e.2 = v then insertSorted e.1 acc else acc) acc ↔
        vn ∈ acc ∨ ∃ e ∈ l, (e.1 = v ∧ e.2 = vn) ∨ (e.2 = v ∧ e.1 = vn) by
    simpa using hgen es []
  intro l
  induction l with
  | nil => intro acc; simp
  | cons e l ih =>
    intro acc
    simp only [List.foldl_cons, ih, List.mem_cons, exists_eq_or_imp]
    by_cases h1 : e.1 = v
    · simp only [h1, if_true, mem_insertSorted, true_and]
      constructor
      · rintro ((h | h) | h)
        · right; left; left; exact h.symm
        · left; exact h
        · right; right; exact h
      · rintro (h | (h | h) | h)
        · left; right; exact h
        · left; left; exact h.symm
        · left; left; omega
        · right; exact h
    · by_cases h2 : e.2 = v
      · simp only [h1, if_false, h2, if_true, mem_insertSorted, false_and, true_and, false_or]
        constructor
        · rintro ((h | h) | h)
          · right; left; exact h.symm
          · left; exact h
          · right; right; exact h
        · rintro (h | h | h)
          · left; right; exact h
          · left; left; exact h.symm
          · right; exact h
      · simp [h1, h2]

/-- … each exactly once: `lut.Count(v)` is the number of DISTINCT neighbours -/
theorem neighbours_nodup (es : List (Nat × Nat)) (v : Nat) : (neighbours es v).Nodup := by
  have : (neighbours es v).Pairwise (· < ·) := by
    unfold neighbours
    suffices hgen : ∀ (l : List (Nat × Nat)) (acc : List Nat), acc.Pairwise (· < ·) →
        (l.foldl (fun acc e => if e.1 = v then insertSorted e.2 acc else if e.2 = v then insertSorted e.1 acc else acc) acc).Pairwise (· < ·) from
      hgen es [] List.Pairwise.nil
    intro l
    induction l with
    | nil => intro acc h; exact h
    | cons e l ih =>
      intro acc h
      simp only [List.foldl_cons]
      apply ih
      split
      · exact insertSorted_sorted _ _ h
      · split
        · exact insertSorted_sorted _ _ h
        · exact h
  exact this.imp (fun h => Nat.ne_of_lt h)

/-- a vertex `v` that is a corner of an index triple has a neighbour; an index triple `(v, v, w)` makes `v` its OWN neighbour
    (Go's `Link(v, v)` and the model agree) -/
theorem neighbours_ne_nil_of_edge (es : List (Nat × Nat)) (v w : Nat) (h : (v, w) ∈ es ∨ (w, v) ∈ es) :
    neighbours es v ≠ [] := by
  have : w ∈ neighbours es v := by
    rw [neighbours_mem]
    rcases h with h | h
    · exact ⟨(v, w), h, Or.inl ⟨rfl, rfl⟩⟩
    · exact ⟨(w, v), h, Or.inr ⟨rfl, rfl⟩⟩
  intro hn; rw [hn] at this; simp at this

example : neighbours [(3, 3), (3, 5)] 3 = [3, 5] := by decide +kernel

/-- **laplacian_spec**: the operation rewrites only the smoothed attribute (frame: `laplacian_frame`), and the new
    array is `lapIter` — `iterations` in-place ascending sweeps — of the old positions, for ANY enumeration of the
    neighbour sets (`lapIter_any_enumeration`). `none` = attribute missing or topology without a neighbour table. -/
theorem laplacian_spec {m m' : MeshVal (List ℝ)} {name : String} {iters : Nat} {factor : ℝ}
    (hm : m.laplacian name iters factor = some m') :
    ∃ es d, m.edges = some es ∧ m.attr? ⟨3, name⟩ = some d ∧
      (d.all (fun p => (v3? p).isSome) = true →
        m' = m.setAttr ⟨3, name⟩ ((lapIter es factor iters (d.filterMap v3?)).map ofV3)) := by
  obtain ⟨es, hes, hm⟩ := laplacian_eq hm
  obtain ⟨d, hd, rfl⟩ := modifyAttr_eq hm
  exact ⟨es, d, hes, hd, fun hall => by simp [hall]⟩

/-- the vertex visiting order DOES matter (in-place sweep): on the edge 0–1 with factor 1, vertex 0 moves onto
    vertex 1 and then vertex 1 "moves" onto the new vertex 0 — both end at (1,0,0); a simultaneous (Jacobi) update
    would have swapped them -/
example : lapSweepWith (fun v => if v = 0 then [1] else [0]) 1 [⟨0, 0, 0⟩, ⟨1, 0, 0⟩] 2 = [⟨1, 0, 0⟩, ⟨1, 0, 0⟩] := by
  simp [lapSweepWith, lapUpdate, nbSum, valOr0, V3.Add, V3.Sub, V3.Scale, V3.DivByConstant, V3.Zero]

end PolyVerif.C03
