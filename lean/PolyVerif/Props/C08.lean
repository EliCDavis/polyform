/-
  C08 — PLY files written by other tools load to what the specification says.

  `PlySpec.SpecFile` describes any file of the property's grammar (any permutation of the vertex properties, alias
  spellings, extra unrecognised scalars, comment / obj_info lines, LF / CRLF header lines, list count type
  uchar|int|uint, index type int|uint, triangles and quads, three encodings); `PlySpec.refEncode` is a reference
  encoder written from the specification and `PlySpec.meaning` the mesh the file denotes.  The `c08` stream checks on
  every run that (1) an independent Go reference encoder produces the same bytes as `refEncode`, (2) the real
  `ply.ReadMesh` and the model reader agree on those bytes, (3) the implementation's result equals `meaning f`.

  This file (for ALL inputs, ARBITRARY coding — the bundle has no laws, statements are about decode∘encode): scalar-reader
  location arithmetic (binary prefix sums / ASCII column) for any property order; over the REFERENCE encoding (`Datum.bin`,
  `specBody`) decoding at the header-computed offset yields the i-th datum, = `Datum.val` for representable data, and the
  whole binary vertex block under the reader's vertex loop for any located readers; the vector claim scan `buildVec` (any
  permutation, uniform type) and the reader an unrecognised property gets through `addUnclaimed`; LF / CRLF header lines;
  quad / triangle emission with per-corner UVs, rejection of other list sizes; counterexamples (general with `≠` under the
  stated inequality, and concrete): mixed-type group, ASCII `int` through float32, ASCII uchar scalar not normalised.
  The composed statements from file bytes are in C08Compose (point clouds, header text), C08Mesh / C08MeshAscii /
  C08MeshTex / C08MeshTexAscii (face elements) and C08Claim / C08ClaimAscii (claim stage); the full statement
  `ply_reads_spec_full` stays a `def … : Prop` (missing: the claim stage for interleaved groups, attributes = `meaning`).
-/
import PolyVerif.Model.Ply
import PolyVerif.Model.PlySpec
import PolyVerif.Lemmas.Ply

namespace PolyVerif
namespace C08
open Ply PlySpec PlyLemmas

variable {α : Type}

/-! ### offsets from header order, any permutation -/

/-- binary: the byte offset the reader computes for the property at header position `i` is the sum of the sizes of
the properties before it in HEADER order (whatever that order is) -/
theorem ply_offset_is_prefix_sum (attr name : Bytes) (props : List (Bytes × SType)) (i : Nat) (hi : i < props.length)
    (hname : props[i].1 = name) (hfirst : ∀ j (hj : j < i), (props[j]'(by omega)).1 ≠ name) :
    buildV1 true props attr name =
      some ⟨attr, [name], [((props.take i).map (fun p => p.2.size)).sum], some props[i].2⟩ := by
  have := buildV1_spec true attr name props i hi hname hfirst
  simpa [locOf, stride] using this

/-- ASCII: the column is the header position -/
theorem ply_column_is_header_index (attr name : Bytes) (props : List (Bytes × SType)) (i : Nat) (hi : i < props.length)
    (hname : props[i].1 = name) (hfirst : ∀ j (hj : j < i), (props[j]'(by omega)).1 ≠ name) :
    buildV1 false props attr name = some ⟨attr, [name], [i], none⟩ := by
  have := buildV1_spec false attr name props i hi hname hfirst
  simpa [locOf_ascii props i (by omega)] using this

example : buildV1 true [(nm "b", .uchar), (nm "w", .double), (nm "a", .int)] (nm "a") (nm "a")
    = some ⟨nm "a", [nm "a"], [9], some .int⟩ := by decide +kernel

/-! ### the reference encoding under the reader (binary, both byte orders)

These are about `PlySpec.refEncode`'s own field layout (`Datum.bin`, `specBody`) — NOT about the library writer's model. -/

/-- vertex `i` carries exactly the value of record `i`, one field: whatever the order and types of the properties,
decoding the REFERENCE-encoded record at the offset computed from the header types yields the `i`-th datum -/
theorem ply_spec_field_any_layout (c : Coding α) (e : Endian) (dim : Nat) (r : List (Datum α)) (pre post : Bytes)
    (i : Nat) (hi : i < r.length) :
    decScalarBin c e dim r[i].ty (pre ++ (r.map (Datum.bin c e)).flatten ++ post)
      (pre.length + offsetOf (r.map Datum.ty) i) = .ok (datumRead c dim r[i]) :=
  spec_field_at_offset c e dim r pre post i hi

/-- … and for representable data (in-range integer, float32/float64 that survives its own coding; not through the
2-vector reader) the decoded value is the value the datum denotes (`Datum.val`: b/255, i, x) -/
theorem ply_spec_field_value (c : Coding α) (dim : Nat) (hdim : dim ≠ 2) (d : Datum α) (h : Datum.Exact c d) :
    datumRead c dim d = d.val c :=
  datumRead_eq_val c dim hdim d h

example : datumRead toyCoding 3 (.u8 255) = (Datum.u8 255).val toyCoding ∧ (Datum.u8 255).val toyCoding = 1 := by decide
example : Datum.Exact toyCoding (.f32 258) := by show toyCoding.unf32 (toyCoding.f32 258) = 258; decide

/-- THE WHOLE VERTEX BLOCK of a reference-encoded binary file: for any property order / type mix and any number of
records, the reader's vertex loop run on `specBody c f` decodes, record by record, exactly the data of the components
every located reader claims (`rowOf`), and stops exactly where the face data starts -/
theorem ply_spec_vertex_block (c : Coding α) (f : SpecFile α) (hf : f.format ≠ .ascii)
    (htyped : ∀ r ∈ f.verts, r.map Datum.ty = f.vprops.map (·.ty))
    (bl : List (Built × List Nat)) (hbl : ∀ p ∈ bl, Located (f.vprops.map (·.ty)) p.1 p.2) :
    ∃ rest, specBody c f = (f.verts.map (fun r => (r.map (Datum.bin c f.format.endian)).flatten)).flatten ++ rest ∧
      readVertsBin c f.format.endian (((f.vprops.map (·.ty)).map SType.size).sum) (bl.map (·.1)) f.verts.length
        (specBody c f) = .ok (f.verts.map (rowOf c bl), rest) := by
  cases hfmt : f.format with
  | ascii => exact absurd hfmt hf
  | _ =>
    refine ⟨_, by simp only [specBody, hfmt]; rfl, ?_⟩
    simp only [specBody, hfmt]
    exact spec_vertex_block c _ _ bl hbl f.verts _ htyped

/-- RECOGNISED GROUPS, any permutation of the header: the claim scan of a 2/3/4-vector reader (x y z, nx ny nz, red
green blue [alpha], s t, …) whose components are the header properties at positions `idx`, all of one scalar type
(GUARD — see `ply_mixed_type_group_not_claimed`), builds a reader located exactly at those properties; with
`ply_spec_vertex_block` its column is, record by record, the data of exactly those components -/
theorem ply_group_reader_located (props : List (Bytes × SType)) (attr : Bytes) (names : List Bytes)
    (hn : names.Nodup) (hne : names ≠ []) (hnd : (props.map (·.1)).Nodup) (t : SType) (idx : List Nat)
    (hlen : idx.length = names.length)
    (hidx : ∀ k (hk : k < names.length), ∃ hi : idx[k]'(by omega) < props.length, props[idx[k]'(by omega)] = (names[k], t)) :
    ∃ b, buildVec true props attr names = some b ∧ b.attr = attr ∧ b.names = names ∧ Located (props.map (·.2)) b idx :=
  buildVec_located props attr names hn hne hnd t idx hlen hidx

/-- the same for the ASCII columns -/
theorem ply_group_columns_any_permutation (props : List (Bytes × SType)) (attr : Bytes) (names : List Bytes)
    (hn : names.Nodup) (hne : names ≠ []) (hnd : (props.map (·.1)).Nodup) (t : SType) (idx : List Nat)
    (hlen : idx.length = names.length)
    (hidx : ∀ k (hk : k < names.length), ∃ hi : idx[k]'(by omega) < props.length, props[idx[k]'(by omega)] = (names[k], t)) :
    buildVec false props attr names = some ⟨attr, names, idx.map (locOf false props), some t⟩ :=
  buildVec_spec false props attr names hn hne hnd t idx hlen hidx

example : (buildVec false [(nm "blue", .uchar), (nm "x", .float), (nm "red", .uchar), (nm "green", .uchar)] colorAttr
    [nm "red", nm "green", nm "blue"]).map (·.offs) = some [2, 3, 0] := by decide +kernel

/-- AN UNRECOGNISED PROPERTY GETS A READER, THROUGH `addUnclaimed` (the reader.go:494-512 loop): if none of the readers
built from the configured groups claims the property at header position `i` (names pairwise distinct), the final reader
list contains the scalar reader named after the property, located at the sum of the strides before it … -/
theorem ply_unclaimed_property_gets_reader (binary : Bool) (props : List (Bytes × SType)) (built : List Built)
    (hnd : (props.map (·.1)).Nodup) (i : Nat) (hi : i < props.length)
    (hun : ∀ b ∈ built, b.claims props[i].1 = false) :
    (⟨props[i].1, [props[i].1], [locOf binary props i], if binary then some props[i].2 else none⟩ : Built)
      ∈ addUnclaimed binary props built :=
  addUnclaimed_adds binary props built hnd i hi hun

/-- … and that reader is located at the property's own field, so by `ply_spec_vertex_block` its column is
`datumRead` of the `i`-th datum of every record (an attribute of the property's own name) -/
theorem ply_unclaimed_reader_located (props : List (Bytes × SType)) (i : Nat) (hi : i < props.length) :
    Located (props.map (·.2)) ⟨props[i].1, [props[i].1], [locOf true props i], some props[i].2⟩ [i] where
  ty := ⟨props[i].2, rfl, by intro j hj; simp at hj; subst hj; exact ⟨by simpa using hi, by simp⟩⟩
  offs := by simp [locOf_binary]

example : (⟨nm "q", [nm "q"], [4], some .uchar⟩ : Built) ∈
    addUnclaimed true [(nm "x", .float), (nm "q", .uchar)] [] := by decide +kernel

/-! ### header lines: LF and CRLF -/

/-- a header line ended by LF or by CRLF is read as the same line, and reading resumes right after it -/
theorem ply_header_line_lf_crlf (l rest : Bytes) (h : ∀ b ∈ l, b ≠ 10 ∧ b ≠ 13) :
    readLine (l ++ 10 :: rest) = some (l, rest) ∧ readLine (l ++ 13 :: 10 :: rest) = some (l, rest) :=
  ⟨readLine_lf l rest h, readLine_crlf l rest h⟩

/-! ### quads -/

/-- each quad contributes the two fan triangles over its listed vertices … -/
theorem fan_quad (a b c d : Nat) : fan [a, b, c, d] = [(a : Int), b, c, a, c, d] := rfl

/-- … and the reader emits exactly those for a 4-entry index list, with the per-corner texture coordinates of the same
corners: (0,1,2) and (0,2,3) -/
theorem ply_reader_quad_fan (i0 i1 i2 i3 : Int) (t0 t1 t2 t3 t4 t5 t6 t7 : α) :
    emitFace 4 true (⟨[i0, i1, i2, i3], [t0, t1, t2, t3, t4, t5, t6, t7]⟩ : FaceBufs α)
      = .ok ([i0, i1, i2, i0, i2, i3], [[t0, t1], [t2, t3], [t4, t5], [t0, t1], [t4, t5], [t6, t7]]) := by
  simp [emitFace]

theorem ply_reader_triangle (i0 i1 i2 i3 : Int) (t0 t1 t2 t3 t4 t5 t6 t7 : α) :
    emitFace 3 true (⟨[i0, i1, i2, i3], [t0, t1, t2, t3, t4, t5, t6, t7]⟩ : FaceBufs α)
      = .ok ([i0, i1, i2], [[t0, t1], [t2, t3], [t4, t5]]) := by
  simp [emitFace]

/-- without a `texcoord` property no UVs are produced; other list sizes are rejected -/
theorem ply_reader_face_other (points : Int) (b : FaceBufs α) (h : points < 3 ∨ points > 4) :
    emitFace points false b = .error .err ∧ emitFace points true b = .error .err := by
  simp [emitFace, h]

/-! ### finding: a recognised group with mixed scalar types is not recognised -/

/-- `x float, y float, z double` (a layout the grammar allows): the position reader is not built, so the three
properties are loaded as three scalar attributes instead of `Position` -/
theorem ply_mixed_type_group_not_claimed (binary : Bool) :
    buildReader binary [(nm "x", .float), (nm "y", .float), (nm "z", .double)]
      ⟨positionAttr, [nm "x", nm "y", nm "z"], false⟩ = none := by
  cases binary <;> decide

/-- with one type the same layout is claimed, in any order of the three properties -/
example : (buildReader true [(nm "z", .float), (nm "x", .float), (nm "y", .float)]
      ⟨positionAttr, [nm "x", nm "y", nm "z"], false⟩).map (·.offs) = some [4, 8, 0] := by decide +kernel


/-! ### findings: the ASCII vertex readers do not carry the declared scalar type -/

/-- one scalar property `q` of type `t`, one record: the ASCII reader returns what `ParseFloat(token, 32)` does, the binary
reader what the field decodes to, so the two files load differently as soon as those differ -/
theorem ascii_vs_binary_scalar (c : Coding α) (e : Endian) (q : Bytes) (t : SType) (tok field : Bytes) (x v : α)
    (hparse : c.parseF tok = some x) (hbin : decScalarBin c e 1 t field 0 = .ok v) :
    ∃ ba bb, buildV1 false [(q, t)] q q = some ba ∧ buildV1 true [(q, t)] q q = some bb ∧
      ba.readAscii c [tok] = .ok [x] ∧ bb.readBin c e field = .ok [v] ∧
      (x ≠ v → ba.readAscii c [tok] ≠ bb.readBin c e field) := by
  have ha : (⟨q, [q], [0], none⟩ : Built).readAscii c [tok] = .ok [x] := by
    simp [Built.readAscii, hparse, pure, Except.pure, bind, Except.bind]
  have hb : (⟨q, [q], [0], some t⟩ : Built).readBin c e field = .ok [v] := by
    simp [Built.readBin, hbin, pure, Except.pure, bind, Except.bind]
  refine ⟨_, _, by simp [buildV1, buildV1.go], by simp [buildV1, buildV1.go], ha, hb, fun hne h => hne ?_⟩
  rw [ha, hb] at h
  injection h with h
  exact List.head_eq_of_cons_eq h

/-- `property int id`: binary loads the stored integer exactly, ASCII loads `ParseFloat(token, 32)` — for
|i| > 2²⁴ that is a different number (witness `c08.holds.ascii_precision_witness`: 16777217 → 16777216) -/
theorem ply_ascii_int_through_float32 (c : Coding α) (e : Endian) (q : Bytes) (i : Int) (x : α)
    (hi : -(2 ^ 31 : Int) ≤ i ∧ i < 2 ^ 31) (hparse : c.parseF (showInt i) = some x) :
    ∃ ba bb, buildV1 false [(q, .int)] q q = some ba ∧ buildV1 true [(q, .int)] q q = some bb ∧
      ba.readAscii c [showInt i] = .ok [x] ∧
      bb.readBin c e (put32 e (ofInt32 i)) = .ok [c.ofInt i] ∧
      (x ≠ c.ofInt i → ba.readAscii c [showInt i] ≠ bb.readBin c e (put32 e (ofInt32 i))) :=
  ascii_vs_binary_scalar c e q .int _ _ x _ hparse (by
    have hg := put32_get32 e (ofInt32 i) []
    simp only [List.append_nil] at hg
    simp [decScalarBin, hg, toInt32_ofInt32' i hi])

/-- a real counterexample (concrete coding whose "float32" parser keeps 24 bits: 16777217 → 16777216): the ASCII and the
binary file of `property int id` with the value 16777217 load to different numbers -/
def narrowCoding : Coding Nat := { toyCoding with parseF := fun s => (parseDigits s 0).map (fun n => if n < 2 ^ 24 then n else n / 2 * 2) }

theorem ply_ascii_int_through_float32_concrete :
    ∃ ba bb, buildV1 false [(nm "id", .int)] (nm "id") (nm "id") = some ba ∧ buildV1 true [(nm "id", .int)] (nm "id") (nm "id") = some bb ∧
      ba.readAscii narrowCoding [showInt 16777217] = .ok [16777216] ∧
      bb.readBin narrowCoding .le (put32 .le (ofInt32 16777217)) = .ok [16777217] :=
  ⟨_, _, rfl, rfl, by decide +kernel, by decide +kernel⟩

/-- `property uchar intensity` (unrecognised scalar): binary loads `b/255`, ASCII loads the raw number
(same root cause as the C04 known finding; witness `c08.holds.uchar_scalar_ascii_witness`) -/
theorem ply_ascii_uchar_scalar_not_normalised (c : Coding α) (e : Endian) (q : Bytes) (k : UInt8) (x : α)
    (hparse : c.parseF (showNat k.toNat) = some x) :
    ∃ ba bb, buildV1 false [(q, .uchar)] q q = some ba ∧ buildV1 true [(q, .uchar)] q q = some bb ∧
      ba.readAscii c [showNat k.toNat] = .ok [x] ∧
      bb.readBin c e [k] = .ok [c.div255 (c.ofInt k.toNat)] ∧
      (x ≠ c.div255 (c.ofInt k.toNat) → ba.readAscii c [showNat k.toNat] ≠ bb.readBin c e [k]) :=
  ascii_vs_binary_scalar c e q .uchar _ _ x _ hparse (by simp [decScalarBin, Coding.norm8])

/-- a real counterexample: `property uchar intensity` = 255 loads as 255 from ASCII and as 1 from binary -/
theorem ply_ascii_uchar_scalar_not_normalised_concrete :
    ∃ ba bb, buildV1 false [(nm "intensity", .uchar)] (nm "intensity") (nm "intensity") = some ba ∧
      buildV1 true [(nm "intensity", .uchar)] (nm "intensity") (nm "intensity") = some bb ∧
      ba.readAscii toyCoding [showNat 255] = .ok [255] ∧ bb.readBin toyCoding .be [255] = .ok [1] :=
  ⟨_, _, rfl, rfl, by decide +kernel, by decide +kernel⟩

/-! ### the composed statement (residue) -/

/-- representability of the stored values in their declared type and format (so that "the value of record i" is one
value): the theorem's hypothesis, and exactly what the generators guarantee -/
def SpecExact (c : Coding α) (f : SpecFile α) (valEq : α → α → Prop) : Prop :=
  ∀ r ∈ f.verts, ∀ d ∈ r, match f.format, d with
    | .ascii, .u8 b => ∃ x, c.parseF (showNat b.toNat) = some x ∧ valEq x (c.ofInt b.toNat)
    | .ascii, .i32 i => ∃ x, c.parseF (showInt i) = some x ∧ valEq x (c.ofInt i)
    | .ascii, .f32 x => ∃ y, c.parseF (c.showF x) = some y ∧ valEq y x
    | .ascii, .f64 x => ∃ y, c.parseF (c.showF x) = some y ∧ valEq y x
    | _, .f32 x => valEq (c.unf32 (c.f32 x)) x
    | _, .f64 x => valEq (c.unf64 (c.f64 x)) x
    | _, _ => True

/-- the guards of the composed statement, explicit: the class of files inside which the reader is right -/
structure SpecGuards (f : SpecFile α) : Prop where
  /-- property names are pairwise distinct -/
  distinctNames : (f.vprops.map (·.name)).Nodup
  /-- every record has one datum per property, of the property's type -/
  typed : ∀ r ∈ f.verts, r.map Datum.ty = f.vprops.map (·.ty)
  /-- only the scalar types of the grammar -/
  vertexTypes : ∀ p ∈ f.vprops, p.ty = .uchar ∨ p.ty = .int ∨ p.ty = .float ∨ p.ty = .double
  /-- GUARD (finding `ply_mixed_type_group_not_claimed`): one scalar type inside each recognised group -/
  uniformGroups : ∀ g ∈ groups, ∀ ns, groupNames (f.vprops.map (·.name)) g = some ns →
    ∃ t, ∀ p ∈ f.vprops, p.name ∈ ns → p.ty = t
  /-- GUARD (finding `ply_ascii_uchar_scalar_not_normalised`): in ASCII no 8-bit property outside a recognised group -/
  noUcharScalarAscii : f.format = .ascii → ∀ p ∈ f.vprops, p.ty = .uchar →
    ∃ g ∈ groups, ∃ ns, groupNames (f.vprops.map (·.name)) g = some ns ∧ p.name ∈ ns
  /-- `vector2.DivByConstant` multiplies by 1/255 (one ulp off b/255): no 8-bit `s`, `t` -/
  noUcharST : ∀ p ∈ f.vprops, p.name = nm "s" ∨ p.name = nm "t" → p.ty ≠ .uchar
  /-- faces: 3 or 4 vertex numbers, each a vertex of the file; two texture coordinates per listed vertex when
  `texcoord` is declared; list lengths fit the declared count type -/
  faces : ∀ fe, f.face = some fe →
    (fe.cntTy = .uchar ∨ fe.cntTy = .int ∨ fe.cntTy = .uint) ∧ (fe.idxTy = .int ∨ fe.idxTy = .uint) ∧
    ∀ fc ∈ fe.faces, (fc.verts.length = 3 ∨ fc.verts.length = 4) ∧ (∀ v ∈ fc.verts, v < f.verts.length) ∧
      (match fe.tex with | some _ => fc.uv.length = 2 * fc.verts.length | none => fc.uv = []) ∧
      fc.extra.length < 256

/-- every file of the grammar inside the guards, whose stored values are representable in their declared type
(GUARD, finding `ply_ascii_int_through_float32`: in ASCII, representable in float32), loads without error to the mesh
it denotes.  NOT a theorem here (residue); checked on the implementation by `c08.holds.meaning` on every run. -/
def ply_reads_spec_full (c : Coding α) (sameMesh : MeshVal α → MeshVal α → Prop) : Prop :=
  ∀ f : SpecFile α, SpecGuards f → SpecExact c f (· = ·) →
    ∃ m m', readMesh c defaultReader (refEncode c f) = .ok m ∧ meaning c f = some m' ∧ sameMesh m m'

end C08
end PolyVerif
