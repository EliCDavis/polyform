/-
  C06 — scene level: what `AddScene` / `writeScene` do for an arbitrary well-formed scene.

  Every invariant of the scene-level files is carried through the writer along the same skeleton, stated here once:
  * which fields a step leaves alone (`noTex`, `noMat`, `noLow`, `noMesh`, `noInst`: the state with the touched fields blanked
    is unchanged), and that it only appends to the others (`Grows`);
  * what a call was made of (`addMesh_ok`, `addTexOpt_ok` … `addMaterial_ok`, `addModel_ok`, `writeScene_ok`; for `AddTexture`
    itself Props/C06Texture);
  * the three texture loops of `AddMaterial` for any invariant (`TexStep`);
  * induction over the model loop and the light loop (`addModels_ind`, `writeScene_ind`).
  Then the low-level invariant of Props/C06 (`Inv`) and the index-reference invariant (`MRefs`) are lifted through it.
-/
import PolyVerif.Props.C06
import PolyVerif.Props.C06Zip
import PolyVerif.Props.C06Texture

namespace PolyVerif
namespace C06
open Gltf

/-- the full scene-level statement of the property (the three predicates the oracles `c06.holds.valid`, `.decode`,
    `.dedup` evaluate on the implementation's output), for every scene the writer accepts, without hypotheses on the scene.
    Not a theorem (an ill-formed mesh is written as it is); `gltf_scene_full` (Props/C06Full) proves it under `SceneWF`. -/
def C06_scene_full : Prop :=
  ∀ (s : Scene) (w : W), writeScene s = .ok w →
    valid w.doc w.buf = true ∧ carriesScene s w.doc w.buf = true ∧ dedupOK s w.doc = true

abbrev thOf (s : Scene) : Nat → Option PTexture := fun i => s.texHeap[i]?

/-! ### which fields a step leaves alone, and that it only appends

`noTex w' = noTex w` (`noTex`: Props/C06Texture) says that `w'` and `w` agree outside the texture side; any field `f` outside it is then read off by
`congrArg f`, and a step that also appends to a table `t` satisfies `noTex w' = { noTex w with t := w'.t }`.  What happens
to the fields a step does touch is `Grows` (Props/C06Grows): for every function of the writer, next to its `no…` lemma. -/

/-- `w` with the buffer side blanked: offset, buffer, accessors and views are all that `WriteVector*` / `WriteIndices` write -/
def noLow (w : W) : W := { w with bytesWritten := 0, buf := [], accessors := [], views := [] }

theorem noLow_writeAttrs (w : W) (acc : List (String × Nat)) (l : List Attr) : noLow (writeAttrs w acc l).1 = noLow w := by
  induction l generalizing w acc with
  | nil => rfl
  | cons a r ih => exact ih _ _

theorem grows_writeAttrs (w : W) (acc : List (String × Nat)) (l : List Attr) : Grows w (writeAttrs w acc l).1 := by
  induction l generalizing w acc with
  | nil => exact Grows.refl w
  | cons a r ih => exact (grows_writeVec w _ _ _).trans (ih _ _)

/-- `w` with everything `AddMesh` writes blanked: the buffer side, the mesh list and its two trackers -/
def noMesh (w : W) : W := { noLow w with meshes := [], meshIdx := [], written := [] }

/-- `writeMeshData` writes the buffer side and registers the mesh pointer for what it wrote -/
theorem noLow_writeMeshData (w : W) (id : Nat) (m : PMesh) :
    noLow (writeMeshData w id m).1 = { noLow w with written := (writeMeshData w id m).1.written } :=
  congrArg (fun x : W => { x with written := (writeMeshData w id m).1.written }) (noLow_writeAttrs w [] m.written)

/-- the state after the key (mesh, material) has been registered for the next mesh index -/
def withMeshKey (w : W) (id : Nat) (mat : Option Nat) : W := { w with meshIdx := mapInsert w.meshIdx (id, mat) w.meshes.length }

/-- what `AddMesh` did: nothing for a mesh without primitives; nothing when the mesh table holds the key (mesh, material),
    whose index is returned; otherwise the key is registered for the next mesh index, the accessors of the mesh's data are
    those the written-mesh table holds for the pointer, else the data are written now (`d`: outside the buffer side only the
    two trackers differ from `w`), and one mesh is appended -/
theorem addMesh_ok (w : W) (name : String) (id : Nat) (m : PMesh) (mat : Option Nat) :
    (m.primitiveCount = 0 ∧ addMesh w name id m mat = (w, none))
    ∨ (m.primitiveCount ≠ 0 ∧ ∃ i, lookup (id, mat) w.meshIdx = some i ∧ addMesh w name id m mat = (w, some i))
    ∨ (m.primitiveCount ≠ 0 ∧ lookup (id, mat) w.meshIdx = none ∧ ∃ d,
        ((∃ attrs idx, lookup id w.written = some (attrs, idx)
            ∧ d = (withMeshKey w id mat, attrs, idx))
         ∨ (lookup id w.written = none
            ∧ d = writeMeshData (withMeshKey w id mat) id m))
        ∧ noLow d.1 = { noLow (withMeshKey w id mat) with written := d.1.written }
        ∧ addMesh w name id m mat
            = ({ d.1 with meshes := d.1.meshes ++ [mkMesh name d.2.1 d.2.2 mat m] }, some w.meshes.length)) := by
  unfold addMesh
  split
  · rename_i h0; exact Or.inl ⟨h0, rfl⟩
  · rename_i h0
    split
    · rename_i i hi; exact Or.inr (Or.inl ⟨h0, i, hi, rfl⟩)
    · rename_i hn
      refine Or.inr (Or.inr ⟨h0, hn, _, ?_, ?_, rfl⟩) <;> unfold meshDataFor <;> split
      · rename_i attrs idx hl; exact Or.inl ⟨attrs, idx, hl, rfl⟩
      · rename_i hl; exact Or.inr ⟨hl, rfl⟩
      · rfl
      · exact noLow_writeMeshData _ id m

theorem noMesh_addMesh (w : W) (name : String) (id : Nat) (m : PMesh) (mat : Option Nat) :
    noMesh (addMesh w name id m mat).1 = noMesh w := by
  rcases addMesh_ok w name id m mat with ⟨_, e⟩ | ⟨_, i, _, e⟩ | ⟨_, _, d, _, k, e⟩ <;> rw [e]
  exact congrArg (fun x : W => { x with meshes := [], meshIdx := [], written := [] }) k

theorem grows_addMesh (w : W) (name : String) (id : Nat) (m : PMesh) (mat : Option Nat) : Grows w (addMesh w name id m mat).1 := by
  rcases addMesh_ok w name id m mat with ⟨_, e⟩ | ⟨_, i, _, e⟩ | ⟨_, hn, d, hd, _, e⟩ <;> rw [e]
  · exact Grows.refl w
  · exact Grows.refl w
  · -- neither tracker held the key it is given (`hn`, `hl`), so no entry is lost
    have g0 : Grows w (withMeshKey w id mat) :=
      { Grows.refl w with meshIdx := mem_mapInsert_of_lookup_none _ hn }
    refine (g0.trans ?_).trans { Grows.refl d.1 with meshes := List.prefix_append _ _ }
    rcases hd with ⟨attrs, idx, _, rfl⟩ | ⟨hl, rfl⟩
    · exact Grows.refl _
    · have ew : (writeIndices (writeAttrs (withMeshKey w id mat) [] m.written).1
          m.indices m.attrLen).written = w.written := (congrArg W.written (noLow_writeAttrs _ [] m.written) :)
      exact ((grows_writeAttrs _ [] m.written).trans (grows_writeIndices _ m.indices m.attrLen)).trans
        { Grows.refl _ with written := mem_mapInsert_of_lookup_none _ (by rw [ew]; exact hl) }

/-- the instancing block for a non-empty instance list: three vectors, at consecutive accessor positions -/
theorem addInstances_eq (w : W) {inst : List (List Nat)} (h : inst ≠ []) :
    addInstances w inst =
      (writeVec (writeVec (writeVec { w with extUsed := setInsert w.extUsed "EXT_mesh_gpu_instancing" }
          .f32 3 (inst.map (fun t => t.take 3))) .f32 3 (inst.map (fun t => (t.drop 3).take 3)))
          .f32 4 (inst.map (fun t => (t.drop 6).take 4)),
       some [("TRANSLATION", w.accessors.length), ("SCALE", w.accessors.length + 1), ("ROTATION", w.accessors.length + 2)]) := by
  unfold addInstances
  rw [if_neg (fun e => h (List.eq_nil_of_length_eq_zero e))]
  exact Prod.ext rfl (by simp [mapInsert, writeVec])

/-- `w` with everything the instancing block writes blanked: the buffer side and `extensionsUsed` -/
def noInst (w : W) : W := { noLow w with extUsed := [] }

theorem noInst_addInstances (w : W) (inst : List (List Nat)) : noInst (addInstances w inst).1 = noInst w := by
  by_cases h : inst = []
  · subst h; rfl
  · rw [addInstances_eq w h]; rfl

theorem grows_addInstances (w : W) (inst : List (List Nat)) : Grows w (addInstances w inst).1 := by
  by_cases h : inst = []
  · subst h; exact Grows.refl w
  · rw [addInstances_eq w h]
    exact (((grows_used w _).trans (grows_writeVec _ _ _ _)).trans (grows_writeVec _ _ _ _)).trans (grows_writeVec _ _ _ _)

/-- the state after the node of a model has been appended and listed in the scene -/
def withNode (w : W) (n : GNode) (k : Nat) : W := { w with nodes := w.nodes ++ [n], scene := w.scene ++ [k] }

theorem grows_withNode (w : W) (n : GNode) (k : Nat) : Grows w (withNode w n k) :=
  { Grows.refl w with nodes := List.prefix_append _ _, scene := List.prefix_append _ _ }

theorem grows_addLight (w : W) (l : List Nat) : Grows w (addLight w l) :=
  { Grows.refl w with nodes := List.prefix_append _ _, scene := List.prefix_append _ _, lightData := List.prefix_append _ _,
                      lights := Nat.le_succ _, extUsed := subset_setInsert _ _ }

/-! ### what a successful call was made of -/

section
variable {th : Nat → Option PTexture} {w : W}

theorem addTexOpt_ok {o : Option Nat} {r : W × Option TexInfo}
    (h : addTexOpt th w o = .ok r) :
    (o = none ∧ r = (w, none))
    ∨ ∃ id t, o = some id ∧ th id = some t ∧ r = ((addTexture w id t).1, some (addTexture w id t).2) := by
  cases o with
  | none => injection h with h; exact Or.inl ⟨rfl, h.symm⟩
  | some id =>
    simp only [addTexOpt] at h
    split at h
    · cases h
    · rename_i t ht
      injection h with h; exact Or.inr ⟨id, t, rfl, ht, h.symm⟩

theorem addTexList_nil_ok {r : W × List (String × TexInfo)}
    (h : addTexList th w [] = .ok r) : r = (w, []) := by
  injection h with h; exact h.symm

theorem addTexList_cons_ok {k : String} {id : Nat} {l : List (String × Nat)}
    {r : W × List (String × TexInfo)} (h : addTexList th w ((k, id) :: l) = .ok r) :
    ∃ t r', th id = some t ∧ addTexList th (addTexture w id t).1 l = .ok r'
      ∧ r = (r'.1, (k, (addTexture w id t).2) :: r'.2) := by
  simp only [addTexList] at h
  split at h
  · cases h
  · rename_i t ht
    split at h
    · cases h
    · rename_i w2 l2 h2
      injection h with h; exact ⟨t, (w2, l2), ht, h2, h.symm⟩

theorem addMatExts_nil_ok {r : W × List GMatExt}
    (h : addMatExts th w [] = .ok r) : r = (w, []) := by
  injection h with h; exact h.symm

theorem addMatExts_cons_ok {e : PMatExt} {l : List PMatExt} {r : W × List GMatExt}
    (h : addMatExts th w (e :: l) = .ok r) :
    ∃ r1 r2, addTexList th w e.texs = .ok r1
      ∧ addMatExts th { r1.1 with extUsed := setInsert r1.1.extUsed e.id } l = .ok r2
      ∧ r = (r2.1, { id := e.id, payload := e.payload, texs := r1.2 } :: r2.2) := by
  simp only [addMatExts] at h
  split at h
  · cases h
  · rename_i w1 tis h1
    split at h
    · cases h
    · rename_i w2 l2 h2
      injection h with h; exact ⟨(w1, tis), (w2, l2), h1, h2, h.symm⟩

theorem noTex_addTexOpt {o : Option Nat} {r : W × Option TexInfo}
    (h : addTexOpt th w o = .ok r) : noTex r.1 = noTex w := by
  rcases addTexOpt_ok h with ⟨_, rfl⟩ | ⟨id, t, _, _, rfl⟩
  · rfl
  · exact noTex_addTexture w id t

theorem grows_addTexOpt {o : Option Nat} {r : W × Option TexInfo}
    (h : addTexOpt th w o = .ok r) : Grows w r.1 := by
  rcases addTexOpt_ok h with ⟨_, rfl⟩ | ⟨id, t, _, _, rfl⟩
  · exact Grows.refl w
  · exact grows_addTexture w id t

theorem noTex_addTexList {l : List (String × Nat)} {r : W × List (String × TexInfo)}
    (h : addTexList th w l = .ok r) : noTex r.1 = noTex w := by
  induction l generalizing w r with
  | nil => rw [addTexList_nil_ok h]
  | cons kt l ih =>
    obtain ⟨t, r', _, h2, rfl⟩ := addTexList_cons_ok h
    exact (ih h2).trans (noTex_addTexture _ _ _)

theorem grows_addTexList {l : List (String × Nat)} {r : W × List (String × TexInfo)}
    (h : addTexList th w l = .ok r) : Grows w r.1 := by
  induction l generalizing w r with
  | nil => rw [addTexList_nil_ok h]; exact Grows.refl w
  | cons kt l ih =>
    obtain ⟨t, r', _, h2, rfl⟩ := addTexList_cons_ok h
    exact (grows_addTexture _ _ _).trans (ih h2 :)

theorem noTex_addMatExts {l : List PMatExt} {r : W × List GMatExt}
    (h : addMatExts th w l = .ok r) : noTex r.1 = noTex w := by
  induction l generalizing w r with
  | nil => rw [addMatExts_nil_ok h]
  | cons e l ih =>
    obtain ⟨r1, r2, h1, h2, rfl⟩ := addMatExts_cons_ok h
    exact (ih h2).trans (noTex_addTexList h1)

theorem grows_addMatExts {l : List PMatExt} {r : W × List GMatExt}
    (h : addMatExts th w l = .ok r) : Grows w r.1 := by
  induction l generalizing w r with
  | nil => rw [addMatExts_nil_ok h]; exact Grows.refl w
  | cons e l ih =>
    obtain ⟨r1, r2, h1, h2, rfl⟩ := addMatExts_cons_ok h
    exact ((grows_addTexList h1).trans (grows_used _ _)).trans (ih h2 :)

end

/-- `AddMaterial` succeeded: either the tracker held an `equal` material (nothing changes), or the five texture slots were
    added in order — touching the texture side only, and only appending to it — and the built material and its tracker entry were appended -/
theorem addMaterial_ok {th : Nat → Option PTexture} {w : W} {m : PMaterial} {r : W × Nat} (h : addMaterial th w m = .ok r) :
    (∃ k e, findIdx (fun e => PMaterial.equal th e.1 m) w.matIdx 0 = some k ∧ w.matIdx[k]? = some e ∧ r = (w, e.2))
    ∨ (findIdx (fun e => PMaterial.equal th e.1 m) w.matIdx 0 = none ∧ ∃ r1 r2 r3 r4 r5,
        addTexOpt th w (if m.hasPbr then m.baseColorTex else none) = .ok r1
        ∧ addTexOpt th r1.1 (if m.hasPbr then m.metalRoughTex else none) = .ok r2
        ∧ addMatExts th r2.1 m.exts = .ok r3
        ∧ addTexOpt th r3.1 (m.normalTex.map (·.1)) = .ok r4
        ∧ addTexOpt th r4.1 (m.occlusionTex.map (·.1)) = .ok r5
        ∧ noTex r5.1 = noTex w ∧ Grows w r5.1
        ∧ r = ({ r5.1 with materials := r5.1.materials ++ [buildMaterial m r1.2 r2.2 r3.2 r4.2 r5.2],
                           matIdx := r5.1.matIdx ++ [(m, r5.1.materials.length)] }, r5.1.materials.length)) := by
  unfold addMaterial at h
  split at h
  · rename_i k hk
    split at h
    · rename_i e he
      injection h with h; exact Or.inl ⟨k, e, hk, he, h.symm⟩
    · cases h
  · rename_i hnone
    refine Or.inr ⟨hnone, ?_⟩
    split at h
    · cases h
    · rename_i r1 h1
      split at h
      · cases h
      · rename_i r2 h2
        split at h
        · cases h
        · rename_i r3 h3
          split at h
          · cases h
          · split at h
            · cases h
            · rename_i r4 h4
              split at h
              · cases h
              · rename_i r5 h5
                injection h with h
                exact ⟨r1, r2, r3, r4, r5, h1, h2, h3, h4, h5,
                  (noTex_addTexOpt h5).trans ((noTex_addTexOpt h4).trans ((noTex_addMatExts h3).trans
                    ((noTex_addTexOpt h2).trans (noTex_addTexOpt h1)))),
                  ((((grows_addTexOpt h1).trans (grows_addTexOpt h2)).trans (grows_addMatExts h3)).trans (grows_addTexOpt h4)).trans
                    (grows_addTexOpt h5), h.symm⟩

/-- `w` with everything `AddMaterial` writes blanked: the texture side, the material list and its tracker -/
def noMat (w : W) : W := { noTex w with materials := [], matIdx := [] }

theorem noMat_addMaterial {th : Nat → Option PTexture} {w : W} {m : PMaterial} {r : W × Nat} (h : addMaterial th w m = .ok r) :
    noMat r.1 = noMat w := by
  rcases addMaterial_ok h with ⟨_, _, _, _, rfl⟩ | ⟨_, r1, r2, r3, r4, r5, _, _, _, _, _, k, _, rfl⟩
  · rfl
  · exact congrArg (fun x : W => { x with materials := [], matIdx := [] }) k

theorem grows_addMaterial {th : Nat → Option PTexture} {w : W} {m : PMaterial} {r : W × Nat} (h : addMaterial th w m = .ok r) :
    Grows w r.1 := by
  rcases addMaterial_ok h with ⟨_, _, _, _, rfl⟩ | ⟨_, r1, r2, r3, r4, r5, _, _, _, _, _, _, g, rfl⟩
  · exact Grows.refl w
  · exact g.trans { Grows.refl r5.1 with materials := List.prefix_append _ _, matIdx := List.prefix_append _ _ }

theorem addModelMaterial_ok {s : Scene} {w : W} {md : Model} {r : W × Option Nat} (h : addModelMaterial s w md = .ok r) :
    (md.material = none ∧ r = (w, none))
    ∨ ∃ k pm r', md.material = some k ∧ s.matHeap[k]? = some pm ∧ addMaterial (thOf s) w pm = .ok r' ∧ r = (r'.1, some r'.2) := by
  unfold addModelMaterial at h
  split at h
  · rename_i hm; injection h with h; exact Or.inl ⟨hm, h.symm⟩
  · rename_i k hm
    split at h
    · cases h
    · rename_i pm hpm
      split at h
      · cases h
      · rename_i r' h'
        injection h with h; exact Or.inr ⟨k, pm, r', hm, hpm, h', h.symm⟩

theorem noMat_addModelMaterial {s : Scene} {w : W} {md : Model} {r : W × Option Nat} (h : addModelMaterial s w md = .ok r) :
    noMat r.1 = noMat w := by
  rcases addModelMaterial_ok h with ⟨_, rfl⟩ | ⟨_, _, r', _, _, h', rfl⟩
  · rfl
  · exact noMat_addMaterial h'

theorem grows_addModelMaterial {s : Scene} {w : W} {md : Model} {r : W × Option Nat} (h : addModelMaterial s w md = .ok r) :
    Grows w r.1 := by
  rcases addModelMaterial_ok h with ⟨_, rfl⟩ | ⟨_, _, r', _, _, h', rfl⟩
  · exact Grows.refl w
  · exact grows_addMaterial h'

theorem skipped_false {m : PMesh} (h : ¬ meshSkipped m = true) : m.primitiveCount ≠ 0 ∧ m.written ≠ [] := by
  unfold meshSkipped at h
  simp only [Bool.or_eq_true, beq_iff_eq, List.isEmpty_iff, not_or] at h
  exact h

theorem addMesh_some (w : W) (name : String) (id : Nat) (m : PMesh) (mat : Option Nat) (h : m.primitiveCount ≠ 0) :
    (addMesh w name id m mat).2 ≠ none := by
  unfold addMesh
  rw [if_neg h]
  split <;> simp

/-- one iteration of the model loop succeeded: the mesh is in the heap; a skipped mesh changes nothing; otherwise the
    attribute names do not collide, the material was resolved, `AddMesh` returned a mesh index, the instancing block ran,
    and one node was appended -/
theorem addModel_ok {s : Scene} {w w' : W} {md : Model} (h : addModel s w md = .ok w') :
    ∃ id m, md.mesh = some id ∧ s.meshHeap[id]? = some m
      ∧ ((meshSkipped m = true ∧ w' = w)
         ∨ (¬ meshSkipped m = true ∧ dupFree (m.written.map (fun a => gltfAttrName a.name)) = true
            ∧ ∃ r mi, addModelMaterial s w md = .ok r ∧ (addMesh r.1 md.name id m r.2).2 = some mi
              ∧ w' = withNode (addInstances (addMesh r.1 md.name id m r.2).1 md.instances).1
                       (modelNode md mi (addInstances (addMesh r.1 md.name id m r.2).1 md.instances).2)
                       (addMesh r.1 md.name id m r.2).1.nodes.length)) := by
  unfold addModel at h
  split at h
  · cases h
  · rename_i id hid
    split at h
    · cases h
    · rename_i m hm
      refine ⟨id, m, hid, hm, ?_⟩
      split at h
      · rename_i hs; injection h with h; exact Or.inl ⟨hs, h.symm⟩
      · rename_i hs
        split at h
        · cases h
        · rename_i r hr
          unfold addModelGate at hr
          split at hr
          · rename_i hd
            simp only at h
            split at h
            · rename_i hnone; exact absurd hnone (addMesh_some _ _ _ _ _ (skipped_false hs).1)
            · rename_i mi hmi
              injection h with h; exact Or.inr ⟨hs, hd, r, mi, hr, hmi, h.symm⟩
          · cases hr

theorem grows_addModel {s : Scene} {w w' : W} {md : Model} (h : addModel s w md = .ok w') : Grows w w' := by
  obtain ⟨id, m, _, _, ⟨_, rfl⟩ | ⟨_, _, r, mi, hr, _, rfl⟩⟩ := addModel_ok h
  · exact Grows.refl _
  · exact (((grows_addModelMaterial hr).trans (grows_addMesh r.1 md.name id m r.2)).trans
      (grows_addInstances _ md.instances)).trans (grows_withNode _ _ _)

theorem addModels_cons_ok {s : Scene} {w w' : W} {md : Model} {l : List Model} (h : addModels s w (md :: l) = .ok w') :
    ∃ w1, addModel s w md = .ok w1 ∧ addModels s w1 l = .ok w' := by
  simp only [addModels] at h
  split at h
  · cases h
  · rename_i w1 h1; exact ⟨w1, h1, h⟩

theorem addModels_nil_ok {s : Scene} {w w' : W} (h : addModels s w [] = .ok w') : w' = w := by
  injection h with h; exact h.symm

theorem writeScene_ok {s : Scene} {w : W} (h : writeScene s = .ok w) :
    ∃ w0, addModels s {} s.models = .ok w0 ∧ w = s.lights.foldl addLight w0 := by
  unfold writeScene at h
  split at h
  · cases h
  · rename_i w1 h1
    split at h
    · injection h with h; subst h
      unfold addScene at h1
      split at h1
      · cases h1
      · rename_i w0 h0
        injection h1 with h1; exact ⟨w0, h0, h1.symm⟩
    · cases h

/-! ### the three texture loops of `AddMaterial`, once

What `AddMaterial` needs of an invariant `P` on its texture path: `AddTexture` preserves `P` and returns a texture-info with
some property `Q`; registering an extension id preserves `P` and makes the id declared (`U`); `Q` and `U` survive growth.
Then `P` and the facts about everything returned come out of `addTexOpt`, `addTexList`, `addMatExts`, and of the five slots
of `AddMaterial` together, stated in the state the material is built in. -/

structure TexStep (th : Nat → Option PTexture) (P : W → Prop) (Q : W → Nat → TexInfo → Prop) (U : W → String → Prop) : Prop where
  qmono : ∀ {w w' : W} {id : Nat} {ti : TexInfo}, Grows w w' → Q w id ti → Q w' id ti
  umono : ∀ {w w' : W} {e : String}, Grows w w' → U w e → U w' e
  tex : ∀ {w : W} {id : Nat} {t : PTexture}, th id = some t → P w →
    P (addTexture w id t).1 ∧ Q (addTexture w id t).1 id (addTexture w id t).2
  used : ∀ {w : W} (e : String), P w →
    P { w with extUsed := setInsert w.extUsed e } ∧ U { w with extUsed := setInsert w.extUsed e } e

/-- an optional texture slot: no texture asked for and none returned, or the returned texture-info satisfies `Q` -/
def OptQ (Q : Nat → TexInfo → Prop) (o : Option Nat) (r : Option TexInfo) : Prop :=
  (o = none ∧ r = none) ∨ ∃ id ti, o = some id ∧ r = some ti ∧ Q id ti

theorem OptQ.some {Q : Nat → TexInfo → Prop} {o : Option Nat} {r : Option TexInfo} (h : OptQ Q o r) {t : TexInfo}
    (ht : r = some t) : ∃ id, o = some id ∧ Q id t := by
  rcases h with ⟨_, hn⟩ | ⟨id, ti, ho, hs, q⟩
  · rw [hn] at ht; cases ht
  · rw [hs] at ht; injection ht with ht; subst ht; exact ⟨id, ho, q⟩

theorem OptQ.imp {Q Q' : Nat → TexInfo → Prop} {o : Option Nat} {r : Option TexInfo} (h : OptQ Q o r)
    (f : ∀ id ti, Q id ti → Q' id ti) : OptQ Q' o r :=
  Or.imp id (fun ⟨id, ti, ho, hr, q⟩ => ⟨id, ti, ho, hr, f id ti q⟩) h

/-- the texture references of a material extension, pairwise: same json key, `Q` of the texture-info -/
abbrev KtQ (Q : Nat → TexInfo → Prop) (kt : String × Nat) (gkt : String × TexInfo) : Prop := kt.1 = gkt.1 ∧ Q kt.2 gkt.2

/-- a material extension as written: id and payload moved, the id declared, its texture references pairwise `Q` -/
abbrev ExtQ (Q : Nat → TexInfo → Prop) (U : String → Prop) (e : PMatExt) (ge : GMatExt) : Prop :=
  ge.id = e.id ∧ ge.payload = e.payload ∧ U e.id ∧ Zip (KtQ Q) e.texs ge.texs

section
variable {th : Nat → Option PTexture} {P : W → Prop} {Q : W → Nat → TexInfo → Prop} {U : W → String → Prop} (T : TexStep th P Q U)
include T

theorem TexStep.extQ_mono {w w' : W} (g : Grows w w') {l : List PMatExt} {r : List GMatExt}
    (h : Zip (ExtQ (Q w) (U w)) l r) : Zip (ExtQ (Q w') (U w')) l r :=
  zip_imp (fun _ _ he => ⟨he.1, he.2.1, T.umono g he.2.2.1, zip_imp (fun _ _ hk => ⟨hk.1, T.qmono g hk.2⟩) he.2.2.2⟩) h

theorem TexStep.opt {w : W} {o : Option Nat} {r : W × Option TexInfo} (h : addTexOpt th w o = .ok r) (hw : P w) :
    P r.1 ∧ OptQ (Q r.1) o r.2 := by
  rcases addTexOpt_ok h with ⟨ho, rfl⟩ | ⟨id, t, ho, ht, rfl⟩
  · exact ⟨hw, Or.inl ⟨ho, rfl⟩⟩
  · exact ⟨(T.tex ht hw).1, Or.inr ⟨id, _, ho, rfl, (T.tex ht hw).2⟩⟩

theorem TexStep.list {l : List (String × Nat)} {w : W} {r : W × List (String × TexInfo)}
    (h : addTexList th w l = .ok r) (hw : P w) : P r.1 ∧ Zip (KtQ (Q r.1)) l r.2 := by
  induction l generalizing w r with
  | nil => rw [addTexList_nil_ok h]; exact ⟨hw, trivial⟩
  | cons kt l ih =>
    obtain ⟨t, r', ht, h2, rfl⟩ := addTexList_cons_ok h
    obtain ⟨a1, a3⟩ := T.tex ht hw
    obtain ⟨b1, b3⟩ := ih h2 a1
    exact ⟨b1, ⟨rfl, T.qmono (grows_addTexList h2 :) a3⟩, b3⟩

theorem TexStep.exts {l : List PMatExt} {w : W} {r : W × List GMatExt}
    (h : addMatExts th w l = .ok r) (hw : P w) : P r.1 ∧ Zip (ExtQ (Q r.1) (U r.1)) l r.2 := by
  induction l generalizing w r with
  | nil => rw [addMatExts_nil_ok h]; exact ⟨hw, trivial⟩
  | cons e l ih =>
    obtain ⟨r1, r2, h1, h2, rfl⟩ := addMatExts_cons_ok h
    obtain ⟨a1, a3⟩ := T.list h1 hw
    obtain ⟨u1, u3⟩ := T.used e.id a1
    obtain ⟨b1, b3⟩ := ih h2 u1
    have g := grows_addMatExts h2
    exact ⟨b1, ⟨rfl, rfl, T.umono g u3, zip_imp (fun _ _ hk => ⟨hk.1, T.qmono ((grows_used _ _).trans g) hk.2⟩) a3⟩, b3⟩

/-- the five texture slots of `AddMaterial` (as `addMaterial_ok` lists them): `P` holds of the state `r5.1` in which the
    material is built, and everything that goes into the material is fine in THAT state -/
theorem TexStep.slots {w : W} {o1 o2 o4 o5 : Option Nat} {l : List PMatExt} {r1 r2 r4 r5 : W × Option TexInfo}
    {r3 : W × List GMatExt} (h1 : addTexOpt th w o1 = .ok r1) (h2 : addTexOpt th r1.1 o2 = .ok r2)
    (h3 : addMatExts th r2.1 l = .ok r3) (h4 : addTexOpt th r3.1 o4 = .ok r4) (h5 : addTexOpt th r4.1 o5 = .ok r5) (hw : P w) :
    P r5.1 ∧ OptQ (Q r5.1) o1 r1.2 ∧ OptQ (Q r5.1) o2 r2.2 ∧ Zip (ExtQ (Q r5.1) (U r5.1)) l r3.2
    ∧ OptQ (Q r5.1) o4 r4.2 ∧ OptQ (Q r5.1) o5 r5.2 := by
  obtain ⟨a1, a3⟩ := T.opt h1 hw
  obtain ⟨b1, b3⟩ := T.opt h2 a1
  obtain ⟨c1, c3⟩ := T.exts h3 b1
  obtain ⟨d1, d3⟩ := T.opt h4 c1
  obtain ⟨e1, e3⟩ := T.opt h5 d1
  have g5 := grows_addTexOpt h5
  have g4 := (grows_addTexOpt h4).trans g5
  have g3 := (grows_addMatExts h3).trans g4
  have g2 := (grows_addTexOpt h2).trans g3
  exact ⟨e1, a3.imp fun _ _ => T.qmono g2, b3.imp fun _ _ => T.qmono g3, T.extQ_mono g4 c3, d3.imp fun _ _ => T.qmono g5, e3⟩

end

/-! ### the model loop and the light loop -/

/-- a property that every accepted iteration of the model loop preserves is carried through the loop -/
theorem addModels_ind {s : Scene} {P : W → Prop} (hm : ∀ w w' md, md ∈ s.models → P w → addModel s w md = .ok w' → P w') :
    ∀ (l : List Model) (w w' : W), (∀ md ∈ l, md ∈ s.models) → P w → addModels s w l = .ok w' → P w'
  | [], w, w', _, hw, h => by rw [addModels_nil_ok h]; exact hw
  | md :: r, w, w', hl, hw, h => by
    obtain ⟨w1, h1, h2⟩ := addModels_cons_ok h
    exact addModels_ind hm r w1 w' (fun x hx => hl x (by simp [hx])) (hm w w1 md (hl md (by simp)) hw h1) h2

/-- a property that every `AddLight` preserves is carried through the light loop -/
theorem addLights_ind {P : W → Prop} (hl : ∀ w l, P w → P (addLight w l)) :
    ∀ (ls : List (List Nat)) (w : W), P w → P (ls.foldl addLight w)
  | [], _, hw => hw
  | l :: r, w, hw => addLights_ind hl r _ (hl w l hw)

theorem grows_addLights (ls : List (List Nat)) (w : W) : Grows w (ls.foldl addLight w) :=
  addLights_ind (P := Grows w) (fun w' l g => g.trans (grows_addLight w' l)) ls w (Grows.refl w)

/-- a property of the empty writer that every accepted iteration of the model loop and every `AddLight` preserves holds of
    the state `writeScene` reaches -/
theorem writeScene_ind {s : Scene} {P : W → Prop} (h0 : P {})
    (hm : ∀ w w' md, md ∈ s.models → P w → addModel s w md = .ok w' → P w') (hl : ∀ w l, P w → P (addLight w l))
    {w : W} (h : writeScene s = .ok w) : P w := by
  obtain ⟨w0, h1, rfl⟩ := writeScene_ok h
  exact addLights_ind hl _ _ (addModels_ind hm _ _ _ (fun _ h => h) h0 h1)

/-- visibility of a model, as in `Scene.visible` -/
def Vis (s : Scene) (md : Model) : Bool :=
  match s.meshOf md with
  | some m => !meshSkipped m
  | none => false

theorem visible_eq (s : Scene) : s.visible = s.models.filter (Vis s) := rfl

def nodePart (w : W) := (w.nodes, w.scene, w.lights, w.lightData)

/-- one accepted iteration of the model loop leaves the lights alone and either changes nothing (model not visible) or appends
    the node of the model and lists it in the scene -/
theorem addModel_node {s : Scene} {w w' : W} {md : Model} (h : addModel s w md = .ok w') :
    w'.lights = w.lights ∧ w'.lightData = w.lightData
    ∧ ((Vis s md = false ∧ w' = w)
       ∨ (Vis s md = true ∧ ∃ mi inst, w'.nodes = w.nodes ++ [modelNode md mi inst] ∧ w'.scene = w.scene ++ [w.nodes.length])) := by
  obtain ⟨id, m, hid, hm, ⟨hsk, rfl⟩ | ⟨hsk, _, r, mi, hr, _, rfl⟩⟩ := addModel_ok h
  · exact ⟨rfl, rfl, Or.inl ⟨by simp [Vis, Scene.meshOf, hid, hm, hsk], rfl⟩⟩
  · have k : nodePart (addInstances (addMesh r.1 md.name id m r.2).1 md.instances).1 = nodePart w :=
      (congrArg nodePart (noInst_addInstances _ md.instances) :).trans
        ((congrArg nodePart (noMesh_addMesh r.1 md.name id m r.2) :).trans (congrArg nodePart (noMat_addModelMaterial hr) :))
    have k2 : (addMesh r.1 md.name id m r.2).1.nodes = w.nodes :=
      (congrArg W.nodes (noMesh_addMesh r.1 md.name id m r.2) :).trans (congrArg W.nodes (noMat_addModelMaterial hr) :)
    simp only [nodePart, Prod.mk.injEq] at k
    exact ⟨k.2.2.1, k.2.2.2, Or.inr ⟨by simpa [Vis, Scene.meshOf, hid, hm] using hsk, mi, _,
      congrArg (· ++ _) k.1, by show _ ++ _ = _; rw [k.2.1, k2]⟩⟩

/-- the model loop for any statement `C` about (state, model, node) that survives growth, along any invariant `P`:
    if each accepted iteration keeps `P` and, for a visible model, appends one node that satisfies `C`, then the nodes are
    the visible models' nodes, position by position -/
theorem addModels_zip {s : Scene} {P : W → Prop} {C : W → Model → GNode → Prop}
    (mono : ∀ (w w' : W) (md : Model) (n : GNode), Grows w w' → C w md n → C w' md n)
    (hm : ∀ w w' md, md ∈ s.models → P w → addModel s w md = .ok w' →
      P w' ∧ (Vis s md = true → ∃ n, w'.nodes = w.nodes ++ [n] ∧ C w' md n)) :
    ∀ (l : List Model) (w w' : W) (done : List Model), (∀ md ∈ l, md ∈ s.models) → P w →
      Zip (C w) (done.filter (Vis s)) w.nodes → addModels s w l = .ok w' →
      P w' ∧ Zip (C w') ((done ++ l).filter (Vis s)) w'.nodes
  | [], w, w', done, _, hp, hz, h => by rw [addModels_nil_ok h, List.append_nil]; exact ⟨hp, hz⟩
  | md :: r, w, w', done, hl, hp, hz, h => by
    obtain ⟨w1, h1, h2⟩ := addModels_cons_ok h
    obtain ⟨hp1, hc⟩ := hm w w1 md (hl md (by simp)) hp h1
    have hz0 := zip_imp (fun _ _ hab => mono _ _ _ _ (grows_addModel h1) hab) hz
    have hz1 : Zip (C w1) ((done ++ [md]).filter (Vis s)) w1.nodes := by
      rw [List.filter_append]
      cases hv : Vis s md with
      | false =>
        obtain ⟨_, _, ⟨_, rfl⟩ | ⟨hv', _⟩⟩ := addModel_node h1
        · simpa [List.filter_cons, hv] using hz0
        · rw [hv] at hv'; cases hv'
      | true =>
        obtain ⟨n, hno, hcn⟩ := hc hv
        rw [hno]; simpa [List.filter_cons, hv] using zip_snoc hz0 hcn
    have := addModels_zip mono hm r w1 w' (done ++ [md]) (fun x hx => hl x (by simp [hx])) hp1 hz1 h2
    simpa [List.append_assoc] using this

/-- the model loop lists every node in the scene, in order, and adds no light -/
theorem addModel_sceneRange {s : Scene} {w w' : W} {md : Model} (h : addModel s w md = .ok w')
    (hw : w.scene = List.range w.nodes.length ∧ w.lights = 0 ∧ w.lightData = []) :
    w'.scene = List.range w'.nodes.length ∧ w'.lights = 0 ∧ w'.lightData = [] := by
  obtain ⟨e1, e2, ⟨_, rfl⟩ | ⟨_, mi, inst, hno, hsc⟩⟩ := addModel_node h
  · exact hw
  · exact ⟨by rw [hsc, hno, hw.1]; simp [List.range_succ], e1.trans hw.2.1, e2.trans hw.2.2⟩

def lowPart (w : W) := (w.bytesWritten, w.buf, w.accessors, w.views)

theorem inv_congr {w w' : W} (h : Inv w) (e : lowPart w' = lowPart w) : Inv w' := by
  simp only [lowPart, Prod.mk.injEq] at e
  obtain ⟨e1, e2, e3, e4⟩ := e
  exact ⟨by rw [e1, e2]; exact h.bytes, by rw [e4, e2]; exact h.tiles, by rw [e3, e4]; exact h.len,
    by simp only [e3]; exact h.own, by rw [e2, e4, e3]; exact h.accs⟩

theorem attrComp_cases (name : String) : attrComp name = .f32 ∨ attrComp name = .u8 := by
  unfold attrComp; split <;> simp

/-- well-formed mesh: every attribute that is written has admissible data of the common length `attrLen`; every
    index is smaller than that length -/
def MeshWF (m : PMesh) : Prop :=
  (∀ a ∈ m.written, VecsOK (attrComp a.name) a.dim a.vals ∧ a.vals.length = m.attrLen)
  ∧ (∀ i ∈ m.indices, i < m.attrLen) ∧ m.attrLen ≤ 2 ^ 32

/-- admissible GPU instances: ten binary32 values each (position, scale, rotation), none infinite, and no NaN in the
    ROTATION (a FLOAT VEC4: `encoding/json` would refuse the NaN bound); NaN in position / scale is accepted by the writer
    and skipped by its min/max loops -/
def InstWF (inst : List (List Nat)) : Prop :=
  ∀ t ∈ inst, t.length = 10 ∧ (∀ x ∈ t, x < 2 ^ 32 ∧ x ≠ posInf32 ∧ x ≠ negInf32) ∧ ∀ x ∈ t.drop 6, isNaN32 x = false

def SceneOK (s : Scene) : Prop := (∀ m ∈ s.meshHeap, MeshWF m) ∧ (∀ md ∈ s.models, InstWF md.instances)

theorem inv_writeVec (w : W) (hw : Inv w) (c : Comp) (d : Nat) (v : List (List Nat)) (hc : c = .f32 ∨ c = .u8)
    (hv : VecsOK c d v) : Inv (writeVec w c d v) := inv_step w (.vec c d v) hw ⟨hc, hv⟩

theorem inv_writeIndices (w : W) (hw : Inv w) (idx : List Nat) (n : Nat) (h : (∀ i ∈ idx, i < n) ∧ n ≤ 2 ^ 32) :
    Inv (writeIndices w idx n) := inv_step w (.idx idx n) hw h

theorem inv_writeAttrs (w : W) (acc : List (String × Nat)) (l : List Attr) (hw : Inv w)
    (hl : ∀ a ∈ l, VecsOK (attrComp a.name) a.dim a.vals) : Inv (writeAttrs w acc l).1 := by
  induction l generalizing w acc with
  | nil => exact hw
  | cons a r ih =>
    exact ih _ _ (inv_writeVec w hw _ _ _ (attrComp_cases a.name) (hl a (by simp))) (fun x hx => hl x (by simp [hx]))

theorem inv_writeMeshData (w : W) (id : Nat) (m : PMesh) (hw : Inv w) (hm : MeshWF m) : Inv (writeMeshData w id m).1 :=
  inv_congr (inv_writeIndices _ (inv_writeAttrs w [] m.written hw (fun a ha => (hm.1 a ha).1)) m.indices m.attrLen hm.2) rfl

theorem inv_addMesh (w : W) (name : String) (id : Nat) (m : PMesh) (mat : Option Nat) (hw : Inv w) (hm : MeshWF m) :
    Inv (addMesh w name id m mat).1 := by
  rcases addMesh_ok w name id m mat with ⟨_, e⟩ | ⟨_, i, _, e⟩ | ⟨_, _, d, hd, _, e⟩ <;> rw [e]
  · exact hw
  · exact hw
  · have h0 : Inv (withMeshKey w id mat) := inv_congr hw rfl
    refine inv_congr ?_ (rfl : lowPart _ = lowPart d.1)
    rcases hd with ⟨attrs, idx, _, rfl⟩ | ⟨_, rfl⟩
    · exact h0
    · exact inv_writeMeshData _ id m h0 hm

/-- a slice `f` of every instance (ten values) is admissible vector data; `drop6` is asked of the ROTATION slice only -/
theorem vecsOK_inst (inst : List (List Nat)) (h : InstWF inst) (f : List Nat → List Nat) (d : Nat)
    (hf : ∀ t, t.length = 10 → (f t).length = d ∧ ∀ x ∈ f t, x ∈ t)
    (hn : d = 4 → ∀ t, ∀ x ∈ f t, x ∈ t.drop 6) : VecsOK .f32 d (inst.map f) := by
  intro v hv
  obtain ⟨t, ht, rfl⟩ := List.mem_map.mp hv
  obtain ⟨hlen, hx, hnan⟩ := h t ht
  refine ⟨(hf t hlen).1, ?_⟩
  intro x hxv
  obtain ⟨h1, h2, h3⟩ := hx x ((hf t hlen).2 x hxv)
  refine ⟨by simpa [Comp.size] using h1, ?_, ?_⟩
  · rintro ⟨_, h | h⟩ <;> contradiction
  · rintro ⟨_, hd, h⟩; rw [hnan x (hn hd t x hxv)] at h; cases h

/-- the three instancing vectors of admissible instances are admissible -/
theorem vecsOK_instances {inst : List (List Nat)} (h : InstWF inst) :
    VecsOK .f32 3 (inst.map (fun t => t.take 3)) ∧ VecsOK .f32 3 (inst.map (fun t => (t.drop 3).take 3))
    ∧ VecsOK .f32 4 (inst.map (fun t => (t.drop 6).take 4)) :=
  ⟨vecsOK_inst inst h _ 3 (fun t ht => ⟨by simp [ht], fun x hx => List.mem_of_mem_take hx⟩) (fun h => by cases h),
   vecsOK_inst inst h _ 3 (fun t ht => ⟨by simp [ht], fun x hx => List.mem_of_mem_drop (List.mem_of_mem_take hx)⟩)
     (fun h => by cases h),
   vecsOK_inst inst h _ 4 (fun t ht => ⟨by simp [ht], fun x hx => List.mem_of_mem_drop (List.mem_of_mem_take hx)⟩)
     (fun _ t x hx => List.mem_of_mem_take hx)⟩

theorem inv_addInstances (w : W) (inst : List (List Nat)) (hw : Inv w) (hi : InstWF inst) : Inv (addInstances w inst).1 := by
  by_cases h : inst = []
  · subst h; exact hw
  · obtain ⟨v0, v1, v2⟩ := vecsOK_instances hi
    have h0 : Inv { w with extUsed := setInsert w.extUsed "EXT_mesh_gpu_instancing" } := inv_congr hw rfl
    rw [addInstances_eq w h]
    exact inv_writeVec _ (inv_writeVec _ (inv_writeVec _ h0 _ _ _ (Or.inl rfl) v0) _ _ _ (Or.inl rfl) v1) _ _ _ (Or.inl rfl) v2

theorem inv_addModel (s : Scene) (w w' : W) (md : Model) (hs : SceneOK s) (hmd : md ∈ s.models) (hw : Inv w)
    (h : addModel s w md = .ok w') : Inv w' := by
  obtain ⟨id, m, _, hm, ⟨_, rfl⟩ | ⟨_, _, r, mi, hr, _, rfl⟩⟩ := addModel_ok h
  · exact hw
  · have h1 : Inv r.1 := inv_congr hw (congrArg lowPart (noMat_addModelMaterial hr) :)
    have h2 := inv_addMesh r.1 md.name id m r.2 h1 (hs.1 m (List.mem_of_getElem? hm))
    exact inv_congr (inv_addInstances _ md.instances h2 (hs.2 md hmd)) rfl

/-- REFINEMENT: for every well-formed scene, `AddScene` (materials, textures, mesh dedup, instancing, lights included)
    only ever issues admissible low-level writes, so the writer invariant of Props/C06 holds of the state it reaches -/
theorem scene_inv (s : Scene) (w : W) (hs : SceneOK s) (h : writeScene s = .ok w) : Inv w :=
  writeScene_ind inv_empty (fun w w' md hmd hw h => inv_addModel s w w' md hs hmd hw h) (fun _ _ hw => inv_congr hw rfl) h

/-- the buffer / bufferView / accessor part of `valid` -/
def validLow (d : Doc) (buf : List UInt8) : Bool :=
  (match d.bufLen with
   | some n => n == buf.length && n > 0
   | none => buf.length == 0)
  && d.views.all (viewInside buf.length)
  && pairwiseB viewDisj d.views
  && d.accessors.all (accOK buf d.views)

/-- `buffers[0].byteLength` of the document: absent for an empty buffer, else the buffer's length -/
theorem bufLen_cases {w : W} (hi : Inv w) :
    (w.buf = [] ∧ w.doc.bufLen = none) ∨ (0 < w.buf.length ∧ w.doc.bufLen = some w.buf.length) := by
  have e : w.doc.bufLen = if w.buf.length > 0 then some w.buf.length else none := by
    show (if w.bytesWritten > 0 then some w.bytesWritten else none) = _
    rw [hi.bytes]
  by_cases hp : w.buf.length > 0
  · exact Or.inr ⟨hp, e.trans (if_pos hp)⟩
  · exact Or.inl ⟨List.eq_nil_of_length_eq_zero (by omega), e.trans (if_neg hp)⟩

theorem validLow_of_inv (w : W) (hi : Inv w) : validLow w.doc w.buf = true := by
  unfold validLow
  simp only [Bool.and_eq_true, List.all_eq_true]
  refine ⟨⟨⟨?_, ?_⟩, tiles_disjoint hi.tiles⟩, hi.accs⟩
  · rcases bufLen_cases hi with ⟨hb, e⟩ | ⟨hp, e⟩ <;> rw [e]
    · simp [hb]
    · simp [hp]
  · intro v hv
    have := tiles_inside hi.tiles v hv
    simp [viewInside]; omega

/-- for EVERY well-formed scene the writer accepts: declared buffer length = actual; every bufferView inside the buffer
    and the views pairwise disjoint; every accessor reads an existing view, `count·elemSize` = the view's byte length,
    its data lie inside the buffer, and its declared min/max are the bounds of the stored values it decodes to -/
theorem scene_valid_low (s : Scene) (w : W) (hs : SceneOK s) (h : writeScene s = .ok w) :
    validLow w.doc w.buf = true := validLow_of_inv w (scene_inv s w hs h)

def PrimRefs (na nm : Nat) (p : Prim) : Prop :=
  (∀ ka ∈ p.attrs, ka.2 < na) ∧ (∀ i, p.indices = some i → i < na) ∧ (∀ m, p.material = some m → m < nm)

def NodeRefs (na nmesh nl : Nat) (n : GNode) : Prop :=
  (∀ m, n.mesh = some m → m < nmesh) ∧ (∀ ia, n.inst = some ia → ∀ ka ∈ ia, ka.2 < na) ∧ (∀ l, n.light = some l → l < nl)

/-- every stored index is smaller than the current length of the table it points into -/
structure MRefs (b : Nat) (w : W) : Prop where
  matIdx : ∀ p ∈ w.matIdx, p.2 < w.materials.length
  meshes : ∀ gm ∈ w.meshes, ∀ p ∈ gm.prims, PrimRefs w.accessors.length w.materials.length p
  written : ∀ e ∈ w.written, (∀ ka ∈ e.2.1, ka.2 < w.accessors.length) ∧ e.2.2 < w.accessors.length
  meshIdx : ∀ p ∈ w.meshIdx, p.2 < w.meshes.length + b     -- `b = 1` only inside AddMesh, between registering and appending
  nodes : ∀ n ∈ w.nodes, NodeRefs w.accessors.length w.meshes.length w.lights n
  scene : ∀ n ∈ w.scene, n < w.nodes.length

/-- the tables whose entries `MRefs` bounds -/
def refPart (w : W) := (w.matIdx, w.meshes, w.written, w.meshIdx, w.nodes, w.scene)

/-- the same lists of meshes / nodes / … are still fine when accessors, materials, lights grew -/
theorem mrefs_mono {b : Nat} {w w' : W} (h : MRefs b w) (e : refPart w' = refPart w) (g : Grows w w') : MRefs b w' := by
  have l1 := g.accessors.length_le
  have l2 := g.materials.length_le
  have l3 := g.lights
  simp only [refPart, Prod.mk.injEq] at e
  obtain ⟨e1, e2, e3, e4, e5, e6⟩ := e
  refine ⟨?_, ?_, ?_, ?_, ?_, ?_⟩
  · intro p hp; rw [e1] at hp; have := h.matIdx p hp; omega
  · intro gm hgm p hp; rw [e2] at hgm
    obtain ⟨a, b, c⟩ := h.meshes gm hgm p hp
    exact ⟨fun ka hka => by have := a ka hka; omega, fun i hi => by have := b i hi; omega, fun m hm => by have := c m hm; omega⟩
  · intro e he; rw [e3] at he
    obtain ⟨a, b⟩ := h.written e he
    exact ⟨fun ka hka => by have := a ka hka; omega, by omega⟩
  · intro p hp; rw [e4] at hp; rw [e2]; exact h.meshIdx p hp
  · intro n hn; rw [e5] at hn
    obtain ⟨a, b, c⟩ := h.nodes n hn
    exact ⟨fun m hm => by have := a m hm; rw [e2]; exact this, fun ia hia ka hka => by have := b ia hia ka hka; omega,
      fun l hl => by have := c l hl; omega⟩
  · intro n hn; rw [e6] at hn; rw [e5]; exact h.scene n hn

/-- `AddMaterial` returns an index into the (possibly extended) material list and keeps every table in range -/
theorem addMaterial_refs (th : Nat → Option PTexture) (w : W) (m : PMaterial) (r : W × Nat)
    (h : addMaterial th w m = .ok r) (hw : MRefs 0 w) : MRefs 0 r.1 ∧ r.2 < r.1.materials.length := by
  rcases addMaterial_ok h with ⟨k, e, _, he, rfl⟩ | ⟨_, r1, r2, r3, r4, r5, _, _, _, _, _, k, g, rfl⟩
  · exact ⟨hw, hw.matIdx e (List.mem_of_getElem? he)⟩
  · have h5 : MRefs 0 r5.1 := mrefs_mono hw (congrArg refPart k :) g
    refine ⟨⟨?_, ?_, h5.written, h5.meshIdx, h5.nodes, h5.scene⟩, by simp⟩
    · intro p hp
      simp only [List.mem_append, List.mem_singleton] at hp
      rcases hp with hp | rfl
      · have := h5.matIdx p hp; simp; omega
      · simp
    · intro gm hgm p hp
      obtain ⟨a, b, c⟩ := h5.meshes gm hgm p hp
      exact ⟨a, b, fun m hm => by have := c m hm; simp; omega⟩

theorem writeAttrs_refs (w : W) (acc : List (String × Nat)) (l : List Attr) (hacc : ∀ ka ∈ acc, ka.2 < w.accessors.length) :
    ∀ ka ∈ (writeAttrs w acc l).2, ka.2 < (writeAttrs w acc l).1.accessors.length := by
  induction l generalizing w acc with
  | nil => exact hacc
  | cons a r ih =>
    have hl : (writeVec w (attrComp a.name) a.dim a.vals).accessors.length = w.accessors.length + 1 := by simp [writeVec]
    exact ih (writeVec w (attrComp a.name) a.dim a.vals) (mapInsert acc (gltfAttrName a.name) w.accessors.length)
      (fun ka hka => by
        rcases mem_mapInsert _ _ _ _ hka with h | h
        · have := hacc ka h; omega
        · subst h; simp [hl])

theorem writeMeshData_refs {b : Nat} (w : W) (id : Nat) (m : PMesh) (hw : MRefs b w) :
    MRefs b (writeMeshData w id m).1
    ∧ (∀ ka ∈ (writeMeshData w id m).2.1, ka.2 < (writeMeshData w id m).1.accessors.length)
    ∧ (writeMeshData w id m).2.2 < (writeMeshData w id m).1.accessors.length := by
  have hk := writeAttrs_refs w [] m.written (by simp)
  have hlen : (writeMeshData w id m).1.accessors.length = (writeAttrs w [] m.written).1.accessors.length + 1 := by
    simp [writeMeshData, writeIndices]
  have h2 : MRefs b (writeIndices (writeAttrs w [] m.written).1 m.indices m.attrLen) :=
    mrefs_mono hw (congrArg refPart (noLow_writeAttrs w [] m.written) :)
      ((grows_writeAttrs w [] m.written).trans (grows_writeIndices _ m.indices m.attrLen))
  have hattrs : ∀ ka ∈ (writeMeshData w id m).2.1, ka.2 < (writeMeshData w id m).1.accessors.length := by
    intro ka hka; have := hk ka hka; omega
  have hidx : (writeMeshData w id m).2.2 < (writeMeshData w id m).1.accessors.length := by
    rw [hlen]; exact Nat.lt_succ_self _
  refine ⟨⟨h2.matIdx, h2.meshes, ?_, h2.meshIdx, h2.nodes, h2.scene⟩, hattrs, hidx⟩
  intro e he
  rcases mem_mapInsert _ _ _ _ he with h | h
  · exact h2.written e h
  · subst h; exact ⟨hattrs, hidx⟩

theorem mrefs_appendMesh (w : W) (h : MRefs 1 w) (name : String) (p : Prim)
    (hp : PrimRefs w.accessors.length w.materials.length p) :
    MRefs 0 { w with meshes := w.meshes ++ [{ name := name, prims := [p] }] } := by
  refine ⟨h.matIdx, ?_, h.written, ?_, ?_, h.scene⟩
  · intro gm hgm q hq
    simp only [List.mem_append, List.mem_singleton] at hgm
    rcases hgm with hgm | rfl
    · exact h.meshes gm hgm q hq
    · simp only [List.mem_singleton] at hq; subst hq; exact hp
  · intro q hq
    have := h.meshIdx q hq
    simp only [List.length_append, List.length_singleton]; omega
  · intro n hn
    obtain ⟨a, b, c⟩ := h.nodes n hn
    refine ⟨fun m hm => ?_, b, c⟩
    have := a m hm
    simp only [List.length_append, List.length_singleton]; omega

/-- `AddMesh`: every table stays in range and the returned mesh index is valid -/
theorem addMesh_refs (w : W) (name : String) (id : Nat) (m : PMesh) (mat : Option Nat) (hw : MRefs 0 w)
    (hmat : ∀ k, mat = some k → k < w.materials.length) :
    MRefs 0 (addMesh w name id m mat).1
    ∧ ∀ mi, (addMesh w name id m mat).2 = some mi → mi < (addMesh w name id m mat).1.meshes.length := by
  rcases addMesh_ok w name id m mat with ⟨_, e⟩ | ⟨_, i, hi, e⟩ | ⟨_, _, d, hd, k, e⟩ <;> rw [e]
  · exact ⟨hw, by simp⟩
  · refine ⟨hw, fun mi h => ?_⟩
    injection h with h; subst h
    exact hw.meshIdx _ (lookup_mem _ _ _ hi)
  · have h0 : MRefs 1 (withMeshKey w id mat) := by
      refine ⟨hw.matIdx, hw.meshes, hw.written, ?_, hw.nodes, hw.scene⟩
      intro p hp
      rcases mem_mapInsert _ _ _ _ hp with h | h
      · have := hw.meshIdx p h; simp [withMeshKey] at this ⊢; omega
      · subst h; simp [withMeshKey]
    have hd' : MRefs 1 d.1 ∧ (∀ ka ∈ d.2.1, ka.2 < d.1.accessors.length) ∧ d.2.2 < d.1.accessors.length := by
      rcases hd with ⟨attrs, idx, hl, rfl⟩ | ⟨_, rfl⟩
      · exact ⟨h0, h0.written _ (lookup_mem _ _ _ hl)⟩
      · exact writeMeshData_refs _ id m h0
    obtain ⟨h1, ha, hi⟩ := hd'
    have ema : d.1.materials = w.materials := (congrArg W.materials k :)
    exact ⟨mrefs_appendMesh _ h1 name _ ⟨ha, fun i h => by injection h with h; subst h; exact hi,
        fun j hj => by rw [ema]; exact hmat j hj⟩,
      fun mi h => by injection h with h; subst h; simp [show d.1.meshes = w.meshes from (congrArg W.meshes k :)]⟩

theorem addInstances_refs (w : W) (inst : List (List Nat)) :
    ∀ ia, (addInstances w inst).2 = some ia → ∀ ka ∈ ia, ka.2 < (addInstances w inst).1.accessors.length := by
  by_cases h : inst = []
  · subst h; exact fun ia hia => by cases hia
  · rw [addInstances_eq w h]
    have hl : ∀ (x : W) c d v, (writeVec x c d v).accessors.length = x.accessors.length + 1 := by
      intro x c d v; simp [writeVec]
    intro ia hia ka hka
    injection hia with hia; subst hia
    simp only [hl, List.mem_cons, List.mem_nil_iff, or_false] at hka ⊢
    rcases hka with rfl | rfl | rfl <;> simp only <;> omega

theorem addModelMaterial_refs (s : Scene) (w : W) (md : Model) (r : W × Option Nat)
    (h : addModelMaterial s w md = .ok r) (hw : MRefs 0 w) : MRefs 0 r.1 ∧ ∀ k, r.2 = some k → k < r.1.materials.length := by
  rcases addModelMaterial_ok h with ⟨_, rfl⟩ | ⟨_, _, r', _, _, h', rfl⟩
  · exact ⟨hw, by simp⟩
  · obtain ⟨h1, h2⟩ := addMaterial_refs _ _ _ _ h' hw
    exact ⟨h1, fun k hk => by injection hk with hk; subst hk; exact h2⟩

theorem addModel_refs (s : Scene) (w w' : W) (md : Model) (hw : MRefs 0 w) (h : addModel s w md = .ok w') : MRefs 0 w' := by
  obtain ⟨id, m, _, _, ⟨_, rfl⟩ | ⟨_, _, r, mi, hr, hmi, rfl⟩⟩ := addModel_ok h
  · exact hw
  · obtain ⟨h1, hmat⟩ := addModelMaterial_refs s w md r hr hw
    obtain ⟨h2, hmesh⟩ := addMesh_refs r.1 md.name id m r.2 h1 hmat
    generalize addMesh r.1 md.name id m r.2 = A at h2 hmesh hmi ⊢
    have hinst := addInstances_refs A.1 md.instances
    have e := noInst_addInstances A.1 md.instances
    have g := grows_addInstances A.1 md.instances
    generalize addInstances A.1 md.instances = I at g hinst e ⊢
    have en : I.1.nodes = A.1.nodes := (congrArg W.nodes e :)
    have h3 : MRefs 0 I.1 := mrefs_mono h2 (congrArg refPart e :) g
    refine ⟨h3.matIdx, h3.meshes, h3.written, h3.meshIdx, ?_, ?_⟩
    · intro n hn
      simp only [withNode, List.mem_append, List.mem_singleton] at hn
      rcases hn with hn | rfl
      · exact h3.nodes n hn
      · refine ⟨fun mm hmm => ?_, fun ia hia => hinst ia hia, fun l hl => by simp [modelNode] at hl⟩
        injection hmm with hmm; subst hmm
        have em : I.1.meshes = A.1.meshes := (congrArg W.meshes e :)
        show mi < I.1.meshes.length
        rw [em]; exact hmesh mi hmi
    · intro n hn
      simp only [withNode, List.mem_append, List.mem_singleton] at hn
      simp only [withNode, List.length_append, List.length_singleton, en]
      rcases hn with hn | rfl
      · have := h3.scene n hn; rw [en] at this; omega
      · omega

theorem addLight_refs (w : W) (p : List Nat) (hw : MRefs 0 w) : MRefs 0 (addLight w p) := by
  refine ⟨hw.matIdx, hw.meshes, hw.written, hw.meshIdx, ?_, ?_⟩
  · intro n hn
    simp only [addLight, List.mem_append, List.mem_singleton] at hn
    rcases hn with hn | rfl
    · obtain ⟨a, b, c⟩ := hw.nodes n hn
      exact ⟨a, b, fun l hl => by have := c l hl; simp only [addLight]; omega⟩
    · exact ⟨by simp, by simp, fun l hl => by injection hl with hl; subst hl; simp [addLight]⟩
  · intro n hn
    simp only [addLight, List.mem_append, List.mem_singleton] at hn
    simp only [addLight, List.length_append, List.length_singleton]
    rcases hn with hn | rfl
    · have := hw.scene n hn; omega
    · omega

/-- INDEX REFERENCES, for every scene the writer accepts (no well-formedness needed): every primitive's attribute and
    index accessor and its material exist; every node's mesh, instancing accessors and light exist; the scene lists
    existing nodes; the dedup tables (material tracker, mesh table, written-mesh table) only hold valid indices.
    (accessor → bufferView is `scene_valid_low`; material → texture → image / sampler: `gltf_refs_in_range`.) -/
theorem gltf_refs_in_range_partial (s : Scene) (w : W) (h : writeScene s = .ok w) : MRefs 0 w :=
  writeScene_ind ⟨by simp, by simp, by simp, by simp, by simp, by simp⟩
    (fun w w' md _ hw h => addModel_refs s w w' md hw h) (fun w l hw => addLight_refs w l hw) h

/-- NODE TRS: one iteration of the model loop either adds no node (empty mesh) or appends exactly one node whose name,
    translation, rotation and scale are the model's own values, bit for bit, and lists it in the scene -/
theorem gltf_node_trs (s : Scene) (w w' : W) (md : Model) (h : addModel s w md = .ok w') :
    w'.nodes = w.nodes
    ∨ ∃ mi inst, w'.nodes = w.nodes ++ [{ name := md.name, mesh := some mi, translation := md.translation,
                                          rotation := md.rotation, scale := md.scale, inst := inst }] := by
  obtain ⟨_, _, ⟨_, rfl⟩ | ⟨_, mi, inst, hn, _⟩⟩ := addModel_node h
  · exact Or.inl rfl
  · exact Or.inr ⟨mi, inst, hn⟩

end C06
end PolyVerif
