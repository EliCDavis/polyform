/-
  C18 — the primitives are ONE surface: FACE connectedness for all parameters.

  `Props/C18.lean` has, per primitive, `*_oneUmbrella*` (the link of every vertex is one cycle) and `*_connected*`
  (every vertex is reached from vertex 0 along edges).  Here the statement about the TRIANGLES: any triangle of the index
  buffer is reached from any other one (in particular from triangle 0) by repeatedly crossing an edge that the two
  triangles traverse in opposite directions — for the seamed / unwelded primitives on the RAW index triangles, with edges
  compared after the merge map (`FaceConnectedMod`).  It follows from one general theorem
  (`faceConnected_of_oneUmbrella_and_reach`): walk round the umbrella of each vertex of a vertex path.

  Tie: the lists are the same `uvSphereTris`, `hemisphereTris`, `uvSphereUnweldedTris`, `cylinderTris`, `cubeWeldedTris`,
  `cubeQuadsTris` that `*_indices_from_source` / `quadTris_eq_table` (Props/C18.lean) prove equal to the loop programs and
  tables regenerated from sphere.go, hemisphere.go, circle.go, cylinder.go, cube.go on every run, and that the driver
  prints for the exact correspondence lines `c18.tris.*`.  `connected_checker_sound` +
  `manifold_oracle_implies_faceConnected` say what an accepted oracle line `c18.holds.manifold` (evaluated on the
  IMPLEMENTATION's mesh) means.
-/
import PolyVerif.Props.C18
import PolyVerif.Lemmas.SolidsConnected

namespace PolyVerif
namespace C18
open Solids Relation

/-- **general**: if every used vertex has one umbrella and every used vertex is reached from a root vertex along edges,
    then any two triangles are joined by a chain of triangles crossing shared edges -/
theorem faceConnected_of_oneUmbrella_and_reach {β : Type} (ts : List (β × β × β)) (v0 : β)
    (hU : ∀ v ∈ cornersOf ts, UmbrellaCycle ts v)
    (hR : ∀ v ∈ cornersOf ts, ReflTransGen (fun a b => (a, b) ∈ edges ts) v0 v) : FaceConnected ts :=
  faceConnected_of_umbrellas_reach ts v0 hU hR

/-- the executable `Connected` (what `c18.holds.manifold` evaluates, what the box theorems decide) is SOUND: whenever it
    accepts, every used vertex is reached from the first corner of the list along directed edges -/
theorem connected_checker_sound {β : Type} [DecidableEq β] (ts : List (β × β × β)) (h : Connected ts) (v0 : β)
    (h0 : (cornersOf ts).head? = some v0) :
    ∀ v ∈ cornersOf ts, ReflTransGen (fun a b => (a, b) ∈ edges ts) v0 v :=
  connected_sound ts h v0 h0

/-- hence a mesh accepted by the oracle's two predicates is face-connected -/
theorem manifold_oracle_implies_faceConnected {β : Type} [DecidableEq β] (ts : List (β × β × β))
    (hv : VertexManifold ts) (hc : Connected ts) : FaceConnected ts :=
  faceConnected_of_checks ts hv hc

/-- **welded UV sphere, all sizes**: any two triangles of the index buffer are joined across shared edges -/
theorem uvSphere_faceConnected {rows cols : Nat} (hR : 2 ≤ rows) (hC : 3 ≤ cols) :
    FaceConnected (uvSphereTris rows cols) := by
  rw [uvSphereTris_eq_map hR]
  exact (sphereL_faceConnected hR hC).map _

/-- **hemisphere (cap fan + dome), all sizes** -/
theorem hemisphere_faceConnected {rows cols : Nat} (hR : 2 ≤ rows) (hC : 3 ≤ cols) :
    FaceConnected (hemisphereTris rows cols) := by
  rw [hemisphereTris_eq_flip]
  exact (uvSphere_faceConnected hR hC).flip

/-- **unwelded UV sphere, all sizes**: on the RAW triangles (every triangle has its own three vertices), with edges
    compared after the copy map -/
theorem uvSphereUnwelded_faceConnected_mod_merge {rows cols : Nat} (hR : 2 ≤ rows) (hC : 3 ≤ cols) :
    FaceConnectedMod (uvUnweldedSrc rows cols) (uvSphereUnweldedTris rows cols) := by
  refine FaceConnectedMod.of_map _ ?_ ?_ <;> rw [← tmap_eq_tm, uvUnwelded_map_src]
  · exact uvSphere_closed hR hC
  · exact uvSphere_faceConnected hR hC

/-- **capped cylinder, all side counts `≥ 3`**: on the RAW triangles of side strip + top cap + bottom cap, with edges
    compared after the merge map (seam column, cap rims): the two caps and the wall are ONE surface -/
theorem cylinder_faceConnected_mod_merge {sides : Nat} (hS : 3 ≤ sides) :
    FaceConnectedMod (cylinderPt sides) (cylinderTris sides false false) := by
  refine FaceConnectedMod.of_map _ ?_ ?_ <;> rw [← tmap_eq_tm, cylinder_map_pt (by omega)]
  · exact cylL_closed hS
  · exact cylL_faceConnected hS

/-- the welded box (regenerated `cubeVertIndices`) -/
theorem cubeWelded_faceConnected : FaceConnected cubeWeldedTris :=
  faceConnected_of_checks _ cubeWelded_vm cubeWelded_conn

/-- the six-quad box: on the RAW triangles of the six quads, edges compared after the corner merge map -/
theorem cubeQuads_faceConnected_mod_merge : FaceConnectedMod cubeQuadsPt cubeQuadsTris :=
  FaceConnectedMod.of_map _ cubeQuads_closed_mod_merge (faceConnected_of_checks _ cubeQuads_vm cubeQuads_conn)

/-! non-vacuity / discrimination -/

example : uvSphereTris 2 3 ≠ [] := by decide
example : cylinderTris 3 false false ≠ [] := by decide
/-- e.g. triangle 0 (first wall triangle) of the 5-sided cylinder and its last triangle (bottom cap) are joined -/
example : ReflTransGen (FaceAdjMod (cylinderPt 5) (cylinderTris 5 false false)) (1, 0, 2) (22, 23, 18) :=
  cylinder_faceConnected_mod_merge (by decide) _ (by decide) _ (by decide)
/-- two triangles without a common edge are NOT face-connected -/
example : ¬ FaceConnected [((0 : Nat), 1, 2), (3, 4, 5)] := by
  intro h
  have h' := h (0, 1, 2) (by simp) (3, 4, 5) (by simp)
  rcases ReflTransGen.cases_head h' with h0 | ⟨c, ⟨-, hc, a, b, h1, h2⟩, -⟩
  · simp at h0
  · simp only [List.mem_cons, List.not_mem_nil, or_false] at hc
    rcases hc with rfl | rfl <;>
      simp only [triEdges, List.mem_cons, Prod.mk.injEq, List.not_mem_nil, or_false] at h1 h2 <;> omega

end C18
end PolyVerif
