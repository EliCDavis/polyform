/-
  C13 — rejected messages are no-ops of the sequential specification (the defect this guards against, seeded change
  C13-m17: `Value[T].ApplyMessage` decoding into the value the parameter already holds, so that a REJECTED message is
  partially applied).  The predicate the harness evaluates on the implementation
  (`c13.holds.rejected_message_noop`, `c13.holds.artifact_snapshot` in Driver/C13.lean) is this statement: the reads
  after a rejected `UpdateParameter` answer exactly what they would have answered had the call never been made.
-/
import PolyVerif.Lemmas.Linz

namespace PolyVerif
namespace C13
open Nodes Linz

variable {V : Type} {F : Nat}

/-- a rejected message answers `err` and leaves the whole graph state (values, versions, caches) alone -/
theorem rejected_message_step (g : Graph V) (p : Nat) :
    seqStep F g (.updateRejected p) = (g, .err) := rfl

/-- **rejected_message_noop**: in ANY sequential run a rejected `UpdateParameter` can be deleted — the final state
    is the same, the call itself answered `err`, and every call after it (ParameterData, Artifact, later updates)
    gets exactly the response it gets in the run without the rejected call -/
theorem rejected_message_noop (g0 : Graph V) (pre post : List (Call V)) (p : Nat) :
    (replay F g0 (pre ++ .updateRejected p :: post)).1 = (replay F g0 (pre ++ post)).1 ∧
    (replay F g0 (pre ++ .updateRejected p :: post)).2 =
      (replay F g0 pre).2 ++ .err :: (replay F (replay F g0 pre).1 post).2 ∧
    (replay F g0 (pre ++ post)).2 = (replay F g0 pre).2 ++ (replay F (replay F g0 pre).1 post).2 := by
  simp [replay_append, replay, rejected_message_step]

/-- non-vacuity: on the parameter graph, `[u 0 5, ub 0, d 0]` answers `[ok, err, v 5]` — the rejected message
    between the accepted update and the read changes neither -/
example : (replay 2 (fun _ => (.param 0 0 : Node Nat)) [.update 0 5, .updateRejected 0, .paramData 0]).2
    = [.ok, .err, .val 5] := by decide

end C13
end PolyVerif
