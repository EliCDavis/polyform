/-
  C12 — sessions that load a saved graph into the RUNNING application (the editor's `POST /graph`) and go on editing.

  Model: `PolyVerif.Model.GraphSession` (`SEv` = edit | load, `evStep`: a load is `decode (current header) file`,
  `runEv`).  The driver answers the `c12.edit` / `c12.save` / `c12.reload` lines of such sessions with exactly these
  definitions (event `L <file>`), so the theorems below are about what the correspondence ties to
  `App.ApplySchema` / `ApplyAppSchema` on a non-fresh application.
-/
import PolyVerif.Model.GraphSession
import PolyVerif.Lemmas.GraphIO
import PolyVerif.Props.C12

namespace PolyVerif
namespace C12
open GraphIO

variable {V J : Type}

/-! ### a load resets the state: only what follows the LAST load matters -/

theorem runEv_edits (E : Env V J) (g : Graph V) (ops : List (Op J)) : runEv E g (edits ops) = run E g ops := by
  induction ops generalizing g with
  | nil => rfl
  | cons op ops ih =>
    simp only [edits, List.map_cons, runEv, List.foldl_cons, run] at ih ⊢
    exact ih _

/-- **State := decode(file).**  A session `pre ++ [load s] ++ post` whose `post` part contains no further load ends in
    the state reached by the editing operations `post` from the graph the load left: nothing of `pre` (the earlier edits,
    the earlier loads, whatever ids they resolved) is visible except through the header the file is merged into. -/
theorem session_after_last_load (E : Env V J) (g : Graph V) (pre : List (SEv J)) (s : Schema J) (post : List (Op J)) :
    runEv E g (pre ++ SEv.load s :: edits post) = run E (loaded E (runEv E g pre) s) post := by
  rw [← runEv_edits]
  simp only [runEv, List.foldl_append, List.foldl_cons, loaded]

/-- loading into a running application differs from loading into a fresh one in the header merge only -/
theorem decode_into_running (E : Env V J) (h : Hdr) (s : Schema J) :
    (decode E h s : Except Err (Graph V)) =
      (decode E Hdr.empty s).map (fun g => { g with hdr := applyHdr h s.hdr }) := by
  unfold decode
  simp only [bind, Except.bind]
  cases decodeNodes E s.nodes s.nodes with
  | error e => rfl
  | ok ns =>
    cases decodeProds E s.nodes s.prods with
    | error e => rfl
    | ok ps => rfl

/-! ### files the application saved -/

/-- `s` is a file some application saved from a well-formed graph (with a fitting comparator, at most one binary payload) -/
def SavedFile (E : Env V J) (s : Schema J) : Prop :=
  ∃ (cmp : Name → Name → Bool) (g0 : Graph V), WF E g0 ∧
    (∀ n ∈ g0.nodes, ∀ T, E.types n.ty = some T → CmpOK cmp T n) ∧ FilePayloadLast E g0 ∧ s = encode E cmp g0

/-- loading a saved file into a running application: the state IS the saved graph (`norm`: applied value := `Value()`),
    under the merged header — whatever the application held before -/
theorem load_saved {E : Env V J} (hE : EnvOK E) {cmp : Name → Name → Bool} {g0 : Graph V} (hw : WF E g0)
    (hc : ∀ n ∈ g0.nodes, ∀ T, E.types n.ty = some T → CmpOK cmp T n) (hf : FilePayloadLast E g0) (g : Graph V) :
    loaded E g (encode E cmp g0) = { g0.norm with hdr := applyHdr g.hdr g0.hdr } := by
  simp only [loaded, evTotal, evStep]
  rw [decode_into_running, decode_encode hE hw hc hf]
  rfl

theorem refOK_of_nodes {E : Env V J} {g g' : Graph V} (f : Node V → Node V) (hid : ∀ n, (f n).id = n.id)
    (hty : ∀ n, (f n).ty = n.ty) (hn : g'.nodes = g.nodes.map f) {t : VTy} {r : Ref} (h : RefOK E g t r) :
    RefOK E g' t r :=
  h.mono fun s hs => ⟨f s, hn ▸ List.mem_map_of_mem hs, hid s, hty s⟩

theorem paramOK_norm {E : Env V J} {ty : TyName} {k : PKind} {p : Param V} (h : ParamOK E ty k p) :
    ParamOK E ty k p.norm :=
  ⟨fun _ hv => h.value_law hv, h.2⟩

/-- a reload's normalisation and the header merge keep well-formedness -/
theorem wf_norm_hdr {E : Env V J} {g : Graph V} (hw : WF E g) (h : Hdr) : WF E { g.norm with hdr := h } := by
  refine WF.of_keeps (g := g) (fun s hs => ⟨s.norm, List.mem_map_of_mem hs, rfl, rfl⟩) ?_ ?_ hw.prodsNodup hw.prods
  · show ((g.nodes.map Node.norm).map (·.id)).Nodup
    rw [List.map_map]; exact hw.nodup
  · intro n hn
    obtain ⟨m, hm, rfl⟩ := List.mem_map.1 hn
    obtain ⟨hid, T, hT, hs, ha, hp⟩ := hw.nodes m hm
    refine ⟨hid, T, hT, hs, ha, ?_⟩
    show (match T.param, m.par.map Param.norm with
      | some k, some p => ParamOK E m.ty k p
      | none, none => True
      | _, _ => False)
    cases hk : T.param <;> cases hpar : m.par <;> simp only [hk, hpar, Option.map] at hp ⊢
    exact paramOK_norm hp

/-! ### "after any sequence": sessions with loads -/

/-- **Sessions with mid-session loads stay well-formed.**  After ANY session — editing operations (failing ones
    included) interleaved with loads, into the running application, of files some application saved — ids are unique
    and non-empty, types registered, every wiring / producer reference resolves with a matching type, payloads
    re-readable: the hypothesis `decode_encode` needs for the final save. -/
theorem session_wf {E : Env V J} (hE : EnvOK E) {g : Graph V} (hw : WF E g) (evs : List (SEv J))
    (hl : ∀ s, SEv.load s ∈ evs → SavedFile (V := V) E s) : WF E (runEv E g evs) := by
  induction evs generalizing g with
  | nil => exact hw
  | cons ev evs ih =>
    simp only [runEv, List.foldl_cons]
    refine ih ?_ (fun s hs => hl s (List.mem_cons_of_mem _ hs))
    cases ev with
    | edit op => exact run_wf hE [op] hw
    | load s =>
      obtain ⟨cmp, g0, hw0, hc0, hf0, rfl⟩ := hl s List.mem_cons_self
      have := load_saved hE hw0 hc0 hf0 g
      simp only [loaded] at this
      rw [this]
      exact wf_norm_hdr hw0 _

/-- **The property's save → load clause for sessions that contain loads** (the code as it is: `dependencyNameLess`):
    the graph reached by any such session, saved and loaded into a FRESH application, comes back as itself. -/
theorem session_decode_encode {E : Env V J} (hE : EnvOK E) (hP : ∀ ty T, E.types ty = some T → PortsOK T)
    (h : Hdr) (evs : List (SEv J)) (hl : ∀ s, SEv.load s ∈ evs → SavedFile (V := V) E s)
    (hlen : ∀ n ∈ (runEv E (Graph.init h) evs).nodes, ∀ p, (n.arrs p).length ≤ 2 ^ 63)
    (hf : FilePayloadLast E (runEv E (Graph.init h) evs)) :
    decode E Hdr.empty (encode E depLess (runEv E (Graph.init h) evs)) = .ok (runEv E (Graph.init h) evs).norm :=
  decode_encode hE (session_wf hE (init_wf h) evs hl)
    (fun n hn T hT => natural_order_ok hE hT (hP _ T hT) n (hlen n hn)) hf

/-- the session state after re-opening the application's OWN save: the graph as it was (normalised), the header
    merged into itself; the rest of the session is an ordinary edit history from there
    (`edit_history_wf_from`, `decode_encode`, and — from a well-formed start — the artifact theorems apply) -/
theorem reopen_own_save {E : Env V J} (hE : EnvOK E) {cmp : Name → Name → Bool} {g : Graph V} (hw : WF E g)
    (hc : ∀ n ∈ g.nodes, ∀ T, E.types n.ty = some T → CmpOK cmp T n) (hf : FilePayloadLast E g) (post : List (Op J)) :
    runEv E g (SEv.load (encode E cmp g) :: edits post) = run E { g.norm with hdr := applyHdr g.hdr g.hdr } post := by
  have := session_after_last_load E g [] (encode E cmp g) post
  simp only [List.nil_append] at this
  rw [this]
  congr 1
  exact load_saved hE hw hc hf g

/-! ### non-vacuity: a session over the witness environment of `Props/C12` that loads its own save and goes on -/

example : SavedFile (V := Nat) wEnv (encode wEnv depLess (Graph.init Hdr.empty)) :=
  ⟨depLess, Graph.init Hdr.empty, init_wf _, by simp [Graph.init], by simp [FilePayloadLast, Graph.init], rfl⟩

example : ((runEv wEnv (Graph.init Hdr.empty : Graph Nat)
    [.edit (.create "P"), .edit (.setValue "Node-0" 7), .load (encode wEnv depLess (Graph.init Hdr.empty)),
     .edit (.create "P"), .edit (.setValue "Node-0" 9)]).nodes.map (fun n => (n.id, n.par.bind Param.value))) =
    [("Node-0", some 9)] := by decide +kernel

end C12
end PolyVerif
