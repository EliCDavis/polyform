/-
  C04 / C08 — the VALUE CONVERSIONS of the PLY scalar codec in the hand model ARE those of the source (engine F tie,
  regenerated on every run).

  `PolyVerif/Gen/PlyValues.lean` is regenerated from /repo/formats/ply/writer_vector1.go and reader_vector1.go (go/facts mode
  c04.values; a small expression translator over go/ast, any unknown statement or expression shape is an error): per `case`
  of the type switches, the store and the expression written for a component `v` (binary and ASCII), and the expression read
  back from the bytes at the reader's offset; the bit size of the ASCII `ParseFloat` and its conditional `/= 255`.
  The model (`PolyVerif/Model/Ply.lean`) is stated over the parameter bundle `Coding α`; `binStore`, `asciiPrint`, `binLoad`
  below are the READING of each Go expression as the bundle primitive it denotes (`u8 v` IS
  `byte(math.Round(math.Max(0, math.Min(1, v)) * 255))`, `f32 v` IS `math.Float32bits(float32(v))`, …: what the driver's
  `Coding Float` computes and every `c04.write` / `c04.read` line corresponds).  The theorems prove the model's per-type
  functions `encScalarBin`, `encScalarAscii`, `decScalarBin` (scalar readers) and `Built.readAscii` equal to the regenerated
  tables: a changed branch (Float written with `Float64bits`, Int read without `int32(·)`, a dropped clamp, another
  divisor, another `ParseFloat` bit size, a type moved to another `case`) breaks a named theorem or the extractor before any
  sample runs.  Covered: the Vector1 (scalar property) writer and reader, binary and ASCII; the 2-, 3- and 4-vector
  writers and readers, binary and ASCII (`fallthrough` included).  NOT covered
  (listed in notes/C04.md): the list readers.  (Core Lean only.)
-/
import PolyVerif.Model.Ply
import PolyVerif.Gen.PlyValues
import PolyVerif.Props.C04Types
import PolyVerif.Lemmas.Ply

namespace PolyVerif
namespace C04
open Ply
open PolyVerif.Gen

variable {α : Type}

/-- the row of a type-switch table whose `case` lists the constant of `t` (`none`: the panicking default) -/
def rowOf {β : Type} (tbl : List (List String × β)) (t : SType) : Option β :=
  (tbl.find? (fun r => r.1.contains (constOf t))).map (·.2)

/-- reading of the binary writer's stores: store kind and Go expression in the component `v` ↦ bytes, via `Coding` -/
def binStore (c : Coding α) (e : Endian) (v : α) : String × String → Option Bytes
  | ("store8", "(byte (math.Round (* (math.Max 0 (math.Min 1 v)) 255)))") => some [c.u8 v]
  | ("put32", "(uint32 v)") => some (put32 e (c.i32 v))
  | ("put32", "(math.Float32bits (float32 v))") => some (put32 e (c.f32 v))
  | ("put64", "(math.Float64bits v)") => some (put64 e (c.f64 v))
  -- 2- / 3- / 4-vector writers: the vector-library chain `.Clamp(0, 1).Scale(255).RoundToInt()` / `.ToFloat32()`, componentwise
  | ("store8", "(byte (RoundToInt (Scale 255 (Clamp 0 1 v))))") => some [c.u8 v]
  | ("put32", "(math.Float32bits (ToFloat32 v))") => some (put32 e (c.f32 v))
  | _ => none

/-- reading of the ASCII writer's prints: strconv call (with its format arguments) and the expression printed -/
def asciiPrint (c : Coding α) (v : α) : String × String → Option Bytes
  | ("AppendInt 10", "(int64 (math.Round (* (math.Max 0 (math.Min 1 v)) 255)))") => some (showNat (c.u8 v).toNat)
  | ("AppendInt 10", "(int64 v)") => some (c.showI v)
  | ("AppendFloat 'f' -1 64", "v") => some (c.showF v)
  -- 2- / 3- / 4-vector ASCII writers: `.Clamp(0, 1).Scale(255).Round()`, componentwise
  | ("AppendInt 10", "(int64 (Round (Scale 255 (Clamp 0 1 v))))") => some (showNat (c.u8 v).toNat)
  | _ => none

/-- reading of the binary scalar reader's loads: Go expression in the bytes `wire` at the reader's offset -/
def binLoad (c : Coding α) (e : Endian) (dim : Nat) (buf : Bytes) (off : Nat) : String → Option (R α)
  | "(/ (float64 (byte wire)) 255)" =>
      some (match buf[off]? with | some b => .ok (c.div255 (c.ofInt b.toNat)) | none => .error .panic)
  | "(float64 (int32 (u32 wire)))" =>
      some (match get32 e (buf.drop off) with | some u => .ok (c.ofInt (toInt32 u)) | none => .error .panic)
  | "(float64 (math.Float32frombits (u32 wire)))" =>
      some (match get32 e (buf.drop off) with | some u => .ok (c.unf32 u) | none => .error .panic)
  | "(math.Float64frombits (u64 wire))" =>
      some (match get64 e (buf.drop off) with | some u => .ok (c.unf64 u) | none => .error .panic)
  -- 2- / 3- / 4-vector readers: `vectorN.New(…).DivByConstant(255)` / `.ToFloat64()`, componentwise; `DivByConstant` of
  -- vector3 / vector4 divides, that of vector2 multiplies by the reciprocal: `Coding.norm8 dim`
  | "(DivByConstant 255 (float64 (byte wire)))" =>
      some (match buf[off]? with | some b => .ok (c.norm8 dim (c.ofInt b.toNat)) | none => .error .panic)
  | "(ToFloat64 (int32 (u32 wire)))" =>
      some (match get32 e (buf.drop off) with | some u => .ok (c.ofInt (toInt32 u)) | none => .error .panic)
  | "(ToFloat64 (math.Float32frombits (u32 wire)))" =>
      some (match get32 e (buf.drop off) with | some u => .ok (c.unf32 u) | none => .error .panic)
  | _ => none

/-- `encScalarBin` (what the round-trip theorems are about) is `builtVector1PropertyWriter.Write`, case by case -/
theorem encScalarBin_from_source (c : Coding α) (e : Endian) (t : SType) (v : α) :
    encScalarBin c e t v =
      match (rowOf PlyValues.v1BinWrite t).bind (binStore c e v) with
      | some bs => .ok bs
      | none => .error .panic := by
  cases t <;> rfl

/-- `encScalarAscii` is `asciiVector1PropertyWriter.Write`, case by case -/
theorem encScalarAscii_from_source (c : Coding α) (t : SType) (v : α) :
    encScalarAscii c t v =
      match (rowOf PlyValues.v1AsciiWrite t).bind (asciiPrint c v) with
      | some bs => .ok bs
      | none => .error .panic := by
  cases t <;> rfl

/-- `decScalarBin` at dimension 1 is `builtVector1PropertyReader.Read`, case by case -/
theorem decScalarBin_from_source (c : Coding α) (e : Endian) (t : SType) (buf : Bytes) (off : Nat) :
    decScalarBin c e 1 t buf off =
      match (rowOf PlyValues.v1BinRead t).bind (binLoad c e 1 buf off) with
      | some r => r
      | none => .error .panic := by
  cases t <;> rfl

/-- every table row is read (no row falls into the `none` of a reading) and lists only known constants -/
theorem value_tables_read_from_source :
    (∀ r ∈ PlyValues.v1BinWrite, (∀ n ∈ r.1, n ∈ allSTypes.map constOf) ∧ (binStore PlyLemmas.toyCoding .le 0 r.2).isSome) ∧
    (∀ r ∈ PlyValues.v1AsciiWrite, (∀ n ∈ r.1, n ∈ allSTypes.map constOf) ∧ (asciiPrint PlyLemmas.toyCoding 0 r.2).isSome) ∧
    (∀ r ∈ PlyValues.v1BinRead, (∀ n ∈ r.1, n ∈ allSTypes.map constOf) ∧ (binLoad PlyLemmas.toyCoding .le 1 [] 0 r.2).isSome) := by
  decide +kernel

/-! ### the 2-, 3- and 4-vector writers and readers (`writer_vector{2,3,4}.go`, `reader_vector{2,3,4}.go`)

The model writes and reads a vector property component by component with the SAME per-type functions as a scalar
(`encRecordBin` / `encRecordAscii` over `writerTypes`, `Built.readBin` over the component offsets).  The regenerated tables
list, per `case`, one store / print / load per component; vector-library methods (`Clamp`, `Scale`, `RoundToInt`, `Round`,
`ToFloat32`, `ToFloat64`, `DivByConstant`) are read componentwise by name (their bodies live in the vector library, outside
/repo: trusted as named, corresponded by the driver). -/

def compsOf (n : Nat) : List String := ["X", "Y", "Z", "W"].take n

/-- binary 2- / 3- / 4-vector writers: for every type, component `k` (X, Y, Z[, W] in this order) is stored at byte offset
`k · size` of the record buffer with exactly the bytes `encScalarBin` produces; unimplemented types panic -/
theorem vecBinWrite_from_source (c : Coding α) (e : Endian) (t : SType) (v : α) :
    ∀ p ∈ [(2, PlyValues.v2BinWrite), (3, PlyValues.v3BinWrite), (4, PlyValues.v4BinWrite)],
      (rowOf p.2 t).map (fun st => st.map (fun s => (s.1, s.2.1, binStore c e v (s.2.2.1, s.2.2.2))))
        = match encScalarBin c e t v with
          | .ok bs => some ((compsOf p.1).zipIdx.map (fun x => (x.2 * t.size, x.1, some bs)))
          | .error _ => none := by
  intro p hp
  simp only [List.mem_cons, List.not_mem_nil, or_false] at hp
  rcases hp with rfl | rfl | rfl <;> cases t <;> rfl

/-- ASCII 2- / 3- / 4-vector writers (the `UChar` case falls through into the integer prints after rescaling): every component
is printed with exactly the text `encScalarAscii` produces, components separated by one blank -/
theorem vecAsciiWrite_from_source (c : Coding α) (t : SType) (v : α) :
    ∀ p ∈ [(2, PlyValues.v2AsciiWrite), (3, PlyValues.v3AsciiWrite), (4, PlyValues.v4AsciiWrite)],
      (rowOf p.2 t).map (fun pr => pr.map (fun s => (s.1, asciiPrint c v (s.2.1, s.2.2))))
        = match encScalarAscii c t v with
          | .ok bs => some ((compsOf p.1).map (fun cn => (cn, some bs)))
          | .error _ => none := by
  intro p hp
  simp only [List.mem_cons, List.not_mem_nil, or_false] at hp
  rcases hp with rfl | rfl | rfl <;> cases t <;> rfl

/-- binary 2- / 3- / 4-vector readers: every component is decoded, at its own offset field, by `decScalarBin` at that dimension
(`uchar`: `norm8`, i.e. `/ 255`, at dimension 2 `· (1/255)`); the types without a `case` panic in the source and are errors of `decScalarBin` -/
theorem vecBinRead_from_source (c : Coding α) (e : Endian) (t : SType) (buf : Bytes) (off : Nat) :
    ∀ p ∈ [(2, PlyValues.v2BinRead), (3, PlyValues.v3BinRead), (4, PlyValues.v4BinRead)],
      (rowOf p.2 t).map (fun ld => ld.map (fun s => (s.1, binLoad c e p.1 buf off s.2)))
        = match t with
          | .uchar | .int | .float | .double =>
            some ((compsOf p.1).map (fun cn => (cn, some (decScalarBin c e p.1 t buf off))))
          | _ => none := by
  intro p hp
  simp only [List.mem_cons, List.not_mem_nil, or_false] at hp
  rcases hp with rfl | rfl | rfl <;> cases t <;> rfl

theorem decScalarBin_unimplemented (c : Coding α) (e : Endian) (dim : Nat) (t : SType) (buf : Bytes) (off : Nat)
    (h : t ∉ [SType.uchar, .int, .float, .double]) : decScalarBin c e dim t buf off = .error .panic := by
  cases t <;> simp_all [decScalarBin]

/-- one component of an ASCII reader: the token at column `o`, parsed with `parseF` (= `strconv.ParseFloat(·, 32)`) -/
def tokRead (c : Coding α) (toks : List Bytes) (o : Nat) : R α :=
  match toks[o]? with
  | none => .error .panic
  | some t => match c.parseF t with | none => .error .err | some v => .ok v

theorem tokRead_eq_colRead (c : Coding α) (toks : List Bytes) : tokRead c toks = PlyLemmas.colRead c toks := rfl

/-- ASCII 2- / 3- / 4-vector readers: every component is `ParseFloat(token at that component's offset field, 32)` — the
model's `parseF` —, components in the order X, Y, Z[, W]; then `DivByConstant(255)` exactly when `scalarType == UChar`
(`Built.readAscii`: one `parseF` per offset in order, then `norm8 dim` on every component iff `b.ty = some .uchar`) -/
theorem vecAsciiRead_from_source :
    (∀ p ∈ [(2, PlyValues.v2AsciiRead, PlyValues.v2AsciiReadPost), (3, PlyValues.v3AsciiRead, PlyValues.v3AsciiReadPost),
            (4, PlyValues.v4AsciiRead, PlyValues.v4AsciiReadPost)],
      p.2.1 = ((compsOf p.1).zip (["xOffset", "yOffset", "zOffset", "wOffset"].take p.1)).map (fun x => (x.1, x.2, 32)) ∧
      p.2.2 = [(constOf .uchar, "(DivByConstant 255 v)")]) ∧
    (∀ (c : Coding α) (b : Built) (toks : List Bytes) (vals : List α),
      b.offs.mapM (tokRead c toks) = .ok vals →
      b.readAscii c toks = .ok (if b.ty = some .uchar then vals.map (c.norm8 b.names.length) else vals)) := by
  refine ⟨by decide +kernel, ?_⟩
  intro c b toks vals h
  rw [PlyLemmas.readAscii_eq, ← tokRead_eq_colRead, h]; rfl

/-- the ASCII scalar reader: `ParseFloat(token, 32)` — the model's `parseF` is the 32-bit parse — then `/ 255` exactly when
its `scalarType` is `UChar` (`Built.readAscii` normalises iff `b.ty = some .uchar`; dimension 1: `div255`) -/
theorem readAscii_from_source :
    PlyValues.v1AsciiReadBits = 32 ∧ PlyValues.v1AsciiReadPost = [(constOf .uchar, "(/ v 255)")] ∧
    (∀ (c : Coding α) (b : Built) (toks : List Bytes) (o : Nat) (tok : Bytes) (x : α), b.names.length = 1 → b.offs = [o] →
      toks[o]? = some tok → c.parseF tok = some x →
      b.readAscii c toks = .ok [if b.ty = some .uchar then c.div255 x else x]) := by
  refine ⟨by decide +kernel, by decide +kernel, ?_⟩
  intro c b toks o tok x hn ho ht hp
  simp only [Built.readAscii, ho, List.mapM_cons, List.mapM_nil, ht, hp, bind, Except.bind, pure, Except.pure, hn]
  split <;> simp [Coding.norm8]

end C04
end PolyVerif
