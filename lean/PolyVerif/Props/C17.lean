/-
  C17 — Transform types obey their algebra.

  The theorems are about the definitions in `PolyVerif.Gen.Transform`, which engine T regenerates from
  /repo/math/{mat,quaternion,trs,geometry} on every run, at the scalar ℝ (the real-number meaning of the source's own
  expressions) — except `aabb_fromPoints_*`, which are about the fold of `Model/AabbFromPoints.lean`.
-/
import PolyVerif.Gen.Transform
import PolyVerif.Model.AabbFromPoints
import PolyVerif.Lemmas.RealGeometry
import Mathlib.Data.Matrix.Basic
import Mathlib.LinearAlgebra.Matrix.Determinant.Basic
import Mathlib.Tactic

namespace PolyVerif
namespace C17
open Gen Gen.mat Gen.quaternion Gen.geometry

abbrev M4 := Matrix4x4 ℝ
abbrev Q := Quaternion ℝ
abbrev P3 := V3 ℝ

def toMatrix (a : M4) : Matrix (Fin 4) (Fin 4) ℝ :=
  !![a.X00, a.X01, a.X02, a.X03; a.X10, a.X11, a.X12, a.X13; a.X20, a.X21, a.X22, a.X23; a.X30, a.X31, a.X32, a.X33]

theorem ext16 {a b : M4}
    (h00 : a.X00 = b.X00) (h01 : a.X01 = b.X01) (h02 : a.X02 = b.X02) (h03 : a.X03 = b.X03)
    (h10 : a.X10 = b.X10) (h11 : a.X11 = b.X11) (h12 : a.X12 = b.X12) (h13 : a.X13 = b.X13)
    (h20 : a.X20 = b.X20) (h21 : a.X21 = b.X21) (h22 : a.X22 = b.X22) (h23 : a.X23 = b.X23)
    (h30 : a.X30 = b.X30) (h31 : a.X31 = b.X31) (h32 : a.X32 = b.X32) (h33 : a.X33 = b.X33) : a = b := by
  cases a; cases b; simp_all

/-- two matrices with the same `toMatrix` are equal (entry `i j` of `toMatrix a` is the field `Xij` by unfolding) -/
theorem mat_ext (a b : M4) (h : toMatrix a = toMatrix b) : a = b :=
  have e := fun i j => congrFun (congrFun h i) j
  ext16 (e 0 0) (e 0 1) (e 0 2) (e 0 3) (e 1 0) (e 1 1) (e 1 2) (e 1 3)
    (e 2 0) (e 2 1) (e 2 2) (e 2 3) (e 3 0) (e 3 1) (e 3 2) (e 3 3)

theorem mat_mul_row_col (a b : M4) : toMatrix (a.Multiply b) = toMatrix a * toMatrix b := by
  ext i j
  rw [Matrix.mul_apply, Fin.sum_univ_four]
  fin_cases i <;> fin_cases j <;> rfl

theorem mat_identity : toMatrix (mat.Identity : M4) = 1 := by
  simp only [toMatrix, mat.Identity, Nat.cast_zero, Nat.cast_one]
  ext i j
  fin_cases i <;> fin_cases j <;> rfl

/-- Laplace expansion along the first row, the 3×3 minors by Sarrus' rule -/
theorem mat_det_eq (a : M4) : a.Determinant = (toMatrix a).det := by
  rw [Matrix.det_succ_row_zero, Fin.sum_univ_four]
  simp [Matrix.det_fin_three, toMatrix, Matrix4x4.Determinant, Fin.succAbove]
  ring

theorem mat_add_entrywise (a b : M4) :
    toMatrix (a.Add b) = toMatrix a + toMatrix b := by
  ext i j
  fin_cases i <;> fin_cases j <;> rfl

theorem mat_mul_one (a : M4) : a.Multiply mat.Identity = a := by
  apply mat_ext; rw [mat_mul_row_col, mat_identity, mul_one]

theorem mat_one_mul (a : M4) : (mat.Identity : M4).Multiply a = a := by
  apply mat_ext; rw [mat_mul_row_col, mat_identity, one_mul]

theorem mat_mul_assoc (a b c : M4) : (a.Multiply b).Multiply c = a.Multiply (b.Multiply c) := by
  apply mat_ext; simp only [mat_mul_row_col, mul_assoc]

/-- `MulPosition` is the affine action of the upper 3×4 block. -/
theorem mat_mulPosition (a : M4) (p : P3) :
    a.MulPosition p = ⟨a.X00 * p.x + a.X01 * p.y + a.X02 * p.z + a.X03,
                       a.X10 * p.x + a.X11 * p.y + a.X12 * p.z + a.X13,
                       a.X20 * p.x + a.X21 * p.y + a.X22 * p.z + a.X23⟩ := by
  simp only [Matrix4x4.MulPosition, V3.New, V3.X, V3.Y, V3.Z]

/-- composition of affine actions is the action of the product, for affine `b` (last row 0 0 0 1) -/
theorem mat_mulPosition_mul (a b : M4) (p : P3)
    (h0 : b.X30 = 0) (h1 : b.X31 = 0) (h2 : b.X32 = 0) (h3 : b.X33 = 1) :
    (a.Multiply b).MulPosition p = a.MulPosition (b.MulPosition p) := by
  ext <;> simp only [Matrix4x4.MulPosition, Matrix4x4.Multiply, V3.New, V3.X, V3.Y, V3.Z, h0, h1, h2, h3] <;> ring

/-- `a · a⁻¹`: every entry is a row of `a` against a column of cofactors times `r = 1/det`; on the diagonal that is
    `det · r`, off the diagonal the expansion of a determinant with two equal rows -/
theorem mat_mul_inv (a : M4) (h : a.Determinant ≠ 0) : a.Multiply a.Inverse = mat.Identity := by
  have hr : a.Determinant * (((1 : ℕ) : ℝ) / a.Determinant) = 1 := by
    rw [Nat.cast_one]; exact mul_one_div_cancel h
  simp only [Matrix4x4.Inverse]
  generalize ((1 : ℕ) : ℝ) / a.Determinant = r at hr
  simp only [Matrix4x4.Determinant] at hr
  apply ext16 <;> simp only [Matrix4x4.Multiply, mat.Identity, Nat.cast_zero, Nat.cast_one]
  case h00 | h11 | h22 | h33 => linear_combination hr
  all_goals ring

/-- a right inverse of a square matrix is a left inverse -/
theorem mat_inv_mul (a : M4) (h : a.Determinant ≠ 0) : a.Inverse.Multiply a = mat.Identity := by
  have e := congrArg toMatrix (mat_mul_inv a h)
  rw [mat_mul_row_col, mat_identity] at e
  apply mat_ext
  rw [mat_mul_row_col, mat_identity]
  exact mul_eq_one_comm.mp e

theorem quat_rotate_mul (q₁ q₂ : Q) (v : P3) :
    (q₁.Multiply q₂).Rotate v = q₁.Rotate (q₂.Rotate v) := by
  ext <;> simp only [Quaternion.Multiply, Quaternion.Rotate, V3.Scale, V3.Dot, V3.Add, V3.Cross, V3.New, V3.X, V3.Y,
    V3.Z, RS.sq_eq, Nat.cast_ofNat] <;> ring

noncomputable def normSq (q : Q) : ℝ := q.v.Dot q.v + q.w * q.w

theorem quat_rotate_norm_general (q : Q) (v : P3) :
    (q.Rotate v).Dot (q.Rotate v) = (normSq q)^2 * v.Dot v := by
  simp only [normSq, Quaternion.Rotate, V3.Scale, V3.Dot, V3.Add, V3.Cross, RS.sq_eq, Nat.cast_ofNat]; ring

theorem quat_rotate_norm (q : Q) (hq : normSq q = 1) (v : P3) :
    (q.Rotate v).Length = v.Length := by
  have := quat_rotate_norm_general q v
  rw [hq, one_pow, one_mul] at this
  exact congrArg Real.sqrt this

theorem quat_rotate_add (q : Q) (u v : P3) : q.Rotate (u.Add v) = (q.Rotate u).Add (q.Rotate v) := by
  ext <;> simp only [Quaternion.Rotate, V3.Scale, V3.Dot, V3.Add, V3.Cross] <;> ring

theorem quat_rotate_smul (q : Q) (c : ℝ) (v : P3) : q.Rotate (v.Scale c) = (q.Rotate v).Scale c := by
  ext <;> simp only [Quaternion.Rotate, V3.Scale, V3.Dot, V3.Add, V3.Cross] <;> ring

theorem quat_identity_rotate (v : P3) : (quaternion.Identity : Q).Rotate v = v := by
  ext <;> simp only [quaternion.Identity, Quaternion.Rotate, V3.Scale, V3.Dot, V3.Add, V3.Cross, V3.Zero, RS.sq_eq,
    Nat.cast_zero, Nat.cast_one, Nat.cast_ofNat] <;> ring

/-- Rodrigues' rotation of `v` by the angle `θ` about the unit axis `n` -/
noncomputable def rodrigues (θ : ℝ) (n v : P3) : P3 :=
  ((v.Scale (Real.cos θ)).Add ((n.Cross v).Scale (Real.sin θ))).Add (n.Scale (n.Dot v * (1 - Real.cos θ)))

/-- the quaternion `(n·sin(θ/2), cos(θ/2))` with a unit `n` rotates like Rodrigues' formula -/
theorem halfAngle_rotate (θ : ℝ) (n v : P3) (hn : n.Dot n = 1) :
    (⟨n.Scale (Real.sin (θ / 2)), Real.cos (θ / 2)⟩ : Q).Rotate v = rodrigues θ n v := by
  have h1 := Real.sin_sq_add_cos_sq (θ / 2)
  have hc := Real.cos_two_mul' (θ / 2)
  have hs := Real.sin_two_mul (θ / 2)
  rw [show 2 * (θ / 2) = θ by ring] at hc hs
  simp only [V3.Dot] at hn
  rw [rodrigues, hc, hs]
  generalize Real.sin (θ / 2) = s at *
  generalize Real.cos (θ / 2) = c at *
  ext <;> simp only [Quaternion.Rotate, V3.Scale, V3.Dot, V3.Add, V3.Cross, RS.sq_eq, Nat.cast_ofNat]
  · linear_combination (n.x * (n.x * v.x + n.y * v.y + n.z * v.z)) * h1 - (v.x * s ^ 2) * hn
  · linear_combination (n.y * (n.x * v.x + n.y * v.y + n.z * v.z)) * h1 - (v.y * s ^ 2) * hn
  · linear_combination (n.z * (n.x * v.x + n.y * v.y + n.z * v.z)) * h1 - (v.z * s ^ 2) * hn

/-- `FromTheta θ k` rotates by the angle `θ` about the direction of `k` (any non-zero axis) -/
theorem quat_fromTheta_rodrigues (θ : ℝ) (k v : P3) (hk : k.Dot k ≠ 0) :
    (FromTheta θ k).Rotate v = rodrigues θ k.Normalized v := by
  have := halfAngle_rotate θ k.Normalized v (V3.normalized_dot_self k hk)
  simpa only [FromTheta, RS.sin_eq, RS.cos_eq, Nat.cast_ofNat] using this

theorem quat_fromTheta_unit (θ : ℝ) (v : P3) (hv : v.Dot v ≠ 0) : normSq (FromTheta θ v) = 1 := by
  have hn := V3.normalized_dot_self v hv
  have h1 := Real.sin_sq_add_cos_sq (θ / 2)
  simp only [normSq, FromTheta, RS.sin_eq, RS.cos_eq, Nat.cast_ofNat]
  generalize v.Normalized = n at hn ⊢
  simp only [V3.Scale, V3.Dot] at hn ⊢
  linear_combination (Real.sin (θ / 2))^2 * hn + h1

/-- the half-turn about an axis orthogonal to `f` maps `f` to `-f`: Rodrigues' formula at `θ = π` -/
theorem halfturn_flips (c f : P3) (hc : c.Dot c ≠ 0) (horth : c.Dot f = 0) :
    (FromTheta Real.pi (c.Normalized)).Rotate f = f.Scale (-1) := by
  have h1 : c.Normalized.Dot c.Normalized ≠ 0 := by rw [V3.normalized_dot_self c hc]; exact one_ne_zero
  have h2 : c.Normalized.Normalized.Dot f = 0 := by rw [V3.normalized_dot, V3.normalized_dot, horth, zero_div, zero_div]
  rw [quat_fromTheta_rodrigues _ _ _ h1]
  simp only [V3.Dot] at h2
  ext <;> simp only [rodrigues, V3.Dot, h2, Real.cos_pi, Real.sin_pi, V3.Scale, V3.Add, V3.Cross] <;> ring

theorem trs_transform (t : trs.TRS ℝ) (v : P3) :
    t.Transform v = (t.rotation.Rotate (t.scale.MultByVector v)).Add t.position := rfl

theorem aabb_encapsulatePoint_contains (b : AABB ℝ) (p : P3) :
    (b.EncapsulatePoint p).Contains p = true := Tree.aabb_encapsulatePoint_contains b p

/-- growing a box to encapsulate another box: everything the other box contained is contained -/
theorem aabb_encapsulateBounds_contains (b c : AABB ℝ) (q : P3) (h : c.Contains q = true) :
    (b.EncapsulateBounds c).Contains q = true :=
  aabb_contains_of_corners (a := c) (aabb_encapsulatePoint_mono _ _ _ (aabb_encapsulatePoint_contains _ _))
    (aabb_encapsulatePoint_contains _ _) q h

/-- … and everything the box itself contained stays contained -/
theorem aabb_encapsulateBounds_mono (b c : AABB ℝ) (q : P3) (h : b.Contains q = true) :
    (b.EncapsulateBounds c).Contains q = true :=
  aabb_encapsulatePoint_mono _ _ _ (aabb_encapsulatePoint_mono _ _ _ h)

theorem aabb_closestPoint_in_box (b : AABB ℝ) (v : P3)
    (hx : 0 ≤ b.extents.x) (hy : 0 ≤ b.extents.y) (hz : 0 ≤ b.extents.z) :
    b.Contains (b.ClosestPoint v) = true := Tree.aabb_closestPoint_in_box b v hx hy hz

theorem aabb_closestPoint_id_inside (b : AABB ℝ) (v : P3) (h : b.Contains v = true) :
    b.ClosestPoint v = v := by
  rw [aabb_mem] at h
  exact co_ext fun k => (co_closestPoint b v k).trans (clamp_of_mem _ _ _ (h k).1 (h k).2)

/-- the threshold constant of `RotationTo` as the source has it (float64 nearest to 0.999999) -/
noncomputable def rotThreshold : ℝ := (9007190247541737 : ℝ) / 9007199254740992

/-- neither nearly opposite nor nearly parallel unit directions (`|a·b| ≤ 0.999999`): `RotationTo a b` is the
    normalised quaternion `(a × b, 1 + a·b)` and takes `a` onto `b` -/
theorem quat_rotationTo_generic (a b : P3) (ha : a.Dot a = 1) (hb : b.Dot b = 1)
    (h1 : ¬ a.Dot b < -rotThreshold) (h2 : ¬ rotThreshold < a.Dot b) :
    (RotationTo a b).Rotate a = b := by
  have hth : rotThreshold < 1 := by unfold rotThreshold; norm_num
  obtain ⟨ax, ay, az⟩ := a
  obtain ⟨bx, b_y, bz⟩ := b
  simp only [V3.Dot] at ha hb h1 h2
  have hw : 0 < 1 + (ax * bx + ay * b_y + az * bz) := by linarith [not_lt.mp h1]
  have hS : (ay * bz - az * b_y) * (ay * bz - az * b_y) + (az * bx - ax * bz) * (az * bx - ax * bz) +
        (ax * b_y - ay * bx) * (ax * b_y - ay * bx) +
      (1 + (ax * bx + ay * b_y + az * bz)) * (1 + (ax * bx + ay * b_y + az * bz)) = 2 * (1 + (ax * bx + ay * b_y + az * bz)) := by
    linear_combination (bx*bx + b_y*b_y + bz*bz) * ha + hb
  have hL := Real.mul_self_sqrt (le_of_lt (by rw [hS]; linarith :
    0 < (ay * bz - az * b_y) * (ay * bz - az * b_y) + (az * bx - ax * bz) * (az * bx - ax * bz) +
        (ax * b_y - ay * bx) * (ax * b_y - ay * bx) +
      (1 + (ax * bx + ay * b_y + az * bz)) * (1 + (ax * bx + ay * b_y + az * bz))))
  have e1 : ¬ (ax * bx + ay * b_y + az * bz < -((9007190247541737 : ℕ) : ℝ) / ((9007199254740992 : ℕ) : ℝ)) := by
    simpa [rotThreshold, neg_div] using h1
  have e2 : ¬ (((9007190247541737 : ℕ) : ℝ) / ((9007199254740992 : ℕ) : ℝ) < ax * bx + ay * b_y + az * bz) := by
    simpa [rotThreshold] using h2
  simp only [RotationTo, V3.Dot, RS.lit_eq, decide_eq_true_eq, neg_div', e1, e2, if_false,
    quaternion.New, Quaternion.Normalize, V3.Cross, V4.Normalized, V4.DivByConstant, V4.Length, V4.LengthSquared,
    V4.New, V3.New, V3.X, V3.Y, V3.Z, V4.X, V4.Y, V4.Z, V4.W, RS.sqrt_eq, Quaternion.Rotate, V3.Scale, V3.Add, RS.sq_eq]
  push_cast
  generalize Real.sqrt ((ay * bz - az * b_y) * (ay * bz - az * b_y) + (az * bx - ax * bz) * (az * bx - ax * bz) +
        (ax * b_y - ay * bx) * (ax * b_y - ay * bx) +
      (1 + (ax * bx + ay * b_y + az * bz)) * (1 + (ax * bx + ay * b_y + az * bz))) = L at hL ⊢
  have hL0 : L ≠ 0 := by intro h; rw [h, hS] at hL; linarith
  have hinv : ((ay * bz - az * b_y) * (ay * bz - az * b_y) + (az * bx - ax * bz) * (az * bx - ax * bz) +
        (ax * b_y - ay * bx) * (ax * b_y - ay * bx) +
      (1 + (ax * bx + ay * b_y + az * bz)) * (1 + (ax * bx + ay * b_y + az * bz))) * L⁻¹ * L⁻¹ = 1 := by
    rw [← hL]; field_simp
  ext
  · show _ = bx
    linear_combination bx * hinv + L⁻¹ * L⁻¹ * ((-(ax + bx) * (bx*bx + b_y*b_y + bz*bz) + 2 * (1 + (ax * bx + ay * b_y + az * bz)) * bx) * ha + (-(ax + bx)) * hb)
  · show _ = b_y
    linear_combination b_y * hinv + L⁻¹ * L⁻¹ * ((-(ay + b_y) * (bx*bx + b_y*b_y + bz*bz) + 2 * (1 + (ax * bx + ay * b_y + az * bz)) * b_y) * ha + (-(ay + b_y)) * hb)
  · show _ = bz
    linear_combination bz * hinv + L⁻¹ * L⁻¹ * ((-(az + bz) * (bx*bx + b_y*b_y + bz*bz) + 2 * (1 + (ax * bx + ay * b_y + az * bz)) * bz) * ha + (-(az + bz)) * hb)

/-- opposite directions (dot below the source's threshold): the result is a half-turn about an axis orthogonal to
    `a`, so `a` is mapped onto `-a`; in particular `RotationTo a (-a)` maps `a` onto `-a` -/
theorem quat_rotationTo_antiparallel (a b : P3) (ha : a.Dot a = 1) (hd : a.Dot b < -rotThreshold) :
    (RotationTo a b).Rotate a = a.Scale (-1) := by
  have e1 : a.Dot b < -((9007190247541737 : ℕ) : ℝ) / ((9007199254740992 : ℕ) : ℝ) := by
    simpa [rotThreshold, neg_div] using hd
  by_cases hlen : (V3.Cross (V3.Right : P3) a).Length < ((4722366482869645 : ℕ) : ℝ) / ((4722366482869645213696 : ℕ) : ℝ)
  · -- fallback axis Up × a
    have : RotationTo a b = FromTheta Real.pi (V3.Normalized (V3.Cross (V3.Up : P3) a)) := by
      unfold RotationTo
      simp only [RS.lit_eq, decide_eq_true_eq, neg_div', e1, if_true, RS.pi_eq, hlen]
    rw [this]
    apply halfturn_flips
    · -- |Right × a|² + |Up × a|² = a·a + a.z² ≥ 1: were `Up × a` zero, `Right × a` would have length ≥ 1
      intro h0
      have e : (V3.Cross (V3.Right : P3) a).LengthSquared + (V3.Cross (V3.Up : P3) a).Dot (V3.Cross (V3.Up : P3) a) =
          a.Dot a + a.z * a.z := by
        simp only [V3.LengthSquared, V3.Cross, V3.Right, V3.Up, V3.Dot, Nat.cast_zero, Nat.cast_one]; ring
      have h1 : 1 ≤ Real.sqrt (V3.Cross (V3.Right : P3) a).LengthSquared :=
        Real.one_le_sqrt.mpr (by linarith [mul_self_nonneg a.z])
      exact absurd (lt_of_le_of_lt h1 hlen) (by norm_num)
    · simp only [V3.Cross, V3.Up, V3.Dot]; push_cast; ring
  · have : RotationTo a b = FromTheta Real.pi (V3.Normalized (V3.Cross (V3.Right : P3) a)) := by
      unfold RotationTo
      simp only [RS.lit_eq, decide_eq_true_eq, neg_div', e1, if_true, RS.pi_eq, hlen, if_false]
    rw [this]
    apply halfturn_flips
    · intro h0
      apply hlen
      simp only [V3.Length, V3.LengthSquared, RS.sqrt_eq]
      simp only [V3.Dot] at h0
      rw [h0]; simp
    · simp only [V3.Cross, V3.Right, V3.Dot]; push_cast; ring

example : (RotationTo (⟨1, 0, 0⟩ : P3) ⟨-1, 0, 0⟩).Rotate ⟨1, 0, 0⟩ = (⟨1, 0, 0⟩ : P3).Scale (-1) := by
  apply quat_rotationTo_antiparallel
  · simp [V3.Dot]
  · simp [V3.Dot, rotThreshold]; norm_num

/-- a coordinate `coord` of a running componentwise min / max: if each step keeps `coord` related (`R` = `≤` for min, `≥` for
    max) to both of its arguments, the result is related to every point folded in -/
theorem foldl_step_bound (coord : P3 → ℝ) (step : P3 → P3 → P3) (R : ℝ → ℝ → Prop) (hrefl : ∀ a, R a a)
    (htrans : ∀ a b c, R a b → R b c → R a c)
    (hstep : ∀ m v, R (coord (step m v)) (coord v) ∧ R (coord (step m v)) (coord m)) (p : P3) (ps : List P3) :
    ∀ q ∈ p :: ps, R (coord (ps.foldl step p)) (coord q) := by
  induction ps generalizing p with
  | nil => intro q hq; rw [List.mem_singleton.mp hq]; exact hrefl _
  | cons v vs ih =>
    intro q hq
    have h0 := ih (step p v) _ (List.mem_cons_self ..)
    rcases List.mem_cons.mp hq with rfl | hq
    · exact htrans _ _ _ h0 (hstep _ v).2
    · rcases List.mem_cons.mp hq with rfl | hq
      · exact htrans _ _ _ h0 (hstep p _).1
      · exact ih (step p v) q (List.mem_cons_of_mem _ hq)

/-- … and if each step selects one of its arguments' coordinates, the result's coordinate is that of some point -/
theorem foldl_step_attained (coord : P3 → ℝ) (step : P3 → P3 → P3)
    (hsel : ∀ m v, coord (step m v) = coord v ∨ coord (step m v) = coord m) (p : P3) (ps : List P3) :
    ∃ q ∈ p :: ps, coord (ps.foldl step p) = coord q := by
  induction ps generalizing p with
  | nil => exact ⟨p, List.mem_cons_self .., rfl⟩
  | cons v vs ih =>
    obtain ⟨q, hq, e⟩ := ih (step p v)
    rcases List.mem_cons.mp hq with rfl | hm
    · rcases hsel p v with h | h
      · exact ⟨v, by simp, e.trans h⟩
      · exact ⟨p, by simp, e.trans h⟩
    · exact ⟨q, by simp [hm], e⟩

theorem aabb_fromPoints_min (p : P3) (ps : List P3) : (fromPoints p ps).Min = fromPointsMin p ps := (newAABB_corners _ _).1
theorem aabb_fromPoints_max (p : P3) (ps : List P3) : (fromPoints p ps).Max = fromPointsMax p ps := (newAABB_corners _ _).2

theorem co_fromPointsMin (p : P3) (ps : List P3) (k : Axis) : ∀ q ∈ p :: ps, co (fromPointsMin p ps) k ≤ co q k :=
  foldl_step_bound (co · k) _ (· ≤ ·) le_refl (fun _ _ _ => le_trans)
    (fun _ _ => by cases k <;> exact ⟨min_le_left _ _, min_le_right _ _⟩) p ps

theorem co_fromPointsMax (p : P3) (ps : List P3) (k : Axis) : ∀ q ∈ p :: ps, co q k ≤ co (fromPointsMax p ps) k :=
  foldl_step_bound (co · k) _ (· ≥ ·) le_refl (fun _ _ _ => ge_trans)
    (fun _ _ => by cases k <;> exact ⟨le_max_left _ _, le_max_right _ _⟩) p ps

/-- the box built from a non-empty list of points contains every one of them -/
theorem aabb_fromPoints_contains_all (p : P3) (ps : List P3) (q : P3) (hq : q ∈ p :: ps) :
    (fromPoints p ps).Contains q = true := by
  rw [aabb_mem, aabb_fromPoints_min, aabb_fromPoints_max]
  exact fun k => ⟨co_fromPointsMin p ps k q hq, co_fromPointsMax p ps k q hq⟩

/-! ### non-vacuity: concrete instances of the hypotheses used above -/

example : (mat.Identity : M4).Determinant ≠ 0 := by simp [Matrix4x4.Determinant, mat.Identity]
example : normSq (⟨⟨0, 0, 0⟩, 1⟩ : Q) = 1 := by simp [normSq, V3.Dot]
example : (⟨1, 0, 0⟩ : P3).Dot ⟨1, 0, 0⟩ = 1 ∧ (⟨0, 1, 0⟩ : P3).Dot ⟨0, 1, 0⟩ = 1 ∧
    ¬ (⟨1, 0, 0⟩ : P3).Dot ⟨0, 1, 0⟩ < -rotThreshold ∧ ¬ rotThreshold < (⟨1, 0, 0⟩ : P3).Dot ⟨0, 1, 0⟩ := by
  refine ⟨by simp [V3.Dot], by simp [V3.Dot], ?_, ?_⟩ <;> simp [V3.Dot, rotThreshold] <;> norm_num
example : (⟨⟨0, 0, 0⟩, ⟨1, 1, 1⟩⟩ : AABB ℝ).Contains ⟨1, -1, 0.5⟩ = true := by
  rw [aabb_contains_iff]; simp [AABB.Min, AABB.Max, V3.Sub, V3.Add]; norm_num

end C17
end PolyVerif
