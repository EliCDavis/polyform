/-
  C09 — the hand-written model of the cell / block loops of `modeling/marching/canvas.go` IS the interpretation of the
  loop / fetch skeleton regenerated from the source (engine F, mode `c09.loops`, `Gen/MarchLoops.lean`).

  `Gen/MarchLoops.lean` is rewritten by `./check C09` from /repo/modeling/marching/canvas.go on every run: the three nested
  cell loops of `marchFloat1BlockPosition` (variable, start, comparison, bound, step), the block step
  `if a == marchingSectionSize-1 { aBlockPosition += 1 }`, the two early `continue`s, the corner fetch (`newIndex`, its guards,
  the argument order of `d.index`, the body of `index`), which block / index each `cubeCorners[i]` reads, the comparison of the
  inside test, the world position (`xf := float64(x)`, `offset`), the tables and argument order of the three `interpolateVerts`
  calls, and a one-label-per-statement skeleton of the innermost loop body.

  `namespace Src` below gives that data a meaning (a tiny interpreter: `loopVals`, `nest`, `blockPos`, `newIndex`, `indexOf`,
  `fetchCorner`, `earlySkip`, `cellEmit`, `marchedEdges`).  The `*_from_source` theorems prove that the hand model the C09
  theorems are stated about (`localCells`, `March.fetchCorner`, `bindex`, `globalOf`, `cellEmit`, `marchedEdges`, `vertR`,
  the `<` of `signOf`) equals that interpretation, and `marched_closed_from_source` / `marched_volume_positive_from_source`
  restate the headline results for the interpreted program.  An off-by-one in a loop bound, a swapped corner, `<` ↔ `<=`,
  a changed block size or neighbour rule in the Go source breaks a named theorem here before any sample runs.
-/
import PolyVerif.Props.C09
import PolyVerif.Gen.MarchLoops

namespace PolyVerif
namespace C09
open PolyVerif.March PolyVerif.Gen.March


namespace Src

/-- a regenerated constant `(m, c)` read as `m * marchingSectionSize + c` -/
def lin (mc : Int × Int) : Int := mc.1 * marchingSectionSize + mc.2

/-- a Go integer comparison, by its printed operator -/
def cmpInt (op : String) (a b : Int) : Bool :=
  if op = "<" then decide (a < b) else if op = "<=" then decide (a ≤ b)
  else if op = "==" then decide (a = b) else if op = "!=" then decide (a ≠ b)
  else if op = ">" then decide (a > b) else if op = ">=" then decide (a ≥ b) else false

/-- the values the Go loop `for v := start; v OP bound; v += step` gives its variable (the body does not assign it: the
    extractor rejects any assignment in the loop bodies other than the expected ones).  Positive step and `<` / `<=`;
    anything else has no reading (no value). -/
def loopVals (start : Int) (op : String) (bound step : Int) : List Int :=
  if step ≤ 0 then [] else
  let n : Int := if op = "<" then (bound - start + step - 1) / step
                 else if op = "<=" then (bound - start + step) / step else 0
  (List.range n.toNat).map fun (k : Nat) => start + Int.ofNat k * step

def setAx (a : Nat) (v : Int) (l : Pt) : Pt :=
  if a = 0 then (v, l.2.1, l.2.2) else if a = 1 then (l.1, v, l.2.2) else (l.1, l.2.1, v)

/-- nested loops, outermost first; each sets one coordinate of the local cell position -/
def nest : List (Nat × List Int) → List Pt
  | [] => [(0, 0, 0)]
  | (a, vs) :: rest => vs.flatMap fun v => (nest rest).map (setAx a v)

/-- the local cells `marchFloat1BlockPosition` visits, in the order it visits them -/
def cells : List Pt :=
  nest (Gen.MarchLoops.cellLoops.map fun l => (l.1, loopVals l.2.1 l.2.2.1 (lin l.2.2.2.1) l.2.2.2.2))

/-- `aBlockPosition` after `aBlockPosition := blockPosition.A; if a OP const { aBlockPosition += k }` -/
def blockPos (b l : Pt) (a : Nat) : Int :=
  match Gen.MarchLoops.blockSteps.find? (fun s => s.1 == a) with
  | some (_, op, mc, k) => if cmpInt op (coord a l) (lin mc) then coord a b + k else coord a b
  | none => coord a b

/-- a block selector row: 1 = the stepped `aBlockPosition`, 0 = `blockPosition.A` -/
def selBlock (sel : List Int) (b l : Pt) : Pt :=
  (if sel.getD 0 0 = 1 then blockPos b l 0 else b.1,
   if sel.getD 1 0 = 1 then blockPos b l 1 else b.2.1,
   if sel.getD 2 0 = 1 then blockPos b l 2 else b.2.2)

/-- field `f` of `newIndex` for corner `i` whose block is `pos`: the initial `v + cubeDataIndexIncrements[i].G`, then the
    guards `if pos.P OP blockPosition.B { newIndex.F = k }` in source order -/
def newIndex (b l : Pt) (i : Nat) (pos : Pt) (f : Nat) : Int :=
  let init : Int := match Gen.MarchLoops.newIndexInit.find? (fun s => s.1 == f) with
    | some (_, v, g) => coord v l + coord g (cornerOff i)
    | none => -1
  Gen.MarchLoops.newIndexGuards.foldl
    (fun acc gd => if gd.2.2.2.1 = f ∧ cmpInt gd.2.1 (coord gd.1 pos) (coord gd.2.2.1 b) = true then gd.2.2.2.2 else acc) init

/-- `d.index(p0, p1, p2)`: the regenerated sum of `p_i * marchingSectionSize ^ e` -/
def indexOf (args : List Int) : Int :=
  Gen.MarchLoops.indexTerms.foldl (fun acc t => acc + args.getD t.1 0 * marchingSectionSize ^ t.2) 0

/-- `cubeCorners[i] = cubeData[j][cubeDataIndexes[k]]`: the block of fetch-loop iteration `j`, the index of iteration `k` -/
def fetchCorner {α : Type} (bl : Blocks α) (b l : Pt) (i : Nat) : Option α :=
  match Gen.MarchLoops.cornerReads.find? (fun s => s.1 == i) with
  | none => none
  | some (_, j, k) =>
    (bl (selBlock (cubeDataBlockPositions.getD j []) b l)).map fun d =>
      d (indexOf (Gen.MarchLoops.indexArgs.map (newIndex b l k (selBlock (cubeDataBlockPositions.getD k []) b l))))

/-- the early `continue`s of the z and y loops: taken when the loop variable passes the block-step test and the tested
    block is not allocated -/
def earlySkip {α : Type} (bl : Blocks α) (b l : Pt) : Bool :=
  Gen.MarchLoops.earlyContinues.any fun e =>
    (match Gen.MarchLoops.blockSteps.find? (fun s => s.1 == e.1) with
     | some (_, op, mc, _) => cmpInt op (coord e.1 l) (lin mc)
     | none => false) && (bl (selBlock e.2 b l)).isNone

/-- lattice position of the cell's low corner: `offset` + `(xf, yf, zf)` -/
def origin (b l : Pt) : Pt :=
  let comp (k : Nat) : Int :=
    (match Gen.MarchLoops.blockOffset.getD k (3, (0, 0)) with | (a, mc) => coord a b * lin mc) +
    (match Gen.MarchLoops.floatVars.find? (fun s => s.1 == k) with | some (_, v) => coord v l | none => 0)
  (comp 0, comp 1, comp 2)

/-- one cell of the regenerated program: early `continue`, fetch of the eight corners (`continue` when a block is
    missing), case index of the fetched values, table edges at the cell's lattice position -/
def cellEmit {α : Type} (bl : Blocks α) (val : α → Bool) (b l : Pt) : List DEdge :=
  if earlySkip bl b l then [] else
  match (List.range 8).mapM (fetchCorner bl b l) with
  | none => []
  | some cs => (caseSegsRel (caseIndex (cs.map val))).map (shiftE (origin b l))

def cellEmitTris {α : Type} (bl : Blocks α) (val : α → Bool) (b l : Pt) : List (LEdge × LEdge × LEdge) :=
  if earlySkip bl b l then [] else
  match (List.range 8).mapM (fetchCorner bl b l) with
  | none => []
  | some cs => (caseTris (caseIndex (cs.map val))).map fun t =>
      (shiftL (origin b l) (edgeRel t.1), shiftL (origin b l) (edgeRel t.2.1), shiftL (origin b l) (edgeRel t.2.2))

/-- `marchFloat1` over the regenerated loops: all blocks (order `bs` of the Go map iteration), all `cells` -/
def marchedEdges {α : Type} (bl : Blocks α) (val : α → Bool) (bs : List Pt) : List DEdge :=
  bs.flatMap fun b => cells.flatMap (cellEmit bl val b)

def marchedTris {α : Type} (bl : Blocks α) (val : α → Bool) (bs : List Pt) : List (LEdge × LEdge × LEdge) :=
  bs.flatMap fun b => cells.flatMap (cellEmitTris bl val b)

end Src

/-! ## 1. The loops -/

theorem flatMap_swap_perm_aux {α β γ : Type} (l1 : List α) (l2 : List β) (f : α → β → List γ) :
    (l1.flatMap fun a => l2.flatMap fun b => f a b).Perm (l2.flatMap fun b => l1.flatMap fun a => f a b) := by
  induction l1 with
  | nil => simp
  | cons a l1 ih =>
    simp only [List.flatMap_cons]
    exact (List.Perm.append_left _ ih).trans (List.flatMap_append_perm l2 _ _)

theorem nest3_perm_aux {γ : Type} (xs ys zs : List Int) (g : Int → Int → Int → γ) :
    (zs.flatMap fun z => ys.flatMap fun y => xs.flatMap fun x => [g x y z]).Perm
      (xs.flatMap fun x => ys.flatMap fun y => zs.flatMap fun z => [g x y z]) := by
  refine (flatMap_swap_perm_aux zs ys _).trans ?_
  refine (List.Perm.flatMap_left ys (fun y _ => flatMap_swap_perm_aux zs xs _)).trans ?_
  exact flatMap_swap_perm_aux ys xs _

theorem loopVals_source_aux : Src.loopVals 0 "<" (Src.lin (1, 0)) 1 = (List.range 100).map Int.ofNat := by
  simp [Src.loopVals, Src.lin, marchingSectionSize]

/-- **The cell loops.**  The cells the three regenerated loops visit (start, comparison, bound `marchingSectionSize`, step, as
    written in the source, z outermost) are, as a multiset, the model's `localCells` = `[0,100)³`: each exactly once. -/
theorem cells_from_source : Src.cells.Perm localCells := by
  have h : Src.cells = ((List.range 100).map Int.ofNat).flatMap fun z =>
      ((List.range 100).map Int.ofNat).flatMap fun y =>
        ((List.range 100).map Int.ofNat).flatMap fun x => [((x, y, z) : Pt)] := by
    simp only [Src.cells, Gen.MarchLoops.cellLoops, List.map_cons, List.map_nil, Src.nest, loopVals_source_aux]
    simp [Src.setAx, List.map_flatMap]
  rw [h]
  refine (nest3_perm_aux _ _ _ _).trans (List.Perm.of_eq ?_)
  simp [localCells, boxCells, padd, List.map_eq_flatMap, List.flatMap_assoc]

/-! ## 2. The corner fetch -/

/-- `d.index` as regenerated (`(z * S²) + (y * S) + x`) is the model's `bindex` -/
theorem index_from_source (x y z : Int) : Src.indexOf [x, y, z] = bindex x y z := by
  simp only [Src.indexOf, Gen.MarchLoops.indexTerms, List.foldl_cons, List.foldl_nil, bindex, List.getD_cons_zero,
    List.getD_cons_succ, marchingSectionSize]
  ring

/-- the block step `if a == marchingSectionSize-1 { aBlockPosition += 1 }` of the three loops -/
theorem blockPos_from_source (b l : Pt) (a : Nat) (ha : a < 3) :
    Src.blockPos b l a = if coord a l = marchingSectionSize - 1 then coord a b + 1 else coord a b := by
  interval_cases a <;>
    simp [Src.blockPos, Gen.MarchLoops.blockSteps, List.find?, Src.cmpInt, Src.lin, marchingSectionSize] <;> rfl

theorem cornerReads_find_aux : ∀ i, i < 8 → Gen.MarchLoops.cornerReads.find? (fun s => s.1 == i) = some (i, i, i) := by decide

/-- one field of `newIndex`: the guard of that field replaces the initial value when the block differs -/
theorem newIndex_from_source_aux (b l : Pt) (i : Nat) (pos : Pt) (f : Nat) (hf : f < 3) :
    Src.newIndex b l i pos f = if coord f pos ≠ coord f b then neighbourIndex.getD f 0 else coord f l + coord f (cornerOff i) := by
  interval_cases f <;>
    simp [Src.newIndex, Gen.MarchLoops.newIndexInit, Gen.MarchLoops.newIndexGuards, List.find?, Src.cmpInt, neighbourIndex, coord]

theorem blockRow_aux : ∀ i, i < 8 → (cubeDataBlockPositions.getD i []).length = 3 := by decide

/-- **The corner fetch.**  For each of the eight corners, what the regenerated program reads into `cubeCorners[i]` (block of
    fetch iteration `j`, index of iteration `k` as in `cubeCorners[i] = cubeData[j][cubeDataIndexes[k]]`; `newIndex` with
    its guards; argument order and body of `d.index`; block step at the regenerated last index) is the model's
    `March.fetchCorner`. -/
theorem fetchCorner_from_source {α : Type} (bl : Blocks α) (b : Pt) (x y z : Int) (i : Nat) (hi : i < 8) :
    Src.fetchCorner bl b (x, y, z) i = March.fetchCorner bl b x y z i := by
  obtain ⟨s0, s1, s2, hrow⟩ := List.length_eq_three.mp (blockRow_aux i hi)
  simp only [Src.fetchCorner, cornerReads_find_aux i hi, Src.selBlock, March.fetchCorner, hrow, ptOfRow]
  simp [Gen.MarchLoops.indexArgs, index_from_source,
    newIndex_from_source_aux _ _ _ _ _ (by decide : (0:Nat) < 3),
    newIndex_from_source_aux _ _ _ _ _ (by decide : (1:Nat) < 3), newIndex_from_source_aux _ _ _ _ _ (by decide : (2:Nat) < 3),
    blockPos_from_source _ _ 0 (by decide), blockPos_from_source _ _ 1 (by decide),
    blockPos_from_source _ _ 2 (by decide), coord]

theorem fetchCell_from_source {α : Type} (bl : Blocks α) (b : Pt) (x y z : Int) :
    (List.range 8).mapM (Src.fetchCorner bl b (x, y, z)) = fetchCell bl b x y z :=
  ListM.mapM_congr fun i hi => fetchCorner_from_source bl b x y z i (List.mem_range.mp hi)

/-! ## 3. The early `continue`s, the world position, one cell, the whole march -/

/-- **The early `continue`s are subsumed by the corner fetch.**  Whenever the regenerated z- or y-loop `continue`s (the loop
    variable is at the regenerated last index and the block `nextZ` / `nextY` is not allocated), one of the eight corner
    blocks of every cell of that row is missing, i.e. the model's `fetchCell` skips the cell as well. -/
theorem early_continue_from_source {α : Type} (bl : Blocks α) (b : Pt) (x y z : Int)
    (h : Src.earlySkip bl b (x, y, z) = true) : fetchCell bl b x y z = none := by
  obtain ⟨bx, by', bz⟩ := b
  simp only [Src.earlySkip, Gen.MarchLoops.earlyContinues, Gen.MarchLoops.blockSteps, List.find?, List.any_cons, List.any_nil,
    Src.selBlock, blockPos_from_source _ _ 1 (by decide), blockPos_from_source _ _ 2 (by decide), Src.cmpInt, Src.lin,
    coord, marchingSectionSize, List.getD_cons_zero, List.getD_cons_succ] at h
  simp at h
  rcases h with ⟨hz, hn⟩ | ⟨hy, hn⟩
  · -- corner 3 lives in the block the z-loop tests
    refine ListM.mapM_eq_none_iff.mpr ⟨3, by decide, ?_⟩
    rw [if_pos hz] at hn
    simp [March.fetchCorner, ptOfRow, cubeDataBlockPositions, marchingSectionSize, hz, hn]
  · -- corner 7 lives in the block the y-loop tests
    refine ListM.mapM_eq_none_iff.mpr ⟨7, by decide, ?_⟩
    rw [if_pos hy] at hn
    simp [March.fetchCorner, ptOfRow, cubeDataBlockPositions, marchingSectionSize, hy]
    exact hn

/-- `offset + (xf, yf, zf)`: the lattice position of the cell's low corner is the model's `globalOf` -/
theorem origin_from_source (b : Pt) (x y z : Int) : Src.origin b (x, y, z) = globalOf b x y z := by
  simp [Src.origin, Gen.MarchLoops.blockOffset, Gen.MarchLoops.floatVars, List.find?, Src.lin, coord, globalOf,
    marchingSectionSize]

/-- **One cell.**  The regenerated cell body (early `continue`s, fetch, skip when a block is missing, case index of the
    fetched values, table edges at `offset + (xf, yf, zf)`) emits what the model's `cellEmit` emits — for every local
    position, every block, every storage. -/
theorem cellEmit_from_source {α : Type} (bl : Blocks α) (val : α → Bool) (b l : Pt) :
    Src.cellEmit bl val b l = cellEmit bl val b l := by
  obtain ⟨x, y, z⟩ := l
  unfold Src.cellEmit
  rw [fetchCell_from_source, origin_from_source]
  by_cases hs : Src.earlySkip bl b (x, y, z) = true
  · rw [if_pos hs, cellEmit, early_continue_from_source bl b x y z hs]
  · rw [if_neg hs]; rfl

theorem cellEmitTris_from_source {α : Type} (bl : Blocks α) (val : α → Bool) (b l : Pt) :
    Src.cellEmitTris bl val b l = cellEmitTris bl val b l := by
  obtain ⟨x, y, z⟩ := l
  unfold Src.cellEmitTris
  rw [fetchCell_from_source, origin_from_source]
  by_cases hs : Src.earlySkip bl b (x, y, z) = true
  · rw [if_pos hs, cellEmitTris, early_continue_from_source bl b x y z hs]
  · rw [if_neg hs]; rfl

/-- **The whole march.**  The interpretation of the regenerated program (all blocks, the regenerated loops, the regenerated
    cell body) emits, as a multiset, exactly the model's `marchedEdges` (the model lists a block's cells x-outermost, the
    source z-outermost) -/
theorem marched_from_source {α : Type} (bl : Blocks α) (val : α → Bool) (bs : List Pt) :
    (Src.marchedEdges bl val bs).Perm (marchedEdges bl val bs) := by
  unfold Src.marchedEdges marchedEdges
  refine List.Perm.flatMap_left bs fun b _ => ?_
  rw [show Src.cellEmit bl val b = cellEmit bl val b from funext (cellEmit_from_source bl val b)]
  exact cells_from_source.flatMap_right _

theorem marched_tris_from_source {α : Type} (bl : Blocks α) (val : α → Bool) (bs : List Pt) :
    (Src.marchedTris bl val bs).Perm (marchedTris bl val bs) := by
  unfold Src.marchedTris marchedTris
  refine List.Perm.flatMap_left bs fun b _ => ?_
  rw [show Src.cellEmitTris bl val b = cellEmitTris bl val b from funext (cellEmitTris_from_source bl val b)]
  exact cells_from_source.flatMap_right _

/-- **Closed, for the program as regenerated from canvas.go**: under `MarchHyp`, the directed edges the interpreted source
    loops emit are balanced and duplicate-free (every directed edge exactly once, its reverse exactly once) -/
theorem marched_closed_from_source {α : Type} (bl : Blocks α) (val : α → Bool) (bs : List Pt) (o : Pt) (nx ny nz : Nat)
    (H : MarchHyp bl val bs o nx ny nz) :
    Balanced (Src.marchedEdges bl val bs) ∧ (Src.marchedEdges bl val bs).Nodup := by
  have hp := marched_from_source bl val bs
  obtain ⟨hb, hn⟩ := marched_closed bl val bs o nx ny nz H
  exact ⟨Balanced.of_perm_aux hp hb, hp.nodup_iff.mpr hn⟩

/-- **Positive volume, for the program as regenerated from canvas.go** -/
theorem marched_volume_positive_from_source {α : Type} (bl : Blocks α) (val : α → Bool) (bs : List Pt) (o : Pt) (nx ny nz : Nat)
    (H : MarchHyp bl val bs o nx ny nz) (τ : LEdge → ℝ) (hτ : ∀ l, 0 < τ l ∧ τ l < 1) (hne : Src.marchedTris bl val bs ≠ []) :
    0 < volume6 (posL τ) ⟨0, 0, 0⟩ (Src.marchedTris bl val bs) := by
  have hp := marched_tris_from_source bl val bs
  have hv : volume6 (posL τ) ⟨0, 0, 0⟩ (Src.marchedTris bl val bs) = volume6 (posL τ) ⟨0, 0, 0⟩ (marchedTris bl val bs) := by
    unfold volume6; exact (hp.map _).sum_eq
  rw [hv]
  refine marched_volume_positive bl val bs o nx ny nz H τ hτ ?_
  intro h0; rw [h0] at hp; exact hne (List.Perm.eq_nil hp)

/-- non-vacuity: the one-block canvas of `Props/C09.lean`'s `MarchHyp` example, marched by the interpreted source program,
    emits something (the single inside sample at (50, 50, 50) gives eight cells with one triangle each) -/
example : Src.cellEmit (fun b => if b = ((0 : Int), (0 : Int), (0 : Int)) then some (fun i => decide (i = bindex 50 50 50)) else none)
    id (0, 0, 0) (50, 50, 50) ≠ [] := by decide

/-! ## 4. The inside test, the vertices, the statement skeleton -/

/-- a Go float comparison against the cutoff, by its printed operator (exact reals) -/
noncomputable def Src.cmpReal (op : String) (a b : ℝ) : Bool :=
  if op = "<" then decide (a < b) else if op = "<=" then decide (a ≤ b)
  else if op = ">" then decide (a > b) else if op = ">=" then decide (a ≥ b) else false

/-- `cubeCornersExistence[i]` of the regenerated program on the fetched values `cs` -/
noncomputable def Src.insideBit (cs : List ℝ) (c : ℝ) (i : Nat) : Bool :=
  match Gen.MarchLoops.insideCmp.find? (fun s => s.1 == i) with
  | some (_, j, op) => Src.cmpReal op (cs.getD j 0) c
  | none => false

/-- **The inside test is `<`** on the corner's own sample: bit `i` of the case index is `cubeCorners[i] < cutoff` — the
    `signOf G c q = decide (G q < c)` the isosurface / orientation theorems are stated with (`<=` or another corner's
    sample breaks this theorem) -/
theorem inside_test_from_source (cs : List ℝ) (c : ℝ) (i : Nat) (hi : i < 8) :
    Src.insideBit cs c i = decide (cs.getD i 0 < c) := by
  interval_cases i <;> simp [Src.insideBit, Gen.MarchLoops.insideCmp, List.find?, Src.cmpReal]

/-- the edge → corner table named in the source -/
def Src.tabOf (n : String) : List Nat :=
  if n = "cornerIndexAFromEdge" then cornerIndexAFromEdge else if n = "cornerIndexBFromEdge" then cornerIndexBFromEdge else []

/-- the vertex the regenerated triangle loop appends for use `u = (j, [T1, T2, T3, T4])` on table triangle `t`:
    `interpolateVerts(cubeCornerPositions[T1[e]], cubeCornerPositions[T2[e]], cubeCorners[T3[e]], cubeCorners[T4[e]], cutoff)`,
    `e = t[j]`, in lattice coordinates of the cell at `p` (the `.Add(offset)` is `origin_from_source`) -/
noncomputable def Src.vert (G : Pt → ℝ) (c : ℝ) (p : Pt) (t : Nat × Nat × Nat) (u : Nat × List String) : V3 ℝ :=
  let e := [t.1, t.2.1, t.2.2].getD u.1 12
  let T (k : Nat) : Nat := (Src.tabOf (u.2.getD k "")).getD e 0
  Gen.marching.interpolateVerts (ptR (padd p (cornerPosOff (T 0)))) (ptR (padd p (cornerPosOff (T 1))))
    (G (padd p (cornerOff (T 2)))) (G (padd p (cornerOff (T 3)))) c

theorem cornerPosOff_eq_aux : cornerPosOff = cornerOff := rfl

/-- **Edge → (cornerA, cornerB) use.**  The three vertices the regenerated triangle loop appends (in append order) are the
    model's `vertR` of the triangle's three cube edges: positions AND values are taken at `cornerIndexAFromEdge[e]` first,
    `cornerIndexBFromEdge[e]` second, row entries `i`, `i+1`, `i+2` in this order (a swapped table, a position / value taken
    from different ends, or a reordered append breaks this theorem) -/
theorem vertex_uses_from_source (G : Pt → ℝ) (c : ℝ) (p : Pt) (t : Nat × Nat × Nat) :
    Gen.MarchLoops.triVertexUses.map (Src.vert G c p t) = [vertR G c p t.1, vertR G c p t.2.1, vertR G c p t.2.2] := by
  simp [Gen.MarchLoops.triVertexUses, Src.vert, Src.tabOf, vertR, cA, cB, cornerPosOff_eq_aux]

/-- the block size the loops, the block step and `index` use is the `marchingSectionSize` of the tables module -/
theorem section_size_from_source : Gen.MarchLoops.sectionSize = marchingSectionSize ∧ marchingSectionSize = 100 := by decide

/-- **Statement skeleton.**  `marchFloat1` is the range loop over `section.positions` appending
    `marchFloat1BlockPosition(.., blockPosition)`; the fetch loop is `if dataIndex, ok := section.positions[pos]; ok { .. } else
    { allValid = false; break }` followed by `if !allValid { continue }`; and the innermost loop body consists of exactly the
    statements the model transcribes, in this order (one label per statement; the extractor rejects any statement kind it does
    not know, so an added `continue`, an extra assignment to a loop variable or a second loop is an extraction error) -/
theorem cell_body_from_source :
    Gen.MarchLoops.blockLoop =
      ["finalMesh := modeling.EmptyMesh(modeling.TriangleTopology)",
       "for blockPosition := range section.positions { finalMesh = finalMesh.Append(d.marchFloat1BlockPosition(cutoff, meshAttribute, section, blockPosition)) }",
       "return finalMesh"] ∧
    Gen.MarchLoops.fetchFrame =
      ["if dataIndex, ok := section.positions[pos]; ok", "else { allValid = false; break }",
       "cubeData[i] = d.float1Data[dataIndex]"] ∧
    Gen.MarchLoops.cellBodyShape =
      ["cubeDataBlockPositions", "cubeData[0]", "cubeData[1]", "cubeData[2]", "cubeData[3]", "cubeData[4]",
       "cubeData[5]", "cubeData[6]", "cubeData[7]", "cubeDataIndexes[0]", "cubeDataIndexes[1]", "cubeDataIndexes[2]",
       "cubeDataIndexes[3]", "cubeDataIndexes[4]", "cubeDataIndexes[5]", "cubeDataIndexes[6]", "cubeDataIndexes[7]",
       "allValid", "range cubeDataBlockPositions", "if !allValid", "cubeCorners[0]", "cubeCorners[1]", "cubeCorners[2]",
       "cubeCorners[3]", "cubeCorners[4]", "cubeCorners[5]", "cubeCorners[6]", "cubeCorners[7]", "cubeCornersExistence[0]",
       "cubeCornersExistence[1]", "cubeCornersExistence[2]", "cubeCornersExistence[3]", "cubeCornersExistence[4]",
       "cubeCornersExistence[5]", "cubeCornersExistence[6]", "cubeCornersExistence[7]", "xf", "yf", "zf", "cubeCornerPositions",
       "lookupIndex", "if cubeCornersExistence[0]", "if cubeCornersExistence[1]", "if cubeCornersExistence[2]",
       "if cubeCornersExistence[3]", "if cubeCornersExistence[4]", "if cubeCornersExistence[5]", "if cubeCornersExistence[6]",
       "if cubeCornersExistence[7]", "for i := 0; triangulation[lookupIndex][i] != -1; i += 3"] :=
  ⟨rfl, rfl, rfl⟩

/-! ## 5. Block level: canvas filling (`AddField`), block enumeration, the final weld -/

theorem mem_loopVals_aux (s b X : Int) : X ∈ Src.loopVals s "<" b 1 ↔ s ≤ X ∧ X < b := by
  have e : Src.loopVals s "<" b 1 = (List.range (b - s).toNat).map fun (k : Nat) => s + Int.ofNat k := by
    simp [Src.loopVals]
  rw [e, List.mem_map]
  constructor
  · rintro ⟨k, hk, rfl⟩
    rw [List.mem_range] at hk
    simp only [Int.ofNat_eq_natCast]; omega
  · rintro ⟨h1, h2⟩
    exact ⟨(X - s).toNat, List.mem_range.mpr (by omega), by simp only [Int.ofNat_eq_natCast]; omega⟩

/-- `fieldBounds`: sample range per axis `[⌊min·cubesPerUnit⌋ − 1, ⌈max·cubesPerUnit⌉ + 1)` — the one-cell padding that
    `addField_allocates_neighbourhood` / `MarchHyp.padded` rest on; `canvasPosToChunkPos` = `⌊x / marchingSectionSize⌋` per axis
    (model `chunkOf`); `chunkSectionsInRange` = all chunks from the chunk of `min` to the chunk of `max` INCLUSIVE (`< range+1`) -/
theorem field_bounds_from_source :
    Gen.MarchLoops.src_fieldBounds =
      ["min := f.Domain.Min()",
       "max := f.Domain.Max()",
       "minCanvas := modeling.VectorInt{ X: int(math.Floor(min.X()*d.cubesPerUnit)) - 1, Y: int(math.Floor(min.Y()*d.cubesPerUnit)) - 1, Z: int(math.Floor(min.Z()*d.cubesPerUnit)) - 1, }",
       "maxCanvas := modeling.VectorInt{ X: int(math.Ceil(max.X()*d.cubesPerUnit)) + 1, Y: int(math.Ceil(max.Y()*d.cubesPerUnit)) + 1, Z: int(math.Ceil(max.Z()*d.cubesPerUnit)) + 1, }",
       "return minCanvas, maxCanvas"] ∧
    Gen.MarchLoops.src_canvasPosToChunkPos =
      ["return modeling.VectorInt{ X: int(math.Floor(float64(x) / marchingSectionSize)), Y: int(math.Floor(float64(y) / marchingSectionSize)), Z: int(math.Floor(float64(z) / marchingSectionSize)), }"] ∧
    Gen.MarchLoops.src_chunkSectionsInRange =
      ["minChunkPos := d.canvasPosToChunkPos(min.X, min.Y, min.Z)",
       "maxChunkPos := d.canvasPosToChunkPos(max.X, max.Y, max.Z)",
       "if minChunkPos == maxChunkPos",
       ". return []modeling.VectorInt{minChunkPos}",
       "chunkRange := maxChunkPos.Sub(minChunkPos)",
       "allSections := make([]modeling.VectorInt, 0)",
       "for x := 0; x < chunkRange.X+1; x++",
       ". for y := 0; y < chunkRange.Y+1; y++",
       ". . for z := 0; z < chunkRange.Z+1; z++",
       ". . . allSections = append(allSections, modeling.VectorInt{ X: minChunkPos.X + x, Y: minChunkPos.Y + y, Z: minChunkPos.Z + z, })",
       "return allSections"] :=
  ⟨rfl, rfl, rfl⟩

/-- `AddField` / `addFloat1Range` as text: every chunk of `chunkSections` is written (no early-out, no skipped range), the clipped
    range is `[maxInt(c·S, min), minInt(c·S + S, max))` per axis, each position of it is written once into
    `index(x − c.X·S, y − c.Y·S, z − c.Z·S)` with `+=`; a missing block is allocated by `chunkIndex_atomic` with `S³` zero samples -/
theorem add_field_from_source :
    Gen.MarchLoops.src_AddField =
      ["min, max := d.fieldBounds(field)",
       "chunkSections := d.chunkSectionsInRange(min, max)",
       "for attribute, function := range field.Float1Functions",
       ". section := d.getSection(attribute, Float1)",
       ". for _, chunkPos := range chunkSections",
       ". . canvasSpaceChunkPos := modeling.VectorInt{ X: maxInt(chunkPos.X*marchingSectionSize, min.X), Y: maxInt(chunkPos.Y*marchingSectionSize, min.Y), Z: maxInt(chunkPos.Z*marchingSectionSize, min.Z), }",
       ". . endPos := modeling.VectorInt{ X: minInt((chunkPos.X*marchingSectionSize)+marchingSectionSize, max.X), Y: minInt((chunkPos.Y*marchingSectionSize)+marchingSectionSize, max.Y), Z: minInt((chunkPos.Z*marchingSectionSize)+marchingSectionSize, max.Z), }",
       ". . d.addFloat1Range(section, chunkPos, canvasSpaceChunkPos, endPos, function)"] ∧
    Gen.MarchLoops.src_addFloat1Range =
      ["if section.dataType != Float1",
       ". panic(fmt.Errorf(\"cant add float1 to section with type of: %d\", section.dataType))",
       "index := d.chunkIndex_atomic(section, chunkPos)",
       "d.chunkMutex.Lock()",
       "data := d.float1Data[index]",
       "d.chunkMutex.Unlock()",
       "for z := min.Z; z < max.Z; z++",
       ". for y := min.Y; y < max.Y; y++",
       ". . for x := min.X; x < max.X; x++",
       ". . . pos := vector3. New(float64(x), float64(y), float64(z)). DivByConstant(d.cubesPerUnit)",
       ". . . shiftedPos := modeling.VectorInt{ X: x - (chunkPos.X * marchingSectionSize), Y: y - (chunkPos.Y * marchingSectionSize), Z: z - (chunkPos.Z * marchingSectionSize), }",
       ". . . data[d.index(shiftedPos.X, shiftedPos.Y, shiftedPos.Z)] += function(pos)"] ∧
    Gen.MarchLoops.src_chunkIndex_atomic =
      ["d.chunkMutex.Lock()",
       "defer d.chunkMutex.Unlock()",
       "chunkIndex, ok := section.positions[vec]",
       "if !ok",
       ". switch section.dataType",
       ". case Float1",
       ". . chunkIndex = len(d.float1Data)",
       ". . d.float1Data = append(d.float1Data, make(float1MarchingSection, marchingSectionSizeCubed))",
       ". case Float2",
       ". . chunkIndex = len(d.float2Data)",
       ". . d.float2Data = append(d.float2Data, make(float2MarchingSection, marchingSectionSizeCubed))",
       ". case Float3",
       ". . chunkIndex = len(d.float3Data)",
       ". . d.float3Data = append(d.float3Data, make(float3MarchingSection, marchingSectionSizeCubed))",
       ". section.positions[vec] = chunkIndex",
       "return chunkIndex"] :=
  ⟨rfl, rfl, rfl⟩

/-- the reading of the pinned clipping expressions of `AddField` (one axis, chunk `c`, sample range `[mn, mx)`) -/
def Src.clipLo (c mn : Int) : Int := max (c * marchingSectionSize) mn
def Src.clipHi (c mx : Int) : Int := min (c * marchingSectionSize + marchingSectionSize) mx
def Src.shifted (X c : Int) : Int := X - c * marchingSectionSize

/-- **AddField partition, on the pinned expressions** (one axis): the loop `for x := lo; x < hi; x++` of `addFloat1Range` with the
    clipped bounds of `AddField` visits a sample position `X ∈ [mn, mx)` in exactly one chunk — `c = ⌊X/S⌋` —, and writes it to the
    local index `X mod S ∈ [0, S)`; an EMPTY clipped range (chunk of the exclusive bound `mx` when `mx` is a multiple of `S`) is
    still passed to `addFloat1Range`, which allocates the block (the neighbour block the last cell layer fetches) -/
theorem addField_partition_from_source (mn mx X : Int) (h1 : mn ≤ X) (h2 : X < mx) :
    (∀ c, X ∈ Src.loopVals (Src.clipLo c mn) "<" (Src.clipHi c mx) 1 ↔ c = X / marchingSectionSize) ∧
    Src.shifted X (X / marchingSectionSize) = X % marchingSectionSize ∧
    0 ≤ X % marchingSectionSize ∧ X % marchingSectionSize < marchingSectionSize := by
  have hp := addField_axis_partition mn mx X
  obtain ⟨_, hb, hc⟩ := hp
  have hb' := hb h1 h2
  simp only at hb'
  refine ⟨fun c => ?_, hb'.2.2.1, hb'.2.2.2.1, hb'.2.2.2.2⟩
  rw [mem_loopVals_aux]
  constructor
  · rintro ⟨ha, hb2⟩; exact hc c ha hb2
  · rintro rfl; exact ⟨hb'.1, hb'.2.1⟩

/-- **Block enumeration and the final weld**: `March` = `MarchOnAttribute(Position, cutoff)`; the section's blocks are marched by
    `marchFloat1` (`cell_body_from_source`: range over `section.positions`, one `Append` per block, no filter); an empty result is
    returned as is, otherwise scaled by `1/cubesPerUnit` and welded with `WeldByFloat3Attribute(attribute, 3)` (the attribute
    marched on, precision 3 = 1e-3); `marchFloat1BlockPosition` has no statement before its cell loops other than the nine
    set-up assignments (no early return for a block) -/
theorem weld_call_from_source :
    Gen.MarchLoops.src_March =
      ["return d.MarchOnAttribute(modeling.PositionAttribute, cutoff)"] ∧
    Gen.MarchLoops.src_MarchOnAttribute =
      ["for sectionAttribute, section := range d.sections",
       ". if section.dataType == Float1 && sectionAttribute == attribute",
       ". . marched := d.marchFloat1(cutoff, sectionAttribute, section)",
       ". . if marched.PrimitiveCount() == 0",
       ". . . return marched",
       ". . return marched. Transform( meshops.ScaleAttribute3DTransformer{ Amount: vector3.One[float64]().DivByConstant(d.cubesPerUnit), }, ). WeldByFloat3Attribute(attribute, 3)",
       "panic(fmt.Errorf(\"canvas did not contain Float1 attribute %s\", attribute))"] ∧
    Gen.MarchLoops.blockPrologue =
      ["cubeDataIndexIncrements := ..",
       "cubeData := ..",
       "cubeDataIndexes := ..",
       "cubeCorners := ..",
       "cubeCornersExistence := ..",
       "marchingWorkingData := ..",
       "blockIndex := ..",
       "data := ..",
       "offset := ..",
       "<cell loops>",
       "return .."] :=
  ⟨rfl, rfl, rfl⟩

end C09
end PolyVerif
