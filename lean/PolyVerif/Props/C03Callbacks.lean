/-
  C03 — the scan / modify callback family: a scan changes NOTHING, a modify changes exactly one attribute by the
  callback applied index-wise and nothing else.  (Model: `Model/MeshCallbacks.lean`.)
-/
import PolyVerif.Props.C03
import PolyVerif.Model.MeshCallbacks

namespace PolyVerif.C03
open PolyVerif.Mesh PolyVerif.Mesh.MeshVal
variable {α : Type}

/-- **ScanFloatNAttribute** (sequential, Parallel, ParallelWithPoolSize): the returned mesh IS the receiver; it is
    rejected exactly when the attribute is missing or the pool size is < 1 -/
theorem scanAttr_spec (m : MeshVal α) (k : AttrKey) (pool : Nat) :
    (∀ m', m.scanAttr k pool = some m' → m' = m) ∧
    (m.scanAttr k pool = none ↔ (m.attr? k = none ∨ pool < 1)) := by
  have hh : m.hasAttr k = true ↔ ¬ m.attr? k = none := by simp [hasAttr, attr?, Option.isSome_iff_ne_none]
  refine ⟨fun m' h => by simpa [scanAttr, eq_comm] using (Option.ite_none_right_eq_some.mp h).2, ?_⟩
  simp only [scanAttr, ite_eq_right_iff, reduceCtorEq, imp_false, hh, Decidable.not_and_iff_not_or_not,
    Decidable.not_not, Nat.not_le, Nat.lt_one_iff]

/-- the sequential scan calls the callback exactly once per vertex, in index order, with that vertex's value -/
theorem scanVisits_spec {m : MeshVal α} {k : AttrKey} {d : List α} (hd : m.attr? k = some d) :
    ∃ vs, m.scanVisits k = some vs ∧ vs.map (·.1) = List.range d.length ∧ vs.map (·.2) = d ∧
      ∀ i x, (i, x) ∈ vs → d[i]? = some x := by
  refine ⟨(List.range d.length).zip d, by simp [scanVisits, hd], ?_, ?_, ?_⟩
  · rw [List.map_fst_zip]; simp
  · rw [List.map_snd_zip]; simp
  · intro i x hx
    obtain ⟨j, hj, hget⟩ := List.getElem_of_mem hx
    simp only [List.getElem_zip, List.getElem_range, Prod.mk.injEq] at hget
    obtain ⟨rfl, rfl⟩ := hget
    simp only [List.length_zip, List.length_range, Nat.min_self] at hj
    simp [hj]

/-- **ScanPrimitives**: the returned mesh is the receiver; rejected exactly for topologies without a primitive scan
    (quad, line, line loop) or a pool size < 1 -/
theorem scanPrimitives_spec (m : MeshVal α) (pool : Nat) :
    (∀ m', m.scanPrimitives pool = some m' → m' = m) ∧
    (m.scanPrimitives pool = none ↔
      ((m.topology ≠ .triangle ∧ m.topology ≠ .point ∧ m.topology ≠ .lineStrip) ∨ pool < 1)) := by
  refine ⟨fun m' h => by simpa [scanPrimitives, eq_comm] using (Option.ite_none_right_eq_some.mp h).2, ?_⟩
  simp only [scanPrimitives, ite_eq_right_iff, reduceCtorEq, imp_false, Decidable.not_and_iff_not_or_not, not_or,
    Nat.not_le, Nat.lt_one_iff, ne_eq]

/-- **ModifyFloatNAttribute** (every variant): topology, indices, materials and every other attribute array are
    untouched; attribute `k` is exactly `d.mapIdx f` (absent when `d` is empty — the Go setter deletes an empty array);
    well-formedness is kept -/
theorem modifyAttrIdx_spec [DecidableEq α] {m m' : MeshVal α} {k : AttrKey} {pool : Nat} {f : Nat → α → α}
    (hm : m.modifyAttrIdx k pool f = some m') :
    FrameSpec k m m' ∧
    (∃ d, m.attr? k = some d ∧ m'.attr? k = (if d.isEmpty then none else some (d.mapIdx f))) ∧
    (WF m → WF m') := by
  obtain ⟨_, hm⟩ := Option.ite_none_right_eq_some.mp hm
  obtain ⟨hf, d, hd, hk⟩ := modifyAttr_spec hm
  exact ⟨hf, ⟨d, hd, by simpa using hk⟩, fun h => MeshVal.modifyAttr_wf h (fun d => by simp) hm⟩

theorem modifyAttrIdx_rejects (m : MeshVal α) (k : AttrKey) (pool : Nat) (f : Nat → α → α) :
    m.modifyAttrIdx k pool f = none ↔ (m.attr? k = none ∨ pool < 1) := by
  unfold modifyAttrIdx
  split
  · rw [modifyAttr_rejects, or_iff_left (by omega)]
  · simp only [true_iff]; right; omega

example : ∃ m', sample.modifyAttrIdx ⟨1, "Class"⟩ 4 (fun i x => x + 100 * i) = some m' ∧
    m'.attr? ⟨1, "Class"⟩ = some [20, 121, 222, 323, 424] ∧ m'.attr? ⟨3, "Position"⟩ = sample.attr? ⟨3, "Position"⟩ :=
  ⟨_, rfl, by decide +kernel, by decide +kernel⟩
example : sample.scanVisits ⟨1, "Class"⟩ = some [(0, 20), (1, 21), (2, 22), (3, 23), (4, 24)] := by decide +kernel

end PolyVerif.C03
