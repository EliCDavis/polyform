/-
  C06 — the text container's data URI: standard base64 (Model/Base64.lean) round-trips through a strict
  reader, has length 4·⌈n/3⌉, carries padding only in its last quantum (the statement seeded change C06-m17 violated:
  block-wise encoding put `==` in the middle), and the URI of the model's document decodes to exactly the buffer.
  Tie: the driver answers `c06.uri` (the buffer URI of small scenes, compared exactly with the real WriteText output) with
  `dataURI`, and evaluates `parseDataURI` on the implementation's URI (`c06.holds.uridecode`).
-/
import PolyVerif.Props.C06DocMode
import PolyVerif.Model.Base64

namespace PolyVerif
namespace C06
open Gltf Base64

theorem val_ch : ∀ n : Fin 64, val (ch n.val) = some n.val := by decide +kernel

theorem ch_ne_pad : ∀ n : Fin 64, ch n.val ≠ pad := by decide +kernel

theorem val_ch' {n : Nat} (h : n < 64) : val (ch n) = some n := val_ch ⟨n, h⟩
theorem ch_ne_pad' {n : Nat} (h : n < 64) : (ch n = pad) = False := eq_false (ch_ne_pad ⟨n, h⟩)

/-- the four sextets of three bytes are below 64 and determine the bytes (a missing byte is 0) -/
theorem sextets {a b c : Nat} (ha : a < 256) (hb : b < 256) (hc : c < 256) :
    (a / 4 < 64 ∧ a % 4 * 16 + b / 16 < 64 ∧ b % 16 * 4 + c / 64 < 64 ∧ c % 64 < 64)
    ∧ a / 4 * 4 + (a % 4 * 16 + b / 16) / 16 = a
    ∧ (a % 4 * 16 + b / 16) % 16 * 16 + (b % 16 * 4 + c / 64) / 4 = b
    ∧ (b % 16 * 4 + c / 64) % 4 * 64 + c % 64 = c := by
  omega

/-- one full quantum decodes to its three bytes -/
theorem decodeQuad_full (a b c : UInt8) (last : Bool) :
    decodeQuad (ch (a.toNat / 4)) (ch (a.toNat % 4 * 16 + b.toNat / 16)) (ch (b.toNat % 16 * 4 + c.toNat / 64))
      (ch (c.toNat % 64)) last = some [a, b, c] := by
  obtain ⟨⟨h0, h1, h2, h3⟩, e0, e1, e2⟩ := sextets a.toNat_lt b.toNat_lt c.toNat_lt
  simp only [decodeQuad, val_ch' h0, val_ch' h1, val_ch' h2, val_ch' h3, ch_ne_pad' h2, ch_ne_pad' h3, if_false, e0, e1, e2,
    UInt8.ofNat_toNat]

/-- DECODE ∘ ENCODE: the strict reader recovers every byte list.  A last group of one or two bytes is the full group with
    zero for the missing bytes: the padded sextets are those of `sextets` at `b = 0` / `c = 0`, and the trailing-bits check
    of the strict reader is what remains of them. -/
theorem b64_decode_encode : ∀ bs : List UInt8, decode (encode bs) = some bs
  | [] => rfl
  | [a] => by
    obtain ⟨⟨h0, h1, _⟩, e0, _⟩ := sextets a.toNat_lt (Nat.zero_lt_succ 255) (Nat.zero_lt_succ 255)
    simp only [Nat.zero_div, Nat.add_zero] at h1 e0
    have e1 : a.toNat % 4 * 16 % 16 = 0 := by omega
    simp only [encode, decode, decodeQuad, List.isEmpty_nil, val_ch' h0, val_ch' h1, e0, e1]
    simp
  | [a, b] => by
    obtain ⟨⟨h0, h1, h2, _⟩, e0, e1, _⟩ := sextets a.toNat_lt b.toNat_lt (Nat.zero_lt_succ 255)
    simp only [Nat.zero_div, Nat.add_zero] at h2 e1
    have e2 : b.toNat % 16 * 4 % 4 = 0 := by omega
    simp only [encode, decode, decodeQuad, List.isEmpty_nil, val_ch' h0, val_ch' h1, val_ch' h2, ch_ne_pad' h2, if_false,
      e0, e1, e2]
    simp
  | a :: b :: c :: r => by
    simp only [encode, decode, decodeQuad_full, b64_decode_encode r, List.cons_append, List.nil_append]

/-- LENGTH: four characters per started group of three bytes -/
theorem b64_encode_length : ∀ bs : List UInt8, (encode bs).length = 4 * ((bs.length + 2) / 3)
  | [] => rfl
  | [_] => by simp [encode]
  | [_, _] => by simp [encode]
  | _ :: _ :: _ :: r => by
    simp only [encode, List.length_cons, b64_encode_length r]
    omega

/-- PADDING ONLY AT THE END: the encoding is a body without any padding character followed by at most one quantum (the only
    place where `=` may occur).  Block-wise encoding with a block size that is not a multiple of three breaks exactly this. -/
theorem b64_padding_only_at_end : ∀ bs : List UInt8,
    ∃ body tail, encode bs = body ++ tail ∧ tail.length ≤ 4 ∧ ∀ c ∈ body, c ≠ pad
  | [] => ⟨[], [], rfl, by simp, by simp⟩
  | [a] => ⟨[], _, rfl, by simp, by simp⟩
  | [a, b] => ⟨[], _, rfl, by simp, by simp⟩
  | a :: b :: c :: r => by
    obtain ⟨body, tail, h1, h2, h3⟩ := b64_padding_only_at_end r
    obtain ⟨⟨s0, s1, s2, s3⟩, _⟩ := sextets a.toNat_lt b.toNat_lt c.toNat_lt
    refine ⟨ch (a.toNat / 4) :: ch (a.toNat % 4 * 16 + b.toNat / 16) :: ch (b.toNat % 16 * 4 + c.toNat / 64)
      :: ch (c.toNat % 64) :: body, tail, by simp only [encode, h1, List.cons_append], h2, ?_⟩
    exact List.forall_mem_cons.mpr ⟨ch_ne_pad ⟨_, s0⟩, List.forall_mem_cons.mpr ⟨ch_ne_pad ⟨_, s1⟩,
      List.forall_mem_cons.mpr ⟨ch_ne_pad ⟨_, s2⟩, List.forall_mem_cons.mpr ⟨ch_ne_pad ⟨_, s3⟩, h3⟩⟩⟩⟩

/-- the same as a statement about positions: no padding character before the last four characters -/
theorem b64_no_padding_before_last_quantum (bs : List UInt8) :
    ∀ c ∈ (encode bs).take ((encode bs).length - 4), c ≠ pad := by
  obtain ⟨body, tail, h1, h2, h3⟩ := b64_padding_only_at_end bs
  intro c hc
  rw [h1] at hc
  have : (body ++ tail).take ((body ++ tail).length - 4) = body.take ((body ++ tail).length - 4) := by
    rw [List.take_append_of_le_length (by simp; omega)]
  rw [this] at hc
  exact h3 c (List.mem_of_mem_take hc)

theorem parse_dataURI (buf : List UInt8) : parseDataURI (dataURI buf) = some buf := by
  unfold parseDataURI dataURI
  rw [if_pos (List.isPrefixOf_iff_prefix.mpr (List.prefix_append _ _)), List.drop_left' rfl]
  exact b64_decode_encode buf

/-- WriteText END TO END (the text analogue of `glb_carries_buffer`).  For every well-formed scene the writer accepts: a
    strict reader of the document's buffer URI gets back exactly the buffer all accessor statements (`valid`,
    `carriesScene`) are about, whose length is the declared `buffers[0].byteLength`; the URI has 37 + 4·⌈n/3⌉ characters and
    padding only in its last quantum. -/
theorem gltf_text_carries_buffer (s : Scene) (w : W) (hs : SceneOK s) (h : writeScene s = .ok w) :
    parseDataURI (dataURI w.buf) = some w.buf
    ∧ (match w.doc.bufLen with
       | some n => n = w.buf.length
       | none => w.buf = [])
    ∧ (dataURI w.buf).length = 37 + 4 * ((w.buf.length + 2) / 3)
    ∧ (∀ c ∈ (encode w.buf).take ((encode w.buf).length - 4), c ≠ pad) := by
  refine ⟨parse_dataURI w.buf, ?_, ?_, b64_no_padding_before_last_quantum w.buf⟩
  · rcases bufLen_cases (scene_inv s w hs h) with ⟨hb, e⟩ | ⟨_, e⟩ <;> rw [e]
    exact hb
  · unfold dataURI
    rw [List.length_append, b64_encode_length, show uriPrefix.length = 37 by decide +kernel]

/-- non-vacuity / known vectors (RFC 4648 §10) -/
example : String.ofList (encode "foobar".toUTF8.toList) = "Zm9vYmFy" ∧ String.ofList (encode "fooba".toUTF8.toList) = "Zm9vYmE="
    ∧ String.ofList (encode "foob".toUTF8.toList) = "Zm9vYg==" ∧ decode "Zm9vYg==Zm9v".toList = none
    ∧ decode "Zm9vYh==".toList = none ∧ decode "Zm9v Zg==".toList = none := by decide +kernel

end C06
end PolyVerif
