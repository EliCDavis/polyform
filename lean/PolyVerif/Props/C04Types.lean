/-
  C04 / C08 / C14 — the PLY scalar type tables of the hand model ARE the tables of the source (engine F tie, regenerated
  on every run).

  `PolyVerif/Gen/PlyTypes.lean` is regenerated from /repo/formats/ply/property.go and reader.go (go/facts mode c04.types):
  the `ScalarPropertyType` constants with their header spellings, the `case … : return N` arms of `Size()`, the alias map
  `scalarPropTypeNameToScalarPropertyType` in source order, and the cleaning chain of `ParseScalarPropertyType`.  Every PLY
  theorem (C04, C08, C14) is stated about `PolyVerif/Model/Ply.lean`; the theorems below prove its `SType.size`,
  `SType.name`, `aliasTable` and the cleaning order of `parseSType` equal to what is regenerated, so a changed byte size,
  a dropped or misdirected alias (`"uint8": Char`) or a changed spelling in the Go source breaks a named theorem before any
  sample runs.  (Core Lean only.)
-/
import PolyVerif.Model.Ply
import PolyVerif.Gen.PlyTypes

namespace PolyVerif
namespace C04
open Ply
open PolyVerif.Gen

/-- the Go constant identifier the model constructor stands for -/
def constOf : SType → String
  | .char => "Char" | .uchar => "UChar" | .short => "Short" | .ushort => "UShort"
  | .int => "Int" | .uint => "UInt" | .float => "Float" | .double => "Double"

def allSTypes : List SType := [.char, .uchar, .short, .ushort, .int, .uint, .float, .double]

theorem allSTypes_complete (t : SType) : t ∈ allSTypes := by cases t <;> simp [allSTypes]

/-- the constants of the source are exactly the model's eight constructors, in order, and `SType.name` is the header
    spelling of each (the constant's string value) -/
theorem stype_names_from_source :
    PlyTypes.constNames.map (·.1) = allSTypes.map constOf ∧
    ∀ t ∈ allSTypes, (PlyTypes.constNames.lookup (constOf t)).map nm = some (SType.name t) := by decide +kernel

/-- `SType.size t` is the `return N` of the `case` arm of `Size()` that lists `t`'s constant; every constant is listed
    in exactly one arm -/
theorem stype_size_from_source :
    ∀ t ∈ allSTypes,
      (PlyTypes.sizeCases.filter (fun c => c.1.contains (constOf t))).map (·.2) = [SType.size t] := by decide +kernel

/-- the model's alias table is `scalarPropTypeNameToScalarPropertyType`, entry for entry in source order -/
theorem aliasTable_from_source :
    aliasTable.map (fun p => (p.1, constOf p.2)) = PlyTypes.aliasMap := by decide +kernel

/-- `parseSType` cleans its argument as `ParseScalarPropertyType` does: `ToLower (TrimSpace s)` -/
theorem parse_cleaning_from_source :
    PlyTypes.parseCleaning = ["strings.ToLower", "strings.TrimSpace"] := by decide +kernel

/-- consequence used by the header theorems: a spelling is accepted exactly when the regenerated map lists it, and then
    denotes the listed constant -/
theorem parseSType_from_source (s : Bytes) (t : SType) :
    parseSType s = .ok t ↔
      ∃ a, (a, constOf t) ∈ PlyTypes.aliasMap ∧ nm a = lower (trimSpace s) ∧
        ∀ b c, PlyTypes.aliasMap.find? (fun p => nm p.1 = lower (trimSpace s)) = some (b, c) → c = constOf t := by
  rw [← aliasTable_from_source]
  unfold parseSType
  constructor
  · intro h
    cases hf : aliasTable.find? (fun p => nm p.1 = lower (trimSpace s)) with
    | none => simp [hf] at h
    | some p =>
      simp only [hf] at h
      have hp : p.2 = t := by cases h; rfl
      have hmem := List.mem_of_find?_eq_some hf
      have hpred := List.find?_some hf
      refine ⟨p.1, ?_, by simpa using hpred, ?_⟩
      · exact List.mem_map.mpr ⟨p, hmem, by simp [hp]⟩
      · intro b c hbc
        rw [List.find?_map] at hbc
        simp only [Function.comp_def, hf, Option.map_some, Option.some.injEq, Prod.mk.injEq] at hbc
        rw [← hbc.2, hp]
  · rintro ⟨a, _, _, huniq⟩
    cases hf : aliasTable.find? (fun p => nm p.1 = lower (trimSpace s)) with
    | none =>
      exfalso
      rename_i hmem hnm
      obtain ⟨p, hp, hpe⟩ := List.mem_map.mp hmem
      have := List.find?_eq_none.mp hf p hp
      simp only [Prod.mk.injEq] at hpe
      simp [hpe.1, hnm] at this
    | some p =>
      have hc := huniq p.1 (constOf p.2) (by
        rw [List.find?_map]
        simp [Function.comp_def, hf])
      have : p.2 = t := by
        revert hc; cases p.2 <;> cases t <;> simp [constOf]
      show (match aliasTable.find? (fun p => nm p.1 = lower (trimSpace s)) with
        | some p => Except.ok p.2 | none => Except.error Err.panic) = Except.ok t
      rw [hf]; simp [this]

example : parseSType (nm " UInt8 ") = .ok .uchar := by rfl
example : (" UInt8 ", "x") ∉ PlyTypes.aliasMap ∧ ("uint8", constOf .uchar) ∈ PlyTypes.aliasMap := by decide +kernel

end C04
end PolyVerif
