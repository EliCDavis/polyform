/-
  C13 — concurrent parameter updates, parameter reads and artifact reads are linearizable.
  Model: PolyVerif/Model/Linz.lean over the node graph of C11
  (PolyVerif/Model/Nodes.lean); lock facts regenerated from /repo/generator/graph/instance.go into
  PolyVerif/Gen/LockFacts.lean on every run.
  The theorems on the locked systems restate, with what they claim of the Go code, lemmas of Lemmas/Linz.lean, where
  the proofs are; the lock-fact predicate, the snapshot theorems and the unlocked counter-example are proved here.
-/
import PolyVerif.Lemmas.Linz
import PolyVerif.Gen.LockFacts

namespace PolyVerif
namespace C13
open Nodes Linz

/-! ### the tie to the source: the three entry points are well locked -/

section WellLocked
open Gen.LockFacts

def isAccess : Ev → Bool
  | .access _ => true
  | _ => false

/-- explicit unlocking: accesses / pure code, then exactly `unlock, ret` (no early return, no second
    lock operation) -/
def explicitBody : List Ev → Bool
  | [] => false
  | e :: es =>
    match e with
    | .unlock => es == [.ret]
    | .access _ => explicitBody es
    | .pure _ => explicitBody es
    | .producersLookup => explicitBody es
    | _ => false

/-- what may follow `.lock`: the deferred unlock immediately, then a body with no further lock
    operation and exactly ONE return, which is its last event; or a body that unlocks explicitly as
    its last act (`explicitBody`: no lock operation and no return before the `unlock`, nothing but
    the single `ret` after it) -/
def afterLock : List Ev → Bool
  | .deferUnlock :: body =>
    match body.reverse with
    | .ret :: mid => mid.all (fun e => e ≠ .lock ∧ e ≠ .unlock ∧ e ≠ .deferUnlock ∧ e ≠ .ret)
    | _ => false
  | rest => explicitBody rest

/-- before `.lock` only the whitelisted producers-map lookup and pure code (panic / fmt.Errorf) -/
def lockedEvs : List Ev → Bool
  | [] => false
  | e :: es =>
    match e with
    | .lock => afterLock es
    | .producersLookup => lockedEvs es
    | .pure _ => lockedEvs es
    | _ => false

/-- the obligation on one function; it must also contain at least one access (else the extractor
    has lost sight of the body) -/
def wellLocked (f : Fn) : Bool := lockedEvs f.evs && f.evs.any isAccess

theorem explicitBody_unlock {es : List Ev} (h : explicitBody es = true) : .unlock ∈ es := by
  induction es with
  | nil => simp [explicitBody] at h
  | cons e es ih =>
    cases e <;> simp only [explicitBody] at h <;> first
      | exact List.mem_cons_self ..
      | exact List.mem_cons_of_mem _ (ih h)
      | cases h

theorem explicitBody_sound {es : List Ev} (h : explicitBody es = true) (l1 l2 : List Ev) (w : String)
    (heq : es = l1 ++ .access w :: l2) : .unlock ∈ l2 := by
  induction es generalizing l1 with
  | nil => simp [explicitBody] at h
  | cons e es ih =>
    cases l1 with
    | nil =>
      simp only [List.nil_append, List.cons.injEq] at heq
      obtain ⟨rfl, rfl⟩ := heq
      simp only [explicitBody] at h
      exact explicitBody_unlock h
    | cons x l1 =>
      simp only [List.cons_append, List.cons.injEq] at heq
      obtain ⟨rfl, heq⟩ := heq
      cases e <;> simp only [explicitBody] at h <;> first
        | exact ih h l1 heq
        | cases h
        | (simp only [beq_iff_eq] at h; subst h; cases l1 <;> simp at heq)

/-- **meaning of the obligation**: in a well-locked body every access to shared state has the
    `Lock()` before it and the `Unlock()` after it — deferred (registered before the access, run
    at return) or explicit (after the access) -/
theorem wellLocked_sound (f : Fn) (h : wellLocked f = true) (l1 l2 : List Ev) (w : String)
    (heq : f.evs = l1 ++ .access w :: l2) :
    .lock ∈ l1 ∧ (.deferUnlock ∈ l1 ∨ .unlock ∈ l2) := by
  simp only [wellLocked, Bool.and_eq_true] at h
  have h1 := h.1
  clear h
  generalize f.evs = es at h1 heq
  induction es generalizing l1 with
  | nil => simp [lockedEvs] at h1
  | cons e es ih =>
    cases l1 with
    | nil =>
      simp only [List.nil_append, List.cons.injEq] at heq
      obtain ⟨rfl, -⟩ := heq
      simp [lockedEvs] at h1
    | cons x l1 =>
      simp only [List.cons_append, List.cons.injEq] at heq
      obtain ⟨rfl, heq⟩ := heq
      cases e with
      | lock =>
        simp only [lockedEvs] at h1
        refine ⟨List.mem_cons_self .., ?_⟩
        cases l1 with
        | nil =>
          simp only [List.nil_append] at heq
          subst heq
          simp only [afterLock] at h1
          exact .inr (explicitBody_sound h1 [] l2 w rfl)
        | cons y l1 =>
          simp only [List.cons_append] at heq
          subst heq
          by_cases hy : y = .deferUnlock
          · subst hy; exact .inl (by simp)
          · have : afterLock (y :: (l1 ++ .access w :: l2)) = explicitBody (y :: (l1 ++ .access w :: l2)) := by
              cases y <;> first | rfl | exact absurd rfl hy
            rw [this] at h1
            exact .inr (explicitBody_sound h1 (y :: l1) l2 w rfl)
      | producersLookup =>
        simp only [lockedEvs] at h1
        have := ih l1 h1 heq
        exact ⟨List.mem_cons_of_mem _ this.1, this.2.imp (List.mem_cons_of_mem _) id⟩
      | pure s =>
        simp only [lockedEvs] at h1
        have := ih l1 h1 heq
        exact ⟨List.mem_cons_of_mem _ this.1, this.2.imp (List.mem_cons_of_mem _) id⟩
      | _ => simp [lockedEvs] at h1

end WellLocked

open Gen.LockFacts in
/-- obligation on the regenerated facts: `UpdateParameter`, `ParameterData`, `Artifact` of the
    current source take `producerLock` before any node-state access and release it (deferred, or
    last) — the program shape the concurrent model `Linz.Step` gives every client -/
theorem lock_facts_well_locked :
    lockFacts.map (·.name) = ["UpdateParameter", "ParameterData", "Artifact"] ∧
    lockFacts.all wellLocked = true := by decide

open Gen.LockFacts in
/-- the predicate is not vacuous: it rejects the event lists the extractor produces for the mutants
    of tools/c13_extractor_selftest.sh that it can extract — no lock (07), access before the lock
    (04, 06), unlock before the access (03) — and shapes a flattening extractor could produce:
    a second return with an access after the first, a second lock, an access after the unlock;
    it accepts the benign explicit unlock (08) -/
example : wellLocked ⟨"07", [.producersLookup, .pure "fmt.Errorf", .pure "panic", .access "producer.Value()", .ret]⟩ = false
    ∧ wellLocked ⟨"04", [.producersLookup, .pure "fmt.Errorf", .pure "panic", .access "producer.Value()", .lock,
                         .deferUnlock, .ret]⟩ = false
    ∧ wellLocked ⟨"06", [.access "i.Parameter(nodeId)", .access "i.Parameter(nodeId).ApplyMessage(data)", .lock,
                         .deferUnlock, .access "i.incModelVersion()", .ret]⟩ = false
    ∧ wellLocked ⟨"03", [.producersLookup, .pure "fmt.Errorf", .pure "panic", .lock, .unlock,
                         .access "producer.Value()", .ret]⟩ = false
    ∧ wellLocked ⟨"b", [.lock, .deferUnlock, .access "producer.Value()", .ret, .access "producer.Value()", .ret]⟩ = false
    ∧ wellLocked ⟨"2xlock", [.lock, .deferUnlock, .lock, .access "producer.Value()", .ret]⟩ = false
    ∧ wellLocked ⟨"after", [.lock, .access "x", .unlock, .access "producer.Value()", .ret]⟩ = false
    ∧ wellLocked ⟨"early", [.lock, .access "x", .ret, .unlock, .ret]⟩ = false
    ∧ wellLocked ⟨"08", [.producersLookup, .pure "fmt.Errorf", .pure "panic", .lock, .access "producer.Value()",
                         .unlock, .ret]⟩ = true := by decide

variable {V : Type} [DecidableEq V] {F : Nat}

/-- in every reachable state of every execution: a client is inside its critical section iff it
    owns the lock; so at most one client is -/
theorem mutex_invariant (g0 : Graph V) (s : Sys V) (h : Exec F g0 s) :
    (∀ t, (s.pc t).inCrit = true ↔ s.lock = some t) ∧
    (∀ t u, (s.pc t).inCrit = true → (s.pc u).inCrit = true → t = u) := by
  have hl := (J.exec h).lockOK
  exact ⟨hl, fun _ _ ht hu => hl.unique ht hu⟩

/-- **every** execution — any number of clients, any interleaving of their steps, any calls — has
    a history that is linearized by the order in which the critical sections ran (`s.lin`):
    that order contains every completed operation with the response it returned (and the pending
    ones that already took effect), respects real-time precedence, and is a run of the sequential
    specification ending in the current shared state -/
theorem linearizable (g0 : Graph V) (s : Sys V) (h : Exec F g0 s) :
    Linearization F g0 s.hist s.lin ∧ s.g = (replay F g0 (s.lin.map (·.call))).1 := by
  have hj := J.exec h
  refine ⟨⟨hj.nodup, hj.invoked, ?_, hj.realtime, hj.legal⟩, hj.state⟩
  intro e he id r heq
  subst heq
  exact hj.complete id r he

theorem linearizable' (g0 : Graph V) (s : Sys V) (h : Exec F g0 s) : Linearizable F g0 s.hist :=
  ⟨s.lin, (linearizable g0 s h).1⟩

/-- **one consistent snapshot** (by `Eval_ok`, the fact behind C11's `read_fresh`): in every linearization of any history
    from a never-evaluated graph, the response of an `Artifact` call is the from-scratch
    evaluation `Spec` of ONE state — the one its linearization point sees, i.e. the state reached
    by the operations linearized before it -/
theorem artifact_snapshot (g0 : Graph V) (h0 : Init F g0) (hist : List (Event V)) (S : List (LOp V))
    (hS : Linearization F g0 hist S) (pre post : List (LOp V)) (o : LOp V) (i : Nat)
    (hsplit : S = pre ++ o :: post) (hcall : o.call = .artifact i) :
    o.resp = .val (Spec F (replay F g0 (pre.map (·.call))).1 i) := by
  subst hsplit
  rw [legal_at hS.legal, hcall]
  exact artifact_spec (replay_inv h0.inv _) i

/-- likewise a `ParameterData` call returns the value its linearization point sees -/
theorem paramData_snapshot (g0 : Graph V) (hist : List (Event V)) (S : List (LOp V))
    (hS : Linearization F g0 hist S) (pre post : List (LOp V)) (o : LOp V) (p : Nat) (x : V) (n : Nat)
    (hp : g0 p = .param x n) (hsplit : S = pre ++ o :: post) (hcall : o.call = .paramData p) :
    o.resp = .val ((lastUpd (pre.map (·.call)) p).getD x) := by
  subst hsplit
  rw [legal_at hS.legal, hcall]
  obtain ⟨n', hn'⟩ := replay_param (F := F) hp (pre.map (·.call))
  simp [seqStep, hn']

/-- **nothing older than a completed update**: an operation `a` whose response precedes the
    invocation of `b` in the history lies in the prefix that `b`'s linearization point sees
    (so by `artifact_snapshot` / `paramData_snapshot` / `snapshot_params` its effect, or that of a
    later update of the same parameter, is what `b` returns) -/
theorem completed_before_is_visible (g0 : Graph V) (hist : List (Event V)) (S : List (LOp V))
    (hS : Linearization F g0 hist S) (pre post : List (LOp V)) (a b : LOp V)
    (ha : a ∈ S) (hsplit : S = pre ++ b :: post)
    (hrt : before hist a.respE b.invE = true) : a ∈ pre := by
  subst hsplit
  exact before_split (nodup_of_map _ hS.nodup) (hS.realtime a ha b (by simp) hrt)

omit [DecidableEq V] in
/-- … and that state's parameter valuation is exactly "initial value, overwritten by the last
    update linearized before": no mixture of two states, and — with the real-time clause of
    `Linearization` — nothing older than an update that completed before the read began -/
theorem snapshot_params (g0 : Graph V) (p : Nat) (x : V) (n : Nat) (hp : g0 p = .param x n)
    (cs : List (Call V)) :
    ∃ n', (replay F g0 cs).1 p = .param ((lastUpd cs p).getD x) n' :=
  replay_param hp cs

omit [DecidableEq V] in
/-- the from-scratch value depends only on parameter values, processors and wiring (not on caches,
    versions or what was evaluated before) -/
theorem spec_depends_on_statics (g g' : Graph V) (hac : Acyclic F g) (hs : SameStatic g' g) (i : Nat) :
    Spec F g' i = Spec F g i := by
  obtain ⟨rank, hwf⟩ := hac
  exact Spec_static hwf hs i

/-- soundness of the executable check the driver runs on the order found by its (untrusted) search -/
theorem witness_check_sound (g0 : Graph V) (h : List (Event V)) (S : List (LOp V))
    (hc : checkWitness F g0 h S = true) : wfHist h = true ∧ Linearizable F g0 h := by
  unfold checkWitness at hc
  simp only [Bool.and_eq_true] at hc
  obtain ⟨⟨⟨⟨⟨h0, h1⟩, h2⟩, h3⟩, h4⟩, h5⟩ := hc
  simp only [decide_eq_true_eq, List.all_eq_true, Bool.or_eq_true, Bool.not_eq_true'] at h1 h2 h3 h4 h5
  refine ⟨h0, S, h1, h2, ?_, ?_, h5⟩
  · intro e he id r heq
    subst heq
    have := h3 _ he
    simp only [List.any_eq_true, decide_eq_true_eq] at this
    exact this
  · intro a ha b hb hbef
    rcases h4 a ha b hb with h | h
    · rw [hbef] at h; cases h
    · exact h

/-! ### without the lock: a two-client schedule that is not linearizable -/

def f1 : List (Option Nat) → List (List Nat) → List (Option Nat) → Nat :=
  fun _ _ vs => vs.foldl (fun a o => a + o.getD 0) 1

def mkN (sc : List (Option Nat)) : SNode Nat :=
  { fn := f1, scalars := sc, arrays := [], cache := 0, version := 0, remembered := none, flag := false }

/-- diamond: 0 = parameter a (value 1); 1 = L(a); 2 = R(a); 3 = producer P(L, R) -/
def dia : Graph Nat := fun i =>
  match i with
  | 0 => .param 1 0
  | 1 => .struct (mkN [some 0])
  | 2 => .struct (mkN [some 0])
  | 3 => .struct (mkN [some 1, some 2])
  | _ => .param 0 0

/-- the struct nodes of the diamond: nothing processed yet, processors that read all their inputs -/
theorem dia_struct {i : Nat} {s : SNode Nat} (hs : dia i = .struct s) :
    s.remembered = none ∧ s.next = fun _ _ es => nextAll es := by
  match i with
  | 0 | n+4 => cases hs
  | 1 | 2 | 3 => cases hs; exact ⟨rfl, rfl⟩

theorem dia_init : Init 4 dia := by
  refine ⟨⟨fun i => if i < 4 then i else 0, ranked_of_check 4 ?_ ?_ (by decide)⟩, fun _ _ hs => (dia_struct hs).1⟩
  · intro i; show (if i < 4 then i else 0) < 4; split <;> omega
  · intro i hi
    match i, hi with
    | n+4, _ => rfl

theorem dia_readsAll : ReadsAll dia :=
  fun _ _ hs => (dia_struct hs).2

/-- the schedule: the reader's `Artifact(P)` pulls L, another client's whole `UpdateParameter(a, 10)`
    runs, the reader pulls R and finishes -/
def badSchedule : List (Micro Nat) := [.pull 1, .update 0 10, .pull 2, .finish]

/-- the artifact value the reader returns under that schedule -/
def mixed : Nat := val (microRun 4 3 (mkN [some 1, some 2]) (dia, []) badSchedule).1 3

/-- the history the two clients observe -/
def badHistory : List (Event Nat) :=
  [.inv 0 0 (.artifact 3), .inv 1 1 (.update 0 10), .resp 1 .ok, .resp 0 (.val mixed)]

/-- the artifact mixes L(a = 1) = 2 with R(a = 10) = 11: 14, while the two sequential answers are 5 and 23 -/
theorem unlocked_mixes_states :
    mixed = 14 ∧
    (replay 4 dia [.artifact 3, .update 0 10]).2 = [.val 5, .ok] ∧
    (replay 4 dia [.update 0 10, .artifact 3]).2 = [.ok, .val 23] := by decide

/-- without the lock around the evaluation, the closed two-client schedule above produces a
    history that NO order of the two operations explains -/
theorem unlocked_not_linearizable : ¬ Linearizable 4 dia badHistory := by
  rintro ⟨S, hS⟩
  -- the reader's operation `o` answers `Artifact(P)` in the state reached by what is linearized before it:
  -- updates of `a` only, and at most one of them
  obtain ⟨o, ho, hid, hr⟩ := hS.complete (.resp 0 (.val mixed)) (by simp [badHistory]) 0 _ rfl
  obtain ⟨pre, post, rfl⟩ := List.append_of_mem ho
  have hcall : ∀ x ∈ pre ++ o :: post, (x.id = 0 ∧ x.call = .artifact 3) ∨ (x.id = 1 ∧ x.call = .update 0 10) := by
    intro x hx
    have := hS.invoked x hx
    simp only [badHistory, LOp.invE, List.mem_cons, Event.inv.injEq, reduceCtorEq, List.not_mem_nil,
      or_false] at this
    exact this.imp (fun h => ⟨h.1, h.2.2⟩) (fun h => ⟨h.1, h.2.2⟩)
  have hnd := hS.nodup
  rw [List.map_append, List.nodup_append] at hnd
  have hpre : ∀ x ∈ pre, x.id = 1 ∧ x.call = .update 0 10 := fun x hx =>
    (hcall x (List.mem_append_left _ hx)).resolve_left fun h =>
      hnd.2.2 _ (List.mem_map_of_mem hx) _ (List.mem_map_of_mem (List.mem_cons_self ..)) (h.1.trans hid.symm)
  have hlegal := legal_at hS.legal
  rw [hr, ((hcall o (by simp)).resolve_right fun h => by omega).2] at hlegal
  match pre, hpre, hnd.1, hlegal with
  | [], _, _, hlegal => exact absurd hlegal (by decide)
  | [x], hpre, _, hlegal =>
    rw [List.map_singleton, (hpre x (List.mem_singleton_self x)).2] at hlegal
    exact absurd hlegal (by decide)
  | x :: y :: _, hpre, hnd, _ =>
    have := (hpre x (by simp)).1
    have := (hpre y (by simp)).1
    simp only [List.map_cons, List.nodup_cons, List.mem_cons, not_or] at hnd
    omega

/-- the same history is what the locked system can never produce: by `linearizable` every history
    of the locked system is linearizable -/
theorem locked_never_bad (s : Sys Nat) (h : Exec 4 dia s) : s.hist ≠ badHistory := by
  intro heq
  exact unlocked_not_linearizable (heq ▸ linearizable' dia s h)

/-! ### the lock makes a many-step critical section atomic -/

/-- **the critical section is atomic**: in every execution of the fine-grained system (any number
    of clients, any interleaving, any micro-steps), whenever a client is inside its critical
    section the shared state is exactly its own micro-steps applied to the state it found when it
    acquired the lock — no step of any other client has intervened; and at most one client is inside -/
theorem critical_section_atomic {σ : Type} (g0 : σ) (s : GSys σ) (h : GExec g0 s) :
    (∀ t start tr, s.pc t = .crit start tr → s.g = tr.foldl (fun a f => f a) start) ∧
    (∀ t u, (s.pc t).isCrit = true → (s.pc u).isCrit = true → t = u) := by
  exact ⟨(ginv g0 s h).atomic, fun _ _ ht hu => (glock h).unique ht hu⟩

/-! ### linearizability of the FINE-GRAINED locked system (critical sections are many steps) -/

omit [DecidableEq V] in
/-- **refinement**: every execution of the fine-grained locked system `FExec` — the lock owner
    performs any number of micro-steps on the shared state between `Lock` and `Unlock`, arbitrarily
    interleaved with the other clients' steps; at `finish` its micro-steps compose to the
    sequential effect of its call — is, through the abstraction `FSys.abs` (a client inside its
    critical section counts as `holding`, the shared state is the one the owner found), an
    execution of the atomic system `Exec`, with the same history and the same critical-section
    order.  The proof uses the lock: mutual exclusion and `atomic` (`FInv`). -/
theorem fine_refines_atomic (g0 : Graph V) (s : FSys V) (h : FExec F g0 s) :
    Exec F g0 s.abs ∧ s.abs.hist = s.hist ∧ s.abs.lin = s.lin :=
  ⟨fine_refines g0 s h, rfl, rfl⟩

/-- hence **every execution of the fine-grained locked system is linearizable**, by the order in
    which the critical sections finished; this theorem depends on the lock (through the refinement) -/
theorem fine_linearizable (g0 : Graph V) (s : FSys V) (h : FExec F g0 s) :
    Linearization F g0 s.hist s.lin :=
  (linearizable g0 s.abs (fine_refines g0 s h)).1

omit [DecidableEq V] in
/-- the micro-steps of `Artifact(i)` of ANY processor (any pull strategy), applied one after the
    other with nothing in between, are exactly the sequential specification's `Eval` -/
theorem artifactTraceS_eval (g : Graph V) (hac : Acyclic F g) (i : Nat) (s : SNode V)
    (hs : g i = .struct s) (ho : Outdated F g i = true) :
    (artifactTraceS F i s (s.next s.scalars s.arrays) s.deps s.deps.length g
        (List.replicate s.deps.length none)).foldl (fun a f => f a) g = (Eval F g i).1 := by
  obtain ⟨rank, hwf⟩ := hac
  have hgen : ∀ (n : Nat) (g1 : Graph V) (es : List (Option V)),
      (artifactTraceS F i s (s.next s.scalars s.arrays) s.deps n g1 es).foldl (fun a f => f a) g1 =
        (pullS (Eval F) (s.next s.scalars s.arrays) s.deps n g1 es).1.set i
          (.struct (s.executed (pullS (Eval F) (s.next s.scalars s.arrays) s.deps n g1 es).1
            (pullS (Eval F) (s.next s.scalars s.arrays) s.deps n g1 es).2.1)) := by
    intro n
    induction n with
    | zero => intro g1 es; simp [artifactTraceS, pullS]
    | succ n ih =>
      intro g1 es
      simp only [artifactTraceS, pullS]
      cases hnx : s.next s.scalars s.arrays es with
      | none => simp
      | some k =>
        dsimp only
        cases hdk : s.deps[k]? with
        | none => simp
        | some d =>
          dsimp only
          simp only [List.foldl_cons]
          rw [ih]
  rw [Eval_eq g hwf, hs]
  simp only [ho, if_true]
  rw [hgen]

omit [DecidableEq V] in
/-- hence, with the lock: a client that performs the micro-steps of `Artifact(i)` inside its
    critical section leaves exactly `seqStep`'s state, whatever the other clients do meanwhile -/
theorem locked_artifact_is_atomic (g0 : Graph V) (sy : GSys (Graph V)) (h : GExec g0 sy) (t : Tid)
    (start : Graph V) (i : Nat) (s : SNode V) (hac : Acyclic F start) (hs : start i = .struct s)
    (ho : Outdated F start i = true)
    (hpc : sy.pc t = .crit start (artifactTraceS F i s (s.next s.scalars s.arrays) s.deps s.deps.length start
      (List.replicate s.deps.length none))) :
    sy.g = (seqStep F start (.artifact i)).1 := by
  rw [(critical_section_atomic g0 sy h).1 t start _ hpc, artifactTraceS_eval start hac i s hs ho]
  rfl

omit [DecidableEq V] in
/-- the side condition of `FStep.finish` ("the owner's micro-steps compose to the sequential effect
    of its call") holds for the program of `Artifact` on an outdated producer, split into its
    `.Value()` pulls and the store — any processor, any pull strategy.  (For `UpdateParameter` /
    `ParameterData` the model's program IS the single step `seqStep` — nothing to prove; in Go
    `UpdateParameter` is several steps under the lock: the `Parameter` map scan, `ApplyMessage`,
    `incModelVersion` — and `FStep.finish` takes the response by definition.) -/
theorem programs_correct (g : Graph V) (hac : Acyclic F g) (i : Nat) (s : SNode V)
    (hs : g i = .struct s) (ho : Outdated F g i = true) :
    (artifactTraceS F i s (s.next s.scalars s.arrays) s.deps s.deps.length g
        (List.replicate s.deps.length none)).foldl (fun a f => f a) g = (seqStep F g (.artifact i)).1 :=
  artifactTraceS_eval g hac i s hs ho

/-- a concrete execution of the fine-grained system with histories: client 0 is in the middle of
    `Artifact(3)` on the diamond (it has pulled L, not yet R) while client 1 invokes an update and
    has to wait; then client 0 finishes — the hypothesis `FExec` of `fine_linearizable` -/
example : ∃ s : FSys Nat, FExec 4 dia s ∧ s.hist = [.inv 0 0 (.artifact 3), .inv 1 1 (.update 0 10)] ∧
    s.lin = [⟨0, 0, .artifact 3, .val 5⟩] ∧ s.lock = none := by
  refine ⟨_, .step (.step (.step (.step (.step (.step (.step .init
    (.invoke _ 0 (.artifact 3) rfl)) (.acquire _ 0 0 (.artifact 3) rfl rfl))
    (.micro _ 0 0 (.artifact 3) dia [] (fun g => (Eval 4 g 1).1) rfl))
    (.invoke _ 1 (.update 0 10) rfl))
    (.micro _ 0 0 (.artifact 3) dia _ (fun g => (Eval 4 g 2).1) rfl))
    (.micro _ 0 0 (.artifact 3) dia _ (fun g => g.set 3 (.struct ((mkN [some 1, some 2]).executed g [some 2, some 2]))) rfl))
    (.finish _ 0 0 (.artifact 3) dia _ rfl ?_), rfl, ?_, rfl⟩
  · exact artifactTraceS_eval (F := 4) dia dia_init.1 3 (mkN [some 1, some 2]) rfl (by decide)
  · decide

/-! ### the critical sections as PROGRAMS of micro-steps; the unlocked model-version read -/

omit [DecidableEq V] in
/-- **the programs of the three entry points are correct** (the `UpdateParameter` /
    `ParameterData` analogue of `programs_correct`, non-trivially): run from the state found at
    `Lock()` with nothing in between, the micro-steps of a call — `UpdateParameter`: parameter
    lookup, `version++`, value write, result, `incModelVersion()` (the latter also after a rejected
    message); `ParameterData`: lookup, value read; `Artifact`: outdated check, one `.Value()` pull
    per dependency slot as the producer's strategy says, store, cache read — leave exactly the
    graph of the atomic step `seqStep`, bump the model version as the code does, and the response
    assembled from what the steps READ is the atomic response -/
theorem programs_correct_all (g : Graph V) (hac : Acyclic F g) (mv : Nat) (c : Call V) :
    (runProg F (progOf g c) ((g, mv), {})).1.1 = (seqStep F g c).1 ∧
    (runProg F (progOf g c) ((g, mv), {})).1.2 = mv + bump g c ∧
    (runProg F (progOf g c) ((g, mv), {})).2.out = (seqStep F g c).2 :=
  prog_correct F g hac mv c

/-- **refinement of the program system**: every execution of `PExec` — each client takes the lock
    where the lock facts say, executes the micro-steps of its call one at a time on the CURRENT
    shared state, arbitrarily interleaved with the other clients' steps and with unlocked
    `ModelVersion()` reads, responds with what its steps assembled, and releases the lock — is,
    through `PSys.abs`, an execution of the atomic system with the same history and the same
    critical-section order (no side condition on the micro-steps: it is `programs_correct_all`
    plus the invariant that nobody else touches the shared state while the lock is held) -/
theorem prog_refines_atomic (g0 : Graph V) (h0 : Init F g0) (s : PSys V) (h : PExec F g0 s) :
    Exec F g0 s.abs ∧ s.abs.hist = s.hist ∧ s.abs.lin = s.lin :=
  ⟨prog_refines g0 h0 s h, rfl, rfl⟩

/-- hence every execution of the program system is linearizable -/
theorem prog_linearizable (g0 : Graph V) (h0 : Init F g0) (s : PSys V) (h : PExec F g0 s) :
    Linearization F g0 s.hist s.lin :=
  (linearizable g0 s.abs (prog_refines g0 h0 s h)).1

omit [DecidableEq V] in
/-- **the unlocked read of the model version is regular**: a `ModelVersion()` call made WITHOUT the
    lock (hub goroutine, `/started`; an atomic load, fix 899edf1) returns a value between the
    counter at the moment of the call and the counter at the moment of the return — never a value
    the counter did not have, never one older than the call; and the counter only grows -/
theorem model_version_regular (g0 : Graph V) (s : PSys V) (h : PExec F g0 s) :
    (∀ o ∈ s.obs, o.1 ≤ o.2.1 ∧ o.2.1 ≤ o.2.2) ∧
    (∀ t mv0 v, s.pc t = .mvGot mv0 v → mv0 ≤ v ∧ v ≤ s.mv) ∧
    (∀ t mv0, s.pc t = .mvWait mv0 → mv0 ≤ s.mv) :=
  ⟨(pinv g0 s h).obs, (pinv g0 s h).got, (pinv g0 s h).wait⟩

/-- **the model version counts the parameter messages**: outside critical sections the counter is
    the number of `UpdateParameter` calls on parameters — accepted AND rejected messages, as the
    code does — among the critical sections that have run (taken along the sequential run of
    `s.lin`); a client inside its critical section found exactly that number at `Lock()` -/
theorem model_version_counts_updates (g0 : Graph V) (h0 : Init F g0) (s : PSys V) (h : PExec F g0 s) :
    (s.lock = none → s.mv = bumpsAlong F g0 (s.lin.map (·.call))) ∧
    (∀ t id c start mv0 loc todo, s.pc t = .crit id c start mv0 loc todo →
      mv0 = bumpsAlong F g0 (s.lin.map (·.call))) :=
  model_version_counts g0 h0 s h

/-- a concrete execution of the program system on the diamond: client 0 is inside `Artifact(3)`
    (outdated check and the pull of L done), client 2 reads the model version without the lock,
    client 1 has invoked an update and waits -/
example : ∃ s : PSys Nat, PExec 4 dia s ∧ (s.pc 0).isCrit = true ∧ s.obs = [(0, 0, 0)] ∧
    s.hist = [.inv 0 0 (.artifact 3), .inv 1 1 (.update 0 10)] := by
  refine ⟨_, .step (.step (.step (.step (.step (.step (.step (.step .init
    (.invoke _ 0 (.artifact 3) rfl)) (.acquire _ 0 0 (.artifact 3) rfl rfl))
    (.micro _ 0 0 (.artifact 3) _ _ _ _ _ rfl)) (.mvCall _ 2 rfl))
    (.micro _ 0 0 (.artifact 3) _ _ _ _ _ rfl)) (.invoke _ 1 (.update 0 10) rfl))
    (.mvLoad _ 2 0 rfl)) (.mvReturn _ 2 0 0 rfl), rfl, rfl, rfl⟩

/-- a concrete execution of the fine-grained system with two clients: client 0 is inside its
    critical section (two micro-steps done) while client 1 is waiting for the lock -/
example : ∃ s : GSys Nat, GExec 0 s ∧ s.g = 12 ∧ (s.pc 0).isCrit = true ∧ (s.pc 1).isCrit = false := by
  refine ⟨_, .step (.step (.step (.step (.step .init (.request _ 0 rfl)) (.request _ 1 rfl))
    (.acquire _ 0 rfl rfl)) (.micro _ 0 0 [] (· + 5) rfl)) (.micro _ 0 0 [(· + 5)] (· + 7) rfl), rfl, rfl, rfl⟩

/-! ### non-vacuity: a concrete interleaved execution of the locked system -/

/-- a concrete interleaved execution of the locked system (hypothesis `Exec` of `linearizable`):
    client 0 invokes `Artifact(3)`, client 1 invokes and completes `UpdateParameter(0, 10)` first,
    then client 0 runs; the recorded history overlaps and the artifact is the post-update value -/
example : ∃ s : Sys Nat, Exec 4 dia s ∧
    s.hist = [.inv 0 0 (.artifact 3), .inv 1 1 (.update 0 10), .resp 1 .ok, .resp 0 (.val 23)] ∧
    s.lin.map (·.id) = [1, 0] ∧ s.lock = none := by
  refine ⟨_, .step (.step (.step (.step (.step (.step (.step (.step (.step (.step .init
    (.invoke _ 0 (.artifact 3) rfl)) (.invoke _ 1 (.update 0 10) rfl))
    (.acquire _ 1 1 (.update 0 10) rfl rfl)) (.exec _ 1 1 (.update 0 10) rfl))
    (.release _ 1 1 (.update 0 10) .ok rfl)) (.respond _ 1 1 (.update 0 10) .ok rfl))
    (.acquire _ 0 0 (.artifact 3) rfl rfl)) (.exec _ 0 0 (.artifact 3) rfl))
    (.release _ 0 0 (.artifact 3) (.val 23) rfl)) (.respond _ 0 0 (.artifact 3) (.val 23) rfl), ?_, ?_, ?_⟩
  · decide
  · rfl
  · rfl

/-- the sequential witness `[update, artifact]` passes the executable check for the overlapping
    history in which the update's response precedes the artifact's -/
example : checkWitness 4 dia
    [.inv 0 0 (.artifact 3), .inv 1 1 (.update 0 10), .resp 1 .ok, .resp 0 (.val 23)]
    [⟨1, 1, .update 0 10, .ok⟩, ⟨0, 0, .artifact 3, .val 23⟩] = true := by decide

/-- and rejects the order that violates real time in a non-overlapping history -/
example : checkWitness 4 dia
    [.inv 1 1 (.update 0 10), .resp 1 .ok, .inv 0 0 (.artifact 3), .resp 0 (.val 5)]
    [⟨0, 0, .artifact 3, .val 5⟩, ⟨1, 1, .update 0 10, .ok⟩] = false := by decide

end C13
end PolyVerif
