/-
  C04 — "the header always describes the body that follows", ASCII encoding, as a theorem of its own
  (the binary clause is `ply_header_describes_body_binary`).
-/
import PolyVerif.Lemmas.PlyAscii
import PolyVerif.Lemmas.PlyAsciiDescribes
import PolyVerif.Props.C04Header
import PolyVerif.Props.C04Ascii

namespace PolyVerif
namespace C04
open Ply PlyLemmas PlyHeader PlyCompose PlyAscii

variable {α : Type}

/-- without faces the token count of a face line is irrelevant -/
theorem asciiBodyDescribed_nf0 (body : Bytes) (p nv ft ft' : Nat) (h : asciiBodyDescribed body p nv 0 ft = true) :
    asciiBodyDescribed body p nv 0 ft' = true := by
  simp only [asciiBodyDescribed, Bool.and_eq_true, decide_eq_true_eq, List.all_eq_true] at h ⊢
  obtain ⟨⟨h1, h2⟩, _⟩ := h
  refine ⟨⟨h1, h2⟩, ?_⟩
  intro l hl
  rw [List.drop_eq_nil_of_le (by omega)] at hl
  simp at hl

/-- THE HEADER DESCRIBES THE BODY (ASCII), parsed-header form: what `MeshWriter.Write` prints after the header is exactly
`attrLen` vertex lines — none if the vertex element lists no property — each holding one white-space-free token per
property the header lists, then exactly `triCount` face lines of `1 + 3` tokens (`+ 1 + 6` with per-corner texture
coordinates).  Uses only the token part of the law bundle (`AppendFloat` / `AppendInt` print single words); the bound
`hsize` is not used (`PlyAscii.header_describes_ascii` has no such hypothesis). -/
theorem ply_header_describes_body_ascii (c : Coding α) (L : GoFloatText c) (cfg : WriterCfg) (m : MeshVal α)
    (body : Bytes) (hf : cfg.format = .ascii) (hwf : m.WF = true) (h : writeBody c cfg m = .ok body)
    (hsize : m.attrLen ≤ 2 ^ 31) :
    asciiBodyDescribed body (writerTypes (selectWriters cfg m)).length m.attrLen
      (if m.topo = .triangle then triCount m else 0) (if hasTexCoord m then 11 else 4) = true :=
  header_describes_ascii c L cfg m body hf hwf h

/-- the header describes the body, ASCII, from file bytes: `HeaderDescribes` — the predicate the oracle `c04.holds.header_describes` evaluates on every
written file — holds for the ASCII file `MeshWriter.Write` produces: the header parses, declares `attrLen` vertices and
`triCount` faces, and the body has the line / token structure the declared elements and properties describe -/
theorem ply_header_describes_ascii_bytes (c : Coding α) (L : GoFloatText c) (cfg : WriterCfg) (m : MeshVal α)
    (bytes : Bytes) (hf : cfg.format = .ascii) (hwf : m.WF = true) (h : writeMesh c cfg m = .ok bytes)
    (hsize : m.attrLen ≤ 2 ^ 31) (hidx : m.indices.length < 2 ^ 63)
    (huri : ∀ u, m.texURI = some u → CommentOK (nm "TextureFile " ++ u)) :
    HeaderDescribes bytes m.attrLen (if m.topo = .triangle then triCount m else 0) (decide (m.topo = .triangle)) = true := by
  obtain ⟨body, hbody, _, hparse⟩ := ply_written_header_parses c cfg m bytes h huri
    (Nat.lt_of_le_of_lt hsize (by decide +kernel)) hidx
  have hd := header_describes_ascii c L cfg m body hf hwf hbody
  have hfmt : (writeHeader cfg m).format = .ascii := hf
  have hpl : (headerProps (selectWriters cfg m)).length = (writerTypes (selectWriters cfg m)).length := by
    rw [← headerProps_types]; simp
  simp only [HeaderDescribes, hparse, findElement_vertex, scalarProps_headerProps, findElement_face, hfmt, hpl]
  by_cases ht : m.topo = .triangle
  · simp only [ht, if_true] at hd ⊢
    have hft : faceToksTri (wlp (hasTexCoord m)) = if hasTexCoord m then 11 else 4 := by
      cases hasTexCoord m <;> rfl
    simp [listProps_faceProps, hft, hd]
  · simp only [ht, if_false] at hd ⊢
    have hd0 := asciiBodyDescribed_nf0 body _ _ _ 0 hd
    simp [hd0]

/-- non-vacuity: the ASCII file of the coloured welded mesh of `C04Compose` (default writer), every hypothesis discharged -/
example : HeaderDescribes ((writeMesh toyCodingA (defaultWriter .ascii) exMesh).toOption.getD []) exMesh.attrLen
    (if exMesh.topo = .triangle then triCount exMesh else 0) (decide (exMesh.topo = .triangle)) = true :=
  ply_header_describes_ascii_bytes toyCodingA toyLaw (defaultWriter .ascii) exMesh _ rfl exMesh_wf exMesh_bytesA
    (by decide +kernel) (by decide +kernel) (fun _ hu => nomatch hu)

end C04
end PolyVerif
