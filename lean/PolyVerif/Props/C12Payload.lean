/-
  C12 — the per-type parameter payload law `fromJ (toJ v) = v` (hypothesis `EnvOK.law` of `decode_encode`), proved
  for the concrete JSON texts of the parameter.Value[T] types (`PolyVerif.Model.Payload`): unconditionally for int,
  bool, string (encoding/json escaping included) and vectors of those; for the float-carrying types
  (float64, Vector2, Vector3, []Vector3, AABB) from ONE named trusted law, `GoFloat`: strconv's shortest float
  formatting is read back exactly by ParseFloat and a printed number is self-delimiting.
  The combinator lemmas live in `PolyVerif.Lemmas.Payload`.
-/
import PolyVerif.Model.Payload
import PolyVerif.Lemmas.Payload

namespace PolyVerif
namespace C12
open GraphIO Payload

variable {F : Type}

/-- THE ONE TRUSTED LAW: the codec of float64 — `strconv.AppendFloat(…, 'g'/'e' shortest, 64)` as encoding/json uses
    it, and `strconv.ParseFloat` — round-trips (`parse (print x ++ rest) = (x, rest)` before any `,` `]` `}` or the end)
    and a printed number does not start with `]`.  Not proved (IEEE shortest-digit generation). -/
def GoFloat (fc : Codec F) : Prop := fc.Lawful

/-- int, whatever the float codec is: json.Unmarshal(json.Marshal(i)) = i for every integer -/
theorem int_payload_law (fc : Codec F) (i : Int) : fromJ fc .int (toJ fc (.int i)) = some (.int i) := by
  simp [fromJ, toJ, whole_law intC_lawful]

/-- bool, whatever the float codec is -/
theorem bool_payload_law (fc : Codec F) (b : Bool) : fromJ fc .bool (toJ fc (.bool b)) = some (.bool b) := by
  simp [fromJ, toJ, whole_law boolC_lawful]

/-- string: every list of characters, through encoding/json's escaping (`\"` `\\` `\n` `\r` `\t` `\b` `\f`, `\u00XX` for the other
    control characters, `<` `>` `&` ` ` ` `) and back; WebColor payloads are such strings -/
theorem string_payload_law (fc : Codec F) (s : Txt) :
    fromJ fc .str (toJ fc (.str s)) = some (.str s) ∧ fromJ fc .color (toJ fc (.color s)) = some (.color s) := by
  simp [fromJ, toJ, whole_law strC_lawful]

/-- vectors (JSON arrays, nil slices, nested arrays) of int / bool / string round-trip, with no float assumption -/
theorem vector_payload_laws :
    (arrC intC).Lawful ∧ (arrC boolC).Lawful ∧ (arrC strC).Lawful ∧ (sliceC intC).Lawful ∧ (sliceC strC).Lawful ∧
    (arrC (arrC intC)).Lawful ∧ (obj3 "x" "y" "z" intC intC intC).Lawful :=
  ⟨arrC_lawful intC_lawful, arrC_lawful boolC_lawful, arrC_lawful strC_lawful, sliceC_lawful intC_lawful,
   sliceC_lawful strC_lawful, arrC_lawful (arrC_lawful intC_lawful), obj3_lawful _ _ _ intC_lawful intC_lawful intC_lawful⟩

/-- all nine parameter types, from `GoFloat` alone: a payload of type `t` is read back from its own JSON text -/
theorem payload_roundtrip {fc : Codec F} (hf : GoFloat fc) {t : PTy} {v : PV F} (ht : HasTy t v) :
    fromJ fc t (toJ fc v) = some v := by
  have h3 : (v3C fc).Lawful := obj3_lawful _ _ _ hf hf hf
  have h2 : (v2C fc).Lawful := obj2_lawful "x" "y" hf hf
  have hb : (aabbC fc).Lawful := obj2_lawful "center" "extents" h3 h3
  cases t <;> cases v <;> simp only [HasTy] at ht <;> simp only [fromJ, toJ]
  · rw [whole_law hf]; rfl
  · rw [whole_law intC_lawful]; rfl
  · rw [whole_law strC_lawful]; rfl
  · rw [whole_law boolC_lawful]; rfl
  · rw [whole_law h2]; rfl
  · rw [whole_law h3]; rfl
  · rw [whole_law (sliceC_lawful h3)]; rfl
  · rw [whole_law hb]; rfl
  · rw [whole_law strC_lawful]; rfl

theorem fromJ_hasTy_aux {fc : Codec F} {t : PTy} {j : Txt} {v : PV F} (h : fromJ fc t j = some v) : HasTy t v := by
  cases t <;> simp only [fromJ, Option.map_eq_some_iff] at h <;> obtain ⟨_, _, rfl⟩ := h <;> trivial

/-- the form `EnvOK.law` has: what was read once is read back from its own text -/
theorem payload_law {fc : Codec F} (hf : GoFloat fc) {t : PTy} {j : Txt} {v : PV F} (h : fromJ fc t j = some v) :
    fromJ fc t (toJ fc v) = some v :=
  payload_roundtrip hf (fromJ_hasTy_aux h)

/-- so `EnvOK.law` and `EnvOK.dfltLaw` hold for every environment whose codec is this one (`kind` says which of the
    nine payload types a registered node type carries) and whose factory defaults are well-typed -/
theorem envOK_law_of_payload {fc : Codec F} (hf : GoFloat fc) (E : Env (PV F) Txt) (kind : TyName → Option PTy)
    (hto : E.toJ = toJ fc) (hfrom : ∀ ty j, E.fromJ ty j = (kind ty).bind (fun t => fromJ fc t j))
    (hd : ∀ ty v, E.dflt ty = some v → ∃ t, kind ty = some t ∧ HasTy t v) :
    (∀ ty j v, E.fromJ ty j = some v → E.fromJ ty (E.toJ v) = some v) ∧
    (∀ ty v, E.dflt ty = some v → E.fromJ ty (E.toJ v) = some v) := by
  refine ⟨?_, ?_⟩
  · intro ty j v h
    rw [hfrom] at h ⊢
    cases hk : kind ty with
    | none => simp [hk] at h
    | some t =>
      simp only [hk, Option.bind_some] at h ⊢
      rw [hto]
      exact payload_law hf h
  · intro ty v h
    obtain ⟨t, hk, ht⟩ := hd ty v h
    rw [hfrom, hk, hto]
    exact payload_roundtrip hf ht

/-- `GoFloat` is satisfiable (by the integer codec, say), so the conditional theorems are not vacuous -/
example : GoFloat intC := intC_lawful

example : toJ intC (.v3arr (some [(1, -2, 30), (0, 0, 7)])) = "[{\"x\":1,\"y\":-2,\"z\":30},{\"x\":0,\"y\":0,\"z\":7}]".toList ∧
    toJ intC (.aabb ((1, 2, 3), (4, 5, 6))) = "{\"center\":{\"x\":1,\"y\":2,\"z\":3},\"extents\":{\"x\":4,\"y\":5,\"z\":6}}".toList ∧
    toJ intC (.str "a\"\\\n<é".toList) = "\"a\\\"\\\\\\n\\u003cé\"".toList ∧
    toJ intC (.v3arr none) = "null".toList := ⟨rfl, rfl, rfl, rfl⟩

end C12
end PolyVerif
