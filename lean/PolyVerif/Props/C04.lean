/-
  C04 — PLY write/read round trip, three encodings; the header describes the body.

  Theorems about `PolyVerif.Model.Ply` (hand model of /repo/formats/ply, tied to the code byte-for-byte by the
  `c04` stream on every run).  Scalar coding is the parameter bundle `Coding α`; every theorem holds for EVERY
  coding (no law of the bundle is needed for the statements below: they are phrased with `quantBin`, the
  decode∘encode image of the stored type).

  Proved here: wire layer per field in both byte orders, for ANY header layout (offset lemma); header ↔ body
  agreement (counts, schema, byte sizes); the record-layer statement for scalar properties in any header order;
  the known-finding counterexample (8-bit scalar property: binary normalises, ASCII does not).
  NOT proved (kept as `def … : Prop`, listed as residue): the composed whole-file round trip WITHOUT guards
  (`ply_roundtrip_full`, `ply_encodings_agree_full`); the guarded ones are in C04Compose / C04Header / C04Claim / C04Ascii.
-/
import PolyVerif.Model.Ply
import PolyVerif.Lemmas.Ply

namespace PolyVerif
namespace C04
open Ply PlyLemmas

variable {α : Type}

/-- A small well-formed mesh for the examples.  NOTE: `Coding α` carries NO laws; every general theorem below holds for an arbitrary
coding (even `f32 := fun _ => 0`) and speaks about `quantBin` = decode∘encode of THAT coding.  Precision content enters
only through `CodingLaws` (end of file).  The concrete `PlyLemmas.toyCoding` (over `Nat`) instantiates hypotheses in examples. -/
def toyMesh : MeshVal Nat :=
  ⟨.triangle, [0, 1, 2], [⟨3, positionAttr, [[1, 2, 3], [4, 5, 6], [7, 8, 9]]⟩, ⟨2, texCoordAttr, [[1, 2], [3, 4], [5, 6]]⟩], none⟩

/-! ### wire layer: fixed-width fields, real endianness

`ply_put_get_32/64`, `ply_wire_roundtrip_field` are helpers (subsumed by `ply_wire_roundtrip_record`). -/

/-- a 32-bit field written in either byte order is read back unchanged, whatever follows it -/
theorem ply_put_get_32 (e : Endian) (w : UInt32) (rest : Bytes) : get32 e (put32 e w ++ rest) = some w :=
  put32_get32 e w rest

theorem ply_put_get_64 (e : Endian) (w : UInt64) (rest : Bytes) : get64 e (put64 e w ++ rest) = some w :=
  put64_get64 e w rest

example : get32 .be (put32 .be 0x01020304 ++ [9]) = some 0x01020304 := ply_put_get_32 _ _ _
example : put32 .le 0x01020304 = [4, 3, 2, 1] ∧ put32 .be 0x01020304 = [1, 2, 3, 4] := by decide +kernel

/-- `ply_wire_roundtrip`, one field: a scalar of any implemented type written at any position of a binary body
decodes to the stored-precision image of the value, in both byte orders. -/
theorem ply_wire_roundtrip_field (c : Coding α) (e : Endian) (dim : Nat) (t : SType) (v : α) (bs pre post : Bytes)
    (h : encScalarBin c e t v = .ok bs) :
    decScalarBin c e dim t (pre ++ bs ++ post) pre.length = .ok (quantBin c dim t v) :=
  dec_enc_scalar c e dim t v bs pre post h

example : encScalarBin toyCoding .be .float 258 = .ok [0, 0, 1, 2] := by decide +kernel

/-- `ply_wire_roundtrip`, one vertex record, ANY header layout: decoding at the byte offset computed from header
order (the sum of the sizes of the properties before it) yields the stored-precision image of the `i`-th value. -/
theorem ply_wire_roundtrip_record (c : Coding α) (e : Endian) (dim : Nat)
    (tys : List SType) (vals : List α) (rec pre post : Bytes) (i : Nat) (hi : i < tys.length)
    (hv : vals.length = tys.length) (henc : encRecordBin c e tys vals = .ok rec) :
    decScalarBin c e dim tys[i] (pre ++ rec ++ post) (pre.length + offsetOf tys i)
      = .ok (quantBin c dim tys[i] (vals[i]'(by omega))) :=
  field_at_offset c e dim tys vals rec pre post i hi hv henc

/-- the hypotheses are satisfiable: a record with a uchar, a float and a double field (guard `vals.length = tys.length`:
`encRecordBin` zips, so a shorter value list would silently truncate — well-formed meshes give equal lengths,
`vertexRecord_length`) -/
example : encRecordBin toyCoding .le [.uchar, .float, .double] [7, 258, 3] = .ok [7, 2, 1, 0, 0, 3, 0, 0, 0, 0, 0, 0, 0] := by decide +kernel
example : decScalarBin toyCoding .le 1 .float ([7, 2, 1, 0, 0, 3, 0, 0, 0, 0, 0, 0, 0] : Bytes) (offsetOf [.uchar, .float, .double] 1)
    = .ok 258 := by decide +kernel

/-! ### the header describes the body -/

/-- WHAT `writeBody` EMITS (binary encodings): for every well-formed mesh and every writer configuration the body is
exactly one record of Σ size(header property types) bytes per vertex followed, for triangle meshes, by one record of
13 (+ 25 with per-corner texture coordinates) bytes per triangle. -/
theorem ply_body_length_binary (c : Coding α) (cfg : WriterCfg) (m : MeshVal α) (body : Bytes)
    (hf : cfg.format ≠ .ascii) (hwf : m.WF = true) (h : writeBody c cfg m = .ok body) :
    body.length = m.attrLen * ((writerTypes (selectWriters cfg m)).map SType.size).sum
      + (if m.topo = .triangle then triCount m * (13 + (if hasTexCoord m then 25 else 0)) else 0) := by
  simpa [faceSize] using writeBody_binary_length c cfg m body hf hwf h

/-- THE HEADER DESCRIBES THE BODY THAT FOLLOWS (binary encodings): what the header `MeshWriter.Write` emits declares —
element counts × (sum of the sizes of the declared property types; for faces: count field + 3 indices, + count field +
6 texture coordinates) — is exactly the length of the body `MeshWriter.Write` then writes. -/
theorem ply_header_describes_body_binary (c : Coding α) (cfg : WriterCfg) (m : MeshVal α) (body : Bytes)
    (hf : cfg.format ≠ .ascii) (hwf : m.WF = true) (h : writeBody c cfg m = .ok body) :
    describedSize (writeHeader cfg m) = some body.length := by
  have hlen := writeBody_binary_length c cfg m body hf hwf h
  obtain ⟨ps, hps, hty⟩ := scalarProps_writers (selectWriters cfg m)
  have hsum : (ps.map (fun p => p.2.size)).sum = ((writerTypes (selectWriters cfg m)).map SType.size).sum := by
    rw [← hty]; simp [Function.comp_def]
  by_cases htri : m.topo = .triangle
  · obtain ⟨lp, hlp, hfs⟩ := faceSizeTri_faceProps m
    simp [describedSize, writeHeader, htri, hps, hlp, hlen, hsum, hfs, bind, Option.bind]
  · simp [describedSize, writeHeader, htri, hps, hlen, hsum]

example : toyMesh.WF = true := by decide +kernel
example : ∃ body, writeBody toyCoding (defaultWriter .be) toyMesh = .ok body ∧ body.length = 3 * 12 + 1 * 38 :=
  ⟨_, rfl, by decide +kernel⟩

/-! The next two are HELPERS: they only unfold `writeHeader` (shape of the header value) and relate two model
functions; the clause itself is `ply_body_length_binary` / `ply_header_describes_body_binary`. -/

/-- element counts: the vertex element declares `AttributeLength()` records, the face element (triangle meshes
only) `len(indices)/3`; the property list of the vertex element is the concatenation of the properties of exactly
the writers that emit the body, each with the writer's type. -/
theorem ply_header_shape (cfg : WriterCfg) (m : MeshVal α) :
    (writeHeader cfg m).format = cfg.format ∧
    (writeHeader cfg m).elements.head? =
      some ⟨nm "vertex", m.attrLen, ((selectWriters cfg m).map WProp.props).flatten⟩ ∧
    (m.topo = .triangle → (writeHeader cfg m).elements.tail = [⟨nm "face", triCount m, faceProps m⟩]) ∧
    (m.topo ≠ .triangle → (writeHeader cfg m).elements.tail = []) := by
  refine ⟨rfl, by simp [writeHeader], ?_, ?_⟩ <;> intro h <;> simp [writeHeader, h]

/-- schema: the types used to encode a vertex record are, position by position, the types of the header's
vertex properties -/
theorem ply_header_schema (ws : List WProp) :
    ((ws.map WProp.props).flatten).map (fun p => match p with | .scalar _ t => some t | .list _ _ _ => none)
      = (writerTypes ws).map some := by
  induction ws with
  | nil => simp [writerTypes]
  | cons w ws ih =>
    simp only [writerTypes, List.map_cons, List.flatten_cons, List.map_append] at ih ⊢
    rw [ih]
    simp [WProp.props, Function.comp_def]

/-- byte sizes: every binary vertex record occupies exactly the sum of the sizes of the header's property types -/
theorem ply_header_describes_body_record_size (c : Coding α) (e : Endian) (tys : List SType) (vals : List α) (rec : Bytes)
    (hv : vals.length = tys.length) (h : encRecordBin c e tys vals = .ok rec) :
    rec.length = (tys.map SType.size).sum :=
  encRecordBin_length c e tys vals rec hv h

/-- byte sizes: a binary face record is count byte + 3 int32 (+ count byte + 4 bytes per texture coordinate) -/
theorem ply_header_describes_body_face_size (c : Coding α) (e : Endian) (f : WFace α) :
    (encFaceBin c e f).length = 13 + (match f.uv with | none => 0 | some uv => 1 + 4 * uv.length) :=
  encFaceBin_length c e f

/-! ### record layer: scalar (float1) properties, any header order -/

/-- A scalar property reader built from the header finds its property wherever it sits, and decodes from the
written record the stored-precision image of exactly that property's value (binary, both byte orders). -/
theorem ply_record_roundtrip_scalar (c : Coding α) (e : Endian) (attr name : Bytes)
    (props : List (Bytes × SType)) (vals : List α) (rec post : Bytes) (i : Nat) (hi : i < props.length)
    (hname : props[i].1 = name) (hfirst : ∀ j (hj : j < i), (props[j]'(by omega)).1 ≠ name)
    (hv : vals.length = props.length) (henc : encRecordBin c e (props.map (·.2)) vals = .ok rec) :
    ∃ b, buildV1 true props attr name = some b ∧
      b.readBin c e (rec ++ post) = .ok [quantBin c 1 props[i].2 (vals[i]'(by omega))] := by
  refine ⟨_, buildV1_spec true attr name props i hi hname hfirst, ?_⟩
  have h := field_at_offset c e 1 (props.map (·.2)) vals rec [] post i (by simpa using hi) (by simpa using hv) henc
  simp only [List.nil_append, List.length_nil, Nat.zero_add, List.getElem_map] at h
  simp [Built.readBin, locOf_binary, h, pure, Except.pure, bind, Except.bind]

/-- instance: header `y double, q uchar, x float`, record (3, 7, 258): the reader for `x` sits at offset 9 and reads 258 -/
example : ∃ b, buildV1 true [(nm "y", .double), (nm "q", .uchar), (nm "x", .float)] (nm "x") (nm "x") = some b ∧
    b.readBin toyCoding .le [3, 0, 0, 0, 0, 0, 0, 0, 7, 2, 1, 0, 0] = .ok [258] := ⟨_, rfl, by decide +kernel⟩

example : ∃ b, buildV1 true [(nm "y", .double), (nm "q", .uchar), (nm "x", .float)] (nm "x") (nm "x") = some b ∧ b.offs = [9] :=
  ⟨_, buildV1_spec true _ _ _ 2 (by decide +kernel) (by decide +kernel) (by decide +kernel), by decide +kernel⟩

/-! ### record layer: vector properties (x y z, colours, …), any header order -/

/-- THE VECTOR CLAIM SCAN, any order of the header's properties: when component `k` of a 2/3/4-vector reader is the
header property at position `idx[k]` and all components have one scalar type, the reader is built with that type and
the location of component `k` is the sum of the strides of the properties before position `idx[k]` in HEADER order
(binary: byte offsets; ASCII: columns).  (Guard: one type per group — with mixed types the reader is NOT built, see C08
`ply_mixed_type_group_not_claimed`.) -/
theorem ply_vector_reader_offsets (binary : Bool) (props : List (Bytes × SType)) (attr : Bytes) (names : List Bytes)
    (hn : names.Nodup) (hne : names ≠ []) (hnd : (props.map (·.1)).Nodup) (t : SType) (idx : List Nat)
    (hlen : idx.length = names.length)
    (hidx : ∀ k (hk : k < names.length), ∃ hi : idx[k]'(by omega) < props.length, props[idx[k]'(by omega)] = (names[k], t)) :
    buildVec binary props attr names = some ⟨attr, names, idx.map (locOf binary props), some t⟩ :=
  buildVec_spec binary props attr names hn hne hnd t idx hlen hidx

example : buildVec true [(nm "z", .float), (nm "q", .uchar), (nm "x", .float), (nm "y", .float)] positionAttr
    [nm "x", nm "y", nm "z"] = some ⟨positionAttr, [nm "x", nm "y", nm "z"], [5, 9, 0], some .float⟩ := by decide +kernel

/-! ### known finding: 8-bit scalar properties (reader_vector1.go:38-57) -/

/-- ASCII: the scalar reader's type is never assigned, so the parsed token is stored as is … -/
theorem ply_ascii_scalar_reads_raw (c : Coding α) (attr name : Bytes) (props : List (Bytes × SType)) (b : Built)
    (toks : List Bytes) (hb : buildV1 false props attr name = some b) :
    b.readAscii c toks = b.offs.mapM (fun o => match toks[o]? with
      | none => .error .panic
      | some t => match c.parseF t with | none => .error .err | some v => .ok v) := by
  have hty := buildV1_ascii_ty attr name props b hb
  simp [Built.readAscii, hty]
  rfl

/-- The binary reader of a `uchar` scalar property divides by 255, the ASCII one does not (`ply_ascii_scalar_reads_raw`).  Counterexample to "the three encodings
decode to the same mesh": for the one-property header `property uchar q` and the stored byte
`k`, ASCII yields `parseF "k"` and binary yields `div255 (ofInt k)`. -/
theorem ply_encodings_disagree_uchar_scalar (c : Coding α) (e : Endian) (q : Bytes) (k : UInt8) (x : α)
    (hparse : c.parseF (showNat k.toNat) = some x) :
    ∃ ba bb, buildV1 false [(q, .uchar)] q q = some ba ∧ buildV1 true [(q, .uchar)] q q = some bb ∧
      ba.readAscii c [showNat k.toNat] = .ok [x] ∧
      bb.readBin c e [k] = .ok [c.div255 (c.ofInt k.toNat)] ∧
      (x ≠ c.div255 (c.ofInt k.toNat) → ba.readAscii c [showNat k.toNat] ≠ bb.readBin c e [k]) := by
  refine ⟨⟨q, [q], [0], none⟩, ⟨q, [q], [0], some .uchar⟩, by simp [buildV1, buildV1.go], by simp [buildV1, buildV1.go], ?_, ?_, ?_⟩
  · simp [Built.readAscii, hparse, pure, Except.pure, bind, Except.bind]
  · simp [Built.readBin, decScalarBin, Coding.norm8, pure, Except.pure, bind, Except.bind]
  · intro hne
    simp [Built.readAscii, Built.readBin, decScalarBin, Coding.norm8, hparse, pure, Except.pure, bind, Except.bind, hne]

/-- A concrete counterexample: with the concrete coding and the stored byte 255, the ASCII file `255` loads as 255 and
the binary file `0xFF` as 1 — the two encodings of one mesh do NOT decode to the same result -/
theorem ply_encodings_disagree_uchar_scalar_concrete :
    ∃ ba bb, buildV1 false [(nm "q", .uchar)] (nm "q") (nm "q") = some ba ∧ buildV1 true [(nm "q", .uchar)] (nm "q") (nm "q") = some bb ∧
      ba.readAscii toyCoding [showNat 255] = .ok [255] ∧ bb.readBin toyCoding .le [255] = .ok [1] ∧
      ba.readAscii toyCoding [showNat 255] ≠ bb.readBin toyCoding .le [255] :=
  ⟨_, _, rfl, rfl, by decide +kernel, by decide +kernel, by decide +kernel⟩

/-! ### statements kept at full strength, not proved (residue) -/

/-- the whole-file round trip: every well-formed mesh written with any configuration that stores at least one
property loads back to a mesh satisfying `RoundTrips` (the predicate the `c04.holds.roundtrip` oracle evaluates on
the implementation's output on every run).  False as it stands for an 8-bit scalar writer in ASCII
(`ply_encodings_disagree_uchar_scalar`); `ply_roundtrip_partial_stmt` excludes that case. -/
def ply_roundtrip_full [BEq α] (c : Coding α) : Prop :=
  ∀ (cfg : WriterCfg) (m : MeshVal α) (bytes : Bytes), m.WF = true → writeMesh c cfg m = .ok bytes →
    (m.attrLen = 0 ∨ selectWriters cfg m ≠ []) →
    ∃ back, readMesh c defaultReader bytes = .ok back ∧ RoundTrips c cfg m back = true

def ply_roundtrip_partial_stmt [BEq α] (c : Coding α) : Prop :=
  ∀ (cfg : WriterCfg) (m : MeshVal α) (bytes : Bytes), m.WF = true → writeMesh c cfg m = .ok bytes →
    (m.attrLen = 0 ∨ selectWriters cfg m ≠ []) →
    ¬ (cfg.format = .ascii ∧ ∃ w ∈ selectWriters cfg m, w.dim = 1 ∧ w.ty = .uchar) →
    ∃ back, readMesh c defaultReader bytes = .ok back ∧ RoundTrips c cfg m back = true

/-- ASCII, little-endian and big-endian files of one mesh load to the same mesh (values printable exactly) -/
def ply_encodings_agree_full (c : Coding α) (sameMesh : MeshVal α → MeshVal α → Prop) : Prop :=
  ∀ (props : List WProp) (wu : Bool) (m : MeshVal α) (ba bl bb : Bytes), m.WF = true →
    writeMesh c ⟨.ascii, props, wu⟩ m = .ok ba → writeMesh c ⟨.le, props, wu⟩ m = .ok bl →
    writeMesh c ⟨.be, props, wu⟩ m = .ok bb →
    ∃ ma ml mb, readMesh c defaultReader ba = .ok ma ∧ readMesh c defaultReader bl = .ok ml ∧
      readMesh c defaultReader bb = .ok mb ∧ sameMesh ma ml ∧ sameMesh ml mb

/-! ### precision content: a small law bundle -/

/-- the laws a faithful coding satisfies: float32 narrowing `q32`, 8-bit quantisation `q8`, and exact doubles.
No coding satisfying them is exhibited in the development (`toyCoding` keeps doubles only mod 2⁶⁴); the bundle is used as a
hypothesis of `ply_quant_is_stored_precision` only.  (Go's `float32(·)`, `math.Round(clamp·255)/255`, `math.Float64bits` satisfy them; that the driver's
`Coding Float` instance computes the same functions is checked by the correspondence, not proved.) -/
structure CodingLaws (c : Coding α) where
  q32 : α → α
  q8 : α → α
  unf32_f32 : ∀ x, c.unf32 (c.f32 x) = q32 x
  unf64_f64 : ∀ x, c.unf64 (c.f64 x) = x
  u8_norm : ∀ x, c.div255 (c.ofInt (c.u8 x).toNat) = q8 x

/-- with the laws, the stored-precision image is what the property names: float32 rounding for `float`, the value itself
for `double`, `round(clamp v·255)/255` for 8-bit colour (3- and 4-vectors, scalars) -/
theorem ply_quant_is_stored_precision (c : Coding α) (L : CodingLaws c) (v : α) (dim : Nat) (hdim : dim ≠ 2) :
    quantBin c dim .float v = L.q32 v ∧ quantBin c dim .double v = v ∧ quantBin c dim .uchar v = L.q8 v := by
  simp [quantBin, L.unf32_f32, L.unf64_f64, Coding.norm8, hdim, L.u8_norm]

end C04
end PolyVerif
