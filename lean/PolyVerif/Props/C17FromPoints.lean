/-
  C17 — `geometry.NewAABBFromPoints` as regenerated from math/geometry/aabb.go:52 (`Gen.geometry.NewAABBFromPoints`:
  the `math.Inf(±1)` start values are `ScalarInf.posInf / negInf`, the `for range` loop a `List.foldl` over the pair
  `(max, min)`).

  ℝ has no infinities, so the theorems quantify over EVERY instance `I : ScalarInf ℝ` (every choice of the two start
  values) that bounds the FIRST point of the list (`Bounds I p`): the only property of IEEE ±Inf the loop uses on
  finite inputs is `min v (+Inf) = v` and `max v (-Inf) = v`.  Under that hypothesis the regenerated function equals
  the fold seeded with the first point (the hand model `C17.fromPoints`, a specification), its
  Min / Max are the componentwise minimum / maximum, it contains every point and is the least such box.

  Tie: the driver answers `c17.aabb.frompoints` (empty list included) by running this very generated definition at
  `Float` with the IEEE instance of `ScalarInf`; bit for bit against `geometry.NewAABBFromPoints`.
-/
import PolyVerif.Props.C17

namespace PolyVerif
namespace C17
open Gen Gen.geometry

/-- componentwise running minimum / maximum: one iteration of the Go loop on `min` / `max` -/
def stepMin (m v : P3) : P3 := ⟨min v.x m.x, min v.y m.y, min v.z m.z⟩
def stepMax (m v : P3) : P3 := ⟨max v.x m.x, max v.y m.y, max v.z m.z⟩

/-- the start values bound the point `p`: `negInf ≤ p.c ≤ posInf` for the three coordinates
    (true of IEEE ±Inf and every non-NaN `p`) -/
def Bounds (I : ScalarInf ℝ) (p : P3) : Prop :=
  (p.x ≤ I.posInf ∧ p.y ≤ I.posInf ∧ p.z ≤ I.posInf) ∧ (I.negInf ≤ p.x ∧ I.negInf ≤ p.y ∧ I.negInf ≤ p.z)

private theorem foldl_pair {β γ δ : Type} (f : β × γ → δ → β × γ) (g : β → δ → β) (h : γ → δ → γ)
    (hf : ∀ a b v, f (a, b) v = (g a v, h b v)) (l : List δ) (a : β) (b : γ) :
    l.foldl f (a, b) = (l.foldl g a, l.foldl h b) := by
  induction l generalizing a b with
  | nil => rfl
  | cons v vs ih => simp only [List.foldl_cons, hf, ih]

/-- the regenerated loop, for EVERY list (the empty one included) and EVERY pair of start values: the box's corners
    are the folds of the componentwise min / max over the points, started at `(posInf)³` / `(negInf)³`.
    (For the empty list this says Min = (posInf)³, Max = (negInf)³ over ℝ; at Float the centre of that box is
    `(-Inf + +Inf)/…` = NaN, which has no counterpart over ℝ — the empty list is tied by correspondence only.) -/
theorem aabb_newFromPoints_fold (I : ScalarInf ℝ) (pts : List P3) :
    (NewAABBFromPoints pts).Min = pts.foldl stepMin ⟨I.posInf, I.posInf, I.posInf⟩ ∧
    (NewAABBFromPoints pts).Max = pts.foldl stepMax ⟨I.negInf, I.negInf, I.negInf⟩ := by
  unfold NewAABBFromPoints
  simp only [V3.New]
  rw [foldl_pair _ stepMax stepMin (fun _ _ _ => rfl)]
  exact newAABB_corners _ _

/-- a box is determined by its two corners: centre and extents are their half sum and half difference -/
private theorem aabb_ext_minmax (a b : AABB ℝ) (h1 : a.Min = b.Min) (h2 : a.Max = b.Max) : a = b := by
  have e : ∀ c : AABB ℝ, c = ⟨⟨(c.Min.x + c.Max.x) / 2, (c.Min.y + c.Max.y) / 2, (c.Min.z + c.Max.z) / 2⟩,
      ⟨(c.Max.x - c.Min.x) / 2, (c.Max.y - c.Min.y) / 2, (c.Max.z - c.Min.z) / 2⟩⟩ := by
    rintro ⟨⟨cx, cy, cz⟩, ⟨ex, ey, ez⟩⟩
    simp only [AABB.Min, AABB.Max, V3.Sub, V3.Add]
    congr <;> ring
  rw [e a, e b, h1, h2]

-- every lemma of this section is about `NewAABBFromPoints (p :: ps)` and takes `I`, `p`, `ps` and `h : Bounds I p`
section seeded
variable (I : ScalarInf ℝ) (p : P3) (ps : List P3) (h : Bounds I p)
include h

private theorem stepMin_seed :
    stepMin ⟨I.posInf, I.posInf, I.posInf⟩ p = p := by
  obtain ⟨⟨h1, h2, h3⟩, _⟩ := h
  ext <;> simp [stepMin, *]

private theorem stepMax_seed :
    stepMax ⟨I.negInf, I.negInf, I.negInf⟩ p = p := by
  obtain ⟨_, ⟨h1, h2, h3⟩⟩ := h
  ext <;> simp [stepMax, *]

/-- Min of the regenerated function on a non-empty list = running minimum started at the first point -/
theorem aabb_newFromPoints_min :
    (NewAABBFromPoints (p :: ps)).Min = fromPointsMin p ps := by
  rw [(aabb_newFromPoints_fold I (p :: ps)).1, List.foldl_cons, stepMin_seed I p h]; rfl

/-- Max of the regenerated function on a non-empty list = running maximum started at the first point -/
theorem aabb_newFromPoints_max :
    (NewAABBFromPoints (p :: ps)).Max = fromPointsMax p ps := by
  rw [(aabb_newFromPoints_fold I (p :: ps)).2, List.foldl_cons, stepMax_seed I p h]; rfl

/-- the regenerated function IS the hand model (fold seeded with the first point) on non-empty lists -/
theorem aabb_newFromPoints_eq_model :
    NewAABBFromPoints (p :: ps) = fromPoints p ps :=
  aabb_ext_minmax _ _
    ((aabb_newFromPoints_min I p ps h).trans (aabb_fromPoints_min p ps).symm)
    ((aabb_newFromPoints_max I p ps h).trans (aabb_fromPoints_max p ps).symm)

/-- the box built by the regenerated `NewAABBFromPoints` from a non-empty list contains every point of the list -/
theorem aabb_newFromPoints_contains_all (q : P3) (hq : q ∈ p :: ps) : (NewAABBFromPoints (p :: ps)).Contains q = true := by
  rw [aabb_newFromPoints_eq_model I p ps h]
  exact aabb_fromPoints_contains_all p ps q hq

/-- tightness: every face of the regenerated box passes through one of the points — along each axis the coordinate of Min
    and that of Max is the coordinate of some point of the list -/
theorem aabb_newFromPoints_tight (k : Axis) :
    (∃ q ∈ p :: ps, co (NewAABBFromPoints (p :: ps)).Min k = co q k) ∧
    (∃ q ∈ p :: ps, co (NewAABBFromPoints (p :: ps)).Max k = co q k) := by
  rw [aabb_newFromPoints_min I p ps h, aabb_newFromPoints_max I p ps h]
  exact ⟨foldl_step_attained (co · k) _ (fun _ _ => by cases k <;> exact min_choice _ _) p ps,
    foldl_step_attained (co · k) _ (fun _ _ => by cases k <;> exact max_choice _ _) p ps⟩

end seeded

/-- … hence it is the LEAST box containing the points: any box `c` that contains every point of the list contains
    both corners of the regenerated box -/
theorem aabb_newFromPoints_least (I : ScalarInf ℝ) (p : P3) (ps : List P3) (h : Bounds I p) (c : AABB ℝ)
    (hc : ∀ q ∈ p :: ps, c.Contains q = true) :
    c.Contains (NewAABBFromPoints (p :: ps)).Min = true ∧ c.Contains (NewAABBFromPoints (p :: ps)).Max = true := by
  simp only [aabb_mem] at hc ⊢
  constructor <;> intro k
  · obtain ⟨⟨q, hq, e⟩, -⟩ := aabb_newFromPoints_tight I p ps h k
    rw [e]; exact hc q hq k
  · obtain ⟨-, ⟨q, hq, e⟩⟩ := aabb_newFromPoints_tight I p ps h k
    rw [e]; exact hc q hq k

/-! non-vacuity: a concrete pair of start values bounding a concrete first point; and the general statement is not
    empty either: with those start values the box of `[(1,2,3), (-4,5,0)]` has the expected corners -/
example : Bounds ⟨10, -10⟩ (⟨1, 2, 3⟩ : P3) := by
  refine ⟨⟨?_, ?_, ?_⟩, ⟨?_, ?_, ?_⟩⟩ <;> norm_num
example : (@NewAABBFromPoints ℝ _ ⟨10, -10⟩ [⟨1, 2, 3⟩, ⟨-4, 5, 0⟩]).Min = ⟨-4, 2, 0⟩ := by
  rw [aabb_newFromPoints_min ⟨10, -10⟩ _ _ (by refine ⟨⟨?_, ?_, ?_⟩, ⟨?_, ?_, ?_⟩⟩ <;> norm_num)]
  simp [fromPointsMin]; norm_num

end C17
end PolyVerif
