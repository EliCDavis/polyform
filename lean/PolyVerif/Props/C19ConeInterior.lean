/-
  C19 — rounded cone: exact distance attained at INTERIOR points, for all parameters.

  `Props/C19Cone.lean` proves, for the regenerated `Gen.sdf.RoundedCone`, the lower bound `|f p| ≤ dist(p, s)` for every zero-set
  point `s` (all parameters) and a zero-set point at distance exactly `f p` for `p` outside or on the shape.  This
  file adds the interior: for `f p < 0` some zero-set point is at distance exactly `−f p`.  So `|f p|` IS the Euclidean
  distance to the zero set everywhere (`roundedCone_exact_all`).

  Method, under the guard: the field is the 2-D profile of the coordinates (axial, radial) about the axis
  (`Cone.roundedCone_eq_prof`); in the profile an interior point reaches the zero set at the exact distance along the ray
  from its cap's centre, or along the normal of the slanted side (`Cone.prof_inside_attained`); the coordinates are a submetry
  onto the half plane, so the displacement lifts to space (`coneXY_submetry`).  Outside the guard the field is a sphere's.
-/
import PolyVerif.Props.C19Cone

namespace PolyVerif
namespace C19
open Gen Gen.sdf Gen.geometry

section
variable (a b : P3) (r1 r2 : ℝ)

/-- exact distance, attained, INSIDE the shape, under the guard `|r1 − r2| < |b − a|` (no condition on the radii) -/
theorem roundedCone_exact_attained_inside (hg : |r1 - r2| < a.Distance b) (p : P3)
    (hp : RoundedCone a b r1 r2 p < 0) :
    ∃ s : P3, RoundedCone a b r1 r2 s = 0 ∧ p.Distance s = -RoundedCone a b r1 r2 p := by
  obtain ⟨hL, hc, hsc, -⟩ := Cone.guard_facts hg
  simp only [Cone.roundedCone_eq_prof a b r1 r2 hg] at hp ⊢
  obtain ⟨h', ρ', hρ', h0, hd⟩ := Cone.prof_inside_attained hL hc hsc (coneRho_nonneg a b p) hp
  obtain ⟨s, hs, hds⟩ := (coneXY_submetry (cone_guard_ne hg)).level_attained (r := 0) p
    (g := fun Y => Cone.prof _ _ _ r1 r2 (Y 0) (Y 1)) ⟨!₂[h', ρ'], hρ', h0, by
      rw [sub_zero, ← abs_norm, ← sq_eq_sq_iff_abs_eq_abs, norm_sq_E2]; exact hd⟩
  exact ⟨s, hs, by rw [hds, sub_zero]; exact abs_of_neg hp⟩

/-- exact distance, attained, INSIDE the shape, ALL parameters (nested / tangent balls and `a = b` included: there the
    field is the larger ball's) -/
theorem roundedCone_exact_attained_inside_all (p : P3)
    (hp : RoundedCone a b r1 r2 p < 0) :
    ∃ s : P3, RoundedCone a b r1 r2 s = 0 ∧ p.Distance s = -RoundedCone a b r1 r2 p := by
  by_cases hg : |r1 - r2| < a.Distance b
  · exact roundedCone_exact_attained_inside a b r1 r2 hg p hp
  · rw [roundedCone_nested a b r1 r2 hg] at hp ⊢
    split_ifs at hp ⊢
    · have hr : 0 ≤ r1 := ((V3.distance_nonneg p a).trans_lt ((sphere_neg_iff a r1 p).mp hp)).le
      obtain ⟨s, hs, hd⟩ := sphere_exact_attained_all a r1 hr p
      exact ⟨s, (sphere_zero_iff a r1 s).mpr hs, by rw [hd, abs_of_neg hp]⟩
    · have hr : 0 ≤ r2 := ((V3.distance_nonneg p b).trans_lt ((sphere_neg_iff b r2 p).mp hp)).le
      obtain ⟨s, hs, hd⟩ := sphere_exact_attained_all b r2 hr p
      exact ⟨s, (sphere_zero_iff b r2 s).mpr hs, by rw [hd, abs_of_neg hp]⟩

end

/-- rounded cone: `|f p|` IS the Euclidean distance from `p` to the zero set, for every `p` and all parameters with
    non-negative radii (the radii condition is needed only outside the shape) -/
theorem roundedCone_exact_all (a b : P3) (r1 r2 : ℝ) (hr1 : 0 ≤ r1) (hr2 : 0 ≤ r2) (p : P3) :
    (∀ s : P3, RoundedCone a b r1 r2 s = 0 → |RoundedCone a b r1 r2 p| ≤ p.Distance s) ∧
    (∃ s : P3, RoundedCone a b r1 r2 s = 0 ∧ p.Distance s = |RoundedCone a b r1 r2 p|) := by
  refine ⟨fun s hs => roundedCone_exact_le_all a b r1 r2 p s hs, ?_⟩
  rcases lt_or_ge (RoundedCone a b r1 r2 p) 0 with h | h
  · obtain ⟨s, hs, hd⟩ := roundedCone_exact_attained_inside_all a b r1 r2 p h
    exact ⟨s, hs, by rw [hd, abs_of_neg h]⟩
  · obtain ⟨s, hs, hd⟩ := roundedCone_exact_attained_outside_all a b r1 r2 hr1 hr2 p h
    exact ⟨s, hs, by rw [hd, abs_of_nonneg h]⟩

/-! ### non-vacuity -/

example : RoundedCone (⟨0, 0, 0⟩ : P3) ⟨4, 0, 0⟩ 2 1 ⟨0, 0, 0⟩ < 0 := by
  rw [roundedCone_neg_iff_all]
  refine ⟨0, le_rfl, by norm_num, ?_⟩
  have : (⟨0, 0, 0⟩ : P3).Distance (segPoint ⟨0, 0, 0⟩ ⟨4, 0, 0⟩ 0) = 0 :=
    V3.distance_eq_zero.mpr (by ext <;> simp [segPoint, V3.Add, V3.Sub, V3.Scale])
  rw [this]; norm_num

end C19
end PolyVerif
