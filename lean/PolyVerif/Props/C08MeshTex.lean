/-
  C08 — binary MESH files of the reference encoding WITH per-corner texture coordinates (`texcoord` list), from
  FILE BYTES.  Same reader model (`Ply.readMesh`) and encoder (`refEncode`) as the driver's `c08.read` / `c08.encode`.
  Covered: `texcoord` with count type uchar | int | uint and item type float | double, declared before or after the index
  list (itself any of the 3 × 2 count / index types), optional unrecognised list first or last, triangles and quads with
  two coordinates per listed vertex.
-/
import PolyVerif.Props.C08Mesh
import PolyVerif.Lemmas.PlyUnweld

namespace PolyVerif
namespace C08
open Ply PlySpec PlyLemmas PlyCompose PlyHeader PlyFaces PlyFacesTex PlyUnweld

variable {α : Type}

structure SpecMeshTexOK (f : SpecFile α) (fe : SpecFaceElem α) (tct tit : SType) : Prop where
  face : f.face = some fe
  tex : fe.tex = some (tct, tit)
  cnt : CountTyOK fe.cntTy
  idx : IndexTyOK fe.idxTy
  texCnt : CountTyOK tct
  texItem : TexTyOK tit
  enc : ∀ fc ∈ fe.faces, FaceTexOK fe fc

/-- mesh assembly with one UV pair per fan corner: the unweld branch is taken unless there is no face at all -/
theorem assemble_tex (built : List Built) (nv : Nat) (rows : List (List (List α))) (faces : List (SpecFace α))
    (hsize : ∀ fc ∈ faces, TriOrQuad fc) (uvs : List (List α)) (hlen : uvs.length = (fanIdx faces).length) :
    assemble built nv rows (some (fanIdx faces, uvs))
      = (let mesh := applyColumns ⟨.triangle, fanIdx faces, [], none⟩ built rows
         if faces.isEmpty then .ok mesh else do
           let u ← unweld mesh
           pure (u.set 2 texCoordAttr uvs)) := by
  cases faces with
  | nil =>
    have : uvs = [] := List.eq_nil_of_length_eq_zero hlen
    simp [assemble, pure, Except.pure, this, fanIdx]
  | cons fc faces =>
    have hpos : 0 < (fanIdx (fc :: faces)).length := fanIdx_pos fc faces (hsize fc (by simp))
    have hcond : 0 < uvs.length ∧ uvs.length = (fanIdx (fc :: faces)).length := ⟨by omega, hlen⟩
    simp only [assemble, hcond, List.isEmpty_cons]
    rw [if_pos ⟨hpos, trivial⟩]
    rfl

theorem SpecMeshTexOK.elem {f : SpecFile α} {fe : SpecFaceElem α} {tct tit : SType} (hm : SpecMeshTexOK f fe tct tit) :
    ElemOK fe :=
  ⟨hm.cnt, hm.idx, fun tt h => by rw [hm.tex] at h; cases h; exact ⟨hm.texCnt, hm.texItem⟩⟩

/-- with `texcoord` a file of triangles / quads reads, in either encoding, to the unwelded mesh plus the per-corner
coordinates as the encoding's `dec` gives them -/
theorem FaceCodec.reads_tex {c : Coding α} {f : SpecFile α} {fe : SpecFaceElem α} {built : List Built}
    {rows : List (List (List α))} {dec : SpecFace α → List α} {σ : Type} {step : FaceBufs α → σ → R (Int × FaceBufs α × σ)}
    {enc : SpecFace α → σ → σ} {s0 : σ} (K : FaceCodec c f fe built rows dec step enc s0) (htex : fe.tex.isSome)
    (henc : ∀ fc ∈ fe.faces, FaceTexOK fe fc) (hsize : ∀ fc ∈ fe.faces, TriOrQuad fc)
    (hdec : ∀ fc, (dec fc).length = fc.uv.length) :
    readBody c defaultReader (specHdr f) (specBody c f)
      = (let mesh := applyColumns ⟨.triangle, fanIdx fe.faces, [], none⟩ built rows
         if fe.faces.isEmpty then .ok mesh else do
           let u ← unweld mesh
           pure (u.set 2 texCoordAttr (fanUVs true dec fe.faces))) := by
  rw [K.reads (fun fc h => .of_tex (henc fc h) (hsize fc h)), htex]
  exact assemble_tex _ _ _ fe.faces hsize _
    (fanUVs_length _ _ fun fc h => ⟨hsize fc h, by rw [hdec, (henc fc h).uvLen]⟩)

/-- TEXTURED MESH FILES FROM FILE BYTES: the reader returns the UNWELDED mesh — `unweld` (every corner of the fan triangles
becomes its own vertex: each attribute gathered through the fan indices, indices 0..k-1; the same expansion `meaning`
performs) of the triangle mesh of `ply_reads_spec_mesh_bytes`, plus `TexCoord` = the per-corner coordinates in file order
(triangle: its 3 corners; quad: the corners of (0,1,2), (0,2,3)), each the float32 (`float`) / float64 (`double`) image of
the stored number.  With `element face 0` the vertices are kept as they are. -/
theorem ply_reads_spec_mesh_tex_bytes (c : Coding α) (f : SpecFile α) (fe : SpecFaceElem α) (tct tit : SType)
    (hok : SpecHeaderOK f) (hf : f.format ≠ .ascii) (hm : SpecMeshTexOK f fe tct tit)
    (hsize : ∀ fc ∈ fe.faces, TriOrQuad fc)
    (htyped : ∀ r ∈ f.verts, r.map Datum.ty = f.vprops.map (·.ty))
    (bl : List (Built × List Nat))
    (hbuilt : bl.map (·.1) = buildAll true (specProps f) defaultReaders true)
    (hloc : ∀ p ∈ bl, Located (f.vprops.map (·.ty)) p.1 p.2) :
    readMesh c defaultReader (refEncode c f)
      = (let mesh := applyColumns ⟨.triangle, fanIdx fe.faces, [], none⟩ (bl.map (·.1)) (f.verts.map (rowOf c bl))
         if fe.faces.isEmpty then .ok mesh else do
           let u ← unweld mesh
           pure (u.set 2 texCoordAttr (texUV c tit fe.faces))) := by
  have htex : fe.tex.isSome := by simp [hm.tex]
  rw [← fanUVs_texDec c fe tct tit hm.tex]
  exact (readMesh_refEncode c f hok).trans
    ((binCodec c f fe hf hm.face bl ⟨htyped, hbuilt, hloc⟩ hm.elem).reads_tex htex hm.enc hsize
      (fun fc => texDec_length c fe fc htex))

/-- TEXTURED MESH FILES LOAD WITHOUT ERROR: when every face lists existing vertices (numbers < the vertex count) the
unweld step cannot fail, and the result is explicit — `corners`: indices 0..k-1, every attribute gathered through the fan
indices (one vertex per fan corner), plus `TexCoord` -/
theorem ply_reads_spec_mesh_tex_loads (c : Coding α) (f : SpecFile α) (fe : SpecFaceElem α) (tct tit : SType)
    (hok : SpecHeaderOK f) (hf : f.format ≠ .ascii) (hm : SpecMeshTexOK f fe tct tit)
    (hsize : ∀ fc ∈ fe.faces, TriOrQuad fc) (hvr : ∀ fc ∈ fe.faces, ∀ v ∈ fc.verts, v < f.verts.length)
    (htyped : ∀ r ∈ f.verts, r.map Datum.ty = f.vprops.map (·.ty))
    (bl : List (Built × List Nat))
    (hbuilt : bl.map (·.1) = buildAll true (specProps f) defaultReaders true)
    (hloc : ∀ p ∈ bl, Located (f.vprops.map (·.ty)) p.1 p.2) :
    readMesh c defaultReader (refEncode c f)
      = .ok (let mesh := applyColumns ⟨.triangle, fanIdx fe.faces, [], none⟩ (bl.map (·.1)) (f.verts.map (rowOf c bl))
             if fe.faces.isEmpty then mesh else (corners mesh).set 2 texCoordAttr (texUV c tit fe.faces)) :=
  (ply_reads_spec_mesh_tex_bytes c f fe tct tit hok hf hm hsize htyped bl hbuilt hloc).trans
    (unweld_assembled_tex _ _ _ _ (by simpa using hvr))

/-- the specification side, textured: `meaning` performs the same per-corner expansion — whenever it is defined for a
file with at least one face, its indices are 0..k-1 for the k fan corners -/
theorem meaning_tex_indices (c : Coding α) (f : SpecFile α) (fe : SpecFaceElem α) (tt : SType × SType)
    (hface : f.face = some fe) (htex : fe.tex = some tt) (hne : (fanIdx fe.faces).isEmpty = false)
    (m : MeshVal α) (hmean : meaning c f = some m) :
    m.topo = .triangle ∧ m.indices = (List.range (fanIdx fe.faces).length).map Int.ofNat := by
  have hidx : (fe.faces.map (fun fc => fan fc.verts)).flatten = fanIdx fe.faces := rfl
  simp only [meaning, hface, htex, hidx, hne, Bool.false_eq_true, if_false, Option.bind_eq_bind, Option.bind_eq_some_iff,
    pure] at hmean
  obtain ⟨_, _, _, _, _, _, h⟩ := hmean
  injection h with h
  subst h
  exact ⟨rfl, by simp [MeshVal.set]⟩

/-! ### non-vacuity: `exMesh` with a `list uchar double texcoord` declared BEFORE the index list -/

def exTex : SpecFile Nat :=
  { exMesh with face := some exTexFaces }
where exTexFaces : SpecFaceElem Nat :=
  { idxNameShort := true, cntTy := .int, idxTy := .uint, idxAlias := true, tex := some (.uchar, .double), texFirst := true,
    extra := some true,
    faces := [⟨[0, 1, 2], [10, 11, 12, 13, 14, 15], [7, -1]⟩, ⟨[3, 2, 1, 0], [20, 21, 22, 23, 24, 25, 26, 27], []⟩] }

theorem exTex_ok : SpecMeshTexOK exTex exTex.exTexFaces .uchar .double where
  face := rfl
  tex := rfl
  cnt := by decide
  idx := by decide
  texCnt := by decide
  texItem := by decide
  enc := by
    intro fc hfc
    simp only [exTex.exTexFaces, List.mem_cons, List.not_mem_nil, or_false] at hfc
    rcases hfc with rfl | rfl <;> exact ⟨⟨by decide, by decide, by decide, by decide⟩, by decide⟩

theorem exTex_hdr : SpecHeaderOK exTex where
  names := exFile_hdr.names
  items := exFile_hdr.items
  nverts := by decide
  nfaces := by intro fe h; simp only [exTex, Option.some.injEq] at h; subst h; decide

theorem exTexFaces_sizes : ∀ fc ∈ exTex.exTexFaces.faces, TriOrQuad fc := by
  intro fc hfc
  simp only [exTex.exTexFaces, List.mem_cons, List.not_mem_nil, or_false] at hfc
  rcases hfc with rfl | rfl
  · exact Or.inl rfl
  · exact Or.inr rfl

/-- every hypothesis is satisfiable: the theorem instantiated on `exTex` -/
example : readMesh toyCoding defaultReader (refEncode toyCoding exTex)
    = (let mesh := applyColumns ⟨.triangle, fanIdx exTex.exTexFaces.faces, [], none⟩ (exBl.map (·.1)) (exTex.verts.map (rowOf toyCoding exBl))
       if exTex.exTexFaces.faces.isEmpty then .ok mesh else do
         let u ← unweld mesh
         pure (u.set 2 texCoordAttr (texUV toyCoding .double exTex.exTexFaces.faces))) :=
  ply_reads_spec_mesh_tex_bytes toyCoding exTex exTex.exTexFaces .uchar .double exTex_hdr (by decide) exTex_ok
    exTexFaces_sizes exMesh_typed exBl exBl_built exBl_located

/-- … and it LOADS (every face of `exTex` lists existing vertices) -/
example : ∃ m, readMesh toyCoding defaultReader (refEncode toyCoding exTex) = .ok m :=
  ⟨_, ply_reads_spec_mesh_tex_loads toyCoding exTex exTex.exTexFaces .uchar .double exTex_hdr (by decide) exTex_ok
    exTexFaces_sizes (by decide) exMesh_typed exBl exBl_built exBl_located⟩

/-- `meaning_tex_indices` is not vacuous -/
example : ∃ m, meaning toyCoding exTex = some m ∧ m.indices = [0, 1, 2, 3, 4, 5, 6, 7, 8] := by
  cases h : meaning toyCoding exTex with
  | none => exact absurd h (by decide)
  | some m => exact ⟨m, rfl, (meaning_tex_indices toyCoding exTex exTex.exTexFaces _ rfl rfl rfl m h).2⟩

example : texUV toyCoding .double exTex.exTexFaces.faces
    = [[10, 11], [12, 13], [14, 15], [20, 21], [22, 23], [24, 25], [20, 21], [24, 25], [26, 27]] := by decide

set_option maxRecDepth 10000 in
/-- … and that mesh is what the file denotes (`meaning`), up to attribute order -/
example : (readBody toyCoding defaultReader (specHdr exTex) (specBody toyCoding exTex)).toOption.map MeshVal.canon
    = (meaning toyCoding exTex).map MeshVal.canon := by
  rw [← readMesh_refEncode toyCoding exTex exTex_hdr,
    ply_reads_spec_mesh_tex_loads toyCoding exTex exTex.exTexFaces .uchar .double exTex_hdr (by decide) exTex_ok
      exTexFaces_sizes (by decide) exMesh_typed exBl exBl_built exBl_located]
  rfl

end C08
end PolyVerif
