/-
  C04 — the header TEXT layer and the composed round trip from FILE BYTES.

  `Ply.parseHeader` is the byte-level model of `ply.ReadHeader` (one byte at a time up to LF, every CR dropped, magic
  line, format line with version, blank lines skipped, `strings.Fields`, `comment` / `element` / `property [list]` lines,
  `strconv.ParseInt` on counts, alias table, unknown type → panic, property before element → panic, everything else —
  obj_info included — ignored, exact `end_header`); `Ply.Header.render` is `Header.Write`.  Both are corresponded
  byte-for-byte with the Go code on every run (`c04.write`, `c04.header`, `c08.header` incl. mutations).
-/
import PolyVerif.Model.Ply
import PolyVerif.Lemmas.Ply
import PolyVerif.Lemmas.PlyHeader
import PolyVerif.Lemmas.PlyCompose
import PolyVerif.Lemmas.PlyNames
import PolyVerif.Props.C04Compose

namespace PolyVerif
namespace C04
open Ply PlyLemmas PlyHeader PlyCompose

variable {α : Type}

/-- `ReadHeader (Header.Write h ++ body) = (h, body)` for every header the writer can print such that the parser
gives it back unchanged (`HeaderOK`: no obj_info — the parser drops it —, comments without CR/LF and outer blanks,
names non-empty and free of white space, element and list-property names lower-case, counts in `0 … 2⁶³−1`) -/
theorem ply_header_text_roundtrip (h : Header) (hok : HeaderOK h) (body : Bytes) :
    parseHeader (h.render ++ body) = .ok (h, body) :=
  parse_render h hok body

/-- every STRICT PREFIX of a printed header is rejected with an error: a file cut anywhere inside the header text —
in the middle of a line, at a line boundary, before `end_header`, inside `end_header`, before its LF — does not load
(and does not panic).  [byte-level version of C14's `ply_header_cut`, with the real parser model] -/
theorem ply_header_cut_bytes (h : Header) (hok : HeaderOK h) (p t : Bytes) (hpt : p ++ t = h.render) (ht : t ≠ []) :
    parseHeader p = .error .err :=
  parse_cut h hok p t hpt ht

/-- the rejected branches of the well-formedness predicate are real: a property name with a blank does NOT come back
(`property float a b` has four fields: "ill-formatted scalar property") … -/
example : headerStep ⟨.body, .ascii, [⟨nm "vertex", 1, []⟩], []⟩ ((PProp.scalar (nm "a b") .float).render.dropLast)
    = .error .err := by rfl

/-- … an upper-case element name comes back lowered (so it is not the header that was printed), an obj_info line is
dropped, a property before any element panics, an unknown type panics -/
example : headerStep ⟨.body, .le, [], []⟩ (nm "element Vertex 0")
    = .ok (.inl ⟨.body, .le, [⟨nm "vertex", 0, []⟩], []⟩) := by rfl
example : headerStep ⟨.body, .le, [], []⟩ (nm "obj_info made by x") = .ok (.inl ⟨.body, .le, [], []⟩) := by rfl
example : headerStep ⟨.body, .le, [], []⟩ (nm "property float x") = .error .panic := by rfl
example : headerStep ⟨.body, .le, [⟨nm "vertex", 1, []⟩], []⟩ (nm "property half x") = .error .panic := by rfl

/-- the headers `MeshWriter.Write` emits are `HeaderOK` when the property names of the writers that fire are tokens
(non-empty, no white space), the texture URI (if any) is printable, and the counts fit int64 -/
theorem writeHeader_ok (cfg : WriterCfg) (m : MeshVal α)
    (hnames : ∀ w ∈ selectWriters cfg m, ∀ n ∈ w.names, Tok n)
    (huri : ∀ u, m.texURI = some u → CommentOK (nm "TextureFile " ++ u))
    (hsize : m.attrLen < 2 ^ 63) (hidx : m.indices.length < 2 ^ 63) : HeaderOK (writeHeader cfg m) := by
  have hcreated : CommentOK (nm "Created with github.com/EliCDavis/polyform") := ⟨by decide +kernel, by decide +kernel⟩
  have hvert : Tok (nm "vertex") ∧ lower (nm "vertex") = nm "vertex" := ⟨⟨by decide +kernel, by decide +kernel⟩, by decide +kernel⟩
  have hface : Tok (nm "face") ∧ lower (nm "face") = nm "face" := ⟨⟨by decide +kernel, by decide +kernel⟩, by decide +kernel⟩
  have hvi : Tok (nm "vertex_indices") ∧ lower (nm "vertex_indices") = nm "vertex_indices" := ⟨⟨by decide +kernel, by decide +kernel⟩, by decide +kernel⟩
  have htc : Tok (nm "texcoord") ∧ lower (nm "texcoord") = nm "texcoord" := ⟨⟨by decide +kernel, by decide +kernel⟩, by decide +kernel⟩
  have htri : triCount m < 2 ^ 63 := Nat.lt_of_le_of_lt (Nat.div_le_self _ _) hidx
  have hve : ElemOK ⟨nm "vertex", m.attrLen, ((selectWriters cfg m).map WProp.props).flatten⟩ := by
    refine ⟨hvert.1, hvert.2, by simp, by simp; omega, ?_⟩
    intro p hp
    simp only [List.mem_flatten, List.mem_map] at hp
    obtain ⟨ps, ⟨w, hw, rfl⟩, hp⟩ := hp
    simp only [WProp.props, List.mem_map] at hp
    obtain ⟨n, hn, rfl⟩ := hp
    exact hnames w hw n hn
  have hfe : ElemOK ⟨nm "face", triCount m, faceProps m⟩ := by
    refine ⟨hface.1, hface.2, by simp, by simp; omega, ?_⟩
    intro p hp
    simp only [faceProps, List.mem_append, List.mem_cons, List.not_mem_nil, or_false] at hp
    rcases hp with rfl | hp
    · exact hvi
    · split at hp
      · simp at hp; subst hp; exact htc
      · simp at hp
  refine ⟨rfl, ?_, ?_⟩
  · intro c hc
    simp only [writeHeader, List.mem_append, List.mem_cons, List.not_mem_nil, or_false] at hc
    rcases hc with hc | rfl
    · cases hu : m.texURI with
      | none => simp [hu] at hc
      | some u => simp [hu] at hc; subst hc; exact huri u hu
    · exact hcreated
  · intro e he
    simp only [writeHeader, List.mem_append, List.mem_cons, List.not_mem_nil, or_false] at he
    rcases he with rfl | he
    · exact hve
    · split at he
      · simp at he; subst he; exact hfe
      · simp at he

/-- `MeshWriter.Write` then `ReadHeader`, on the FILE BYTES: the header parses to exactly the header that was built from
the property writers, and what remains unread is exactly the body -/
theorem ply_written_header_parses (c : Coding α) (cfg : WriterCfg) (m : MeshVal α) (bytes : Bytes)
    (h : writeMesh c cfg m = .ok bytes)
    (huri : ∀ u, m.texURI = some u → CommentOK (nm "TextureFile " ++ u))
    (hsize : m.attrLen < 2 ^ 63) (hidx : m.indices.length < 2 ^ 63) :
    ∃ body, writeBody c cfg m = .ok body ∧ bytes = (writeHeader cfg m).render ++ body ∧
      parseHeader bytes = .ok (writeHeader cfg m, body) := by
  simp only [writeMesh] at h
  cases hb : writeBody c cfg m with
  | error e => simp [hb, bind, Except.bind] at h
  | ok body =>
    simp [hb, bind, Except.bind, pure, Except.pure] at h
    refine ⟨body, rfl, h.symm, ?_⟩
    rw [← h]
    exact parse_render _ (writeHeader_ok cfg m (names_of_writeBody_ok c cfg m body hb).1 huri hsize hidx) body

/-- THE COMPOSED ROUND TRIP FROM FILE BYTES (binary encodings): `readMesh (writeMesh cfg m)` satisfies `RoundTrips`.
Same guards as `ply_roundtrip_binary_partial` plus a printable texture URI and an index count that fits int64 (`hidx`); that the property names are single words and
pairwise distinct follows from `writeMesh … = .ok` (the writer rejects anything else, writer.go:144-158). -/
theorem ply_roundtrip_binary_bytes [BEq α] [LawfulBEq α] (c : Coding α) (cfg : WriterCfg) (m : MeshVal α) (bytes : Bytes)
    (hf : cfg.format ≠ .ascii) (hwf : m.WF = true) (h : writeMesh c cfg m = .ok bytes)
    (hpoint : m.topo = .point → m.indices = (List.range m.attrLen).map Int.ofNat)
    (hsize : m.attrLen ≤ 2 ^ 31) (hidx : m.indices.length < 2 ^ 63)
    (huri : ∀ u, m.texURI = some u → CommentOK (nm "TextureFile " ++ u))
    (bl : List (Built × List Nat)) (hcl : ClaimOK cfg m bl) :
    ∃ back, readMesh c defaultReader bytes = .ok back ∧ RoundTrips c cfg m back = true := by
  obtain ⟨body, hbody, _, hparse⟩ := ply_written_header_parses c cfg m bytes h huri
    (Nat.lt_of_le_of_lt hsize (by decide +kernel)) hidx
  obtain ⟨back, hread, hrt⟩ := ply_roundtrip_binary_partial c cfg m body hf hwf hbody hpoint hsize bl hcl
  exact ⟨back, by simp [readMesh, hparse, bind, Except.bind, hread], hrt⟩

/-- the same with the decidable claim certificate; the `example`s discharge every hypothesis by `decide` -/
theorem ply_roundtrip_binary_bytes_checked [BEq α] [LawfulBEq α] (c : Coding α) (cfg : WriterCfg) (m : MeshVal α)
    (bytes : Bytes) (hf : cfg.format ≠ .ascii) (hwf : m.WF = true) (h : writeMesh c cfg m = .ok bytes)
    (hpoint : m.topo = .point → m.indices = (List.range m.attrLen).map Int.ofNat)
    (hsize : m.attrLen ≤ 2 ^ 31) (hidx : m.indices.length < 2 ^ 63)
    (huri : ∀ u, m.texURI = some u → CommentOK (nm "TextureFile " ++ u))
    (hcheck : (claimCheck cfg m).isSome = true) :
    ∃ back, readMesh c defaultReader bytes = .ok back ∧ RoundTrips c cfg m back = true := by
  obtain ⟨bl, hbl⟩ := Option.isSome_iff_exists.mp hcheck
  exact ply_roundtrip_binary_bytes c cfg m bytes hf hwf h hpoint hsize hidx huri bl
    (claimCheck_sound cfg m bl hbl)

/-! non-vacuity: the welded triangle mesh and the custom-configuration point cloud of `C04Compose`, from file bytes -/

instance (t : Bytes) : Decidable (Tok t) := by unfold Tok; infer_instance

/-- a successful `writeBody` makes `writeMesh` succeed; the file named by its own result -/
theorem writeMesh_ok (c : Coding α) (cfg : WriterCfg) (m : MeshVal α) (body : Bytes) (h : writeBody c cfg m = .ok body) :
    writeMesh c cfg m = .ok ((writeMesh c cfg m).toOption.getD []) := by
  simp [writeMesh, h, bind, Except.bind, pure, Except.pure, Except.toOption]

theorem exMesh_headerOK : HeaderOK (writeHeader (defaultWriter .be) exMesh) :=
  writeHeader_ok _ _ (by decide +kernel) (fun _ hu => nomatch hu) (by decide +kernel) (by decide +kernel)

example : HeaderOK (writeHeader (defaultWriter .be) exMesh) := exMesh_headerOK

example : ∃ back, readMesh toyCoding defaultReader ((writeMesh toyCoding (defaultWriter .be) exMesh).toOption.getD [])
      = .ok back ∧ RoundTrips toyCoding (defaultWriter .be) exMesh back = true :=
  ply_roundtrip_binary_bytes_checked toyCoding (defaultWriter .be) exMesh _ (by decide +kernel) exMesh_wf
    (writeMesh_ok _ _ _ _ exMesh_body) (by decide +kernel) (by decide +kernel) (by decide +kernel) (fun _ hu => nomatch hu) exMesh_check

example : ∃ back, readMesh toyCoding defaultReader ((writeMesh toyCoding exCfg exCloud).toOption.getD [])
      = .ok back ∧ RoundTrips toyCoding exCfg exCloud back = true :=
  ply_roundtrip_binary_bytes_checked toyCoding exCfg exCloud _ (by decide +kernel) exCloud_wf
    (writeMesh_ok _ _ _ _ exCloud_body) (by decide +kernel) (by decide +kernel) (by decide +kernel) (fun _ hu => nomatch hu) exCloud_check

/-- the UV-mapped welded quad of `C04Compose`, from file bytes -/
example : ∃ back, readMesh toyCoding defaultReader ((writeMesh toyCoding (defaultWriter .le) exUV).toOption.getD [])
      = .ok back ∧ RoundTrips toyCoding (defaultWriter .le) exUV back = true :=
  ply_roundtrip_binary_bytes_checked toyCoding (defaultWriter .le) exUV _ (by decide +kernel) exUV_wf
    (writeMesh_ok _ _ _ _ exUV_body) (by decide +kernel) (by decide +kernel) (by decide +kernel) (fun _ hu => nomatch hu) exUV_check

/-- a cut header: the first 40 bytes of that file -/
example : parseHeader (((writeHeader (defaultWriter .be) exMesh).render).take 40) = .error .err :=
  ply_header_cut_bytes _ exMesh_headerOK
    _ (((writeHeader (defaultWriter .be) exMesh).render).drop 40) (List.take_append_drop 40 _) (by decide +kernel)

end C04
end PolyVerif
