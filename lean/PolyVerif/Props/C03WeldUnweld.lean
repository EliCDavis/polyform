/-
  C03 — weld after unweld.  Derived from `weld_spec`, `unweld_spec` / `unweld_rebuilt`:
  the per-corner KEYS of a welded mesh depend only on the per-corner content of the input (not on its vertex
  numbering), so `weld key (unweld m)` and `weld key m` have the same surviving triangles, in the same order, with the
  same key at every corner.
-/
import PolyVerif.Props.C03

namespace PolyVerif.C03
open PolyVerif.Mesh PolyVerif.Mesh.MeshVal

variable {α K : Type} [DecidableEq K]

/-- "three pairwise distinct keys" on a triple of corner values (a corner without a value never survives) -/
def distinctCorner (key : α → K) (t : Option α × Option α × Option α) : Bool :=
  match t.1, t.2.1, t.2.2 with
  | some x, some y, some z => decide (key x ≠ key y ∧ key x ≠ key z ∧ key y ≠ key z)
  | _, _, _ => false

/-- the corners that survive welding, read off the input's corner list `c` of the welded attribute alone:
    the corners of the triangles whose three corner keys are pairwise distinct, in order -/
def survivingCorners (key : α → K) (c : List (Option α)) : List (Option α) :=
  untriples ((triples c).filter (distinctCorner key))

theorem distinctKeys_eq (key : α → K) (d : List α) (t : Nat × Nat × Nat) :
    distinctKeys key d t = distinctCorner key (d[t.1]?, d[t.2.1]?, d[t.2.2]?) := by
  unfold distinctKeys distinctCorner
  cases d[t.1]? <;> cases d[t.2.1]? <;> cases d[t.2.2]? <;> rfl

/-- survivors commute with reading the attribute through the indices -/
theorem survivors_map (key : α → K) (d : List α) (idx : List Nat) :
    (untriples ((triples idx).filter (distinctKeys key d))).map (fun i => d[i]?) =
      survivingCorners key (idx.map fun i => d[i]?) := by
  unfold survivingCorners
  rw [triples_map, List.filter_map, ← untriples_map (fun i => d[i]?)]
  have : ((triples idx).filter (distinctKeys key d)) =
      (triples idx).filter (distinctCorner key ∘ fun t => (d[t.1]?, d[t.2.1]?, d[t.2.2]?)) := by
    apply List.filter_congr
    intro t _
    simp [Function.comp, distinctKeys_eq]
  rw [this]

/-- the representative of a key class carries the same key -/
theorem firstOfClass_key (key : α → K) (d : List α) : ∀ (S : List Nat), (∀ i ∈ S, i < d.length) →
    (S.filterMap (firstOfClass key d)).map (fun r => (d[r]?).map key) = S.map (fun i => (d[i]?).map key)
  | [], _ => rfl
  | i :: S, h => by
    have hi : i < d.length := h i (by simp)
    have ih := firstOfClass_key key d S (fun j hj => h j (by simp [hj]))
    have hsome : ∃ r, firstOfClass key d i = some r ∧ (d[r]?).map key = (d[i]?).map key := by
      unfold firstOfClass
      rw [List.getElem?_eq_getElem hi]
      simp only []
      have hex : (d.findIdx? fun y => decide (key y = key d[i])).isSome := by
        rw [List.findIdx?_isSome]
        exact List.any_eq_true.mpr ⟨d[i], List.getElem_mem hi, by simp⟩
      obtain ⟨r, hr⟩ := Option.isSome_iff_exists.mp hex
      refine ⟨r, hr, ?_⟩
      obtain ⟨hrl, hp, _⟩ := List.findIdx?_eq_some_iff_getElem.mp hr
      simp only [List.getElem?_eq_getElem hrl, Option.map_some, Option.some.injEq]
      simpa using hp
    obtain ⟨r, hr, hk⟩ := hsome
    simp only [List.filterMap_cons, hr, List.map_cons, hk, ih]

/-- **the keys of the welded corners**: for a well-formed mesh whose attribute `k` reads `c` per corner, the welded
    mesh's attribute `k` has, per corner and in order, exactly the keys of `survivingCorners key c` — a function of
    the input's per-corner content only (vertex numbering, sharing, unreferenced vertices do not matter). -/
theorem weld_keyCorners [DecidableEq α] {m W : MeshVal α} (h : WF m) {k : AttrKey} {key : α → K}
    (hw : m.weld k key = some W) {c : List (Option α)} (hc : m.cornersOf k = some c) :
    (W.cornersOf k).map (List.map (Option.map key)) = some ((survivingCorners key c).map (Option.map key)) := by
  obtain ⟨_, _, _, hcor⟩ := weld_spec h hw
  cases hd : m.attr? k with
  | none => simp [cornersOf, hd] at hc
  | some d =>
    rw [hd] at hcor
    have hc' : c = m.indices.map fun i => d[i]? := by
      simp only [cornersOf, hd, Option.map_some, Option.some.injEq] at hc; exact hc.symm
    have hdl : d.length = m.attrLen := h.1 _ (Attrs.find?_mem hd)
    rw [cornersOf_congr hcor k]
    have hattr : (m.setIndices (weldReindex key d m.indices)).attr? k = some d := hd
    simp only [cornersOf, hattr, Option.map_some, Option.some.injEq]
    show List.map (Option.map key) (List.map (fun i => d[i]?) (weldReindex key d m.indices)) = _
    rw [List.map_map]
    have hS : ∀ i ∈ untriples ((triples m.indices).filter (distinctKeys key d)), i < d.length := by
      rw [forall_mem_untriples]
      intro t ht
      have := mem_of_mem_triples (List.mem_filter.mp ht).1
      rw [hdl]; exact ⟨h.2.1 _ this.1, h.2.1 _ this.2.1, h.2.1 _ this.2.2⟩
    have := firstOfClass_key key d _ hS
    simp only [weldReindex]
    show List.map (fun r => Option.map key d[r]?) _ = _
    rw [this, hc', ← survivors_map, List.map_map]
    rfl

/-- **weld_unweld**: welding the unwelded mesh gives the same surviving triangles, in the same order, with the same
    key at every corner, as welding the mesh itself. (The other attributes of a corner are those of the first VERTEX
    of its key class in `weld m`, and of the first CORNER of its key class in `weld (unweld m)`: equal "up to the key".) -/
theorem weld_unweld [DecidableEq α] {m W W' : MeshVal α} (h : WF m) {k : AttrKey} {key : α → K}
    (hw : m.weld k key = some W) (hw' : m.unweld.weld k key = some W') :
    (W'.cornersOf k).map (List.map (Option.map key)) = (W.cornersOf k).map (List.map (Option.map key)) ∧
    (W'.cornersOf k).map List.length = (W.cornersOf k).map List.length := by
  have hcu : m.unweld.cornersOf k = m.cornersOf k := cornersOf_congr (unweld_corners h) k
  cases hc : m.cornersOf k with
  | none =>
    -- impossible: weld succeeded, so the attribute exists
    obtain ⟨_, d, hd, _⟩ := weld_eq hw
    simp [cornersOf, hd] at hc
  | some c =>
    have h1 := weld_keyCorners h hw hc
    have h2 := weld_keyCorners (unweld_rebuilt h).1 hw' (hcu.trans hc)
    have heq := h2.trans h1.symm
    exact ⟨heq, by simpa [Option.map_map, Function.comp_def] using congrArg (Option.map List.length) heq⟩

example : ∃ W W', sample.weld ⟨3, "Position"⟩ (· % 3) = some W ∧ sample.unweld.weld ⟨3, "Position"⟩ (· % 3) = some W' ∧
    (W.cornersOf ⟨3, "Position"⟩).map (List.map (Option.map (· % 3))) = some [some 1, some 0, some 2] ∧
    (W'.cornersOf ⟨3, "Position"⟩).map (List.map (Option.map (· % 3))) = some [some 1, some 0, some 2] :=
  ⟨_, _, rfl, rfl, by decide +kernel, by decide +kernel⟩

end PolyVerif.C03
