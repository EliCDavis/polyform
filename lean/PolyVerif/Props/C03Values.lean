/-
  C03 — value clauses of the attribute transforms, stated independently of the model's own lambda.

  `Props/C03.lean` proves `Changed k f m m'` with `f` the function written in `Model/MeshTransforms.lean`
  (that half is definitional: it pins WHICH function is applied and that nothing else changes).  Here the
  functions themselves are characterised over ℝ by properties that do not mention how they are computed:
  translate keeps differences, scale-about-o fixes o and multiplies offsets, rotation keeps lengths and
  distances (scaled by |q|², 1 for a unit quaternion — the regenerated `Quaternion.Rotate` of C17), centring
  puts the bounding-box midpoint at the origin, normalising makes the longest vector have length 1.
  The same predicates are evaluated (at Float, with a tolerance) on the IMPLEMENTATION's output by the oracle
  `c03.holds.post_spec`.
-/
import PolyVerif.Props.C17
import PolyVerif.Model.MeshTransforms

namespace PolyVerif.C03
open PolyVerif PolyVerif.Gen PolyVerif.Gen.quaternion PolyVerif.Mesh PolyVerif.Mesh.MeshVal

abbrev R3 := V3 ℝ

/-! ### translate: `v ↦ v + t` -/

/-- differences of positions are unchanged, and every vertex moves by exactly `t` -/
theorem translate_post (t u v : R3) : (u.Add t).Sub (v.Add t) = u.Sub v ∧ (v.Add t).Sub v = t := by
  constructor <;> ext <;> simp [V3.Add, V3.Sub]

/-! ### scale about `o`: `v ↦ o + (v - o) ∘ a` -/

/-- `o` is a fixed point and offsets from `o` are multiplied component-wise by `a` -/
theorem scaleAbout_post (o a v : R3) :
    o.Add ((o.Sub o).MultByVector a) = o ∧
    (o.Add ((v.Sub o).MultByVector a)).Sub o = (v.Sub o).MultByVector a := by
  constructor <;> ext <;> simp [V3.Add, V3.Sub, V3.MultByVector]

/-! ### rotate: `v ↦ q.Rotate v` (the function C17 proves to be a rotation) -/

theorem sub_eq_add_scale (u v : R3) : u.Sub v = u.Add (v.Scale (-1)) := by
  ext <;> simp [V3.Sub, V3.Add, V3.Scale] <;> ring

/-- rotation is linear (`C17.quat_rotate_add`, `C17.quat_rotate_smul`), so it commutes with differences -/
theorem rotate_sub (q : C17.Q) (u v : R3) : (q.Rotate u).Sub (q.Rotate v) = q.Rotate (u.Sub v) := by
  rw [sub_eq_add_scale u v, C17.quat_rotate_add, C17.quat_rotate_smul, ← sub_eq_add_scale]

/-- lengths and pairwise distances are multiplied by `|q|²`; for a unit quaternion they are preserved -/
theorem rotate_post (q : C17.Q) (u v : R3) :
    (q.Rotate v).Dot (q.Rotate v) = (C17.normSq q) ^ 2 * v.Dot v ∧
    ((q.Rotate u).Sub (q.Rotate v)).Dot ((q.Rotate u).Sub (q.Rotate v)) = (C17.normSq q) ^ 2 * (u.Sub v).Dot (u.Sub v) := by
  refine ⟨C17.quat_rotate_norm_general q v, ?_⟩
  rw [rotate_sub]; exact C17.quat_rotate_norm_general q (u.Sub v)

theorem rotate_unit_post (q : C17.Q) (hq : C17.normSq q = 1) (u v : R3) :
    (q.Rotate v).Length = v.Length ∧ ((q.Rotate u).Sub (q.Rotate v)).Length = (u.Sub v).Length := by
  refine ⟨C17.quat_rotate_norm q hq v, ?_⟩
  rw [rotate_sub]; exact C17.quat_rotate_norm q hq (u.Sub v)

example : C17.normSq (⟨⟨0, 0, 1⟩, 0⟩ : C17.Q) = 1 := by simp [C17.normSq, V3.Dot]

/-! ### apply TRS: rotate(scale ∘ v) + t -/

theorem applyTRS_post (t : trs.TRS ℝ) (u v : R3) :
    (t.Transform u).Sub (t.Transform v) = t.rotation.Rotate (t.scale.MultByVector (u.Sub v)) := by
  rw [C17.trs_transform, C17.trs_transform, (translate_post t.position _ _).1, rotate_sub]
  congr 1
  ext <;> simp [V3.Sub, V3.MultByVector] <;> ring

/-! ### centre: `v ↦ v - midpoint(bounding box)`

The Go loop starts its running minimum / maximum at ±Inf; on a non-empty array that is the fold started at
the first element (IEEE: `min(+Inf, x) = x`), which is how it is stated over ℝ (ℝ has no infinity). -/

def lo1 (x : ℝ) (xs : List ℝ) : ℝ := xs.foldl min x
def hi1 (x : ℝ) (xs : List ℝ) : ℝ := xs.foldl max x

theorem foldl_min_sub (c : ℝ) : ∀ (xs : List ℝ) (x : ℝ), (xs.map (· - c)).foldl min (x - c) = xs.foldl min x - c
  | [], _ => rfl
  | y :: ys, x => by
    simp only [List.map_cons, List.foldl_cons]
    rw [min_sub_sub_right, foldl_min_sub c ys]

theorem foldl_max_sub (c : ℝ) : ∀ (xs : List ℝ) (x : ℝ), (xs.map (· - c)).foldl max (x - c) = xs.foldl max x - c
  | [], _ => rfl
  | y :: ys, x => by
    simp only [List.map_cons, List.foldl_cons]
    rw [max_sub_sub_right, foldl_max_sub c ys]

/-- per axis: after subtracting the bounding-interval midpoint `c = (lo + hi) / 2`, the bounding interval of the
    result is symmetric about 0 — its midpoint is 0 -/
theorem center_post (x : ℝ) (xs : List ℝ) :
    let c := (lo1 x xs + hi1 x xs) / 2
    (lo1 (x - c) (xs.map (· - c)) + hi1 (x - c) (xs.map (· - c))) / 2 = 0 := by
  intro c
  simp only [lo1, hi1, foldl_min_sub, foldl_max_sub]
  simp only [c, lo1, hi1]; ring

example : (lo1 1 [5, -3] + hi1 1 [5, -3]) / 2 = 1 := by norm_num [lo1, hi1]

/-! ### normalise: `v ↦ v / L`, `L` the longest length -/

/-- when `L > 0` is the longest length in the array (attained by `w`, an upper bound for every `v`), every
    normalised vector has length ≤ 1 and the longest one has length exactly 1 -/
theorem normalize_post (d : List R3) (w : R3) (hw : w ∈ d) (hpos : 0 < w.Length) (hmax : ∀ v ∈ d, v.Length ≤ w.Length) :
    (∀ v ∈ d, (v.DivByConstant w.Length).Length ≤ 1) ∧ (w.DivByConstant w.Length).Length = 1 := by
  constructor
  · intro v hv
    rw [V3.length_divByConstant v hpos, div_le_one hpos]; exact hmax v hv
  · rw [V3.length_divByConstant w hpos, div_self hpos.ne']

end PolyVerif.C03
