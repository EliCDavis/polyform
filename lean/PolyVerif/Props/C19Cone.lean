/-
  C19, rounded cone — `Gen.sdf.RoundedCone` (regenerated from /repo/math/sdf/rounded_cone.go on every run) at ℝ.

  ALL parameters.  The sign, zero-set, Lipschitz and exact-distance theorems named `…_all` hold for every
  `a b r1 r2` (including `a = b`, nested balls, negative radii: an empty ball changes nothing).  The source has two
  regimes, separated exactly by the guard

      hg : |r1 − r2| < a.Distance b          (the radii differ by less than the axis length; ⇔ `a2 > 0`, `Cone.a2_nonpos_iff`)

  * under the guard the closure is Quilez' three-branch formula: `roundedCone_profile` (2-D profile of cylindrical
    coordinates) and the `…_profile` sign/zero forms need `hg`;
  * otherwise one ball contains the other (or touches it from inside) and the source returns the larger ball's sphere
    field: `roundedCone_nested`, `roundedCone_same_centre`.
  In BOTH regimes the field is the MINIMUM over `t ∈ [0, 1]` of `|p − (a + t(b − a))| − (r1 + t(r2 − r1))`
  (`roundedCone_isLeast_all`); Lipschitz bound, sign, zero set and the outside witness are then the `leastGap_*` lemmas
  of Props/C19.lean.

  The early return for nested balls is needed: outside the guard `a2 = l2 − rr² ≤ 0`, the side branch of the bare
  three-branch formula takes the square root of a non-positive number and the sign is wrong —
  `roundedCone_guard_needed`, `roundedCone_guard_sharp` are closed witnesses about `coneFormulaOld`, the closure body
  without the early return.

  The branch tests of the source are, exactly, `ℓ > c·L` and `ℓ < 0` for the affine functional `ℓ = c·h − s·ρ`
  (`Cone.test1_iff`, `Cone.test2_iff`); on the boundary lines the adjacent formulas agree (`coneProfile_boundary_a/_b`).
-/
import PolyVerif.Model.SdfVarLine
import PolyVerif.Props.C19
import PolyVerif.Lemmas.RoundedCone
import Mathlib.Analysis.Convex.Join
import Mathlib.Analysis.Normed.Module.Convex

namespace PolyVerif
namespace C19
open Gen Gen.sdf

/-- `s = (r1 − r2)/L`: sine of the half opening angle -/
noncomputable def coneS (a b : P3) (r1 r2 : ℝ) : ℝ := (r1 - r2) / a.Distance b

/-- `c = √(1 − s²)`: cosine of the half opening angle -/
noncomputable def coneC (a b : P3) (r1 r2 : ℝ) : ℝ := Real.sqrt (1 - coneS a b r1 r2 ^ 2)

/-- `ℓ = c·h − s·ρ`: the affine functional whose level lines `ℓ = 0`, `ℓ = c·L` separate the three regions -/
noncomputable def coneEll (a b : P3) (r1 r2 : ℝ) (p : P3) : ℝ :=
  coneC a b r1 r2 * coneH a b p - coneS a b r1 r2 * coneRho a b p

/-- the 2-D profile: sphere cap at `b`, sphere cap at `a`, slanted side -/
noncomputable def coneProfile (L r1 r2 h ρ : ℝ) : ℝ :=
  let s := (r1 - r2) / L
  let c := Real.sqrt (1 - s ^ 2)
  let ℓ := c * h - s * ρ
  if c * L < ℓ then Real.sqrt ((h - L) ^ 2 + ρ ^ 2) - r2
  else if ℓ < 0 then Real.sqrt (h ^ 2 + ρ ^ 2) - r1
  else ρ * c + h * s - r1

/-! `coneProfile` is `Cone.prof` of Lemmas/RoundedCone.lean, where the work is done, at the cone's own `s`, `c`; the coordinates
`coneH`, `coneRho` are declared in Lemmas/SdfProfile.lean. -/

theorem coneProfile_eq (L r1 r2 h ρ : ℝ) :
    coneProfile L r1 r2 h ρ = Cone.prof L ((r1 - r2) / L) (Real.sqrt (1 - ((r1 - r2) / L) ^ 2)) r1 r2 h ρ := rfl

theorem coneRho_nonneg (a b p : P3) : 0 ≤ coneRho a b p := Real.sqrt_nonneg _

/-- `ρ² = |p − a|² − h²` (Cauchy–Schwarz makes the radicand non-negative) -/
theorem coneRho_sq (a b p : P3) (hab : a ≠ b) :
    coneRho a b p ^ 2 = (p.Sub a).Dot (p.Sub a) - coneH a b p ^ 2 :=
  Cone.radial_sq a b p (V3.distance_pos hab)

/-- `ρ` is the distance from `p` to the foot of the perpendicular on the axis line -/
theorem coneRho_eq_distance (a b p : P3) (hab : a ≠ b) :
    coneRho a b p = p.Distance (segPoint a b (coneH a b p / a.Distance b)) := by
  have hL := V3.distance_pos hab
  have := Cone.distance_axis_point a b p hL (coneH a b p / a.Distance b)
  have e : coneH a b p - coneH a b p / a.Distance b * a.Distance b = 0 := by
    field_simp; ring
  rw [this, e]; simp only [ne_eq, OfNat.ofNat_ne_zero, not_false_eq_true, zero_pow, zero_add]
  exact (Real.sqrt_sq (coneRho_nonneg a b p)).symm

theorem cone_guard_ne {a b : P3} {r1 r2 : ℝ} (hg : |r1 - r2| < a.Distance b) : a ≠ b := by
  rintro rfl
  rw [V3.distance_self] at hg
  exact absurd hg (not_lt.mpr (abs_nonneg _))

theorem cone_guard_facts {a b : P3} {r1 r2 : ℝ} (hg : |r1 - r2| < a.Distance b) :
    0 < a.Distance b ∧ 0 < coneC a b r1 r2 ∧ coneS a b r1 r2 ^ 2 + coneC a b r1 r2 ^ 2 = 1 ∧
      r1 - coneS a b r1 r2 * a.Distance b = r2 := by
  obtain ⟨hL, hc, hsc, hrr⟩ := Cone.guard_facts hg
  exact ⟨hL, hc, hsc, by unfold coneS; linarith⟩

/-- the generated closure IS the 2-D profile of the cylindrical coordinates of `p` -/
theorem roundedCone_profile (a b : P3) (r1 r2 : ℝ) (hg : |r1 - r2| < a.Distance b) (p : P3) :
    RoundedCone a b r1 r2 p = coneProfile (a.Distance b) r1 r2 (coneH a b p) (coneRho a b p) := by
  rw [coneProfile_eq]; exact Cone.roundedCone_eq_prof a b r1 r2 hg p

/-- the same, with the three regions written through `ℓ`, `s`, `c` -/
theorem roundedCone_profile' (a b : P3) (r1 r2 : ℝ) (hg : |r1 - r2| < a.Distance b) (p : P3) :
    RoundedCone a b r1 r2 p =
      if coneC a b r1 r2 * a.Distance b < coneEll a b r1 r2 p then
        Real.sqrt ((coneH a b p - a.Distance b) ^ 2 + coneRho a b p ^ 2) - r2
      else if coneEll a b r1 r2 p < 0 then Real.sqrt (coneH a b p ^ 2 + coneRho a b p ^ 2) - r1
      else coneRho a b p * coneC a b r1 r2 + coneH a b p * coneS a b r1 r2 - r1 := by
  rw [roundedCone_profile a b r1 r2 hg]; rfl

/-- on the boundary line `ℓ = 0` the cap-at-`a` formula and the side formula agree -/
theorem coneProfile_boundary_a {s c h ρ : ℝ} (hsc : s ^ 2 + c ^ 2 = 1) (hc : 0 < c) (hρ : 0 ≤ ρ)
    (hl : c * h - s * ρ = 0) : Real.sqrt (h ^ 2 + ρ ^ 2) = ρ * c + h * s := by
  have hm : 0 ≤ ρ * c + h * s := by
    have : c * (ρ * c + h * s) = ρ := by linear_combination s * hl + ρ * hsc
    by_contra hneg
    have := mul_neg_of_pos_of_neg hc (not_le.mp hneg)
    linarith
  have e : h ^ 2 + ρ ^ 2 = (ρ * c + h * s) ^ 2 := by
    linear_combination (c * h - s * ρ) * hl - (h ^ 2 + ρ ^ 2) * hsc
  rw [e, Real.sqrt_sq hm]

/-- on the boundary line `ℓ = c·L` the cap-at-`b` formula and the side formula agree (`r2 = r1 − s·L`) -/
theorem coneProfile_boundary_b {L s c r1 r2 h ρ : ℝ} (hsc : s ^ 2 + c ^ 2 = 1) (hc : 0 < c) (hρ : 0 ≤ ρ)
    (hr : r1 - s * L = r2) (hl : c * h - s * ρ = c * L) :
    Real.sqrt ((h - L) ^ 2 + ρ ^ 2) - r2 = ρ * c + h * s - r1 := by
  rw [coneProfile_boundary_a hsc hc hρ (h := h - L) (by linarith)]
  linarith

/-! ### rounded cone, ALL parameters: the field is the least gap to the balls along the axis -/

section
variable (a b : P3) (r1 r2 : ℝ)

/-- lower bound: for every `t ∈ [0, 1]` the field is at most the signed gap to the ball centred at
    `a + t(b − a)` with the linearly interpolated radius `r1 + t(r2 − r1)` -/
theorem roundedCone_le_ball_all (p : P3)
    (t : ℝ) (h0 : 0 ≤ t) (h1 : t ≤ 1) :
    RoundedCone a b r1 r2 p ≤ p.Distance (segPoint a b t) - (r1 + t * (r2 - r1)) :=
  Cone.roundedCone_le_ball a b r1 r2 p h0 h1

theorem roundedCone_attained_all (p : P3) :
    ∃ t, 0 ≤ t ∧ t ≤ 1 ∧ RoundedCone a b r1 r2 p = p.Distance (segPoint a b t) - (r1 + t * (r2 - r1)) :=
  Cone.roundedCone_attained a b r1 r2 p

theorem roundedCone_isLeast_all (p : P3) :
    IsLeast {d | ∃ t, 0 ≤ t ∧ t ≤ 1 ∧ d = p.Distance (segPoint a b t) - (r1 + t * (r2 - r1))}
      (RoundedCone a b r1 r2 p) := by
  constructor
  · obtain ⟨t, h0, h1, h⟩ := roundedCone_attained_all a b r1 r2 p
    exact ⟨t, h0, h1, h⟩
  · rintro d ⟨t, h0, h1, rfl⟩
    exact roundedCone_le_ball_all a b r1 r2 p t h0 h1

/-- the rounded cone is 1-Lipschitz -/
theorem roundedCone_lipschitz_all : Lipschitz1 (RoundedCone a b r1 r2) :=
  leastGap_lipschitz (roundedCone_le_ball_all a b r1 r2) (roundedCone_attained_all a b r1 r2)

/-- exact-distance lower bound: no surface point is closer to `p` than `|f p|` -/
theorem roundedCone_exact_le_all (p s : P3)
    (hs : RoundedCone a b r1 r2 s = 0) : |RoundedCone a b r1 r2 p| ≤ p.Distance s :=
  lipschitz_zero_bound (roundedCone_lipschitz_all a b r1 r2) p s hs

/-- exact distance, attained, OUTSIDE or ON the shape (radii ≥ 0): the radial projection of `p` onto the nearest ball of
    the family is a surface point at distance exactly `f p`; with `roundedCone_exact_le`, `f p` IS the distance from
    `p` to the surface there -/
theorem roundedCone_exact_attained_outside_all (hr1 : 0 ≤ r1) (hr2 : 0 ≤ r2) (p : P3)
    (hp : 0 ≤ RoundedCone a b r1 r2 p) :
    ∃ s : P3, RoundedCone a b r1 r2 s = 0 ∧ p.Distance s = RoundedCone a b r1 r2 p :=
  leastGap_exact_outside (roundedCone_le_ball_all a b r1 r2) (roundedCone_attained_all a b r1 r2)
    (fun t h0 h1 => by linarith [mul_nonneg (sub_nonneg.mpr h1) hr1, mul_nonneg h0 hr2]) hp

/-- negative exactly inside the union of the open balls `B(a + t(b − a), r1 + t(r2 − r1))`, `t ∈ [0, 1]` -/
theorem roundedCone_neg_iff_all (p : P3) :
    RoundedCone a b r1 r2 p < 0 ↔
      ∃ t, 0 ≤ t ∧ t ≤ 1 ∧ p.Distance (segPoint a b t) < r1 + t * (r2 - r1) :=
  leastGap_neg_iff (roundedCone_le_ball_all a b r1 r2) (roundedCone_attained_all a b r1 r2) p

/-- zero exactly on the boundary of that union: some ball of the family has `p` on its sphere and none has `p` inside -/
theorem roundedCone_zero_iff_all (p : P3) :
    RoundedCone a b r1 r2 p = 0 ↔
      ∃ t, 0 ≤ t ∧ t ≤ 1 ∧ p.Distance (segPoint a b t) = r1 + t * (r2 - r1) ∧
        ∀ t', 0 ≤ t' → t' ≤ 1 → r1 + t' * (r2 - r1) ≤ p.Distance (segPoint a b t') :=
  leastGap_zero_iff (roundedCone_le_ball_all a b r1 r2) (roundedCone_attained_all a b r1 r2) p

/-- positive exactly strictly outside every closed ball of the family -/
theorem roundedCone_pos_iff_all (p : P3) :
    0 < RoundedCone a b r1 r2 p ↔
      ∀ t, 0 ≤ t → t ≤ 1 → r1 + t * (r2 - r1) < p.Distance (segPoint a b t) :=
  leastGap_pos_iff (roundedCone_le_ball_all a b r1 r2) (roundedCone_attained_all a b r1 r2) p

end

/-! The theorems from here to `roundedCone_pos_iff`, and `roundedCone_neg_iff_convexHull` below, are the `…_all` statements
above under the same name without the suffix, each with the guard `_hg` as a hypothesis it does not need. -/

/-- `roundedCone_le_ball_all` with the guard as an unneeded hypothesis -/
theorem roundedCone_le_ball (a b : P3) (r1 r2 : ℝ) (_hg : |r1 - r2| < a.Distance b) (p : P3)
    (t : ℝ) (h0 : 0 ≤ t) (h1 : t ≤ 1) :
    RoundedCone a b r1 r2 p ≤ p.Distance (segPoint a b t) - (r1 + t * (r2 - r1)) :=
  roundedCone_le_ball_all a b r1 r2 p t h0 h1

/-- `roundedCone_attained_all` with the guard as an unneeded hypothesis -/
theorem roundedCone_attained (a b : P3) (r1 r2 : ℝ) (_hg : |r1 - r2| < a.Distance b) (p : P3) :
    ∃ t, 0 ≤ t ∧ t ≤ 1 ∧ RoundedCone a b r1 r2 p = p.Distance (segPoint a b t) - (r1 + t * (r2 - r1)) :=
  roundedCone_attained_all a b r1 r2 p

/-- `roundedCone_isLeast_all` with the guard as an unneeded hypothesis -/
theorem roundedCone_isLeast (a b : P3) (r1 r2 : ℝ) (_hg : |r1 - r2| < a.Distance b) (p : P3) :
    IsLeast {d | ∃ t, 0 ≤ t ∧ t ≤ 1 ∧ d = p.Distance (segPoint a b t) - (r1 + t * (r2 - r1))}
      (RoundedCone a b r1 r2 p) :=
  roundedCone_isLeast_all a b r1 r2 p

/-- `roundedCone_lipschitz_all` with the guard as an unneeded hypothesis -/
theorem roundedCone_lipschitz (a b : P3) (r1 r2 : ℝ) (_hg : |r1 - r2| < a.Distance b) :
    Lipschitz1 (RoundedCone a b r1 r2) :=
  roundedCone_lipschitz_all a b r1 r2

/-- `roundedCone_exact_le_all` with the guard as an unneeded hypothesis -/
theorem roundedCone_exact_le (a b : P3) (r1 r2 : ℝ) (_hg : |r1 - r2| < a.Distance b) (p s : P3)
    (hs : RoundedCone a b r1 r2 s = 0) : |RoundedCone a b r1 r2 p| ≤ p.Distance s :=
  roundedCone_exact_le_all a b r1 r2 p s hs

/-- `roundedCone_exact_attained_outside_all` with the guard as an unneeded hypothesis -/
theorem roundedCone_exact_attained_outside (a b : P3) (r1 r2 : ℝ) (_hg : |r1 - r2| < a.Distance b)
    (hr1 : 0 ≤ r1) (hr2 : 0 ≤ r2) (p : P3) (hp : 0 ≤ RoundedCone a b r1 r2 p) :
    ∃ s : P3, RoundedCone a b r1 r2 s = 0 ∧ p.Distance s = RoundedCone a b r1 r2 p :=
  roundedCone_exact_attained_outside_all a b r1 r2 hr1 hr2 p hp

/-- `roundedCone_neg_iff_all` with the guard as an unneeded hypothesis -/
theorem roundedCone_neg_iff (a b : P3) (r1 r2 : ℝ) (_hg : |r1 - r2| < a.Distance b) (p : P3) :
    RoundedCone a b r1 r2 p < 0 ↔
      ∃ t, 0 ≤ t ∧ t ≤ 1 ∧ p.Distance (segPoint a b t) < r1 + t * (r2 - r1) :=
  roundedCone_neg_iff_all a b r1 r2 p

/-- `roundedCone_zero_iff_all` with the guard as an unneeded hypothesis -/
theorem roundedCone_zero_iff (a b : P3) (r1 r2 : ℝ) (_hg : |r1 - r2| < a.Distance b) (p : P3) :
    RoundedCone a b r1 r2 p = 0 ↔
      ∃ t, 0 ≤ t ∧ t ≤ 1 ∧ p.Distance (segPoint a b t) = r1 + t * (r2 - r1) ∧
        ∀ t', 0 ≤ t' → t' ≤ 1 → r1 + t' * (r2 - r1) ≤ p.Distance (segPoint a b t') :=
  roundedCone_zero_iff_all a b r1 r2 p

/-- `roundedCone_pos_iff_all` with the guard as an unneeded hypothesis -/
theorem roundedCone_pos_iff (a b : P3) (r1 r2 : ℝ) (_hg : |r1 - r2| < a.Distance b) (p : P3) :
    0 < RoundedCone a b r1 r2 p ↔
      ∀ t, 0 ≤ t → t ≤ 1 → r1 + t * (r2 - r1) < p.Distance (segPoint a b t) :=
  roundedCone_pos_iff_all a b r1 r2 p

/-- the field's value has a property exactly when, in the region of `p`, that region's formula has it -/
theorem roundedCone_profile_cases (a b : P3) (r1 r2 : ℝ) (hg : |r1 - r2| < a.Distance b) (p : P3) (R : ℝ → Prop) :
    R (RoundedCone a b r1 r2 p) ↔
      (coneEll a b r1 r2 p < 0 ∧ R (Real.sqrt (coneH a b p ^ 2 + coneRho a b p ^ 2) - r1)) ∨
      (0 ≤ coneEll a b r1 r2 p ∧ coneEll a b r1 r2 p ≤ coneC a b r1 r2 * a.Distance b ∧
        R (coneRho a b p * coneC a b r1 r2 + coneH a b p * coneS a b r1 r2 - r1)) ∨
      (coneC a b r1 r2 * a.Distance b < coneEll a b r1 r2 p ∧
        R (Real.sqrt ((coneH a b p - a.Distance b) ^ 2 + coneRho a b p ^ 2) - r2)) := by
  obtain ⟨hL, hc, -, -⟩ := cone_guard_facts hg
  have hcL := mul_pos hc hL
  rw [roundedCone_profile' a b r1 r2 hg]
  split_ifs with c1 c2
  · refine ⟨fun h => Or.inr (Or.inr ⟨c1, h⟩), ?_⟩
    rintro (⟨h, -⟩ | ⟨-, h, -⟩ | ⟨-, h⟩)
    · linarith
    · linarith
    · exact h
  · refine ⟨fun h => Or.inl ⟨c2, h⟩, ?_⟩
    rintro (⟨-, h⟩ | ⟨h, -, -⟩ | ⟨h, -⟩)
    · exact h
    · linarith
    · linarith
  · refine ⟨fun h => Or.inr (Or.inl ⟨not_lt.mp c2, not_lt.mp c1, h⟩), ?_⟩
    rintro (⟨h, -⟩ | ⟨-, -, h⟩ | ⟨h, -⟩)
    · exact absurd h c2
    · exact h
    · exact absurd h c1

/-- sign in profile coordinates: inside the cap at `a`, below the slanted side, or inside the cap at `b` -/
theorem roundedCone_neg_iff_profile (a b : P3) (r1 r2 : ℝ) (hg : |r1 - r2| < a.Distance b) (p : P3) :
    RoundedCone a b r1 r2 p < 0 ↔
      (coneEll a b r1 r2 p < 0 ∧ Real.sqrt (coneH a b p ^ 2 + coneRho a b p ^ 2) < r1) ∨
      (0 ≤ coneEll a b r1 r2 p ∧ coneEll a b r1 r2 p ≤ coneC a b r1 r2 * a.Distance b ∧
        coneRho a b p * coneC a b r1 r2 + coneH a b p * coneS a b r1 r2 < r1) ∨
      (coneC a b r1 r2 * a.Distance b < coneEll a b r1 r2 p ∧
        Real.sqrt ((coneH a b p - a.Distance b) ^ 2 + coneRho a b p ^ 2) < r2) := by
  simpa only [sub_neg] using roundedCone_profile_cases a b r1 r2 hg p (· < 0)

/-- zero set in profile coordinates: on the sphere about `a`, on the slanted line, or on the sphere about `b`,
    each within its own region -/
theorem roundedCone_zero_iff_profile (a b : P3) (r1 r2 : ℝ) (hg : |r1 - r2| < a.Distance b) (p : P3) :
    RoundedCone a b r1 r2 p = 0 ↔
      (coneEll a b r1 r2 p < 0 ∧ Real.sqrt (coneH a b p ^ 2 + coneRho a b p ^ 2) = r1) ∨
      (0 ≤ coneEll a b r1 r2 p ∧ coneEll a b r1 r2 p ≤ coneC a b r1 r2 * a.Distance b ∧
        coneRho a b p * coneC a b r1 r2 + coneH a b p * coneS a b r1 r2 = r1) ∨
      (coneC a b r1 r2 * a.Distance b < coneEll a b r1 r2 p ∧
        Real.sqrt ((coneH a b p - a.Distance b) ^ 2 + coneRho a b p ^ 2) = r2) := by
  simpa only [sub_eq_zero] using roundedCone_profile_cases a b r1 r2 hg p (· = 0)

/-! ### rounded cone: the negative set is the convex hull of the two open balls -/

/-- the union of the interpolated open balls along the axis is the convex hull of the two end balls -/
theorem balls_union_eq_convexHull (a b : P3) (r1 r2 : ℝ) (hr1 : 0 < r1) (hr2 : 0 < r2) (p : P3) :
    (∃ t, 0 ≤ t ∧ t ≤ 1 ∧ p.Distance (segPoint a b t) < r1 + t * (r2 - r1)) ↔
      toE p ∈ convexHull ℝ (Metric.ball (toE a) r1 ∪ Metric.ball (toE b) r2) := by
  rw [convexHull_union ⟨toE a, Metric.mem_ball_self hr1⟩ ⟨toE b, Metric.mem_ball_self hr2⟩,
    (convex_ball _ _).convexHull_eq, (convex_ball _ _).convexHull_eq, mem_convexJoin]
  constructor
  · rintro ⟨t, h0, h1, ht⟩
    rw [← dist_toE, toE_segPoint] at ht
    set r := r1 + t * (r2 - r1) with hr
    have hrpos : 0 < r := by
      have : r = (1 - t) * r1 + t * r2 := by rw [hr]; ring
      rw [this]
      rcases h0.lt_or_eq with h | h
      · have := mul_pos h hr2; have := mul_nonneg (sub_nonneg.mpr h1) hr1.le; linarith
      · subst h; simpa using hr1
    set v := toE p - (toE a + t • (toE b - toE a)) with hv
    have hball : ∀ (c : E3) (ρ : ℝ), 0 < ρ → c + (ρ / r) • v ∈ Metric.ball c ρ := by
      intro c ρ hρ
      rw [Metric.mem_ball, dist_eq_norm, add_sub_cancel_left, norm_smul, Real.norm_eq_abs,
        abs_of_pos (div_pos hρ hrpos), div_mul_eq_mul_div, div_lt_iff₀ hrpos]
      exact mul_lt_mul_of_pos_left ht hρ
    refine ⟨toE a + (r1 / r) • v, hball _ _ hr1, toE b + (r2 / r) • v, hball _ _ hr2, ?_⟩
    refine ⟨1 - t, t, sub_nonneg.mpr h1, h0, by ring, ?_⟩
    have hcoef : (1 - t) * (r1 / r) + t * (r2 / r) = 1 := by
      have e1 : (1 - t) * (r1 / r) + t * (r2 / r) = ((1 - t) * r1 + t * r2) / r := by ring
      have e2 : (1 - t) * r1 + t * r2 = r := by rw [hr]; ring
      rw [e1, e2, div_self hrpos.ne']
    calc (1 - t) • (toE a + (r1 / r) • v) + t • (toE b + (r2 / r) • v)
        = (toE a + t • (toE b - toE a)) + ((1 - t) * (r1 / r) + t * (r2 / r)) • v := by module
      _ = toE p := by rw [hcoef, one_smul, hv]; abel
  · rintro ⟨x, hx, y, hy, α, β, hα, hβ, hαβ, hp⟩
    rw [Metric.mem_ball, dist_eq_norm] at hx hy
    have hβ1 : β ≤ 1 := by linarith
    refine ⟨β, hβ, hβ1, ?_⟩
    rw [← dist_toE, toE_segPoint, ← hp]
    have e : α • x + β • y - (toE a + β • (toE b - toE a)) = α • (x - toE a) + β • (y - toE b) := by
      have : α = 1 - β := by linarith
      rw [this]; module
    rw [e]
    have n1 : ‖α • (x - toE a)‖ = α * ‖x - toE a‖ := by rw [norm_smul, Real.norm_eq_abs, abs_of_nonneg hα]
    have n2 : ‖β • (y - toE b)‖ = β * ‖y - toE b‖ := by rw [norm_smul, Real.norm_eq_abs, abs_of_nonneg hβ]
    have tri := norm_add_le (α • (x - toE a)) (β • (y - toE b))
    rw [n1, n2] at tri
    have hsum : α * ‖x - toE a‖ + β * ‖y - toE b‖ < α * r1 + β * r2 := by
      rcases hα.lt_or_eq with h | h
      · have := mul_lt_mul_of_pos_left hx h
        have := mul_le_mul_of_nonneg_left hy.le hβ
        linarith
      · have hb : β = 1 := by linarith
        rw [← h, hb]; linarith
    have : α * r1 + β * r2 = r1 + β * (r2 - r1) := by
      have : α = 1 - β := by linarith
      rw [this]; ring
    linarith

/-- ALL parameters with positive radii: negative exactly inside the convex hull of the two open balls
    `B(a, r1)`, `B(b, r2)` (= the interior of the convex hull of the two closed balls) -/
theorem roundedCone_neg_iff_convexHull_all (a b : P3) (r1 r2 : ℝ) (hr1 : 0 < r1) (hr2 : 0 < r2) (p : P3) :
    RoundedCone a b r1 r2 p < 0 ↔
      toE p ∈ convexHull ℝ (Metric.ball (toE a) r1 ∪ Metric.ball (toE b) r2) := by
  rw [roundedCone_neg_iff_all a b r1 r2, balls_union_eq_convexHull a b r1 r2 hr1 hr2]

/-- `roundedCone_neg_iff_convexHull_all` with the guard as an unneeded hypothesis -/
theorem roundedCone_neg_iff_convexHull (a b : P3) (r1 r2 : ℝ) (_hg : |r1 - r2| < a.Distance b)
    (hr1 : 0 < r1) (hr2 : 0 < r2) (p : P3) :
    RoundedCone a b r1 r2 p < 0 ↔
      toE p ∈ convexHull ℝ (Metric.ball (toE a) r1 ∪ Metric.ball (toE b) r2) :=
  roundedCone_neg_iff_convexHull_all a b r1 r2 hr1 hr2 p

/-! ### nested or internally tangent balls (the complement of the guard) -/

/-- the early return of the source: when one ball contains the other (or touches it from inside; also `a = b`)
    the field is the larger ball's sphere field -/
theorem roundedCone_nested (a b : P3) (r1 r2 : ℝ) (hg : ¬ |r1 - r2| < a.Distance b) :
    RoundedCone a b r1 r2 = if r2 ≤ r1 then Sphere a r1 else Sphere b r2 :=
  Cone.roundedCone_nested a b r1 r2 hg

/-- nested case, sign: inside the larger ball -/
theorem roundedCone_nested_neg_iff (a b : P3) (r1 r2 : ℝ) (hg : ¬ |r1 - r2| < a.Distance b) (p : P3) :
    RoundedCone a b r1 r2 p < 0 ↔ if r2 ≤ r1 then p.Distance a < r1 else p.Distance b < r2 := by
  rw [roundedCone_nested a b r1 r2 hg]
  split_ifs <;> exact sphere_neg_iff _ _ _

/-- `a = b` is covered (it violates the guard): the larger of the two concentric balls -/
theorem roundedCone_same_centre (a : P3) (r1 r2 : ℝ) :
    RoundedCone a a r1 r2 = Sphere a (max r1 r2) := by
  have hg : ¬ |r1 - r2| < a.Distance a := by
    rw [V3.distance_self]; exact not_lt.mpr (abs_nonneg _)
  rw [roundedCone_nested a a r1 r2 hg]
  split_ifs with h
  · rw [max_eq_left h]
  · rw [max_eq_right (not_le.mp h).le]

/-! ### the formula without the early return is wrong outside the guard -/

/-- the closure body alone, i.e. `RoundedCone` without its early return for nested balls (for the two witnesses below;
    under the guard it is the field: `roundedCone_eq_formulaOld`) -/
noncomputable def coneFormulaOld (a b : P3) (r1 r2 : ℝ) (p : P3) : ℝ :=
  Cone.core ((b.Sub a).Dot (b.Sub a)) r1 r2 ((p.Sub a).Dot (b.Sub a))
    (Gen.sdf.dot2 (((p.Sub a).Scale ((b.Sub a).Dot (b.Sub a))).Sub ((b.Sub a).Scale ((p.Sub a).Dot (b.Sub a)))))

theorem roundedCone_eq_formulaOld (a b : P3) (r1 r2 : ℝ) (hg : |r1 - r2| < a.Distance b) (p : P3) :
    RoundedCone a b r1 r2 p = coneFormulaOld a b r1 r2 p :=
  Cone.roundedCone_eq_core a b r1 r2 hg p

/-- outside the guard (`r1 − r2 > |b − a|`: the ball about `b` lies inside the ball about `a`) the bare formula has
    the wrong sign: a point strictly inside the big ball gets a positive value -/
theorem roundedCone_guard_needed :
    ∃ (a b : P3) (r1 r2 : ℝ) (p : P3), a ≠ b ∧ 0 < r2 ∧ r2 < r1 ∧ p.Distance a < r1 ∧ 0 < coneFormulaOld a b r1 r2 p := by
  refine ⟨⟨0, 0, 0⟩, ⟨1, 0, 0⟩, 3, 1, ⟨-(5 / 2), 0, 0⟩, ?_, by norm_num, by norm_num, ?_, ?_⟩
  · intro h; have := congrArg V3.x h; simp at this
  · rw [V3.distance_on_x]; norm_num
  · have : coneFormulaOld (⟨0, 0, 0⟩ : P3) ⟨1, 0, 0⟩ 3 1 ⟨-(5 / 2), 0, 0⟩ = 5 / 2 := by
      simp only [coneFormulaOld, V3.Sub, V3.Dot, V3.Scale, Gen.sdf.dot2, Cone.core, Cone.sign_eq]
      norm_num
    rw [this]; norm_num

/-- the guard is sharp for the bare formula: with internally tangent balls (`r1 − r2 = |b − a|`, so `a2 = 0`) a point
    on the axis strictly outside both balls gets a negative value -/
theorem roundedCone_guard_sharp :
    ∃ (a b : P3) (r1 r2 : ℝ) (p : P3), |r1 - r2| = a.Distance b ∧ 0 < r2 ∧ r2 < r1 ∧
      r1 < p.Distance a ∧ r2 < p.Distance b ∧ coneFormulaOld a b r1 r2 p < 0 := by
  refine ⟨⟨0, 0, 0⟩, ⟨1, 0, 0⟩, 2, 1, ⟨-3, 0, 0⟩, by rw [V3.distance_on_x]; norm_num, by norm_num, by norm_num,
    by rw [V3.distance_on_x]; norm_num, by rw [V3.distance_on_x]; norm_num, ?_⟩
  have : coneFormulaOld (⟨0, 0, 0⟩ : P3) ⟨1, 0, 0⟩ 2 1 ⟨-3, 0, 0⟩ = -5 := by
    simp only [coneFormulaOld, V3.Sub, V3.Dot, V3.Scale, Gen.sdf.dot2, Cone.core, Cone.sign_eq]
    norm_num
  rw [this]; norm_num

/-- the regenerated (fixed) source at the second witness: `+1`, the true distance to the ball of radius 2 about `a` -/
example : RoundedCone (⟨0, 0, 0⟩ : P3) ⟨1, 0, 0⟩ 2 1 ⟨-3, 0, 0⟩ = 1 := by
  rw [roundedCone_nested _ _ _ _ (by rw [V3.distance_on_x]; norm_num), if_pos (by norm_num), sphere_eq,
    V3.distance_on_x]; norm_num

/-! ### VarryingThicknessLine = Union of the rounded cones of consecutive line points -/

/-- line.go:22 `VarryingThicknessLine`: the cones of consecutive `(point, radius)` pairs, handed to `Union`.
    This is the model `SdfVarLine.cones` (hand transcription of the loop, run at Float by the driver and compared with
    the Go function by the `c19.varline` lines) at the scalar ℝ — see `varLineCones_eq_model`. -/
noncomputable def varLineCones (pts : List (P3 × ℝ)) : List Field :=
  (pts.zip pts.tail).map (fun se => RoundedCone se.1.1 se.2.1 se.1.2 se.2.2)

theorem varLineCones_eq_model (pts : List (P3 × ℝ)) : varLineCones pts = SdfVarLine.cones pts := rfl

theorem varLine_eq_model (pts : List (P3 × ℝ)) :
    SdfOps.Union (varLineCones pts) = SdfVarLine.VarryingThicknessLine pts := rfl

theorem varLine_lipschitz (pts : List (P3 × ℝ)) (u : Field) (h : SdfOps.Union (varLineCones pts) = some u) :
    Lipschitz1 u := by
  refine union_lipschitz _ u h ?_
  intro f hf
  obtain ⟨se, -, rfl⟩ := List.mem_map.mp hf
  exact roundedCone_lipschitz_all _ _ _ _

/-- negative exactly inside the union, over the consecutive pairs, of the balls along the segment with linearly
    interpolated radius — for ALL radii and points (repeated points included) -/
theorem varLine_neg_iff (pts : List (P3 × ℝ)) (u : Field) (h : SdfOps.Union (varLineCones pts) = some u) (p : P3) :
    u p < 0 ↔ ∃ se ∈ pts.zip pts.tail, ∃ t, 0 ≤ t ∧ t ≤ 1 ∧
      p.Distance (segPoint se.1.1 se.2.1 t) < se.1.2 + t * (se.2.2 - se.1.2) := by
  rw [union_neg_iff _ u h]
  constructor
  · rintro ⟨f, hf, hneg⟩
    obtain ⟨se, hse, rfl⟩ := List.mem_map.mp hf
    exact ⟨se, hse, (roundedCone_neg_iff_all _ _ _ _ p).mp hneg⟩
  · rintro ⟨se, hse, ht⟩
    exact ⟨_, List.mem_map.mpr ⟨se, hse, rfl⟩, (roundedCone_neg_iff_all _ _ _ _ p).mpr ht⟩

/-- at least two line points give a field (fewer: the source panics / `Union` of nothing is `none`) -/
theorem varLine_isSome (p0 p1 : P3 × ℝ) (rest : List (P3 × ℝ)) :
    SdfOps.Union (varLineCones (p0 :: p1 :: rest)) ≠ none := by
  rw [Ne, union_none_iff]; simp [varLineCones]

/-! ### non-vacuity: concrete instances of the guard, one surface point in each of the three regions -/

/-- `a = 0`, `b = (5, 0, 0)`, `r1 = 4`, `r2 = 1`: `s = 3/5`, `c = 4/5` -/
theorem cone_example_guard : |(4 : ℝ) - 1| < (⟨0, 0, 0⟩ : P3).Distance ⟨5, 0, 0⟩ := by
  rw [V3.distance_on_x]; norm_num

example : |(4 : ℝ) - 1| < (⟨0, 0, 0⟩ : P3).Distance ⟨5, 0, 0⟩ := cone_example_guard
example : Lipschitz1 (RoundedCone (⟨0, 0, 0⟩ : P3) ⟨5, 0, 0⟩ 4 1) := roundedCone_lipschitz _ _ _ _ cone_example_guard

/-- slanted side: `(4, 2, 0)` is the point of the side above the axis point `τ = 5/2` -/
example : RoundedCone (⟨0, 0, 0⟩ : P3) ⟨5, 0, 0⟩ 4 1 ⟨4, 2, 0⟩ = 0 := by
  rw [Cone.roundedCone_eq_core _ _ _ _ cone_example_guard]
  simp only [V3.Sub, V3.Dot, V3.Scale, Gen.sdf.dot2, Cone.core, Cone.sign_eq]
  norm_num

/-- cap at `a`: `(-4, 0, 0)` -/
example : RoundedCone (⟨0, 0, 0⟩ : P3) ⟨5, 0, 0⟩ 4 1 ⟨-4, 0, 0⟩ = 0 := by
  rw [Cone.roundedCone_eq_core _ _ _ _ cone_example_guard]
  simp only [V3.Sub, V3.Dot, V3.Scale, Gen.sdf.dot2, Cone.core, Cone.sign_eq]
  norm_num

/-- cap at `b`: `(6, 0, 0)` -/
example : RoundedCone (⟨0, 0, 0⟩ : P3) ⟨5, 0, 0⟩ 4 1 ⟨6, 0, 0⟩ = 0 := by
  rw [Cone.roundedCone_eq_core _ _ _ _ cone_example_guard]
  simp only [V3.Sub, V3.Dot, V3.Scale, Gen.sdf.dot2, Cone.core, Cone.sign_eq]
  norm_num

/-- an interior point (on the axis) is negative, via the union-of-balls characterisation -/
example : RoundedCone (⟨0, 0, 0⟩ : P3) ⟨5, 0, 0⟩ 4 1 ⟨1, 0, 0⟩ < 0 := by
  rw [roundedCone_neg_iff_all]
  refine ⟨0, le_rfl, by norm_num, ?_⟩
  simp only [segPoint, V3.Distance, V3.DistanceSquared, V3.Add, V3.Sub, V3.Scale, RS.sqrt_eq]
  norm_num

end C19
end PolyVerif
