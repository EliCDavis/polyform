/-
  C15 — SPZ whole-file composition: pack → layout → gzip → `spz.Read` → every splat within its step.

  `spz_write_read` is the SPZ analogue of `splat_write_read`.  The repository has NO SPZ writer beyond the header
  (`/repo/formats/spz/write.go`), so the writing side is the specification: the reference packer `SpzRef.*`
  (Lemmas/SpzQuant.lean, from `packGaussians` of the published encoder; version-1 positions through the reference
  half-float encoder `Half.encode` of Lemmas/Half.lean) followed by `Spz.refEncode` (the published layout) and gzip.
  The reading side is the model of `spz.Read` (`Spz.read`, tied bit for bit by `c15.spz.read`) behind
  `gzip.NewReader`, which enters only through the named trusted law `GzipLaw` — a hypothesis, not an axiom.
-/
import PolyVerif.Props.C15
import PolyVerif.Props.C15Half
import PolyVerif.Lemmas.SpzQuant

namespace PolyVerif
namespace C15
open Spz SpzRef

/-- the trusted law of `compress/gzip`: decompressing what was compressed gives the bytes back -/
structure GzipLaw (gzip : List UInt8 → List UInt8) (gunzip : List UInt8 → Option (List UInt8)) : Prop where
  roundtrip : ∀ b, gunzip (gzip b) = some b

inductive FileErr where
  | gzip
  | spz (e : Spz.Err)

/-- `spz.Read` (load.go:138-199): `gzip.NewReader`, then header, validation, the six reads, dequantisation -/
def readFile {α : Type} [Scalar α] (gunzip : List UInt8 → Option (List UInt8)) (E : Env α) (bs : List UInt8) :
    Except FileErr (Cloud α) :=
  match gunzip bs with
  | none => .error .gzip
  | some raw =>
    match Spz.read E raw with
    | .ok c => .ok c
    | .error e => .error (.spz e)

/-- reference packer of one position -/
noncomputable def packPos (h : Header) (p : V3 ℝ) : List UInt8 :=
  if h.version = 1 then le2 (Half.encode p.x) ++ le2 (Half.encode p.y) ++ le2 (Half.encode p.z)
  else fix3 (fixedOf h.fractionalBits p.x) ++ fix3 (fixedOf h.fractionalBits p.y) ++ fix3 (fixedOf h.fractionalBits p.z)

/-- reference packer of one splat (opacity in the sigmoid domain, rotation with `w ≥ 0` — `w` is not stored) -/
noncomputable def pack (h : Header) (s : Point ℝ) : Packed :=
  { pos := packPos h s.pos,
    alpha := encAlpha s.alpha,
    color := [encColor s.color.x, encColor s.color.y, encColor s.color.z],
    scale := [encScale s.scale.x, encScale s.scale.y, encScale s.scale.z],
    rot := [encRot s.rot.x, encRot s.rot.y, encRot s.rot.z],
    sh := s.sh.flatMap fun v => [encSh v.x, encSh v.y, encSh v.z] }

/-- the whole file: records packed, laid out planar behind the header, compressed -/
noncomputable def writeFile (gzip : List UInt8 → List UInt8) (h : Header) (cloud : List (Point ℝ)) : List UInt8 :=
  gzip (refEncode h (cloud.map (pack h)))

/-! ### "within one quantisation step", field by field (each with its representable range as a guard) -/

/-- version 2: half a unit of the 24-bit fixed point while `round(x·2^fb)` fits 24 bits; version 1: half a unit in
    the last place of the half float below `|x|` (so `≤ 2^−25`), and relative `2^−11` in the normal range, while
    `|x| ≤ 65504` -/
def PosOk (h : Header) (x x' : ℝ) : Prop :=
  if h.version = 1 then
    |x| ≤ 65504 → |x' - x| ≤ 2 ^ Half.ulpExp (Half.floorPat |x|) / 2 ^ 26 ∧ (1 / 2 ^ 14 ≤ |x| → |x' - x| ≤ |x| / 2 ^ 11)
  else
    -8388608 ≤ fixedOf h.fractionalBits x → fixedOf h.fractionalBits x < 8388608 →
      |x' - x| ≤ 1 / 2 ^ (h.fractionalBits + 1)
def AlphaOk (a a' : ℝ) : Prop := 0 ≤ a → a ≤ 1 → |a' - a| ≤ 1 / 510
def ColorOk (c c' : ℝ) : Prop := -(10 / 3) ≤ c → c ≤ 10 / 3 → |c' - c| ≤ 2 / 153
def ScaleOk (s s' : ℝ) : Prop := -10 ≤ s → s ≤ 95 / 16 → |s' - s| ≤ 1 / 32
def RotOk2 (r r' : ℝ) : Prop := -1 ≤ r → r ≤ 1 → |r' - r| ≤ 1 / 255
def ShOk (c c' : ℝ) : Prop := -1 ≤ c → c ≤ 127 / 128 → |c' - c| ≤ 1 / 256

structure PointWithinStep (h : Header) (s t : Point ℝ) : Prop where
  pos : PosOk h s.pos.x t.pos.x ∧ PosOk h s.pos.y t.pos.y ∧ PosOk h s.pos.z t.pos.z
  alpha : AlphaOk s.alpha t.alpha
  color : ColorOk s.color.x t.color.x ∧ ColorOk s.color.y t.color.y ∧ ColorOk s.color.z t.color.z
  scale : ScaleOk s.scale.x t.scale.x ∧ ScaleOk s.scale.y t.scale.y ∧ ScaleOk s.scale.z t.scale.z
  /-- `w` is recomputed from the decoded `x y z` -/
  rot : RotOk2 s.rot.x t.rot.x ∧ RotOk2 s.rot.y t.rot.y ∧ RotOk2 s.rot.z t.rot.z ∧
    t.rot.w = rotW t.rot.x t.rot.y t.rot.z
  sh : t.sh.length = s.sh.length ∧ ∀ d (hs : d < s.sh.length) (ht : d < t.sh.length),
    ShOk s.sh[d].x t.sh[d].x ∧ ShOk s.sh[d].y t.sh[d].y ∧ ShOk s.sh[d].z t.sh[d].z

theorem posOk_half_aux (E : Env ℝ) (hE : SpzRef.RealEnv E) (h : Header) (hv : h.version = 1) (x : ℝ) :
    PosOk h x (halfCoord E (byteAt (le2 (Half.encode x)) 0) (byteAt (le2 (Half.encode x)) 1)) := by
  unfold PosOk
  rw [if_pos hv]
  intro hx
  rw [halfCoord_le2 E _ (encode_lt x)]
  have := half_encode_decode E hE.2 x hx
  exact ⟨this.2.2.1, this.2.2.2⟩

theorem posOk_fixed_aux (E : Env ℝ) (hE : SpzRef.RealEnv E) (h : Header) (hv : h.version ≠ 1)
    (hfb : h.fractionalBits ≤ 62) (x : ℝ) :
    PosOk h x (fixedCoord E h.fractionalBits (byteAt (fix3 (fixedOf h.fractionalBits x)) 0)
      (byteAt (fix3 (fixedOf h.fractionalBits x)) 1) (byteAt (fix3 (fixedOf h.fractionalBits x)) 2)) := by
  unfold PosOk
  rw [if_neg hv]
  exact fun h0 h1 => fixed_step E hE _ hfb x h0 h1

/-- ONE RECORD: the packed record has the sizes the header demands and its dequantisation (the model's decoder
    functions) is within one step of the splat in every field -/
theorem spz_pack_within_step (E : Env ℝ) (hE : SpzRef.RealEnv E) (h : Header) (hfb : h.fractionalBits ≤ 62)
    (s : Point ℝ) (hs : s.sh.length = shDim h.shDegree) :
    (pack h s).fits h ∧ PointWithinStep h s (dequant E h (pack h s)) := by
  constructor
  · refine ⟨?_, rfl, rfl, rfl, ?_⟩
    · unfold pack packPos posBytes
      split_ifs <;> rfl
    · show (s.sh.flatMap fun v => [encSh v.x, encSh v.y, encSh v.z]).length = 3 * shDim h.shDegree
      rw [Chunks.length_flatMap_const _ 3 s.sh (fun _ _ => rfl), hs, Nat.mul_comm]
  · refine ⟨?_, ?_, ?_, ?_, ?_, ?_⟩
    · by_cases hv : h.version = 1
      · simp only [dequant, pack, packPos, if_pos hv]
        exact ⟨posOk_half_aux E hE h hv _, posOk_half_aux E hE h hv _, posOk_half_aux E hE h hv _⟩
      · simp only [dequant, pack, packPos, if_neg hv]
        exact ⟨posOk_fixed_aux E hE h hv hfb _, posOk_fixed_aux E hE h hv hfb _, posOk_fixed_aux E hE h hv hfb _⟩
    · exact fun h0 h1 => alpha_step _ h0 h1
    · have c : ∀ c : ℝ, ColorOk c (colorDec (encColor c)) := fun c h0 h1 =>
        color_step c (by linarith) (by linarith)
      exact ⟨c _, c _, c _⟩
    · exact ⟨fun h0 h1 => scale_step _ h0 h1, fun h0 h1 => scale_step _ h0 h1, fun h0 h1 => scale_step _ h0 h1⟩
    · exact ⟨fun h0 h1 => rot_step _ h0 h1, fun h0 h1 => rot_step _ h0 h1, fun h0 h1 => rot_step _ h0 h1, rfl⟩
    · refine ⟨by simp [dequant, hs], fun d hd ht => ?_⟩
      have key : ∀ c, c < 3 → byteAt (pack h s).sh (d * 3 + c) =
          byteAt ((fun v : V3 ℝ => [encSh v.x, encSh v.y, encSh v.z]) s.sh[d]) c :=
        fun c hc => byteAt_flatMap s.sh _ 3 (fun _ _ => rfl) d hd c hc
      have e : (dequant E h (pack h s)).sh[d] = shCoef (pack h s) d := by
        simp [dequant]
      rw [e]
      simp only [shCoef, key 0 (by norm_num), key 1 (by norm_num), key 2 (by norm_num)]
      exact ⟨fun h0 h1 => sh_step _ h0 h1, fun h0 h1 => sh_step _ h0 h1, fun h0 h1 => sh_step _ h0 h1⟩

/-- WHOLE FILE, for every cloud (any count including 0 and 1, either version, SH degree 0–3, fractional bits ≤ 62):
    reading what was written succeeds, every attribute array has one entry per splat (one SH array per
    coefficient, each with one entry per splat), and splat `i` of the result — the same index in every array —
    is within one quantisation step of splat `i` of the cloud in every field -/
theorem spz_write_read {gzip : List UInt8 → List UInt8} {gunzip : List UInt8 → Option (List UInt8)}
    (G : GzipLaw gzip gunzip) (E : Env ℝ) (hE : SpzRef.RealEnv E) (h : Header) (hr : h.inRange)
    (hv : h.valid = true) (hfb : h.fractionalBits ≤ 62) (cloud : List (Point ℝ))
    (hn : cloud.length = h.numPoints) (hsh : ∀ s ∈ cloud, s.sh.length = shDim h.shDegree) :
    ∃ c, readFile gunzip E (writeFile gzip h cloud) = .ok c ∧
      c.positions.length = cloud.length ∧ c.alphas.length = cloud.length ∧ c.colors.length = cloud.length ∧
      c.scales.length = cloud.length ∧ c.rotations.length = cloud.length ∧
      c.sh.length = shDim h.shDegree ∧ (∀ a ∈ c.sh, a.length = cloud.length) ∧
      ∀ i (hi : i < cloud.length), ∃ t : Point ℝ,
        c.positions[i]? = some t.pos ∧ c.alphas[i]? = some t.alpha ∧ c.colors[i]? = some t.color ∧
        c.scales[i]? = some t.scale ∧ c.rotations[i]? = some t.rot ∧
        (∀ d, d < shDim h.shDegree → (c.sh[d]?.bind (·[i]?)) = t.sh[d]?) ∧
        PointWithinStep h cloud[i] t := by
  have hf : ∀ p ∈ cloud.map (pack h), p.fits h := by
    intro p hp
    obtain ⟨s, hs, rfl⟩ := List.mem_map.mp hp
    exact (spz_pack_within_step E hE h hfb s (hsh s hs)).1
  obtain ⟨c, hc, e1, e2, e3, e4, e5, e6, _⟩ :=
    spz_decode_refEncode E h hr hv (cloud.map (pack h)) (by simpa using hn) hf []
  rw [List.append_nil] at hc
  refine ⟨c, ?_, by simp [e1], by simp [e2], by simp [e3], by simp [e4], by simp [e5], by simp [e6], ?_, ?_⟩
  · simp only [readFile, writeFile, G.roundtrip, hc]
  · intro a ha
    rw [e6] at ha
    obtain ⟨d, _, rfl⟩ := List.mem_map.mp ha
    simp
  · intro i hi
    refine ⟨dequant E h (pack h cloud[i]), ?_, ?_, ?_, ?_, ?_, ?_,
      (spz_pack_within_step E hE h hfb cloud[i] (hsh _ (List.getElem_mem hi))).2⟩
    · simp [e1, hi]
    · simp [e2, hi]
    · simp [e3, hi]
    · simp [e4, hi]
    · simp [e5, hi]
    · intro d hd
      simp [e6, hd, hi, dequant]

/-- `fractionalBits = 63`: Go's `1 << 63` on a 64-bit
    `int` is the minimum integer, so `scale = 1/float64(b)` is `−2^−63` and EVERY coordinate comes out with the
    opposite sign of the published value `v / 2^63` -/
theorem spz_fixed_point_fb63_sign_flip (E : Env ℝ) (hE : SpzRef.RealEnv E) (b0 b1 b2 : UInt8) :
    fixedCoord E 63 b0 b1 b2 = -(((fixed24 b0 b1 b2 : Int) : ℝ) / 2 ^ 63) := by
  simp only [fixedCoord, posScale, hE.1, shl1, natF, if_neg (show ¬ (63 < 63) by omega), if_true]
  push_cast
  rw [one_div, inv_neg, mul_neg, div_eq_mul_inv]
  norm_num

/-- a version-1 cloud of two splats, SH degree 1 (three coefficients each), values not representable exactly -/
noncomputable def exCloud : List (Point ℝ) :=
  [⟨⟨3.14159, -0.001, 1000.3⟩, 0.4, ⟨0.3, -1.2, 2⟩, ⟨-3.3, 0.01, 2⟩, ⟨0.1, -0.2, 0.3, 0.9⟩,
    [⟨0.1, 0.2, -0.3⟩, ⟨0, 0.5, -1⟩, ⟨0.7, 0.11, 0.99⟩]⟩,
   ⟨⟨0, 0, 0⟩, 1, ⟨0, 0, 0⟩, ⟨0, 0, 0⟩, ⟨0, 0, 0, 1⟩, [⟨0, 0, 0⟩, ⟨0, 0, 0⟩, ⟨0, 0, 0⟩]⟩]

def exHeaderV1 : Header := ⟨magicNum, 1, 2, 1, 12, 0, 0⟩

example : exHeaderV1.inRange ∧ exHeaderV1.valid = true ∧ exHeaderV1.fractionalBits ≤ 62 ∧
    exCloud.length = exHeaderV1.numPoints ∧ ∀ s ∈ exCloud, s.sh.length = shDim exHeaderV1.shDegree := by
  refine ⟨by simp [Header.inRange, exHeaderV1, magicNum], by decide, by decide, rfl, ?_⟩
  intro s hs
  simp only [exCloud, List.mem_cons, List.not_mem_nil, or_false] at hs
  rcases hs with rfl | rfl <;> rfl

/-- the law is satisfiable (identity "compression"), and an environment satisfies `RealEnv` -/
example : GzipLaw id some := ⟨fun _ => rfl⟩
example : SpzRef.RealEnv ⟨fun z => (z : ℝ), fun k => (2 : ℝ) ^ k, 0, 0⟩ := ⟨fun _ => rfl, fun _ => rfl⟩

end C15
end PolyVerif
