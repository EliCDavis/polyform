/-
  C11 — the hand-written model of `Struct.Outdated()` IS the decision list of the source (engine F tie, regenerated on
  every run).

  `PolyVerif/Gen/NodeSkeleton.lean` is regenerated by `./check C11` from /repo/nodes/struct_node.go (go/facts mode
  c11.skeleton): the early returns of `Outdated()` in source order (conditions as printed Go expressions), its final
  return, and the statement sequences of `process`, `Value`, `State`, `updateUsedDependencyVersions`, `Version`,
  `Dependencies`, and every
  store to the `inputChangedSinceLastProcess` flag.  Every C11 theorem is stated about `PolyVerif/Model/Nodes.lean`;
  `outdated_from_source` proves that model's `outdated` equal to the interpretation of the regenerated decision list
  (for every graph, node and fuel), and the remaining theorems pin the statement sequences that `SNode.executed`, `eval`
  and the `flag` field transcribe.  A dropped, inverted or reordered test or a missing bookkeeping statement in the Go
  source breaks a named theorem here before any sample runs.  (Core Lean only.)
-/
import PolyVerif.Model.Nodes
import PolyVerif.Gen.NodeSkeleton

namespace PolyVerif
namespace C11
open Nodes
open PolyVerif.Gen

/-- a decision list `if c₁ { return v₁ } … return d`: the value of the first condition that holds; `none` when a
    condition is not one the reading below knows -/
def decideList (atom : String → Option Bool) : List (String × Bool) → Bool → Option Bool
  | [], d => some d
  | (c, v) :: rest, d =>
    match atom c with
    | none => none
    | some true => some v
    | some false => decideList atom rest d

private theorem matchBool (b : Bool) :
    (match some b with
      | none => none
      | some true => some true
      | some false => some false) = some b := by cases b <;> rfl

variable {V : Type}

/-- how the printed Go conditions of `Outdated()` are read on the model state of struct node `s` in graph `g`
    (`od d` = "`d.State() != Processed`", i.e. dependency `d` is itself outdated) -/
def outdatedAtom (g : Graph V) (od : Nat → Bool) (s : SNode V) (c : String) : Option Bool :=
  if c = "sn.depVersions == nil" then some s.remembered.isNone
  else if c = "sn.inputChangedSinceLastProcess" then some s.flag
  else if c = "len(deps) == 0" then some s.deps.isEmpty
  else if c = "exists i: dep.Version() != sn.depVersions[i] || dep.State() != Processed" then
    some (mismatch g od s.deps (s.remembered.getD []))
  else none

/-- `outdated` of the model is `Outdated()` as written: the regenerated early returns, in source order, with the
    regenerated final return -/
theorem outdated_from_source (f : Nat) (g : Graph V) (i : Nat) (s : SNode V) (h : g i = .struct s) :
    decideList (outdatedAtom g (fun d => outdated f g d) s) NodeSkeleton.outdatedDecisions
      NodeSkeleton.outdatedDefault = some (outdated (f + 1) g i) := by
  simp only [outdated, h, NodeSkeleton.outdatedDecisions, NodeSkeleton.outdatedDefault, decideList, outdatedAtom]
  cases hr : s.remembered with
  | none => simp
  | some rv =>
    cases hf : s.flag with
    | true => simp
    | false =>
      cases hd : s.deps with
      | nil => simp [mismatch]
      | cons d ds =>
        exact matchBool _

/-- `process()`: run the processor, bump the version, remember the dependency versions, clear the flag — the four field
    updates of `SNode.executed` (`cache`, `version + 1`, `remembered := deps.map ver`, `flag := false`) -/
theorem process_from_source :
    NodeSkeleton.processSteps =
      ["sn.value, sn.err = sn.Data.Process()", "sn.version++", "sn.updateUsedDependencyVersions()",
       "sn.inputChangedSinceLastProcess = false"] ∧
    NodeSkeleton.rememberSteps =
      ["deps := sn.Dependencies()", "sn.depVersions = make([]int, len(deps))",
       "for i, dep := range deps { sn.depVersions[i] = dep.Dependency().Version() }"] ∧
    NodeSkeleton.versionSteps = ["return sn.version"] := ⟨rfl, rfl, rfl⟩

/-- `Value()` = `if Outdated() { process() }; return value` (the model's `eval`), and `State()` is `Stale` exactly when
    `Outdated()` (the model's `od` argument of `mismatch`) -/
theorem value_state_from_source :
    NodeSkeleton.valueSteps = ["if sn.Outdated() { sn.process() }", "return sn.value"] ∧
    NodeSkeleton.stateSteps = ["if sn.Outdated() { return Stale }", "return Processed"] := ⟨rfl, rfl⟩

/-- the flag is set by the input setter (both of its branches) and cleared only by `process()` -/
theorem flag_stores_from_source :
    NodeSkeleton.flagStores =
      ["SetInput: sn.inputChangedSinceLastProcess = true", "SetInput: sn.inputChangedSinceLastProcess = true",
       "process: sn.inputChangedSinceLastProcess = false"] := rfl

/-- `Dependencies()` enumerates in an order that does not depend on map iteration — the model's
    `SNode.deps = scalars.filterMap id ++ arrays.flatten`, both in port-name order: the scalar keys are collected and SORTED before the
    loop that appends them, that loop comes before the array part, and the array keys are SORTED before the loop that
    appends their entries; neither appending loop ranges over a map (remembered versions are compared positionally, see
    `permuted_deps_spurious`) -/
theorem deps_enumeration_from_source :
    NodeSkeleton.dependenciesSteps =
      ["output := make([]NodeDependency, 0)",
       "basicData := refutil.FieldValuesOfType[NodeOutputReference](sn.Data)",
       "basicKeys := make([]string, 0, len(basicData))",
       "for key := range basicData",
       "sort.Strings(basicKeys)",
       "for _, key := range basicKeys",
       "arrayData := refutil.FieldValuesOfTypeInArray[NodeOutputReference](sn.Data)",
       "arrayKeys := make([]string, 0, len(arrayData))",
       "for key := range arrayData",
       "sort.Strings(arrayKeys)",
       "for _, key := range arrayKeys",
       "return output"] := rfl

/-! non-vacuity: a struct node that has processed before, unflagged, with one dependency whose version moved on -/
example :
    let s : SNode Nat := { fn := fun _ _ _ => 0, scalars := [some 1], arrays := [], cache := 0, version := 1,
                           remembered := some [4], flag := false }
    let g : Graph Nat := fun j => if j = 0 then .struct s else .param 7 5
    outdated 2 g 0 = true := by decide

end C11
end PolyVerif
