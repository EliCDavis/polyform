/-
  C05 — the re-save clause in its literal, time-of-face form.

  `Obj.Resaves` (Model/Obj.lean) is the Bool the oracle `c05.holds.resave` evaluates: same face count; every
  face corner resolved against the `v / vt / vn` lines that PRECEDE the face; the input split at every `g`
  line; per stretch `keepComplete` (vt / vn kept iff every corner of the stretch has one).  The final-pool form is
  `obj_resave_corners`; here the literal predicate itself is proved for every accepted input.
  Proofs: `PolyVerif/Lemmas/ObjResave.lean` (simulation of the reader fold by `resolveGroups`).
-/
import PolyVerif.Lemmas.ObjResave

namespace PolyVerif
namespace C05
open Obj ObjL

section literal
variable {τ α : Type} [DecidableEq τ] [DecidableEq α] (pc : τ → Except Err Corner)

/-- **Load → save loses or invents no face — the literal clause.**  For every input the reader accepts (any
    arrangement of `v / vt / vn / f / g / usemtl / mtllib` / comment lines, data lines between and after
    faces, any corner tokens, groups mixing corner shapes, empty groups, faces before any `g`), saving what
    was read succeeds and `Resaves pc pcId ls out` holds: the saved text has as many `f` lines as the input;
    every corner of both texts resolves against the pools AT THE TIME OF ITS FACE; and the faces of the saved
    text are, in order, the faces of the input, stretch by stretch between `g` lines, each corner with the
    same position, with its texture coordinate iff every corner of the stretch has one, its normal likewise. -/
theorem obj_resave_literal {ls : List (Line τ α)} {gs : List (Group τ α)} {libs : List String}
    (h : readObj pc ls = .ok (gs, libs)) (matFile : String) :
    ∃ out, writeObj matFile (gs.map toMesh) = .ok out ∧ Resaves pc pcId ls out = true :=
  ObjL.obj_resave_literal pc h matFile

omit [DecidableEq α] in
/-- what the reader accepts resolves at the time of the face: the reader's groups are the non-empty stretches
    of `resolveGroups`, every face of them resolved (a corollary of the simulation `readObj_sim_aux` behind `obj_resave_literal`) -/
theorem readObj_resolves_at_face {ls : List (Line τ α)} {gs : List (Group τ α)} {libs : List String}
    (h : readObj pc ls = .ok (gs, libs)) :
    ∃ segs : List (List (RFace α)), resolveGroups pc [] [] [] [] ls = segs.map (·.map some) ∧
      (segs.map keepComplete).flatten =
        gs.flatMap (fun g => keepComplete (g.ftoks.filterMap (resFace pc (poolV ls) (poolN ls) (poolT ls)))) ∧
      ∀ g ∈ gs, ∀ f ∈ g.ftoks, (resFace pc (poolV ls) (poolN ls) (poolT ls) f).isSome :=
  ObjL.readObj_resolves_at_face pc h

end literal

/-! ### concrete instances (non-vacuity) -/

section instances

/-- an accepted text in which time-of-face matters: data lines after the first face, a group mixing corner
    shapes (`1//1` and `2`), an empty `g`, `usemtl` before and after `g` -/
def lateDataText : List (Line Corner Nat) :=
  [.v ⟨0, 0, 0⟩, .v ⟨1, 0, 0⟩, .v ⟨0, 1, 0⟩, .vn ⟨0, 0, 1⟩, .usemtl "red",
   .f ⟨1, none, some 1⟩ ⟨2, none, none⟩ ⟨3, none, some 1⟩, .g "empty", .g "b", .v ⟨5, 5, 5⟩, .vt ⟨7, 8⟩, .usemtl "blue",
   .f ⟨4, some 1, none⟩ ⟨2, some 1, none⟩ ⟨1, some 1, none⟩]

example : ∃ gs libs, readObj pcId lateDataText = .ok (gs, libs) ∧ gs.length = 2 := ⟨_, _, rfl, rfl⟩

/-- the predicate is not trivially true: a face referring to a `v` line that FOLLOWS it resolves in the final
    pool but not at the time of the face, and the reader rejects the text (panic) -/
def earlyFaceText : List (Line Corner Nat) :=
  [.v ⟨0, 0, 0⟩, .v ⟨1, 0, 0⟩, .f ⟨1, none, none⟩ ⟨2, none, none⟩ ⟨3, none, none⟩, .v ⟨0, 1, 0⟩]

example : readObj pcId earlyFaceText = .error .panic ∧ Resaves pcId pcId earlyFaceText earlyFaceText = false ∧
    (∀ o ∈ cornerAttrs pcId earlyFaceText, o.isSome) := by
  refine ⟨rfl, by decide +kernel, by decide +kernel⟩

/-- … and it distinguishes texts: dropping the normal of one corner of a complete group is seen -/
example : Resaves pcId pcId
    ([.v ⟨0, 0, 0⟩, .vn ⟨0, 0, 1⟩, .f ⟨1, none, some 1⟩ ⟨1, none, some 1⟩ ⟨1, none, some 1⟩] : List (Line Corner Nat))
    [.v ⟨0, 0, 0⟩, .f ⟨1, none, none⟩ ⟨1, none, none⟩ ⟨1, none, none⟩] = false := by decide +kernel

end instances

end C05
end PolyVerif
