/-
  C04 — the composed round trip for the ASCII encoding, from FILE BYTES, and the clause "ASCII, little-endian and
  big-endian encodings of one mesh decode to the same result" on the guarded class.

  ONE trusted law enters: `PlyAscii.GoFloatText c` (what Go's strconv does to the number texts the writer prints; see its
  docstring in Lemmas/PlyAscii.lean).  Lines (`bufio.ScanLines`), tokens (`strings.Fields`), integers (`ParseInt ∘
  AppendInt`), header text, positions, face lines and mesh assembly are proved.

  The two known findings are mirrored by explicit guards, i.e. the theorems say what the code DOES:
  * the ASCII scalar reader never learns the property type, so an 8-bit SCALAR property is not normalised: `ClaimOKA`
    (field `located`, `LocatedA.inr`) requires "a reader normalises exactly when its properties are uchar", which FAILS
    for a `uchar` float1 writer — such configurations are outside the theorem (and `claimCheckA` returns `none` for them);
  * every ASCII vertex scalar is parsed with bit size 32 whatever its declared type: `RoundTrips` is stated with
    `quant c .ascii`, i.e. with exactly that 32-bit parse of the printed text (`quantA`: float AND double →
    `GoFloatText.imgF`, integers → `GoFloatText.imgI`); the agreement corollary therefore has the explicit guards
    `AgreeGuards`: float where `imgF` is the float32 image, double / int only where representable.
-/
import PolyVerif.Model.Ply
import PolyVerif.Lemmas.Ply
import PolyVerif.Lemmas.PlyHeader
import PolyVerif.Lemmas.PlyCompose
import PolyVerif.Lemmas.PlyNames
import PolyVerif.Lemmas.PlyUV
import PolyVerif.Lemmas.PlyAscii
import PolyVerif.Props.C04Compose
import PolyVerif.Props.C04Header

namespace PolyVerif
namespace C04
open Ply PlyLemmas PlyHeader PlyCompose PlyAscii

variable {α : Type}

/-- THE COMPOSED ROUND TRIP, ASCII, at the parsed-header interface: every writer configuration, every well-formed point
cloud or triangle mesh (with or without per-corner texture coordinates).  Guards: ASCII; `m.WF`; `writeBody` ok; at
least one property is printed for a non-empty mesh (`htys`: otherwise the writer prints no vertex line at all and the
reader rejects the file); point clouds with the identity index buffer (known finding); < 2³¹ vertices; the law of the float
text `L`; `InRangeMesh`: every value prints to a text `ParseFloat(·, 32)` accepts (for Go: not a finite value of
magnitude ≥ 2¹²⁸ − 2¹⁰³ — such a value is printed in full and the reader then fails with "value out of range":
observation "ascii out of float32 range", proposed witness op `c04.holds.ascii_out_of_range_witness`, not emitted by the harness); the ASCII claim stage as witnesses `ClaimOKA` (which includes: no 8-bit scalar property — known finding). -/
theorem ply_roundtrip_ascii_partial [BEq α] [LawfulBEq α] (c : Coding α) (L : GoFloatText c) (cfg : WriterCfg)
    (m : MeshVal α) (body : Bytes) (hf : cfg.format = .ascii) (hwf : m.WF = true) (h : writeBody c cfg m = .ok body)
    (htys : m.attrLen = 0 ∨ writerTypes (selectWriters cfg m) ≠ [])
    (hpoint : m.topo = .point → m.indices = (List.range m.attrLen).map Int.ofNat)
    (hsize : m.attrLen ≤ 2 ^ 31) (hrange : InRangeMesh L m)
    (bl : List (Built × List Nat)) (hcl : ClaimOKA cfg m bl) :
    ∃ back, readBody c defaultReader (writeHeader cfg m) body = .ok back ∧ RoundTrips c cfg m back = true :=
  readback_ascii c L cfg m body hf hwf h htys hpoint hsize hrange bl hcl

/-- the ASCII round trip from file bytes: `readMesh (writeMesh cfg m)`, guards of `ply_roundtrip_ascii_partial` plus a
printable texture URI and an index count that fits int64 -/
theorem ply_roundtrip_ascii_bytes_partial [BEq α] [LawfulBEq α] (c : Coding α) (L : GoFloatText c) (cfg : WriterCfg)
    (m : MeshVal α) (bytes : Bytes) (hf : cfg.format = .ascii) (hwf : m.WF = true) (h : writeMesh c cfg m = .ok bytes)
    (htys : m.attrLen = 0 ∨ writerTypes (selectWriters cfg m) ≠ [])
    (hpoint : m.topo = .point → m.indices = (List.range m.attrLen).map Int.ofNat)
    (hsize : m.attrLen ≤ 2 ^ 31) (hidx : m.indices.length < 2 ^ 63)
    (huri : ∀ u, m.texURI = some u → CommentOK (nm "TextureFile " ++ u)) (hrange : InRangeMesh L m)
    (bl : List (Built × List Nat)) (hcl : ClaimOKA cfg m bl) :
    ∃ back, readMesh c defaultReader bytes = .ok back ∧ RoundTrips c cfg m back = true := by
  obtain ⟨body, hbody, _, hparse⟩ := ply_written_header_parses c cfg m bytes h huri
    (Nat.lt_of_le_of_lt hsize (by decide +kernel)) hidx
  obtain ⟨back, hread, hrt⟩ := ply_roundtrip_ascii_partial c L cfg m body hf hwf hbody htys hpoint hsize hrange bl hcl
  exact ⟨back, by simp [readMesh, hparse, bind, Except.bind, hread], hrt⟩

/-- the same with the decidable ASCII claim certificate -/
theorem ply_roundtrip_ascii_bytes_checked [BEq α] [LawfulBEq α] (c : Coding α) (L : GoFloatText c) (cfg : WriterCfg)
    (m : MeshVal α) (bytes : Bytes) (hf : cfg.format = .ascii) (hwf : m.WF = true) (h : writeMesh c cfg m = .ok bytes)
    (htys : m.attrLen = 0 ∨ writerTypes (selectWriters cfg m) ≠ [])
    (hpoint : m.topo = .point → m.indices = (List.range m.attrLen).map Int.ofNat)
    (hsize : m.attrLen ≤ 2 ^ 31) (hidx : m.indices.length < 2 ^ 63)
    (huri : ∀ u, m.texURI = some u → CommentOK (nm "TextureFile " ++ u)) (hrange : InRangeMesh L m)
    (hcheck : (claimCheckA cfg m).isSome = true) :
    ∃ back, readMesh c defaultReader bytes = .ok back ∧ RoundTrips c cfg m back = true := by
  obtain ⟨bl, hbl⟩ := Option.isSome_iff_exists.mp hcheck
  exact ply_roundtrip_ascii_bytes_partial c L cfg m bytes hf hwf h htys hpoint hsize hidx huri hrange bl
    (claimCheckA_sound cfg m bl hbl)

/-! non-vacuity: the welded colour mesh and the UV-mapped welded quad, ASCII, from bytes;
the law bundle is inhabited (`toyLaw`) -/

theorem exMesh_bytesA : writeMesh toyCodingA (defaultWriter .ascii) exMesh
    = .ok ((writeMesh toyCodingA (defaultWriter .ascii) exMesh).toOption.getD []) := ok_getD _ (by decide +kernel)

theorem exUV_bytesA : writeMesh toyCodingA (defaultWriter .ascii) exUV
    = .ok ((writeMesh toyCodingA (defaultWriter .ascii) exUV).toOption.getD []) := ok_getD _ (by decide +kernel)

theorem exUV_checkA : (claimCheckA (defaultWriter .ascii) exUV).isSome = true := by decide +kernel

example : ∃ back, readMesh toyCodingA defaultReader ((writeMesh toyCodingA (defaultWriter .ascii) exMesh).toOption.getD [])
      = .ok back ∧ RoundTrips toyCodingA (defaultWriter .ascii) exMesh back = true :=
  ply_roundtrip_ascii_bytes_checked toyCodingA toyLaw (defaultWriter .ascii) exMesh _ rfl exMesh_wf exMesh_bytesA
    (by decide +kernel) (by decide +kernel) (by decide +kernel) (by decide +kernel) (fun _ hu => nomatch hu)
    (fun _ _ _ _ _ _ => trivial) (by decide +kernel)

example : ∃ back, readMesh toyCodingA defaultReader ((writeMesh toyCodingA (defaultWriter .ascii) exUV).toOption.getD [])
      = .ok back ∧ RoundTrips toyCodingA (defaultWriter .ascii) exUV back = true :=
  ply_roundtrip_ascii_bytes_checked toyCodingA toyLaw (defaultWriter .ascii) exUV _ rfl exUV_wf exUV_bytesA
    (by decide +kernel) (by decide +kernel) (by decide +kernel) (by decide +kernel) (fun _ hu => nomatch hu)
    (fun _ _ _ _ _ _ => trivial) exUV_checkA

/-- the guard that mirrors the known finding is real: for an 8-bit SCALAR writer the ASCII certificate fails -/
example : claimCheckA ⟨.ascii, [⟨nm "q", [nm "q"], .uchar⟩], false⟩
    (⟨.point, [0], [⟨1, nm "q", [[1]]⟩], none⟩ : MeshVal Nat) = none := by decide +kernel

/-! ## the three encodings of one mesh -/

/-- ASCII, LITTLE-ENDIAN AND BIG-ENDIAN FILES OF ONE MESH LOAD TO THE SAME CONTENT, on the guarded class: all three files
load, each read-back satisfies `RoundTrips` for its encoding, and the three read-backs have the same topology, the same
primitive count and — at every primitive corner, for every written attribute the reader recognises, and for the per-corner
texture coordinates — the SAME values (`SameContent`).  Guards: those of the three round-trip theorems (`m.WF`, the three
writes succeed, some property printed, identity index buffer for point clouds, sizes, texture comment, the claim stages
`ClaimOKA` / `ClaimOK`), the law of the float text `L`, and `AgreeGuards` (mirrors the known findings). -/
theorem ply_encodings_agree_partial [BEq α] [LawfulBEq α] (c : Coding α) (L : GoFloatText c) (props : List WProp)
    (wu : Bool) (m : MeshVal α) (ba bl bb : Bytes) (hwf : m.WF = true)
    (ha : writeMesh c ⟨.ascii, props, wu⟩ m = .ok ba) (hl : writeMesh c ⟨.le, props, wu⟩ m = .ok bl)
    (hb : writeMesh c ⟨.be, props, wu⟩ m = .ok bb)
    (htys : m.attrLen = 0 ∨ writerTypes (selectWriters ⟨.ascii, props, wu⟩ m) ≠ [])
    (hpoint : m.topo = .point → m.indices = (List.range m.attrLen).map Int.ofNat)
    (hsize : m.attrLen ≤ 2 ^ 31) (hidx : m.indices.length < 2 ^ 63)
    (huri : ∀ u, m.texURI = some u → CommentOK (nm "TextureFile " ++ u)) (hrange : InRangeMesh L m)
    (blA : List (Built × List Nat)) (hclA : ClaimOKA ⟨.ascii, props, wu⟩ m blA)
    (blB : List (Built × List Nat)) (hclB : ClaimOK ⟨.le, props, wu⟩ m blB)
    (hg : AgreeGuards c L props wu m) :
    ∃ ma ml mb, readMesh c defaultReader ba = .ok ma ∧ readMesh c defaultReader bl = .ok ml ∧
      readMesh c defaultReader bb = .ok mb ∧
      RoundTrips c ⟨.ascii, props, wu⟩ m ma = true ∧ RoundTrips c ⟨.le, props, wu⟩ m ml = true ∧
      RoundTrips c ⟨.be, props, wu⟩ m mb = true ∧
      SameContent ⟨.ascii, props, wu⟩ m ma ml ∧ SameContent ⟨.le, props, wu⟩ m ml mb := by
  obtain ⟨ma, hra, hta⟩ := ply_roundtrip_ascii_bytes_partial c L ⟨.ascii, props, wu⟩ m ba rfl hwf ha htys hpoint hsize
    hidx huri hrange blA hclA
  obtain ⟨ml, hrl, htl⟩ := ply_roundtrip_binary_bytes c ⟨.le, props, wu⟩ m bl (by simp) hwf hl hpoint hsize hidx huri
    blB hclB
  have hclB' : ClaimOK ⟨.be, props, wu⟩ m blB := ⟨hclB.built, hclB.located, hclB.demanded⟩
  obtain ⟨mb, hrb, htb⟩ := ply_roundtrip_binary_bytes c ⟨.be, props, wu⟩ m bb (by simp) hwf hb hpoint hsize hidx huri
    blB hclB'
  refine ⟨ma, ml, mb, hra, hrl, hrb, hta, htl, htb, ?_, ?_⟩
  · apply sameContent_of_roundTrips c ⟨.ascii, props, wu⟩ ⟨.le, props, wu⟩ m ma ml rfl hta htl
    · intro w hw hcb a hfa comps hc v hv
      obtain ⟨h1, h2, h3⟩ := find_mem' m _ _ a hfa
      exact quant_ascii_le c L w.dim w.ty v (hrange a h1 comps hc v hv) (hg.scalars w hw hcb a h1 h2 h3 comps hc v hv)
    · intro htri a hfa comps hc v hv
      obtain ⟨h1, h2, h3⟩ := find_mem' m _ _ a hfa
      simp [quantUV, L.parse64_showF, hg.uvs htri a h1 h2 h3 comps hc v hv]
  · apply sameContent_of_roundTrips c ⟨.le, props, wu⟩ ⟨.be, props, wu⟩ m ml mb rfl htl htb
    · intro w _ _ a _ comps _ v _
      exact quant_le_be c w.dim w.ty v
    · intro _ a _ comps _ v _
      rfl

/-- the same with the two decidable claim certificates -/
theorem ply_encodings_agree_checked [BEq α] [LawfulBEq α] (c : Coding α) (L : GoFloatText c) (props : List WProp)
    (wu : Bool) (m : MeshVal α) (ba bl bb : Bytes) (hwf : m.WF = true)
    (ha : writeMesh c ⟨.ascii, props, wu⟩ m = .ok ba) (hl : writeMesh c ⟨.le, props, wu⟩ m = .ok bl)
    (hb : writeMesh c ⟨.be, props, wu⟩ m = .ok bb)
    (htys : m.attrLen = 0 ∨ writerTypes (selectWriters ⟨.ascii, props, wu⟩ m) ≠ [])
    (hpoint : m.topo = .point → m.indices = (List.range m.attrLen).map Int.ofNat)
    (hsize : m.attrLen ≤ 2 ^ 31) (hidx : m.indices.length < 2 ^ 63)
    (huri : ∀ u, m.texURI = some u → CommentOK (nm "TextureFile " ++ u)) (hrange : InRangeMesh L m)
    (hcA : (claimCheckA ⟨.ascii, props, wu⟩ m).isSome = true) (hcB : (claimCheck ⟨.le, props, wu⟩ m).isSome = true)
    (hg : AgreeGuards c L props wu m) :
    ∃ ma ml mb, readMesh c defaultReader ba = .ok ma ∧ readMesh c defaultReader bl = .ok ml ∧
      readMesh c defaultReader bb = .ok mb ∧
      RoundTrips c ⟨.ascii, props, wu⟩ m ma = true ∧ RoundTrips c ⟨.le, props, wu⟩ m ml = true ∧
      RoundTrips c ⟨.be, props, wu⟩ m mb = true ∧
      SameContent ⟨.ascii, props, wu⟩ m ma ml ∧ SameContent ⟨.le, props, wu⟩ m ml mb := by
  obtain ⟨blA, hA⟩ := Option.isSome_iff_exists.mp hcA
  obtain ⟨blB, hB⟩ := Option.isSome_iff_exists.mp hcB
  exact ply_encodings_agree_partial c L props wu m ba bl bb hwf ha hl hb htys hpoint hsize hidx huri hrange blA
    (claimCheckA_sound _ m blA hA) blB (claimCheck_sound _ m blB hB) hg

/-! non-vacuity: the UV-mapped quad under the default writers; the point cloud with an `int` and a `double` writer -/

example : ∃ ma ml mb,
    readMesh toyCodingA defaultReader ((writeMesh toyCodingA (defaultWriter .ascii) exUV).toOption.getD []) = .ok ma ∧
    readMesh toyCodingA defaultReader ((writeMesh toyCodingA (defaultWriter .le) exUV).toOption.getD []) = .ok ml ∧
    readMesh toyCodingA defaultReader ((writeMesh toyCodingA (defaultWriter .be) exUV).toOption.getD []) = .ok mb ∧
    RoundTrips toyCodingA (defaultWriter .ascii) exUV ma = true ∧ RoundTrips toyCodingA (defaultWriter .le) exUV ml = true ∧
    RoundTrips toyCodingA (defaultWriter .be) exUV mb = true ∧
    SameContent (defaultWriter .ascii) exUV ma ml ∧ SameContent (defaultWriter .le) exUV ml mb :=
  ply_encodings_agree_checked toyCodingA toyLaw defaultProps true exUV _ _ _ exUV_wf exUV_bytesA
    (ok_getD _ (by decide +kernel)) (ok_getD _ (by decide +kernel))
    (by decide +kernel) (by decide +kernel) (by decide +kernel) (by decide +kernel) (fun _ hu => nomatch hu)
    (fun _ _ _ _ _ _ => trivial) exUV_checkA exUV_check ⟨by decide +kernel, by decide +kernel⟩

example : ∃ ma ml mb,
    readMesh toyCodingA defaultReader ((writeMesh toyCodingA ⟨.ascii, exCfg.props, false⟩ exCloud).toOption.getD []) = .ok ma ∧
    readMesh toyCodingA defaultReader ((writeMesh toyCodingA ⟨.le, exCfg.props, false⟩ exCloud).toOption.getD []) = .ok ml ∧
    readMesh toyCodingA defaultReader ((writeMesh toyCodingA ⟨.be, exCfg.props, false⟩ exCloud).toOption.getD []) = .ok mb ∧
    RoundTrips toyCodingA ⟨.ascii, exCfg.props, false⟩ exCloud ma = true ∧
    RoundTrips toyCodingA ⟨.le, exCfg.props, false⟩ exCloud ml = true ∧
    RoundTrips toyCodingA ⟨.be, exCfg.props, false⟩ exCloud mb = true ∧
    SameContent ⟨.ascii, exCfg.props, false⟩ exCloud ma ml ∧ SameContent ⟨.le, exCfg.props, false⟩ exCloud ml mb :=
  ply_encodings_agree_checked toyCodingA toyLaw exCfg.props false exCloud _ _ _ exCloud_wf (ok_getD _ (by decide +kernel))
    (ok_getD _ (by decide +kernel)) (ok_getD _ (by decide +kernel))
    (by decide +kernel) (by decide +kernel) (by decide +kernel) (by decide +kernel) (fun _ hu => nomatch hu)
    (fun _ _ _ _ _ _ => trivial) (by decide +kernel) exCloud_check ⟨by decide +kernel, by decide +kernel⟩

/-- the guard is needed: a `double` value beyond float32 precision is stored differently by ASCII and binary
(toy coding: float32 keeps the value mod 2³², float64 mod 2⁶⁴) -/
example : quant toyCodingA .ascii 3 .double (2 ^ 32 + 1) ≠ quant toyCodingA .le 3 .double (2 ^ 32 + 1) := by decide +kernel

/-! ## the two name-capture configurations (known findings, witnesses `c04.holds.w_name_before_group_witness`,
`c04.holds.w_name_captured_by_group_witness`) are outside the composed theorems: the claim certificates reject them -/

def exNameMesh (scalar : Bytes) : MeshVal Nat :=
  ⟨.point, [0, 1], [⟨3, positionAttr, [[1, 2, 3], [4, 5, 6]]⟩, ⟨3, colorAttr, [[1, 0, 0], [0, 1, 0]]⟩, ⟨1, scalar, [[5], [7]]⟩], none⟩

/-- scalar `a` (float) BEFORE `Color r g b` (double): no reader for Color is built -/
example : claimCheck ⟨.le, [⟨nm "a", [nm "a"], .float⟩, ⟨colorAttr, [nm "r", nm "g", nm "b"], .double⟩,
    ⟨positionAttr, [nm "x", nm "y", nm "z"], .float⟩], false⟩ (exNameMesh (nm "a")) = none := by decide +kernel

/-- `Color red green blue` (float) and the unspecified scalar `alpha` (float): claimed together as one 4-vector -/
example : claimCheck ⟨.le, [⟨positionAttr, [nm "x", nm "y", nm "z"], .float⟩,
    ⟨colorAttr, [nm "red", nm "green", nm "blue"], .float⟩], true⟩ (exNameMesh (nm "alpha")) = none := by decide +kernel
example : claimCheckA ⟨.ascii, [⟨positionAttr, [nm "x", nm "y", nm "z"], .float⟩,
    ⟨colorAttr, [nm "red", nm "green", nm "blue"], .float⟩], true⟩ (exNameMesh (nm "alpha")) = none := by decide +kernel

end C04
end PolyVerif
