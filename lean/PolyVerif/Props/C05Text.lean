/-
  C05 — print/parse laws of the INTEGER tokens of the OBJ text layer, as theorems.

  `obj_roundtrip_text` takes the whole text layer as hypotheses (`hshow : pc' (shw c) = ok c` for corner
  tokens, `rt` for scalars).  Here the integer half is a concrete model (`PolyVerif/Model/ObjText.lean`:
  `showInt` = `strconv.Itoa`, `parseInt` = `strconv.Atoi`, `showCorner` = the writer's `v`, `v/vt`, `v//vn`,
  `v/vt/vn` token, `parseCorner` = `parseObjFaceComponent`) and its laws are proved.  The tie: `driver_c05`
  prints every face index with `showCorner` and parses every face token with `parseCorner` (text-exact
  `c05.write` / `c05.read` correspondence incl. int64-boundary tokens), and answers `c05.itoa` / `c05.atoi`
  (direct comparison with `strconv.Itoa` / `strconv.Atoi`) with `showInt` / `parseInt`.
  What remains a hypothesis: the FLOAT text law (`rt` = shortest decimal, then `ParseFloat(·, 32)`).
  Proofs: `PolyVerif/Lemmas/ObjText.lean` (integers, corner tokens), `ObjLex.lean` (fields of the printed face
  line), `ObjTextCompose.lean` (composition with `obj_roundtrip_text`).
-/
import PolyVerif.Lemmas.ObjTextCompose
import PolyVerif.Lemmas.ObjLex

namespace PolyVerif
namespace C05
open Obj ObjL ObjText ObjTextL

/-- **`Atoi (Itoa n) = n`** for every int64 `n`. -/
theorem parseInt_showInt (n : Int) (hlo : -2 ^ 63 ≤ n) (hhi : n < 2 ^ 63) : parseInt (showInt n) = some n := by
  simp only [parseInt, showInt, String.toList_ofList]
  exact parseIntL_showIntL n hlo hhi

example : parseInt (showInt (-9223372036854775808)) = some (-9223372036854775808) :=
  parseInt_showInt _ (by decide) (by decide)

/-- **The printed integer is a clean token**: only decimal digits and possibly a `-` — hence no blank, tab,
    line break or `/` (it survives `strings.Fields` and the `/` splitting of a corner token) — and not empty. -/
theorem showInt_clean (n : Int) :
    (∀ c ∈ (showInt n).toList, (isDigit c = true ∨ c = '-') ∧ c ≠ ' ' ∧ c ≠ '\t' ∧ c ≠ '\n' ∧ c ≠ '\r' ∧ c ≠ '/') ∧
    showInt n ≠ "" := by
  obtain ⟨h1, h2⟩ := showIntL_chars n
  simp only [showInt, String.toList_ofList]
  refine ⟨?_, ?_⟩
  · intro c hc
    refine ⟨h1 c hc, ?_⟩
    rcases h1 c hc with hd | rfl
    · obtain ⟨_, _, a, b⟩ := digit_ne_aux hd
      refine ⟨?_, ?_, ?_, ?_, a⟩ <;> (rintro rfl; simp [ObjText.isSpace] at b)
    · decide
  · intro h
    have := congrArg String.toList h
    simp only [String.toList_ofList] at this
    exact h2 this

/-- **`parseInt` rejects what `Atoi` rejects by range**: an accepted value fits an int64. -/
theorem parseInt_range {s : String} {n : Int} (h : parseInt s = some n) : -2 ^ 63 ≤ n ∧ n < 2 ^ 63 :=
  parseIntL_range h

example : parseInt "9223372036854775808" = none ∧ parseInt "-9223372036854775808" = some (-9223372036854775808) ∧
    parseInt "+7" = some 7 ∧ parseInt "1_0" = none ∧ parseInt "" = none ∧ parseInt "-" = none := by
  refine ⟨?_, ?_, ?_, ?_, ?_, ?_⟩ <;> decide +kernel

/-- **The corner print/parse law** (`hshow` of `obj_roundtrip_text`, for the concrete functions the driver
    runs): `parseObjFaceComponent` applied to the token the writer prints for a corner gives that corner back —
    all four shapes `v`, `v/vt`, `v//vn`, `v/vt/vn` — for every corner whose indices fit an int64. -/
theorem parseCorner_showCorner (c : Corner) (hv : c.v < 2 ^ 63) (ht : ∀ t, c.vt = some t → t < 2 ^ 63)
    (hn : ∀ n, c.vn = some n → n < 2 ^ 63) : parseCorner (showCorner c) = .ok c := by
  simp only [parseCorner, showCorner, String.toList_ofList]
  exact parseCornerL_showCornerL c hv ht hn

example : parseCorner (showCorner ⟨12, some 7, some 9223372036854775807⟩) = .ok ⟨12, some 7, some 9223372036854775807⟩ :=
  parseCorner_showCorner _ (by decide) (by intro t h; cases h; decide) (by intro n h; cases h; decide)

/-- the law needs the range: beyond int64 `Atoi` reports a range error (first example after `parseInt_range`);
    behaviour of `parseCorner` on malformed tokens (empty vn slot, trailing slash, negative index, triple slash, …) is tied by `c05.read`. -/
example : parseInt (showInt 9223372036854775808) ≠ some 9223372036854775808 := by
  intro h; have := (parseInt_range h).2; omega

/-- **The corner token contains no blank** (one field for `strings.Fields`) and is not empty. -/
theorem showCorner_no_blank (c : Corner) :
    (∀ x ∈ (showCorner c).toList, ObjText.isSpace x = false) ∧ showCorner c ≠ "" := by
  obtain ⟨h1, h2⟩ := showCornerL_chars c
  simp only [showCorner, String.toList_ofList]
  refine ⟨h1, ?_⟩
  intro h
  have := congrArg String.toList h
  simp only [String.toList_ofList] at this
  exact h2 this

/-- **C05 clause 1 through the text layer with the CONCRETE index printer / parser** — only the float law is
    left as a parameter.  Corner tokens are printed by `showCorner` (`strconv.Itoa` per index, `/` separators)
    and parsed by `parseCorner` (`parseObjFaceComponent` with `strconv.Atoi`): the functions `driver_c05` runs.
    Every scalar comes back from the text as `rt x` (real code: shortest decimal, then `ParseFloat(·, 32)`).
    For every non-empty list of named well-formed triangle meshes whose attribute arrays together hold fewer
    than 2^63 entries each (any scene a 64-bit process can hold), reading the written text succeeds with
    `RoundTripsCarry rt`, and with the strict `RoundTrips rt` when no material-less mesh follows one with
    ranges.  (`obj_roundtrip_text` with its hypothesis `hshow` discharged.) -/
theorem obj_roundtrip_text_ints {α : Type} [DecidableEq α] (rt : α → α) (matFile : String) (ms : List (String × Mesh α))
    (hne : ms ≠ []) (hwf : ∀ p ∈ ms, WFMesh p.2) (hnb : NonemptyButLast ms)
    (hsv : (ms.flatMap fun p => optList p.2.pos).length < 2 ^ 63)
    (hst : (ms.flatMap fun p => optList p.2.uv).length < 2 ^ 63)
    (hsn : (ms.flatMap fun p => optList p.2.nrm).length < 2 ^ 63) :
    ∃ ls gs libs, writeObj matFile ms = .ok ls ∧
      readObj parseCorner (ls.map (mapLine showCorner rt)) = .ok (gs, libs) ∧
      RoundTripsCarry rt none ms (gs.map toMesh) = true ∧
      (NoMatlessAfterMat none ms → RoundTrips rt ms (gs.map toMesh) = true) :=
  ObjTextL.obj_roundtrip_text_ints rt matFile ms hne hwf hnb hsv hst hsn

/-- the size hypotheses are satisfiable (any real scene): the mixed-attribute witness -/
example : (mixedWitness.flatMap fun p => optList p.2.pos).length < 2 ^ 63 ∧
    (mixedWitness.flatMap fun p => optList p.2.uv).length < 2 ^ 63 ∧
    (mixedWitness.flatMap fun p => optList p.2.nrm).length < 2 ^ 63 := by
  refine ⟨?_, ?_, ?_⟩ <;> decide

/-- **Lexing a printed face line.**  `strings.Fields` applied to the `f` line the writer prints gives back the
    keyword and exactly the three corner tokens — for all corners (the tokens are blank-free and non-empty). -/
theorem fields_printFace (a b c : Corner) :
    fields (printFace a b c) = ["f", showCorner a, showCorner b, showCorner c] :=
  fields_printFace_aux a b c

/-- **The whole text path of a face line**: print, split into fields, parse the three tokens — the three corners
    come back (indices in the int64 range). -/
theorem face_line_roundtrip (a b c : Corner) (ha : a.v < 2 ^ 63 ∧ (∀ t, a.vt = some t → t < 2 ^ 63) ∧ (∀ n, a.vn = some n → n < 2 ^ 63))
    (hb : b.v < 2 ^ 63 ∧ (∀ t, b.vt = some t → t < 2 ^ 63) ∧ (∀ n, b.vn = some n → n < 2 ^ 63))
    (hc : c.v < 2 ^ 63 ∧ (∀ t, c.vt = some t → t < 2 ^ 63) ∧ (∀ n, c.vn = some n → n < 2 ^ 63)) :
    ((fields (printFace a b c)).drop 1).map parseCorner = [.ok a, .ok b, .ok c] := by
  rw [fields_printFace]
  simp [parseCorner_showCorner a ha.1 ha.2.1 ha.2.2, parseCorner_showCorner b hb.1 hb.2.1 hb.2.2,
    parseCorner_showCorner c hc.1 hc.2.1 hc.2.2]

example : ((fields (printFace ⟨1, some 2, none⟩ ⟨3, some 4, none⟩ ⟨5, some 6, none⟩)).drop 1).map parseCorner =
    [.ok ⟨1, some 2, none⟩, .ok ⟨3, some 4, none⟩, .ok ⟨5, some 6, none⟩] :=
  face_line_roundtrip _ _ _ ⟨by decide, by intro t h; cases h; decide, by intro n h; cases h⟩
    ⟨by decide, by intro t h; cases h; decide, by intro n h; cases h⟩
    ⟨by decide, by intro t h; cases h; decide, by intro n h; cases h⟩

end C05
end PolyVerif
