/-
  C06 — every topology value and nil texture literals inside the quantifier: the topology clause `C06_topo_full`.

  `writeSceneT` (Model/GltfTopo.lean) is the writer with a three-valued outcome: a file written from a state `w`, an error
  (incl. `.quad`: a quad mesh, rejected right after the nil-mesh check), or a panic (`PrimitiveCount()` on an undeclared
  topology value; `AddTexture(nil)` for a `PolyformNormal{}` / `PolyformOcclusion{}` literal).  In the last two cases nothing
  is written — `Outcome.err` / `Outcome.panic` carry no state.

  * `writeSceneT_ok_iff`: accepted ⇔ the base model `writeScene` accepts AND every model's mesh is a triangle, point, line,
    line-strip or line-loop mesh (`TopoAccepted`).
  * `gltf_topo_full : C06_topo_full`: for EVERY accepted scene with well-formed meshes / instances and congruent extension
    values the mode of every model's primitive IS the glTF mode of the model's topology (`topoCarried`), and the number of
    indices fits the written mode (`modeIndexOK`, and `docModeCountOK` on the document alone) exactly when the model's own index
    count fits its topology (`PMesh.indexCountFits`: 3k for triangles, 2k for lines, ≥ 2 for loops / strips) — a property of
    the INPUT; `gltf_topo_full_wf`: under `IndexCountsWF` all three hold.
  * `gltf_scene_topo_full`: file ⇒ valid ∧ carriesScene ∧ dedupOK ∧ the above; otherwise error / panic, nothing written.
  * `gltf_line_written_as_lines`, `gltf_quad_rejected_instance`: a LINE mesh with indices [0, 1] is written with mode 1 LINES
    and satisfies every predicate; a quad scene is rejected.
-/
import PolyVerif.Props.C06Full
import PolyVerif.Model.GltfTopo

namespace PolyVerif
namespace C06
open Gltf

/-- the topologies the writer accepts: triangle, point, line, line-strip, line-loop -/
def TopoAccepted (m : PMesh) : Prop := m.topo ≤ 5 ∧ m.topo ≠ 2

theorem liftOutcome_ok {r : Except Err W} {w : W} : liftOutcome r = .ok w ↔ r = .ok w := by
  cases r with
  | ok w' => simp [liftOutcome]
  | error e => cases e <;> simp [liftOutcome]

theorem addModelT_ok {s : Scene} {w w' : W} {md : Model} :
    addModelT s w md = .ok w' ↔ addModel s w md = .ok w' ∧ ∀ m, s.meshOf md = some m → TopoAccepted m := by
  unfold addModelT TopoAccepted
  cases hm : s.meshOf md with
  | none => simp [liftOutcome_ok]
  | some m =>
    by_cases hk : m.topo ≤ 5
    · by_cases hq : m.topo = 2
      · simp [PMesh.topoKnown, hq]
      · simp [PMesh.topoKnown, hk, hq, liftOutcome_ok]
    · simp [PMesh.topoKnown, hk]

theorem addModelsT_ok (s : Scene) : ∀ (l : List Model) (w w' : W),
    addModelsT s w l = .ok w' ↔ addModels s w l = .ok w' ∧ ∀ md ∈ l, ∀ m, s.meshOf md = some m → TopoAccepted m
  | [], w, w' => by simp [addModelsT, addModels]
  | md :: r, w, w' => by
    simp only [addModelsT, addModels]
    cases hT : addModelT s w md with
    | ok w1 =>
      obtain ⟨h1, h2⟩ := addModelT_ok.mp hT
      simp only [h1, addModelsT_ok s r w1 w', List.mem_cons, forall_eq_or_imp]
      exact ⟨fun ⟨a, b⟩ => ⟨a, h2, b⟩, fun ⟨a, _, b⟩ => ⟨a, b⟩⟩
    | err e =>
      simp only [reduceCtorEq, false_iff, not_and]
      intro hok
      cases hA : addModel s w md with
      | error x => rw [hA] at hok; cases hok
      | ok w1 =>
        intro hall
        have := addModelT_ok.mpr ⟨hA, hall md (by simp)⟩
        rw [hT] at this; cases this
    | panic =>
      simp only [reduceCtorEq, false_iff, not_and]
      intro hok
      cases hA : addModel s w md with
      | error x => rw [hA] at hok; cases hok
      | ok w1 =>
        intro hall
        have := addModelT_ok.mpr ⟨hA, hall md (by simp)⟩
        rw [hT] at this; cases this

/-- ACCEPTANCE, exactly: `writeSceneT` writes a file from `w` iff the base model does and every model's mesh is a triangle,
    point, line, line-strip or line-loop mesh (a quad mesh is rejected with an error, an undeclared topology value makes
    `PrimitiveCount()` panic when that model is reached, or an earlier model is rejected: either way nothing is written). -/
theorem writeSceneT_ok_iff (s : Scene) (w : W) :
    writeSceneT s = .ok w ↔ writeScene s = .ok w ∧ ∀ md ∈ s.models, ∀ m, s.meshOf md = some m → TopoAccepted m := by
  unfold writeSceneT writeScene addScene
  cases hT : addModelsT s {} s.models with
  | ok w1 =>
    obtain ⟨h1, h2⟩ := (addModelsT_ok s s.models {} w1).mp hT
    simp only [h1]
    by_cases hm : marshalOK (s.lights.foldl addLight w1) = true
    · simp only [hm, if_true]
      constructor
      · intro h; injection h with h; subst h; exact ⟨rfl, h2⟩
      · intro h; injection h.1 with h; subst h; rfl
    · simp [hm]
  | err e =>
    simp only [reduceCtorEq, false_iff, not_and]
    intro hok hall
    cases hA : addModels s {} s.models with
    | error x => rw [hA] at hok; cases hok
    | ok w1 =>
      have := (addModelsT_ok s s.models {} w1).mpr ⟨hA, hall⟩
      rw [hT] at this; cases this
  | panic =>
    simp only [reduceCtorEq, false_iff, not_and]
    intro hok hall
    cases hA : addModels s {} s.models with
    | error x => rw [hA] at hok; cases hok
    | ok w1 =>
      have := (addModelsT_ok s s.models {} w1).mpr ⟨hA, hall⟩
      rw [hT] at this; cases this

/-- REJECTION of an undeclared topology value: nothing is written for a scene one of whose models has such a mesh -/
theorem gltf_unknown_topology_rejected (s : Scene) (md : Model) (m : PMesh) (hmd : md ∈ s.models)
    (hm : s.meshOf md = some m) (ht : 5 < m.topo) : ∀ w, writeSceneT s ≠ .ok w := by
  intro w h
  have := (((writeSceneT_ok_iff s w).mp h).2 md hmd m hm).1
  omega

/-- REJECTION of quad meshes (glTF has no quad mode): nothing is written for a scene one of whose models has a quad mesh -/
theorem gltf_quad_rejected (s : Scene) (md : Model) (m : PMesh) (hmd : md ∈ s.models)
    (hm : s.meshOf md = some m) (ht : m.topo = 2) : ∀ w, writeSceneT s ≠ .ok w := by
  intro w h
  exact (((writeSceneT_ok_iff s w).mp h).2 md hmd m hm).2 ht

/-- what `Carries` says about the primitive a node references -/
theorem carries_nodePrim {s : Scene} {w : W} {md : Model} {n : GNode} (h : Carries s w md n) :
    ∃ m p idx, s.meshOf md = some m ∧ nodePrim s w.doc md n = some (m, p)
      ∧ p.mode = modeOfTopo m.topo ∧ p.indices = some idx
      ∧ decodeAt w.doc w.buf idx = some m.indices
      ∧ (∃ x, w.doc.accessors[idx]? = some x ∧ x.count = m.indices.length)
      ∧ (∃ gm ∈ w.doc.meshes, gm.prims = [p]) := by
  obtain ⟨_, _, _, _, ⟨id, mi, gm, mat, a1, a2, a3, ⟨m, p, idx, b1, b2, b3, b4, b5, b6, _, _⟩, _⟩, _⟩ := h
  have hm : s.meshOf md = some m := by simp [Scene.meshOf, a1, b1]
  refine ⟨m, p, idx, hm, ?_, b5, b4, decodeAt_of_accIs b6.2.2, ?_, ?_⟩
  · have : w.doc.meshes[mi]? = some gm := a3
    simp [nodePrim, hm, a2, this, b2]
  · obtain ⟨x, h1, _, _, h4, _⟩ := b6.2.2
    exact ⟨x, h1, h4⟩
  · exact ⟨gm, List.mem_of_getElem? a3, b2⟩

theorem expectedMode_written (t : Nat) :
    (expectedMode t == some (modeOfTopo t)) = true ↔ (t ≤ 5 ∧ t ≠ 2) := by
  match t with
  | 0 => simp [expectedMode, modeOfTopo]
  | 1 => simp [expectedMode, modeOfTopo]
  | 2 => simp [expectedMode, modeOfTopo]
  | 3 => simp [expectedMode, modeOfTopo]
  | 4 => simp [expectedMode, modeOfTopo]
  | 5 => simp [expectedMode, modeOfTopo]
  | n + 6 => simp [expectedMode]

/-- THE MODE RENDERS THE TOPOLOGY: for every well-formed scene the base model accepts, `topoCarried` holds iff every visible
    model's mesh has an accepted topology (triangle, point, line, line-strip, line-loop).  (`writeSceneT` only accepts such
    scenes: `gltf_topo_full`.) -/
theorem gltf_topo_carried_iff (s : Scene) (w : W) (hs : SceneOK s) (h : writeScene s = .ok w) :
    topoCarried s w.doc = true ↔ ∀ md ∈ s.visible, ∀ m, s.meshOf md = some m → TopoAccepted m := by
  unfold topoCarried
  refine zip_allZip_iff (R := Carries s w) ?_ (scene_zip_carries s w hs h)
  intro md n hc
  obtain ⟨m, p, idx, hm, hp, hmode, _, _, _, _⟩ := carries_nodePrim hc
  simp only [hp, hmode, hm, Option.some.injEq, forall_eq', expectedMode_written, TopoAccepted]

/-- THE INDEX COUNT FITS THE MODE exactly when every visible model's own index count fits its topology -/
theorem gltf_mode_index_iff (s : Scene) (w : W) (hs : SceneOK s) (h : writeScene s = .ok w) :
    modeIndexOK s w.doc w.buf = true ↔
      ∀ md ∈ s.visible, ∀ m, s.meshOf md = some m → m.indexCountFits = true := by
  unfold modeIndexOK
  refine zip_allZip_iff (R := Carries s w) ?_ (scene_zip_carries s w hs h)
  intro md n hc
  obtain ⟨m, p, idx, hm, hp, hmode, hidx, hdec, _, _⟩ := carries_nodePrim hc
  simp only [hp, hmode, hm, hidx, hdec, Option.some.injEq, forall_eq', PMesh.indexCountFits]

/-- DOCUMENT LEVEL (what a validator sees, without the scene): if every indexed primitive of the written document has an
    index count compatible with its mode, then every visible model's own index count fits its topology. -/
theorem gltf_doc_mode_count_imp (s : Scene) (w : W) (hs : SceneOK s) (h : writeScene s = .ok w)
    (hd : docModeCountOK w.doc = true) :
    ∀ md ∈ s.visible, ∀ m, s.meshOf md = some m → m.indexCountFits = true := by
  refine (gltf_mode_index_iff s w hs h).mp ?_
  unfold modeIndexOK
  refine allZip_of_zip (R := Carries s w) ?_ (scene_zip_carries s w hs h)
  intro md n hc
  obtain ⟨m, p, idx, hm, hp, hmode, hidx, hdec, ⟨x, hx, hcount⟩, gm, hgm, hprims⟩ := carries_nodePrim hc
  simp only [hp, hidx, hdec]
  unfold docModeCountOK at hd
  have h1 := List.all_eq_true.mp hd gm hgm
  have h2 := List.all_eq_true.mp h1 p (by rw [hprims]; simp)
  simp only [hidx, hx] at h2
  rw [← hcount]; exact h2

/-- DOCUMENT LEVEL, sufficient condition over the heap meshes (every glTF mesh of the document was written for a heap
    mesh: `scene_dinv`). -/
theorem gltf_doc_mode_count_of (s : Scene) (w : W) (hs : SceneOK s) (h : writeScene s = .ok w)
    (hall : ∀ m ∈ s.meshHeap, m.indexCountFits = true) : docModeCountOK w.doc = true := by
  have hd := scene_dinv s w hs h
  unfold docModeCountOK
  rw [List.all_eq_true]
  intro gm hgm
  obtain ⟨id, mat, m, p, idx, h1, h2, _, h4, h5, h6, _, _⟩ := hd.meshes gm hgm
  obtain ⟨x, hx, _, _, hcount, _⟩ := h6.2.2
  have hx' : w.doc.accessors[idx]? = some x := hx
  rw [h2]
  simp only [List.all_cons, List.all_nil, Bool.and_true, h4, hx', h5, hcount]
  exact hall m (List.mem_of_getElem? h1)

/-- scene hypotheses WITHOUT a topology clause: well-formed meshes and instances, congruent extension values -/
def SceneWFT (s : Scene) : Prop := SceneOK s ∧ ExtCongr s

/-- THE TOPOLOGY CLAUSE: for every accepted scene the mode of every model's primitive renders the model's topology, and the
    index count fits the written mode exactly when the model's own index count fits its topology -/
def C06_topo_full : Prop :=
  ∀ s w, SceneWFT s → writeSceneT s = .ok w →
    topoCarried s w.doc = true
    ∧ (modeIndexOK s w.doc w.buf = true ↔ ∀ md ∈ s.visible, ∀ m, s.meshOf md = some m → m.indexCountFits = true)

theorem gltf_topo_full : C06_topo_full := by
  intro s w hs hT
  obtain ⟨h, hk⟩ := (writeSceneT_ok_iff s w).mp hT
  refine ⟨(gltf_topo_carried_iff s w hs.1 h).mpr ?_, gltf_mode_index_iff s w hs.1 h⟩
  intro md hmd m hm
  exact hk md (List.mem_filter.mp hmd).1 m hm

/-- index counts of the INPUT fit the topologies: 3k indices for a triangle mesh, 2k for a line mesh, at least two for a
    line loop / strip (points: any) -/
def IndexCountsWF (s : Scene) : Prop := ∀ m ∈ s.meshHeap, m.indexCountFits = true

/-- with well-formed index counts: mode faithful, index counts fit the mode, also on the document alone -/
theorem gltf_topo_full_wf (s : Scene) (w : W) (hs : SceneWFT s) (hi : IndexCountsWF s) (hT : writeSceneT s = .ok w) :
    topoCarried s w.doc = true ∧ modeIndexOK s w.doc w.buf = true ∧ docModeCountOK w.doc = true := by
  obtain ⟨h, _⟩ := (writeSceneT_ok_iff s w).mp hT
  obtain ⟨h1, h2⟩ := gltf_topo_full s w hs hT
  refine ⟨h1, h2.mpr ?_, gltf_doc_mode_count_of s w hs.1 h hi⟩
  intro md _ m hm
  refine hi m ?_
  unfold Scene.meshOf at hm
  split at hm
  · cases hm
  · exact List.mem_of_getElem? hm

/-- full statement for one accepted scene -/
def C06_topo_full_for (s : Scene) (w : W) : Prop :=
  valid w.doc w.buf = true ∧ carriesScene s w.doc w.buf = true ∧ dedupOK s w.doc = true
  ∧ topoCarried s w.doc = true
  ∧ (modeIndexOK s w.doc w.buf = true ↔ ∀ md ∈ s.visible, ∀ m, s.meshOf md = some m → m.indexCountFits = true)

/-- EVERY TOPOLOGY INSIDE THE QUANTIFIER.  For every scene with well-formed meshes / instances and congruent extension
    values — whatever the topology values and texture ids — either `writeSceneT` writes nothing (error, incl. quad meshes, or
    panic: the outcome carries no state), or it writes a file that is `valid`, carries the scene (`carriesScene`), is
    deduplicated (`dedupOK`), every mesh has an accepted topology, and the drawing mode renders the topology. -/
theorem gltf_scene_topo_full (s : Scene) (hs : SceneWFT s) :
    (∃ w, writeSceneT s = .ok w ∧ C06_topo_full_for s w ∧ ∀ md ∈ s.models, ∀ m, s.meshOf md = some m → TopoAccepted m)
    ∨ (∃ e, writeSceneT s = .err e) ∨ writeSceneT s = .panic := by
  cases hT : writeSceneT s with
  | err e => exact Or.inr (Or.inl ⟨e, rfl⟩)
  | panic => exact Or.inr (Or.inr rfl)
  | ok w =>
    obtain ⟨h, hk⟩ := (writeSceneT_ok_iff s w).mp hT
    obtain ⟨h1, h2⟩ := gltf_topo_full s w hs hT
    exact Or.inl ⟨w, rfl, ⟨gltf_scene_valid s w hs.1 h, gltf_carries_scene_anytopo s w hs.1 h, gltf_dedup_ok s w hs.1 hs.2 h,
      h1, h2⟩, hk⟩

def lineMesh : PMesh :=
  { topo := 3, indices := [0, 1],
    attrs := [{ name := "Position", dim := 3, vals := [[0, 0, 0], [0x3f800000, 0, 0]] }] }

def lineScene : Scene :=
  { meshHeap := [lineMesh], texHeap := [], matHeap := [],
    models := [{ name := "l", mesh := some 0, material := none, translation := none, rotation := none, scale := none,
                 instances := [] }],
    lights := [] }

theorem lineMesh_written : lineMesh.written = [{ name := "Position", dim := 3, vals := [[0, 0, 0], [0x3f800000, 0, 0]] }] := by
  simp [lineMesh, PMesh.written, attrsOfDim, sortByName]

theorem lineMesh_attrLen : lineMesh.attrLen = 2 := by
  simp [lineMesh, PMesh.attrLen, attrsOfDim, sortByName]

theorem lineMesh_wf : MeshWF lineMesh := by
  refine ⟨?_, ?_, ?_⟩
  · rw [lineMesh_written, lineMesh_attrLen]
    intro a ha
    simp only [List.mem_singleton] at ha
    subst ha
    simp [VecsOK, attrComp, Comp.size, posInf32, negInf32, isNaN32]
  · rw [lineMesh_attrLen]; simp [lineMesh]
  · rw [lineMesh_attrLen]; decide

theorem lineScene_wf : SceneWFT lineScene := by
  unfold lineScene
  refine ⟨⟨?_, ?_⟩, ?_⟩
  · intro m hm; simp only [List.mem_singleton] at hm; subst hm; exact lineMesh_wf
  · intro md hmd
    simp only [List.mem_singleton] at hmd; subst hmd
    intro t ht; cases ht
  · intro a ha; simp at ha

theorem lineScene_observed : (match writeSceneT lineScene with
    | .ok w => (w.meshes.map (fun gm => gm.prims.map (fun p => (p.mode, p.indices))), w.accessors.map (·.count),
                valid w.doc w.buf, topoCarried lineScene w.doc, modeIndexOK lineScene w.doc w.buf, docModeCountOK w.doc)
    | _ => ([], [], false, false, false, false)) = ([[(some 1, some 1)]], [2, 2], true, true, true, true) := by
  decide +kernel

/-- the LINE mesh with two vertices and indices [0, 1] is accepted and written with `mode = 1` LINES; the file is valid, the mode renders the topology and the two indices fit the mode -/
theorem gltf_line_written_as_lines : ∃ w, writeSceneT lineScene = .ok w ∧ SceneWFT lineScene ∧ IndexCountsWF lineScene
    ∧ topoCarried lineScene w.doc = true ∧ modeIndexOK lineScene w.doc w.buf = true ∧ docModeCountOK w.doc = true := by
  have hobs := lineScene_observed
  have hi : IndexCountsWF lineScene := by
    intro m hm; simp only [lineScene, List.mem_singleton] at hm; subst hm; decide
  cases hT : writeSceneT lineScene with
  | err e => rw [hT] at hobs; simp at hobs
  | panic => rw [hT] at hobs; simp at hobs
  | ok w => exact ⟨w, rfl, lineScene_wf, hi, gltf_topo_full_wf lineScene w lineScene_wf hi hT⟩

/-- non-vacuity of `gltf_scene_topo_full` on a non-triangle, non-point scene: the line scene is accepted -/
theorem lineScene_ok : ∃ w, writeSceneT lineScene = .ok w ∧ SceneWFT lineScene ∧ C06_topo_full_for lineScene w := by
  rcases gltf_scene_topo_full lineScene lineScene_wf with ⟨w, h, hf, _⟩ | ⟨e, he⟩ | hp
  · exact ⟨w, h, lineScene_wf, hf⟩
  · have hobs := lineScene_observed; rw [he] at hobs; simp at hobs
  · have hobs := lineScene_observed; rw [hp] at hobs; simp at hobs

/-- a quad mesh (four vertices, four indices): rejected with an error, nothing written -/
theorem gltf_quad_rejected_instance :
    (match writeSceneT { lineScene with meshHeap := [{ lineMesh with topo := 2, indices := [0, 1, 0, 1] }] } with
    | .err .quad => true
    | _ => false) = true := by decide +kernel

/-- a material whose `NormalTexture` is `&PolyformNormal{}` (embedded texture pointer nil = id outside the heap) -/
def nilNormalMat : PMaterial :=
  { name := "m", alphaMode := none, alphaCutoff := none, hasPbr := false, baseColor := none, metallic := none, roughness := none,
    baseColorTex := none, metalRoughTex := none, emissive := none, normalTex := some (0, none), occlusionTex := none, exts := [] }

def nilNormalScene : Scene :=
  { meshHeap := [exMesh], texHeap := [], matHeap := [nilNormalMat],
    models := [{ name := "a", mesh := some 0, material := some 0, translation := none, rotation := none, scale := none,
                 instances := [] }],
    lights := [] }

/-- the `PolyformNormal{}` literal: representable, and the writer panics (nothing written) -/
theorem gltf_nil_normal_rejected : Representable nilNormalScene = true ∧ (match writeSceneT nilNormalScene with
    | .panic => true
    | _ => false) = true := by
  constructor <;> decide +kernel

/-- an undeclared topology value: panic -/
theorem gltf_unknown_topology_panics :
    (match writeSceneT { lineScene with meshHeap := [{ lineMesh with topo := 6 }] } with
    | .panic => true
    | _ => false) = true := by decide +kernel

end C06
end PolyVerif
