/-
  C05 — engine F: the printed face line of the model IS the (interpretation of the) face writers of
  /repo/formats/obj/writer.go, regenerated on every run into `PolyVerif/Gen/ObjText.lean` (go/facts mode `c05.text`):
  the sequence of `txt.Writer` calls of the four `writeFace…` loop bodies, the shift definitions
  (`shift := 1 + offset`, `uvShift := uvOffset - offset`, `normalShift := normalOffset - offset`, checked by the
  extractor) and the `if / else if / else` chain of `WriteMeshes` that picks the writer.
  A changed separator, a swapped uv / normal slot, a corner printed twice, a different selection order or another
  shift in the Go source changes the regenerated data and breaks `face_line_from_source`.
-/
import PolyVerif.Gen.ObjText
import PolyVerif.Model.ObjLex

namespace PolyVerif
namespace C05
open Obj ObjText Gen.ObjText

/-- the integer handed to `out.Int`, computed as the Go code does: `p := idx + shift` with `shift := 1 + offset`;
    `p + uvShift` with `uvShift := uvOffset - offset` (an intermediate that may be negative); likewise normals -/
def slotVal (vo to no i : Nat) : Slot → Int
  | .pos => (i : Int) + (1 + (vo : Int))
  | .uv => ((i : Int) + (1 + (vo : Int))) + ((to : Int) - (vo : Int))
  | .nrm => ((i : Int) + (1 + (vo : Int))) + ((no : Int) - (vo : Int))

/-- the text a face writer's loop body emits for the index triple `idx 1, idx 2, idx 3` (`out.Int` = `strconv.AppendInt`) -/
def render (vo to no : Nat) (idx : Nat → Nat) : List Tok → List Char
  | [] => []
  | .lit cs :: r => cs ++ render vo to no idx r
  | .int k s :: r => showIntL (slotVal vo to no (idx k) s) ++ render vo to no idx r
  | .nl :: r => '\n' :: render vo to no idx r

/-- the `if / else if / else` chain: the first row whose tested attributes are present -/
def pick (hasN hasT : Bool) : List (Option (Bool × Bool) × List Tok) → List Tok
  | [] => []
  | (none, w) :: _ => w
  | (some (n, t), w) :: r => if (!n || hasN) && (!t || hasT) then w else pick hasN hasT r

/-- Go's shift arithmetic comes out as the model's `i + 1 + offset` of the slot's own pool -/
theorem slotVal_eq (vo to no i : Nat) (sl : Slot) :
    slotVal vo to no i sl = (i : Int) + 1 + ((match sl with | .pos => vo | .uv => to | .nrm => no : Nat) : Int) := by
  cases sl <;> simp only [slotVal] <;> omega
theorem showIntL_natCast (n : Nat) : showIntL ((n : Nat) : Int) = showNat n := rfl
theorem showIntL_sum (i o : Nat) : showIntL ((i : Int) + 1 + (o : Int)) = showNat (i + 1 + o) := by
  have h : (i : Int) + 1 + (o : Int) = ((i + 1 + o : Nat) : Int) := by omega
  rw [h]; rfl

/-- **The printed face line, from the source.**  For every attribute combination, running offsets and index triple:
    the text produced by the face writer that `WriteMeshes` selects (regenerated call sequence, Go's shift
    arithmetic over the integers) is the model's printed face line `printFaceL` of the three corners `mkCorner`
    (`i + 1 + vo`, `i + 1 + to`, `i + 1 + no` — each pool with its own offset), followed by the line break. -/
theorem face_line_from_source (hasUv hasN : Bool) (vo to no a b c : Nat) :
    render vo to no (fun k => if k = 1 then a else if k = 2 then b else c) (pick hasN hasUv writerChain) =
      printFaceL (mkCorner hasUv hasN vo to no a) (mkCorner hasUv hasN vo to no b) (mkCorner hasUv hasN vo to no c)
        ++ ['\n'] := by
  cases hasUv <;> cases hasN <;>
    simp [pick, writerChain, faceVerts, faceVertsUvs, faceVertsNormals, faceVertsUvsNormals, render, slotVal_eq,
      showIntL_sum, printFaceL, showCornerL, mkCorner]

/-- the chain has exactly the four writers, most specific first (the regenerated table, pinned) -/
theorem writer_chain_from_source :
    writerChain = [(some (true, true), faceVertsUvsNormals), (some (true, false), faceVertsNormals),
      (some (false, true), faceVertsUvs), (none, faceVerts)] := rfl

/-- **The lexer's keyword table, from the source**: the first fields the driver's lexer acts on (`ObjText.lexKeywords`;
    every other line is `.other`, ignored) are exactly the case labels of `switch components[0]` in `ReadMesh`, which has
    no default clause (the extractor fails on one). -/
theorem lexKeywords_from_source : ∀ k : String, k ∈ lexKeywords ↔ k ∈ readerKeywords := by
  intro k
  simp only [lexKeywords, readerKeywords, List.mem_cons, List.not_mem_nil, or_false]
  constructor <;> (intro h; rcases h with h | h | h | h | h | h | h <;> simp [h])

theorem lexKeywords_count_from_source : lexKeywords.length = readerKeywords.length ∧ lexKeywords.Nodup := by
  refine ⟨rfl, by decide⟩

end C05
end PolyVerif
