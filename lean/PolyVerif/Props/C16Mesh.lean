/-
  C16 — `rendering.Mesh.Hit` / `Mesh.Hit2` (octree of triangles, mesh.go) = the exhaustive triangle loop.

  Model: `meshHit` (TraverseIntersectingRay + callback), `meshHit2` (ElementsIntersectingRay + hit-list loop),
  `elemTriHit` (`rayIntersectsTri` on `ray.Ray()`) in `Model/RenderPrims.lean`; octree = `Model/Tree.lean`.
  Uses the triangle contract proved in `Props/C16Prims.lean` — no primitive hypothesis.
-/
import PolyVerif.Props.C16Prims

namespace PolyVerif
namespace C16
open PolyVerif.Tree PolyVerif.RPrims Gen.geometry Gen.rendering Scalar

theorem traverse_foldl_eq_pruned {B E K σ : Type} (slabB : B → K → K → Bool) (slabE : E → K → K → Bool) (f : σ → E → σ)
    (rng : K × K) (t : Oct B E) (s : σ) :
    t.traverse slabB slabE (fun e r (a : σ) => (r, f a e)) rng s =
      (t.pruned (fun b => !slabB b rng.1 rng.2) (fun e => slabE e rng.1 rng.2)).foldl f s :=
  traverse_eq_foldl_pruned slabB slabE f rng t s

/-- the callback of `Mesh.Hit` is the loop body of `HitList.Hit` (`hitStep`, cf. `listHit_eq_foldl`) on triangle elements -/
theorem meshStep_eq_hitStep (ray : TemporalRay ℝ) (mn : ℝ) : meshStep ray mn = hitStep (elemTriHit ray) mn := rfl

/-- `Mesh.Hit` (traverse + callback) and `Mesh.Hit2` (collect, then loop) compute the same flag and distance, on
    every tree, ray and range -/
theorem meshHit_eq_meshHit2 (t : Oct Box (Elem ℝ)) (ray : TemporalRay ℝ) (mn mx : ℝ) :
    meshHit t ray mn mx = meshHit2 t ray mn mx := by
  unfold meshHit meshHit2
  rw [traverse_foldl_eq_pruned (fun (b : Box) lo hi => intersectsRayInRange b ray.Ray.Origin ray.Ray.Direction lo hi)
    (fun (e : Elem ℝ) lo hi => intersectsRayInRange e.box ray.Ray.Origin ray.Ray.Direction lo hi)
    (meshStep ray mn) (mn, mx) t (none, mx)]
  rw [listHit_eq_foldl, meshStep_eq_hitStep]

/-- an octree element of `rendering.Mesh`: a triangle with the box `NewAABBFromPoints(p1,p2,p3)` -/
def IsTriElem (e : Elem ℝ) : Prop := ∃ a b c, e.prim = .tri a b c ∧ e.box = triBox a b c

/-- the first hit of a triangle element beyond `0` -/
noncomputable def elemFirst (ray : TemporalRay ℝ) (e : Elem ℝ) : Option ℝ :=
  match e.prim with
  | .tri a b c => RPrim.first ray 0 (.tri a b c)
  | _ => none

theorem elemTriHit_first (ray : TemporalRay ℝ) (hu : ray.direction.LengthSquared = 1) (e : Elem ℝ) (he : IsTriElem e)
    (mx : ℝ) : elemTriHit ray e 0 mx = (elemFirst ray e).bind (fun d => if d ≤ mx then some d else none) := by
  obtain ⟨a, b, c, hprim, -⟩ := he
  simp only [elemTriHit, elemFirst, hprim]
  exact prim_first_hit ray hu (.tri a b c) 0 mx rfl

/-- **`Mesh.Hit2` (and `Mesh.Hit`) = the exhaustive loop**: on every `Covers` tree of triangle elements, for a
    unit-direction ray and `minDistance = 0`, the octree path returns the same flag and distance as the hit-list loop
    over ALL triangles of the tree. -/
theorem mesh_hit_eq_hitlist (t : Oct Box (Elem ℝ)) (ht : Covers t) (hel : ∀ e ∈ t.allElems, IsTriElem e)
    (ray : TemporalRay ℝ) (hu : ray.direction.LengthSquared = 1) (mx : ℝ) :
    meshHit t ray 0 mx = listHit (elemTriHit ray) t.allElems 0 mx ∧
    meshHit2 t ray 0 mx = listHit (elemTriHit ray) t.allElems 0 mx := by
  have h2 : meshHit2 t ray 0 mx = listHit (elemTriHit ray) t.allElems 0 mx := by
    refine octree_hit_eq_hitlist t ht _ _ (elemFirst ray) (elemTriHit ray) 0 mx ?_
      (fun e he => elemTriHit_first ray hu e (hel e he))
    intro e he dist hp
    obtain ⟨a, b, c, hprim, hbox⟩ := hel e he
    simp only [elemTriHit, hprim] at hp
    -- a triangle is hit beyond `0` only, so the range is non-empty and the slab contract applies
    obtain ⟨h, hh, -⟩ := Option.map_eq_some_iff.mp hp
    obtain ⟨-, hpos, hle, -⟩ := tri_hit_in_box a b c ray mx h hu hh
    rw [hbox]
    exact (prim_hit_slab ray hu (.tri a b c) 0 mx dist rfl hp).2 (lt_of_lt_of_le hpos hle)
  exact ⟨(meshHit_eq_meshHit2 t ray 0 mx).trans h2, h2⟩

/-- **End to end for `rendering.Mesh`**: on the octree `NewOctreeWithDepth` builds (any depth, the automatic one
    included) from ANY list of triangles, `Mesh.Hit` and `Mesh.Hit2` return the flag and distance of the hit-list
    loop over the INPUT triangles in their original order (unit-direction ray, `minDistance = 0`, any `max`). -/
theorem mesh_built_hit_eq_hitlist (ps : List (Prim ℝ)) (hps : ∀ p ∈ ps, ∃ a b c, p = .tri a b c) (depth : Nat)
    (t : Oct Box (Elem ℝ)) (hb : newOctreeWithDepth ps depth = some t)
    (ray : TemporalRay ℝ) (hu : ray.direction.LengthSquared = 1) (mx : ℝ) :
    meshHit t ray 0 mx = listHit (elemTriHit ray) (mkElems ps) 0 mx ∧
    meshHit2 t ray 0 mx = listHit (elemTriHit ray) (mkElems ps) 0 mx := by
  have hwf : ∀ p ∈ ps, BoxSub p.boundingBox p.boundingBox := fun p hp =>
    prim_box_wf p (fun b hb' => by obtain ⟨a, b', c, e⟩ := hps p hp; rw [e] at hb'; cases hb')
  have h := build_covers ps depth hwf
  rw [hb] at h
  obtain ⟨hc, hperm⟩ := h
  have hel : ∀ e ∈ t.allElems, IsTriElem e := by
    intro e he
    obtain ⟨h1, h2⟩ := mem_mkElems (hperm.mem_iff.mp he)
    obtain ⟨a, b, c, e3⟩ := hps _ h1
    exact ⟨a, b, c, e3, by rw [h2, e3]; rfl⟩
  obtain ⟨m1, m2⟩ := mesh_hit_eq_hitlist t hc hel ray hu mx
  -- the hit list does not depend on the order (first-hit contract of the triangle)
  have key := listHit_congr_mem (elemFirst ray) (elemTriHit ray) 0 t.allElems (mkElems ps)
    (fun e he => elemTriHit_first ray hu e (hel e he)) (fun e => hperm.mem_iff) mx
  exact ⟨m1.trans key, m2.trans key⟩

end C16
end PolyVerif
