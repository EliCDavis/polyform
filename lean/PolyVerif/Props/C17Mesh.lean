/-
  C17 — mesh-level rotate / translate / scale / apply-TRS "move positions exactly as the underlying transform
  moves points".

  The model (Model/C17Mesh.lean) writes the Go loops literally (index running up, one array store per iteration into a
  zero-initialised array; then `SetFloat3Attribute`: one key of the v3 map stored or deleted, every other struct field
  copied).  Here: the loop IS the pointwise map of its body (`mapLoop_eq_map`), hence every mesh-level transform replaces
  exactly the named v3 attribute by the pointwise image under the REGENERATED point function and leaves every other v3
  attribute, the v1/v2/v4 maps, the indices, the materials and the topology unchanged (`OnlyV3Changed`), and it is
  rejected (Go: panic) exactly when the attribute is missing.  The statements hold for EVERY scalar — in particular at
  `Float`, the type the driver runs the very same definitions at to answer `c17.mesh.*`, `c17.meshop.*`, `c17.trs.array`.
  Over ℝ they compose with the point-level algebra of Props/C17 (`mesh_rotate_preserves_length`, `mesh_applyTRS_is_RST`).
-/
import PolyVerif.Model.C17Mesh
import PolyVerif.Props.C17More

namespace PolyVerif
namespace C17Mesh
open Gen

set_option linter.unusedSectionVars false
variable {s : Type} [Scalar s]

private theorem writeLoop_size (f : Nat → V3 s → V3 s) (old : Array (V3 s)) (i : Nat) (out : Array (V3 s)) :
    (writeLoop f old i out).size = out.size := by
  fun_induction writeLoop f old i out with
  | case1 i out h ih => simpa using ih
  | case2 i out h => rfl

private theorem writeLoop_get (f : Nat → V3 s → V3 s) (old : Array (V3 s)) (i : Nat) (out : Array (V3 s))
    (hs : out.size = old.size) (j : Nat) (hj : j < old.size) :
    (writeLoop f old i out)[j]? = if i ≤ j then some (f j old[j]) else out[j]? := by
  fun_induction writeLoop f old i out with
  | case1 i out h ih =>
    rw [ih (by simpa using hs)]
    by_cases h1 : i + 1 ≤ j
    · have : i ≤ j := by omega
      simp [h1, this]
    · by_cases h2 : i = j
      · subst h2
        simp [hs, hj]
      · have : ¬ i ≤ j := by omega
        simp [h1, this, Array.getElem?_setIfInBounds_ne h2]
  | case2 i out h =>
    have : ¬ i ≤ j := by omega
    simp [this]

/-- the Go loop with its zero-initialised output array = `mapIdx` of the loop body -/
theorem mapLoop_eq_mapIdx (f : Nat → V3 s → V3 s) (old : Array (V3 s)) :
    mapLoop f old = old.mapIdx f := by
  apply Array.ext
  · simp [mapLoop, writeLoop_size]
  · intro j h1 h2
    have hj : j < old.size := by simpa using h2
    have := writeLoop_get f old 0 (Array.replicate old.size (V3.Zero : V3 s)) (by simp) j hj
    simp only [Nat.zero_le, if_true] at this
    have h3 : (mapLoop f old)[j]? = some (f j old[j]) := this
    rw [Array.getElem?_eq_getElem h1] at h3
    simpa using h3

/-- … and, for a body that ignores the index (all the transforms), the pointwise map -/
theorem mapLoop_eq_map (g : V3 s → V3 s) (old : Array (V3 s)) :
    mapLoop (fun _ v => g v) old = old.map g := by
  rw [mapLoop_eq_mapIdx]
  apply Array.ext <;> simp

/-- `Quaternion.RotateArray` is the pointwise `Rotate` -/
theorem rotateArray_eq_map (q : quaternion.Quaternion s) (arr : Array (V3 s)) :
    rotateArray q arr = arr.map q.Rotate := mapLoop_eq_map _ _

/-- `TRS.TransformArray` is the pointwise `Transform` -/
theorem transformArray_eq_map (t : trs.TRS s) (arr : Array (V3 s)) :
    transformArray t arr = arr.map t.Transform := mapLoop_eq_map _ _

private theorem inPlaceLoop_size (f : V3 s → V3 s) (i : Nat) (arr : Array (V3 s)) : (inPlaceLoop f i arr).size = arr.size := by
  fun_induction inPlaceLoop f i arr with
  | case1 i arr h ih => simpa using ih
  | case2 i arr h => rfl

private theorem inPlaceLoop_get (f : V3 s → V3 s) (i : Nat) (arr : Array (V3 s)) (j : Nat) :
    (inPlaceLoop f i arr)[j]? = if i ≤ j then (arr[j]?).map f else arr[j]? := by
  fun_induction inPlaceLoop f i arr with
  | case1 i arr h ih =>
    rw [ih]
    by_cases h1 : i + 1 ≤ j
    · have h2 : i ≤ j := by omega
      have h3 : i ≠ j := by omega
      simp [h1, h2, Array.getElem?_set_ne, h3]
    · by_cases h2 : i = j
      · subst h2
        simp [h]
      · have : ¬ i ≤ j := by omega
        simp [h1, this, Array.getElem?_set_ne, h2]
  | case2 i arr h =>
    by_cases h1 : i ≤ j
    · have : arr.size ≤ j := by omega
      simp [h1, Array.getElem?_eq_none this]
    · simp [h1]

/-- the in-place loop (reads and writes the same array) is the pointwise map as well -/
theorem inPlaceLoop_eq_map (f : V3 s → V3 s) (arr : Array (V3 s)) : inPlaceLoop f 0 arr = arr.map f := by
  apply Array.ext'
  apply List.ext_getElem?
  intro j
  have := inPlaceLoop_get f 0 arr j
  simp only [Nat.zero_le, if_true] at this
  simpa using this
/-- `TRS.TransformInPlace` leaves the pointwise `Transform` of the old contents in the slice -/
theorem transformInPlace_eq_map (t : trs.TRS s) (arr : Array (V3 s)) :
    transformInPlace t arr = arr.map t.Transform := inPlaceLoop_eq_map _ _

namespace GoMap
variable {β : Type}

theorem get?_delete_self (m : GoMap β) (k : String) : (m.delete k).get? k = none := by
  induction m with
  | nil => rfl
  | cons kv r ih =>
    obtain ⟨k', v⟩ := kv
    unfold delete at ih ⊢
    rw [List.filter_cons]
    by_cases h : k' = k
    · simp only [h, ne_eq, not_true_eq_false, decide_false, Bool.false_eq_true, if_false]; exact ih
    · simp only [ne_eq, h, not_false_eq_true, decide_true, if_true, get?, if_false]; exact ih

theorem get?_delete_ne (m : GoMap β) (k k' : String) (h : k' ≠ k) : (m.delete k).get? k' = m.get? k' := by
  induction m with
  | nil => rfl
  | cons kv r ih =>
    obtain ⟨k₀, v⟩ := kv
    unfold delete at ih ⊢
    rw [List.filter_cons]
    by_cases h0 : k₀ = k
    · have h1 : ¬ k₀ = k' := fun e => h (e.symm.trans h0)
      simp only [h0, ne_eq, not_true_eq_false, decide_false, Bool.false_eq_true, if_false]
      rw [ih]; simp only [get?]; rw [if_neg (by rw [← h0]; exact h1)]
    · simp only [ne_eq, h0, not_false_eq_true, decide_true, if_true, get?]
      by_cases h1 : k₀ = k'
      · simp only [h1, if_true]
      · simp only [h1, if_false]; exact ih
theorem get?_set_self (m : GoMap β) (k : String) (v : β) : (m.set k v).get? k = some v := by
  simp [set, get?]

theorem get?_set_ne (m : GoMap β) (k k' : String) (v : β) (h : k' ≠ k) : (m.set k v).get? k' = m.get? k' := by
  have : k ≠ k' := fun e => h e.symm
  simp [set, get?, this, get?_delete_ne m k k' h]

end GoMap

/-- `m'` is `m` with exactly the v3 attribute `attr` replaced by `new` (Go deletes the key when `new` is empty);
    every other v3 attribute, the other three attribute maps, the indices, the materials and the topology are those of `m` -/
def OnlyV3Changed (m m' : Mesh s) (attr : String) (new : Array (V3 s)) : Prop :=
  m'.v3Data.get? attr = (if new.size = 0 then none else some new) ∧
  (∀ k, k ≠ attr → m'.v3Data.get? k = m.v3Data.get? k) ∧
  m'.v4Data = m.v4Data ∧ m'.v2Data = m.v2Data ∧ m'.v1Data = m.v1Data ∧
  m'.indices = m.indices ∧ m'.materials = m.materials ∧ m'.topology = m.topology

theorem setFloat3Attribute_spec (m : Mesh s) (attr : String) (data : Array (V3 s)) :
    OnlyV3Changed m (setFloat3Attribute m attr data) attr data := by
  unfold OnlyV3Changed
  refine ⟨?_, ?_, rfl, rfl, rfl, rfl, rfl, rfl⟩
  · show GoMap.get? (if data.size = 0 then GoMap.delete (GoMap.set m.v3Data attr data) attr
        else GoMap.set m.v3Data attr data) attr = _
    by_cases h : data.size = 0
    · rw [if_pos h, if_pos h]; exact GoMap.get?_delete_self _ _
    · rw [if_neg h, if_neg h]; exact GoMap.get?_set_self _ _ _
  · intro k hk
    show GoMap.get? (if data.size = 0 then GoMap.delete (GoMap.set m.v3Data attr data) attr
        else GoMap.set m.v3Data attr data) k = _
    by_cases h : data.size = 0
    · rw [if_pos h, GoMap.get?_delete_ne _ _ _ hk, GoMap.get?_set_ne _ _ _ _ hk]
    · rw [if_neg h, GoMap.get?_set_ne _ _ _ _ hk]

/-- what every mesh-level transform does, stated once: rejected (Go: panic) iff the attribute is missing; otherwise the
    result differs from the input in exactly that attribute, which becomes the pointwise image under `g` -/
def MovesPointwise (m : Mesh s) (attr : String) (g : V3 s → V3 s) (r : Option (Mesh s)) : Prop :=
  match m.v3Data.get? attr with
  | none => r = none
  | some old => ∃ m', r = some m' ∧ OnlyV3Changed m m' attr (old.map g)

theorem modifyFloat3Attribute_spec (m : Mesh s) (attr : String) (g : V3 s → V3 s) :
    MovesPointwise m attr g (modifyFloat3Attribute m attr (fun _ v => g v)) := by
  unfold MovesPointwise modifyFloat3Attribute
  cases h : m.v3Data.get? attr with
  | none => rfl
  | some old =>
    refine ⟨_, rfl, ?_⟩
    rw [mapLoop_eq_map]
    exact setFloat3Attribute_spec m attr (old.map g)

/-- `RotateAttribute3D` moves the named attribute as `Quaternion.Rotate` moves points -/
theorem mesh_rotateAttr_pointwise (m : Mesh s) (attr : String) (q : quaternion.Quaternion s) :
    MovesPointwise m attr q.Rotate (rotateAttr m attr q) := modifyFloat3Attribute_spec m attr _

/-- `Mesh.Rotate` moves the positions as `Quaternion.Rotate` moves points -/
theorem mesh_rotate_pointwise (m : Mesh s) (q : quaternion.Quaternion s) :
    MovesPointwise m positionAttribute q.Rotate (rotate m q) := modifyFloat3Attribute_spec m _ _

/-- `TranslateAttribute3D` moves the named attribute by `v ↦ v + t` -/
theorem mesh_translateAttr_pointwise (m : Mesh s) (attr : String) (t : V3 s) :
    MovesPointwise m attr (fun v => v.Add t) (translateAttr m attr t) := modifyFloat3Attribute_spec m attr _

/-- `Mesh.Translate` moves the positions by `v ↦ v + t` -/
theorem mesh_translate_pointwise (m : Mesh s) (t : V3 s) :
    MovesPointwise m positionAttribute (fun v => v.Add t) (translate m t) := modifyFloat3Attribute_spec m _ _

/-- `Mesh.Scale` moves the positions by `v ↦ v ∘ amount` -/
theorem mesh_scale_pointwise (m : Mesh s) (a : V3 s) :
    MovesPointwise m positionAttribute (fun v => v.MultByVector a) (scale m a) := modifyFloat3Attribute_spec m _ _

/-- `ScaleAttribute3D` moves the attribute by `v ↦ o + (v - o) ∘ amount` -/
theorem mesh_scaleAttr_pointwise (m : Mesh s) (attr : String) (o a : V3 s) :
    MovesPointwise m attr (fun v => o.Add ((v.Sub o).MultByVector a)) (scaleAttr m attr o a) :=
  modifyFloat3Attribute_spec m attr _
/-- `Mesh.ApplyTRS` moves the positions as `TRS.Transform` moves points -/
theorem mesh_applyTRS_pointwise (m : Mesh s) (t : trs.TRS s) :
    MovesPointwise m positionAttribute t.Transform (applyTRS m t) := modifyFloat3Attribute_spec m _ _

/-- reading the result: vertex `i` of the changed attribute is `g` of vertex `i` of the old one -/
theorem movesPointwise_get {m : Mesh s} {attr : String} {g : V3 s → V3 s} {r : Option (Mesh s)}
    (h : MovesPointwise m attr g r) {old : Array (V3 s)} (ho : m.v3Data.get? attr = some old) (hne : old.size ≠ 0) :
    ∃ m' new, r = some m' ∧ m'.v3Data.get? attr = some new ∧ new.size = old.size ∧
      ∀ i (hi : i < old.size), new[i]? = some (g old[i]) := by
  unfold MovesPointwise at h
  rw [ho] at h
  obtain ⟨m', hr, hc, _⟩ := h
  refine ⟨m', old.map g, hr, ?_, by simp, fun i hi => by simp [hi]⟩
  simpa [hne] using hc

open C17 in
/-- `Mesh.Rotate` by a unit quaternion preserves the length of every position vector (via `quat_rotate_norm`) -/
theorem mesh_rotate_preserves_length (m : Mesh ℝ) (q : quaternion.Quaternion ℝ) (hq : normSq q = 1)
    (old : Array (V3 ℝ)) (ho : m.v3Data.get? positionAttribute = some old) (hne : old.size ≠ 0) :
    ∃ m' new, rotate m q = some m' ∧ m'.v3Data.get? positionAttribute = some new ∧ new.size = old.size ∧
      ∀ i (hi : i < old.size), ∃ w, new[i]? = some w ∧ w.Length = old[i].Length := by
  obtain ⟨m', new, hr, hg, hsz, hall⟩ := movesPointwise_get (mesh_rotate_pointwise m q) ho hne
  exact ⟨m', new, hr, hg, hsz, fun i hi => ⟨_, hall i hi, quat_rotate_norm q hq old[i]⟩⟩

open C17 in
/-- `Mesh.ApplyTRS(trs.New(p, r, sc))` sends every position `v` to `R(S∘v) + T` (via `trs_new`) -/
theorem mesh_applyTRS_is_RST (m : Mesh ℝ) (p sc : V3 ℝ) (r : quaternion.Quaternion ℝ)
    (old : Array (V3 ℝ)) (ho : m.v3Data.get? positionAttribute = some old) (hne : old.size ≠ 0) :
    ∃ m' new, applyTRS m (trs.New p r sc) = some m' ∧ m'.v3Data.get? positionAttribute = some new ∧
      new.size = old.size ∧ ∀ i (hi : i < old.size), new[i]? = some ((r.Rotate (sc.MultByVector old[i])).Add p) := by
  obtain ⟨m', new, hr, hg, hsz, hall⟩ := movesPointwise_get (mesh_applyTRS_pointwise m (trs.New p r sc)) ho hne
  exact ⟨m', new, hr, hg, hsz, fun i hi => by rw [hall i hi, trs_new]⟩

/-! non-vacuity: a mesh with two v3 attributes; rotating `Position` by the identity quaternion succeeds, `Normal` is
    still there; a mesh without `Position` is rejected -/
example : (rotate (⟨[], [("Position", #[⟨1, 2, 3⟩]), ("Normal", #[⟨0, 0, 1⟩])], [], [], #[0], [], 0⟩ : Mesh ℝ)
    ⟨⟨0, 0, 0⟩, 1⟩).isSome = true := by
  simp [rotate, rotateAttr, modifyFloat3Attribute, GoMap.get?, positionAttribute]
example : rotate (⟨[], [("Normal", #[⟨0, 0, 1⟩])], [], [], #[0], [], 0⟩ : Mesh ℝ) ⟨⟨0, 0, 0⟩, 1⟩ = none := by
  simp [rotate, rotateAttr, modifyFloat3Attribute, GoMap.get?, positionAttribute]

end C17Mesh
end PolyVerif
