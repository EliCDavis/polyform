/-
  C06 — scene level: extensions declared, node consistency, and the assembled `valid` predicate.
-/
import PolyVerif.Props.C06Carry
import PolyVerif.Props.C06Tables

namespace PolyVerif
namespace C06
open Gltf

structure XInv (w : W) : Prop where
  inst : ∀ n ∈ w.nodes, n.inst.isSome = true → "EXT_mesh_gpu_instancing" ∈ w.extUsed
  lightNodes : ∀ n ∈ w.nodes, n.light.isSome = true → "KHR_lights_punctual" ∈ w.extUsed
  lights : w.lights > 0 → "KHR_lights_punctual" ∈ w.extUsed
  matExts : ∀ g ∈ w.materials, ∀ e ∈ g.exts, e.id ∈ w.extUsed
  xform : ∀ g ∈ w.materials, ∀ t ∈ g.texInfos, t.xform.isSome = true → "KHR_texture_transform" ∈ w.extUsed
  required : ∀ e ∈ w.extRequired, e ∈ w.extUsed

def xPart (w : W) := (w.extUsed, w.extRequired, w.nodes, w.materials, w.lights)

theorem xinv_of_xPart {w w' : W} (h : XInv w) (e : xPart w' = xPart w) : XInv w' := by
  simp only [xPart, Prod.mk.injEq] at e
  obtain ⟨e1, e2, e3, e4, e5⟩ := e
  exact ⟨by rw [e3, e1]; exact h.inst, by rw [e3, e1]; exact h.lightNodes, by rw [e5, e1]; exact h.lights,
    by rw [e4, e1]; exact h.matExts, by rw [e4, e1]; exact h.xform, by rw [e2, e1]; exact h.required⟩

/-- only `extensionsUsed` grew (and `extensionsRequired` stays inside it) -/
theorem xinv_grow {w w' : W} (h : XInv w) (hsub : ∀ e ∈ w.extUsed, e ∈ w'.extUsed) (hreq : ∀ e ∈ w'.extRequired, e ∈ w'.extUsed)
    (e3 : w'.nodes = w.nodes) (e4 : w'.materials = w.materials) (e5 : w'.lights = w.lights) : XInv w' :=
  ⟨by rw [e3]; exact fun n hn hi => hsub _ (h.inst n hn hi), by rw [e3]; exact fun n hn hi => hsub _ (h.lightNodes n hn hi),
   by rw [e5]; exact fun hl => hsub _ (h.lights hl), by rw [e4]; exact fun g hg e he => hsub _ (h.matExts g hg e he),
   by rw [e4]; exact fun g hg t ht hx => hsub _ (h.xform g hg t ht hx), hreq⟩

theorem addTexture_xinv (w : W) (id : Nat) (t : PTexture) (hw : XInv w) :
    XInv (addTexture w id t).1
    ∧ ((addTexture w id t).2.xform.isSome = true → "KHR_texture_transform" ∈ (addTexture w id t).1.extUsed) := by
  have S := addTexture_spec w id t
  generalize addTexture w id t = r at S ⊢
  rw [S.xform]
  -- all that matters to `XInv` is what `texPrepare` declared
  refine ⟨xinv_grow hw S.grows.extUsed ?_ (congrArg W.nodes S.frame :) (congrArg W.materials S.frame :)
    (congrArg W.lights S.frame :), ?_⟩
  · rw [S.required, S.used]
    unfold texPrepare
    split
    · intro e he
      simp only at he ⊢
      split at he
      · rcases (mem_setInsert _ _ _).mp he with h | rfl
        · exact subset_setInsert _ _ _ (hw.required e h)
        · exact (mem_setInsert _ _ _).mpr (Or.inr rfl)
      · exact subset_setInsert _ _ _ (hw.required e he)
    · exact hw.required
  · rw [S.used]
    unfold texPrepare
    split
    · exact fun _ => (mem_setInsert _ _ _).mpr (Or.inr rfl)
    · rename_i hx'; intro h; rw [hx'] at h; cases h

/-- a returned texture-info with a transform has the transform extension declared, a registered material extension is
    declared -/
theorem xinv_texStep (th : Nat → Option PTexture) :
    TexStep th XInv (fun w _ ti => ti.xform.isSome = true → "KHR_texture_transform" ∈ w.extUsed) (fun w e => e ∈ w.extUsed) where
  qmono := fun g q hx => g.extUsed _ (q hx)
  umono := fun g u => g.extUsed _ u
  tex := fun {w id t} _ hw => addTexture_xinv w id t hw
  used := fun _ hw =>
    ⟨xinv_grow hw (subset_setInsert _ _) (fun x hx => subset_setInsert _ _ _ (hw.required x hx)) rfl rfl rfl,
     (mem_setInsert _ _ _).mpr (Or.inr rfl)⟩

theorem addMaterial_xinv (th : Nat → Option PTexture) (w : W) (m : PMaterial) (r : W × Nat)
    (h : addMaterial th w m = .ok r) (hw : XInv w) : XInv r.1 := by
  rcases addMaterial_ok h with ⟨_, _, _, _, rfl⟩ | ⟨_, r1, r2, r3, r4, r5, h1, h2, h3, h4, h5, _, _, rfl⟩
  · exact hw
  · obtain ⟨e1, a3, b3, c3, d3, e3⟩ := (xinv_texStep th).slots h1 h2 h3 h4 h5 hw
    refine ⟨e1.inst, e1.lightNodes, e1.lights, ?_, ?_, e1.required⟩
    · intro g hg e he
      simp only [List.mem_append, List.mem_singleton] at hg
      rcases hg with hg | rfl
      · exact e1.matExts g hg e he
      · obtain ⟨x, _, hid, _, hu, _⟩ := zip_mem_right c3 e he
        rw [hid]; exact hu
    · intro g hg t ht hxf
      simp only [List.mem_append, List.mem_singleton] at hg
      rcases hg with hg | rfl
      · exact e1.xform g hg t ht hxf
      · rcases mem_texInfos_build _ _ _ _ _ _ t ht with h | h | h | h | ⟨e, he, kt, hkt, rfl⟩
        · obtain ⟨_, _, q⟩ := a3.some h; exact q hxf
        · obtain ⟨_, _, q⟩ := b3.some h; exact q hxf
        · obtain ⟨_, _, q⟩ := d3.some h; exact q hxf
        · obtain ⟨_, _, q⟩ := e3.some h; exact q hxf
        · obtain ⟨_, _, _, _, _, hz⟩ := zip_mem_right c3 e he
          obtain ⟨_, _, _, q⟩ := zip_mem_right hz kt hkt
          exact q hxf

theorem addInstances_xinv (w : W) (inst : List (List Nat)) (hw : XInv w) :
    XInv (addInstances w inst).1
    ∧ ((addInstances w inst).2.isSome = true → "EXT_mesh_gpu_instancing" ∈ (addInstances w inst).1.extUsed) := by
  by_cases h : inst = []
  · subst h; exact ⟨hw, by simp [addInstances]⟩
  · rw [addInstances_eq w h]
    refine ⟨?_, fun _ => (mem_setInsert _ _ _).mpr (Or.inr rfl)⟩
    have h0 : XInv { w with extUsed := setInsert w.extUsed "EXT_mesh_gpu_instancing" } :=
      xinv_grow hw (subset_setInsert _ _) (fun x hx => subset_setInsert _ _ _ (hw.required x hx)) rfl rfl rfl
    exact xinv_of_xPart h0 rfl

theorem addModel_xinv (s : Scene) (w w' : W) (md : Model) (hw : XInv w) (h : addModel s w md = .ok w') : XInv w' := by
  obtain ⟨id, m, _, _, ⟨_, rfl⟩ | ⟨_, _, r, mi, hr, _, rfl⟩⟩ := addModel_ok h
  · exact hw
  · have h1 : XInv r.1 := by
      rcases addModelMaterial_ok hr with ⟨_, rfl⟩ | ⟨_, _, r', _, _, h', rfl⟩
      · exact hw
      · exact addMaterial_xinv _ _ _ _ h' hw
    have h2 : XInv (addMesh r.1 md.name id m r.2).1 := xinv_of_xPart h1 (congrArg xPart (noMesh_addMesh r.1 md.name id m r.2) :)
    obtain ⟨h3, hi3⟩ := addInstances_xinv (addMesh r.1 md.name id m r.2).1 md.instances h2
    refine ⟨?_, ?_, h3.lights, h3.matExts, h3.xform, h3.required⟩
    · intro n hn hi
      simp only [withNode, List.mem_append, List.mem_singleton] at hn
      rcases hn with hn | rfl
      · exact h3.inst n hn hi
      · exact hi3 hi
    · intro n hn hl
      simp only [withNode, List.mem_append, List.mem_singleton] at hn
      rcases hn with hn | rfl
      · exact h3.lightNodes n hn hl
      · simp [modelNode] at hl

theorem addLight_xinv (w : W) (l : List Nat) (hw : XInv w) : XInv (addLight w l) := by
  have hsub := (grows_addLight w l).extUsed
  have hk : "KHR_lights_punctual" ∈ (addLight w l).extUsed := (mem_setInsert _ _ _).mpr (Or.inr rfl)
  refine ⟨?_, ?_, fun _ => hk, fun g hg e he => hsub _ (hw.matExts g hg e he),
    fun g hg t ht hx => hsub _ (hw.xform g hg t ht hx), fun e he => hsub _ (hw.required e he)⟩
  · intro n hn hi
    simp only [addLight, List.mem_append, List.mem_singleton] at hn
    rcases hn with hn | rfl
    · exact hsub _ (hw.inst n hn hi)
    · simp at hi
  · intro n hn _
    exact hk

theorem scene_xinv (s : Scene) (w : W) (h : writeScene s = .ok w) : XInv w :=
  writeScene_ind ⟨by simp, by simp, by simp, by simp, by simp, by simp⟩ (fun w w' md _ hw h => addModel_xinv s w w' md hw h)
    addLight_xinv h

theorem mem_ite_singleton {c : Bool} {k e : String} (h : e ∈ if c = true then [k] else []) : c = true ∧ e = k := by
  cases c <;> simp_all

/-- EXTENSIONS DECLARED, for every scene the writer accepts: every extension the document uses — EXT_mesh_gpu_instancing
    on a node, KHR_lights_punctual (lights or light nodes), each material extension, KHR_texture_transform on any texture
    reference — is listed in `extensionsUsed`, and `extensionsRequired ⊆ extensionsUsed` -/
theorem gltf_extensions_declared (s : Scene) (w : W) (h : writeScene s = .ok w) :
    w.doc.extsSeen.all (fun e => w.doc.extUsed.contains e) = true
    ∧ w.doc.extRequired.all (fun e => w.doc.extUsed.contains e) = true := by
  have hx := scene_xinv s w h
  simp only [List.all_eq_true, List.contains_iff_mem]
  refine ⟨?_, hx.required⟩
  intro e he
  unfold Doc.extsSeen at he
  simp only [W.doc, List.mem_append, List.mem_flatMap, List.mem_map] at he
  rcases he with ((he | he) | he) | he
  · obtain ⟨hany, rfl⟩ := mem_ite_singleton he
    simp only [List.any_eq_true] at hany
    obtain ⟨n, hn, hi⟩ := hany
    exact hx.inst n hn hi
  · obtain ⟨hany, rfl⟩ := mem_ite_singleton he
    simp only [Bool.or_eq_true, List.any_eq_true] at hany
    rcases hany with hl | ⟨n, hn, hi⟩
    · exact hx.lights (of_decide_eq_true hl)
    · exact hx.lightNodes n hn hi
  · obtain ⟨g, hg, x, hxe, rfl⟩ := he
    exact hx.matExts g hg x hxe
  · obtain ⟨hany, rfl⟩ := mem_ite_singleton he
    simp only [List.any_eq_true] at hany
    obtain ⟨g, hg, t, ht, hxf⟩ := hany
    exact hx.xform g hg t ht hxf

theorem scene_nodes_ok (s : Scene) (w : W) (hs : SceneOK s) (h : writeScene s = .ok w) :
    w.nodes.all (nodeOK w.accessors w.meshes.length w.lights) = true := by
  simp only [List.all_eq_true]
  intro n hn
  obtain ⟨r1, r2, r3⟩ := (gltf_refs_in_range s w h).1.nodes n hn
  unfold nodeOK
  simp only [Bool.and_eq_true]
  refine ⟨⟨?_, ?_⟩, ?_⟩
  · cases hm : n.mesh with
    | none => rfl
    | some m => simpa using r1 m hm
  · rcases scene_nodes_structure s w hs h n hn with ⟨md, hc⟩ | ⟨l, hl⟩
    · rcases hc.2.2.2.2.2 with ⟨_, hnone⟩ | ⟨_, a0, a1, a2, hi, c0, c1, c2⟩
      · rw [hnone]
      · rw [hi]
        obtain ⟨x0, hx0, k0, d0, n0, _⟩ := c0
        obtain ⟨x1, hx1, k1, d1, n1, _⟩ := c1
        obtain ⟨x2, hx2, k2, d2, n2, _⟩ := c2
        simp [instOK, hx0, hx1, hx2, k0, k1, k2, d0, d1, d2, n0, n1, n2]
    · rw [hl.2.2]
  · cases hm : n.light with
    | none => rfl
    | some l => simpa using r3 l hm

/-- STRUCTURAL VALIDITY.  For every well-formed scene the writer accepts, the whole predicate `valid` — everything the
    property demands of a document except component alignment — holds of the written document and buffer:
    buffer length, bufferView ranges, accessor ranges and bounds, every primitive (attribute counts, index values),
    every node, scene, material, texture reference, extensions declared -/
theorem gltf_scene_valid (s : Scene) (w : W) (hs : SceneOK s) (h : writeScene s = .ok w) : valid w.doc w.buf = true := by
  have h1 := scene_valid_low s w hs h
  have h2 := scene_prims_ok s w hs h
  have h3 := scene_nodes_ok s w hs h
  obtain ⟨h4, h5, h6⟩ := scene_refs_ok s w h
  obtain ⟨h7, h8⟩ := gltf_extensions_declared s w h
  unfold validLow at h1
  simp only [Bool.and_eq_true] at h1
  unfold valid
  simp only [Bool.and_eq_true]
  exact ⟨⟨⟨⟨⟨⟨⟨⟨⟨⟨h1.1.1.1, h1.1.1.2⟩, h1.1.2⟩, h1.2⟩, h2⟩, h3⟩, h4⟩, h5⟩, h6⟩, h7⟩, h8⟩

end C06
end PolyVerif
