/-
  C19 — what the combinators of math/sdf/operators.go and translate.go do to EXACTNESS.

  `Props/C19.lean`: `Union`/`Intersect`/`Subtract` are negative exactly on the union / intersection / difference and
  preserve the 1-Lipschitz bound; `Translate` moves the field.  This file adds the exact-distance side:

  * a union (min) of 1-Lipschitz fields that are exact OUTSIDE is exact outside (`union_exactOutside`);
  * an intersection (max) of 1-Lipschitz fields that are exact INSIDE is exact inside (`intersect_exactInside`);
  * `Subtract a b` is exact inside when `a` is exact inside and `b` exact outside (`subtract_exactInside`);
  * `Translate` preserves exactness at corresponding points (`translate_exactAt`);
  * and the converse really fails: inside the union of two overlapping unit balls the field is only a BOUND —
    at the midpoint every zero-set point is farther than `|f p|` (`union_not_exact_inside`, a closed witness).
  * `VarryingThicknessLine` (union of rounded cones) with radii ≥ 0 is exact outside (`varLine_exactOutside`).

  `Subtract`/`Translate` are the regenerated closures (Gen/Sdf.lean); `Union`/`Intersect` the hand model
  `SdfOps` (variadic; corresponded bit for bit by the c19 stream).
-/
import PolyVerif.Props.C19Capsule

namespace PolyVerif
namespace C19
open Gen Gen.sdf Gen.geometry

/-- `|f p|` is attained as the distance from `p` to a zero-set point of `f` -/
def ExactAt (f : Field) (p : P3) : Prop := ∃ s : P3, f s = 0 ∧ p.Distance s = |f p|
def ExactOutside (f : Field) : Prop := ∀ p, 0 ≤ f p → ExactAt f p
def ExactInside (f : Field) : Prop := ∀ p, f p ≤ 0 → ExactAt f p

theorem min_exactOutside {f g : Field} (hf : Lipschitz1 f) (hg : Lipschitz1 g)
    (ef : ExactOutside f) (eg : ExactOutside g) : ExactOutside (fun q => min (f q) (g q)) := by
  intro p hp
  have hfp : 0 ≤ f p := le_trans hp (min_le_left _ _)
  have hgp : 0 ≤ g p := le_trans hp (min_le_right _ _)
  rcases le_total (f p) (g p) with h | h
  · obtain ⟨s, hs, hd⟩ := ef p hfp
    refine ⟨s, ?_, ?_⟩
    · show min (f s) (g s) = 0
      have := (abs_le.mp (hg p s)).2
      rw [hd, abs_of_nonneg hfp] at this
      rw [hs]; exact min_eq_left (by linarith)
    · show p.Distance s = |min (f p) (g p)|
      rw [min_eq_left h]; exact hd
  · obtain ⟨s, hs, hd⟩ := eg p hgp
    refine ⟨s, ?_, ?_⟩
    · show min (f s) (g s) = 0
      have := (abs_le.mp (hf p s)).2
      rw [hd, abs_of_nonneg hgp] at this
      rw [hs]; exact min_eq_right (by linarith)
    · show p.Distance s = |min (f p) (g p)|
      rw [min_eq_right h]; exact hd

theorem exactAt_neg {f : Field} {p : P3} : ExactAt (fun q => -(f q)) p ↔ ExactAt f p := by
  simp only [ExactAt, neg_eq_zero, abs_neg]

theorem neg_exactInside {b : Field} (eb : ExactOutside b) : ExactInside (fun q => -(b q)) :=
  fun p hp => exactAt_neg.mpr (eb p (neg_nonpos.mp hp))

theorem neg_exactOutside {b : Field} (eb : ExactInside b) : ExactOutside (fun q => -(b q)) :=
  fun p hp => exactAt_neg.mpr (eb p (neg_nonneg.mp hp))

/-- `max f g = −min (−f) (−g)` -/
theorem max_exactInside {f g : Field} (hf : Lipschitz1 f) (hg : Lipschitz1 g)
    (ef : ExactInside f) (eg : ExactInside g) : ExactInside (fun q => max (f q) (g q)) := by
  have := neg_exactInside (min_exactOutside (lipschitz_neg hf) (lipschitz_neg hg) (neg_exactOutside ef)
    (neg_exactOutside eg))
  simpa only [min_neg_neg, neg_neg] using this

/-- `Subtract a b = max a (−b)`: exact inside the difference when `a` is exact inside and `b` is exact outside -/
theorem subtract_exactInside {a b : Field} (ha : Lipschitz1 a) (hb : Lipschitz1 b)
    (ea : ExactInside a) (eb : ExactOutside b) : ExactInside (Subtract a b) :=
  max_exactInside ha (lipschitz_neg hb) ea (neg_exactInside eb)

/-- `Union` of any number (≥ 1) of 1-Lipschitz fields, each an exact distance outside its shape, is an exact distance
    outside the union -/
theorem union_exactOutside (fs : List Field) (u : Field) (h : SdfOps.Union fs = some u)
    (hl : ∀ f ∈ fs, Lipschitz1 f) (he : ∀ f ∈ fs, ExactOutside f) : ExactOutside u := by
  obtain ⟨f, gs, rfl, rfl⟩ := union_some h
  exact (foldl_closed (C := fun f => Lipschitz1 f ∧ ExactOutside f) (op := min)
    (fun hf hg => ⟨lipschitz_min hf.1 hg.1, min_exactOutside hf.1 hg.1 hf.2 hg.2⟩) gs
    (fun g hg => ⟨hl g (List.mem_cons_of_mem _ hg), he g (List.mem_cons_of_mem _ hg)⟩) f
    ⟨hl f List.mem_cons_self, he f List.mem_cons_self⟩).2

/-- `Intersect` of any number (≥ 1) of 1-Lipschitz fields, each an exact distance inside its shape, is an exact
    distance inside the intersection -/
theorem intersect_exactInside (fs : List Field) (u : Field) (h : SdfOps.Intersect fs = some u)
    (hl : ∀ f ∈ fs, Lipschitz1 f) (he : ∀ f ∈ fs, ExactInside f) : ExactInside u := by
  obtain ⟨f, gs, rfl, rfl⟩ := intersect_some h
  exact (foldl_closed (C := fun f => Lipschitz1 f ∧ ExactInside f) (op := max)
    (fun hf hg => ⟨lipschitz_max hf.1 hg.1, max_exactInside hf.1 hg.1 hf.2 hg.2⟩) gs
    (fun g hg => ⟨hl g (List.mem_cons_of_mem _ hg), he g (List.mem_cons_of_mem _ hg)⟩) f
    ⟨hl f List.mem_cons_self, he f List.mem_cons_self⟩).2

/-- `Translate` carries exactness along: exact at `p − t` for `f` means exact at `p` for the translated field -/
theorem translate_exactAt (f : Field) (t p : P3) (h : ExactAt f (p.Sub t)) : ExactAt (Translate f t) p := by
  obtain ⟨s, hs, hd⟩ := h
  refine ⟨s.Add t, by rw [translate_moves]; exact hs, ?_⟩
  rw [translate_spec, ← hd]
  simp only [V3.Distance, V3.DistanceSquared, V3.Add, V3.Sub, RS.sqrt_eq]
  congr 1; ring

theorem translate_exactOutside (f : Field) (t : P3) (h : ExactOutside f) : ExactOutside (Translate f t) :=
  fun p hp => translate_exactAt f t p (h _ hp)

theorem translate_exactInside (f : Field) (t : P3) (h : ExactInside f) : ExactInside (Translate f t) :=
  fun p hp => translate_exactAt f t p (h _ hp)

theorem sphere_exactOutside (c : P3) (r : ℝ) (hr : 0 ≤ r) : ExactOutside (Sphere c r) := fun p _ =>
  (sphere_exact c r hr p).2

theorem sphere_exactInside (c : P3) (r : ℝ) (hr : 0 ≤ r) : ExactInside (Sphere c r) := fun p _ =>
  (sphere_exact c r hr p).2

theorem roundedCone_exactOutside (a b : P3) (r1 r2 : ℝ) (hr1 : 0 ≤ r1) (hr2 : 0 ≤ r2) :
    ExactOutside (RoundedCone a b r1 r2) := fun p _ => (roundedCone_exact_all a b r1 r2 hr1 hr2 p).2

theorem roundedCone_exactInside (a b : P3) (r1 r2 : ℝ) : ExactInside (RoundedCone a b r1 r2) := fun p hp => by
  rcases hp.lt_or_eq with h | h
  · obtain ⟨s, hs, hd⟩ := roundedCone_exact_attained_inside_all a b r1 r2 p h
    exact ⟨s, hs, by rw [hd, abs_of_neg h]⟩
  · exact ⟨p, h, by rw [h, abs_zero]; exact V3.distance_eq_zero.mpr rfl⟩

/-- `VarryingThicknessLine` with radii ≥ 0: outside the shape the field IS the Euclidean distance to the zero set -/
theorem varLine_exactOutside (pts : List (P3 × ℝ)) (hr : ∀ pr ∈ pts, 0 ≤ pr.2) (u : Field)
    (h : SdfOps.Union (varLineCones pts) = some u) : ExactOutside u := by
  refine union_exactOutside _ u h ?_ ?_
  · intro f hf
    obtain ⟨se, -, rfl⟩ := List.mem_map.mp hf
    exact roundedCone_lipschitz_all _ _ _ _
  · intro f hf
    obtain ⟨se, hse, rfl⟩ := List.mem_map.mp hf
    have h1 := (List.of_mem_zip hse).1
    have h2 := List.mem_of_mem_tail (List.of_mem_zip hse).2
    exact roundedCone_exactOutside _ _ _ _ (hr _ h1) (hr _ h2)

/-! ### inside a union the field is only a bound -/

/-- two overlapping unit balls centred `(0,0,0)` and `(1,0,0)`; at the midpoint `p = (1/2,0,0)` the union field is
    `−1/2` but every zero-set point is at distance `≥ √3/2 > 1/2` (squared distance ≥ 3/4): inside a union the
    field is a lower bound of the distance, not the distance -/
theorem union_not_exact_inside :
    ∃ u : Field, SdfOps.Union [Sphere (⟨0, 0, 0⟩ : P3) 1, Sphere ⟨1, 0, 0⟩ 1] = some u ∧
      u ⟨1/2, 0, 0⟩ = -(1/2) ∧ ∀ s : P3, u s = 0 → (3 : ℝ) / 4 ≤ (⟨1/2, 0, 0⟩ : P3).DistanceSquared s := by
  refine ⟨_, rfl, ?_, ?_⟩
  · show min (Sphere (⟨0, 0, 0⟩ : P3) 1 ⟨1/2, 0, 0⟩) (Sphere (⟨1, 0, 0⟩ : P3) 1 ⟨1/2, 0, 0⟩) = -(1/2)
    simp only [sphere_eq, V3.distance_on_x]; norm_num
  · intro s hs
    have hs' : min (Sphere (⟨0, 0, 0⟩ : P3) 1 s) (Sphere (⟨1, 0, 0⟩ : P3) 1 s) = 0 := hs
    have k1 := (sphere_nonneg_iff _ zero_le_one s).mp (le_of_eq_of_le hs'.symm (min_le_left _ _))
    have k2 := (sphere_nonneg_iff _ zero_le_one s).mp (le_of_eq_of_le hs'.symm (min_le_right _ _))
    simp only [V3.DistanceSquared] at k1 k2 ⊢
    linarith

/-- …so the exact-distance clause cannot hold there: `|u p| = 1/2` is strictly below the distance to every zero-set point -/
theorem union_not_exactAt_inside :
    ¬ ExactAt (fun q => min (Sphere (⟨0, 0, 0⟩ : P3) 1 q) (Sphere (⟨1, 0, 0⟩ : P3) 1 q)) ⟨1/2, 0, 0⟩ := by
  obtain ⟨u, hu, hval, hfar⟩ := union_not_exact_inside
  have hu' : u = fun q => min (Sphere (⟨0, 0, 0⟩ : P3) 1 q) (Sphere (⟨1, 0, 0⟩ : P3) 1 q) := by
    simp only [SdfOps.Union, Option.some.injEq] at hu; exact hu.symm
  subst hu'
  rintro ⟨s, hs, hd⟩
  have h34 := hfar s hs
  rw [hval, abs_neg, abs_of_pos (by norm_num : (0 : ℝ) < 1/2), V3.distance_eq_sqrt] at hd
  have : Real.sqrt ((⟨1/2, 0, 0⟩ : P3).DistanceSquared s) ^ 2 = (⟨1/2, 0, 0⟩ : P3).DistanceSquared s :=
    Real.sq_sqrt (by linarith)
  rw [hd] at this
  norm_num at this
  linarith


/-! ### outside an intersection the field is only a bound -/

/-- two balls of radius 5 centred `(∓3,0,0)` (their intersection is a lens with tip `(0,4,0)`); at `p = (0, 35/4, 0)` the
    intersection field is `17/4` but every zero-set point is at distance `≥ 19/4`: outside an intersection the field is
    a lower bound of the distance, not the distance -/
theorem intersect_not_exact_outside :
    ∃ u : Field, SdfOps.Intersect [Sphere (⟨-3, 0, 0⟩ : P3) 5, Sphere ⟨3, 0, 0⟩ 5] = some u ∧
      u ⟨0, 35/4, 0⟩ = 17/4 ∧ ∀ s : P3, u s = 0 → ((19 : ℝ) / 4) ^ 2 ≤ (⟨0, 35/4, 0⟩ : P3).DistanceSquared s := by
  refine ⟨_, rfl, ?_, ?_⟩
  · show max (Sphere (⟨-3, 0, 0⟩ : P3) 5 ⟨0, 35/4, 0⟩) (Sphere (⟨3, 0, 0⟩ : P3) 5 ⟨0, 35/4, 0⟩) = 17/4
    simp only [sphere_eq, V3.Distance, V3.DistanceSquared, RS.sqrt_eq]
    rw [show ((-3 : ℝ) - 0) * (-3 - 0) + (0 - 35/4) * (0 - 35/4) + (0 - 0) * (0 - 0) = (37/4) ^ 2 by norm_num,
      show ((3 : ℝ) - 0) * (3 - 0) + (0 - 35/4) * (0 - 35/4) + (0 - 0) * (0 - 0) = (37/4) ^ 2 by norm_num,
      Real.sqrt_sq (by norm_num)]
    norm_num
  · intro s hs
    have hs' : max (Sphere (⟨-3, 0, 0⟩ : P3) 5 s) (Sphere (⟨3, 0, 0⟩ : P3) 5 s) = 0 := hs
    have k1 := (sphere_nonpos_iff _ (by norm_num) s).mp (le_of_le_of_eq (le_max_left _ _) hs')
    have k2 := (sphere_nonpos_iff _ (by norm_num) s).mp (le_of_le_of_eq (le_max_right _ _) hs')
    simp only [V3.DistanceSquared] at k1 k2 ⊢
    -- adding the two: `|s|² ≤ 16`, so `s.y ≤ 4`, and `(s.y − 35/4)² − (19/4)² = (s.y − 27/2)(s.y − 4)`
    have hy : s.y ≤ 4 :=
      (abs_le_of_sq_le_sq' (by linarith [sq_nonneg s.x, sq_nonneg s.z] : s.y ^ 2 ≤ 4 ^ 2) (by norm_num)).2
    linarith [sq_nonneg s.x, sq_nonneg s.z,
      mul_nonneg_of_nonpos_of_nonpos (by linarith : s.y - 27 / 2 ≤ 0) (by linarith : s.y - 4 ≤ 0)]

/-! ### non-vacuity -/

example : ExactOutside (Sphere (⟨0, 0, 0⟩ : P3) 1) := sphere_exactOutside _ _ (by norm_num)
example : ∀ pr ∈ [((⟨0, 0, 0⟩ : P3), (1 : ℝ)), (⟨3, 0, 0⟩, 2), (⟨3, 4, 0⟩, 0)], 0 ≤ pr.2 := by
  intro pr h; simp at h; rcases h with rfl | rfl | rfl <;> norm_num

end C19
end PolyVerif
