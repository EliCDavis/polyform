/-
  C07 — the byte layout of the STL model IS the layout the source declares (engine F tie, regenerated on every run).

  `PolyVerif/Gen/StlLayout.lean` is regenerated by `./check C07` from /repo/formats/stl/binary.go, read.go and write.go
  (go/facts mode c07.layout): the header array length, the field lists of `Vec` and `Triangle` in source order (what
  `encoding/binary` serialises, field by field, without padding), and the `binary.Read` / `binary.Write` / `out.Write`
  calls of `Read` / `Write` with their byte order and targets.  Every C07 theorem is stated about
  `PolyVerif/Model/Stl.lean`; the theorems below prove its record encoder `encTri` equal to the interpretation of the
  regenerated field lists (for every triangle), its record size and header size equal to the sizes they imply, and pin the
  step sequences `encodeRaw` / `decodeRaw` transcribe (80-byte header, uint32 count, the records; all little endian).
  A reordered, added, removed or re-typed field, a changed header length or byte order breaks a named theorem before any
  sample runs.  (Core Lean only.)
-/
import PolyVerif.Model.Stl
import PolyVerif.Gen.StlLayout

namespace PolyVerif
namespace C07
open Stl
open PolyVerif.Gen

/-- `encoding/binary` size of a Go scalar type (the ones the STL structs use) -/
def scalarSize (ty : String) : Option Nat :=
  if ty = "float32" then some 4 else if ty = "uint16" then some 2 else none

/-- serialised size of the scalar fields of `Vec` -/
def vecSize : List (String × String) → Option Nat
  | [] => some 0
  | (_, ty) :: rest => do
      let s ← scalarSize ty
      let r ← vecSize rest
      pure (s + r)

/-- serialised size of a field list; a field of struct type `Vec` has the size of the `Vec` field list `vec` -/
def fieldsSize (vec : List (String × String)) : List (String × String) → Option Nat
  | [] => some 0
  | (_, ty) :: rest => do
      let s ← (if ty = "Vec" then vecSize vec else scalarSize ty)
      let r ← fieldsSize vec rest
      pure (s + r)

/-- the component of a model vector a `Vec` field name selects -/
def vecComp (v : P3 W32) (f : String) : Option W32 :=
  if f = "X" then some v.x else if f = "Y" then some v.y else if f = "Z" then some v.z else none

/-- `encoding/binary` on a `Vec`: its float32 fields in declaration order, little endian -/
def encVecBy : List (String × String) → P3 W32 → Option (List Byte)
  | [], _ => some []
  | (f, ty) :: rest, v => do
      let w ← (if ty = "float32" then vecComp v f else none)
      let r ← encVecBy rest v
      pure (le32 w ++ r)

/-- `encoding/binary` on a `Triangle`: its fields in declaration order -/
def encTriBy (vec : List (String × String)) : List (String × String) → Tri → Option (List Byte)
  | [], _ => some []
  | (f, ty) :: rest, t => do
      let b ← (if ty = "Vec" then
                (if f = "Normal" then encVecBy vec t.n else if f = "Vertex1" then encVecBy vec t.v1
                 else if f = "Vertex2" then encVecBy vec t.v2 else if f = "Vertex3" then encVecBy vec t.v3 else none)
               else if ty = "uint16" ∧ f = "Attribute" then some (le16 t.attr) else none)
      let r ← encTriBy vec rest t
      pure (b ++ r)

/-- the model's record encoder is `encoding/binary` applied to the `Triangle` struct as DECLARED in binary.go -/
theorem encTri_from_source (t : Tri) :
    encTriBy StlLayout.vecFields StlLayout.triangleFields t = some (encTri t) := by
  simp [encTriBy, encVecBy, vecComp, StlLayout.vecFields, StlLayout.triangleFields, encTri, encP3]

/-- the declared structs serialise to 50 bytes per record and the header array is 80 bytes: the constants of the size law -/
theorem record_size_from_source :
    fieldsSize StlLayout.vecFields StlLayout.triangleFields = some 50 ∧ StlLayout.headerBytes = 80 ∧
    ∀ t : Tri, (encTri t).length = 50 := by
  refine ⟨by decide, by decide, ?_⟩
  intro t
  simp [encTri, encP3, le32, le16]

/-- `Read` = header, uint32 count, `count` records; `Write` = header bytes, uint32(len), the records; all little endian —
    the sequence `decodeRaw` / `encodeRaw` transcribe -/
theorem steps_from_source :
    StlLayout.readSteps =
      ["binary.Read binary.LittleEndian header : new(Header)",
       "binary.Read binary.LittleEndian &triCount : var uint32",
       "binary.Read binary.LittleEndian &tris : make([]Triangle, triCount)"] ∧
    StlLayout.writeSteps =
      ["out.Write bin.Header[:]",
       "binary.Write binary.LittleEndian uint32(len(bin.Triangles))",
       "binary.Write binary.LittleEndian bin.Triangles"] := ⟨rfl, rfl⟩

/-- every read of `stl.Read` (header, count, records) returns its error: a file that ends early is rejected at the read that
    runs out of bytes, never completed with zero values (the reader model of C14 rejects every strict prefix on exactly this
    ground) -/
theorem read_errors_from_source :
    StlLayout.readErrors = ["header: error returned", "&triCount: error returned", "&tris: error returned"] := rfl

/-- `WriteMesh` gathers corner k of triangle i through `Tri(i).PkVec3Attr(Position)`, narrows it to float32 and stores it in
    `Vertexk` component by component; `ReadMesh` makes three fresh vertices per record in record order (positions from
    `Vertex1..3`, identity indices `3i, 3i+1, 3i+2`, one normal for the three corners) — the corner order the model's
    `buildTris` / `readMesh` transcribe -/
theorem corner_gather_from_source :
    StlLayout.writeGather =
      ["tri := m.Tri(i)",
       "v1 := tri.P1Vec3Attr(modeling.PositionAttribute).ToFloat32()",
       "v2 := tri.P2Vec3Attr(modeling.PositionAttribute).ToFloat32()",
       "v3 := tri.P3Vec3Attr(modeling.PositionAttribute).ToFloat32()",
       "tris[i] = Triangle{ Vertex1: Vec{ X: v1.X(), Y: v1.Y(), Z: v1.Z(), }, Vertex2: Vec{ X: v2.X(), Y: v2.Y(), Z: v2.Z(), }, Vertex3: Vec{ X: v3.X(), Y: v3.Y(), Z: v3.Z(), }, }"] ∧
    StlLayout.readGather =
      ["start := i * 3",
       "indices[start] = start", "indices[start+1] = start + 1", "indices[start+2] = start + 2",
       "position[start] = tri.Vertex1.Float64()", "position[start+1] = tri.Vertex2.Float64()",
       "position[start+2] = tri.Vertex3.Float64()",
       "var normal vector3.Float64",
       "normals[start] = normal", "normals[start+1] = normal", "normals[start+2] = normal"] := ⟨rfl, rfl⟩

example : (encTri ⟨⟨1, 2, 3⟩, ⟨4, 5, 6⟩, ⟨7, 8, 9⟩, ⟨10, 11, 12⟩, 0x0102⟩).drop 48 = [2, 1] := by decide

end C07
end PolyVerif
