/-
  C06 — scene level: the texture / image / sampler tables hold no duplicates and show the scene's textures; the material a
  model references shows that model's material (`matCarried`).
-/
import PolyVerif.Props.C06Dedup
import PolyVerif.Props.C06Equal
import PolyVerif.Props.C06Tables
import PolyVerif.Props.C06Zip

namespace PolyVerif
namespace C06
open Gltf

theorem nodupB_snoc {α} [BEq α] [LawfulBEq α] (l : List α) (a : α) (h : nodupB l = true) (ha : ∀ x ∈ l, x ≠ a) :
    nodupB (l ++ [a]) = true := by
  induction l with
  | nil => simp [nodupB]
  | cons x r ih =>
    simp only [nodupB, Bool.and_eq_true, Bool.not_eq_true', List.cons_append] at h ⊢
    refine ⟨?_, ih h.2 (fun y hy => ha y (by simp [hy]))⟩
    have hx : x ≠ a := ha x (by simp)
    have hc : r.contains x = false := h.1
    simp only [List.contains_eq_mem, List.mem_append, List.mem_singleton, decide_eq_false_iff_not, not_or] at hc ⊢
    exact ⟨by simpa using hc, hx⟩

theorem FoundOrAppended.nodup {α} [BEq α] [LawfulBEq α] {l l' : List α} {a : α} {i : Nat} (h : FoundOrAppended l a l' i)
    (hl : nodupB l = true) : nodupB l' = true := by
  rcases h.2 with e | ⟨hne, e⟩ <;> rw [e]
  · exact hl
  · exact nodupB_snoc l a hl hne

theorem SamplerAt.nodup {l l' : List Sampler} {o : Option Sampler} {r : Option Nat} (h : SamplerAt l o l' r)
    (hl : nodupB l = true) : nodupB l' = true := by
  unfold SamplerAt at h
  split at h
  · rw [h]; exact hl
  · exact h.nodup hl
  · cases h

/-- texture `k` of the tables shows `t` (image URI and sampler; the transform lives on the texture-info) -/
def TexBase (w : W) (t : PTexture) (k : Nat) : Prop :=
  ∃ gt, w.textures[k]? = some gt ∧ (∃ i, gt.source = some i ∧ w.images[i]? = some t.uri)
    ∧ (match t.sampler, gt.sampler with
       | none, none => True
       | some s, some i => w.samplers[i]? = some s
       | _, _ => False)

theorem texCarried_of_base (w : W) (t : PTexture) (k : Nat) (h : TexBase w t k) :
    texCarried w.doc t { index := k, xform := t.xform } = true := by
  obtain ⟨gt, h1, ⟨i, h2, h3⟩, h4⟩ := h
  unfold texCarried
  have h1' : w.doc.textures[k]? = some gt := h1
  have h3' : w.doc.images[i]? = some t.uri := h3
  simp only [beq_self_eq_true, Bool.true_and, h1', h2, h3']
  cases hs : t.sampler <;> cases hg : gt.sampler <;> simp_all [W.doc]

/-- the three tables are only appended to -/
def TGrow (w w' : W) : Prop :=
  ∃ a b c, w'.textures = w.textures ++ a ∧ w'.images = w.images ++ b ∧ w'.samplers = w.samplers ++ c

theorem Grows.tgrow {w w' : W} (g : Grows w w') : TGrow w w' := by
  obtain ⟨a, ha⟩ := g.textures; obtain ⟨b, hb⟩ := g.images; obtain ⟨c, hc⟩ := g.samplers
  exact ⟨a, b, c, ha.symm, hb.symm, hc.symm⟩

theorem texBase_mono {w w' : W} {t : PTexture} {k : Nat} (h : TexBase w t k) (g : TGrow w w') : TexBase w' t k := by
  obtain ⟨gt, h1, ⟨i, h2, h3⟩, h4⟩ := h
  obtain ⟨a, b, c, e1, e2, e3⟩ := g
  refine ⟨gt, by rw [e1]; exact getElem?_grow a h1, ⟨i, h2, by rw [e2]; exact getElem?_grow b h3⟩, ?_⟩
  cases hs : t.sampler <;> cases hg : gt.sampler <;> simp only [hs, hg] at h4 ⊢
  rw [e3]; exact getElem?_grow c h4

structure TData (th : Nat → Option PTexture) (w : W) : Prop where
  imgNodup : nodupB w.images = true
  smpNodup : nodupB w.samplers = true
  texNodup : nodupB w.textures = true
  texIdx : ∀ e ∈ w.texIdx, ∀ t, th e.1 = some t → TexBase w t e.2

theorem tdata_of_texPart {th : Nat → Option PTexture} {w w' : W} (h : TData th w) (e : texPart w' = texPart w) : TData th w' := by
  simp only [texPart, Prod.mk.injEq] at e
  obtain ⟨e1, e2, e3, e4, _⟩ := e
  refine ⟨by rw [e2]; exact h.imgNodup, by rw [e3]; exact h.smpNodup, by rw [e1]; exact h.texNodup, ?_⟩
  intro x hx t ht
  rw [e4] at hx
  exact texBase_mono (h.texIdx x hx t ht) ⟨[], [], [], by simp [e1], by simp [e2], by simp [e3]⟩

theorem texCarried_iff (w : W) (t : PTexture) (ti : TexInfo) :
    texCarried w.doc t ti = true ↔ ti.xform = t.xform ∧ TexBase w t ti.index := by
  constructor
  · intro h
    unfold texCarried at h
    simp only [Bool.and_eq_true, beq_iff_eq] at h
    obtain ⟨hx, h⟩ := h
    refine ⟨hx, ?_⟩
    split at h
    · cases h
    · rename_i gt hgt
      simp only [Bool.and_eq_true] at h
      obtain ⟨h1, h2⟩ := h
      refine ⟨gt, hgt, ?_, ?_⟩
      · split at h1
        · rename_i i hi; exact ⟨i, hi, by simpa [W.doc] using h1⟩
        · cases h1
      · cases hs : t.sampler <;> cases hg : gt.sampler <;> simp_all [W.doc]
  · rintro ⟨hx, hb⟩
    have := texCarried_of_base w t ti.index hb
    rw [← hx] at this
    exact this

/-- `AddTexture` on heap texture `id`: the tables keep having no duplicates and showing what they index, only grow, and
    the returned texture-info SHOWS the texture: its transform, and through `textures` → `images` / `samplers` its URI and
    its sampler -/
theorem addTexture_data (th : Nat → Option PTexture) (w : W) (id : Nat) (t : PTexture) (hw : TData th w) (hid : th id = some t) :
    TData th (addTexture w id t).1 ∧ TGrow w (addTexture w id t).1
    ∧ texCarried (addTexture w id t).1.doc t (addTexture w id t).2 = true := by
  have S := addTexture_spec w id t
  generalize addTexture w id t = r at S ⊢
  have g := S.grows.tgrow
  have carried : TexBase r.1 t r.2.index → texCarried r.1.doc t r.2 = true := fun hb => (texCarried_iff r.1 t r.2).mpr ⟨S.xform, hb⟩
  rcases S.tables with ⟨hi, e2, e3, e1, e4⟩ | ⟨_, img, smp, hI, hS, hT, hX⟩
  · exact ⟨⟨by rw [e2]; exact hw.imgNodup, by rw [e3]; exact hw.smpNodup, by rw [e1]; exact hw.texNodup,
        fun x hx t' ht' => texBase_mono (hw.texIdx x (e4 ▸ hx) t' ht') g⟩, g,
      carried (texBase_mono (hw.texIdx _ (lookup_mem _ _ _ hi) t hid) g)⟩
  · -- the texture at the returned index was looked up as (sampler just looked up, image just looked up)
    have hbase : TexBase r.1 t r.2.index := by
      refine ⟨_, hT.1, ⟨img, rfl, hI.1⟩, ?_⟩
      cases hs : t.sampler <;> cases hp : smp <;> simp only [SamplerAt, hs, hp] at hS ⊢
      exact hS.1
    refine ⟨⟨hI.nodup hw.imgNodup, hS.nodup hw.smpNodup, hT.nodup hw.texNodup, fun x hx t' ht' => ?_⟩, g, carried hbase⟩
    rcases hX with e | e <;> rw [e] at hx
    · exact texBase_mono (hw.texIdx x hx t' ht') g
    · rcases mem_mapInsert _ _ _ _ hx with h | h
      · exact texBase_mono (hw.texIdx x h t' ht') g
      · subst h
        rw [hid] at ht'; injection ht' with ht'; subst ht'
        exact hbase

def OptShown (s : Scene) (w : W) : Option Nat → Option TexInfo → Prop
  | none, none => True
  | some id, some ti => ∃ t, s.texHeap[id]? = some t ∧ ti.xform = t.xform ∧ TexBase w t ti.index
  | _, _ => False

theorem optCarried_iff (s : Scene) (w : W) (o : Option Nat) (r : Option TexInfo) :
    optCarried s w.doc o r = true ↔ OptShown s w o r := by
  cases o <;> cases r <;> simp only [optCarried, OptShown]
  · simp
  · simp
  · rename_i id ti
    cases ht : s.texHeap[id]? with
    | none => simp
    | some t => simp [texCarried_iff]

theorem optShown_mono {s : Scene} {w w' : W} {o : Option Nat} {r : Option TexInfo} (h : OptShown s w o r) (g : TGrow w w') :
    OptShown s w' o r := by
  cases o <;> cases r <;> simp only [OptShown] at h ⊢
  obtain ⟨t, h1, h2, h3⟩ := h
  exact ⟨t, h1, h2, texBase_mono h3 g⟩

def ScaledShown (s : Scene) (w : W) : Option (Nat × Option Nat) → Option (TexInfo × Option Nat) → Prop
  | none, none => True
  | some x, some y => x.2 = y.2 ∧ OptShown s w (some x.1) (some y.1)
  | _, _ => False

theorem scaledCarried_iff (s : Scene) (w : W) (o : Option (Nat × Option Nat)) (r : Option (TexInfo × Option Nat)) :
    scaledCarried s w.doc o r = true ↔ ScaledShown s w o r := by
  cases o <;> cases r <;> simp only [scaledCarried, ScaledShown]
  · simp
  · simp
  · rename_i x y
    obtain ⟨id, sc⟩ := x
    obtain ⟨ti, gsc⟩ := y
    simp [optCarried_iff]

def KtShown (s : Scene) (w : W) (kt : String × Nat) (gkt : String × TexInfo) : Prop :=
  kt.1 = gkt.1 ∧ OptShown s w (some kt.2) (some gkt.2)

def ExtShown (s : Scene) (w : W) (e : PMatExt) (ge : GMatExt) : Prop :=
  ge.id = e.id ∧ ge.payload = e.payload ∧ Zip (KtShown s w) e.texs ge.texs

/-- glTF material `g` shows scene material `m`: every scalar field as written by `AddMaterial`, every texture reference
    resolving to the referenced heap texture -/
structure MatShown (s : Scene) (w : W) (m : PMaterial) (g : GMaterial) : Prop where
  name : g.name = m.name
  alphaMode : g.alphaMode = m.alphaMode
  alphaCutoff : g.alphaCutoff = m.alphaCutoff
  bcf : g.baseColorFactor = (match (if m.hasPbr then m.baseColor else none) with
                             | some c => c.map colorFactor
                             | none => [one64, one64, one64, one64])
  metallic : g.metallic = (if m.hasPbr then m.metallic else none)
  roughness : g.roughness = (if m.hasPbr then m.roughness else none)
  bct : OptShown s w (if m.hasPbr then m.baseColorTex else none) g.baseColorTex
  mrt : OptShown s w (if m.hasPbr then m.metalRoughTex else none) g.metalRoughTex
  emissive : g.emissive = m.emissive.map (fun c => (c.take 3).map colorFactor)
  normal : ScaledShown s w m.normalTex g.normalTex
  occl : ScaledShown s w m.occlusionTex g.occlusionTex
  exts : Zip (ExtShown s w) m.exts g.exts

theorem matShown_mono {s : Scene} {w w' : W} {m : PMaterial} {g : GMaterial} (h : MatShown s w m g) (gr : TGrow w w') :
    MatShown s w' m g := by
  refine ⟨h.name, h.alphaMode, h.alphaCutoff, h.bcf, h.metallic, h.roughness, optShown_mono h.bct gr, optShown_mono h.mrt gr,
    h.emissive, ?_, ?_, ?_⟩
  · have := h.normal
    cases hn : m.normalTex <;> cases hg : g.normalTex <;> simp only [hn, hg, ScaledShown] at this ⊢
    exact ⟨this.1, optShown_mono this.2 gr⟩
  · have := h.occl
    cases hn : m.occlusionTex <;> cases hg : g.occlusionTex <;> simp only [hn, hg, ScaledShown] at this ⊢
    exact ⟨this.1, optShown_mono this.2 gr⟩
  · exact zip_imp (fun e ge he => ⟨he.1, he.2.1, zip_imp (fun kt gkt hk => ⟨hk.1, optShown_mono hk.2 gr⟩) he.2.2⟩) h.exts

theorem matCarried_of_shown (s : Scene) (w : W) (m : PMaterial) (g : GMaterial) (h : MatShown s w m g) :
    matCarried s w.doc m g = true := by
  unfold matCarried
  simp only [Bool.and_eq_true, beq_iff_eq, optCarried_iff, scaledCarried_iff]
  refine ⟨⟨⟨⟨⟨⟨⟨⟨⟨⟨⟨h.name, h.alphaMode⟩, h.alphaCutoff⟩, h.bcf⟩, h.metallic⟩, h.roughness⟩, h.bct⟩, h.mrt⟩, h.emissive⟩, h.normal⟩, h.occl⟩, ?_⟩
  have hz := zip_mergeSort (R := ExtShown s w) (fun e => e.id) (fun ge => ge.id) (fun e ge he => he.1.symm) h.exts
  refine allZip_of_zip ?_ hz
  intro e ge he
  simp only [Bool.and_eq_true, beq_iff_eq]
  refine ⟨⟨he.1, he.2.1⟩, ?_⟩
  have hz2 := zip_mergeSort (R := KtShown s w) (fun kt => kt.1) (fun gkt => gkt.1) (fun kt gkt hk => hk.1) he.2.2
  refine allZip_of_zip ?_ hz2
  intro kt gkt hk
  simp only [Bool.and_eq_true, beq_iff_eq, optCarried_iff]
  exact ⟨hk.1, hk.2⟩

/-- the texture path keeps the tables duplicate-free and showing what they index, and every returned texture-info shows the
    heap texture it was asked for -/
theorem tdata_texStep (s : Scene) :
    TexStep (thOf s) (TData (thOf s)) (fun w id ti => OptShown s w (some id) (some ti)) (fun _ _ => True) where
  qmono := fun g q => optShown_mono q g.tgrow
  umono := fun _ _ => trivial
  tex := fun {w id t} ht hw =>
    ⟨(addTexture_data (thOf s) w id t hw ht).1, t, ht, (texCarried_iff _ _ _).mp (addTexture_data (thOf s) w id t hw ht).2.2⟩
  used := fun _ hw => ⟨tdata_of_texPart hw rfl, trivial⟩

theorem optShown_of {s : Scene} {w : W} {o : Option Nat} {r2 : Option TexInfo}
    (h : OptQ (fun id ti => OptShown s w (some id) (some ti)) o r2) : OptShown s w o r2 := by
  rcases h with ⟨rfl, rfl⟩ | ⟨id, ti, rfl, rfl, q⟩
  · trivial
  · exact q

/-- the tracker shows what it tracks: entry `(m, k)` comes from the scene's material heap and material `k` shows `m` -/
structure MInv (s : Scene) (w : W) : Prop where
  tdata : TData (thOf s) w
  shown : ∀ e ∈ w.matIdx, ∃ g, w.materials[e.2]? = some g ∧ MatShown s w e.1 g
  heap : ∀ e ∈ w.matIdx, e.1 ∈ s.matHeap

theorem buildMaterial_shown (s : Scene) (w : W) (m : PMaterial) (bct mrt : Option TexInfo) (exts : List GMatExt)
    (nt ot : Option TexInfo)
    (h1 : OptShown s w (if m.hasPbr then m.baseColorTex else none) bct)
    (h2 : OptShown s w (if m.hasPbr then m.metalRoughTex else none) mrt)
    (h3 : Zip (ExtShown s w) m.exts exts)
    (h4 : OptShown s w (m.normalTex.map (·.1)) nt) (h5 : OptShown s w (m.occlusionTex.map (·.1)) ot) :
    MatShown s w m (buildMaterial m bct mrt exts nt ot) := by
  refine ⟨rfl, rfl, rfl, ?_, rfl, rfl, h1, h2, rfl, ?_, ?_, h3⟩
  · simp only [buildMaterial]
    cases m.hasPbr <;> simp <;> cases m.baseColor <;> rfl
  · simp only [buildMaterial]
    cases hn : m.normalTex with
    | none => cases nt <;> simp_all [ScaledShown, OptShown]
    | some x => cases nt with
      | none => simp [hn, OptShown] at h4
      | some ti => obtain ⟨id, sc⟩ := x; simp only [hn, Option.map_some] at h4; exact ⟨rfl, h4⟩
  · simp only [buildMaterial]
    cases hn : m.occlusionTex with
    | none => cases ot <;> simp_all [ScaledShown, OptShown]
    | some x => cases ot with
      | none => simp [hn, OptShown] at h5
      | some ti => obtain ⟨id, sc⟩ := x; simp only [hn, Option.map_some] at h5; exact ⟨rfl, h5⟩

/-- textures that `PolyformTexture.equal` identifies have the same sampler, name / extras included (the equality compares
    the samplers with `Sampler.equal`) -/
theorem samplerCongr {x y : PTexture} (hk : texKey x = texKey y) : x.sampler = y.sampler := by
  simp only [texKey, Prod.mk.injEq] at hk
  exact hk.2.2.2

/-- meaning of `eqKey`: extension values of the scene's materials that compare `==` in Go (same id, same key) are the same
    value (same payload, same texture pointers) -/
def ExtCongr (s : Scene) : Prop :=
  ∀ a ∈ s.matHeap, ∀ b ∈ s.matHeap, ∀ e ∈ a.exts, ∀ e' ∈ b.exts, extKey e = extKey e' → e = e'

theorem list_eq_of_keys (l1 l2 : List PMatExt) (h : l1.map extKey = l2.map extKey)
    (hc : ∀ e ∈ l1, ∀ e' ∈ l2, extKey e = extKey e' → e = e') : l1 = l2 := by
  induction l1 generalizing l2 with
  | nil => cases l2 with
    | nil => rfl
    | cons _ _ => simp at h
  | cons a r ih =>
    cases l2 with
    | nil => simp at h
    | cons b r2 =>
      simp only [List.map_cons, List.cons.injEq] at h
      rw [hc a (by simp) b (by simp) h.1, ih r2 h.2 (fun e he e' he' => hc e (by simp [he]) e' (by simp [he']))]

theorem optShown_congr {s : Scene} {w : W} {x y : Option Nat} {ti : Option TexInfo}
    (hr : OptRel (TexRel (thOf s)) x y) (h : OptShown s w x ti) : OptShown s w y ti := by
  cases x <;> cases y <;> simp only [OptRel] at hr
  · exact h
  · rename_i a b
    cases ti with
    | none => exact h
    | some ti =>
      rcases hr with rfl | ⟨tx, ty, hx, hy, hk⟩
      · exact h
      · obtain ⟨t, h1, h2, gt, g1, ⟨i, g2, g3⟩, g4⟩ := h
        have : t = tx := by simp only [thOf] at hx; rw [hx] at h1; injection h1 with h1; exact h1.symm
        subst this
        have hsamp : t.sampler = ty.sampler := samplerCongr hk
        simp only [texKey, Prod.mk.injEq] at hk
        refine ⟨ty, hy, by rw [h2]; exact hk.2.1, gt, g1, ⟨i, g2, by rw [← hk.1]; exact g3⟩, ?_⟩
        rw [← hsamp]; exact g4

theorem scaledShown_congr {s : Scene} {w : W} {x y : Option (Nat × Option Nat)}
    {g : Option (TexInfo × Option Nat)} (hr : OptRel (ScaledRel (thOf s)) x y) (h : ScaledShown s w x g) : ScaledShown s w y g := by
  cases x <;> cases y <;> simp only [OptRel] at hr
  · exact h
  · cases g with
    | none => exact h
    | some gg =>
      simp only [ScaledShown] at h ⊢
      exact ⟨hr.2.symm.trans h.1, optShown_congr (x := some _) (y := some _) hr.1 h.2⟩

theorem matShown_congr {s : Scene} {w : W} {a b : PMaterial} {g : GMaterial} (he : a.exts = b.exts)
    (h : MEq (thOf s) a b) (hm : MatShown s w a g) : MatShown s w b g := by
  have hp := h.hasPbr
  refine ⟨hm.name.trans h.name, hm.alphaMode.trans h.alphaMode, hm.alphaCutoff.trans h.alphaCutoff, ?_, ?_, ?_, ?_, ?_,
    by rw [← h.emissive]; exact hm.emissive, scaledShown_congr h.normal hm.normal, scaledShown_congr h.occlusion hm.occl,
    by rw [← he]; exact hm.exts⟩
  · rw [hm.bcf, ← hp]
    cases hpa : a.hasPbr with
    | false => rfl
    | true => rw [(h.pbr hpa).2.2.1]
  · rw [hm.metallic, ← hp]
    cases hpa : a.hasPbr with
    | false => rfl
    | true => simp [(h.pbr hpa).1]
  · rw [hm.roughness, ← hp]
    cases hpa : a.hasPbr with
    | false => rfl
    | true => simp [(h.pbr hpa).2.1]
  · have := hm.bct
    rw [← hp]
    cases hpa : a.hasPbr with
    | false => simpa [hpa] using this
    | true =>
      simp only [hpa, if_true] at this ⊢
      exact optShown_congr (h.pbr hpa).2.2.2.1 this
  · have := hm.mrt
    rw [← hp]
    cases hpa : a.hasPbr with
    | false => simpa [hpa] using this
    | true =>
      simp only [hpa, if_true] at this ⊢
      exact optShown_congr (h.pbr hpa).2.2.2.2 this

/-- `AddMaterial` on a material of the scene: the tracker keeps showing what it tracks, the tables only grow, and the
    returned index points at a written material that SHOWS the argument — also when an `equal` tracked material was reused -/
theorem addMaterial_shown (s : Scene) (w : W) (m : PMaterial) (r : W × Nat) (h : addMaterial (thOf s) w m = .ok r)
    (hw : MInv s w) (hec : ExtCongr s) (hm : m ∈ s.matHeap) :
    MInv s r.1 ∧ TGrow w r.1 ∧ (∃ ms, r.1.materials = w.materials ++ ms)
    ∧ ∃ g, r.1.materials[r.2]? = some g ∧ MatShown s r.1 m g := by
  rcases addMaterial_ok h with ⟨k, e, hk, h1, rfl⟩ | ⟨_, r1, r2, r3, r4, r5, h1, h2, h3, h4, h5, k, _, rfl⟩
  · obtain ⟨e', h1', h2, _, _⟩ := findIdx_some _ _ _ _ hk
    simp only [Nat.sub_zero] at h1'
    have : e' = e := by rw [h1] at h1'; injection h1' with h1'; exact h1'.symm
    subst this
    have hmem := List.mem_of_getElem? h1
    obtain ⟨g, hg, hshown⟩ := hw.shown e' hmem
    have heq := (pmaterial_equal_iff (thOf s) e'.1 m).mp h2
    have hexts : e'.1.exts = m.exts := list_eq_of_keys _ _ heq.exts (hec e'.1 (hw.heap e' hmem) m hm)
    exact ⟨hw, (Grows.refl w).tgrow, ⟨[], by simp⟩, g, hg, matShown_congr hexts heq hshown⟩
  · obtain ⟨e1, a3, b3, c3, d3, e3⟩ := (tdata_texStep s).slots h1 h2 h3 h4 h5 hw.tdata
    have km : r5.1.matIdx = w.matIdx := (congrArg W.matIdx k :)
    have kmat : r5.1.materials = w.materials := (congrArg W.materials k :)
    have G := (grows_addMaterial h).tgrow
    have gfin : TGrow r5.1 { r5.1 with materials := r5.1.materials ++ [buildMaterial m r1.2 r2.2 r3.2 r4.2 r5.2],
                                       matIdx := r5.1.matIdx ++ [(m, r5.1.materials.length)] } :=
      (Grows.refl r5.1).tgrow
    have hbuilt := matShown_mono (buildMaterial_shown s r5.1 m _ _ _ _ _ (optShown_of a3) (optShown_of b3)
      (zip_imp (fun _ _ h => ⟨h.1, h.2.1, h.2.2.2⟩) c3) (optShown_of d3) (optShown_of e3)) gfin
    refine ⟨⟨⟨e1.imgNodup, e1.smpNodup, e1.texNodup, fun x hx t ht => texBase_mono (e1.texIdx x hx t ht) gfin⟩, ?_, ?_⟩, G,
      ⟨[buildMaterial m r1.2 r2.2 r3.2 r4.2 r5.2], by simp only [kmat]⟩, _, by simp, hbuilt⟩
    · intro e he
      simp only [km, List.mem_append, List.mem_singleton] at he
      rcases he with he | rfl
      · obtain ⟨g, hg, hs'⟩ := hw.shown e he
        refine ⟨g, ?_, matShown_mono hs' G⟩
        simp only [kmat]; exact getElem?_grow _ hg
      · exact ⟨_, by simp, hbuilt⟩
    · intro e he
      simp only [km, List.mem_append, List.mem_singleton] at he
      rcases he with he | rfl
      · exact hw.heap e he
      · exact hm

end C06
end PolyVerif
