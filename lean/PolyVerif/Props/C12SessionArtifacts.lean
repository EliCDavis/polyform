/-
  C12 — artifacts of sessions that load a saved graph into the RUNNING application.

  `Props/C12Session.session_after_last_load` + `load_saved`: such a session ends in `run E g' post`, `g'` the
  (well-formed) graph the last load left.  Here the simulation of `Lemmas/GraphSim` is started from such a graph instead
  of the empty one: right after `ApplyAppSchema` the runtime consists of the freshly built node objects of the file
  (`absGraph`, numbered by list position: nothing processed yet — every object is new, whatever the application held
  before), followed by the never-reused slots of the nodes the rest of the session will create.
-/
import PolyVerif.Props.C12Artifacts
import PolyVerif.Props.C12Session

namespace PolyVerif
namespace C12
open GraphIO

variable {V J W : Type}

/-- slot table right after a load: the node at list position `i` sits in slot `k + i` -/
def slotsFrom : List (GraphIO.Node V) → Nat → List (Id × Nat)
  | [], _ => []
  | n :: r, k => (n.id, k) :: slotsFrom r (k + 1)

/-- the session state right after a load that left the graph `g` -/
def Sim.ofGraph (g : Graph V) : Sim V := { g := g, slots := slotsFrom g.nodes 0, next := g.nodes.length }

/-- the runtime right after a load: the new node objects of the file, then the slots of the nodes still to be created -/
def loadedRt (P : Procs V W) (E : Env V J) (g : Graph V) (tys : List TyName) : Nodes.Graph W := fun k =>
  if k < g.nodes.length then absGraph P E g k else preGraph P E tys (k - g.nodes.length)

theorem aget_slotsFrom (l : List (GraphIO.Node V)) (k : Nat) (id : Id) (h : ∃ n ∈ l, n.id = id) :
    aget (slotsFrom l k) id = some (k + l.findIdx (fun n => n.id = id)) := by
  induction l generalizing k with
  | nil => obtain ⟨n, hn, _⟩ := h; cases hn
  | cons a r ih =>
    simp only [slotsFrom, aget, List.findIdx_cons]
    by_cases ha : a.id = id
    · simp [ha]
    · have hr : ∃ n ∈ r, n.id = id := by
        obtain ⟨n, hn, hid⟩ := h
        rcases List.mem_cons.mp hn with rfl | hn'
        · exact absurd hid ha
        · exact ⟨n, hn', hid⟩
      simp only [ha, if_false, decide_false, cond_false, ih (k + 1) hr]
      congr 1; omega

theorem ofGraph_sigma (g : Graph V) {id : Id} (h : ∃ n ∈ g.nodes, n.id = id) : (Sim.ofGraph g).σ id = idxOf g id := by
  simp [Sim.σ, Sim.ofGraph, aget_slotsFrom g.nodes 0 id h, idxOf]

theorem idxOf_lt (g : Graph V) {id : Id} (h : ∃ n ∈ g.nodes, n.id = id) : idxOf g id < g.nodes.length := by
  obtain ⟨n, hn, hid⟩ := h
  exact List.findIdx_lt_length_of_exists ⟨n, hn, by simp [hid]⟩

/-- the simulation invariant holds right after a load -/
theorem simInv_loaded (P : Procs V W) (E : Env V J) {g : Graph V} (hw : WF E g) (tys : List TyName) :
    SimInv P E (Sim.ofGraph g) (loadedRt P E g tys) tys := by
  have hσ : ∀ n ∈ g.nodes, (Sim.ofGraph g).σ n.id = idxOf g n.id := fun n hn => ofGraph_sigma g ⟨n, hn, rfl⟩
  refine ⟨hw, ?_, ?_, ?_, ?_⟩
  · intro n hn
    have hlt := idxOf_lt g ⟨n, hn, rfl⟩
    have hcong : absNode P E (Sim.ofGraph g).σ n = absNode P E (idxOf g) n := by
      apply absNode_congr
      intro T hT r hr
      exact ofGraph_sigma g (ref_live (hw.nodes n hn) hT hr)
    rw [hσ n hn, hcong]
    simp only [loadedRt, hlt, if_true]
    rw [absGraph_at hw.nodup hn]
    exact looseEq.refl _
  · intro n hn
    refine ⟨idxOf g n.id, ?_, idxOf_lt g ⟨n, hn, rfl⟩⟩
    simpa [Sim.ofGraph, idxOf] using aget_slotsFrom g.nodes 0 n.id ⟨n, hn, rfl⟩
  · intro n hn m hm h
    rw [hσ n hn, hσ m hm] at h
    have h1 := findIdx_of_mem hw.nodup hn
    have h2 := findIdx_of_mem hw.nodup hm
    simp only [idxOf] at h
    rw [h, h2] at h1
    exact (congrArg (·.id) (Option.some.inj h1)).symm
  · intro j
    have : ¬ (g.nodes.length + j < g.nodes.length) := by omega
    simp only [Sim.ofGraph, loadedRt, this, if_false, Nat.add_sub_cancel_left, preGraph]
    exact looseEq.refl _

/-- a ranking of the loaded graph ranks the runtime right after the load (the slots of future nodes are unwired) -/
theorem loadedRt_ranked (P : Procs V W) (E : Env V J) (g : Graph V) (tys : List TyName) {F : Nat} {rank : Nat → Nat}
    (hr : Nodes.Ranked rank F (absGraph P E g)) : Nodes.Ranked rank F (loadedRt P E g tys) := by
  have hfresh := preGraph_fresh P E tys
  refine ⟨hr.1, ?_⟩
  intro i s hs d hd
  simp only [loadedRt] at hs
  split at hs
  · exact hr.2 i s hs d hd
  · rw [(hfresh _ s hs).1] at hd; cases hd

/-- the runtime right after a load is a fresh one: acyclic if the loaded graph is, nothing processed -/
theorem loadedRt_init (P : Procs V W) (E : Env V J) (g : Graph V) (tys : List TyName) {F : Nat}
    (hac : Nodes.Acyclic F (absGraph P E g)) : Nodes.Init F (loadedRt P E g tys) := by
  obtain ⟨rank, hr⟩ := hac
  refine ⟨⟨rank, loadedRt_ranked P E g tys hr⟩, ?_⟩
  intro i s hs
  simp only [loadedRt] at hs
  split at hs
  · exact absGraph_unprocessed P E g i s hs
  · exact (preGraph_fresh P E tys _ s hs).2

/-- **`edit_simulation` for the part of a session that follows a load.**  `g` = the well-formed graph the load left
    (`load_saved`: the saved graph itself).  For every continuation `evs` (editing operations, failing ones included, and
    reads of arbitrary nodes): the runtime reached from the freshly loaded one by the C11 calls of the continuation HOLDS
    the edited graph `run E g (editsOf evs)` under the session's slot numbering; that graph is well-formed. -/
theorem edit_simulation_after_load {E : Env V J} (hE : EnvOK E) (P : Procs V W) {F : Nat} {g : Graph V} (hw : WF E g)
    (evs : List (Ev J)) :
    let r := simRun P E (Sim.ofGraph g) evs
    Holds P E r.1.σ (Nodes.run F (loadedRt P E g (createdTys P E (Sim.ofGraph g) evs)) r.2).1 r.1.g ∧
      r.1.g = run E g (editsOf evs) ∧ WF E r.1.g ∧
      (∀ n ∈ r.1.g.nodes, ∀ m ∈ r.1.g.nodes, r.1.σ n.id = r.1.σ m.id → n.id = m.id) := by
  exact simulation_of_inv hE evs (simInv_loaded P E hw _)

/-- the edited graph of "the continuation `evs` after the load" IS the state of the whole session with that load
    (`Props/C12Session`): whatever preceded the load (`pre`: edits, earlier loads) enters only through `loaded` -/
theorem session_graph_after_load (P : Procs V W) (E : Env V J) (g0 : Graph V) (pre : List (SEv J)) (s : Schema J)
    (evs : List (Ev J)) :
    (simRun P E (Sim.ofGraph (loaded E (runEv E g0 pre) s)) evs).1.g =
      runEv E g0 (pre ++ SEv.load s :: edits (editsOf evs)) := by
  rw [session_after_last_load]
  exact session_graph P E _ evs

/-- **Artifacts after a mid-session load.**  The application loaded a graph `g` (well-formed, acyclic — `hac`), the
    session went on (`evs`: edits and reads; it stays acyclic — `hv`); the final graph is saved and loaded into a FRESH
    application: reading any node there returns exactly what reading it returns in the application that was loaded into,
    edited and read. -/
theorem reload_same_artifacts_after_load {E : Env V J} (hE : EnvOK E) {cmp : Name → Name → Bool} (P : Procs V W)
    {F : Nat} {g : Graph V} (hw : WF E g) (hac : Nodes.Acyclic F (absGraph P E g)) (evs : List (Ev J))
    (hv : Nodes.Valid F (loadedRt P E g (createdTys P E (Sim.ofGraph g) evs)) (simRun P E (Sim.ofGraph g) evs).2)
    (hc : ∀ n ∈ (simRun P E (Sim.ofGraph g) evs).1.g.nodes, ∀ T, E.types n.ty = some T → CmpOK cmp T n)
    (hf : FilePayloadLast E (simRun P E (Sim.ofGraph g) evs).1.g)
    (n : GraphIO.Node V) (hn : n ∈ (simRun P E (Sim.ofGraph g) evs).1.g.nodes) :
    ∃ g', decode E Hdr.empty (encode E cmp (simRun P E (Sim.ofGraph g) evs).1.g) = .ok g' ∧
      Nodes.val (Nodes.step F (absGraph P E g') (.read (idxOf g' n.id))).1 (idxOf g' n.id) =
      Nodes.val (Nodes.step F (Nodes.run F (loadedRt P E g (createdTys P E (Sim.ofGraph g) evs))
          (simRun P E (Sim.ofGraph g) evs).2).1 (.read ((simRun P E (Sim.ofGraph g) evs).1.σ n.id))).1
        ((simRun P E (Sim.ofGraph g) evs).1.σ n.id) := by
  obtain ⟨hH, _, hw', _⟩ := edit_simulation_after_load hE P (F := F) hw evs
  obtain ⟨g', hd, _, h1, h2⟩ :=
    reload_same_artifacts hE hw' hc hf P _ (loadedRt_init P E g _ hac) _ hv _ hH n hn
  exact ⟨g', hd, h1.trans h2.symm⟩

/-! ### an instance: the running application loads `aGraph` (title 5, parts 6, 7), the preview is read, a part is
      changed, a node is created, the preview is read again -/

theorem aEnv_types_aux {ty : TyName} {T : NodeType} (hT : aEnv.types ty = some T) :
    (ty = "P" ∧ T = { out := 1, scal := [], arrs := [], param := some .value }) ∨
    (ty = "T" ∧ T = { out := artTy, scal := [("Title".toList, 1)], arrs := [("Parts".toList, 1)], param := none }) := by
  simp only [aEnv] at hT
  split at hT
  · rename_i h; cases hT; exact Or.inl ⟨h, rfl⟩
  · split at hT
    · rename_i h; cases hT; exact Or.inr ⟨h, rfl⟩
    · cases hT

theorem aEnv_ok : EnvOK aEnv := by
  refine ⟨?_, ?_, ?_, ?_, ?_, ?_, ?_, ?_⟩
  · intro ty T hT; rcases aEnv_types_aux hT with ⟨_, rfl⟩ | ⟨_, rfl⟩ <;> simp
  · intro ty T hT; rcases aEnv_types_aux hT with ⟨_, rfl⟩ | ⟨_, rfl⟩ <;> simp
  · intro ty T hT; rcases aEnv_types_aux hT with ⟨_, rfl⟩ | ⟨_, rfl⟩ <;> simp <;> decide
  · intro ty T hT; rcases aEnv_types_aux hT with ⟨_, rfl⟩ | ⟨_, rfl⟩ <;> simp <;> decide
  · intro ty T hT; rcases aEnv_types_aux hT with ⟨_, rfl⟩ | ⟨_, rfl⟩ <;> simp
  · intro ty j v h; simp only [aEnv, Option.some.injEq] at h; subst h; rfl
  · intro ty v h; rfl
  · intro ty T hT _; rfl

def bSession : List (Ev Nat) :=
  [.read "Node-0", .edit (.setValue "Node-2" 9), .edit (.create "P"), .edit (.connect "Node-0" "Out" "Node-0" "Nope".toList),
   .read "Node-0"]

theorem bSession_ops : (simRun aProcs aEnv (Sim.ofGraph aGraph) bSession).2 = [.read 0, .setParam 2 [9], .read 0] := by
  rfl

/-- `hw`, `hac`, `hv`, `hf` of `reload_same_artifacts_after_load` hold for this continuation of the loaded `aGraph`
    (`hE` is `aEnv_ok`; `hc` follows from `natural_order_ok`), the new node
    gets id `Node-4` in slot 4, and the fresh application reads title and parts in order with the changed part -/
example :
    WF aEnv aGraph ∧ Nodes.Acyclic 2 (absGraph aProcs aEnv aGraph) ∧
    Nodes.Valid 2 (loadedRt aProcs aEnv aGraph (createdTys aProcs aEnv (Sim.ofGraph aGraph) bSession))
      (simRun aProcs aEnv (Sim.ofGraph aGraph) bSession).2 ∧
    FilePayloadLast aEnv (simRun aProcs aEnv (Sim.ofGraph aGraph) bSession).1.g ∧
    (simRun aProcs aEnv (Sim.ofGraph aGraph) bSession).1.g.nodes.map (·.id) = ["Node-0", "Node-1", "Node-2", "Node-3", "Node-4"] ∧
    (simRun aProcs aEnv (Sim.ofGraph aGraph) bSession).1.σ "Node-4" = 4 ∧
    Nodes.val (Nodes.step 2 (absGraph aProcs aEnv (simRun aProcs aEnv (Sim.ofGraph aGraph) bSession).1.g) (.read 0)).1 0 = [5, 9, 7] := by
  refine ⟨edit_history_wf aEnv_ok _ _, ⟨aRank, aGraph_ranked⟩, ?_, by decide +kernel⟩
  rw [bSession_ops]
  apply C11.valid_fixed_numbering aRank _ (loadedRt_ranked _ _ _ _ aGraph_ranked)
  intro op hop
  simp only [List.mem_cons, List.not_mem_nil, or_false] at hop
  rcases hop with rfl | rfl | rfl <;> simp [Nodes.opRanked]

end C12
end PolyVerif
